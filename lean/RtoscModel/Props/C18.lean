/-
  C18 — Path utilities: '..' collapsing, lookup by address, child search.
  Property theorems only; helper lemmas live in
  Proofs/Path{Collapse,Apropos,Hash,Dir,EnumExt,EnumCanon,Search}.lean, the models and
  specifications in RtoscModel/Path/{Collapse,Apropos,Enum,EnumNum,Search}.lean; the hypotheses that are
  not part of a model (`SearchHyp`, `UnambDir`, `dirAddrOf`, `PlainChar`, `TailOK`, `Digits`) are defined in
  RtoscModel/Path/C18Spec.lean.

  Reading of the statement.
  * Collapsing: an absolute path is `render comps` (every component preceded by `/`;
    components are NUL- and slash-free, possibly empty — a trailing `/` is an empty last
    component).  The specification `cancel` is the left-to-right stack pass.  The memory
    block is `render comps ++ 0 :: tail` (terminator and whatever follows it).
  * Lookup: `walk` enumerates the addresses a port-tree walk reports for a tree of
    literal names, each with the index path of the reported port; `apropos` returns an
    index path.  `TreeOK` says that, in every table, no name is a prefix of another
    (names taken up to `:`), names are literal and non-empty, and ports with a sub-table
    end in `/`.  `Unamb` is the weaker condition that only constrains the rows met on the
    way to one port.
  * Child search: `searchRows` is the table addressed by the location (root, sub-table of
    the port found by `apropos`, or that port alone); `childrenSpec` lists its rows whose
    names start with the prefix, each with its metadata bytes.  `std::sort` is any
    `Sorter` satisfying its contract (`Sorter.Correct`), so the statements hold for every
    admissible result of the unstable sort.  The model contains the repairs
    fixes/C18-pathsearch-metalen.patch and fixes/C18-pathsearch-querysort.patch.
-/
import RtoscModel.Proofs.PathCollapse
import RtoscModel.Proofs.PathSearch
import RtoscModel.Proofs.PathDir
import RtoscModel.Proofs.PathEnumCanon
namespace Rtosc.Path
open Rtosc

/-- **collapse_eq_spec**: the string returned by `collapsePath` for an absolute path is
    the path with every `..` cancelled against the nearest preceding ordinary component
    (surplus `..` dropped), all other components unchanged and in order; no access
    leaves the block (the result is `some`). -/
theorem collapse_eq_spec (comps : List Bytes) (tail : Bytes) (hwf : ∀ c ∈ comps, CompWF c) :
    collapseStr (render comps ++ 0 :: tail) =
      some ((render comps).length - (render (cancel comps)).length, render (cancel comps)) := by
  obtain ⟨J, h1, h2⟩ := collapse_core comps tail hwf
  unfold collapseStr
  rw [h1]
  simp only
  rw [List.append_assoc, List.drop_left,
    cstr_append_nul _ _ (render_no_nul _ (cancel_wf comps hwf))]
  simp only [Option.map_some]
  congr 2
  omega

/-- **collapse_in_place**: the result lies inside the same buffer: the block keeps its
    length, the returned pointer is `off` bytes into it, the collapsed path occupies
    exactly the bytes from `off` up to the original terminator, and the terminator and
    everything behind it are untouched. -/
theorem collapse_in_place (comps : List Bytes) (tail : Bytes) (hwf : ∀ c ∈ comps, CompWF c) :
    ∃ buf off, collapse (render comps ++ 0 :: tail) = some (buf, off) ∧
      buf.length = (render comps ++ 0 :: tail).length ∧
      off + (render (cancel comps)).length = (render comps).length ∧
      buf.drop off = render (cancel comps) ++ 0 :: tail := by
  obtain ⟨J, h1, h2⟩ := collapse_core comps tail hwf
  refine ⟨_, _, h1, ?_, h2, ?_⟩
  · simp only [List.length_append, List.length_cons]; omega
  · rw [List.append_assoc, List.drop_left]

/-- **apropos_of_walked_local** (hypothesis along the path only): looking up an address that the
    walk reported returns the port it was reported with, with or without the leading `/`. -/
theorem apropos_of_walked_local (ps : List PortT) (a : Bytes) (ix : List Nat)
    (hw : (a, ix) ∈ walk ps) (hu : Unamb ps ix) :
    apropos ps a = .port ix ∧ apropos ps (SLASH :: a) = .port ix := by
  obtain ⟨h1, _, h3, _⟩ := (route_of_unamb ix ps a (walk_sound ps a ix hw) hu).apropos
  exact ⟨h1, by rw [apropos_slash ps h3, h1]⟩

/-- **apropos_of_walked**: provided no sibling's name is a prefix of another's (`TreeOK`),
    looking up any address that the port-tree walk reported returns the port it was
    reported with. -/
theorem apropos_of_walked (ps : List PortT) (hok : TreeOK ps) (a : Bytes) (ix : List Nat)
    (hw : (a, ix) ∈ walk ps) :
    apropos ps a = .port ix ∧ apropos ps (SLASH :: a) = .port ix :=
  apropos_of_walked_local ps a ix hw (unamb_of_treeOK ix ps a hok (walk_sound ps a ix hw))

/-! ### Enumerated rows (`name#N`)

  `apropos_of_walked` above is about trees of literal names (`TreeOK` contains `LitName`).
  For trees that also have enumerated rows the clause read word for word is
  `apropos_of_walked_enum_statement` ("no expanded name of a row is a prefix of an expanded
  name of another row", `TreeOKE`).  That statement is FALSE of the model and of the code
  (`apropos_of_walked_enum_counterexample`): `rtosc_match_number` reads the index in an address
  with `atoi`, so the row `a#5x` also answers for `a00x`, the address of a literal sibling.
  The clause is proved (`apropos_of_walked_enum`) under the additional hypothesis `TreeNumOK`
  (RtoscModel/Path/EnumNum.lean): "a sibling's name" is read as "a name the sibling's pattern
  accepts" (index written with any number of leading zeros), every enumerated row stands for
  at least one port (`N ≥ 1`), and trying a sibling's pattern on a name does not overflow `atoi`.
  Each of the three parts is needed (`…_counterexample`, `…_zero_count_counterexample`,
  `…_overflow_counterexample`). -/

/-- the lookup clause for trees with literal and enumerated names (`walkE`, `TreeOKE`:
    RtoscModel/Path/Enum.lean) under the hypothesis `TreeOKE` alone — false, see
    `apropos_of_walked_enum_statement_false`; proved with `TreeNumOK` added
    (`apropos_of_walked_enum`) -/
def apropos_of_walked_enum_statement : Prop :=
  ∀ (ps : List PortT), TreeOKE ps → ∀ (a : Bytes) (ix : List Nat), (a, ix) ∈ walkE ps →
    apropos ps a = .port ix ∧ apropos ps (SLASH :: a) = .port ix

/-- **apropos_of_walked_enum** (lookup clause, trees with literal and enumerated names
    `name#N`, `name#N/`, `pre#N post`): provided no sibling's name is a prefix of another's —
    `TreeOKE`: names of the documented form, no expanded name of a row is a prefix of an expanded
    name of another row; `TreeNumOK`: the same for every name the other row's pattern accepts
    (leading zeros), `N ≥ 1`, no `atoi` overflow — looking up any address that the port-tree
    walk reported (`walkE`: every row expanded to its `N` elements, at every level) returns
    the port it was reported with, with or without the leading `/`.  Along the index path
    (`route_of_addrE`, Proofs/PathEnumExt.lean; `Route.apropos`, Proofs/PathApropos.lean). -/
theorem apropos_of_walked_enum (ps : List PortT) (hok : TreeOKE ps) (hnum : TreeNumOK ps)
    (a : Bytes) (ix : List Nat) (hw : (a, ix) ∈ walkE ps) :
    apropos ps a = .port ix ∧ apropos ps (SLASH :: a) = .port ix := by
  obtain ⟨h1, _, h3, _⟩ := (route_of_addrE ix ps a hok hnum (walkE_sound ps a ix hw)).apropos
  exact ⟨h1, by rw [apropos_slash ps h3, h1]⟩

/-- **apropos_of_walked_enum_canon**: the same clause with hypotheses that can be read off the
    names.  `CanonList` (RtoscModel/Path/EnumNum.lean; `canonListB` is the same as a finite
    check): every enumerated row has `N ≥ 1`, no `#` follows a digit, and every literal digit
    run in a name is a number below 2^31 printed without leading zeros.  Then
    `rtosc_match_number` meets printed numbers only, and "no expanded name of a row is a prefix of
    an expanded name of another row" (`TreeOKE`) is enough (`treeNumOK_of_canon`). -/
theorem apropos_of_walked_enum_canon (ps : List PortT) (hok : TreeOKE ps) (hc : CanonList ps)
    (a : Bytes) (ix : List Nat) (hw : (a, ix) ∈ walkE ps) :
    apropos ps a = .port ix ∧ apropos ps (SLASH :: a) = .port ix :=
  apropos_of_walked_enum ps hok (treeNumOK_of_canon ps hok hc) a ix hw

/-- the table `a#5x`, `a00x` -/
def cexLeadingZero : List PortT :=
  [.mk [97, 35, 53, 120] none false [], .mk [97, 48, 48, 120] none false []]

/-- **apropos_of_walked_enum_counterexample** (leading zeros): in the table
    `a#5x`, `a00x` no expanded name (`a0x … a4x`, `a00x`) is a prefix of another, the walk
    reports `a00x` with row 1, and the lookup of `a00x` returns row 0: `rtosc_match_number`
    reads `00` as index 0 of `a#5x`.  (The compiled code returns row 0 as well.) -/
theorem apropos_of_walked_enum_counterexample :
    TreeOKE cexLeadingZero ∧ (([97, 48, 48, 120], [1]) : Bytes × List Nat) ∈ walkE cexLeadingZero ∧
      apropos cexLeadingZero [97, 48, 48, 120] = .port [0] :=
  ⟨treeOKE_leaves2 _ _ (by decide +kernel) (by decide +kernel) rfl rfl (by decide +kernel), by decide +kernel, by decide +kernel⟩

/-- the lookup clause under `TreeOKE` alone does not hold -/
theorem apropos_of_walked_enum_statement_false : ¬ apropos_of_walked_enum_statement := by
  intro h
  obtain ⟨h1, h2, h3⟩ := apropos_of_walked_enum_counterexample
  have := (h _ h1 _ _ h2).1
  rw [h3] at this
  exact absurd this (by decide +kernel)

/-- the table `x#0`, `x` -/
def cexZeroCount : List PortT := [.mk [120, 35, 48] none false [], .mk [120] none false []]

/-- why `N ≥ 1` is asked: the row `x#0` stands for no port, so it has no expanded name that
    could be a prefix of anything, yet `strstr(port.name, path) == port.name` finds it for the
    address `x` of its sibling. -/
theorem apropos_of_walked_enum_zero_count_counterexample :
    TreeOKE cexZeroCount ∧ (([120], [1]) : Bytes × List Nat) ∈ walkE cexZeroCount ∧
      apropos cexZeroCount [120] = .port [0] :=
  ⟨treeOKE_leaves2 _ _ (by decide +kernel) (by decide +kernel) rfl rfl (by decide +kernel), by decide +kernel, by decide +kernel⟩

/-- the table `a#2`, `a9999999999` -/
def cexOverflow : List PortT :=
  [.mk [97, 35, 50] none false [], .mk [97, 57, 57, 57, 57, 57, 57, 57, 57, 57, 57] none false []]

/-- why `IndexFits` is asked: trying the pattern `a#2` on the sibling's address `a9999999999`
    makes `atoi` read a number above 2^31 (undefined behaviour in C; the model answers
    `unsupported`). -/
theorem apropos_of_walked_enum_overflow_counterexample :
    TreeOKE cexOverflow ∧
      (([97, 57, 57, 57, 57, 57, 57, 57, 57, 57, 57], [1]) : Bytes × List Nat) ∈ walkE cexOverflow ∧
      apropos cexOverflow [97, 57, 57, 57, 57, 57, 57, 57, 57, 57, 57] = .unsupported :=
  ⟨treeOKE_leaves2 _ _ (by decide +kernel) (by decide +kernel) rfl rfl (by decide +kernel), by decide +kernel, by decide +kernel⟩

/-- **apropos_of_walked_enum_partial**: one enumerated row `pre#N post` (`dn` = the digits of
    `N`, `dk` = the digits of an index `k`).  (1) As a sub-tree row `pre#N post/[:args]` it
    matches the address `pre k post/rest` for `k < N` and leaves exactly `rest` for the
    sub-table; (2) as a leaf row `pre#N post[:args]` it matches `pre k post` to its end for
    `k < N`; (3) an index `k ≥ N` is not matched. -/
theorem apropos_of_walked_enum_partial (pre dn post tail dk : Bytes)
    (hpre : ∀ c ∈ pre, PlainChar c) (hpost : ∀ c ∈ post, PlainChar c) (ht : TailOK tail)
    (hn : Digits dn) (hk : Digits dk) (hpd : isDigit (hd post) = false)
    (hmax : atoi dn < 2147483648) (hval : atoi dk < 2147483648) :
    (atoi dk < atoi dn → ∀ rest : Bytes,
      matchPath (pre ++ 35 :: (dn ++ (post ++ SLASH :: tail))) (pre ++ (dk ++ (post ++ SLASH :: rest))) =
        .ok tail rest) ∧
    (atoi dk < atoi dn →
      ∃ p, matchPath (pre ++ 35 :: (dn ++ (post ++ tail))) (pre ++ (dk ++ post)) = .ok p []) ∧
    (atoi dn ≤ atoi dk →
      matchPath (pre ++ 35 :: (dn ++ (post ++ tail))) (pre ++ (dk ++ post)) = .null) := by
  have hpd' : isDigit (hd (post ++ [SLASH])) = false := isDigit_hd_append hpd (by decide)
  have hP : isDigit (hd (post ++ tail)) = false := isDigit_hd_append hpd ht.nondigit
  exact ⟨fun hlt rest => matchPath_enum_dir pre dn post tail dk rest hpre hpost ht hn hk hpd' hmax hlt,
    fun hlt => ⟨tail, matchPath_enum_leaf pre dn post tail dk hpre hpost ht hn hk hpd hmax hlt⟩,
    fun hge => matchPath_enum_out_of_range pre dn (post ++ tail) dk post hpre hn hk hP hpd hmax hval hge⟩

/-- `Ports::operator[]` returns the first row whose name is the key followed by `:` or by
    nothing (`findIdx?`: the row found satisfies it, every earlier one does not). -/
theorem index_spec (ps : List PortT) (key : Bytes) (hk : ∀ c ∈ key, c ≠ 0) :
    index ps key = ps.findIdx? (fun p => key.isPrefixOf p.name ∧
      (hd (p.name.drop key.length) = COLON ∨ hd (p.name.drop key.length) = 0)) := by
  have hscan : ∀ (k h : Bytes), (∀ c ∈ k, c ≠ 0) →
      indexLoop.scan k h = decide (k.isPrefixOf h = true ∧ (hd (h.drop k.length) = COLON ∨ hd (h.drop k.length) = 0)) := by
    intro k
    induction k with
    | nil => intro h _; simp [indexLoop.scan]
    | cons n nr ih =>
      intro h hk
      have hn : n ≠ 0 := hk n List.mem_cons_self
      cases h with
      | nil => simp [indexLoop.scan]
      | cons c r =>
        by_cases hnc : n = c
        · subst hnc
          simp [indexLoop.scan, hn, ih r (fun x hx => hk x (List.mem_cons_of_mem _ hx))]
        · simp [indexLoop.scan, hnc]
  have hloop : ∀ (l : List PortT) (i : Nat), indexLoop key l i =
      (l.findIdx? (fun p => key.isPrefixOf p.name ∧
        (hd (p.name.drop key.length) = COLON ∨ hd (p.name.drop key.length) = 0))).map (· + i) := by
    intro l
    induction l with
    | nil => intro i; simp [indexLoop]
    | cons p r ih =>
      intro i
      rw [indexLoop, hscan key p.name hk, List.findIdx?_cons]
      by_cases hp : key.isPrefixOf p.name = true ∧
          (hd (p.name.drop key.length) = COLON ∨ hd (p.name.drop key.length) = 0)
      · simp [hp]
      · simp only [hp, decide_false, Bool.false_eq_true, ↓reduceIte]
        rw [ih (i + 1)]
        cases List.findIdx? _ r <;> simp <;> omega
  unfold index
  rw [hloop]
  cases List.findIdx? _ ps <;> simp

/-- **search_location_dir**: "the addressed port" of a child search.  The address of a
    directory (the names, up to `:`, of the ports on the way, each ending in `/`; given with or
    without the leading `/`) makes the search run over exactly the rows of that directory's
    sub-table: `rows` in the theorems below is `p.children` for the port `p` with that index
    path.  Hypotheses (`UnambDir`): no other row of a table on the way is a prefix of, or
    prefixed by, the row taken, and the last directory name has its only `/` at its end
    (`dir_multi_slash_counterexample`: the row `a/b/` is not found by the address `a/b/`). -/
theorem search_location_dir (ps : List PortT) (ix : List Nat) (a : Bytes)
    (h : dirAddrOf ps ix = some a) (hu : UnambDir ps ix) :
    ∃ p, portAt ps ix = some p ∧ searchRows ps a = .ok p.children ∧
      searchRows ps (SLASH :: a) = .ok p.children := by
  obtain ⟨hap, hne, hhd, _⟩ := (route_of_unambDir ix ps a h hu).apropos
  obtain ⟨p, hp, hh⟩ := portAt_dir ix ps a h
  have h1 : ¬ (a = [] ∨ a = [SLASH]) := by
    rintro (rfl | rfl)
    · exact hne rfl
    · exact hhd rfl
  have h2 : ¬ (SLASH :: a = [] ∨ SLASH :: a = [SLASH]) := by
    rintro (h | h)
    · cases h
    · simp only [List.cons.injEq, true_and] at h; exact hne h
  have hap2 : apropos ps (SLASH :: a) = .port ix := by rw [apropos_slash ps hhd, hap]
  refine ⟨p, hp, ?_, ?_⟩
  · unfold searchRows; rw [if_neg h1, hap]; simp [hp, hh]
  · unfold searchRows; rw [if_neg h2, hap2]; simp [hp, hh]

/-- **search_children**: with the option `unmodified` the search returns exactly the
    direct children of the addressed port whose names start with the prefix, in table
    order, each paired with its metadata bytes — the blob is exactly the bytes of the
    metadata block (`Pair.view` reads `len` bytes from the data pointer; `childrenSpec`
    holds the whole block), and the length field of every blob is the number of those bytes
    (no more than the block: the last conjunct; a length of block+1 — the defect repaired by
    fixes/C18-pathsearch-metalen.patch — would satisfy the view equation alone). -/
theorem search_children (S : Sorter) {root : List PortT} {str : Bytes} {needle : Option Bytes}
    {maxTypes maxArgs : Nat} {query : Bool} {rows : List PortT}
    (h : SearchHyp root str needle maxTypes maxArgs query rows) :
    ∃ out : List Pair,
      pathSearch S root str needle maxTypes maxArgs .unmodified query =
        .ok (queryTypes query ++ pairTypes out) (queryArgs query str (needle.getD []) ++ pairArgs out) ∧
      out.map Pair.view = childrenSpec rows (needle.getD []) ∧
      ∀ e ∈ out, e.2.len = e.2.bytes.length := by
  obtain ⟨found, hcol, hview, hfit, hfound⟩ := h.found
  exact ⟨found, pathSearch_unmodified S h.resolves hcol hfit, hview,
    fun e he => (bytes_length e.2 (hfound e he).2).symm⟩

/-- **search_sorted**: with the option `sorted` the same children are returned in string
    (`strcmp`) order; which of several equal names comes first is up to `std::sort`, so
    the result is a permutation of the specified list that is sorted by name. -/
theorem search_sorted (S : Sorter) (hS : S.Correct) {root : List PortT} {str : Bytes} {needle : Option Bytes}
    {maxTypes maxArgs : Nat} {query : Bool} {rows : List PortT}
    (h : SearchHyp root str needle maxTypes maxArgs query rows) :
    ∃ out : List Pair,
      pathSearch S root str needle maxTypes maxArgs .sorted query =
        .ok (queryTypes query ++ pairTypes out) (queryArgs query str (needle.getD []) ++ pairArgs out) ∧
      (out.map Pair.view).Perm (childrenSpec rows (needle.getD [])) ∧
      out.Pairwise (fun a b => strLt b.1 a.1 = false) ∧
      ∀ e ∈ out, e.2.len = e.2.bytes.length := by
  obtain ⟨found, hcol, hview, hfit, hfound⟩ := h.found
  obtain ⟨out, h1, h2, h3⟩ := pathSearch_sorted S hS h.resolves hcol hfit
  exact ⟨out, h1, hview ▸ h2.map _, h3,
    fun e he => (bytes_length e.2 (hfound e (h2.mem_iff.mp he)).2).symm⟩

/-- Why outputs are compared "as multisets within runs of equal names": two admissible
    results of the (unstable) sort of the same list carry the same sequence of names and,
    for every name, the same multiset of entries. -/
theorem sort_result_unique {found l1 l2 : List Pair} (h1 : IsSortOf pairLt found l1)
    (h2 : IsSortOf pairLt found l2) :
    l1.map (·.1) = l2.map (·.1) ∧ ∀ k : Bytes, (l1.filter (·.1 = k)).Perm (l2.filter (·.1 = k)) := by
  have hp : l1.Perm l2 := h1.1.trans h2.1.symm
  refine ⟨?_, fun k => hp.filter _⟩
  have hs : ∀ l : List Pair, l.Pairwise (fun a b => pairLt b a = false) →
      (l.map (·.1)).Pairwise (fun a b => strLt b a = false) := by
    intro l hl
    rw [List.pairwise_map]
    exact hl
  exact List.Perm.eq_of_pairwise (le := fun a b => strLt b a = false)
    (fun a b _ _ hab hba => strLt_antisymm a b hba hab) (hs l1 h1.2) (hs l2 h2.2) (hp.map _)

/-- **search_unique_prefix**: with the option `sorted_and_unique_prefix` the result is the
    sorted list without every name that lies below a returned `name/` entry (`below`:
    some entry ending in `/` is a proper prefix of it); duplicates of a `name/` entry
    stay.  As in `search_children`, every blob's length field is the number of metadata
    bytes it is paired with. -/
theorem search_unique_prefix (S : Sorter) (hS : S.Correct) {root : List PortT} {str : Bytes}
    {needle : Option Bytes} {maxTypes maxArgs : Nat} {query : Bool} {rows : List PortT}
    (h : SearchHyp root str needle maxTypes maxArgs query rows) (hne : ∀ p ∈ rows, p.name ≠ []) :
    ∃ out : List Pair,
      pathSearch S root str needle maxTypes maxArgs .sortedUniquePrefix query =
        .ok (queryTypes query ++ pairTypes out) (queryArgs query str (needle.getD []) ++ pairArgs out) ∧
      (out.map Pair.view).Perm ((childrenSpec rows (needle.getD [])).filter fun e =>
        !below ((childrenSpec rows (needle.getD [])).map (·.1)) e.1) ∧
      out.Pairwise (fun a b => strLt b.1 a.1 = false) ∧
      ∀ e ∈ out, e.2.len = e.2.bytes.length := by
  obtain ⟨found, hcol, hview, hfit, hfound⟩ := h.found
  have hne' : ∀ e ∈ found, e.1 ≠ [] := by
    intro e he
    obtain ⟨⟨p, hp, hpe, _⟩, _⟩ := hfound e he
    rw [hpe]; exact hne p hp
  obtain ⟨out, h1, h2, h3⟩ := pathSearch_unique S hS h.resolves hcol hfit hne'
  refine ⟨out, h1, ?_, h3,
    fun e he => (bytes_length e.2 (hfound e (List.mem_filter.mp (h2.mem_iff.mp he)).1).2).symm⟩
  have hnames : (childrenSpec rows (needle.getD [])).map (·.1) = found.map (·.1) := by
    rw [← hview]; simp [Pair.view]
  rw [hnames, ← hview, List.filter_map]
  exact h2.map _

/-- **search_reply_wf**: whatever the option, the message overload produces a well-formed
    reply: the `(types, args)` of the array overload encode to a message whose length is a
    multiple of four and which an independent OSC decoder reads back as address `/paths`,
    the same type string and the same arguments (names and blob contents); the call
    returns that message when it fits `bufsize` and 0 otherwise. -/
theorem search_reply_wf (S : Sorter) (hS : S.Correct) {root : List PortT} {str needle : Bytes}
    {maxPorts : Nat} {query : Bool} {rows : List PortT}
    (h : SearchHyp root str (some needle) (2 * maxPorts + 1) (2 * maxPorts) query rows)
    (hne : ∀ p ∈ rows, p.name ≠ []) (hnames : ∀ p ∈ rows, NoNul p.name)
    (hstr : NoNul str) (hneedle : NoNul needle)
    (hsize : ∀ p ∈ rows, (p.metadata.getD []).length < 4294967296)
    (opts : Opts) (bufsize : Nat) :
    ∃ types args msg,
      pathSearch S root str (some needle) (2 * maxPorts + 1) (2 * maxPorts) opts query = .ok types args ∧
      encodeMsg PATHS types args = some msg ∧ msg.length % 4 = 0 ∧
      decodeMsg msg = some (PATHS, types, args.map Arg.view) ∧
      pathSearchMsg S root str needle maxPorts bufsize opts query =
        if msg.length ≤ bufsize then .ok msg else .tooSmall := by
  obtain ⟨found, hcol, _, hfit, hfound⟩ := h.found
  have hne' : ∀ e ∈ found, e.1 ≠ [] := by
    intro e he
    obtain ⟨⟨p, hp, hpe, _⟩, _⟩ := hfound e he
    rw [hpe]; exact hne p hp
  obtain ⟨out, h1, h2⟩ := pathSearch_any S hS h.resolves hcol hfit hne' opts
  have hwf : WFArgs (queryTypes query ++ pairTypes out) (queryArgs query str needle ++ pairArgs out) := by
    refine wfArgs_append (wf_query query str needle hstr hneedle) (wf_pairs out ?_ ?_)
    · intro e he
      obtain ⟨⟨p, hp, hpe, _⟩, _⟩ := hfound e (h2 e he)
      rw [hpe]; exact hnames p hp
    · intro e he
      obtain ⟨⟨p, hp, _, hlen⟩, hb⟩ := hfound e (h2 e he)
      exact ⟨hb, Nat.lt_of_le_of_lt hlen (hsize p hp)⟩
  have hpaths : NoNul PATHS := (by decide : ∀ c ∈ PATHS, c ≠ 0)
  obtain ⟨msg, hm1, hm2, hm3⟩ := enc_dec_msg PATHS _ _ hpaths (noNul_types query out) hwf
  simp only [Option.getD_some] at h1
  refine ⟨_, _, msg, h1, hm1, hm2, hm3, ?_⟩
  unfold pathSearchMsg
  rw [h1]
  simp only [hm1]
  by_cases hb : msg.length ≤ bufsize
  · simp [hb, Nat.not_lt.mpr hb]
  · simp [hb, Nat.lt_of_not_le hb]

/-- "/foo/../bar//.." + trailing byte: components `foo`, `..`, `bar`, empty, `..` -/
def exComps : List Bytes := [[102, 111, 111], [46, 46], [98, 97, 114], [], [46, 46]]

example : ∀ c ∈ exComps, CompWF c := (by decide +kernel : ∀ c ∈ exComps, ∀ x ∈ c, x ≠ 0 ∧ x ≠ SLASH)

example : collapseStr (render exComps ++ 0 :: [7]) = some (11, [47, 98, 97, 114]) := by decide +kernel
example : cancel exComps = [[98, 97, 114]] := by decide +kernel

/-- the tree of test/path-search.cpp: a/ → { b/c/ → { d/ → { e } }, b/x/ } plus a leaf `z:i` -/
def exTree : List PortT :=
  [.mk [97, 47] none true
     [.mk [98, 47, 99, 47] none true [.mk [100, 47] none true [.mk [101] none false []]],
      .mk [98, 47, 120, 47] none false []],
   .mk [122, 58, 105] (some [58, 107, 0, 61, 118, 0, 0]) false []]

example : walk exTree =
    [([97, 47, 98, 47, 99, 47, 100, 47, 101], [0, 0, 0, 0]), ([97, 47, 98, 47, 120, 47], [0, 1]), ([122], [1])] := by
  decide +kernel

example : apropos exTree [47, 97, 47, 98, 47, 99, 47, 100, 47, 101] = .port [0, 0, 0, 0] := by decide +kernel

/-- a two-level tree for which the hypotheses are spelled out: a/ → { x, y:i }, b:i -/
def exTree2 : List PortT :=
  [.mk [97, 47] none true [.mk [120] none false [], .mk [121, 58, 105] none false []],
   .mk [98, 58, 105] none false []]

example : (([97, 47, 121], [0, 1]) : Bytes × List Nat) ∈ walk exTree2 := by decide +kernel

example : Unamb exTree2 [0, 1] :=
  ⟨exTree2[0], level_of_rows rfl (by decide +kernel), by decide +kernel,
    (exTree2[0]).children[1], level_of_rows rfl (by decide +kernel)⟩

/-- p#3/ → { x, y#2:i }, q — an enumerated sub-tree with an enumerated leaf -/
def exTreeE : List PortT :=
  [.mk [112, 35, 51, 47] none true [.mk [120] none false [], .mk [121, 35, 50, 58, 105] none false []],
   .mk [113] none false []]

example : walkE exTreeE =
    [([112, 48, 47, 120], [0, 0]), ([112, 48, 47, 121, 48], [0, 1]), ([112, 48, 47, 121, 49], [0, 1]),
     ([112, 49, 47, 120], [0, 0]), ([112, 49, 47, 121, 48], [0, 1]), ([112, 49, 47, 121, 49], [0, 1]),
     ([112, 50, 47, 120], [0, 0]), ([112, 50, 47, 121, 48], [0, 1]), ([112, 50, 47, 121, 49], [0, 1]),
     ([113], [1])] := by decide +kernel

/-- every walked address of the example resolves to the port it was reported with; an index
    behind the end does not resolve -/
example : ∀ e ∈ walkE exTreeE, apropos exTreeE e.1 = .port e.2 ∧ apropos exTreeE (SLASH :: e.1) = .port e.2 := by
  decide +kernel
example : apropos exTreeE [112, 51, 47, 120] = .null := by decide +kernel

/-- the hypotheses of `apropos_of_walked_enum` hold for the example tree (and its conclusion is
    the `decide`d statement above); they fail for the counterexample table -/
example : TreeOKE exTreeE :=
  ⟨tableOKE_two _ _ (by decide +kernel) (by decide +kernel) (by decide +kernel),
   ⟨tableOKE_two _ _ (by decide +kernel) (by decide +kernel) (by decide +kernel), subTablesOKE_leaves _ (by decide +kernel)⟩,
   ⟨tableOKE_nil, trivial⟩, trivial⟩

example : TreeNumOK exTreeE :=
  ⟨tableNumOK_two_heads _ _ (by decide +kernel) (by decide +kernel) (by decide +kernel) (by decide +kernel) (by decide +kernel) (by decide +kernel),
   ⟨tableNumOK_two_heads _ _ (by decide +kernel) (by decide +kernel) (by decide +kernel) (by decide +kernel) (by decide +kernel) (by decide +kernel),
    subTablesNumOK_leaves _ (by decide +kernel)⟩,
   ⟨tableNumOK_nil, trivial⟩, trivial⟩

/-- `v#12b`, `v12`: rows with a common beginning and literal digits meet the syntactic
    hypotheses of `apropos_of_walked_enum_canon`; the counterexample table does not (`a00x`) -/
def exTreeDigits : List PortT :=
  [.mk [118, 35, 49, 50, 98] none false [], .mk [118, 49, 50] none false []]

example : TreeOKE exTreeDigits := treeOKE_leaves2 _ _ (by decide +kernel) (by decide +kernel) rfl rfl (by decide +kernel)
example : CanonList exTreeDigits := canonList_of_B _ (by decide +kernel)
example : CanonList exTreeE := canonList_of_B _ (by decide +kernel)
example : (([118, 49, 49, 98], [0]) : Bytes × List Nat) ∈ walkE exTreeDigits := by decide +kernel
example : canonListB cexLeadingZero = false := by decide +kernel

example : ¬ TreeNumOK cexLeadingZero := by
  intro h
  obtain ⟨h1, h2, h3⟩ := apropos_of_walked_enum_counterexample
  have := (apropos_of_walked_enum _ h1 h _ _ h2).1
  rw [h3] at this
  exact absurd this (by decide +kernel)

/-- the hypotheses of `apropos_of_walked_enum_partial` for `p#12/` against `p11/…` -/
example : Digits [49, 50] ∧ Digits [49, 49] ∧ atoi [49, 49] < atoi [49, 50] ∧ (∀ c ∈ [(112 : UInt8)], PlainChar c) := by
  refine ⟨⟨by decide +kernel, by decide +kernel⟩, ⟨by decide +kernel, by decide +kernel⟩, by decide +kernel, ?_⟩
  intro c hc
  simp only [List.mem_cons, List.not_mem_nil, or_false] at hc
  subst hc
  refine ⟨?_, ?_, ?_, ?_, ?_⟩ <;> decide

/-- the directory `a/` of `exTree2` is addressed by `a/` and `/a/` -/
example : dirAddrOf exTree2 [0] = some [97, 47] := by decide +kernel
example : UnambDir exTree2 [0] :=
  ⟨exTree2[0], level_of_rows rfl (by decide +kernel), [97], by decide +kernel, by decide +kernel⟩
example : apropos exTree2 [47, 97, 47] = .port [0] := by decide +kernel

/-- a flat table with duplicates, a `name/` entry, names below it, and metadata blocks of
    different lengths -/
def exTable : List PortT :=
  [.mk [97, 47, 98] (some [58, 107, 0, 0]) false [],                 -- "a/b"  ":k\0\0"
   .mk [97, 47] (some [107, 0, 61, 118, 0, 0]) false [],             -- "a/"   "k\0=v\0\0" (no ':')
   .mk [98] none false [],                                           -- "b"    NULL
   .mk [97, 47] (some [0]) false [],                                 -- "a/"   ""
   .mk [97, 47, 98, 47, 99] (some [58, 97, 0, 0]) false []]          -- "a/b/c"

example : SearchHyp exTable [] (some [97]) 11 10 true
    [exTable[0], exTable[1], exTable[2], exTable[3], exTable[4]] := by
  refine ⟨rfl, ?_, ⟨by decide +kernel, by decide +kernel⟩⟩
  intro p hp
  simp only [exTable, List.getElem_cons_zero, List.getElem_cons_succ, List.mem_cons, List.not_mem_nil, or_false] at hp
  rcases hp with rfl | rfl | rfl | rfl | rfl <;> simp [MetaOK, PortT.metadata, EndsAtDoubleNul]

example : mergeSorter.Correct := by
  intro α lt l hsw
  refine ⟨List.mergeSort_perm _ _, ?_⟩
  have htrans : ∀ a b c : α, (!lt b a) = true → (!lt c b) = true → (!lt c a) = true := by
    intro a b c h1 h2
    simp only [Bool.not_eq_true'] at h1 h2 ⊢
    exact hsw.negTrans c b a h2 h1
  have htotal : ∀ a b : α, ((!lt b a) || (!lt a b)) = true := by
    intro a b
    cases h1 : lt b a <;> cases h2 : lt a b <;> simp
    have := hsw.trans a b a h2 h1
    rw [hsw.irrefl] at this; cases this
  have := List.pairwise_mergeSort (le := fun a b => !lt b a) htrans htotal l
  exact this.imp (by intro a b h; simpa using h)

example : pathSearch insertionSorter exTable [] (some [97]) 11 10 .sortedUniquePrefix false =
    .ok [115, 98, 115, 98]
      [.s [97, 47], .b ⟨some [107, 0, 61, 118, 0, 0], 6⟩, .s [97, 47], .b ⟨none, 0⟩] := by decide +kernel

end Rtosc.Path
