/-
  C19 — Automation output stays in range and MIDI-learn requests are served in order.
  Property theorems, counterexamples and non-vacuity examples only; the definitions the
  statements are written in are in RtoscModel/AutoSpec.lean, RtoscModel/AutoSpecLog.lean and
  RtoscModel/AutoFloat.lean (`realArith`, `logMsgReal`: Proofs/AutoExtReal.lean; `IEEE.u32`,
  `IEEE.tiny`: Proofs/AutoExtDev.lean).  The model (RtoscModel/Auto.lean) mirrors
  src/cpp/automations.cpp with the four repairs fixes/C19-*.patch applied.

  Reading of the statement.
  * "any sequence of binding, clearing, gain/offset and slot-value operations": `Reachable`
    — every state reached from a fresh manager (any number of slots and sub-automations) by
    any finite history of `Op`s that are well-formed (`OpWF`: ports have min <= max, bound
    addresses have at most 127 characters, MIDI channel/controller numbers are not negative)
    and stay clear of the undefined behaviour of createBinding/setSlotSubPath (unchecked
    indices).
  * "the bound parameter": every automation of the model carries a ghost field `bound` (nothing
    reads it) holding the address and the port of the createBinding/setSlotSubPath call that
    filled it; `binding_is_recorded` says that this field is exactly that: set by a successful
    bind to the call's arguments, dropped by the clear operations, untouched by everything
    else.  The range/type theorem is then stated against `portType`/`portRange`/`MsgOKPort`
    (RtoscModel/AutoSpec.lean), which only look at the port.
  * float arithmetic: the bookkeeping theorems hold for every `Arith`; range and monotonicity
    hold for every `Arith` satisfying the order laws `Laws` (a hypothesis); the laws are
    proved for exact rational arithmetic (`exact_laws`) and for the IEEE-754 binary32/64
    round-to-nearest-even arithmetic of the executable model that the correspondence check
    compares bit for bit with the compiled code (`ieee_model_laws`; finite values, no
    overflow; libm's logf enters as a monotone table, expf as a monotone function).  The
    linear map is exact over `Rat`.
  * logarithmic-scale parameters: `PortWF` demands that the lower end of the range handed to
    `logf` be positive (`log_scale_needs_positive_bound` shows why; the compiled code emits
    NaN for such a port), and `Laws.logf_mono` is assumed for positive arguments only.  The
    default map is `expf(logf lo + x·(logf hi − logf lo))`: exactly, over `Rat` for every pair
    of functions standing for `logf`/`expf` (`default_gain_log`) and over the reals with
    `Real.log`/`Real.exp` (`default_gain_log_real`, value inside `[lo,hi]` itself); the float
    model's argument of `expf` is within `86·2⁻²⁴·(max|logf bound| + 2⁻¹²⁶)` of the exact one
    (`default_gain_log_float_deviation`).  The range of a log-scale port that declares `logmin`
    is `[logmin, max]` whatever `min` is (`log_bounds_stored`,
    `logmin_within_declared_range`, `logmin_below_min_counterexample`).
-/
import RtoscModel.Proofs.AutoLemmas
import RtoscModel.Proofs.AutoFloatLemmas
import RtoscModel.Proofs.AutoBind
import RtoscModel.Proofs.AutoExtLog
import RtoscModel.Proofs.AutoExtReal
import RtoscModel.Proofs.AutoExtDev
namespace Rtosc.Auto
open Rtosc
variable {F : Type}

/-- **learn_queue_refines** ("slots that asked for MIDI learn are bound ... in the order in
    which they asked"): the per-slot numbers of the implementation always represent an
    abstract FIFO queue — pending slots hold exactly 1..k in request order, everything else
    holds -1 and `learn_queue_len = k` (`Refines`) — and every operation acts on that queue
    as the specification `absStep` says: a successful learn request appends, clearSlot
    removes the cleared slot only, a value for a controller no slot is bound to removes the
    head, nothing else touches it. -/
theorem learn_queue_refines (A : Arith F) :
    (∀ n p, Refines (Mgr.init A n p) []) ∧
    (∀ (m m' : Mgr F) (Q : List Nat) (op : Op F) (ms : List (Msg F)),
      Refines m Q → step A m op = some (m', ms) → Refines m' (absStep m op Q)) ∧
    (∀ n p (m : Mgr F), Reachable A n p m → ∃ Q, Refines m Q) :=
  ⟨refines_init A, refines_step A, fun n p m h => (inv_reachable A n p m h).queue⟩

/-- **unbound_controller_serves_head** ("bound, one per previously unbound controller, in
    the order in which they asked"): when the queue is `hd :: Q'` and a value arrives for a
    controller (CC or completed NRPN) that no slot is bound to, exactly slot `hd` gets that
    controller; every other binding of every slot is unchanged. -/
theorem unbound_controller_serves_head (A : Arith F) (m : Mgr F) (hd : Nat) (Q' : List Nat)
    (c t v : Int) (n : Bool) (id : Int)
    (h : Refines m (hd :: Q')) (hc : controllerOf m c t v = some (n, id))
    (hb : isBoundTo m n id = false) (i : Nat) (sl : Slot F) (hsl : m.slots[i]? = some sl) :
    ∃ sl', (handleMidi A m c t v).1.slots[i]? = some sl' ∧
      bindingOf n sl' = (if i = hd then id else bindingOf n sl) ∧
      bindingOf (!n) sl' = bindingOf (!n) sl := by
  have hk := serve_head_keys A m hd Q' c t v n id h hc hb
  have hi : (keys (handleMidi A m c t v).1)[i]? = some (decK 1 (if hd = i then bindK n id (key sl) else key sl)) := by
    rw [hk]; simp [keys, hsl, List.getElem?_modify]
  simp only [keys, List.getElem?_map] at hi
  cases hs' : (handleMidi A m c t v).1.slots[i]? with
  | none => simp [hs'] at hi
  | some sl' =>
    simp only [hs', Option.map_some, Option.some.injEq] at hi
    refine ⟨sl', rfl, ?_, ?_⟩
    · rw [← selOf_key, hi, selOf_decK]
      by_cases e : hd = i
      · subst e; rw [if_pos rfl, if_pos rfl, selOf_bindK_self]
      · have e' : ¬ i = hd := fun x => e x.symm
        simp only [e, e', ↓reduceIte]; exact selOf_key n sl
    · rw [← selOf_key, hi, selOf_decK, ← selOf_key]
      by_cases e : hd = i
      · simp only [e, ↓reduceIte]; exact selOf_bindK_other n id (key sl)
      · simp only [e, ↓reduceIte]

/-- **learn_order_preserved** ("regardless of unrelated slots being created or cleared in
    between"): two slots that are waiting before and after an operation keep their relative
    order — whatever the operation was and whichever slot it addressed. -/
theorem learn_order_preserved (A : Arith F) (n p : Nat) (m m' : Mgr F) (op : Op F) (ms : List (Msg F))
    (hr : Reachable A n p m) (hs : step A m op = some (m', ms))
    (i j : Nat) (si sj si' sj' : Slot F)
    (hi : m.slots[i]? = some si) (hj : m.slots[j]? = some sj)
    (hi' : m'.slots[i]? = some si') (hj' : m'.slots[j]? = some sj')
    (hw : 0 < si.learning) (hlt : si.learning < sj.learning)
    (hwi : 0 < si'.learning) (hwj : 0 < sj'.learning) : si'.learning < sj'.learning := by
  obtain ⟨Q, hq⟩ := (inv_reachable A n p m hr).queue
  have hq' := refines_step A m m' Q op ms hq hs
  have e1 := hq.learning hi
  have e2 := hq.learning hj
  have e3 := hq'.learning hi'
  have e4 := hq'.learning hj'
  rw [e3, e4]
  exact refines_order hq hs i j (by omega) (by omega) (by omega) (by omega)

/-- **bound_cc_drives_its_slot** ("once bound a controller drives exactly its slot"): in a
    reachable state, a value for a controller (plain CC: `n = false`, completed NRPN:
    `n = true`) that slot `i` is bound to does what `setSlot(i, value)` does and nothing
    else: the emitted messages are those of slot `i`'s automations, only `current_state` of
    slot `i` (and the NRPN registers) change. -/
theorem bound_cc_drives_its_slot (A : Arith F) (ns p : Nat) (m : Mgr F) (hr : Reachable A ns p m)
    (c t v : Int) (hc0 : 0 ≤ c) (ht0 : 0 ≤ t) (n : Bool) (id : Int)
    (hc : controllerOf m c t v = some (n, id))
    (i : Nat) (sl : Slot F) (hsl : m.slots[i]? = some sl) (hb : bindingOf n sl = id) :
    handleMidi A m c t v =
      ({ regs m t v with slots := m.slots.set i { sl with current := midiValue A (regs m t v) n v } },
       slotMsgs A sl (midiValue A (regs m t v) n v)) := by
  have h0 := controllerOf_nonneg m c t v n id hc0 ht0 hc
  exact bound_drives A m c t v n id i sl ((inv_reachable A ns p m hr).uniq n) (by omega) hc hsl hb

/-- **emit_in_range_right_type** ("every message an automation slot emits goes to the bound
    parameter's address with the bound parameter's type and a value inside that parameter's
    declared [min,max] (true/false for toggles)"): every message handed to `backend` by any
    operation in any reachable state is the message of a `used` automation of that state;
    that automation was bound — by the last createBinding/setSlotSubPath that filled it
    (`bound`, see `binding_is_recorded`) — to a well-formed usable port `port` under the
    address `path`, and the message satisfies the specification `MsgOKPort path port`: its
    address is `path`, its type is `portType port`, its value lies in `portRange port`
    (integers: `(int)roundf` of the bounds; log scale: the bounds pass through
    `expf ∘ logf`, which is libm's rounding and covered by the property's tolerance). -/
theorem emit_in_range_right_type (A : Arith F) (L : Laws A) (n p : Nat) (m m' : Mgr F) (op : Op F)
    (ms : List (Msg F)) (hr : Reachable A n p m) (hs : step A m op = some (m', ms)) :
    ∀ msg ∈ ms, ∃ sl ∈ m.slots, ∃ au ∈ sl.autos, ∃ (path : Bytes) (port : PortInfo F),
      au.used = true ∧ au.bound = some (path, port) ∧ PortWF A port ∧
      portUsable (some port) = some port ∧ MsgOKPort A path port msg := by
  intro msg hmsg
  obtain ⟨l, hl, au, hau, x, hx⟩ := (step_views hs).2.2.2 msg hmsg
  simp only [autosOf, List.mem_map] at hl
  obtain ⟨sl, hsl, rfl⟩ := hl
  have hg := (inv_reachable A n p m hr).good sl hsl au hau
  obtain ⟨hu, hok⟩ := emit_ok L au x msg hg hx
  obtain ⟨path, port, hb, hw, hp, hm⟩ := msgOK_port A au msg (hg.1 hu).1 hok
  exact ⟨sl, hsl, au, hau, path, port, hu, hb, hw, hp, hm⟩

/-- **binding_is_recorded** (what "the bound parameter" of the statement refers to): the ghost
    table `boundsOf` — per slot and sub-automation the address and port of the call that bound
    it — starts empty and is changed by every operation exactly as the specification
    `absBind` says: a createBinding that finds a usable port fills the first free
    sub-automation of its slot with that address and port, setSlotSubPath fills the one it
    names, clearSlot/clearSlotSub empty what they name, and no other operation (gain, offset,
    slot values, MIDI, learning) changes what anything is bound to.  Moreover an automation
    is `used` (can emit) exactly when the table has an entry for it. -/
theorem binding_is_recorded (A : Arith F) :
    (∀ n p, boundsOf (Mgr.init A n p) = List.replicate n (List.replicate p none)) ∧
    (∀ n p (m m' : Mgr F) (op : Op F) (ms : List (Msg F)), Reachable A n p m →
      step A m op = some (m', ms) → boundsOf m' = absBind m.perSlot (boundsOf m) op) ∧
    (∀ n p (m : Mgr F), Reachable A n p m →
      ∀ sl ∈ m.slots, ∀ au ∈ sl.autos, (au.used = false ↔ au.bound = none)) :=
  ⟨boundsOf_init A,
   fun n p m m' op ms hr hs => binding_step A m m' op ms (inv_reachable A n p m hr).good hs,
   fun n p m hr sl hsl au hau => good_used_iff A au ((inv_reachable A n p m hr).good sl hsl au hau)⟩

/-- **emit_monotone** ("a value ... that never decreases when the slot value increases (for
    positive gain)"): for a used automation of a reachable state whose gain is not negative,
    a larger slot value never yields a smaller message (`MsgsLe`: same address and type,
    value not smaller, false <= true). -/
theorem emit_monotone (A : Arith F) (L : Laws A) (n p : Nat) (m : Mgr F) (hr : Reachable A n p m)
    (s j : Int) (sl : Slot F) (au : Automation F) (hsl : m.slots[s.toNat]? = some sl)
    (hau : sl.autos[j.toNat]? = some au) (hu : au.used = true)
    (hg : A.le A.zero au.gain = true) (x y : F) (hxy : A.le x y = true) :
    MsgsLe A (emit A au x) (emit A au y) ∧
    (m.slotOob s = false → m.subOob j = false →
      setSlotSub A m s j x = emit A au x ∧ setSlotSub A m s j y = emit A au y) := by
  have hgood := (inv_reachable A n p m hr).good sl (List.mem_of_getElem? hsl) au (List.mem_of_getElem? hau)
  exact ⟨emit_mono L au x y hgood hu hg hxy, fun h1 h2 =>
    ⟨setSlotSub_eq A m h1 h2 hsl hau x, setSlotSub_eq A m h1 h2 hsl hau y⟩⟩

/-- **default_gain_linear** ("at the default gain and offset, maps slot values 0..1 linearly
    onto min..max"), exactly, over `Rat`: for a used linear-scale automation of a reachable
    state with gain 100 and offset 0 the emitted message is `linearMsg`: the value
    `min + x*(max-min)` (rounded half away from zero for integers, compared with 1/2 for
    toggles whose range is 0..1). -/
theorem default_gain_linear (n p : Nat) (m : Mgr Rat) (hr : Reachable exact n p m)
    (sl : Slot Rat) (hsl : sl ∈ m.slots) (au : Automation Rat) (hau : au ∈ sl.autos)
    (hu : au.used = true) (hg : au.gain = 100) (ho : au.offset = 0) (hl : au.logScale = false)
    (x : Rat) (hx0 : 0 ≤ x) (hx1 : x ≤ 1) : emit exact au x = [linearMsg au x] := by
  obtain ⟨hfp, hcp⟩ := ((inv_reachable exact n p m hr).good sl hsl au hau).1 hu
  obtain ⟨hty, hm⟩ := fromPort_facts exact_laws au hfp
  rw [hg, ho] at hcp
  exact emit_default_linear au x hu hty hl hcp ((exact_isExact.le_iff _ _).1 hm) hx0 hx1

/-- **ieee_model_laws**: the arithmetic the driver runs (IEEE-754 rounding over `Rat`,
    RtoscModel/AutoFloat.lean) satisfies `Laws`, for every table of `logf` values; hence
    `emit_in_range_right_type` and `emit_monotone` hold of the very model that is compared
    bit for bit with the implementation. -/
theorem ieee_model_laws (tab : List (Rat × Rat)) : Laws (IEEE.ieee tab) := IEEE.ieee_laws tab

/-- **default_gain_log** ("at the default gain and offset, maps slot values 0..1 ... onto
    min..max", for a port whose metadata say scale=logarithmic), exactly, over `Rat`, for EVERY
    pair of functions `lg`/`ex` standing for `logf`/`expf` with `lg` monotone on positive
    arguments: a used automation of a reachable state that is bound to the log-scale port `port`
    under `path` and has gain 100 and offset 0 emits, at a slot value `x` in [0,1], exactly
    `logMsg`: the value `ex (lg lo + x·(lg hi − lg lo))` (rounded half away from zero for an
    integer parameter), where `lo..hi` is the port's declared range (`portRange`: `logmin` if
    declared, else `min`, up to `max`), which is positive and ordered. -/
theorem default_gain_log (lg ex : Rat → Rat) (hmono : ∀ a b : Rat, 0 < a → a ≤ b → lg a ≤ lg b)
    (n p : Nat) (m : Mgr Rat) (hr : Reachable (exactLog lg ex) n p m)
    (sl : Slot Rat) (hsl : sl ∈ m.slots) (au : Automation Rat) (hau : au ∈ sl.autos)
    (hu : au.used = true) (hg : au.gain = 100) (ho : au.offset = 0)
    (path : Bytes) (port : PortInfo Rat) (hb : au.bound = some (path, port)) (hs : port.scaleLog = true)
    (x : Rat) (hx0 : 0 ≤ x) (hx1 : x ≤ 1) :
    ∃ lo hi : Rat, (portType port = 'i' ∨ portType port = 'f') ∧
      portRange (exactLog lg ex) port = some (lo, hi) ∧ 0 < lo ∧ lo ≤ hi ∧
      emit (exactLog lg ex) au x = [logMsg lg ex path (portType port) lo hi x] := by
  have hgood := (inv_reachable (exactLog lg ex) n p m hr).good sl hsl au hau
  obtain ⟨lo, hi, h1, h2, h3, h4, h5⟩ :=
    emit_default_log (exactLog_isExact lg ex) hmono au hgood hu hg ho path port hb hs x hx0 hx1
  exact ⟨lo, hi, h1, h2, h3, h4, by rw [h5, logMsgK_exactLog]⟩

/-- **default_gain_log_real**: the same over the real numbers with the real logarithm and
    exponential (`realArith`: every operation of the code performed exactly, `logf = Real.log`,
    `expf = Real.exp`) — the arithmetic the statement is phrased in.  The emitted value is
    `exp(log lo + x·(log hi − log lo))`; it lies between the declared bounds `lo` and `hi`
    themselves and is `lo` at slot value 0 and `hi` at slot value 1. -/
theorem default_gain_log_real (n p : Nat) (m : Mgr ℝ) (hr : Reachable realArith n p m)
    (sl : Slot ℝ) (hsl : sl ∈ m.slots) (au : Automation ℝ) (hau : au ∈ sl.autos)
    (hu : au.used = true) (hg : au.gain = 100) (ho : au.offset = 0)
    (path : Bytes) (port : PortInfo ℝ) (hb : au.bound = some (path, port)) (hs : port.scaleLog = true)
    (x : ℝ) (hx0 : 0 ≤ x) (hx1 : x ≤ 1) :
    ∃ lo hi : ℝ, (portType port = 'i' ∨ portType port = 'f') ∧
      portRange realArith port = some (lo, hi) ∧ 0 < lo ∧ lo ≤ hi ∧
      emit realArith au x = [logMsgReal path (portType port) lo hi x] ∧
      lo ≤ Real.exp (Real.log lo + x * (Real.log hi - Real.log lo)) ∧
      Real.exp (Real.log lo + x * (Real.log hi - Real.log lo)) ≤ hi ∧
      Real.exp (Real.log lo + 0 * (Real.log hi - Real.log lo)) = lo ∧
      Real.exp (Real.log lo + 1 * (Real.log hi - Real.log lo)) = hi := by
  have hgood := (inv_reachable realArith n p m hr).good sl hsl au hau
  obtain ⟨lo, hi, h1, h2, h3, h4, h5⟩ :=
    emit_default_log realArith_isExact realLog_mono_pos au hgood hu hg ho path port hb hs x hx0 hx1
  have hrange := logInterp_range lo hi x h3 h4 hx0 hx1
  have hends := logInterp_ends lo hi h3 h4
  exact ⟨lo, hi, h1, h2, h3, h4, by rw [h5, logMsgK_real], hrange.1, hrange.2, hends.1, hends.2⟩

/-- **default_gain_log_float_deviation** (how far the float arithmetic of the code is from
    the exact logarithmic map): in the IEEE-754 model the driver runs — the one compared bit
    for bit with the compiled code — a used automation bound to the log-scale port `port`
    under `path`, at gain 100 and offset 0, emits for a slot value `x` in [0,1] one message
    whose value is `expf c` (the model reports `c`, the argument of `expf`), where `c` lies
    between the stored bounds `L0 = logf lo`, `L1 = logf hi` (`lo..hi` the port's declared
    range) and differs from the exact interpolation `L0 + x·(L1 − L0)` by at most
    `86·2⁻²⁴·(max(|L0|,|L1|) + 2⁻¹²⁶)` (`IEEE.u32 = 2⁻²⁴`, `IEEE.tiny = 2⁻¹²⁶`): sixteen
    roundings of at most half a unit in the last place each.  Hence the emitted value is the
    exact one times `exp(±that)`, up to libm's own rounding of `logf`/`expf`. -/
theorem default_gain_log_float_deviation (tab : List (Rat × Rat)) (n p : Nat) (m : Mgr Rat)
    (hr : Reachable (IEEE.ieee tab) n p m)
    (sl : Slot Rat) (hsl : sl ∈ m.slots) (au : Automation Rat) (hau : au ∈ sl.autos)
    (hu : au.used = true) (hg : au.gain = 100) (ho : au.offset = 0)
    (path : Bytes) (port : PortInfo Rat) (hb : au.bound = some (path, port)) (hs : port.scaleLog = true)
    (x : Rat) (hx0 : 0 ≤ x) (hx1 : x ≤ 1) :
    ∃ lo hi c : Rat, portRange (IEEE.ieee tab) port = some (lo, hi) ∧
      emit (IEEE.ieee tab) au x =
        [ if portType port = 'i' then
            { addr := path, ty := 'i', val := .int (IEEE.trunc (IEEE.roundAway c)), expArg := some c }
          else { addr := path, ty := 'f', val := .flt c, expArg := some c } ] ∧
      IEEE.logOfTable tab lo ≤ c ∧ c ≤ IEEE.logOfTable tab hi ∧
      |c - (IEEE.logOfTable tab lo + x * (IEEE.logOfTable tab hi - IEEE.logOfTable tab lo))| ≤
        86 * IEEE.u32 * (max |IEEE.logOfTable tab lo| |IEEE.logOfTable tab hi| + IEEE.tiny) := by
  have hgood := (inv_reachable (IEEE.ieee tab) n p m hr).good sl hsl au hau
  obtain ⟨hfp, hcp⟩ := hgood.1 hu
  obtain ⟨lo, hi, hrg, _, e1, e2, hty, hl, q1, q2⟩ :=
    bound_log_facts (IEEE.ieee tab) au hgood hu path port hb hs
  have hm := (fromPort_facts (IEEE.ieee_laws tab) au hfp).2
  simp only [IEEE.ieee, decide_eq_true_eq] at hm
  rw [hg, ho] at hcp
  obtain ⟨c, h1, h2, h3, h4⟩ := IEEE.ieee_log_arg_deviation tab au x hu (by rw [e2]; exact hty) hl hcp hm
    (max |au.pmin| |au.pmax|) (le_max_left _ _) (le_max_right _ _) hx0 hx1
  rw [e1, e2] at h1
  rw [q1] at h2 h4
  rw [q2] at h3 h4
  exact ⟨lo, hi, c, hrg, h1, h2, h3, h4⟩

/-- **log_bounds_stored** (no hypothesis on the arithmetic): in every reachable state a used
    automation bound to a log-scale port stores `logf` of the ends of the port's declared range
    `portRange` — `logf(logmin)` if the port declares `logmin`, WHATEVER its `min` is, else
    `logf(min)`; and `logf(max)` — and that lower end is positive (`PortWF`). -/
theorem log_bounds_stored (A : Arith F) (n p : Nat) (m : Mgr F) (hr : Reachable A n p m)
    (sl : Slot F) (hsl : sl ∈ m.slots) (au : Automation F) (hau : au ∈ sl.autos) (hu : au.used = true)
    (path : Bytes) (port : PortInfo F) (hb : au.bound = some (path, port)) (hs : port.scaleLog = true) :
    au.logScale = true ∧
    ∃ lo hi, portRange A port = some (lo, hi) ∧ A.le lo A.zero = false ∧
      au.pmin = A.logf lo ∧ au.pmax = A.logf hi ∧
      (∀ l, port.logmin = some l → lo = A.to32 l) := by
  obtain ⟨lo, hi, hrg, hw, _, _, hty, hl, q1, q2⟩ :=
    bound_log_facts A au ((inv_reachable A n p m hr).good sl hsl au hau) hu path port hb hs
  refine ⟨hl, lo, hi, hrg, hw.2.2 hs lo hi hrg, q1, q2, ?_⟩
  intro l hl'
  have hT : portType port ≠ 'T' := by rcases hty with h | h <;> rw [h] <;> decide
  rw [portRange, if_neg hT] at hrg
  split at hrg
  · simp only [hs, hl', ↓reduceIte, Option.map_some, Option.getD_some, Option.some.injEq, Prod.mk.injEq] at hrg
    exact hrg.1.symm
  · cases hrg

/-- **logmin_within_declared_range**: a log-scale port whose `logmin` is not below its `min`
    has its whole range `portRange = [logmin, max]` inside the declared `[min, max]`, so that
    `emit_in_range_right_type` bounds its messages by the declared minimum as well. -/
theorem logmin_within_declared_range (A : Arith F) (L : Laws A) (port : PortInfo F) (hw : PortWF A port)
    (mn mx l : F) (hmn : port.min = some mn) (hmx : port.max = some mx) (hl : port.logmin = some l)
    (hs : port.scaleLog = true) (hml : A.le mn l = true) :
    portRange A port = some (A.to32 l, A.to32 mx) ∧
    A.le (A.to32 mn) (A.to32 l) = true ∧ A.le (A.to32 l) (A.to32 mx) = true := by
  have hT : portType port ≠ 'T' := by rcases portType_log hw hs with h | h <;> rw [h] <;> decide
  refine ⟨by simp [portRange, hT, hmn, hmx, hl, hs], L.to32_mono _ _ hml, L.to32_mono _ _ ((hw.1 mn mx hmn hmx).2 l hl)⟩

/-- float port declared 10..100, logarithmic, with `logmin = 1` BELOW `min` -/
def exPortLogminLow : PortInfo Rat :=
  { hasF := true, hasT := false, min := some 10, max := some 100, logmin := some 1,
    scaleLog := true, internal := false, noLearn := false }

/-- **logmin_below_min_counterexample** (what `logmin < min` does): nothing in the code
    compares `logmin` with `min`.  The port 10..100 with `logmin = 1` satisfies `PortWF`, and
    with the decade logarithm `lg10`/`ex10` (exact on 1, 10, 100) the slot value 0 sends 1 —
    below the declared minimum 10 — and the slot value 1 sends 100.  The range of such a port
    is `[logmin, max]` (`portRange`, `log_bounds_stored`); it lies inside `[min, max]` exactly
    when `min <= logmin` (`logmin_within_declared_range`). -/
theorem logmin_below_min_counterexample :
    PortWF (exactLog lg10 ex10) exPortLogminLow ∧
    (run (exactLog lg10 ex10) (Mgr.init (exactLog lg10 ex10) 1 1)
      [.bind 0 [47, 112] (some exPortLogminLow) false, .setSub 0 0 0, .setSub 0 0 1]).map
        (fun r => r.2.map (fun ms => ms.map Msg.ratVal)) = some [[], [some 1], [some 100]] := by
  exact ⟨portWF_of_bounds _ _ 10 100 (by decide) rfl rfl (by decide) (by intro l hl; cases hl; decide)
    (fun _ => by decide), by decide +kernel⟩

/-- float port declared -100..10 with a logarithmic scale: the lower bound is not positive -/
def exPortNeg : PortInfo Rat :=
  { hasF := true, hasT := false, min := some (-100), max := some 10, logmin := none,
    scaleLog := true, internal := false, noLearn := false }

/-- **log_scale_needs_positive_bound** (why `PortWF` demands a positive lower end for a
    log-scale port).  C's `logf` returns NaN for a negative and -infinity for a zero argument,
    which this model's carriers do not contain; an arithmetic that does give `logf` a value
    below zero cannot be monotone there.  Witness: `lgAbs` = log|x| on the decades (the
    convention of real-analysis libraries), monotone on positive arguments, so that the order
    laws `Laws` hold; the port -100..10 satisfies every clause of `PortWF` but positivity;
    its stored bounds are `logf(-100) = 2 > 1 = logf(10)`, the clamp of setSlotSub then
    returns one of the two bounds whatever the slot value is, and the slot value 1 sends 100:
    above the declared maximum 10 (and the map is decreasing: slot value 0 sends 10). -/
theorem log_scale_needs_positive_bound :
    Laws (exactLog lgAbs ex10) ∧
    ((∀ mn mx, exPortNeg.min = some mn → exPortNeg.max = some mx →
        (exactLog lgAbs ex10).le mn mx = true ∧
        (∀ l, exPortNeg.logmin = some l → (exactLog lgAbs ex10).le l mx = true)) ∧
     (exPortNeg.hasF = false → exPortNeg.hasT = true → exPortNeg.scaleLog = false)) ∧
    ¬ PortWF (exactLog lgAbs ex10) exPortNeg ∧
    (run (exactLog lgAbs ex10) (Mgr.init (exactLog lgAbs ex10) 1 1)
      [.bind 0 [47, 112] (some exPortNeg) false, .setSub 0 0 0, .setSub 0 0 1]).map
        (fun r => r.2.map (fun ms => ms.map Msg.ratVal)) = some [[], [some 10], [some 100]] := by
  refine ⟨exactLog_laws lgAbs ex10 lgAbs_mono_pos ex10_mono, ⟨?_, by decide⟩, ?_, by decide +kernel⟩
  · intro mn mx h1 h2; cases h1; cases h2
    exact ⟨by decide, by intro l hl; cases hl⟩
  · intro hw
    have e : portRange (exactLog lgAbs ex10) exPortNeg = some (-100, 10) := by decide +kernel
    have := hw.2.2 rfl (-100) 10 e
    revert this; decide

/-- **unbound_nrpn_sequence_serves_head** ("bound, one per previously unbound controller, in
    the order in which they asked", for an NRPN controller, on the wire): when the queue is
    `hd :: Q'` and the four messages CC 99 = `a`, CC 98 = `b`, CC 6 = `v1`, CC 38 = `v2` of an
    NRPN sequence arrive for a parameter number `a*128+b` that no slot is bound to, the first
    three messages emit nothing, and after the fourth exactly slot `hd` is bound to the NRPN
    `a*128+b`; every other NRPN binding and every plain-CC binding of every slot is unchanged
    and the queue is `Q'`.  (`unbound_controller_serves_head` is the single-event form for
    both kinds of controller.) -/
theorem unbound_nrpn_sequence_serves_head (A : Arith F) (m : Mgr F) (hd : Nat) (Q' : List Nat)
    (c a b v1 v2 : Int) (ha : 0 ≤ a) (hb : 0 ≤ b) (h1 : 0 ≤ v1) (h2 : 0 ≤ v2)
    (h : Refines m (hd :: Q')) (hu : isBoundTo m true (a * 128 + b) = false) :
    ∃ (m4 : Mgr F) (ms : List (Msg F)),
      run A m [.midi c 99 a, .midi c 98 b, .midi c 6 v1, .midi c 38 v2] = some (m4, [[], [], [], ms]) ∧
      Refines m4 Q' ∧
      ∀ (i : Nat) (sl : Slot F), m.slots[i]? = some sl →
        ∃ sl', m4.slots[i]? = some sl' ∧
          sl'.midiNrpn = (if i = hd then a * 128 + b else sl.midiNrpn) ∧ sl'.midiCC = sl.midiCC := by
  obtain ⟨hrun, hctl⟩ := nrpn_prefix A m c a b v1 v2 ha hb h1 h2
  have hr3 : Refines (afterThree m a b v1) (hd :: Q') := h
  have hu3 : isBoundTo (afterThree m a b v1) true (a * 128 + b) = false := hu
  refine ⟨(handleMidi A (afterThree m a b v1) c 38 v2).1, (handleMidi A (afterThree m a b v1) c 38 v2).2, ?_, ?_, ?_⟩
  · have := run_append A m _ [.midi c 99 a, .midi c 98 b, .midi c 6 v1] [.midi c 38 v2] _ hrun
    simp only [List.cons_append, List.nil_append] at this
    rw [this]
    simp [run, step_midi]
  · have := refines_step A (afterThree m a b v1) (handleMidi A (afterThree m a b v1) c 38 v2).1 (hd :: Q')
      (.midi c 38 v2) (handleMidi A (afterThree m a b v1) c 38 v2).2 hr3 rfl
    simpa [absStep, hctl, hu3] using this
  · intro i sl hsl
    obtain ⟨sl', e1, e2, e3⟩ :=
      unbound_controller_serves_head A (afterThree m a b v1) hd Q' c 38 v2 true (a * 128 + b) hr3 hctl hu3 i sl hsl
    exact ⟨sl', e1, by simpa [bindingOf] using e2, by simpa [bindingOf] using e3⟩

/-- the order laws are satisfiable: exact rational arithmetic has them -/
example : Laws exact := exact_laws

/-- integer-valued bounds are fixed by `(int)roundf(·)`, so for such parameters `MsgOKPort`
    bounds the emitted integer by min and max themselves -/
example : exact.toInt (exact.roundf (127 : Rat)) = 127 ∧ exact.toInt (exact.roundf (-64 : Rat)) = -64 := by
  decide +kernel

def exPortF : PortInfo Rat :=
  { hasF := true, hasT := false, min := some (-1), max := some 10, logmin := none,
    scaleLog := false, internal := false, noLearn := false }
def exPortI : PortInfo Rat :=
  { hasF := false, hasT := false, min := some 0, max := some 127, logmin := none,
    scaleLog := false, internal := false, noLearn := false }

/-- the F16 witness: two learn requests, an unrelated clearSlot, then two unbound CCs; then the
    second controller again (bound by then), a gain change and a slot value -/
def exHistory : List (Op Rat) :=
  [.bind 0 [47, 112, 97] (some exPortI) true, .bind 1 [47, 112, 98] (some exPortF) true,
   .clearSlot 2, .midi 0 7 64, .midi 0 8 127, .midi 0 8 0, .gain 1 0 50, .setSlot 1 (1/2)]

example : ∀ op ∈ exHistory, OpWF exact op := by
  intro op hop
  simp only [exHistory, List.mem_cons, List.not_mem_nil, or_false] at hop
  rcases hop with rfl | rfl | rfl | rfl | rfl | rfl | rfl | rfl <;> simp only [OpWF] <;> try decide
  · exact ⟨by decide, fun p hp => by
      cases hp; exact portWF_of_bounds _ _ 0 127 (by decide) rfl rfl (by decide) (by intro l hl; cases hl)
        (by intro h; cases h)⟩
  · exact ⟨by decide, fun p hp => by
      cases hp; exact portWF_of_bounds _ _ (-1) 10 (by decide) rfl rfl (by decide) (by intro l hl; cases hl)
        (by intro h; cases h)⟩

/-- after the clear both requests are still numbered 1, 2 (the unrepaired code gives 0, 1);
    the two controllers are then learned in request order and the second one drives slot 1 -/
example : (run exact (Mgr.init exact 3 2) (exHistory.take 3)).map (fun r => keys r.1) =
    some [(1, -1, -1), (2, -1, -1), (-1, -1, -1)] := by decide +kernel
example : (run exact (Mgr.init exact 3 2) (exHistory.take 5)).map (fun r => keys r.1) =
    some [(-1, 7, -1), (-1, 8, -1), (-1, -1, -1)] := by decide +kernel
example : (run exact (Mgr.init exact 3 2) exHistory).map
      (fun r => r.2.map (fun ms => ms.map (fun msg => (msg.addr, msg.ty)))) =
    some [[], [], [], [([47, 112, 97], 'i')], [([47, 112, 98], 'f')], [([47, 112, 98], 'f')], [],
          [([47, 112, 98], 'f')]] := by decide +kernel

/-- the binding table after the history: slot 0 sub 0 is bound to /pa, slot 1 sub 0 to /pb,
    nothing else is bound (the clearSlot of slot 2, the learning and the gain change nothing) -/
example : (run exact (Mgr.init exact 3 2) exHistory).map
      (fun r => (boundsOf r.1).map (fun row => row.map (fun b => b.map (·.1)))) =
    some [[some [47, 112, 97], none], [some [47, 112, 98], none], [none, none]] := by decide +kernel

/-- `MsgOKPort` is satisfiable and says what one expects: 64 may be sent to the integer
    parameter 0..127 under its own address … -/
example : MsgOKPort exact [47, 112, 97] exPortI { addr := [47, 112, 97], ty := 'i', val := .int 64 } :=
  ⟨rfl, 0, 127, by decide +kernel, Or.inl ⟨by decide, rfl, rfl, 64, rfl, by decide +kernel, by decide +kernel⟩⟩

/-- … but neither 128, nor a float, nor another address -/
example : ¬ MsgOKPort exact [47, 112, 97] exPortI { addr := [47, 112, 97], ty := 'i', val := .int 128 } := by
  rintro ⟨_, lo, hi, hr, h⟩
  have e : portRange exact exPortI = some (0, 127) := by decide +kernel
  rw [e] at hr
  cases hr
  rcases h with ⟨_, _, _, n, hn, _, h2⟩ | ⟨_, h, _⟩ | ⟨h, _⟩ | ⟨h, _⟩ | ⟨h, _⟩
  · cases hn
    have : exact.toInt (exact.roundf (127 : Rat)) = 127 := by decide +kernel
    rw [this] at h2
    omega
  · exact absurd h (by decide)
  · exact absurd h (by decide)
  · exact absurd h (by decide)
  · exact absurd h (by decide)

example : ¬ MsgOKPort exact [47, 112, 97] exPortI { addr := [47, 112, 98], ty := 'i', val := .int 64 } := by
  rintro ⟨h, _⟩; exact absurd h (by decide)

/-- float port declared 1..100 with a logarithmic scale -/
def exPortLog : PortInfo Rat :=
  { hasF := true, hasT := false, min := some 1, max := some 100, logmin := none,
    scaleLog := true, internal := false, noLearn := false }

/-- the hypotheses of `default_gain_log` are satisfiable: the decade logarithm is monotone,
    the port is well-formed (its lower bound is positive), binding it in a fresh manager gives
    a reachable state with a used automation at gain 100 / offset 0 bound to that port -/
example : (∀ a b : Rat, 0 < a → a ≤ b → lg10 a ≤ lg10 b) ∧ PortWF (exactLog lg10 ex10) exPortLog ∧
    ∃ (m : Mgr Rat) (sl : Slot Rat) (au : Automation Rat),
      Reachable (exactLog lg10 ex10) 1 1 m ∧ sl ∈ m.slots ∧ au ∈ sl.autos ∧ au.used = true ∧
      au.gain = 100 ∧ au.offset = 0 ∧ au.bound = some ([47, 112], exPortLog) ∧ exPortLog.scaleLog = true := by
  have hw : PortWF (exactLog lg10 ex10) exPortLog :=
    portWF_of_bounds _ _ 1 100 (by decide) rfl rfl (by decide) (by intro l hl; cases hl) (fun _ => by decide)
  obtain ⟨m, sl, au, hr, hsl, hau, hu, hg, ho, hb⟩ := bind_fresh_reachable _ [47, 112] exPortLog 1 100 hw (by decide) rfl rfl rfl rfl rfl
  exact ⟨fun a b _ h => lg10_mono a b h, hw, m, sl, au, hr, hsl, hau, hu, hg, ho, hb, rfl⟩

/-- … and the map is the logarithmic one: slot values 0, 1/2, 1 send 1, 10 (the geometric
    mean of the bounds), 100 -/
example : (run (exactLog lg10 ex10) (Mgr.init (exactLog lg10 ex10) 1 1)
      [.bind 0 [47, 112] (some exPortLog) false, .setSub 0 0 0, .setSub 0 0 (1/2), .setSub 0 0 1]).map
        (fun r => r.2.map (fun ms => ms.map Msg.ratVal)) = some [[], [some 1], [some 10], [some 100]] := by
  decide +kernel

example : logMsg lg10 ex10 [47, 112] 'f' 1 100 (1/2) =
    { addr := [47, 112], ty := 'f', val := .flt 10, expArg := some 1 } := by
  norm_num [logMsg, lg10, ex10, show ¬ ('f' = 'i') by decide]

/-- the table of libm's `logf` on the bounds 1 and 100 (`logf(100) = 0x40935d8e`) -/
def exLogTab : List (Rat × Rat) := [(1, 0), (100, 4828871 / 1048576)]

/-- the hypotheses of `default_gain_log_float_deviation` are satisfiable: the port 1..100 is
    well-formed for the float model and binding it gives a reachable state; and the bound is
    small: `86·2⁻²⁴·(logf(100) + 2⁻¹²⁶) < 2.4e-5` -/
example : (∃ (m : Mgr Rat) (sl : Slot Rat) (au : Automation Rat),
      Reachable (IEEE.ieee exLogTab) 1 1 m ∧ sl ∈ m.slots ∧ au ∈ sl.autos ∧ au.used = true ∧
      au.gain = 100 ∧ au.offset = 0 ∧ au.bound = some ([47, 112], exPortLog) ∧ exPortLog.scaleLog = true) ∧
    86 * IEEE.u32 * (max |IEEE.logOfTable exLogTab 1| |IEEE.logOfTable exLogTab 100| + IEEE.tiny) < 24 / 1000000 := by
  have hw : PortWF (IEEE.ieee exLogTab) exPortLog :=
    portWF_of_bounds _ _ 1 100 (by decide) rfl rfl (by decide) (by intro l hl; cases hl)
      (fun _ => by decide +kernel)
  refine ⟨?_, ?_⟩
  · obtain ⟨m, sl, au, hr, hsl, hau, hu, hg, ho, hb⟩ := bind_fresh_reachable _ [47, 112] exPortLog 1 100 hw (by decide) rfl rfl rfl rfl rfl
    exact ⟨m, sl, au, hr, hsl, hau, hu, hg, ho, hb, rfl⟩
  · decide +kernel

/-- float port declared 1..100 with a logarithmic scale, over the reals -/
noncomputable def exPortLogReal : PortInfo ℝ :=
  { hasF := true, hasT := false, min := some 1, max := some 100, logmin := none,
    scaleLog := true, internal := false, noLearn := false }

/-- the hypotheses of `default_gain_log_real` are satisfiable -/
example : ∃ (m : Mgr ℝ) (sl : Slot ℝ) (au : Automation ℝ),
      Reachable realArith 1 1 m ∧ sl ∈ m.slots ∧ au ∈ sl.autos ∧ au.used = true ∧
      au.gain = 100 ∧ au.offset = 0 ∧ au.bound = some ([47, 112], exPortLogReal) ∧
      exPortLogReal.scaleLog = true := by
  have hw : PortWF realArith exPortLogReal :=
    portWF_of_bounds _ _ 1 100 (by decide) rfl rfl (decide_eq_true (by norm_num)) (by intro l hl; cases hl)
      (fun _ => decide_eq_false (by norm_num [exPortLogReal, realArith]))
  obtain ⟨m, sl, au, hr, hsl, hau, hu, hg, ho, hb⟩ := bind_fresh_reachable _ [47, 112] exPortLogReal 1 100 hw (by decide) rfl rfl rfl rfl rfl
  exact ⟨m, sl, au, hr, hsl, hau, hu, hg, ho, hb, rfl⟩

/-- slot 0 and slot 1 ask for learning; the NRPN sequence 99=1, 98=2, 6=3, 38=4 teaches slot 0
    (the oldest request) the NRPN 1*128+2 = 130; a plain CC then teaches slot 1 -/
example : (run exact (Mgr.init exact 2 1)
      [.bind 0 [47, 112, 97] (some exPortI) true, .bind 1 [47, 112, 98] (some exPortF) true,
       .midi 0 99 1, .midi 0 98 2, .midi 0 6 3, .midi 0 38 4, .midi 0 7 64]).map (fun r => keys r.1) =
    some [(-1, -1, 130), (-1, 7, -1)] := by decide +kernel

/-- the hypotheses of `unbound_nrpn_sequence_serves_head` are satisfiable: after the two
    requests the state refines the queue [0, 1] and no slot is bound to NRPN 130 -/
example : ∃ m : Mgr Rat, (run exact (Mgr.init exact 2 1)
      [.bind 0 [47, 112, 97] (some exPortI) true, .bind 1 [47, 112, 98] (some exPortF) true]).map (·.1) = some m ∧
    Refines m [0, 1] ∧ isBoundTo m true 130 = false := by
  have hk : (run exact (Mgr.init exact 2 1)
      [.bind 0 [47, 112, 97] (some exPortI) true, .bind 1 [47, 112, 98] (some exPortF) true]).map
        (fun r => (keys r.1, r.1.learnLen, isBoundTo r.1 true 130)) =
      some ([(1, -1, -1), (2, -1, -1)], 2, false) := by decide +kernel
  cases hrun : run exact (Mgr.init exact 2 1)
      [.bind 0 [47, 112, 97] (some exPortI) true, .bind 1 [47, 112, 98] (some exPortF) true] with
  | none => simp [hrun] at hk
  | some r =>
    simp only [hrun, Option.map_some, Option.some.injEq, Prod.mk.injEq] at hk
    obtain ⟨hk, hl, hb⟩ := hk
    refine ⟨r.1, rfl, ?_, hb⟩
    unfold Refines
    rw [hk, hl]
    refine ⟨by decide, by decide, rfl, fun i k h => ?_⟩
    match i, h with
    | 0, h => cases h; rfl
    | 1, h => cases h; rfl

end Rtosc.Auto
