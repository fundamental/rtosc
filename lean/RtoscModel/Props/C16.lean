/-
  C16 — Argument-value comparison is a coherent order, blind to range compression.
  Property theorems only; helper lemmas live in Proofs/ArgValOrder.lean and Proofs/ArgValBridge.lean; the words of the statements that are not part of the model (`Val.ok`, `lexI`,
  `AllDenote`, `msgOf`, `noNullTop`, `Val.payload`) are defined in RtoscModel/ArgVal/CmpSpec.lean.

  Reading of the statement.  An argument list is given as a structured list `s : List Item`
  (plain values, arrays of any nesting, `N x value`, `start … end` with a delta) of any length;
  the C functions see its memory layout `flatList s` with `size = (flatList s).length`.
  `expandList s = some vs` says that `s` denotes the value list `vs`: all ranges are finite
  (`num ≥ 1`), their arithmetic `start + i·delta` (wrapping int32/int64, exact float/double
  arithmetic, `rangeVal`) is defined, and a repeated value is a plain value or an array.
  `Val.noNaNList vs` excludes NaN.  `fuel` is the model's recursion bound; `fuelFor` always suffices.
  The model is the code with fixes C16-blob-prefix, C16-array-type, C16-itr-repeated-array,
  C01-avmessage and C10-10-argval-math-wrap applied.  Only the sign of `cmp` is specified (`memcmp`/`strcmp` by sign).
  The comparison options are not modelled: the model is the comparison with `opt == NULL`
  (`float_tolerance` 0.0); the correspondence check also passes the default options explicitly and
  requires the same results.  `Val.cmpList` takes over from the code also the orders the property does
  not state (MIDI, values of different types, NULL strings, array element types).
-/
import RtoscModel.Proofs.ArgValBridge
namespace Rtosc.ArgVal
open Rtosc

/-- **cmp_lexicographic** (the bridge all other clauses rest on): on every pair of lists the C
    three-way comparison of the flat layouts is the lexicographic order `Val.cmpList` of the
    denoted values — first differing value decides, a proper prefix is smaller, arrays compare
    by element type ('T' ≙ 'F') and then by content. -/
theorem cmp_lexicographic (s t : List Item) (vs vt : List Val)
    (hs : expandList s = some vs) (ht : expandList t = some vt)
    (fuel : Nat) (hf : fuelFor vs vt ≤ fuel) :
    cmp fuel (flatList s) (flatList t) (flatList s).length (flatList t).length
      = .ok (Val.cmpList vs vt) :=
  cmp_flat_spec s t vs vt hs ht fuel hf

/-- **eq_spec**: the equality test computes "the order says equal" (the `eq` half of
    `cmp_zero_iff_eq`, for every pair of lists, NaN or not). -/
theorem eq_spec (s t : List Item) (vs vt : List Val)
    (hs : expandList s = some vs) (ht : expandList t = some vt)
    (fuel : Nat) (hf : fuelFor vs vt ≤ fuel) :
    eq fuel (flatList s) (flatList t) (flatList s).length (flatList t).length
      = .ok (decide (Val.cmpList vs vt = 0)) := by
  have := (eq_bridge fuel).1 s t [] [] vs vt hs ht hf
  simpa using this

/-- **cmp_refl**: every list compares equal to itself. -/
theorem cmp_refl (s : List Item) (vs : List Val) (hs : expandList s = some vs)
    (hn : Val.noNaNList vs = true) (fuel : Nat) (hf : fuelFor vs vs ≤ fuel) :
    cmp fuel (flatList s) (flatList s) (flatList s).length (flatList s).length = .ok 0 := by
  rw [cmp_lexicographic s s vs vs hs hs fuel hf, Val.cmpList_refl vs (okList_of_expand hs hn)]

/-- **cmp_antisymm**: `sign (cmp a b) = − sign (cmp b a)` (both calls return, with a sign in
    {-1, 0, 1}). -/
theorem cmp_antisymm (s t : List Item) (vs vt : List Val)
    (hs : expandList s = some vs) (ht : expandList t = some vt)
    (hns : Val.noNaNList vs = true) (hnt : Val.noNaNList vt = true)
    (fuel : Nat) (hf1 : fuelFor vs vt ≤ fuel) (hf2 : fuelFor vt vs ≤ fuel) :
    ∃ a b : Int,
      cmp fuel (flatList s) (flatList t) (flatList s).length (flatList t).length = .ok a ∧
      cmp fuel (flatList t) (flatList s) (flatList t).length (flatList s).length = .ok b ∧
      Int.sign a = - Int.sign b ∧ (a = -1 ∨ a = 0 ∨ a = 1) := by
  refine ⟨_, _, cmp_lexicographic s t vs vt hs ht fuel hf1, cmp_lexicographic t s vt vs ht hs fuel hf2, ?_,
    Val.cmpList_range vs vt (okList_of_expand hs hns) (okList_of_expand ht hnt)⟩
  rw [Val.cmpList_antisymm vs vt (okList_of_expand hs hns) (okList_of_expand ht hnt)]
  simp

/-- **cmp_trans**: `a ≤ b` and `b ≤ c` give `a ≤ c`; if one of the two is strict, `a < c`. -/
theorem cmp_trans (s t u : List Item) (vs vt vu : List Val)
    (hs : expandList s = some vs) (ht : expandList t = some vt) (hu : expandList u = some vu)
    (hns : Val.noNaNList vs = true) (hnt : Val.noNaNList vt = true) (hnu : Val.noNaNList vu = true)
    (fuel : Nat) (hf1 : fuelFor vs vt ≤ fuel) (hf2 : fuelFor vt vu ≤ fuel) (hf3 : fuelFor vs vu ≤ fuel) :
    ∃ ab bc ac : Int,
      cmp fuel (flatList s) (flatList t) (flatList s).length (flatList t).length = .ok ab ∧
      cmp fuel (flatList t) (flatList u) (flatList t).length (flatList u).length = .ok bc ∧
      cmp fuel (flatList s) (flatList u) (flatList s).length (flatList u).length = .ok ac ∧
      (ab ≤ 0 → bc ≤ 0 → ac ≤ 0) ∧ (ab ≤ 0 → bc ≤ 0 → (ab < 0 ∨ bc < 0) → ac < 0) := by
  have os := okList_of_expand hs hns
  have ot := okList_of_expand ht hnt
  have ou := okList_of_expand hu hnu
  refine ⟨_, _, _, cmp_lexicographic s t vs vt hs ht fuel hf1, cmp_lexicographic t u vt vu ht hu fuel hf2,
    cmp_lexicographic s u vs vu hs hu fuel hf3,
    fun h1 h2 => (Val.cmpList_chain vs vt vu os ot ou h1 h2).1, ?_⟩
  intro h1 h2 h3
  obtain ⟨h4, h0⟩ := Val.cmpList_chain vs vt vu os ot ou h1 h2
  omega

/-- **cmp_zero_iff_eq**: the three-way comparison returns 0 exactly when the equality test
    reports equal. -/
theorem cmp_zero_iff_eq (s t : List Item) (vs vt : List Val)
    (hs : expandList s = some vs) (ht : expandList t = some vt)
    (fuel : Nat) (hf : fuelFor vs vt ≤ fuel) :
    ∃ (e : Bool) (c : Int),
      eq fuel (flatList s) (flatList t) (flatList s).length (flatList t).length = .ok e ∧
      cmp fuel (flatList s) (flatList t) (flatList s).length (flatList t).length = .ok c ∧
      (e = true ↔ c = 0) :=
  ⟨_, _, eq_spec s t vs vt hs ht fuel hf, cmp_lexicographic s t vs vt hs ht fuel hf, by simp⟩

/-- **orders_as_documented**: numbers are ordered numerically, strings lexicographically
    (`lexCmp` on the bytes up to the terminator, unsigned), blobs bytewise with a proper prefix
    first (whatever the next byte is), the time tag 1 ("immediately") before every other
    time tag; floats/doubles by the IEEE order (`FFmt.key` is the monotone map of non-NaN
    patterns into the integers, `-0 = +0`). -/
theorem orders_as_documented (fuel : Nat) (hf : 4 ≤ fuel) :
    (∀ ty x y, cmp fuel [.int ty x] [.int ty y] 1 1 = .ok (cmp3 x y)) ∧
    (∀ x y, cmp fuel [.huge x] [.huge y] 1 1 = .ok (cmp3 x y)) ∧
    (∀ x y, f32.isNaN x.toNat = false → f32.isNaN y.toNat = false →
      cmp fuel [.flt x] [.flt y] 1 1 = .ok (cmp3 (f32.key x.toNat) (f32.key y.toNat))) ∧
    (∀ x y, f64.isNaN x.toNat = false → f64.isNaN y.toNat = false →
      cmp fuel [.dbl x] [.dbl y] 1 1 = .ok (cmp3 (f64.key x.toNat) (f64.key y.toNat))) ∧
    (∀ ty x y, cmp fuel [.str ty (some x)] [.str ty (some y)] 1 1 = .ok (lexCmp (cstrOf x) (cstrOf y))) ∧
    (∀ x y, cmp fuel [.blob x] [.blob y] 1 1 = .ok (lexCmp x y)) ∧
    (∀ x b r, cmp fuel [.blob x] [.blob (x ++ b :: r)] 1 1 = .ok (-1) ∧
              cmp fuel [.blob (x ++ b :: r)] [.blob x] 1 1 = .ok 1) ∧
    (∀ y, y ≠ 1 → cmp fuel [.time 1] [.time y] 1 1 = .ok (-1) ∧
                  cmp fuel [.time y] [.time 1] 1 1 = .ok 1) ∧
    (∀ x y, x ≠ 1 → y ≠ 1 → cmp fuel [.time x] [.time y] 1 1 = .ok (cmp3 x y)) := by
  refine ⟨?_, ?_, ?_, ?_, ?_, ?_, ?_, ?_, ?_⟩
  · intro ty x y; rw [cmp_single_value _ _ rfl rfl fuel hf]; simp [cmpScalar, Cell.type]
  · intro x y; rw [cmp_single_value _ _ rfl rfl fuel hf]; simp [cmpScalar, Cell.type]
  · intro x y hx hy
    rw [cmp_single_value _ _ rfl rfl fuel hf]
    simp [cmpScalar, Cell.type, fcmp3_key f32 _ _ hx hy, cmp3_lexI]
  · intro x y hx hy
    rw [cmp_single_value _ _ rfl rfl fuel hf]
    simp [cmpScalar, Cell.type, fcmp3_key f64 _ _ hx hy, cmp3_lexI]
  · intro ty x y; rw [cmp_single_value _ _ rfl rfl fuel hf]; simp [cmpScalar, Cell.type, strcmpS]
  · intro x y; rw [cmp_single_value _ _ rfl rfl fuel hf]; simp [cmpScalar, Cell.type, blobCmp_eq]
  · intro x b r
    rw [cmp_single_value _ _ rfl rfl fuel hf, cmp_single_value _ _ rfl rfl fuel hf]
    simp [cmpScalar, Cell.type, blobCmp_eq, lexCmp_prefix]
  · intro y hy
    rw [cmp_single_value _ _ rfl rfl fuel hf, cmp_single_value _ _ rfl rfl fuel hf]
    simp [cmpScalar, Cell.type, hy]
  · intro x y hx hy
    rw [cmp_single_value _ _ rfl rfl fuel hf]
    simp [cmpScalar, Cell.type, hx, hy]

/-- **compress_blind**: two layouts `s`, `s'` of the same value list (any choice of `N x value`
    and delta ranges over its runs, at any nesting depth) are indistinguishable: equality and
    order against every third list in both directions, what iteration yields, and the OSC
    message `rtosc_avmessage` builds are the same; and, when no value is a NaN, the two layouts
    compare equal. -/
theorem compress_blind (s s' t : List Item) (vs vt : List Val)
    (hs : expandList s = some vs) (hs' : expandList s' = some vs) (ht : expandList t = some vt)
    (fuel : Nat) (hf1 : fuelFor vs vt ≤ fuel) (hf2 : fuelFor vt vs ≤ fuel) (hf3 : fuelFor vs vs ≤ fuel)
    (buffer : Option Bytes) (addr : Bytes) :
    cmp fuel (flatList s) (flatList t) (flatList s).length (flatList t).length
      = cmp fuel (flatList s') (flatList t) (flatList s').length (flatList t).length ∧
    cmp fuel (flatList t) (flatList s) (flatList t).length (flatList s).length
      = cmp fuel (flatList t) (flatList s') (flatList t).length (flatList s').length ∧
    eq fuel (flatList s) (flatList t) (flatList s).length (flatList t).length
      = eq fuel (flatList s') (flatList t) (flatList s').length (flatList t).length ∧
    eq fuel (flatList t) (flatList s) (flatList t).length (flatList s).length
      = eq fuel (flatList t) (flatList s') (flatList t).length (flatList s').length ∧
    (∃ ps ps', iterate fuel (Itr.init (flatList s)) (flatList s).length = .ok ps ∧
               iterate fuel (Itr.init (flatList s')) (flatList s').length = .ok ps' ∧
               AllDenote ps vs ∧ AllDenote ps' vs) ∧
    avmessage fuel buffer addr (flatList s).length (flatList s)
      = avmessage fuel buffer addr (flatList s').length (flatList s') ∧
    (Val.noNaNList vs = true →
      cmp fuel (flatList s) (flatList s') (flatList s).length (flatList s').length = .ok 0 ∧
      eq fuel (flatList s) (flatList s') (flatList s).length (flatList s').length = .ok true) := by
  have hlen : vs.length + 1 ≤ fuel := by
    have := length_le_sizeList vs; simp only [fuelFor] at hf3; omega
  refine ⟨?_, ?_, ?_, ?_, ?_, ?_, ?_⟩
  · rw [cmp_lexicographic s t vs vt hs ht fuel hf1, cmp_lexicographic s' t vs vt hs' ht fuel hf1]
  · rw [cmp_lexicographic t s vt vs ht hs fuel hf2, cmp_lexicographic t s' vt vs ht hs' fuel hf2]
  · rw [eq_spec s t vs vt hs ht fuel hf1, eq_spec s' t vs vt hs' ht fuel hf1]
  · rw [eq_spec t s vt vs ht hs fuel hf2, eq_spec t s' vt vs ht hs' fuel hf2]
  · have c1 := cur_init s [] vs hs
    have c2 := cur_init s' [] vs hs'
    simp only [List.append_nil] at c1 c2
    obtain ⟨ps, h1, d1⟩ := iterate_cur vs fuel _ _ c1 hlen
    obtain ⟨ps', h2, d2⟩ := iterate_cur vs fuel _ _ c2 hlen
    exact ⟨ps, ps', h1, h2, d1, d2⟩
  · rw [avmessage_bridge s vs hs fuel hlen, avmessage_bridge s' vs hs' fuel hlen]
  · intro hn
    have o := okList_of_expand hs hn
    rw [cmp_lexicographic s s' vs vs hs hs' fuel hf3, eq_spec s s' vs vs hs hs' fuel hf3,
      Val.cmpList_refl vs o]
    simp

/-- **compress_const_run**: replacing a run of `n` equal values (plain or array) anywhere in a
    list by `n x value` does not change what the list denotes (so `compress_blind` applies);
    `expandList_arr_congr` carries this into arrays. -/
theorem compress_const_run (pre post : List Item) (n : Nat) (hn : 1 ≤ n) (x : Item)
    (hx : (∃ c, x = .val c) ∨ (∃ ety es, x = .arr ety es)) :
    expandList (pre ++ List.replicate n x ++ post) = expandList (pre ++ [.rep n x] ++ post) := by
  have key : expandList (List.replicate n x) = expandList [.rep n x] := by
    have hnone : x.expand = none → expandList (List.replicate n x) = none := by
      intro h
      cases n with
      | zero => omega
      | succ m => simp [List.replicate_succ, expandList, h]
    rcases hx with ⟨c, rfl⟩ | ⟨ety, es, rfl⟩
    · by_cases hc : c.isScalar = true
      · rw [expandList_replicate_gen _ [.sc c] (by simp [Item.expand, hc]) n]
        simp [expandList, Item.expand, hn, hc]
      · rw [hnone (by simp [Item.expand, hc])]; simp [expandList, Item.expand, hc]
    · cases he : expandList es with
      | none => rw [hnone (by simp [Item.expand, he])]; simp [expandList, Item.expand, he]
      | some ves =>
        rw [expandList_replicate_gen _ [.arr ety ves] (by simp [Item.expand, he]) n]
        simp [expandList, Item.expand, hn, he]
  simp only [expandList_append, key]

/-- **compress_arith_run**: replacing a run `v 0, …, v (n-1)` with `v i = start + i·delta`
    anywhere in a list by the delta range does not change what the list denotes. -/
theorem compress_arith_run (pre post : List Item) (n : Nat) (hn : 1 ≤ n) (d s : Cell) (v : Nat → Cell)
    (hd : d.isScalar = true) (hs : s.isScalar = true) (hv : ∀ i, i < n → rangeVal d s i = .ok (v i)) :
    expandList (pre ++ (List.range n).map (fun i => .val (v i)) ++ post)
      = expandList (pre ++ [.range n d s] ++ post) := by
  have hvals : rangeVals d s 0 n = some ((List.range' 0 n).map fun j => .sc (v j)) :=
    rangeVals_of_rangeVal d s v n 0 fun k _ hk => hv k (by omega)
  have hplain : ∀ (m i : Nat), i + m ≤ n →
      expandList ((List.range' i m).map fun j => Item.val (v j))
        = some ((List.range' i m).map fun j => .sc (v j)) := by
    intro m
    induction m with
    | zero => intro i _; simp [expandList]
    | succ m ih =>
      intro i him
      have hsc : (v i).isScalar = true := rangeVal_scalar (hv i (by omega))
      simp [List.range'_succ, expandList, Item.expand, hsc, ih (i + 1) (by omega)]
  have key : expandList ((List.range n).map fun i => Item.val (v i)) = expandList [.range n d s] := by
    rw [List.range_eq_range', hplain n 0 (by omega)]
    simp [expandList, Item.expand, hn, hd, hs, hvals]
  simp only [expandList_append, key]

/-- compression inside an array: equal denotations of the contents give equal denotations of
    the arrays (whatever their `len` fields are) -/
theorem expandList_arr_congr (ety : UInt8) (es es' : List Item) (h : expandList es = expandList es') :
    expandList [.arr ety es] = expandList [.arr ety es'] := by
  simp [expandList, Item.expand, h]

/-! ### Non-vacuity: concrete lists with arrays, `N x` ranges, delta ranges (also inside an array)
    satisfy the hypotheses, and the conclusions evaluate as stated. -/

/-- `1 2 3 4 5  [T F F]  "ab" "ab"  [1.0 1.5]` written with ranges -/
def exS : List Item :=
  [.range 5 (.int .i 1) (.int .i 1), .arr 70 [.val (.flag .T), .rep 2 (.val (.flag .F))],
   .rep 2 (.val (.str .s (some [97, 98]))), .arr 102 [.range 2 (.flt 0x3f000000) (.flt 0x3f800000)]]
/-- the same list written out -/
def exS' : List Item :=
  [.val (.int .i 1), .val (.int .i 2), .range 3 (.int .i 1) (.int .i 3),
   .arr 70 [.val (.flag .T), .val (.flag .F), .val (.flag .F)],
   .val (.str .s (some [97, 98])), .val (.str .s (some [97, 98])),
   .arr 102 [.val (.flt 0x3f800000), .val (.flt 0x3fc00000)]]
/-- a list that differs in the last array -/
def exT : List Item :=
  [.range 5 (.int .i 1) (.int .i 1), .arr 84 [.val (.flag .T), .rep 2 (.val (.flag .F))],
   .rep 2 (.val (.str .s (some [97, 98]))), .arr 102 [.val (.flt 0x3f800000)]]
def exV : List Val :=
  [.sc (.int .i 1), .sc (.int .i 2), .sc (.int .i 3), .sc (.int .i 4), .sc (.int .i 5),
   .arr 70 [.sc (.flag .T), .sc (.flag .F), .sc (.flag .F)],
   .sc (.str .s (some [97, 98])), .sc (.str .s (some [97, 98])),
   .arr 102 [.sc (.flt 0x3f800000), .sc (.flt 0x3fc00000)]]

example : expandList exS = some exV := by rfl
example : expandList exS' = some exV := by rfl
example : expandList exT ≠ none := by decide +kernel
example : Val.noNaNList exV = true := by decide +kernel
example : fuelFor exV exV ≤ 40 := by decide +kernel
example : (flatList exS).length = 13 ∧ (flatList exS').length = 14 ∧ (flatList exT).length = 11 := by decide +kernel
-- the conclusions, evaluated on the model
example : cmp 40 (flatList exS) (flatList exS') 13 14 = .ok 0 := by decide +kernel
example : eq 40 (flatList exS) (flatList exS') 13 14 = .ok true := by decide +kernel
example : cmp 40 (flatList exT) (flatList exS) 11 13 = .ok (-1) := by decide +kernel
example : cmp 40 (flatList exS') (flatList exT) 14 11 = .ok 1 := by decide +kernel
example : eq 40 (flatList exS') (flatList exT) 14 11 = .ok false := by decide +kernel
-- the witnesses of the repaired defects
example : cmp 40 [.blob [1, 2]] [.blob [1, 2, 0]] 1 1 = .ok (-1) := by decide +kernel
example : cmp 40 [.blob [1, 2, 0]] [.blob [1, 2]] 1 1 = .ok 1 := by decide +kernel
example : cmp 40 [.arr 84 0] [.arr 105 0] 1 1 = .ok (-1) ∧ cmp 40 [.arr 105 0] [.arr 84 0] 1 1 = .ok 1 := by
  decide +kernel
-- hypothesis `hv` of compress_arith_run for the first item of `exS`
example : ∀ i, i < 5 → rangeVal (.int .i 1) (.int .i 1) i = .ok (.int .i ((i : Int) + 1)) := by decide +kernel

/-! ### What "arithmetic run" means, and what the message is -/

/-- **range_arith_int**: the `n`-th value of an integer range is `start + n·delta`, computed in
    wrapping `int32_t` ('i', 'c') / `int64_t` ('h') arithmetic — and exactly `start + n·delta`
    when neither the product nor the sum leaves the type. -/
theorem range_arith_int (n : Nat) :
    (∀ d s, rangeVal (.int .i d) (.int .i s) n = .ok (.int .i (wrapI32 (s + wrapI32 (n * d))))) ∧
    (∀ d s, rangeVal (.int .c d) (.int .c s) n = .ok (.int .c (wrapI32 (s + wrapI32 (n * d))))) ∧
    (∀ d s, rangeVal (.huge d) (.huge s) n = .ok (.huge (wrapI64 (s + wrapI64 (n * d))))) ∧
    (∀ d s : Int, -2147483648 ≤ n * d → n * d < 2147483648 → -2147483648 ≤ s + n * d → s + n * d < 2147483648 →
      wrapI32 (s + wrapI32 (n * d)) = s + n * d) ∧
    (∀ d s : Int, -9223372036854775808 ≤ n * d → n * d < 9223372036854775808 →
      -9223372036854775808 ≤ s + n * d → s + n * d < 9223372036854775808 →
      wrapI64 (s + wrapI64 (n * d)) = s + n * d) := by
  exact ⟨fun _ _ => rfl, fun _ _ => rfl, fun _ _ => rfl,
    fun d s h1 h2 h3 h4 => by rw [wrapI32_id h1 h2, wrapI32_id h3 h4],
    fun d s h1 h2 h3 h4 => by rw [wrapI64_id h1 h2, wrapI64_id h3 h4]⟩

/-- **range_arith_float**: the `n`-th value of a float / double range is
    `start ⊕ (float(n) ⊗ delta)` with one IEEE rounding per operation (`Float.lean`; `none` = a NaN
    operand, which the property excludes). -/
theorem range_arith_float (n : Nat) :
    (∀ d s : UInt32, rangeVal (.flt d) (.flt s) n =
      match f32.mul (UInt32.ofNat (f32.ofInt n)).toNat d.toNat with
      | none => .error .nan
      | some m => fop32 (f32.add s.toNat (UInt32.ofNat m).toNat)) ∧
    (∀ d s : UInt64, rangeVal (.dbl d) (.dbl s) n =
      match f64.mul (UInt64.ofNat (f64.ofInt n)).toNat d.toNat with
      | none => .error .nan
      | some m => fop64 (f64.add s.toNat (UInt64.ofNat m).toNat)) := by
  refine ⟨?_, ?_⟩
  · intro d s
    unfold rangeVal fromInt mult
    simp only [Cell.type, ne_eq, not_true_eq_false, if_false]
    cases h : f32.mul (UInt32.ofNat (f32.ofInt n)).toNat d.toNat <;> simp [fop32, add, Cell.type]
  · intro d s
    unfold rangeVal fromInt mult
    simp only [Cell.type, ne_eq, not_true_eq_false, if_false]
    cases h : f64.mul (UInt64.ofNat (f64.ofInt n)).toNat d.toNat <;> simp [fop64, add, Cell.type]

/-- **range_arith_bool**: a boolean range `start, start xor delta, start xor delta, …`. -/
theorem range_arith_bool (n : Nat) (d s : FlagTy) (hd : d = .T ∨ d = .F) (hs : s = .T ∨ s = .F) :
    rangeVal (.flag d) (.flag s) n =
      .ok (.flag (if (s = .T) ≠ (n ≠ 0 ∧ d = .T) then .T else .F)) := by
  rcases hd with rfl | rfl <;> rcases hs with rfl | rfl <;> by_cases h : n = 0 <;>
    simp [rangeVal, fromInt, mult, add, Cell.type, FlagTy.char, h]

/-- **avmessage_of_values**: when the denoted list holds no NULL string at top level,
    `rtosc_avmessage` on *any* layout of it returns what `rtosc_amessage` (C01's model) builds from one
    type character per denoted top-level value and one `rtosc_arg_t` per value that carries a payload
    (an array contributes its `'a'` character only) — so the message clause of `compress_blind` is an
    equation between defined results, not between two failures. -/
theorem avmessage_of_values (s : List Item) (vs : List Val) (hs : expandList s = some vs)
    (hn : noNullTop vs = true) (fuel : Nat) (hf : vs.length + 1 ≤ fuel) (buffer : Option Bytes) (addr : Bytes) :
    avmessage fuel buffer addr (flatList s).length (flatList s)
      = .ok (Osc.amessage buffer addr (vs.map fun v => v.head.type) (vs.flatMap Val.payload)) := by
  rw [avmessage_bridge s vs hs fuel hf]
  simp [msgOf, msgArgs_defined vs (expandList_leaves s vs hs) hn, bind, Except.bind, pure, Except.pure]

example : noNullTop exV = true := by decide +kernel
example : rangeVal (.int .c 1) (.int .c 0) 199 = .ok (.int .c 199) := by decide +kernel
example : rangeVal (.huge 5000000000) (.huge (-5000000000)) 2 = .ok (.huge 5000000000) := by decide +kernel
example : rangeVal (.int .i 2147483647) (.int .i 1) 3 = .ok (.int .i 2147483646) := by decide +kernel

end Rtosc.ArgVal
