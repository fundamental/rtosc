/-
  C04 — Dispatch delivers a message to exactly the port it addresses.
  Property theorems only; models in Ports/{Tree,Hash,Dispatch,Spec,Build,Sugar}.lean, the hypotheses and
  the other notions the statements are written in (`InScope`, `msgBuf`, `MkOK`, `semLoc`, `views`,
  `LocExact`, `SugarObj`, `MustAnswer`, …) in Ports/DispatchSpec.lean, helper lemmas in Proofs/Ports*.lean.

  Reading of the statement
  * "any port tree whose port names use literal text and `#N` enumerations": a `PPorts` /
    `PTable` — ports in table order, each with a structured name (`Pat` of C05: literal
    text, `#N`, optional trailing '/', optional `:types`), optionally a sub-table, every
    table with or without default handler — that is well formed (`PTable.WF`): names of
    the documented form without `{}` groups (any byte but NUL and the pattern syntax
    `# { * :`, also bytes >= 127: fixes/C04-06); a port with a sub-table
    is named `component/` (one component: the recursion callbacks cut exactly one,
    `SNIP`).  `PPorts.render` is the `Ports` object the code sees.  Tables of any size,
    nesting of any depth.
  * "a message": address `addr`, type string `tags` (C strings), laid out as
    `msgBuf addr tags k rest` (address, k+1 NULs, ",tags", NUL, rest of the buffer — any
    bytes, also none: nothing behind the type string's NUL is read, fixes/C05-args-overread);
    `mkMsg_msgBuf`: every message laid out by `rtosc_amessage` has this form.  Digit runs
    of the address are below 2^31 (as in C05) — `InScope`.
  * "invokes a port's callback": an entry of the callback log that `dispatch` returns
    (`Call`: who, the `msg` pointer, `d.loc`, `d.obj`, `d.port` as the callback sees them).
    Callbacks of ports with a sub-table behave like `rRecurCb`; for `rRecurpCb` / `rRecursCb` /
    `rRecurspCb` (ports `name#N/`: which array element is handed down) see
    `sugar_obj_handed_down`.
  * "its address matches that port's path at every level of the tree and its type tags
    are admitted": `AnswersRoot` (Ports/Spec.lean), built level by level from C05's
    `PathSpec` and the type rule of C05 (`TypesAdmit`: what the type matcher really does,
    `types_exact` of C05).  The default handler of a reached table in which no port admits
    the message counts as a callback (the quantifier includes tables with default handler).
    Independently of that rule the statement is also given in MUST / MAY / MUSTNOT form
    (`MustAnswer`, `MayAnswer`, Ports/DispatchSpec.lean), built from C05's two-sided
    statement only: a type string that is one of the listed alternatives MUST match, one
    that does not even extend a listed alternative MUST NOT (`dispatch_must_mustnot`,
    `dispatch_sandwich`).
  * "the table-lookup strategy the library picked": `mk`, the function that builds the
    lookup tables of a table from its names.  Everything is proved for every `mk` whose
    results satisfy `HashOK` when they are used at all (`MkOK`); `refreshMagic` with
    *any* heuristic search is such a function (`generate_establishes_HashOK`,
    `matcherOf_MkOK`): the guards carry the proof, not `find_pos` / `find_assoc`.

  The model mirrors ports.cpp with six repairs applied (fixes/C04-01 … C04-06); what the
  unrepaired code did is recorded by the `…_counterexample` theorems at the end.
-/
import RtoscModel.Proofs.PortsRoot
import RtoscModel.Proofs.PortsExtSandwich
import RtoscModel.Proofs.PortsExtLoc
import RtoscModel.Proofs.PortsExtSugar
namespace Rtosc.Ports
open Rtosc Rtosc.Match Rtosc.Ports.Hash

theorem some_pair {α β : Type} {o : Option (α × β)} {x : α × β} (h : o = some x) :
    ∃ a b, o = some (a, b) ∧ a = x.1 ∧ b = x.2 := ⟨x.1, x.2, h, rfl, rfl⟩

theorem whos_of_views {l1 l2 : List Call} (h : views l1 = views l2) :
    l1.map (·.who) = l2.map (·.who) := by
  have := congrArg (List.map View.who) h
  simp only [views, List.map_map] at this
  exact this

theorem forall_of_views {l1 l2 : List Call} (h : views l1 = views l2) (Q : View → Prop) (hQ : ∀ c ∈ l2, Q c.view) :
    ∀ c ∈ l1, Q c.view := by
  intro c hc
  have : c.view ∈ views l1 := List.mem_map.mpr ⟨c, hc, rfl⟩
  rw [h] at this
  obtain ⟨c', hc', hcc⟩ := List.mem_map.mp this
  exact hcc ▸ hQ c' hc'

/-- every message laid out by `rtosc_amessage` (C05: `mkMsg`) is such a buffer -/
theorem mkMsg_msgBuf (addr tags rest : Bytes) :
    ∃ k j, mkMsg addr tags rest = msgBuf addr tags k (List.replicate j 0 ++ rest) :=
  let ⟨k, j, _, h⟩ := mkMsg_layout addr tags rest; ⟨k, j, h⟩

theorem InScope.msgOK {P : PPorts} {addr tags rest : Bytes} (h : InScope P addr tags rest) :
    MsgOK addr tags := ⟨h.addr_nul, h.addr_idx, h.tags_nul⟩

/-- **generate_establishes_HashOK**: whatever `find_pos` and `find_assoc` return — any
    two functions —, a table for which `refreshMagic` leaves a non-empty `pos` satisfies
    `HashOK`: no `#`, no inner '/', `fixed` / `arg_spec` / `enump` belong to the names,
    `remap[hash(key i)] = i` for every port (hence pairwise different keys) and all
    entries of `remap` are port numbers. -/
theorem generate_establishes_HashOK (S : Search) (names : List Bytes) (pm : Matcher)
    (h : matcherOf S names = some pm) (hpos : pm.pos ≠ []) : HashOK names pm :=
  matcherOf_HashOK S names pm h hpos

/-- **hashed_sound**: for *arbitrary* `pos`, `assoc`, `remap` (and arbitrary other
    entries of `fixed` / `arg_spec`), a port that the hashed branch selects — `hard_match`
    succeeded for `port_num = remap[hash]` — satisfies `rtosc_match`, provided its name is
    literal and its own `fixed` / `arg_spec` entries are the ones `generate_minimal_hash`
    stores (`splitName_render`). -/
theorem hashed_sound {p : Pat} (hp : nameWf p = true) (hl : allLit p.segs = true)
    (pm : Matcher) (j : Nat) (hfix : pm.fixed[j]? = some (splitName p.render).1)
    (hspec : pm.argSpec[j]? = some (splitName p.render).2)
    {addr tags : Bytes} (k : Nat) (rest : Bytes) (ha : NulFree addr) (hb : IdxBounded addr) (ht : NulFree tags)
    (hlk : lookup pm (msgBuf addr tags k rest) = some (.slot j true)) :
    ∃ e, full (p.render ++ [0]) (msgBuf addr tags k rest) = some (true, e) := by
  obtain ⟨hp0, hpne, hpna⟩ := nameWf_unpack hp
  rw [splitName_render hp0 hpne hpna] at hfix hspec
  have := lookup_sound ⟨hp0, hpne, hl, hfix, hspec⟩ k rest ha ht hlk
  obtain ⟨e, he, _⟩ := full_render hp k rest ha hb ht
  exact ⟨e, by rw [msgBuf, he, this]⟩

/-- **hashed_complete**: under `HashOK`, a port that `rtosc_match`es the message is the one
    the hashed branch selects. -/
theorem hashed_complete {names : List Bytes} {pm : Matcher} (hok : HashOK names pm)
    {p : Pat} (hp : nameWf p = true) (i : Nat) (hi : names[i]? = some p.render)
    {addr tags : Bytes} (k : Nat) (rest : Bytes) (ha : NulFree addr) (hb : IdxBounded addr) (ht : NulFree tags)
    (hm : ∃ e, full (p.render ++ [0]) (msgBuf addr tags k rest) = some (true, e)) :
    lookup pm (msgBuf addr tags k rest) = some (.slot i true) := by
  obtain ⟨hp0, hpne, hpna⟩ := nameWf_unpack hp
  obtain ⟨e, he, _⟩ := full_render hp k rest ha hb ht
  obtain ⟨e', he'⟩ := hm
  rw [msgBuf, he] at he'
  cases hmb : matchB p addr tags with
  | none => rw [hmb] at he'; simp at he'
  | some t => exact lookup_complete hok hp0 hpne hpna i hi k rest ha ht hmb

/-- `refreshMagic` with any heuristic search is a table-construction function for which
    everything below holds; in particular the real one. -/
theorem real_MkOK : MkOK (matcherOf realSearch) := matcherOf_MkOK realSearch

/-- the log of a dispatch at the root, up to `loc`: the `trace` of the tree and, if no port of the root table
    matches, the root's default handler -/
def rootLog (P : PPorts) (d : RtData) (L a tags ex : Bytes) : List Call :=
  trace P.tab [] 0 d.obj d.obj L a tags ex ++
    if !P.tab.hits a tags && P.dflt then [dfltCallOf [] (a ++ 0 :: ex) d] else []

/-- **without location buffer the log is `rootLog`** (whatever the table-construction function) -/
theorem dispatch_views_noLoc (mk : List Bytes → Option Matcher) {P : PPorts} {addr tags rest : Bytes}
    (h : InScope P addr tags rest) (k : Nat) (base : Bool) (d : RtData) (hd : d.loc = none) (L : Bytes) :
    ∃ log d', dispatch mk P.render (msgBuf addr tags k rest) d base = some (log, d') ∧
      views log = views (rootLog P d L (rootAddr base addr) tags (msgTail k tags rest)) := by
  obtain ⟨log, d', hdisp, rfl, _⟩ := some_pair (dispatch_noLoc mk h.wf k h.msgOK base d hd L)
  refine ⟨_, _, hdisp, ?_⟩
  simp only [finNo, semNoLoc, rootLog, Bool.false_or]
  split
  · next hc =>
    have hh : P.tab.hits (rootAddr base addr) tags = false := by simpa using (Bool.and_eq_true_iff.mp hc).1
    simp [views, Call.view, dfltCallOf, trace_none _ _ _ _ _ _ _ _ _ hh, rootDataNo_obj, rootDataNo_port]
  · simp [views, Call.view, Function.comp_def]

/-- **with location buffer the log is `rootLog`**, whichever lookup strategy each table got -/
theorem dispatch_views_loc {mk : List Bytes → Option Matcher} (hmk : MkOK mk) {P : PPorts} {addr tags rest : Bytes}
    (h : InScope P addr tags rest) (k : Nat) (base : Bool) (d : RtData) (L0 : Bytes)
    (hd : d.loc = some L0) (hsz : d.locSize ≠ 0) :
    ∃ log d', dispatch mk P.render (msgBuf addr tags k rest) d base = some (log, d') ∧
      views log = views (rootLog P d (rootLoc base L0) (rootAddr base addr) tags (msgTail k tags rest)) := by
  obtain ⟨log, d', hdisp, rfl, _⟩ := some_pair (dispatch_loc hmk h.wf k h.msgOK base d L0 hd hsz)
  refine ⟨_, _, hdisp, ?_⟩
  rw [semLoc_eq _ _ _ _ _ _ _ (rootDataLoc_loc base d L0 hd) (rootDataLoc_obj base d)]
  simp only [finLoc, rootLog, Bool.false_or]
  split
  · next hc =>
    have hh : P.tab.hits (rootAddr base addr) tags = false := by simpa using (Bool.and_eq_true_iff.mp hc).1
    simp [views, Call.view, dfltCallOf, frame, trace_none _ _ _ _ _ _ _ _ _ hh, rootDataLoc_obj, rootDataLoc_port]
  · simp [views]

theorem dispatch_views {mk : List Bytes → Option Matcher} (hmk : MkOK mk) {P : PPorts} {addr tags rest : Bytes}
    (h : InScope P addr tags rest) (k : Nat) (base : Bool) (d : RtData) (hd : d.Usable) :
    ∃ L log d', dispatch mk P.render (msgBuf addr tags k rest) d base = some (log, d') ∧
      views log = views (rootLog P d L (rootAddr base addr) tags (msgTail k tags rest)) := by
  rcases hd with hd | ⟨L0, hd, hsz⟩
  · exact ⟨[], dispatch_views_noLoc mk h k base d hd []⟩
  · exact ⟨_, dispatch_views_loc hmk h k base d L0 hd hsz⟩

theorem mem_rootLog {P : PPorts} {d : RtData} {L a tags ex : Bytes} {c : Call} (h : c ∈ rootLog P d L a tags ex) :
    c ∈ trace P.tab [] 0 d.obj d.obj L a tags ex ∨ c = dfltCallOf [] (a ++ 0 :: ex) d := by
  rcases List.mem_append.mp h with h | h
  · exact .inl h
  · split at h
    · exact .inr (by simpa using h)
    · cases h

/-- **the callbacks are those of the specification** -/
theorem rootLog_answers {P : PPorts} (hwf : P.tab.WF) (d : RtData) (L a tags ex : Bytes) (w : Who) :
    w ∈ List.map (·.who) (rootLog P d L a tags ex) ↔ AnswersRoot P a tags w := by
  rw [AnswersRoot, ← trace_answers P.tab hwf [] 0 d.obj d.obj L a tags ex w, ← hits_false_iff hwf, rootLog,
    List.map_append, List.mem_append]
  cases P.tab.hits a tags <;> cases P.dflt <;> simp [dfltCallOf]

/-- **no callback twice** -/
theorem rootLog_nodup (P : PPorts) (d : RtData) (L a tags ex : Bytes) :
    (List.map (·.who) (rootLog P d L a tags ex)).Nodup :=
  nodup_dflt_behind (tp := []) rfl _ (trace_nodup P.tab [] 0 d.obj d.obj L a tags ex)
    (fun w hw => let ⟨j, s, _, hp⟩ := trace_paths _ _ _ _ _ _ _ _ _ w hw; ⟨j, s, hp⟩)

/-- **port_pointer_own / obj_handed_down, on the log**: a port's callback sees its own port pointer and the object
    of its table, a default handler the object of its table (the root object has the empty path) -/
theorem rootLog_ptr (P : PPorts) {d : RtData} (ho : d.obj = []) (L a tags ex : Bytes) :
    ∀ c ∈ rootLog P d L a tags ex, (∀ q, c.who = .port q → c.dport = some q ∧ c.obj = q.dropLast) ∧
      (∀ q, c.who = .dflt q → c.obj = q) := by
  intro c hc
  rcases mem_rootLog hc with hc | rfl
  · rw [ho] at hc
    exact (trace_log P.tab [] 0 [] [] L a tags ex c hc).ptr rfl
  · exact ⟨fun q hq => by simp [dfltCallOf] at hq, fun q hq => by simpa [dfltCallOf, ho] using hq⟩

/-- **dispatch_linear_iff** (no location buffer; the lookup is the linear scan): a
    callback is in the log if and only if the message's address matches the port's path at
    every level and its type tags are admitted (`AnswersRoot`). -/
theorem dispatch_linear_iff (mk : List Bytes → Option Matcher) {P : PPorts} {addr tags rest : Bytes}
    (h : InScope P addr tags rest) (k : Nat) (base : Bool) (d : RtData) (hd : d.loc = none) :
    ∃ log d', dispatch mk P.render (msgBuf addr tags k rest) d base = some (log, d') ∧
      ∀ w, w ∈ log.map (·.who) ↔ AnswersRoot P (rootAddr base addr) tags w := by
  obtain ⟨log, d', hdisp, hv⟩ := dispatch_views_noLoc mk h k base d hd []
  exact ⟨log, d', hdisp, fun w => by rw [whos_of_views hv]; exact rootLog_answers h.wf ..⟩

/-- the two runs of one message: with location buffer (`dL`) and without (`dN`), started
    with the same object and port pointer -/
structure TwoRuns (dL dN : RtData) (L0 : Bytes) : Prop where
  loc : dL.loc = some L0
  size : dL.locSize ≠ 0
  noloc : dN.loc = none
  obj : dN.obj = dL.obj
  port : dN.port = dL.port

/-- **loc_independent**: with and without location buffer — i.e. whichever lookup strategy
    each table of the tree got — the same callbacks are invoked, in the same order, each
    handed the same message pointer, object and port pointer. -/
theorem loc_independent {mk : List Bytes → Option Matcher} (hmk : MkOK mk) {P : PPorts} {addr tags rest : Bytes}
    (h : InScope P addr tags rest) (k : Nat) (base : Bool) {dL dN : RtData} {L0 : Bytes} (hr : TwoRuns dL dN L0) :
    ∃ logL dL' logN dN',
      dispatch mk P.render (msgBuf addr tags k rest) dL base = some (logL, dL') ∧
      dispatch mk P.render (msgBuf addr tags k rest) dN base = some (logN, dN') ∧
      views logL = views logN := by
  obtain ⟨logL, dL', hdL, hvL⟩ := dispatch_views_loc hmk h k base dL L0 hr.loc hr.size
  obtain ⟨logN, dN', hdN, hvN⟩ := dispatch_views_noLoc mk h k base dN hr.noloc (rootLoc base L0)
  refine ⟨logL, dL', logN, dN', hdL, hdN, ?_⟩
  rw [hvL, hvN, rootLog, rootLog, hr.obj]
  simp only [views, List.map_append, dfltCallOf, hr.obj, hr.port]
  split <;> rfl

/-- **dispatch_loc_iff** (with location buffer, any lookup strategy): the same equivalence. -/
theorem dispatch_loc_iff {mk : List Bytes → Option Matcher} (hmk : MkOK mk) {P : PPorts} {addr tags rest : Bytes}
    (h : InScope P addr tags rest) (k : Nat) (base : Bool) (d : RtData) (L0 : Bytes)
    (hd : d.loc = some L0) (hsz : d.locSize ≠ 0) :
    ∃ log d', dispatch mk P.render (msgBuf addr tags k rest) d base = some (log, d') ∧
      ∀ w, w ∈ log.map (·.who) ↔ AnswersRoot P (rootAddr base addr) tags w := by
  obtain ⟨log, d', hdisp, hv⟩ := dispatch_views_loc hmk h k base d L0 hd hsz
  exact ⟨log, d', hdisp, fun w => by rw [whos_of_views hv]; exact rootLog_answers h.wf ..⟩

/-- **dispatch_unique**: no callback is invoked twice.  Together with the equivalences: a
    message addressed to one leaf port invokes that one callback exactly once and no other. -/
theorem dispatch_unique {mk : List Bytes → Option Matcher} (hmk : MkOK mk) {P : PPorts} {addr tags rest : Bytes}
    (h : InScope P addr tags rest) (k : Nat) (base : Bool) {dL dN : RtData} {L0 : Bytes} (hr : TwoRuns dL dN L0) :
    ∃ logL dL' logN dN',
      dispatch mk P.render (msgBuf addr tags k rest) dL base = some (logL, dL') ∧
      dispatch mk P.render (msgBuf addr tags k rest) dN base = some (logN, dN') ∧
      (logL.map (·.who)).Nodup ∧ (logN.map (·.who)).Nodup := by
  obtain ⟨logL, dL', h1, hvL⟩ := dispatch_views_loc hmk h k base dL L0 hr.loc hr.size
  obtain ⟨logN, dN', h2, hvN⟩ := dispatch_views_noLoc mk h k base dN hr.noloc []
  refine ⟨logL, dL', logN, dN', h1, h2, ?_, ?_⟩
  · rw [whos_of_views hvL]; exact rootLog_nodup P ..
  · rw [whos_of_views hvN]; exact rootLog_nodup P ..

/-- **loc_restored**: after the dispatch `loc` holds what it held when the root table was
    entered: "/" after a base dispatch (or when it was empty), else its old content. -/
theorem loc_restored {mk : List Bytes → Option Matcher} (hmk : MkOK mk) {P : PPorts} {addr tags rest : Bytes}
    (h : InScope P addr tags rest) (k : Nat) (base : Bool) (d : RtData) (L0 : Bytes)
    (hd : d.loc = some L0) (hsz : d.locSize ≠ 0) :
    ∃ log d', dispatch mk P.render (msgBuf addr tags k rest) d base = some (log, d') ∧
      d'.loc = some (rootLoc base L0) := by
  obtain ⟨log, d', hdisp, rfl, rfl⟩ := some_pair (dispatch_loc hmk h.wf k h.msgOK base d L0 hd hsz)
  refine ⟨_, _, hdisp, ?_⟩
  rw [finLoc_loc]
  exact semLoc_loc _ _ _ _ _ _ _ (rootDataLoc_loc base d L0 hd) (rootDataLoc_obj base d)

/-- **loc_full_address_exact** ("the callback sees the full address in it", at the strength of the
    sentence): every log entry names a port of the tree (`PPorts.portAt`: the port with that path of
    table indices), and for that port's own name `p`: `loc = pre ++ mid`, the message pointer the
    callback is handed is `mid ++ rest` (the invariant of ports.h: "d.loc + m make the port's full
    path"), `pre ++ mid ++ rest` is "/" ++ address, and `mid` is exactly what the name accounts for
    (`Accounts`: `mid ++ rest` spells the segments of `p` — literal text, at `#N` the whole run of
    digits, below N — and what is left is "/" ++ rest for a name with trailing '/', nothing for a name
    without).  Hence the callback of a port without trailing '/' sees the full address
    (second conjunct).  A default handler sees `loc ++ (address at its message pointer)` = the full
    address.  `loc_full_address` (`LocOK`: some prefix that is everything or ends in '/') is the
    corollary `locExact_locOK`. -/
theorem loc_full_address_exact {mk : List Bytes → Option Matcher} (hmk : MkOK mk) {P : PPorts} {addr tags rest : Bytes}
    (h : InScope P addr tags rest) (k : Nat) (base : Bool) (d : RtData) (L0 : Bytes)
    (hd : d.loc = some L0) (hsz : d.locSize ≠ 0) :
    ∃ log d', dispatch mk P.render (msgBuf addr tags k rest) d base = some (log, d') ∧
      ∀ c ∈ log, LocExact P (rootLoc base L0 ++ rootAddr base addr) (msgTail k tags rest) c ∧
        ∀ q p, c.who = .port q → P.portAt q = some p → p.sub = false →
          c.loc = some (rootLoc base L0 ++ rootAddr base addr) := by
  obtain ⟨log, d', hdisp, rfl, rfl⟩ := some_pair (dispatch_loc hmk h.wf k h.msgOK base d L0 hd hsz)
  refine ⟨_, _, hdisp, ?_⟩
  intro c hc
  have hloc := rootDataLoc_loc base d L0 hd
  have hex : LocExact P (rootLoc base L0 ++ rootAddr base addr) (msgTail k tags rest) c := by
    rcases mem_finLoc hc with hc | ⟨_, _, rfl⟩
    · exact (semLoc_log P.tab _ _ _ _ _ _ _ _ _ c hc).locExact h.wf
    · refine ⟨rootLoc base L0, rootAddr base addr, ?_, rfl, ?_⟩
      · simp only [dfltCallOf]
        exact semLoc_loc _ _ _ _ _ _ _ hloc (rootDataLoc_obj base d)
      · simp [dfltCallOf]
  exact ⟨hex, fun q p hq hp hs => locExact_leaf_full hex hq hp hs⟩

/-- **loc_full_address**: every callback sees in `loc` a prefix of "/" ++ address that is the whole of it
    or ends in '/', and its message pointer begins inside that prefix (`LocOK`; the invariant of
    ports.h: "d.loc + m make the port's full path").  The port's name does not occur: that the prefix
    ends where the callback's own name ends, so that a port without trailing '/' sees the full
    address, is `loc_full_address_exact`, of which this is the corollary `locExact_locOK`. -/
theorem loc_full_address {mk : List Bytes → Option Matcher} (hmk : MkOK mk) {P : PPorts} {addr tags rest : Bytes}
    (h : InScope P addr tags rest) (k : Nat) (base : Bool) (d : RtData) (L0 : Bytes)
    (hd : d.loc = some L0) (hsz : d.locSize ≠ 0) :
    ∃ log d', dispatch mk P.render (msgBuf addr tags k rest) d base = some (log, d') ∧
      ∀ c ∈ log, LocOK (rootLoc base L0 ++ rootAddr base addr) (msgTail k tags rest) c := by
  obtain ⟨log, d', hdisp, hex⟩ := loc_full_address_exact hmk h k base d L0 hd hsz
  exact ⟨log, d', hdisp, fun c hc => locExact_locOK (hex c hc).1⟩

/-- **matches_eq_leaf_callbacks**: after a root dispatch `d.matches` is the number of
    leaf callbacks invoked (callbacks of ports without sub-table, and default handlers);
    without `base_dispatch` it has grown by that number. -/
theorem matches_eq_leaf_callbacks {mk : List Bytes → Option Matcher} (hmk : MkOK mk) {P : PPorts}
    {addr tags rest : Bytes} (h : InScope P addr tags rest) (k : Nat) (base : Bool) (d : RtData) (L0 : Bytes)
    (hd : d.loc = some L0) (hsz : d.locSize ≠ 0) :
    ∃ log d', dispatch mk P.render (msgBuf addr tags k rest) d base = some (log, d') ∧
      d'.nmatches = (if base then 0 else d.nmatches) + leafCount log := by
  obtain ⟨log, d', hdisp, rfl, rfl⟩ := some_pair (dispatch_loc hmk h.wf k h.msgOK base d L0 hd hsz)
  refine ⟨_, _, hdisp, ?_⟩
  have := finLoc_count P.dflt [] d.obj (rootAddr base addr ++ 0 :: msgTail k tags rest) _ _
    (semLoc_count P.tab [] 0 (rootAddr base addr) tags (msgTail k tags rest) false
      (rootDataLoc_loc base d L0 hd) (rootDataLoc_obj base d))
  rw [rootDataLoc_nmatches] at this
  exact this

/-- **port_pointer_own** and **obj_handed_down**: the callback of a port sees the pointer of
    its own port in `d.port` and, in `d.obj`, the object of the table it belongs to — the
    one its parent port handed down (the root object has the empty path); a default
    handler sees the object of its table. -/
theorem port_pointer_own {mk : List Bytes → Option Matcher} (hmk : MkOK mk) {P : PPorts} {addr tags rest : Bytes}
    (h : InScope P addr tags rest) (k : Nat) (base : Bool) (d : RtData) (L0 : Bytes)
    (hd : d.loc = some L0) (hsz : d.locSize ≠ 0) (hobj : d.obj = []) :
    ∃ log d', dispatch mk P.render (msgBuf addr tags k rest) d base = some (log, d') ∧
      ∀ c ∈ log, (∀ q, c.who = .port q → c.dport = some q ∧ c.obj = q.dropLast) ∧
                 (∀ q, c.who = .dflt q → c.obj = q) := by
  obtain ⟨log, d', hdisp, hv⟩ := dispatch_views_loc hmk h k base d L0 hd hsz
  exact ⟨log, d', hdisp, forall_of_views hv (fun v => (∀ q, v.who = .port q → v.dport = some q ∧ v.obj = q.dropLast) ∧
    (∀ q, v.who = .dflt q → v.obj = q)) (rootLog_ptr P hobj _ _ _ _)⟩

/-- the same without location buffer -/
theorem obj_handed_down {mk : List Bytes → Option Matcher} (hmk : MkOK mk) {P : PPorts} {addr tags rest : Bytes}
    (h : InScope P addr tags rest) (k : Nat) (base : Bool) (d : RtData) (hd : d.loc = none) (hobj : d.obj = []) :
    ∃ log d', dispatch mk P.render (msgBuf addr tags k rest) d base = some (log, d') ∧
      ∀ c ∈ log, (∀ q, c.who = .port q → c.dport = some q ∧ c.obj = q.dropLast) ∧
                 (∀ q, c.who = .dflt q → c.obj = q) := by
  obtain ⟨log, d', hdisp, hv⟩ := dispatch_views_noLoc mk h k base d hd []
  exact ⟨log, d', hdisp, forall_of_views hv (fun v => (∀ q, v.who = .port q → v.dport = some q ∧ v.obj = q.dropLast) ∧
    (∀ q, v.who = .dflt q → v.obj = q)) (rootLog_ptr P hobj _ _ _ _)⟩

/-! ### operation histories on one `RtData`

An application sets up its `RtData` once (object, location buffer) and dispatches every incoming
message with it: "the runtime object handed down by the parent levels" is, for the root table, what
the dispatch before left in `d.obj`. -/

/-- **obj_restored**: a dispatch leaves in `d.obj` the object it was called with (and does not touch
    `loc_size`): the next dispatch made with the same `RtData` hands the root table the same object. -/
theorem obj_restored {mk : List Bytes → Option Matcher} (hmk : MkOK mk) {P : PPorts} {addr tags rest : Bytes}
    (h : InScope P addr tags rest) (k : Nat) (base : Bool) (d : RtData) (L0 : Bytes)
    (hd : d.loc = some L0) (hsz : d.locSize ≠ 0) :
    ∃ log d', dispatch mk P.render (msgBuf addr tags k rest) d base = some (log, d') ∧
      d'.obj = d.obj ∧ d'.locSize = d.locSize := by
  obtain ⟨log, d', hdisp, rfl, rfl⟩ := some_pair (dispatch_loc hmk h.wf k h.msgOK base d L0 hd hsz)
  refine ⟨_, _, hdisp, ?_, ?_⟩
  · exact finLoc_obj _ _ _ _ _ (semLoc_obj _ _ _ _ _ _ _ (rootDataLoc_loc base d L0 hd) (rootDataLoc_obj base d))
  · rw [finLoc_locSize, semLoc_locSize _ _ _ _ _ _ _ (rootDataLoc_loc base d L0 hd) (rootDataLoc_obj base d),
      rootDataLoc_locSize]

/-- the same without location buffer (`loc` stays NULL) -/
theorem obj_restored_noloc (mk : List Bytes → Option Matcher) {P : PPorts} {addr tags rest : Bytes}
    (h : InScope P addr tags rest) (k : Nat) (base : Bool) (d : RtData) (hd : d.loc = none) :
    ∃ log d', dispatch mk P.render (msgBuf addr tags k rest) d base = some (log, d') ∧
      d'.obj = d.obj ∧ d'.loc = none := by
  obtain ⟨log, d', hdisp, rfl, rfl⟩ := some_pair (dispatch_noLoc mk h.wf k h.msgOK base d hd [])
  refine ⟨_, _, hdisp, ?_, ?_⟩
  · exact finNo_obj _ _ _ _ _ (rootDataNo_obj base d)
  · rw [finNo_loc]; exact (rootDataNo_loc base d).trans hd

/-- one message of an operation history: address, type string, padding, rest of its buffer, `base_dispatch` -/
structure HMsg where
  addr : Bytes
  tags : Bytes
  k : Nat
  rest : Bytes
  base : Bool

/-- an operation history on one `RtData`: every dispatch starts with what the one before left behind -/
def runHistory (mk : List Bytes → Option Matcher) (P : Ports) : RtData → List HMsg → Option (List (List Call) × RtData)
  | d, [] => some ([], d)
  | d, m :: r =>
    match dispatch mk P (msgBuf m.addr m.tags m.k m.rest) d m.base with
    | none => none
    | some (log, d') =>
      match runHistory mk P d' r with
      | none => none
      | some (logs, d'') => some (log :: logs, d'')

/-- **history_obj_handed_down**: for every history of dispatches on one `RtData` that the caller set up once
    (root object, location buffer): in every dispatch of the history every callback is handed the object of
    its table — the root table's callbacks the caller's object — and its own port pointer, and the
    `RtData` still holds the caller's object afterwards. -/
theorem history_obj_handed_down {mk : List Bytes → Option Matcher} (hmk : MkOK mk) {P : PPorts} :
    ∀ (ms : List HMsg), (∀ m ∈ ms, InScope P m.addr m.tags m.rest) →
    ∀ (d : RtData) (L0 : Bytes), d.loc = some L0 → d.locSize ≠ 0 → d.obj = [] →
    ∃ logs d', runHistory mk P.render d ms = some (logs, d') ∧ d'.obj = [] ∧
      ∀ log ∈ logs, ∀ c ∈ log, (∀ q, c.who = .port q → c.dport = some q ∧ c.obj = q.dropLast) ∧
                               (∀ q, c.who = .dflt q → c.obj = q) := by
  intro ms
  induction ms with
  | nil => intro _ d L0 _ _ hobj; exact ⟨[], d, rfl, hobj, by simp⟩
  | cons m r ih =>
    intro hs d L0 hd hsz hobj
    have hm := hs m (List.mem_cons_self)
    obtain ⟨log, d1, h1, hptr⟩ := port_pointer_own hmk hm m.k m.base d L0 hd hsz hobj
    obtain ⟨log', d1', h1', ho, hs1⟩ := obj_restored hmk hm m.k m.base d L0 hd hsz
    obtain ⟨log'', d1'', h1'', hl⟩ := loc_restored hmk hm m.k m.base d L0 hd hsz
    rw [h1] at h1' h1''
    cases h1'; cases h1''
    obtain ⟨logs, d2, h2, ho2, hptr2⟩ := ih (fun x hx => hs x (List.mem_cons_of_mem _ hx)) d1 _ hl
      (by rw [hs1]; exact hsz) (by rw [ho, hobj])
    refine ⟨log :: logs, d2, ?_, ho2, ?_⟩
    · simp only [runHistory, h1, h2]
    · intro lg hlg
      rcases List.mem_cons.mp hlg with rfl | hlg
      · exact hptr
      · exact hptr2 lg hlg

/-- **history_obj_restored_noloc**: the same for histories dispatched WITHOUT location buffer: every dispatch
    of the history is defined, and the `RtData` still holds the caller's object (and no location buffer)
    afterwards — so every dispatch of the history hands the root table's callbacks the caller's object
    (`dispatch_linear_iff` says which callbacks those are). -/
theorem history_obj_restored_noloc (mk : List Bytes → Option Matcher) {P : PPorts} :
    ∀ (ms : List HMsg), (∀ m ∈ ms, InScope P m.addr m.tags m.rest) →
    ∀ (d : RtData), d.loc = none →
    ∃ logs d', runHistory mk P.render d ms = some (logs, d') ∧ logs.length = ms.length ∧
      d'.obj = d.obj ∧ d'.loc = none := by
  intro ms
  induction ms with
  | nil => intro _ d hd; exact ⟨[], d, rfl, rfl, rfl, hd⟩
  | cons m r ih =>
    intro hs d hd
    have hm := hs m (List.mem_cons_self)
    obtain ⟨log, d1, h1, ho, hl⟩ := obj_restored_noloc mk hm m.k m.base d hd
    obtain ⟨logs, d2, h2, hlen, ho2, hl2⟩ := ih (fun x hx => hs x (List.mem_cons_of_mem _ hx)) d1 hl
    refine ⟨log :: logs, d2, ?_, by simp [hlen], by rw [ho2, ho], hl2⟩
    simp only [runHistory, h1, h2]

/-- **loc_in_bounds**: `dispatch` never compares with `loc_size`; no write leaves a buffer
    that holds the content of `loc` on entry, the address and a terminator. -/
theorem loc_in_bounds {mk : List Bytes → Option Matcher} (hmk : MkOK mk) {P : PPorts} {addr tags rest : Bytes}
    (h : InScope P addr tags rest) (k : Nat) (base : Bool) (d : RtData) (L0 : Bytes)
    (hd : d.loc = some L0) (hsz : d.locSize ≠ 0) (hhigh : d.locHigh ≤ d.locSize)
    (hroom : (rootLoc base L0).length + (rootAddr base addr).length + 1 ≤ d.locSize) :
    ∃ log d', dispatch mk P.render (msgBuf addr tags k rest) d base = some (log, d') ∧
      d'.locHigh ≤ d.locSize := by
  obtain ⟨log, d', hdisp, rfl, rfl⟩ := some_pair (dispatch_loc hmk h.wf k h.msgOK base d L0 hd hsz)
  refine ⟨_, _, hdisp, ?_⟩
  rw [finLoc_high]
  refine Nat.le_trans (semLoc_high P.tab h.wf _ _ _ _ _ _ (rootDataLoc_loc base d L0 hd) (rootDataLoc_obj base d)) ?_
  have h1 : 1 ≤ d.locSize := Nat.pos_of_ne_zero hsz
  have : (rootDataLoc base d).locHigh ≤ d.locSize := by
    cases base with
    | true =>
      simp only [rootDataLoc, ↓reduceIte, RtData.locStr, Option.getD_some, List.isEmpty_nil]
      omega
    | false =>
      simp only [rootDataLoc, Bool.false_eq_true, ↓reduceIte]
      split
      · simp only; omega
      · exact hhigh
  omega

/-! ## Tables built by `ClonePorts` / `MergePorts`; enumerated recursion callbacks

The theorems above hold for every table, hence for the ones these constructors build; what
the constructors themselves do is modelled in Ports/Build.lean and compared with the code on
every run (`T…c[…]{…}` / `T…m[…]{…}` tables).  Which callback object a port of the new table
carries is checked on the implementation only (source tables have callbacks of their own). -/

/-- **clone_names**: `ClonePorts(src, list)` has exactly the listed names, in list order. -/
theorem clone_names (src : List Entry) (list : List Bytes) (res : List Entry)
    (h : clonePorts src list = some res) : res.map Entry.name = list := by
  have hfind : ∀ (n : Bytes) (p : Entry), findClone src n = some p → p.name = n := fun n p hp => by
    rw [findClone_eq] at hp
    simpa using List.find?_some hp
  induction list generalizing res with
  | nil => simp [clonePorts] at h; subst h; rfl
  | cons n ns ih =>
    simp only [clonePorts] at h
    split at h
    · next p r hp hr =>
      cases h
      simp [hfind n p hp, ih r hr]
    · cases h

/-- **merge_exact**: the table `MergePorts` builds is exactly this: the ports of all the merged tables, in
    order, a port being kept iff no port with its name came before (`keepNew`, Ports/DispatchSpec.lean: a
    three-line recursion with the names met so far).  A `mergePorts` that drops, reorders or prefers a later
    port does not satisfy it; the three readings below (completeness, first occurrence kept, order) and
    `merge_no_repeats` follow from it. -/
theorem merge_exact (parts : List (List Entry)) : mergePorts parts = keepNew [] parts.flatten := by
  simp [mergePorts, foldl_mergeOne_eq]

/-- **merge_no_repeats**: `MergePorts` keeps only ports of the merged tables and never two
    with the same name. -/
theorem merge_no_repeats (parts : List (List Entry)) :
    ((mergePorts parts).map Entry.name).Nodup ∧ ∀ e ∈ mergePorts parts, ∃ p ∈ parts, e ∈ p := by
  rw [merge_exact]
  exact ⟨(keepNew_nodup [] _).1, fun e he => List.mem_flatten.mp ((keepNew_sublist [] _).subset he)⟩

/-- **recurs_index**: the element `rRecursCb` / `rRecurspCb` hand down (`&obj->name[idx]`,
    `rBOILS_BEGIN`) for a port `lit#N…` and a message spelling `lit`, a run of digits and then
    a non-digit is the value of that run — the index the address spells for the `#N`.
    (One name, one level; the hand-down of that element through a whole `Ports::dispatch` is
    `sugar_obj_handed_down` below.) -/
theorem recurs_index (lit rest ds tail : Bytes) (c : UInt8)
    (hlit : ∀ x ∈ lit, x ≠ 35) (hds : ∀ x ∈ ds, isDigit x = true) (hc : isDigit c = false) :
    Sugar.recursIdx (lit ++ 35 :: rest) (lit ++ (ds ++ c :: tail)) = some (decVal ds) := by
  simp only [Sugar.recursIdx, Sugar.boilsScan_lit lit rest _ hlit, Sugar.atoiRun_run ds c tail 0 hds hc, decVal]

example : Sugar.recursIdx [109, 105, 100, 115, 35, 52, 47] ([109, 105, 100, 115, 48, 51, 47, 120, 0]) = some 3 := by decide
example : (mergePorts [[.leaf [97], .leaf [98]], [.leaf [98], .leaf [99]]]).map Entry.name = [[97], [98], [99]] := by decide
example : (clonePorts [.leaf [97], .leaf [98], .leaf [99]] [[99], [97]]).map (·.map Entry.name) = some [[99], [97]] := by decide

/-- **merge_first_occurrence**: for every name, the port `MergePorts` holds under that name is the FIRST
    port with that name among the merged tables taken in order (with its sub-table: an `Entry` carries it);
    it holds none iff none of them has the name. -/
theorem merge_first_occurrence (parts : List (List Entry)) (n : Bytes) :
    (mergePorts parts).find? (fun e => e.name = n) = parts.flatten.find? (fun e => e.name = n) := by
  rw [merge_exact, keepNew_find]; simp

/-- **merge_complete**: every name of every merged table is a name of the result. -/
theorem merge_complete (parts : List (List Entry)) :
    ∀ p ∈ parts, ∀ e ∈ p, ∃ e' ∈ mergePorts parts, e'.name = e.name := by
  intro p hp e he
  have hmem : e ∈ parts.flatten := List.mem_flatten.mpr ⟨p, hp, he⟩
  have hsome : (parts.flatten.find? (fun x => x.name = e.name)).isSome = true :=
    List.find?_isSome.mpr ⟨e, hmem, by simp⟩
  rw [← merge_first_occurrence] at hsome
  obtain ⟨e', he'⟩ := Option.isSome_iff_exists.mp hsome
  exact ⟨e', List.mem_of_find?_eq_some he', by simpa using List.find?_some he'⟩

/-- **merge_order**: the ports of the result stand in the order of the merged tables. -/
theorem merge_order (parts : List (List Entry)) : (mergePorts parts).Sublist parts.flatten := by
  rw [merge_exact]; exact keepNew_sublist [] _

/-- **clone_last_source_port**: the i-th port of `ClonePorts(src, list)` is the LAST port of the source that
    has the i-th listed name — the whole port (`Entry`: name and sub-table), not only its name; the result
    has as many ports as the list has names (`clone_names`). -/
theorem clone_last_source_port (src : List Entry) (list : List Bytes) (res : List Entry)
    (h : clonePorts src list = some res) (i : Nat) :
    res[i]? = (list[i]?).bind (fun n => src.reverse.find? (fun p => p.name = n)) := by
  induction list generalizing res i with
  | nil => simp [clonePorts] at h; subst h; simp
  | cons n ns ih =>
    simp only [clonePorts] at h
    split at h
    · next p r hp hr =>
      cases h
      cases i with
      | zero => simp [← findClone_eq, hp]
      | succ j => simpa using ih r hr j
    · cases h

example : mergePorts [[.leaf [97], .node [98] .nil false], [.leaf [98], .leaf [99], .leaf [97]]]
    = [.leaf [97], .node [98] .nil false, .leaf [99]] := by decide
example : clonePorts [.leaf [97], .node [97] .nil true, .leaf [99]] [[99], [97]] = some [.leaf [99], .node [97] .nil true] := by decide

/-! ## The object handed down through the library's recursion macros

`obj_handed_down` names the object a callback is handed by the path of its table: the sub-tree callback of
the model is `rRecurCb` (`data.obj = &obj->name`).  The library has three more: `rRecurpCb` (`obj->name`, a
pointer member), and for ports `name#N/` `rRecursCb` / `rRecurspCb`, which hand down the array element
`&obj->name[idx]` / `obj->name[idx]` with `idx` computed from the message by `rBOILS_BEGIN`.  In the model an
object is then the path of its table together with the element each enumerated port on the path selects
(`Sugar.objIdx`: `rBOILS_BEGIN` on the name and the message pointer of that level, `SNIP`, next level — what
the driver prints on the `R` lines, where it is compared with the library's own macros).  Pointer members are
taken to be non-NULL (`rRecurpCb` returns without dispatching on NULL: not modelled). -/

/-- **sugar_obj_handed_down** ("with the runtime object handed down by the parent levels", for trees whose
    sub-tree ports are the ones `rRecur` / `rRecurp` / `rRecurs` / `rRecursp` generate — `name/` or `name#N/`,
    no type specification: `sugarNodes`): with or without location buffer, every callback is handed the
    object of its own table (`c.obj` is the path of its port without the last index; a default handler: the path of
    its table), and of that object the elements which `rRecursCb` / `rRecurspCb` select level by level
    (`Sugar.objIdx` on the message as the root table sees it) are exactly the elements the address names —
    per sub-tree port on the way the value of the run of digits the address has where the name has its
    `#N` (`PPorts.elems`, which knows nothing of `rBOILS_BEGIN` / `atoi` / `SNIP`) —, and each of them exists:
    the index is below N (`ElemsInRange`: no access outside `obj->name[N]`). -/
theorem sugar_obj_handed_down {mk : List Bytes → Option Matcher} (hmk : MkOK mk) {P : PPorts} {addr tags rest : Bytes}
    (h : InScope P addr tags rest) (hs : P.tab.sugarNodes = true) (k : Nat) (base : Bool) (d : RtData)
    (hd : d.Usable) (hobj : d.obj = []) :
    ∃ log d', dispatch mk P.render (msgBuf addr tags k rest) d base = some (log, d') ∧
      ∀ c ∈ log, ((∀ q, c.who = .port q → c.obj = q.dropLast) ∧ (∀ q, c.who = .dflt q → c.obj = q)) ∧
        SugarObj P (rootAddr base addr) (msgTail k tags rest) c := by
  obtain ⟨L, log, d', hdisp, hv⟩ := dispatch_views hmk h k base d hd
  refine ⟨log, d', hdisp, forall_of_views hv (fun v => ((∀ q, v.who = .port q → v.obj = q.dropLast) ∧
    (∀ q, v.who = .dflt q → v.obj = q)) ∧ ∃ es, P.elems (rootAddr base addr) v.obj = some es ∧
      Sugar.objIdx P.render.tab (rootAddr base addr ++ 0 :: msgTail k tags rest) v.obj = some (stripN es) ∧
      ElemsInRange es) fun c hc => ?_⟩
  have hptr := rootLog_ptr P hobj _ _ _ _ c hc
  refine ⟨⟨fun q hq => (hptr.1 q hq).2, hptr.2⟩, ?_⟩
  have hnul : NulFree (rootAddr base addr) := (h.msgOK.root base).a_nul
  -- on the trace: the object path of the entry continues the root's, and the elements agree along it
  have key : ∃ s, c.obj = [] ++ s ∧ ElemsAgree P.tab 0 (rootAddr base addr) (msgTail k tags rest) s := by
    rcases mem_rootLog hc with hc | rfl
    · rw [hobj] at hc
      exact (trace_log P.tab [] 0 [] [] L _ tags (msgTail k tags rest) c hc).elems h.wf hs hnul rfl
    · exact ⟨[], by simp [dfltCallOf, hobj], elemsAgree_nil _ _ _ _⟩
  obtain ⟨s, h1, es, h2, h3, h4⟩ := key
  rw [List.nil_append] at h1
  refine ⟨es, by rw [← h1] at h2; exact h2, ?_, h4⟩
  rw [← objIdxFrom_eq, ← h1] at *
  exact h3

/-- **callback_own_match**: the tie between the log and the recursion callbacks — with or without location
    buffer, every callback in the log is the callback of a port of the tree (`PPorts.portAt`) whose own name
    admits the message *at the message pointer the callback is handed*: `msg` points at an address `a'` with
    `Admits p a' tags` (in particular `PathSpec p a'`).  `rBOILS_BEGIN` inside `rRecursCb` / `rRecurspCb` works on
    exactly these two inputs (`msg` and `data.port->name`, `port_pointer_own`): `recurs_cb_index` applies to
    every invocation. -/
theorem callback_own_match {mk : List Bytes → Option Matcher} (hmk : MkOK mk) {P : PPorts} {addr tags rest : Bytes}
    (h : InScope P addr tags rest) (k : Nat) (base : Bool) (d : RtData) (hd : d.Usable) :
    ∃ log d', dispatch mk P.render (msgBuf addr tags k rest) d base = some (log, d') ∧
      ∀ c ∈ log, ∀ q, c.who = .port q →
        ∃ p a', P.portAt q = some p ∧ c.m = a' ++ 0 :: msgTail k tags rest ∧ Admits p a' tags := by
  obtain ⟨L, log, d', hdisp, hv⟩ := dispatch_views hmk h k base d hd
  refine ⟨log, d', hdisp, forall_of_views hv (fun v => ∀ q, v.who = .port q →
    ∃ p a', P.portAt q = some p ∧ v.m = a' ++ 0 :: msgTail k tags rest ∧ Admits p a' tags) fun c hc q hq => ?_⟩
  rcases mem_rootLog hc with hc | rfl
  · exact (trace_log P.tab [] 0 _ _ _ _ _ _ c hc).own_match h.wf q hq
  · simp [dfltCallOf, Call.view] at hq

/-- **recurs_cb_index**: one invocation of a recursion callback — on every message pointer at an address that
    spells a name `…#N…/` (`PathSpec`; name of the documented form, no type specification) `rBOILS_BEGIN`
    computes the element the address names for the name's first `#N`, and that element exists (index < N: no
    access outside `obj->name[N]`); for a name without '#' (`rRecurCb` / `rRecurpCb`) no element is computed. -/
theorem recurs_cb_index {p : Pat} (hnw : nameWf p = true) (hty : p.types = none) {a : Bytes}
    (hps : PathSpec p a) (ex : Bytes) :
    (if hasChar 35 p.render then (Sugar.recursIdx p.render (a ++ 0 :: ex)).map some else some none) =
      some ((spelledElem p.segs a).map (·.1)) ∧
    ∀ v n, spelledElem p.segs a = some (v, n) → v < n := by
  obtain ⟨_, _, hpna⟩ := nameWf_unpack hnw
  have hg := (greedy_iff_pathSpec hpna a).mpr hps
  obtain ⟨t, ht⟩ := Option.isSome_iff_exists.mp hg
  have hm : matchB p a [] = some t := by simp [matchB, ht, hty]
  exact recursIdx_of_match hnw hty hm ex

/-- the message pointer the root table sees, as the driver computes it for `Sugar.objIdx` on the `R` lines, is
    the one `sugar_obj_handed_down` speaks about -/
theorem sugar_root_msg {addr tags rest : Bytes} (k : Nat) (base : Bool) :
    (if base && (msgBuf addr tags k rest).head? == some 47 then (msgBuf addr tags k rest).drop 1
     else msgBuf addr tags k rest) = rootAddr base addr ++ 0 :: msgTail k tags rest := by
  cases base with
  | false => simp [rootAddr]
  | true =>
    obtain ⟨c, r, hM, h⟩ := root_msg addr (msgTail k tags rest)
    rw [msgBuf, hM, ← h]
    by_cases hc : c = 47 <;> simp [hc]

/-! ## The statement in MUST / MAY / MUSTNOT form

`dispatch_linear_iff` / `dispatch_loc_iff` characterise the callback log by `AnswersRoot`, whose type rule
`TypesAdmit` is what `rtosc_match_args` really does (C05 `types_exact`: a type string that extends the LAST
listed alternative is admitted) — exact, but inside the region the statement leaves open it is the code's own
behaviour.  The statement itself fixes two sides only (C05 `types_sandwich`): a type string that IS one of the
listed alternatives must match (`SpecMatch`), one that does not even extend a listed alternative must not
(outside `SpecMayMatch`).  `MustAnswer` / `MayAnswer` (Ports/DispatchSpec.lean) lift the two sides to
the tree: `MustAnswer` — every level on the way certainly matches, and for a default handler certainly no
port of its table matches; `MayAnswer` — … possibly …; a callback outside `MayAnswer` MUST NOT be invoked.
This is the form the Python oracle of the correspondence evaluates on the implementation's output. -/

/-- **matcher_between** (one name): `rtosc_match` on a name of the documented form lies between the two sides —
    it accepts every message that MUST match and only messages that MAY match. -/
theorem matcher_between {p : Pat} (hp : nameWf p = true) {a tags : Bytes} (k : Nat) (rest : Bytes)
    (ha : NulFree a) (hb : IdxBounded a) (ht : NulFree tags) :
    (SpecMatch p a tags → ∃ e, full (p.render ++ [0]) (msgBuf a tags k rest) = some (true, e)) ∧
    (∀ e, full (p.render ++ [0]) (msgBuf a tags k rest) = some (true, e) → SpecMayMatch p a tags) := by
  obtain ⟨e, he, _⟩ := full_render hp k rest ha hb ht
  have hiff := matchB_iff_admits hp a tags
  constructor
  · intro hs
    have : (matchB p a tags).isSome = true := hiff.mpr ((admits_sandwiched p a tags).1 hs)
    exact ⟨e, by rw [msgBuf, he, this]⟩
  · intro e' he'
    rw [msgBuf, he] at he'
    simp only [Option.some.injEq, Prod.mk.injEq] at he'
    exact (admits_sandwiched p a tags).2 (hiff.mp he'.1)

/-- with or without location buffer: the log is `AnswersRoot` (`dispatch_linear_iff` and `dispatch_loc_iff`
    in one statement) -/
theorem dispatch_iff {mk : List Bytes → Option Matcher} (hmk : MkOK mk) {P : PPorts} {addr tags rest : Bytes}
    (h : InScope P addr tags rest) (k : Nat) (base : Bool) (d : RtData) (hd : d.Usable) :
    ∃ log d', dispatch mk P.render (msgBuf addr tags k rest) d base = some (log, d') ∧
      ∀ w, w ∈ log.map (·.who) ↔ AnswersRoot P (rootAddr base addr) tags w := by
  rcases hd with hd | ⟨L0, hd, hsz⟩
  · exact dispatch_linear_iff mk h k base d hd
  · exact dispatch_loc_iff hmk h k base d L0 hd hsz

/-- **dispatch_must_mustnot** ("a message invokes a port's callback if and only if its address matches that
    port's path at every level of the tree and its type tags are admitted", with "admitted" read as the
    two-sided statement of C05 and nothing else): with or without location buffer, whichever lookup strategy —
    every callback the message MUST invoke is in the log, and the log holds nothing the message MUST NOT
    invoke. -/
theorem dispatch_must_mustnot {mk : List Bytes → Option Matcher} (hmk : MkOK mk) {P : PPorts} {addr tags rest : Bytes}
    (h : InScope P addr tags rest) (k : Nat) (base : Bool) (d : RtData) (hd : d.Usable) :
    ∃ log d', dispatch mk P.render (msgBuf addr tags k rest) d base = some (log, d') ∧
      (∀ w, MustAnswer P (rootAddr base addr) tags w → w ∈ log.map (·.who)) ∧
      (∀ w, w ∈ log.map (·.who) → MayAnswer P (rootAddr base addr) tags w) := by
  obtain ⟨log, d', h1, h2⟩ := dispatch_iff hmk h k base d hd
  refine ⟨log, d', h1, ?_, ?_⟩
  · intro w hw
    exact (h2 w).mpr ((answersRoot_eq _ _ _ _).mpr (sandwiched_must_le admits_sandwiched _ _ _ _ hw))
  · intro w hw
    exact sandwiched_le_may admits_sandwiched _ _ _ _ ((answersRoot_eq _ _ _ _).mp ((h2 w).mp hw))

/-- **dispatch_sandwich**: between the two sides the log is not arbitrary — there is ONE verdict function on
    (name, remaining address, type string) inside the sandwich of C05 (`Sandwiched`: positive on every MUST
    message, positive on MAY messages only) such that for every tree, every message, with or without location
    buffer, the log is exactly what the level-by-level rule yields with that verdict: a port is invoked iff
    the verdict on its name is positive and its parent port was invoked, a default handler iff its table was
    reached and no port of it got a positive verdict.  (The witness is `Admits`, i.e. the model's matcher; the
    statement does not mention it.) -/
theorem dispatch_sandwich :
    ∃ v : Verdict, Sandwiched v ∧
      ∀ {mk : List Bytes → Option Matcher}, MkOK mk → ∀ {P : PPorts} {addr tags rest : Bytes},
        InScope P addr tags rest → ∀ (k : Nat) (base : Bool) (d : RtData), d.Usable →
        ∃ log d', dispatch mk P.render (msgBuf addr tags k rest) d base = some (log, d') ∧
          ∀ w, w ∈ log.map (·.who) ↔ AnswersRootBy v v P (rootAddr base addr) tags w := by
  refine ⟨Admits, admits_sandwiched, ?_⟩
  intro mk hmk P addr tags rest h k base d hd
  obtain ⟨log, d', h1, h2⟩ := dispatch_iff hmk h k base d hd
  exact ⟨log, d', h1, fun w => (h2 w).trans (answersRoot_eq _ _ _ _)⟩

/-- the driver builds the lookup tables of a tree once per op line: the cached function is
    the same function -/
theorem cachedMk_eq (f : List Bytes → Option Matcher) (tables : List (List Bytes)) (names : List Bytes) :
    cachedMk f (buildCache f tables) names = f names := by
  unfold cachedMk buildCache
  cases h : (tables.map (fun n => (n, f n))).lookup names with
  | none => rfl
  | some r =>
    simp only
    induction tables with
    | nil => simp at h
    | cons t ts ih =>
      simp only [List.map_cons, List.lookup_cons] at h
      by_cases he : names = t
      · subst he; simp at h; exact h.symm
      · have : (names == t) = false := by simp [he]
        rw [this] at h
        exact ih h

theorem cachedMk_one {f : List Bytes → Option Matcher} {names : List Bytes} {r : Option Matcher}
    (h : f names = r) : f = cachedMk f [(names, r)] := by
  subst h; exact (funext (cachedMk_eq f [names])).symm

/-! ## What the unrepaired code did (fixes/C04-01 … C04-06) -/

/-- table {a, cab} -/
def f3Names : List Bytes := [[97], [99, 97, 98]]
/-- message "aa" -/
def f3Msg : Bytes := mkMsg [97, 97] [] [0, 0, 0, 0]
/-- the tables `refreshMagic` builds for {a, cab}: pos = [0], assoc = 0, remap = [0,0,0,1] -/
def f3Matcher : Matcher :=
  { fixed := f3Names, argSpec := [none, none], pos := [0], assoc := List.replicate 127 0,
    remap := [0, 0, 0, 1], enump := [false, false] }

theorem f3Pos : findPos f3Names = [0] := by decide +kernel
theorem f3Assoc : findAssoc f3Names [0] = List.replicate 127 0 := findAssoc_zero (by decide +kernel)

/-- **hard_match_prefix_counterexample** (C04-01): in the table {a, cab} the message "aa"
    hashes to a free slot of `remap`, which holds port 0; the unrepaired `hard_match` (a
    prefix test) accepts port "a" although `rtosc_match("a", "aa")` is false — the
    callback of "a" was invoked with a location buffer and not without.  The repaired
    `hard_match` rejects. -/
theorem hard_match_prefix_counterexample :
    matcherOfUnfixed realSearch f3Names = some f3Matcher ∧
    lookupUnfixed f3Matcher f3Msg = some (.slot 0 true) ∧
    (full ([97] ++ [0]) f3Msg).map (·.1) = some false ∧
    lookup f3Matcher f3Msg = some (.slot 0 false) := by
  rw [matcherOfUnfixed_real (by decide) f3Pos f3Assoc]
  decide +kernel

/-- table {baa, abc, aac} -/
def f4Names : List Bytes := [[98, 97, 97], [97, 98, 99], [97, 97, 99]]
/-- message "baa" -/
def f4Msg : Bytes := mkMsg [98, 97, 97] [] [0, 0, 0, 0]
/-- what `find_pos` / `find_assoc` / `find_remap` return for it: pos = [0,1], assoc['b'] = 1,
    hash values 4, 4, 3 -/
def f4Matcher : Matcher :=
  { fixed := f4Names, argSpec := [none, none, none], pos := [0, 1], assoc := (List.replicate 127 0).set 98 1,
    remap := [0, 0, 0, 2, 1], enump := [false, false, false] }

/-- **hash_collision_counterexample** (C04-02): for {baa, abc, aac} the heuristic
    `find_assoc` ends with equal hash values for "baa" and "abc"; `find_remap` lets the
    later one win, so the message "baa" — which `rtosc_match`es port 0 — selected port 1 and
    was dropped with a location buffer.  The repaired `generate_minimal_hash` notices the
    duplicate and leaves `pos` empty (linear search). -/
theorem hash_collision_counterexample :
    matcherOfUnfixed realSearch f4Names = some f4Matcher ∧
    f4Names.map (hashStr f4Matcher.pos f4Matcher.assoc) = [4, 4, 3] ∧
    (full ([98, 97, 97] ++ [0]) f4Msg).map (·.1) = some true ∧
    lookupUnfixed f4Matcher f4Msg = some (.slot 1 false) ∧
    (matcherOf realSearch f4Names).map (·.pos) = some [] := by
  have hp : findPos f4Names = [0, 1] := by decide +kernel
  have ha : findAssoc f4Names [0, 1] = (List.replicate 127 0).set 98 1 := by
    rw [findAssoc_lin]; decide +kernel
  rw [matcherOfUnfixed_real (by decide) hp ha, matcherOf_real (by decide) hp ha]
  decide +kernel

/-- table {c, a/b} -/
def f5Names : List Bytes := [[99], [97, 47, 98]]
/-- message "a/b" -/
def f5Msg : Bytes := mkMsg [97, 47, 98] [] [0, 0, 0, 0]
def f5Matcher : Matcher :=
  { fixed := f5Names, argSpec := [none, none], pos := [0], assoc := List.replicate 127 0,
    remap := [0, 0, 0, 1], enump := [false, false] }

/-- **inner_slash_counterexample** (C04-03): the key "a/b" is hashed as a whole (length 3),
    the message "a/b" by its first component "a/" (length 2): it selected port 0 ("c") and
    was dropped with a location buffer although `rtosc_match("a/b", "a/b")` holds.  The
    repaired `generate_minimal_hash` does not hash such a table. -/
theorem inner_slash_counterexample :
    matcherOfUnfixed realSearch f5Names = some f5Matcher ∧
    (full ([97, 47, 98] ++ [0]) f5Msg).map (·.1) = some true ∧
    lookupUnfixed f5Matcher f5Msg = some (.slot 0 false) ∧
    (matcherOf realSearch f5Names).map (·.pos) = some [] := by
  have hp : findPos f5Names = [0] := by decide +kernel
  rw [matcherOfUnfixed_real (by decide) hp (findAssoc_zero (by decide +kernel))]
  decide +kernel

/-- table {a} with a default handler -/
def k8Table : Table := .leaf [97] .nil
def k8Msg : Bytes := mkMsg [47, 98] [] [0, 0, 0, 0]
def k8Data : RtData := { loc := some [], locSize := 16, locHigh := 0, obj := [], nmatches := 0, port := none }

/-- **default_handler_counterexample** (C04-05): the unrepaired linear branches never call
    `default_handler` — they behave like those of a table without one (`dflt := false`).
    For the hashed table {a} with a default handler the message "/b" therefore reached the
    default handler with a location buffer and nothing without; repaired, both do. -/
theorem default_handler_counterexample :
    (dispatchReal ⟨k8Table, true⟩ k8Msg k8Data true).map (fun r => r.1.map (·.who)) = some [.dflt []] ∧
    (dispatchReal ⟨k8Table, false⟩ k8Msg { k8Data with loc := none } true).map (fun r => r.1.map (·.who)) = some [] ∧
    (dispatchReal ⟨k8Table, true⟩ k8Msg { k8Data with loc := none } true).map (fun r => r.1.map (·.who)) = some [.dflt []] := by
  decide +kernel

/-- table {"\xc3\xa9x", "\xc3\xa9y"} ("éx", "éy") -/
def f20Names : List Bytes := [[0xc3, 0xa9, 120], [0xc3, 0xa9, 121]]
def f20Msg : Bytes := mkMsg [0xc3, 0xa9, 121] [] [0, 0, 0, 0]

/-- **high_byte_name_counterexample** (C04-06): `find_pos` finds a position for {éx, éy}, so the
    unrepaired `refreshMagic` went on to `find_assoc`, which executes `assoc[i] = j` for every
    character `i` of the names — 0xc3 is the `char` -61: a write in front of the 127-entry
    vector (`none`: the model does not define it).  The repaired `generate_minimal_hash` does not
    hash a table with such a name; the linear search finds the port. -/
theorem high_byte_name_counterexample :
    matcherOfUnfixed realSearch f20Names = none ∧
    (matcherOf realSearch f20Names).map (·.pos) = some [] ∧
    (full ([0xc3, 0xa9, 121] ++ [0]) f20Msg).map (·.1) = some true := by
  refine ⟨?_, ?_, ?_⟩ <;> decide +kernel

/-- table {":i", "b"}: a port whose whole name is a type specification -/
def b1Table : Table := .leaf [58, 105] (.leaf [98] .nil)
def b1Msg : Bytes := mkMsg [47] [105] [0, 0, 0, 0]

/-- **empty_name_counterexample**: the hypothesis "names are not empty in front of their
    type specification" (`nameWf`: `p.segs ≠ []`) cannot be dropped from `loc_independent`.
    `generate_minimal_hash` separates key and type specification with `idx = tmp.find(':'); if(idx > 0)`: for
    the name ":i" the whole name stays the key, the table {":i", "b"} is hashed, and the message "/" ",i" — which
    `rtosc_match` and hence the linear search accept for ":i" — finds no port with a location buffer.  (Such a
    port is reached with an empty address, which `rtosc_argument_string` rules out by `assert(msg && *msg)`:
    not a meaningful name; documented as an assumption, not generated.) -/
theorem empty_name_counterexample :
    (dispatchReal ⟨b1Table, false⟩ b1Msg k8Data true).map (fun r => r.1.map (·.who)) = some [] ∧
    (dispatchReal ⟨b1Table, false⟩ b1Msg { k8Data with loc := none } true).map (fun r => r.1.map (·.who)) = some [.port [0]] ∧
    (matcherOf realSearch b1Table.names).map (fun pm => (pm.fixed, pm.pos.isEmpty)) = some ([[58, 105], [98]], false) := by
  have hp : findPos b1Table.names = [0] := by decide +kernel
  have hmk := matcherOf_real (names := b1Table.names) (by decide) hp (findAssoc_zero (by decide +kernel))
  unfold dispatchReal
  rw [cachedMk_one hmk]
  decide +kernel

/-! ## Non-vacuity -/

/-- `a`, `b#3/` → { `c:i`, `d/e`, default handler }, `ab::f`, default handler -/
def exTree : PPorts :=
  { dflt := true,
    tab :=
      .leaf { segs := [.lit [97]], sub := false, types := none } <|
      .node { segs := [.lit [98], .enum [51]], sub := true, types := none }
        (.leaf { segs := [.lit [99]], sub := false, types := some [[105]] } <|
         .leaf { segs := [.lit [100, 47, 101]], sub := false, types := none } .nil) true <|
      .leaf { segs := [.lit [97, 98]], sub := false, types := some [[], [102]] } .nil }

example : exTree.tab.WF := by decide
example : exTree.render.tab.names = [[97], [98, 35, 51, 47], [97, 98, 58, 58, 102]] := by decide

/-- "/b2/c" with type string "i" -/
def exAddr : Bytes := [47, 98, 50, 47, 99]

theorem exScope : InScope exTree exAddr [105] [0, 0, 0, 0] :=
  { wf := by decide
    addr_nul := by unfold NulFree exAddr; decide
    addr_idx := idxBounded_of_check (by decide)
    tags_nul := by unfold NulFree; decide }

/-- the specification names exactly the sub-tree port `b#3/` and its port `c:i` -/
example : AnswersRoot exTree (rootAddr true exAddr) [105] (.port [1, 0]) := by
  unfold AnswersRoot
  left
  simp only [exTree, Answers]
  right; left
  refine ⟨?_, Or.inr (Or.inl (Or.inl ⟨?_, rfl⟩))⟩
  · exact (matchB_iff_admits (by decide) _ _).mp (by decide)
  · exact (matchB_iff_admits (by decide) _ _).mp (by decide)

def exData : RtData := { loc := some [], locSize := 32, locHigh := 0, obj := [], nmatches := 0, port := none }

/-- the real tables: two callbacks, `loc` "/b2/" and "/b2/c", objects and port pointers of
    their own levels, one match, `loc` restored -/
example :
    (dispatchReal exTree.render (mkMsg exAddr [105] [0, 0, 0, 0]) exData true).map (fun r => r.1.map (·.who)) =
      some [.port [1], .port [1, 0]] ∧
    (dispatchReal exTree.render (mkMsg exAddr [105] [0, 0, 0, 0]) exData true).map (fun r => r.1.map (·.loc)) =
      some [some [47, 98, 50, 47], some [47, 98, 50, 47, 99]] ∧
    (dispatchReal exTree.render (mkMsg exAddr [105] [0, 0, 0, 0]) exData true).map (fun r => r.1.map (·.obj)) =
      some [[], [1]] ∧
    (dispatchReal exTree.render (mkMsg exAddr [105] [0, 0, 0, 0]) exData true).map (fun r => r.1.map (·.dport)) =
      some [some [1], some [1, 0]] ∧
    (dispatchReal exTree.render (mkMsg exAddr [105] [0, 0, 0, 0]) exData true).map (fun r => (r.2.loc, r.2.nmatches)) =
      some (some [47], 1) := by
  decide +kernel

/-- an address nobody answers reaches the default handler of the root table — with and
    without location buffer -/
example :
    (dispatchReal exTree.render (mkMsg [47, 120] [] [0, 0, 0, 0]) exData true).map (fun r => r.1.map (·.who)) =
      some [.dflt []] ∧
    (dispatchReal exTree.render (mkMsg [47, 120] [] [0, 0, 0, 0]) { exData with loc := none } true).map
      (fun r => r.1.map (·.who)) = some [.dflt []] := by
  decide +kernel

/-- a hashed root table {`a/` → {`x`}, `b`}: a history of two messages on one `RtData` — "/a/x" recurses
    through the hashed table, "/b" then is handed the root object again (what the hashed branch's
    `d.obj = obj` is for) -/
def hTree : PPorts :=
  { dflt := false,
    tab :=
      .node { segs := [.lit [97]], sub := true, types := none }
        (.leaf { segs := [.lit [120]], sub := false, types := none } .nil) false <|
      .leaf { segs := [.lit [98]], sub := false, types := none } .nil }

def hMsgs : List HMsg :=
  [{ addr := [47, 97, 47, 120], tags := [], k := 3, rest := [0, 0, 0], base := true },
   { addr := [47, 98], tags := [], k := 1, rest := [0, 0, 0], base := true }]

theorem hTree_mk : matcherOf realSearch hTree.render.tab.names =
    matcherOf (constSearch [0] (List.replicate 127 0)) hTree.render.tab.names :=
  matcherOf_real (keys := hTree.render.tab.names) (pos := [0]) (by decide) (by decide +kernel)
    (findAssoc_zero (by decide +kernel))

example : hTree.tab.WF := by decide
example : (matcherOf realSearch hTree.render.tab.names).map (fun pm => pm.pos.isEmpty) = some false := by
  rw [hTree_mk]; decide +kernel
example : ∀ m ∈ hMsgs, InScope hTree m.addr m.tags m.rest := by
  intro m hm
  simp only [hMsgs, List.mem_cons, List.not_mem_nil, or_false] at hm
  rcases hm with rfl | rfl
  · exact { wf := by decide, addr_nul := by unfold NulFree; decide, addr_idx := idxBounded_of_check (by decide),
            tags_nul := by unfold NulFree; decide }
  · exact { wf := by decide, addr_nul := by unfold NulFree; decide, addr_idx := idxBounded_of_check (by decide),
            tags_nul := by unfold NulFree; decide }
example :
    (runHistory (matcherOf realSearch) hTree.render exData hMsgs).map
      (fun r => (r.1.map (fun log => log.map (fun c => (c.who, c.obj))), r.2.obj)) =
      some ([[(.port [0], []), (.port [0, 0], [0])], [(.port [1], [])]], []) := by
  rw [cachedMk_one hTree_mk]
  decide +kernel

/-- `HashOK` is not vacuous: the sub-table {c:i, d/e}… is not hashed (inner '/'), the table
    {a, cab} is, and satisfies it -/
example : ∃ pm, matcherOf realSearch f3Names = some pm ∧ pm.pos ≠ [] ∧ HashOK f3Names pm := by
  have h : matcherOf realSearch f3Names = some f3Matcher := by
    rw [matcherOf_real (by decide) f3Pos f3Assoc]; decide +kernel
  exact ⟨f3Matcher, h, by decide, generate_establishes_HashOK realSearch f3Names f3Matcher h (by decide)⟩

/-- `x:i:f` with a default handler -/
def swTree : PPorts :=
  { dflt := true, tab := .leaf { segs := [.lit [120]], sub := false, types := some [[105], [102]] } .nil }

theorem swPath : PathSpec { segs := [.lit [120]], sub := false, types := some [[105], [102]] } [120] :=
  ⟨[], SpellsAll.lit [120] (SpellsAll.nil []), rfl⟩

example : InScope swTree [47, 120] [105, 102] [0, 0, 0, 0] :=
  { wf := by decide, addr_nul := by unfold NulFree; decide, addr_idx := idxBounded_of_check (by decide),
    tags_nul := by unfold NulFree; decide }

/-- type string "i" is listed: the port MUST be invoked -/
example : MustAnswer swTree [120] [105] (.port [0]) := by
  refine Or.inl (Or.inl ⟨⟨swPath, ?_⟩, rfl⟩)
  intro ts hts; cases hts; decide

/-- the two sides really differ: the type string "if" extends the first alternative — the port MAY be invoked, so
    may the default handler, neither MUST; the code does not invoke the port; "fi" extends the last one: it does -/
example :
    MayAnswer swTree [120] [105, 102] (.port [0]) ∧ ¬ MustAnswer swTree [120] [105, 102] (.port [0]) ∧
    MayAnswer swTree [120] [105, 102] (.dflt []) ∧ ¬ MustAnswer swTree [120] [105, 102] (.dflt []) ∧
    (dispatchReal swTree.render (mkMsg [47, 120] [105, 102] [0, 0, 0, 0, 0, 0, 0, 0]) exData true).map
      (fun r => r.1.map (·.who)) = some [.dflt []] ∧
    (dispatchReal swTree.render (mkMsg [47, 120] [102, 105] [0, 0, 0, 0, 0, 0, 0, 0]) exData true).map
      (fun r => r.1.map (·.who)) = some [.port [0]] := by
  have hloose : TypesLoose { segs := [.lit [120]], sub := false, types := some [[105], [102]] } [105, 102] := by
    intro ts hts; cases hts; exact ⟨[105], by decide, ⟨[102], rfl⟩⟩
  have hnex : ¬ TypesExact { segs := [.lit [120]], sub := false, types := some [[105], [102]] } [105, 102] := by
    intro h; exact absurd (h _ rfl) (by decide)
  refine ⟨Or.inl (Or.inl ⟨⟨swPath, hloose⟩, rfl⟩), ?_, ?_, ?_, by decide +kernel, by decide +kernel⟩
  · rintro (h | ⟨_, _, h⟩)
    · rcases h with ⟨h, _⟩ | h
      · exact hnex h.2
      · exact h
    · cases h
  · refine Or.inr ⟨rfl, ?_, rfl⟩
    rintro (h | h)
    · exact hnex h.2
    · exact h
  · rintro (h | ⟨_, h, _⟩)
    · rcases h with ⟨_, h⟩ | h
      · cases h
      · exact h
    · exact h (Or.inl ⟨swPath, hloose⟩)

example : exTree.portAt [1, 0] = some { segs := [.lit [99]], sub := false, types := some [[105]] } := by decide

/-- the name `b#3/` accounts for "b2/" of the remaining address "b2/c" -/
example : Accounts { segs := [.lit [98], .enum [51]], sub := true, types := none } [98, 50, 47] [99] :=
  ⟨[47, 99],
   SpellsAll.lit [98] (SpellsAll.enum [51] [50] (by decide) (by decide)
     (by intro c t h; cases h; decide) (by decide) (SpellsAll.nil [47, 99])),
   rfl⟩

/-- `loc_full_address_exact` on the example tree and "/b2/c" -/
example : ∃ log d', dispatchReal exTree.render (msgBuf exAddr [105] 2 [0, 0, 0, 0]) exData true = some (log, d') ∧
    ∀ c ∈ log, LocExact exTree ([47] ++ [98, 50, 47, 99]) (msgTail 2 [105] [0, 0, 0, 0]) c ∧
      ∀ q p, c.who = .port q → exTree.portAt q = some p → p.sub = false → c.loc = some ([47] ++ [98, 50, 47, 99]) :=
  loc_full_address_exact real_MkOK exScope 2 true exData [] rfl (by decide)

/-- `mids#4/` → { `arr#3/` → { `x` }, `one/` → { `x` } }: the names that `rRecurs(mids, 4)`, `rRecurs(arr, 3)`,
    `rRecur(one)` generate -/
def sgTree : PPorts :=
  { dflt := false,
    tab :=
      .node { segs := [.lit [109, 105, 100, 115], .enum [52]], sub := true, types := none }
        (.node { segs := [.lit [97, 114, 114], .enum [51]], sub := true, types := none }
           (.leaf { segs := [.lit [120]], sub := false, types := none } .nil) false <|
         .node { segs := [.lit [111, 110, 101]], sub := true, types := none }
           (.leaf { segs := [.lit [120]], sub := false, types := none } .nil) false .nil) false .nil }

/-- "/mids2/arr01/x" -/
def sgAddr : Bytes := [47, 109, 105, 100, 115, 50, 47, 97, 114, 114, 48, 49, 47, 120]
/-- "/mids3/one/x" -/
def sgAddr2 : Bytes := [47, 109, 105, 100, 115, 51, 47, 111, 110, 101, 47, 120]

example : sgTree.tab.sugarNodes = true := by decide
example : InScope sgTree sgAddr [] [0, 0, 0, 0] :=
  { wf := by decide
    addr_nul := by unfold NulFree sgAddr; decide
    addr_idx := idxBounded_of_check (by decide +kernel)
    tags_nul := by unfold NulFree; decide }

/-- the leaf callback `x` is handed the object of its table — path [0,0]: element 2 of `mids`, of that element 1 of
    `arr` ("01") — resp. path [0,1]: element 3 of `mids`, its member `one` -/
example :
    (dispatchReal sgTree.render (mkMsg sgAddr [] [0, 0, 0, 0]) exData true).map
      (fun r => r.1.map (fun c => (c.who, c.obj))) =
      some [(.port [0], []), (.port [0, 0], [0]), (.port [0, 0, 0], [0, 0])] ∧
    Sugar.objIdx sgTree.render.tab ((mkMsg sgAddr [] [0, 0, 0, 0]).drop 1) [0, 0] = some [(0, some 2), (0, some 1)] ∧
    sgTree.elems (rootAddr true sgAddr) [0, 0] = some [(0, some (2, 4)), (0, some (1, 3))] ∧
    (dispatchReal sgTree.render (mkMsg sgAddr2 [] [0, 0, 0, 0]) exData true).map
      (fun r => r.1.map (fun c => (c.who, c.obj))) =
      some [(.port [0], []), (.port [0, 1], [0]), (.port [0, 1, 0], [0, 1])] ∧
    Sugar.objIdx sgTree.render.tab ((mkMsg sgAddr2 [] [0, 0, 0, 0]).drop 1) [0, 1] = some [(0, some 3), (1, none)] ∧
    sgTree.elems (rootAddr true sgAddr2) [0, 1] = some [(0, some (3, 4)), (1, none)] := by
  refine ⟨?_, ?_, ?_, ?_, ?_, ?_⟩ <;> decide +kernel

/-- `recurs_cb_index` on `mids#4/` and the remaining address "mids2/arr01/x": element 2 of 4 -/
example :
    PathSpec { segs := [.lit [109, 105, 100, 115], .enum [52]], sub := true, types := none } (sgAddr.drop 1) ∧
    spelledElem [.lit [109, 105, 100, 115], .enum [52]] (sgAddr.drop 1) = some (2, 4) ∧
    Sugar.recursIdx [109, 105, 100, 115, 35, 52, 47] (sgAddr.drop 1 ++ [0]) = some 2 :=
  ⟨⟨[47, 97, 114, 114, 48, 49, 47, 120],
     SpellsAll.lit [109, 105, 100, 115] (SpellsAll.enum [52] [50] (by decide) (by decide)
       (by intro c t h; cases h; decide) (by decide) (SpellsAll.nil _)),
     ⟨_, rfl⟩⟩, by decide, by decide⟩

/-- why `sugarNodes` is a hypothesis of `sugar_obj_handed_down`: the model decides "this sub-tree port has an
    enumerated recursion callback" by `strchr(name, '#')`.  A sub-tree port `a/:#` (no `#N`, but a '#' in its type
    specification — no recursion macro generates such a name) would be taken for one: for "/a/x7" with type
    string "#" `Sugar.objIdx` selects an element (7, the first digit of the message) although the name
    enumerates nothing. -/
def shTree : PPorts :=
  { dflt := false,
    tab := .node { segs := [.lit [97]], sub := true, types := some [[35]] }
             (.leaf { segs := [.lit [120, 55]], sub := false, types := none } .nil) false .nil }

example :
    shTree.tab.WF ∧ shTree.tab.sugarNodes = false ∧
    (dispatchReal shTree.render (mkMsg [47, 97, 47, 120, 55] [35] [0, 0, 0, 0]) exData true).map
      (fun r => r.1.map (fun c => (c.who, c.obj))) = some [(.port [0], []), (.port [0, 0], [0])] ∧
    Sugar.objIdx shTree.render.tab ((mkMsg [47, 97, 47, 120, 55] [35] [0, 0, 0, 0]).drop 1) [0] = some [(0, some 7)] ∧
    shTree.elems [97, 47, 120, 55] [0] = some [(0, none)] := by
  refine ⟨by decide, by decide, ?_, ?_, ?_⟩ <;> decide +kernel

end Rtosc.Ports
