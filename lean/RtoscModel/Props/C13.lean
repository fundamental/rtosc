/-
  C13 — Loading a savefile does not depend on the order of its lines.
  Property theorems only; the proofs are in Proofs/Save*.lean.

  Reading of the statement.  `App.load` is `dispatch_printed_messages` after scanning: it
  builds `message_map`, runs `scan_deps` for every port name, sorts with Kahn's algorithm
  and dispatches in that order (RtoscModel/Save/{Deps,Load}.lean).  Quantified over
    * every application `app` with `App.WF` (well-formed description; the dependency order is any
      finite strict partial order: independent ports may share dependants, `independent_writes_confluent`),
      `MetaCovers` (the metadata declares every dependence: rDefaultDepends / rDepends / rEnabledBy reach
      every ancestor) and `MetaRanked` (the metadata is acyclic),
    * every file `ls` with `FileOK` (port names pairwise different, as `save_to_file`'s
      `written` set guarantees; array lines stand under array ports; no parameter is
      addressed by two lines), of any length,
    * every permutation of it and every start state.
  `Ports::apropos` enters through `app.apropos` (hypotheses `MetaCovers`/`MetaRanked`);
  it is C18's subject and is tied to the code by the correspondence engine `order`.
-/
import RtoscModel.Proofs.SaveLoad
import RtoscModel.Proofs.SaveExample
import RtoscModel.Proofs.SaveExampleDiamond
namespace Rtosc.C13
open Rtosc Rtosc.Save

/-- **kahn_is_topological**: Kahn's algorithm exactly as written (FIFO queue, `n_input_edges`
    counted and decremented with multiplicity, `--` on `size_t`) terminates within its
    fuel on every acyclic dependees graph, outputs every message exactly once and puts
    every edge's source before its target. -/
theorem kahn_is_topological (deps : List (List Nat))
    (hrange : ∀ l ∈ deps, ∀ j ∈ l, j < deps.length)
    (rank : Nat → Nat) (hacyc : ∀ i, ∀ j ∈ deps.getD i [], rank i < rank j) :
    ∃ order, kahn deps = some order ∧ order.Perm (List.range deps.length) ∧
      ∀ i j, j ∈ deps.getD i [] → ∀ a b : Nat, order[a]? = some i → order[b]? = some j → a < b :=
  kahn_spec deps hrange rank hacyc

/-- non-vacuity: a diamond with a duplicated edge, listed against its dependency order -/
example : ∃ order, kahn [[], [0, 0], [1], [1, 0]] = some order ∧ order.Perm (List.range 4) :=
  ⟨[2, 3, 1, 0], by decide, by decide⟩

/-- **edges_cover_dependencies**: whenever a parameter of line `a` is an ancestor of a
    parameter of line `b` (preset port, `rDepends` port, enabling toggle, transitively),
    `scan_deps` finds a path of edges from `a` to `b` — whatever the position of the two
    lines and also when the ports in between have no line in the file. -/
theorem edges_cover_dependencies (app : App) (hwf : app.WF) (hcov : app.MetaCovers) (hrank : MetaRanked app.apropos)
    (ls : List Line) (hnd : (ls.map (·.addr)).Nodup) (hok : ∀ l ∈ ls, app.LineOK l)
    (deps : List (List Nat)) (hdeps : dependees app.apropos scanFuel (ls.map (·.addr)) = some deps)
    (ia ib : Nat) (a b : Line) (ha : ls[ia]? = some a) (hb : ls[ib]? = some b) (hlt : app.lineLt a b) :
    Relation.TransGen (fun i j => j ∈ deps.getD i []) ia ib :=
  Rtosc.Save.edges_cover_dependencies app hwf hcov hrank ls hnd hok deps hdeps ia ib a b ha hb hlt

/-- **independent_writes_confluent** (the core of the order-independence clause): two writes to ports of which
    neither is an ancestor of the other commute on every state, also when the two ports share dependants: the
    change hooks re-apply the defaults of the dependants, and a shared dependant takes its guard- and
    preset-dependent default from the final state in both orders (confluence; of the dependency order it needs
    `WF.anc_lt` and `WF.anc_closed` only). -/
theorem independent_writes_confluent (app : App) (hwf : app.WF) (pa pb : Nat) (ha : pa < app.size) (hb : pb < app.size)
    (hne : pa ≠ pb) (h1 : pa ∉ (app.param pb).anc) (h2 : pb ∉ (app.param pa).anc) (v w : Val) (s : State) :
    app.setParam pb w (app.setParam pa v s) = app.setParam pa v (app.setParam pb w s) :=
  App.setParam_commute hwf ha hb ⟨hne, h1, h2⟩ v w s

/-- **independent_lines_commute**: two lines that address different parameters, none of
    which is an ancestor of one of the other's, commute on every state — including
    whether the dispatch matches at all.  The two lines may have dependants in common. -/
theorem independent_lines_commute (app : App) (hwf : app.WF) (a b : Line)
    (hab : ∀ pa ∈ app.lineParams a, ∀ pb ∈ app.lineParams b,
        pa ≠ pb ∧ pa ∉ (app.param pb).anc ∧ pb ∉ (app.param pa).anc) (s : State) :
    (app.applyLine a s).bind (app.applyLine b) = (app.applyLine b s).bind (app.applyLine a) :=
  Rtosc.Save.independent_lines_commute app hwf a b hab s

/-- **kahn_perm_invariant_state**: for any permutation of the message lines, the result
    of loading — success or failure, the resulting state, the reported number of
    messages — is the same. -/
theorem kahn_perm_invariant_state (app : App) (hwf : app.WF) (hcov : app.MetaCovers)
    (hrank : MetaRanked app.apropos) (ls ls' : List Line) (hp : ls.Perm ls') (hf : app.FileOK ls) (s : State) :
    app.load ls' s = app.load ls s := by
  have hf' := fileOK_perm app ls ls' hp hf
  obtain ⟨l, hl, tl, el⟩ := load_eq app hwf hcov hrank ls hf s
  obtain ⟨l', hl', tl', el'⟩ := load_eq app hwf hcov hrank ls' hf' s
  rw [el, el', resOf, resOf, runSteps_file_agree app hwf ls l' l hf (hl'.trans hp.symm) hl tl' tl s, hp.length_eq]

/-- the applied order always respects the dependences (the clause "a port that another
    port's default, enablement or declared dependency refers to is always applied before
    the dependent port, wherever the two lines stand") -/
theorem dependent_port_applied_first (app : App) (hwf : app.WF) (hcov : app.MetaCovers) (hrank : MetaRanked app.apropos)
    (ls : List Line) (hnd : (ls.map (·.addr)).Nodup) (hok : ∀ l ∈ ls, app.LineOK l) :
    ∃ deps order, dependees app.apropos scanFuel (ls.map (·.addr)) = some deps ∧ kahn deps = some order ∧
      order.Perm (List.range ls.length) ∧
      ∀ (ia ib : Nat) (a b : Line), ls[ia]? = some a → ls[ib]? = some b → app.lineLt a b →
        ∀ pa pb : Nat, order[pa]? = some ia → order[pb]? = some ib → pa < pb :=
  kahn_order_respects app hwf hcov hrank ls hnd hok

/-! ### non-vacuity: the hypotheses hold for a concrete application and file in which the
    order matters: `/s/a` lives in a pointer sub-tree enabled by `/t`, whose default
    depends on `/p`; the file has lines for `/s/a` and `/p` only (`/t` is absent). -/
open Rtosc.Save.Example in
def exFile : List Line := [⟨"/s/a".toList, .plain [.int 7]⟩, ⟨"/p".toList, .plain [.int 1]⟩]

open Rtosc.Save.Example in
theorem exFile_ok : exApp.FileOK exFile where
  addr_nodup := by decide +kernel
  line_ok := by intro l hl; simp [exFile] at hl; rcases hl with rfl | rfl <;> trivial
  disjoint := by decide +kernel

open Rtosc.Save.Example in
/-- the sub-tree line must follow the `/p` line although `/t` has no line -/
example : exApp.lineLt ⟨"/p".toList, .plain [.int 1]⟩ ⟨"/s/a".toList, .plain [.int 7]⟩ :=
  ⟨0, by decide, 2, by decide, by decide⟩

open Rtosc.Save.Example in
example : exApp.load exFile.reverse exApp.init = exApp.load exFile exApp.init :=
  kahn_perm_invariant_state exApp ex_wf ex_covers ex_ranked exFile exFile.reverse (List.reverse_perm _).symm exFile_ok _

/-! ### non-vacuity for independent ports with a shared dependant and a preset-dependent array
    (`DiamondExample.dApp`: `/p` and `/q` both re-apply the default of `/d`; `/a#2` takes its defaults from `/p`) -/
open Rtosc.Save.DiamondExample in
/-- `/p` (index 0) and `/q` (index 1) are independent and share the dependant `/d` (index 2) -/
example : (0 : Nat) ∉ (dApp.param 1).anc ∧ (1 : Nat) ∉ (dApp.param 0).anc ∧
    (0 : Nat) ∈ (dApp.param 2).anc ∧ (1 : Nat) ∈ (dApp.param 2).anc := by decide +kernel

open Rtosc.Save.DiamondExample in
/-- their writes commute although both rewrite `/d` -/
example (s : State) : dApp.setParam 1 (.int 5) (dApp.setParam 0 (.int 1) s) = dApp.setParam 0 (.int 1) (dApp.setParam 1 (.int 5) s) :=
  independent_writes_confluent dApp d_wf 0 1 (by decide +kernel) (by decide +kernel) (by decide +kernel) (by decide +kernel) (by decide +kernel) _ _ s

open Rtosc.Save.DiamondExample in
/-- the lines of `/p` and `/q` commute on every state -/
example (s : State) :
    (dApp.applyLine ⟨"/p".toList, .plain [.int 1]⟩ s).bind (dApp.applyLine ⟨"/q".toList, .plain [.int 5]⟩)
      = (dApp.applyLine ⟨"/q".toList, .plain [.int 5]⟩ s).bind (dApp.applyLine ⟨"/p".toList, .plain [.int 1]⟩) :=
  independent_lines_commute dApp d_wf _ _ (by decide +kernel) s

open Rtosc.Save.DiamondExample in
/-- the shared dependant's line and the array line must follow the lines of the ports they depend on -/
example : dApp.lineLt ⟨"/q".toList, .plain [.int 5]⟩ ⟨"/d".toList, .plain [.int 4]⟩ ∧
    dApp.lineLt ⟨"/p".toList, .plain [.int 1]⟩ ⟨"/a".toList, .arr [.int 7, .int 9]⟩ :=
  ⟨⟨1, by decide, 2, by decide, by decide⟩, ⟨0, by decide, 4, by decide, by decide⟩⟩

open Rtosc.Save.DiamondExample in
/-- a file that lists the dependants first loads like its reverse -/
example : dApp.load dFile.reverse dApp.init = dApp.load dFile dApp.init :=
  kahn_perm_invariant_state dApp d_wf d_covers d_ranked dFile dFile.reverse (List.reverse_perm _).symm dFile_ok _

/-- a path never waits for itself (fixes/C13-scan-deps-self-edge): the toggle's line gets no edge to itself -/
theorem refsOf_not_self (ap : Path → Option DepMeta) (X : Path) : X ∉ refsOf ap X := by
  intro h
  have := (List.mem_filter.1 h).2
  simp at this

/-! ### non-vacuity for a sub-tree enabled by a toggle of its own (`rRecur(s, rEnabledBy(s/t))`, the construct
    behind C13-F26): the hypotheses hold for `SelfExample.sApp`; its savefile lists `/s/a` before `/s/t`. -/
open Rtosc.Save.SelfExample in
/-- the line of the toggle must precede the line of the parameter it enables -/
example : sApp.lineLt ⟨"/s/t".toList, .plain [.bool true]⟩ ⟨"/s/a".toList, .plain [.int 7]⟩ :=
  ⟨0, by decide, 1, by decide, by decide⟩

open Rtosc.Save.SelfExample in
example : sApp.load sFile.reverse sApp.init = sApp.load sFile sApp.init :=
  kahn_perm_invariant_state sApp s_wf s_covers s_ranked sFile sFile.reverse (List.reverse_perm _).symm sFile_ok _

open Rtosc.Save.SelfExample in
/-- the scan and Kahn's algorithm are defined on that file and output both lines -/
example : ∃ deps order, dependees sApp.apropos scanFuel (sFile.map (·.addr)) = some deps ∧ kahn deps = some order ∧
    order.Perm (List.range sFile.length) :=
  let ⟨deps, order, h1, h2, h3, _⟩ := dependent_port_applied_first sApp s_wf s_covers s_ranked sFile
    sFile_ok.addr_nodup sFile_ok.line_ok
  ⟨deps, order, h1, h2, h3⟩

/-- `rSelf(S, rEnabledBy(t))` in the table of `/s/` (asked from `App.apropos` as `/s/self:`; fixes/C13-scan-deps-self-port):
    every port of the table, at any depth below it, refers to `/s/t`; `/s/t` itself and ports outside do not -/
def selfSelfAp (p : Path) : Option DepMeta :=
  if p = "/s/self:".toList then some ⟨some "t".toList, none, none⟩ else none

example : refsOf selfSelfAp "/s/t".toList = [] := by decide +kernel
example : refsOf selfSelfAp "/s/a".toList = ["/s/t".toList] := by decide +kernel
example : refsOf selfSelfAp "/s/u/b".toList = ["/s/t".toList] := by decide +kernel
example : refsOf selfSelfAp "/x".toList = [] := by decide +kernel

end Rtosc.C13
