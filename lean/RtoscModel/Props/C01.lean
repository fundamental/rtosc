/-
  C01 — OSC 1.0 wire format: encoding is spec-exact and decoding is lossless.
  Property theorems only; helper lemmas live in Proofs/Osc*.lean (and Proofs/BasicLemmas.lean), the
  models in Osc/*.lean.  Of the hypotheses below `fArgs` is defined in Proofs/OscEncode.lean,
  `bundleAddr` in Osc/MsgSpec.lean.

  Reading of the statement.  `m : Msg` is an address, a type tag string over the 15 value tags
  plus '[' ']' and one payload argument per payload tag (`Msg.WF`; floats/doubles are bit
  patterns).  `Spec.encode m` is the OSC 1.0 byte string.  A caller hands the constructors
  `cargs : List CArg` (the filled `rtosc_arg_t` unions) that *denote* `m.args`
  (`Denote cargs m.args`): this covers blob data blocks longer than `len` and the NULL data
  pointer (which denotes `len` zero bytes).  The destination is `buf` (`len = buf.length`).
  Readers run on `Spec.encode m ++ rest` for arbitrary trailing bytes `rest`; every read
  goes through `m[p]?`, so `= some …` also says that nothing outside the block is read.

  Sizes: `Msg.WF.size` asks for an encoding shorter than 2^32 bytes (`unsigned pos` of the C
  code), the iterator theorems for one shorter than 2^31 (`int size` in `rtosc_itr_next`).
  The table theorem `tables_agree` lives in its own module, Props/C01Tables.lean.
-/
import RtoscModel.Proofs.OscLax
import RtoscModel.Proofs.OscLength
namespace Rtosc.Osc
open Rtosc

/-- **sizeNull_eq_spec_length** — the size pre-computation (`vsosc_null`) returns exactly the
    length of the OSC 1.0 encoding. -/
theorem sizeNull_eq_spec_length (m : Msg) (cargs : List CArg) (hwf : m.WF)
    (hd : Denote cargs m.args) :
    sizeNull m.addr m.tags cargs = some (Spec.encode m).length :=
  sizeNull_spec m cargs hwf hd

/-- **amessage_eq_spec** — `rtosc_amessage` into a buffer that is large enough writes exactly
    `Spec.encode m` (bytes behind it keep their value), returns its length, never stores
    outside the buffer, and that length is a multiple of 4. -/
theorem amessage_eq_spec (m : Msg) (cargs : List CArg) (buf : Bytes) (hwf : m.WF)
    (hd : Denote cargs m.args) (hcap : (Spec.encode m).length ≤ buf.length) :
    amessage (some buf) m.addr m.tags cargs =
      some ⟨some (Spec.encode m ++ buf.drop (Spec.encode m).length), (Spec.encode m).length, false⟩ ∧
    (Spec.encode m).length % 4 = 0 :=
  ⟨amessage_spec m cargs buf hwf hd hcap, encode_length_mod m⟩

/-- **amessage_null_buffer** — with the NULL buffer the constructor returns the length of the
    encoding (the value a large enough buffer receives). -/
theorem amessage_null_buffer (m : Msg) (cargs : List CArg) (hwf : m.WF) (hd : Denote cargs m.args) :
    amessage none m.addr m.tags cargs = some ⟨none, (Spec.encode m).length, false⟩ :=
  amessage_null_spec m cargs hwf hd

/-- **amessage_null_blob** — in a large enough buffer the result depends only on the denoted
    values: in particular a blob given with the NULL data pointer and length `n` is encoded
    exactly like `n` zero bytes, and a data block longer than `len` like its first `len` bytes. -/
theorem amessage_null_blob (m : Msg) (cargs : List CArg) (buf : Bytes) (hwf : m.WF)
    (hd : Denote cargs m.args) (hcap : (Spec.encode m).length ≤ buf.length) :
    amessage (some buf) m.addr m.tags cargs =
      amessage (some buf) m.addr m.tags (m.args.map Arg.toC) := by
  rw [amessage_spec m cargs buf hwf hd hcap,
    amessage_spec m _ buf hwf (denote_toC m.args hwf.args_ok) hcap]

/-- **vmessage_eq_spec** — `rtosc_message`/`rtosc_vmessage` (the `va_list` holds the promoted
    values of a call site) produce `Spec.encode m`.  `narrow`/`widen` are the target's
    double→float / float→double conversions; the only fact used is that widening then
    narrowing gives back the values under an `'f'` tag (`fArgs`: the only arguments that are
    promoted to `double`; `i`/`c`/`r` values travel as `int` and need nothing). -/
theorem vmessage_eq_spec (narrow : UInt64 → UInt32) (widen : UInt32 → UInt64) (m : Msg)
    (cargs : List CArg) (buf : Bytes) (hwf : m.WF) (hd : Denote cargs m.args)
    (hf : ∀ v ∈ fArgs m.tags cargs, narrow (widen v) = v)
    (hcap : (Spec.encode m).length ≤ buf.length) :
    vmessage narrow (some buf) m.addr m.tags (promote widen m.tags cargs) =
      some ⟨some (Spec.encode m ++ buf.drop (Spec.encode m).length), (Spec.encode m).length, false⟩ := by
  rw [vmessage_promote_f narrow widen (some buf) m.addr m.tags cargs m.args hwf.matches_ hd hf]
  exact amessage_spec m cargs buf hwf hd hcap

/-- **avmessage_eq_spec** — `rtosc_avmessage` on the arg-val list of the message (no ranges, no
    arrays; after fix C01-avmessage) produces `Spec.encode m`. -/
theorem avmessage_eq_spec (m : Msg) (cargs : List CArg) (buf : Bytes) (hwf : m.WF)
    (hd : Denote cargs m.args) (hcap : (Spec.encode m).length ≤ buf.length) :
    avmessage (some buf) m.addr (ArgVal.listOf m.tags cargs) =
      some ⟨some (Spec.encode m ++ buf.drop (Spec.encode m).length), (Spec.encode m).length, false⟩ := by
  have ht : ∀ t ∈ m.tags, t ≠ 45 ∧ t ≠ 97 := fun t h => (isTag_ne_zero t (hwf.tags_ok t h)).2
  simp only [avmessage, avCollect_listOf m.tags cargs m.args hwf.matches_ hd ht]
  exact amessage_spec m cargs buf hwf hd hcap

/-- **three_constructors_agree** — for every destination (any capacity, NULL included) the
    varargs constructor, the argument-array constructor and the arg-val-list constructor
    return the same value and leave the same bytes. -/
theorem three_constructors_agree (narrow : UInt64 → UInt32) (widen : UInt32 → UInt64) (m : Msg)
    (cargs : List CArg) (buffer : Option Bytes) (hwf : m.WF) (hd : Denote cargs m.args)
    (hf : ∀ v ∈ fArgs m.tags cargs, narrow (widen v) = v) :
    vmessage narrow buffer m.addr m.tags (promote widen m.tags cargs) =
      amessage buffer m.addr m.tags cargs ∧
    avmessage buffer m.addr (ArgVal.listOf m.tags cargs) = amessage buffer m.addr m.tags cargs := by
  have ht : ∀ t ∈ m.tags, t ≠ 45 ∧ t ≠ 97 := fun t h => (isTag_ne_zero t (hwf.tags_ok t h)).2
  refine ⟨vmessage_promote_f narrow widen buffer m.addr m.tags cargs m.args hwf.matches_ hd hf, ?_⟩
  simp only [avmessage, avCollect_listOf m.tags cargs m.args hwf.matches_ hd ht]

/-- Trigger of known finding C01-K1: the address is exactly `"#bundle"`.  The encoding of such
    a message starts with the 8 bytes `"#bundle\0"`, which is how `rtosc_message_ring_length`
    recognises a *bundle*.  (OSC 1.0 addresses start with '/', so this is not an OSC address;
    the constructors accept it all the same.) -/
def BundleAddressed (m : Msg) : Prop := m.addr = bundleAddr

instance (m : Msg) : Decidable (BundleAddressed m) := by unfold BundleAddressed; exact inferInstance

/-- the length clause as the property states it ("for any address") -/
def messageLength_encode_statement : Prop :=
  ∀ (m : Msg) (rest : Bytes), m.WF → messageLength (Spec.encode m ++ rest) = some (Spec.encode m).length

/-- **messageLength_encode_counterexample** (C01-K1) — the clause is false for the address
    `"#bundle"`: `rtosc_message(buf, 64, "#bundle", "ii", 1, 0)` returns 20, and
    `rtosc_message_length` of those 20 bytes is 16 (they parse as a bundle without elements: `,ii\0`
    and the first int are read as the time tag, the second int, 0, as the size word that ends the
    walk). -/
theorem messageLength_encode_counterexample : ¬ messageLength_encode_statement := by
  intro h
  have := h ⟨bundleAddr, [105, 105], [.w32 1, .w32 0]⟩ [] (by decide +kernel)
  revert this
  decide +kernel

/-- **ringLength_encode_partial** — `rtosc_message_ring_length` of a ring (split anywhere) that
    holds an encoded message followed by *any* bytes is the length of the message, for every
    address except exactly `"#bundle"` (addresses that merely start with '#', "#bundles/x"
    included, are covered). -/
theorem ringLength_encode_partial (m : Msg) (rest : Bytes) (r : Ring) (hwf : m.WF)
    (hnb : ¬ BundleAddressed m) (h : r.d0 ++ r.d1 = Spec.encode m ++ rest) :
    ringLength r = some (Spec.encode m).length :=
  ringLength_spec m rest r hwf hnb h

/-- **messageLength_encode_partial** — `rtosc_message_length(msg, len)` on the encoding followed
    by any trailing bytes reports the length of the encoding (address not exactly `"#bundle"`). -/
theorem messageLength_encode_partial (m : Msg) (rest : Bytes) (hwf : m.WF) (hnb : ¬ BundleAddressed m) :
    messageLength (Spec.encode m ++ rest) = some (Spec.encode m).length :=
  ringLength_spec m rest ⟨Spec.encode m ++ rest, []⟩ hwf hnb (by simp)

/-- `ringLength_encode_partial` for addresses that do not start with '#', the hypothesis of C06's
    `IsOscMsg`.  No proof uses it: `oscFraming` (Proofs/RingOsc.lean) rewrites with
    `ringLength_spec` (Proofs/OscLength.lean), as the proof below does. -/
theorem ringLength_encode (m : Msg) (rest : Bytes) (r : Ring) (hwf : m.WF)
    (hnb : m.addr.head? ≠ some 35) (h : r.d0 ++ r.d1 = Spec.encode m ++ rest) :
    ringLength r = some (Spec.encode m).length :=
  ringLength_spec m rest r hwf (fun e => hnb (by rw [e]; rfl)) h

/-- **read_encode (argument string)** — `rtosc_argument_string` points at the type tags, and the
    C string there is exactly `m.tags`. -/
theorem read_encode_argString (m : Msg) (rest : Bytes) (hwf : m.WF) :
    argString (Spec.encode m ++ rest) = some ((padStr m.addr).length + 1) ∧
    cstrAt (Spec.encode m ++ rest) ((padStr m.addr).length + 1) = some m.tags :=
  ⟨(readers_enc m rest hwf).str, (readers_enc m rest hwf).cstr⟩

/-- **read_encode (type by index)** — `rtosc_type(msg, n)` is the tag of the `n`-th value. -/
theorem read_encode_type (m : Msg) (rest : Bytes) (hwf : m.WF) (n : Nat) (t : UInt8) (v : Val)
    (h : (Spec.values m)[n]? = some (t, v)) :
    typeAt (Spec.encode m ++ rest) n = some t :=
  ((readers_enc m rest hwf).index hwf.size n t v h).1

/-- **read_encode (argument by index)** — `rtosc_argument(msg, n)`, pointers followed, is the
    `n`-th value, bit-identical (strings and blob bytes included). -/
theorem read_encode_argument (m : Msg) (rest : Bytes) (hwf : m.WF) (n : Nat) (t : UInt8) (v : Val)
    (h : (Spec.values m)[n]? = some (t, v)) :
    argumentView (Spec.encode m ++ rest) n = some v :=
  ((readers_enc m rest hwf).index hwf.size n t v h).2

/-- **read_encode (iterator)** — `rtosc_itr_begin/next/end` yield exactly the tags and values of
    the message, in order.  (`int size = arg_size(..)` in `rtosc_itr_next` needs the message to
    be shorter than 2^31 bytes.) -/
theorem read_encode_iterator (m : Msg) (rest : Bytes) (hwf : m.WF)
    (h31 : (Spec.encode m).length < 2147483648) :
    iterateView (Spec.encode m ++ rest) = some (Spec.values m) :=
  (readers_enc m rest hwf).iterView h31

/-- **narguments_eq_iterator_count** — `rtosc_narguments` is the number of values the iterator
    yields, namely the number of tags that are not brackets (after fix C01-narguments). -/
theorem narguments_eq_iterator_count (m : Msg) (rest : Bytes) (hwf : m.WF)
    (h31 : (Spec.encode m).length < 2147483648) :
    narguments (Spec.encode m ++ rest) = some (Spec.nargs m) ∧
    (iterate (Spec.encode m ++ rest)).map List.length = some (Spec.nargs m) := by
  have hvl : (Spec.values m).length = Spec.nargs m := valuesOf_length m.tags m.args hwf.matches_
  obtain ⟨l, h1, h2⟩ := (readers_enc m rest hwf).iter h31
  exact ⟨hvl ▸ (readers_enc m rest hwf).count hwf.size, by rw [h1, ← hvl, mapM_length _ l _ h2]; rfl⟩

/-! ### Non-vacuity: the message `"/ab" "[sb]i"` with a 5-byte string, a 3-byte blob and an int
    meets every hypothesis, and the conclusions evaluate as stated. -/

def exMsg : Msg :=
  ⟨[47, 97, 98], [91, 115, 98, 93, 105],
   [.str [104, 101, 108, 108, 111], .blob [1, 2, 3], .w32 0x7fffffff]⟩

def exBytes : Bytes :=
  [47, 97, 98, 0, 44, 91, 115, 98, 93, 105, 0, 0, 104, 101, 108, 108, 111, 0, 0, 0,
   0, 0, 0, 3, 1, 2, 3, 0, 127, 255, 255, 255]

example : exMsg.WF := by decide +kernel
example : Spec.encode exMsg = exBytes := by decide +kernel
example : ¬ BundleAddressed exMsg := by decide
/-- an address that starts with '#' (even with "#bundle") but is not "#bundle" is covered -/
example : ¬ BundleAddressed ⟨[35, 98, 117, 110, 100, 108, 101, 115, 47, 120], [105], [.w32 1]⟩ := by decide
example : messageLength (Spec.encode ⟨[35, 98, 117, 110, 100, 108, 101, 115, 47, 120], [105], [.w32 1]⟩) =
    some 20 := by decide +kernel
/-- the trigger of C01-K1 holds for the witness, which is a well-formed message -/
example : BundleAddressed ⟨bundleAddr, [105, 105], [.w32 1, .w32 0]⟩ ∧
    Msg.WF ⟨bundleAddr, [105, 105], [.w32 1, .w32 0]⟩ := by decide +kernel
example : Denote (exMsg.args.map Arg.toC) exMsg.args := denote_toC _ (by decide)
/-- NULL blob data: a 3-byte blob given as (3, NULL) denotes three zero bytes -/
example : Denote [.str [104], .blob 3 none] [.str [104], .blob [0, 0, 0]] := by
  simp [Denote, CArg.abs, zeros]
example : amessage (some (List.replicate 36 170)) exMsg.addr exMsg.tags (exMsg.args.map Arg.toC) =
    some ⟨some (exBytes ++ [170, 170, 170, 170]), 32, false⟩ := by decide +kernel
example : messageLength (exBytes ++ [1, 2, 3]) = some 32 := by decide +kernel
example : iterateView (exBytes ++ [1, 2, 3]) = some (Spec.values exMsg) := by decide +kernel
example : narguments exBytes = some 3 := by decide +kernel
example : Spec.values exMsg =
    [(115, .arg (.str [104, 101, 108, 108, 111])), (98, .arg (.blob [1, 2, 3])),
     (105, .arg (.w32 0x7fffffff))] := by decide
/-- only the value under the 'f' tag has to round-trip: for "if" with (5, 0.25f) that is 0.25f -/
example : fArgs [105, 102] [.w32 5, .w32 0x3e800000] = [0x3e800000] := by decide
/-- the float hypothesis of `vmessage_eq_spec`/`three_constructors_agree` is met by the exact
    conversions `widenF32`/`narrowF64` on the floats 0.25, -1.5, +inf, a quiet NaN with payload,
    the smallest subnormal and FLT_MAX -/
example : ∀ v ∈ [0x3e800000, 0xbfc00000, 0x7f800000, 0x7fc12345, 0x00000001, 0x7f7fffff],
    narrowF64 (widenF32 v) = v := by decide +kernel
example : vmessage narrowF64 (some (List.replicate 16 170)) [47, 97] [105, 102]
      (promote widenF32 [105, 102] [.w32 5, .w32 0x3e800000]) =
    amessage (some (List.replicate 16 170)) [47, 97] [105, 102] [.w32 5, .w32 0x3e800000] := by
  decide +kernel
example : avmessage (some (List.replicate 24 170)) [47, 97]
      (ArgVal.listOf [84, 105, 105] [.w32 5, .w32 7]) =
    some ⟨some [47, 97, 0, 0, 44, 84, 105, 105, 0, 0, 0, 0, 0, 0, 0, 5, 0, 0, 0, 7, 170, 170, 170, 170],
      20, false⟩ := by decide +kernel
/-- the witness of F1: the type string "[ii]" has 2 arguments -/
example : narguments [47, 97, 0, 0, 44, 91, 105, 105, 93, 0, 0, 0, 0, 0, 0, 1, 0, 0, 0, 2] = some 2 := by
  decide +kernel

end Rtosc.Osc
