/-
C03 — Realtime safety: the message path never allocates and never locks.

The model is GENERATED, once per build configuration: `tools/callgraph.py` extracts on every run the call graph
of the working tree's realtime-path sources (rtosc.c, dispatch.c, ports.cpp, thread-link.cpp, … and whatever
they need from the other translation units) linked with `harness/rt_entries.cpp` (every callback macro of
port-sugar.h instantiated on a sample object + the realtime entry points) from LLVM IR built

* `Gen`   (`CallGraph/Generated.lean`)   at the lowest language level the headers support (-std=c++11, -O1), and
* `Gen17` (`CallGraph/Generated17.lean`) the way CMakeLists.txt builds the library (-std=gnu++17 / -std=c99, -O3).

The theorems below are re-checked by the kernel on that data on every run; the generic induction and the
statement `Graph.Safe` are in `RtoscModel/CallGraph/Reach.lean`.  `Graph.Safe` quantifies over an arbitrary
"calls" relation of executions and has two explicit hypotheses: the extracted graph over-approximates the calls
that can happen (trusted: extractor, clang), and the edges listed in `excludedEdges` are never executed (stated
preconditions: no empty `std::function` is invoked — the dynamic engine checks this for every table built with
the library's macros —, assertions are compiled out (NDEBUG), no exception unwinds).
Assumption: the external leaves in `whitelist` neither allocate nor lock.
What ties the node numbers to symbols: `…_api_entries_pinned` (every public realtime API function is an entry of
the graph) and `…_forbidden_names_pinned` (every node that carries the name of an allocator / deallocator / lock /
exception primitive, and each pseudo node, is in the forbidden set).
-/
import RtoscModel.CallGraph.Generated
import RtoscModel.CallGraph.Generated17

namespace Rtosc.CallGraph

/-- The public realtime API of the property statement (building, measuring, reading messages and bundles,
matching, dispatch, default reply/broadcast forwarding, ThreadLink write/read/hasNext), by mangled name.
Every one of them must be a node of each generated graph AND an entry. -/
def requiredEntries : List Name := [
  name! "rtosc_message", name! "rtosc_vmessage", name! "rtosc_amessage", name! "rtosc_message_length",
  name! "rtosc_message_ring_length", name! "rtosc_valid_message_p", name! "rtosc_argument_string",
  name! "rtosc_narguments", name! "rtosc_type", name! "rtosc_argument", name! "rtosc_itr_begin", name! "rtosc_itr_next",
  name! "rtosc_itr_end", name! "rtosc_bundle", name! "rtosc_bundle_elements", name! "rtosc_bundle_fetch",
  name! "rtosc_bundle_size", name! "rtosc_bundle_p", name! "rtosc_bundle_timetag", name! "rtosc_match",
  name! "rtosc_match_path", name! "rtosc_match_options",
  name! "_ZNK5rtosc5Ports8dispatchEPKcRNS_6RtDataEb",
  name! "_ZN5rtosc6RtData5replyEPKcS2_z", name! "_ZN5rtosc6RtData5replyEPKc",
  name! "_ZN5rtosc6RtData9broadcastEPKcS2_z", name! "_ZN5rtosc6RtData9broadcastEPKc",
  name! "_ZN5rtosc10ThreadLink5writeEPKcS2_z", name! "_ZN5rtosc10ThreadLink10writeArrayEPKcS2_PK11rtosc_arg_t",
  name! "_ZN5rtosc10ThreadLink9raw_writeEPKc", name! "_ZNK5rtosc10ThreadLink7hasNextEb",
  name! "_ZNK5rtosc10ThreadLink7hasNextEv", name! "_ZNK5rtosc10ThreadLink16hasNextLookaheadEv",
  name! "_ZN5rtosc10ThreadLink4readEb", name! "_ZN5rtosc10ThreadLink4readEv",
  name! "_ZN5rtosc10ThreadLink14read_lookaheadEv", name! "_ZNK5rtosc10ThreadLink4peakEv"]

/-- pseudo nodes of the extractor: always present, always forbidden -/
def pseudoNodes : List Name := [
  name! "<indirect call with no address-taken candidate>", name! "<inline asm>", name! "<call the extractor could not parse>",
  name! "<atomic read-modify-write in a loop>"]

/-- names of the `observe_at` clause (allocator, deallocator, operator new/delete, pthread mutex) and of the
exception primitives: a node carrying one of these names must be in the forbidden set -/
def forbiddenNames : List Name := pseudoNodes ++ [
  name! "malloc", name! "calloc", name! "realloc", name! "free", name! "posix_memalign", name! "aligned_alloc", name! "memalign", name! "valloc", name! "strdup",
  name! "_Znwm", name! "_Znam", name! "_ZnwmRKSt9nothrow_t", name! "_ZnamRKSt9nothrow_t", name! "_ZnwmSt11align_val_t",
  name! "_ZdlPv", name! "_ZdaPv", name! "_ZdlPvm", name! "_ZdaPvm", name! "_ZdlPvSt11align_val_t",
  name! "pthread_mutex_lock", name! "pthread_mutex_trylock", name! "pthread_mutex_timedlock", name! "pthread_mutex_unlock",
  name! "pthread_rwlock_rdlock", name! "pthread_rwlock_wrlock", name! "pthread_cond_wait", name! "pthread_spin_lock",
  name! "_ZNSt5mutex4lockEv", name! "__cxa_guard_acquire",
  name! "__cxa_allocate_exception", name! "__cxa_throw", name! "_ZSt25__throw_bad_function_callv", name! "_ZSt17__throw_bad_allocv",
  name! "_ZSt20__throw_length_errorPKc", name! "_ZSt20__throw_out_of_rangePKc", name! "_ZSt24__throw_out_of_range_fmtPKcz"]

/-! ## configuration `min` (c++11, -O1): `Gen.graph` -/

/-- Obligation 1: the certificate is closed under every call edge of the generated graph. -/
theorem min_cert_closed : Closed Gen.graph.cert Gen.graph.edges :=
  closedChunksB_sound (by decide +kernel)

/-- Obligation 2: the certificate contains every realtime entry point. -/
theorem min_cert_contains_entries : ContainsAll Gen.graph.cert Gen.graph.entries :=
  containsAllB_sound (by decide +kernel)

/-- Obligation 3: the certificate contains no allocator, deallocator, lock, exception-allocation or stream
function, none of the pseudo nodes standing for calls the extractor could not resolve, and not the pseudo node
that every function containing an atomic read-modify-write instruction inside a loop has an edge to. -/
theorem min_cert_avoids_forbidden : Avoids Gen.graph.cert Gen.graph.forbidden :=
  avoidsB_sound (by decide +kernel)

/-- Obligation 4: every function without a body that the certificate contains is on the explicit whitelist of
leaves assumed not to allocate or lock (an unknown external fails here). -/
theorem min_cert_externals_whitelisted : OnlyListed Gen.graph.cert Gen.graph.externals Gen.graph.whitelist :=
  onlyListedB_sound (by decide +kernel)

/-- Obligation 5: whitelist and forbidden set are disjoint. -/
theorem min_whitelist_not_forbidden : ∀ n ∈ Gen.graph.whitelist, n ∉ Gen.graph.forbidden := by decide +kernel

/-- Obligation 6: every function of the public realtime API is a node of the graph and an entry. -/
theorem min_api_entries_pinned : ∀ s ∈ requiredEntries, ∃ i, Gen.graph.nodeNames[i]? = some s ∧ i ∈ Gen.graph.entries :=
  namedAllInB_sound (by decide +kernel)

/-- Obligation 7: the pseudo nodes exist and are forbidden, and every node that carries the name of an allocator,
deallocator, mutex or exception primitive is in the forbidden set. -/
theorem min_forbidden_names_pinned :
    (∀ s ∈ pseudoNodes, ∃ i, Gen.graph.nodeNames[i]? = some s ∧ i ∈ Gen.graph.forbidden) ∧
    (∀ i s, Gen.graph.nodeNames[i]? = some s → s ∈ forbiddenNames → i ∈ Gen.graph.forbidden) :=
  ⟨namedAllInB_sound (by decide +kernel), namedOnlyInB_sound (by decide +kernel)⟩

theorem min_safe : Gen.graph.Safe :=
  Gen.graph.safe_of_cert ⟨min_cert_contains_entries, min_cert_closed, min_cert_avoids_forbidden, min_cert_externals_whitelisted⟩

/-! ## configuration `shipped` (as CMakeLists.txt builds the library): `Gen17.graph` -/

theorem shipped_cert_closed : Closed Gen17.graph.cert Gen17.graph.edges :=
  closedChunksB_sound (by decide +kernel)

theorem shipped_cert_contains_entries : ContainsAll Gen17.graph.cert Gen17.graph.entries :=
  containsAllB_sound (by decide +kernel)

theorem shipped_cert_avoids_forbidden : Avoids Gen17.graph.cert Gen17.graph.forbidden :=
  avoidsB_sound (by decide +kernel)

theorem shipped_cert_externals_whitelisted : OnlyListed Gen17.graph.cert Gen17.graph.externals Gen17.graph.whitelist :=
  onlyListedB_sound (by decide +kernel)

theorem shipped_whitelist_not_forbidden : ∀ n ∈ Gen17.graph.whitelist, n ∉ Gen17.graph.forbidden := by decide +kernel

theorem shipped_api_entries_pinned :
    ∀ s ∈ requiredEntries, ∃ i, Gen17.graph.nodeNames[i]? = some s ∧ i ∈ Gen17.graph.entries :=
  namedAllInB_sound (by decide +kernel)

theorem shipped_forbidden_names_pinned :
    (∀ s ∈ pseudoNodes, ∃ i, Gen17.graph.nodeNames[i]? = some s ∧ i ∈ Gen17.graph.forbidden) ∧
    (∀ i s, Gen17.graph.nodeNames[i]? = some s → s ∈ forbiddenNames → i ∈ Gen17.graph.forbidden) :=
  ⟨namedAllInB_sound (by decide +kernel), namedOnlyInB_sound (by decide +kernel)⟩

theorem shipped_safe : Gen17.graph.Safe :=
  Gen17.graph.safe_of_cert ⟨shipped_cert_contains_entries, shipped_cert_closed, shipped_cert_avoids_forbidden,
    shipped_cert_externals_whitelisted⟩

/-- **C03** (over the regenerated call graphs of both configurations; see `Graph.Safe` for the two explicit
hypotheses): no call path of any length from a realtime entry point (building, measuring and reading messages
and bundles, matching, `Ports::dispatch` with and without location tracking into every sugar callback, default
`RtData::reply/broadcast` forwarding, `ThreadLink` write/read/hasNext) reaches a function that allocates, frees,
locks or contains an atomic read-modify-write instruction inside a loop; and every function without a body that such a path
reaches is a whitelisted leaf. -/
theorem rt_path_never_allocates_or_locks : Gen.graph.Safe ∧ Gen17.graph.Safe :=
  ⟨min_safe, shipped_safe⟩

/-- the hypotheses of `Graph.Safe` are satisfiable: the graph's own edge relation is a `Calls` relation that
fulfils both of them, so the conclusion holds for every path of the graph itself -/
example : ∀ e ∈ Gen17.graph.entries, ∀ n, ReachR (fun a b => (a, b) ∈ Gen17.graph.edges) e n →
    n ∉ Gen17.graph.forbidden :=
  fun e he n hr => (shipped_safe (fun a b => (a, b) ∈ Gen17.graph.edges) (fun _ _ h => Or.inl h)
    (fun _ _ _ hne hc => hne hc) e he n hr).1

/-- there are entries, forbidden functions and excluded edges -/
example : Gen.graph.entries ≠ [] ∧ Gen.graph.forbidden ≠ [] ∧ Gen.graph.excludedEdges ≠ [] ∧
    Gen17.graph.entries ≠ [] ∧ Gen17.graph.forbidden ≠ [] ∧ Gen17.graph.excludedEdges ≠ [] := by decide +kernel

/-- the graphs do contain calls into forbidden functions (construction-time code such as `Ports::refreshMagic`
and the `ThreadLink` constructor): the check is not about a graph from which the allocator has been left out -/
example : (Gen.graph.edges.any fun p => Gen.graph.forbidden.contains p.2) = true ∧
    (Gen17.graph.edges.any fun p => Gen17.graph.forbidden.contains p.2) = true := by decide +kernel

/-- the allocator really is a node of both graphs (so `…_forbidden_names_pinned` is not about absent names) -/
example : ([name! "_Znwm", name! "_ZdlPv"].all fun s => Gen.graph.nodeNames.contains s) = true ∧
    ([name! "_Znwm"].all fun s => Gen17.graph.nodeNames.contains s) = true := by decide +kernel

/-- the certificates are not everything: some defined function lies outside of them -/
example : ((List.range Gen.graph.numNodes).any fun n => !Gen.graph.cert.testBit n && !Gen.graph.externals.contains n) = true ∧
    ((List.range Gen17.graph.numNodes).any fun n => !Gen17.graph.cert.testBit n && !Gen17.graph.externals.contains n) = true := by
  decide +kernel

/-- the sample paths emitted by the translator are call paths of the graphs from an entry, several edges long -/
example : isPathB Gen.graph.edges Gen.graph.samplePath = true ∧ Gen.graph.samplePath.length ≥ 4 ∧
    (Gen.graph.samplePath.head?.any fun a => Gen.graph.entries.contains a) = true ∧
    isPathB Gen17.graph.edges Gen17.graph.samplePath = true ∧ Gen17.graph.samplePath.length ≥ 3 ∧
    (Gen17.graph.samplePath.head?.any fun a => Gen17.graph.entries.contains a) = true :=
  ⟨isPathChunksB_sound _ (by decide +kernel), by decide +kernel, by decide +kernel,
   isPathChunksB_sound _ (by decide +kernel), by decide +kernel, by decide +kernel⟩

end Rtosc.CallGraph
