/-
  C01 — the table obligation, in a module of its own: when the per-tag `switch` statements of
  src/rtosc.c change their classification, this module (one obligation) stops checking and the
  other C01 theorems (Props/C01.lean) are untouched.

  `Generated/OscTables.lean` is regenerated from the working tree by `translate_tables`
  (tools/props/c01.py).  If a table disagrees, the `#eval` below prints, into the build log
  that goes into the replay file, *which* table and *which* tag no longer agree.
-/
import RtoscModel.Proofs.OscTables
import RtoscModel.Generated.OscTables
import RtoscModel.Osc.Encode
namespace Rtosc.Osc
open Rtosc

/-- the entries of a table that differ from the specification: (tag, class in the table, class
    according to `kind`) -/
def tabDisagreements (tab : List (Nat × Nat)) : List (Nat × Nat × Nat) :=
  (List.range 256).filterMap fun n =>
    if tabClass tab n = classOf (UInt8.ofNat n) then none
    else some (n, tabClass tab n, classOf (UInt8.ofNat n))

def reservedDisagreements : List (Nat × Nat × Nat) :=
  (List.range 256).filterMap fun n =>
    let want := if hasReserved (UInt8.ofNat n) then 1 else 0
    if tabClass Generated.hasReservedTab n = want then none
    else some (n, tabClass Generated.hasReservedTab n, want)

def tableReport : List String :=
  let one (name : String) (d : List (Nat × Nat × Nat)) : List String :=
    d.map fun (n, got, want) =>
      s!"C01 tables_agree: table {name} (src/rtosc.c) tag {n} '{Char.ofNat n}': class {got} in the source, " ++
      s!"class {want} in the specification"
  one "argSizeTab/arg_size" (tabDisagreements Generated.argSizeTab) ++
  one "sizeNullTab/vsosc_null" (tabDisagreements Generated.sizeNullTab) ++
  one "writeTab/rtosc_amessage" (tabDisagreements Generated.writeTab) ++
  one "extractTab/extract_arg" (tabDisagreements Generated.extractTab) ++
  one "ringLengthTab/rtosc_message_ring_length" (tabDisagreements Generated.ringLengthTab) ++
  one "hasReservedTab/has_reserved" reservedDisagreements

-- prints nothing when every table agrees
#eval (tableReport.forM fun l => IO.println l : IO Unit)

/-- **tables_agree** — the per-tag `switch` statements of rtosc.c (`arg_size`, `vsosc_null`,
    `rtosc_amessage`, `extract_arg`, `rtosc_message_ring_length`), regenerated from the source
    on every run, classify all 256 bytes exactly as the specification's `kind` does, and
    `has_reserved` returns 1 exactly for the payload tags — so the five passes over the type
    string cannot drift apart unnoticed. -/
theorem tables_agree :
    TabAgrees Generated.argSizeTab ∧ TabAgrees Generated.sizeNullTab ∧ TabAgrees Generated.writeTab ∧
    TabAgrees Generated.extractTab ∧ TabAgrees Generated.ringLengthTab ∧
    (∀ n, n < 256 → (tabClass Generated.hasReservedTab n = 1 ↔ hasReserved (UInt8.ofNat n) = true)) ∧
    (∀ n, n < 256 → (hasReserved (UInt8.ofNat n) = true ↔ classOf (UInt8.ofNat n) ≠ 0)) := by
  -- a single evaluation, so that the class of each byte according to the specification is
  -- computed once for all tables
  decide +kernel

end Rtosc.Osc
