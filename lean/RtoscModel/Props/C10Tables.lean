/-
  C10 — the table obligations, in a module of their own: when a constant or table of
  src/cpp/pretty-format.c changes (compression threshold, escape tables, try-order of the numeric
  formats in scanf_fmtstr, reserved words, default print options), this module stops checking and
  names the table; the other C10 theorems (Props/C10.lean) are untouched.

  `Generated/PrettyConst.lean` is regenerated from /repo by `translate_pretty_tables`
  (tools/props/c10.py).  If a table disagrees, the `#eval` below prints *which* table and *which* entry
  disagree into the build log (the tail of the log of a failed build goes into the replay file).  (For a scratch tree
  the shared generated file is not rewritten: the translator compares that tree's tables with the
  committed ones and reports each differing entry as an obligation of its own.)

  The try-order of scanf_fmtstr is compared as an ORDERED list (the model `scanfFmtstr` takes the
  first format that consumes the whole numeric word), up to ONE commutation that is proved not to
  change any answer: "%*lfd%n" and "%*ff%n" are neighbours and can never both consume the same
  non-empty word (`scanfFmtstr_swap_lfd_ff`, Proofs/PrettyTryOrder.lean), so the source may try
  them in either order.  Any other reordering is reported as a broken obligation that names the
  entry.
-/
import RtoscModel.Proofs.PrettyTryOrder
import RtoscModel.Generated.PrettyConst
import RtoscModel.Pretty.Print
namespace Rtosc.Pretty
open Rtosc Rtosc.Libc

/-- the order in which the model tries the numeric formats -/
def modelTryOrder : List NumFmt := [.h, .d, .ii, .x, .lfd, .ff, .f]

def NumFmt.name : NumFmt → String
  | .h => "h" | .d => "d" | .ii => "ii" | .x => "x" | .lfd => "lfd" | .ff => "ff" | .f => "f"

theorem scanfFmtstr_order (s : Bytes) :
    scanfFmtstr s = modelTryOrder.find? (fun nf => scanRd nf.tryDirs s = numWordLen s) := rfl

/-- the model's try-order in the shape of the generated table -/
def modelTryTable : List (String × UInt8) := modelTryOrder.map (fun nf => (nf.name, nf.type))

/-- the same order with the two mutually exclusive neighbours "%*lfd%n" / "%*ff%n" swapped -/
def swappedTryOrder : List NumFmt := [.h, .d, .ii, .x, .ff, .lfd, .f]

def swappedTryTable : List (String × UInt8) := swappedTryOrder.map (fun nf => (nf.name, nf.type))

/-- trying in the swapped order gives the same answer on every text -/
theorem scanfFmtstr_order_swapped (s : Bytes) :
    scanfFmtstr s = swappedTryOrder.find? (fun nf => scanRd nf.tryDirs s = numWordLen s) :=
  scanfFmtstr_swap_lfd_ff s

/-- `default_print_options` as the model has it, in the shape of the generated constant -/
def modelDefaultOpt : Bool × Nat × Int × Bool :=
  (defaultOpt.lossless, defaultOpt.prec, defaultOpt.linelength, defaultOpt.compress)

/-- one line per disagreement between the source's tables and the model -/
def tableReport : List String :=
  let pre := "C10 tables_agree (src/cpp/pretty-format.c): "
  (if Generated.translatorOK then [] else [pre ++ "the translator could not read the tables"]) ++
  (if rangeMin = Generated.rangeMin then [] else
    [pre ++ s!"range_min is {Generated.rangeMin} in the source, {rangeMin} in the model"]) ++
  (Generated.escapeTable.filterMap fun p =>
    if asEscapedChar p.1 true = some p.2 ∧ asEscapedChar p.1 false = some p.2 then none
    else some (pre ++ s!"as_escaped_char: case {p.1} returns {p.2} in the source, the model " ++
      s!"{(asEscapedChar p.1 true).map (·.toNat)} / {(asEscapedChar p.1 false).map (·.toNat)}")) ++
  (Generated.escapeDefault.filterMap fun p =>
    if asEscapedChar p.2.1 p.1 = some p.2.2 then none
    else some (pre ++ s!"as_escaped_char default branch: chr={p.1} character {p.2.1} returns {p.2.2} in the source")) ++
  (Generated.unescapeTable.filterMap fun p =>
    if getEscapedChar p.1 true = p.2 ∧ getEscapedChar p.1 false = p.2 then none
    else some (pre ++ s!"get_escaped_char: case {p.1} returns {p.2} in the source, the model " ++
      s!"{getEscapedChar p.1 true} / {getEscapedChar p.1 false}")) ++
  (Generated.unescapeDefault.filterMap fun p =>
    if getEscapedChar p.2.1 p.1 = p.2.2 then none
    else some (pre ++ s!"get_escaped_char default branch: chr={p.1} letter {p.2.1} returns {p.2.2} in the source")) ++
  ((List.range (max modelTryTable.length Generated.tryOrder.length)).filterMap fun i =>
    if modelTryTable[i]? = Generated.tryOrder[i]? ∨ swappedTryTable = Generated.tryOrder then none
    else some (pre ++ s!"scanf_fmtstr: try number {i} is {Generated.tryOrder[i]?} in the source, " ++
      s!"{modelTryTable[i]?} in the model")) ++
  ((Generated.reservedWords.filter fun w => !reservedWords.contains (lit w)).map fun w =>
    pre ++ s!"is_reserved_word: \"{w}\" is reserved in the source, not in the model") ++
  ((reservedWords.filter fun w => !(Generated.reservedWords.map lit).contains w).map fun w =>
    pre ++ s!"is_reserved_word: the bytes {w} are a reserved word of the model, not of the source") ++
  (if modelDefaultOpt = Generated.defaultOpt then [] else
    [pre ++ "default_print_options (lossless, precision, line length, compress_ranges) differ from the model's defaultOpt"])

-- prints nothing when every table agrees
#eval (tableReport.forM fun l => IO.println l : IO Unit)

/-- the translator could read every table -/
theorem translator_ok : Generated.translatorOK = true := by decide

/-- `range_min` -/
theorem rangeMin_agrees : rangeMin = Generated.rangeMin := by decide

/-- `as_escaped_char`: `case` labels and `default:` branch -/
theorem escapeTables_agree :
    (∀ p ∈ Generated.escapeTable, asEscapedChar p.1 true = some p.2 ∧ asEscapedChar p.1 false = some p.2) ∧
    (∀ p ∈ Generated.escapeDefault, asEscapedChar p.2.1 p.1 = some p.2.2) := ⟨by decide +kernel, by decide +kernel⟩

/-- `get_escaped_char`: `case` labels and `default:` branch -/
theorem unescapeTables_agree :
    (∀ p ∈ Generated.unescapeTable, getEscapedChar p.1 true = p.2 ∧ getEscapedChar p.1 false = p.2) ∧
    (∀ p ∈ Generated.unescapeDefault, getEscapedChar p.2.1 p.1 = p.2.2) := ⟨by decide +kernel, by decide +kernel⟩

/-- `scanf_fmtstr`: the formats in the order they are tried: the model's order, or the one with the
    mutually exclusive neighbours "%*lfd%n" / "%*ff%n" swapped, which gives the same answers
    (`scanfFmtstr_order` / `scanfFmtstr_order_swapped`) -/
theorem tryOrder_agrees :
    modelTryOrder.map (fun nf => (nf.name, nf.type)) = Generated.tryOrder ∨
    swappedTryOrder.map (fun nf => (nf.name, nf.type)) = Generated.tryOrder := by decide +kernel

/-- `is_reserved_word`: the same SET of words (the order of `words[]` does not matter) -/
theorem reservedWords_agree :
    (reservedWords.all (fun w => (Generated.reservedWords.map lit).contains w) &&
      (Generated.reservedWords.map lit).all (fun w => reservedWords.contains w)) = true := by decide +kernel

/-- `default_print_options` (what the printers use when they are called with `opt == NULL`) -/
theorem defaultOpt_agrees : modelDefaultOpt = Generated.defaultOpt := by decide

/-- **tables_agree**: the model is written over the constants the source has today: compression
    threshold, both escape tables (`case` labels and `default:` branch), the try-order of the
    numeric formats (up to the one proved commutation) and the set of reserved words (regenerated from src/cpp/pretty-format.c on
    every run; `translatorOK` is false when the tables could not be read). -/
theorem tables_agree :
    Generated.translatorOK = true ∧
    rangeMin = Generated.rangeMin ∧
    (∀ p ∈ Generated.escapeTable, asEscapedChar p.1 true = some p.2 ∧ asEscapedChar p.1 false = some p.2) ∧
    (∀ p ∈ Generated.escapeDefault, asEscapedChar p.2.1 p.1 = some p.2.2) ∧
    (∀ p ∈ Generated.unescapeTable, getEscapedChar p.1 true = p.2 ∧ getEscapedChar p.1 false = p.2) ∧
    (∀ p ∈ Generated.unescapeDefault, getEscapedChar p.2.1 p.1 = p.2.2) ∧
    (modelTryOrder.map (fun nf => (nf.name, nf.type)) = Generated.tryOrder ∨
      swappedTryOrder.map (fun nf => (nf.name, nf.type)) = Generated.tryOrder) ∧
    (reservedWords.all (fun w => (Generated.reservedWords.map lit).contains w) &&
      (Generated.reservedWords.map lit).all (fun w => reservedWords.contains w)) = true :=
  ⟨translator_ok, rangeMin_agrees, escapeTables_agree.1, escapeTables_agree.2, unescapeTables_agree.1,
    unescapeTables_agree.2, tryOrder_agrees, reservedWords_agree⟩

/-- **escape_tables_inverse**: `get_escaped_char` undoes `as_escaped_char` -/
theorem escape_tables_inverse : ∀ p ∈ Generated.escapeTable, (p.2, p.1) ∈ Generated.unescapeTable := by
  decide +kernel

end Rtosc.Pretty
