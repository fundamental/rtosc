/-
  C12 — Savefiles restore the saved state and contain only differences from defaults.
  Property theorems only; the proofs are in Proofs/Save*.lean.

  Reading of the statement.  The theorems are about the abstract pipeline
  (RtoscModel/Save/*.lean): `App.saveFile` = `save_to_file` (walk, default lookup incl.
  `default depends`, runtime query, comparison, symbol mapping, array suffix trimming),
  `App.loadFile` = `load_from_file` (headers, scan result, dependency sort, dispatch).
  A file is the sequence of scanned lines; what the text stages (pretty printer and
  scanner, C10/C11; message encoding C01; port matching C04/C05; callbacks C14; value
  comparison C16) must provide is stated as `TextStages` below (Props/C12Text.lean proves the text level over
  the model RtoscModel/Save/Text.lean) and is tied to the code by
  the correspondence engine `save`, which compares real file text, return values and
  object fields.
  Quantified over every application with `App.WF`, `MetaCovers`, `MetaRanked` and every
  state reachable through the parameter ports (`App.Reachable`; `inv_reachable` gives the
  invariant `App.Inv` the proofs use).  `App.WF` lets the dependency order be any finite strict
  partial order — two independent ports may share dependants (`rDepends` lists naming
  independent ports: `hypotheses_cover_shared_dependants_and_preset_arrays`)
  — and lets the elements of a `name#N` array take constant or preset-dependent defaults.
-/
import RtoscModel.Proofs.SaveLoad
import RtoscModel.Proofs.SaveExample
import RtoscModel.Proofs.SaveExampleDiamond
namespace Rtosc.C12
open Rtosc Rtosc.Save

/-- **load_save_restores** and **load_counts_lines**: the savefile produced for a reachable
    state, loaded into a freshly default-initialised instance, reproduces exactly that
    state, and loading reports one message per saved line. -/
theorem load_save_restores (app : App) (hwf : app.WF) (hcov : app.MetaCovers) (hrank : MetaRanked app.apropos)
    (rtoscVer appVer : Nat × Nat × Nat) (hrv : verOk rtoscVer = true) (hav : verOk appVer = true)
    (s : State) (hs : app.Reachable s) :
    app.loadFile (app.saveFile rtoscVer appVer s) app.init = .ok s (app.save s).length :=
  loadFile_saveFile app hwf hcov hrank rtoscVer appVer hrv hav s (inv_reachable app hwf s hs)

/-- **load_counts_lines** (separately): whenever loading a file of parsed lines succeeds,
    the reported count is the number of lines. -/
theorem load_counts_lines (app : App) (ls : List Line) (s s' : State) (n : Nat)
    (h : app.load ls s = .ok s' n) : n = ls.length := by
  unfold App.load at h
  split at h
  · cases h
  · split at h
    · cases h
    · split at h
      · cases h
      · cases h; rfl

/-- **saved_iff_differs**: a parameter appears in the savefile exactly when it is reached
    (its sub-trees are allocated and enabled) and its current value differs from its
    default — the preset-dependent default selected by the port it declares to depend on
    (`evalDflt`); the line then carries the current value. -/
theorem saved_iff_differs (app : App) (hwf : app.WF) (s : State) (i : Nat) (hi : Item.scalar i ∈ app.walk) :
    (∃ l ∈ app.save s, l.addr = (app.param i).addr) ↔
      (guardsOn (app.param i) s = true ∧ s i ≠ evalDflt (app.param i) s) := by
  refine (saved_iff app hwf s hi).trans ?_
  rw [App.saveItem_scalar]
  by_cases hg : guardsOn (app.param i) s = true
  · by_cases he : evalDflt (app.param i) s = s i
    · simp [hg, he]
    · simp [hg, he, Ne.symm he]
  · simp [hg]

theorem saved_value (app : App) (hwf : app.WF) (s : State) (i : Nat) (hi : Item.scalar i ∈ app.walk)
    (l : Line) (hl : l ∈ app.save s) (ha : l.addr = (app.param i).addr) :
    l = ⟨(app.param i).addr, .plain [mapArgVal (app.param i).kind (s i)]⟩ := by
  have hs := mem_save_item app hwf s hi hl ha
  rw [App.saveItem_scalar] at hs
  split at hs
  · split at hs
    · cases hs
    · cases hs; rfl
  · cases hs

/-- the same for an array port `name#N`: one line iff some element differs from its own default — constant or
    selected by the preset port (`rDefaultDepends` on an array port) -/
theorem saved_iff_differs_array (app : App) (hwf : app.WF) (s : State) (base : Path) (first len : Nat)
    (hi : Item.array base first len ∈ app.walk) :
    (∃ l ∈ app.save s, l.addr = base) ↔
      (guardsOn (app.param first) s = true ∧
        ∃ k, k < len ∧ s (first + k) ≠ evalDflt (app.param (first + k)) s) := by
  refine (saved_iff app hwf s hi).trans ?_
  rcases App.saveItem_array_spec app s base first len with ⟨h, hno⟩ | ⟨n, _, _, hg, hdiff, h, _, _⟩
  · rw [h]
    refine ⟨fun ⟨_, h⟩ => (nomatch h), fun ⟨hg, k, hk, hne⟩ => ?_⟩
    rcases hno with hoff | hall
    · rw [hg] at hoff; cases hoff
    · exact absurd (hall k hk) hne
  · refine ⟨fun _ => ⟨hg, ?_⟩, fun _ => ⟨_, h⟩⟩
    obtain ⟨k, hk⟩ := Classical.not_forall.1 hdiff
    exact ⟨k, Classical.not_imp.1 hk⟩

/-- **saved_value** for an array port (what "only differences" means for `name#N`): its line carries the current
    values of the elements `0 … n-1` (option indices as symbols), where element `n-1` is the last one that — as the
    line spells it — differs from its default (`map_arg_vals` runs before `first_equal_index`: an rArrayOption element
    holding an option's index is a symbol by then and never equals its int default; for the other kinds this is "the
    last one that differs from its default"); the elements behind it equal their defaults and are not written. -/
theorem saved_value_array (app : App) (hwf : app.WF) (s : State) (base : Path) (first len : Nat)
    (hi : Item.array base first len ∈ app.walk) (l : Line) (hl : l ∈ app.save s) (ha : l.addr = base) :
    ∃ n, 0 < n ∧ n ≤ len ∧
      l = ⟨base, .arr ((List.range n).map fun k => mapArgVal (app.param (first + k)).kind (s (first + k)))⟩ ∧
      mapArgVal (app.param (first + (n - 1))).kind (s (first + (n - 1))) ≠ evalDflt (app.param (first + (n - 1))) s ∧
      ∀ k, n ≤ k → k < len → s (first + k) = evalDflt (app.param (first + k)) s := by
  have hs := mem_save_item app hwf s hi hl ha
  rcases App.saveItem_array_spec app s base first len with ⟨h, _⟩ | ⟨n, h1, h2, _, _, h, h3, h4⟩
  · rw [h] at hs; cases hs
  · rw [h] at hs; cases hs; exact ⟨n, h1, h2, rfl, h3, h4⟩

/-- every line belongs to a port of the walk (nothing else is written) -/
theorem saved_only_ports (app : App) (hwf : app.WF) (s : State) (l : Line) (hl : l ∈ app.save s) :
    ∃ it ∈ app.walk, l.addr = app.itemAddr it := by
  obtain ⟨it, hit, hs⟩ := (mem_save_iff app hwf s l).1 hl
  exact ⟨it, hit, App.saveItem_addr hs⟩

/-- **untouched_saves_header_only**: an untouched application saves only the two header lines. -/
theorem untouched_saves_header_only (app : App) (hwf : app.WF) (rtoscVer appVer : Nat × Nat × Nat) :
    (app.saveFile rtoscVer appVer app.init).body = [] := by
  simp [App.saveFile, save_init app hwf]

/-- **rejects_bad_header**: a first line that is not `% RT OSC v<a>.<b>.<c> savefile` with
    components ≤ 255 gives a negative result. -/
theorem rejects_bad_header (app : App) (f : File) (s : State)
    (h : f.magic = false ∨ verOk f.rtoscVer = false) : app.loadFile f s = .fail := by
  rcases h with h | h <;> simp [App.loadFile, h]

/-- **rejects_other_app**: another application's name (or a malformed application version). -/
theorem rejects_other_app (app : App) (f : File) (s : State)
    (h : f.appName ≠ app.name ∨ verOk f.appVer = false) : app.loadFile f s = .fail := by
  unfold App.loadFile
  split
  · rfl
  · rcases h with h | h <;> simp [h]

/-- **rejects_unparsable**: a message the scanner rejects, at any position. -/
theorem rejects_unparsable (app : App) (f : File) (s : State) (h : none ∈ f.body) :
    app.loadFile f s = .fail := by
  unfold App.loadFile
  split
  · rfl
  · split
    · rfl
    · have := scanBody_none f.body h
      revert this
      cases scanBody f.body with
      | mk ls ok => intro h; simp only at h; simp [h]

/-- **rejects_unmatched**: a line no port accepts (it matches nothing in any state), at any
    position of a file with pairwise different port names. -/
theorem rejects_unmatched (app : App) (hrank : MetaRanked app.apropos) (f : File) (s : State)
    (ls : List Line) (hbody : f.body = ls.map some) (hnd : (ls.map (·.addr)).Nodup)
    (l : Line) (hl : l ∈ ls) (hun : ∀ t, app.applyLine l t = none) :
    app.loadFile f s = .fail := by
  unfold App.loadFile
  split
  · rfl
  · split
    · rfl
    · rw [hbody, scanBody_some]
      simp only [Bool.not_true, Bool.false_eq_true, ↓reduceIte]
      exact load_unmatched' app hrank ls hnd l hl hun s

/-- a line whose address is no port's is such a line -/
theorem unmatched_of_no_port (app : App) (l : Line) (vs : List Val) (hp : l.args = .plain vs)
    (h : app.findAddr l.addr = none) : ∀ t, app.applyLine l t = none := by
  intro t; simp [App.applyLine, hp, App.dispatch, h]

/-- … and so is a line whose argument type the port does not take -/
theorem unmatched_of_wrong_type (app : App) (l : Line) (v : Val) (i : Nat) (hp : l.args = .plain [v])
    (h : app.findAddr l.addr = some i) (hs : store (app.param i).kind v = none) :
    ∀ t, app.applyLine l t = none := by
  intro t
  simp only [App.applyLine, hp, App.dispatch, h]
  split
  · rfl
  · simp [hs]

/-- The lower stages as far as this property needs them: printing a file and scanning the
    text gives the file back (C10: `print_scan_roundtrip_partial`, C11).  Not proved here; compared
    with the implementation by the correspondence engine on the real file text. -/
structure TextStages where
  print : File → String
  scan : String → Option File
  roundtrip : ∀ f : File, (∀ l ∈ f.body, l ≠ none) → scan (print f) = some f

/-- The full statement at the level of file *text*, for given print/scan stages (kept
    visible; `load_save_restores` is its abstract-line form, `…_partial` derives it from the
    round-trip of the text stages). -/
def load_save_restores_statement (print : File → String) (scan : String → Option File) : Prop :=
  ∀ (app : App), app.WF → app.MetaCovers → MetaRanked app.apropos →
  ∀ (rtoscVer appVer : Nat × Nat × Nat), verOk rtoscVer = true → verOk appVer = true →
  ∀ (s : State), app.Reachable s →
    (scan (print (app.saveFile rtoscVer appVer s))).map (fun f => app.loadFile f app.init) =
      some (.ok s (app.save s).length)

/-- the text-level statement holds for every pair of text stages with the round-trip property -/
theorem load_save_restores_partial (T : TextStages) : load_save_restores_statement T.print T.scan := by
  intro app hwf hcov hrank rtoscVer appVer hrv hav s hs
  rw [T.roundtrip _ (by intro l hl; simp [App.saveFile] at hl; obtain ⟨x, _, rfl⟩ := hl; simp)]
  simp only [Option.map_some]
  rw [load_save_restores app hwf hcov hrank rtoscVer appVer hrv hav s hs]

open Rtosc.Save.Example in
/-- a reachable, non-default state of the example application: `/p := 1` switches the
    toggle `/t` on through its preset, which allocates the sub-tree; then `/s/a := 7` -/
def exState : State := exApp.run [("/p".toList, [.int 1]), ("/s/a".toList, [.int 7])] exApp.init

open Rtosc.Save.Example in
example : exApp.Reachable exState := ⟨_, rfl⟩

open Rtosc.Save.Example in
theorem ex_save : exApp.save exState = [⟨"/p".toList, .plain [.int 1]⟩, ⟨"/s/a".toList, .plain [.int 7]⟩] := by
  decide +kernel

open Rtosc.Save.Example in
/-- the saved lines: `/p 1` and `/s/a 7`; `/t` equals its preset-dependent default and is not saved -/
example : exApp.save exState = [⟨"/p".toList, .plain [.int 1]⟩, ⟨"/s/a".toList, .plain [.int 7]⟩] := ex_save

open Rtosc.Save.Example in
example : exApp.loadFile (exApp.saveFile (0, 3, 1) (1, 2, 3) exState) exApp.init = .ok exState 2 :=
  (load_save_restores exApp ex_wf ex_covers ex_ranked _ _ rfl rfl exState ⟨_, rfl⟩).trans
    (congrArg (LoadRes.ok exState) (by rw [ex_save]; rfl))

/-! ### non-vacuity, second application: shared dependants and a preset-dependent array default

    `DiamondExample.dApp`: `/p` and `/q` are independent of each other and both re-apply the default of `/d`
    (`rDefaultDepends(p)`, `rDepends(q)`): the ancestors of `/d` do not form a chain (`d_not_chain`, the shape of
    the generated applications A6-A9); `/a#2` takes its per-element defaults from the preset `/p` (A9, A10). -/

open Rtosc.Save.DiamondExample in
/-- **the hypotheses of the theorems cover shared dependants and preset-dependent array defaults**: an
    application satisfying `WF`, `MetaCovers` and `MetaRanked` in which two independent ports share a dependant
    (the ancestors of the dependant do not form a chain, `¬ app.AncChain`; the writes of the two ports commute all
    the same, `App.setParam_commute`) and an array port's defaults depend on a preset port. -/
theorem hypotheses_cover_shared_dependants_and_preset_arrays :
    ∃ app : App, app.WF ∧ app.MetaCovers ∧ MetaRanked app.apropos ∧ ¬ app.AncChain ∧
      ∃ base first len par tbl fb, Item.array base first len ∈ app.walk ∧
        (app.param first).dflt = .preset par tbl fb :=
  ⟨dApp, d_wf, d_covers, d_ranked, d_not_chain, "/a".toList, 3, 2, 0, [(1, .int 7)], .int 1,
    List.mem_cons_of_mem _ (List.mem_cons_of_mem _ (List.mem_cons_of_mem _ List.mem_cons_self)), rfl⟩

open Rtosc.Save.DiamondExample in
example : dApp.Reachable dState := ⟨_, rfl⟩

open Rtosc.Save.DiamondExample in
/-- the saved lines: both independent ports, their shared dependant (set after both), and the array line: its
    elements are compared with the defaults `/p = 1` selects ([7 8]), the first one equals its default -/
example : dApp.save dState = [⟨"/p".toList, .plain [.int 1]⟩, ⟨"/q".toList, .plain [.int 5]⟩,
    ⟨"/d".toList, .plain [.int 4]⟩, ⟨"/a".toList, .arr [.int 7, .int 9]⟩] := d_save

open Rtosc.Save.DiamondExample in
example : dApp.loadFile (dApp.saveFile (0, 3, 1) (1, 2, 3) dState) dApp.init = .ok dState 4 :=
  (load_save_restores dApp d_wf d_covers d_ranked _ _ rfl rfl dState ⟨_, rfl⟩).trans
    (congrArg (LoadRes.ok dState) (by rw [d_save]; rfl))

open Rtosc.Save.DiamondExample in
/-- the array line is there because the second element differs from its preset-dependent default -/
example : ∃ l ∈ dApp.save dState, l.addr = "/a".toList :=
  (saved_iff_differs_array dApp d_wf dState "/a".toList 3 2
    (List.mem_cons_of_mem _ (List.mem_cons_of_mem _ (List.mem_cons_of_mem _ List.mem_cons_self)))).2
    ⟨by decide +kernel, 1, by decide +kernel, by decide +kernel⟩

open Rtosc.Save.DiamondExample in
/-- … and `saved_value_array` applies to it: the hypotheses hold for the line `/a [7 9]` -/
example : ∃ n, 0 < n ∧ n ≤ 2 ∧
    (⟨"/a".toList, .arr [.int 7, .int 9]⟩ : Line) =
      ⟨"/a".toList, .arr ((List.range n).map fun k => mapArgVal (dApp.param (3 + k)).kind (dState (3 + k)))⟩ :=
  let ⟨n, h1, h2, h3, _⟩ := saved_value_array dApp d_wf dState "/a".toList 3 2
    (List.mem_cons_of_mem _ (List.mem_cons_of_mem _ (List.mem_cons_of_mem _ List.mem_cons_self)))
    ⟨"/a".toList, .arr [.int 7, .int 9]⟩ (by rw [d_save]; decide) rfl
  ⟨n, h1, h2, h3⟩

open Rtosc.Save.DiamondExample in
/-- the Bool versions of `WF.kind_ok` / `WF.walk_tiles` (Save/WfBool.lean, sound by `App.kindOkB_sound` /
    `App.walkTilesB_sound`) evaluate to true on it -/
example : dApp.kindOkB = true ∧ dApp.walkTilesB = true := by decide +kernel

/-! ### non-vacuity, third application: an int port as enabling port, a line with two arguments -/

/-- `/n` (rParamI, 0..3, default 0) enables the embedded sub-tree `/s/` (`rRecur(s, rEnabledBy(n))`): enabled = non-zero -/
def gApp : App :=
  { name := "g".toList,
    params := [{ addr := "/n".toList, kind := .int (some 0) (some 3), dflt := .const (.int 0), guards := [], anc := [],
                 canon := .int 0 },
               { addr := "/s/a".toList, kind := .int none none, dflt := .const (.int 5), guards := [(0, false)], anc := [0],
                 canon := .int 5 }],
    walk := [.scalar 0, .scalar 1], apropos := fun _ => none }

/-- with `/n = 2` the sub-tree is enabled and `/s/a 7` is stored and saved; `/s/a 7 8` (one argument more than the port
    reads: `a::i`, the last alternative is a prefix of the type string) does the same -/
example : gApp.save (gApp.run [("/n".toList, [.int 2]), ("/s/a".toList, [.int 7, .int 8])] gApp.init) =
    [⟨"/n".toList, .plain [.int 2]⟩, ⟨"/s/a".toList, .plain [.int 7]⟩] := by decide +kernel

/-- while `/n` is zero a write below it is ignored: nothing is saved -/
example : gApp.save (gApp.run [("/s/a".toList, [.int 7])] gApp.init) = [] := by decide +kernel

/-- writing zero to `/n` disables the sub-tree again: it is back at its defaults, only nothing is left to save -/
example : gApp.save (gApp.run [("/n".toList, [.int 2]), ("/s/a".toList, [.int 7]), ("/n".toList, [.int 0])] gApp.init) = [] := by
  decide +kernel

/-- a toggle port takes `false 1` (its last alternative `F` is a prefix of the type string) but not `true 1` -/
example : (Rtosc.Save.Example.exApp.dispatch "/t".toList [.bool true, .int 1] Rtosc.Save.Example.exApp.init).isNone = true ∧
    (Rtosc.Save.Example.exApp.dispatch "/t".toList [.bool false, .int 1] Rtosc.Save.Example.exApp.init).isSome = true := by
  decide +kernel

/-! ### known findings C12-K9 and C12-K10: which lines the text stages hand back (`scansBack`: floats that do not scan,
    K9; arrays that mix symbols and ints, K10); K9: +infinity and NaN do not survive the text stages -/

/-- a float the unchanged library writes as a word that does not scan back: +infinity (`inf (inf)`) or a NaN
    without sign bit (`nan (nan)`) — exponent all ones, sign bit clear.  (`-inf (-inf)` and `-nan (-nan)` do scan.) -/
def unscannableFlt (b : UInt32) : Bool := decide (2139095040 ≤ b.toNat ∧ b.toNat < 2147483648)

/-- no float of the line is +infinity or a NaN without sign bit (`inf (inf)` / `nan (nan)` do not scan) -/
def fltScans (l : Line) : Bool :=
  (match l.args with | .plain vs => vs | .arr vs => vs).all fun v =>
    match v with | .flt b => !unscannableFlt b | _ => true

/-- the elements of an array line are not a mixture of enumeration symbols and ints.  `map_arg_vals` replaces every
    int that has a `map N` entry by its symbol, element by element: an `rArrayOption` port with one element holding
    an option's index and another a value that is no option's index (the callback stores any int) is written
    `[sine 7 tri]`; the scanner takes an array whose elements differ in type for a syntax error -/
def uniformArr (l : Line) : Bool :=
  match l.args with
  | .plain _ => true
  | .arr vs => !((vs.any fun v => match v with | .sym _ => true | _ => false) &&
                 (vs.any fun v => match v with | .int _ => true | _ => false))

/-- a savefile line as the text stages of the unchanged library hand it back: does it scan? -/
def scansBack (l : Line) : Bool := fltScans l && uniformArr l

/-- trigger of C12-K9: a line of the savefile of state `s` carries a float value that is +infinity or NaN -/
def hasInfOrNaN (app : App) (s : State) : Bool := (app.save s).any fun l => !fltScans l

/-- trigger of C12-K10: an array line of the savefile of state `s` mixes enumeration symbols and ints -/
def hasMixedArray (app : App) (s : State) : Bool := (app.save s).any fun l => !uniformArr l

/-- the file `load_from_file` gets to see when the text of `save_to_file` is scanned by the unchanged library -/
def scannedFile (app : App) (rtoscVer appVer : Nat × Nat × Nat) (s : State) : File :=
  { magic := true, rtoscVer := rtoscVer, appName := app.name, appVer := appVer,
    body := (app.save s).map fun l => if scansBack l then some l else none }

/-- one unbounded float parameter `/f` with default 1.0 -/
def k9App : App :=
  { name := "k9".toList,
    params := [{ addr := "/f".toList, kind := .flt none none, dflt := .const (.flt 0x3f800000), guards := [], anc := [],
                 canon := .flt 0x3f800000 }],
    walk := [.scalar 0], apropos := fun _ => none }

/-- the state reached by sending `/f +inf` -/
def k9State : State := k9App.run [("/f".toList, [.flt 0x7f800000])] k9App.init

example : k9App.Reachable k9State := ⟨_, rfl⟩

theorem k9_trigger : hasInfOrNaN k9App k9State = true := by decide +kernel

/-- the state reached by sending `/f nan` (quiet NaN, sign bit clear) -/
def k9StateNaN : State := k9App.run [("/f".toList, [.flt 0x7fc00000])] k9App.init

example : k9App.Reachable k9StateNaN := ⟨_, rfl⟩

theorem k9_trigger_nan : hasInfOrNaN k9App k9StateNaN = true := by decide +kernel

/-- **C12-K9 counterexample, NaN** (mirrors the unchanged library): the savefile of a reachable state that
    holds a NaN is rejected when it is loaded back. -/
theorem nan_not_restored_counterexample :
    ¬ (∃ n, k9App.loadFile (scannedFile k9App (0, 3, 1) (1, 2, 3) k9StateNaN) k9App.init = .ok k9StateNaN n) := by
  intro ⟨n, h⟩
  have : k9App.loadFile (scannedFile k9App (0, 3, 1) (1, 2, 3) k9StateNaN) k9App.init = .fail := by
    apply rejects_unparsable
    decide +kernel
  rw [this] at h
  cases h

/-- **C12-K9 counterexample** (mirrors the unchanged library): the savefile of a reachable state that holds
    +infinity is rejected when it is loaded back. -/
theorem posinf_not_restored_counterexample :
    ¬ (∃ n, k9App.loadFile (scannedFile k9App (0, 3, 1) (1, 2, 3) k9State) k9App.init = .ok k9State n) := by
  intro ⟨n, h⟩
  have : k9App.loadFile (scannedFile k9App (0, 3, 1) (1, 2, 3) k9State) k9App.init = .fail := by
    apply rejects_unparsable
    decide +kernel
  rw [this] at h
  cases h

/-! ### known finding C12-K10, the witness: an rArrayOption line that mixes symbols and ints does not scan -/

/-- one `rArrayOption(o, 2, rOptions(a, b))` port, both elements 0 (`a`) by default -/
def k10App : App :=
  { name := "k10".toList,
    params := [{ addr := "/o0".toList, kind := .opt ["a".toList, "b".toList], dflt := .const (.int 0), guards := [], anc := [],
                 canon := .int 0 },
               { addr := "/o1".toList, kind := .opt ["a".toList, "b".toList], dflt := .const (.int 0), guards := [], anc := [],
                 canon := .int 0 }],
    walk := [.array "/o".toList 0 2], apropos := fun _ => none }

/-- the state reached by `/o0 5` (no option's index: the callback stores any int) and `/o1 1` (`b`) -/
def k10State : State := k10App.run [("/o0".toList, [.int 5]), ("/o1".toList, [.int 1])] k10App.init

example : k10App.Reachable k10State := ⟨_, rfl⟩

/-- the line is `/o [5 b]` -/
example : k10App.save k10State = [⟨"/o".toList, .arr [.int 5, .sym "b".toList]⟩] := by decide +kernel

theorem k10_trigger : hasMixedArray k10App k10State = true := by decide +kernel

/-- **C12-K10 counterexample** (mirrors the unchanged library): the savefile of a reachable state in which an
    rArrayOption port holds an option's index in one element and another int in another is rejected when it is
    loaded back. -/
theorem mixed_option_array_not_restored_counterexample :
    ¬ (∃ n, k10App.loadFile (scannedFile k10App (0, 3, 1) (1, 2, 3) k10State) k10App.init = .ok k10State n) := by
  intro ⟨n, h⟩
  have : k10App.loadFile (scannedFile k10App (0, 3, 1) (1, 2, 3) k10State) k10App.init = .fail := by
    apply rejects_unparsable
    decide +kernel
  rw [this] at h
  cases h

/-- **load_save_restores through the text stages of the unchanged library, partial**: outside the triggers of
    C12-K9 and C12-K10 the scanned file is the saved file, and loading it restores the state. -/
theorem load_save_restores_scanned_partial (app : App) (hwf : app.WF) (hcov : app.MetaCovers) (hrank : MetaRanked app.apropos)
    (rtoscVer appVer : Nat × Nat × Nat) (hrv : verOk rtoscVer = true) (hav : verOk appVer = true)
    (s : State) (hs : app.Reachable s) (hk : hasInfOrNaN app s = false) (hm : hasMixedArray app s = false) :
    app.loadFile (scannedFile app rtoscVer appVer s) app.init = .ok s (app.save s).length := by
  have hb : scannedFile app rtoscVer appVer s = app.saveFile rtoscVer appVer s := by
    unfold scannedFile App.saveFile
    congr 1
    apply List.map_congr_left
    intro l hl
    have : scansBack l = true := by
      unfold hasInfOrNaN at hk
      unfold hasMixedArray at hm
      rw [List.any_eq_false] at hk hm
      have h1 := hk l hl
      have h2 := hm l hl
      unfold scansBack
      simp only [Bool.not_eq_true, Bool.not_eq_false'] at h1 h2
      rw [h1, h2]; rfl
    simp [this]
  rw [hb]
  exact load_save_restores app hwf hcov hrank rtoscVer appVer hrv hav s hs

end Rtosc.C12
