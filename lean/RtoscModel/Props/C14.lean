/-
  C14 — Parameter ports clamp to their declared range and report every change.
  The hypotheses that are not part of the model (`PlainName`, `arrPattern`, `IntTy.Sub`, `scalarPat`,
  `arrayPat`, `PTable.find`) are defined in RtoscModel/Param/PortSpec.lean.

  Reading of the statement.  The callbacks are the functions of RtoscModel/Param/Sugar.lean
  (one per macro of include/rtosc/port-sugar.h, repaired by fixes/C14-*.patch).  A
  callback gets the stored value `old`, the location `loc` (= `data.loc`, the port's full
  address), the port's metadata `pm` (= `data.port->meta()`) and the argument list of the
  message; it returns the new stored value and the messages it hands to
  `RtData::reply` / `RtData::broadcast`, in order.

  * declared minimum / maximum:  `bound conv pm "min" = .ok lo`, `… "max" = .ok hi`
    (`lo hi : Option _`, `none` = the bound is absent from the metadata).  For the integer
    kinds `conv = atoi`: the bound as declared, *not* converted to the type of the
    callback's variable (fixes/C14-limit-bound-narrowing.patch; before the repair a
    declared maximum of 200 on a `char`-typed variable was used as -56).
  * every callback reads the first argument only (`a :: rest`, `rest` arbitrary): the last
    alternative of a port's type pattern accepts further arguments.
  * the incoming value is representable in the storage type: `varTy.InRange raw`
    (char-backed kinds narrow before clamping by design).
  * integer kinds: `rParamCb ty = intCb ty ty Arg.c`, `rParamICb ty = intCb ty ty Arg.i`,
    the element callback of `rArrayICb` is `intCb .i8 ty Arg.i`; the theorems are stated
    for `intCb` and therefore hold for all three.
    float kinds: `rParamFCb = rArrayFElem = fltCb`.  options: `rOptionCb = rArrayOptionElem = optCb`.
  * fields / variables of the other C integer types (`unsigned short`, `unsigned`, `long`,
    `unsigned long`): `intCbW` of Param/Wide.lean, a conservative extension of `intCb`
    (`intCbW_eq_intCb`); theorems `…_int_wide` at the end of this file.
  * array forms: `arrCb elem …` with the element callbacks above; `array_applies_element_callback`
    transfers every scalar theorem to the addressed element.
-/
import RtoscModel.Proofs.ParamWalkBridge
import RtoscModel.Proofs.ParamWide
import RtoscModel.Proofs.ParamWalk
namespace Rtosc.Param
open Rtosc

/-! ## stored value = incoming value clamped to the declared range -/

/-- **rLIMIT clamps** over any comparison structure whose `<` is transitive (the order-only
    abstraction: nothing else about the values is used). -/
theorem limit_clamps {α : Type} (N : NumOps α) {D : α → Prop} (ho : Ordered N D)
    (lo hi : Option α) (v : α)
    (hord : ∀ l h, lo = some l → hi = some h → N.lt h l = false) :
    Clamped N lo hi v (limit N lo hi v) := by
  constructor
  · intro l hl hlt
    subst hl
    cases hi with
    | none => simp [limit, hlt]
    | some h =>
      have := hord l h rfl rfl
      simp [limit, hlt, this]
  · intro h hh hlt
    subst hh
    cases lo with
    | none => simp [limit, hlt]
    | some l =>
      have hhl := hord l h rfl rfl
      have : N.lt v l = false := by
        cases hvl : N.lt v l
        · rfl
        · have := ho.lt_trans h v l hlt hvl
          rw [this] at hhl; cases hhl
      simp [limit, this, hlt]
  · intro hl hh
    cases lo with
    | none =>
      cases hi with
      | none => simp [limit]
      | some h => simp [limit, hh h rfl]
    | some l =>
      cases hi with
      | none => simp [limit, hl l rfl]
      | some h => simp [limit, hl l rfl, hh h rfl]

theorem limit_int_clamps (lo hi : Option Int) (v : Int) (hord : ∀ l h, lo = some l → hi = some h → l ≤ h) :
    (∀ l, lo = some l → v < l → limit intOps lo hi v = l) ∧
    (∀ h, hi = some h → h < v → limit intOps lo hi v = h) ∧
    ((∀ l, lo = some l → l ≤ v) → (∀ h, hi = some h → v ≤ h) → limit intOps lo hi v = v) := by
  have nlt : ∀ a b : Int, b ≤ a → intOps.lt a b = false := fun a b h =>
    Bool.eq_false_iff.mpr (fun hl => absurd ((intOps_lt a b).mp hl) (Int.not_lt.mpr h))
  have hc := limit_clamps intOps intOps_ordered lo hi v (fun l h hl hh => nlt h l (hord l h hl hh))
  exact ⟨fun l hl hlt => hc.below l hl ((intOps_lt v l).mpr hlt),
         fun h hh hlt => hc.above h hh ((intOps_lt h v).mpr hlt),
         fun h1 h2 => hc.inside (fun l hl => nlt v l (h1 l hl)) (fun h hh => nlt h v (h2 h hh))⟩

/-- **stored_is_clamped** (rParam, rParamI, rArrayI; every storage type, every declared
    range that meets the type of the callback's variable — the minimum is not above the
    type's largest value, the maximum not below its smallest): after a set message the
    stored value is the incoming value clamped to the *declared* bounds `atoi(metadata)`.
    In particular a declared maximum of 200 on the `char` variable of rArrayI clamps
    nothing in -128..127. -/
theorem stored_is_clamped_int (varTy storeTy : IntTy) (tag : Int → Arg) (pm : Meta.Ptr) (loc : Bytes)
    (old raw new : Int) (a : Arg) (args : List Arg) (lo hi : Option Int) (ev : List Event)
    (harg : argI a = .ok raw) (hraw : varTy.InRange raw) (hsub : varTy.Sub storeTy)
    (hmn : bound atoi pm kMin = .ok lo) (hmx : bound atoi pm kMax = .ok hi)
    (hlo : ∀ l, lo = some l → l ≤ varTy.max) (hhi : ∀ h, hi = some h → varTy.min ≤ h)
    (hord : ∀ l h, lo = some l → hi = some h → l ≤ h)
    (hres : intCb varTy storeTy tag pm loc old (a :: args) = .ok (new, ev)) :
    (∀ l, lo = some l → raw < l → new = l) ∧
    (∀ h, hi = some h → h < raw → new = h) ∧
    ((∀ l, lo = some l → l ≤ raw) → (∀ h, hi = some h → raw ≤ h) → new = raw) := by
  obtain ⟨hnew, _⟩ := intCb_set_result varTy storeTy tag pm loc old raw new a args lo hi ev harg hsub hmn hmx hres
  rw [IntTy.wrap_of_inRange _ _ hraw, limitInt_eq_limit varTy lo hi raw hraw hlo hhi hord] at hnew
  rw [hnew]
  exact limit_int_clamps lo hi raw hord

/-- whatever the declared bounds are, the value the repaired `rLIMIT` leaves in the
    callback's variable is a value of that variable's type, and it is what gets stored -/
theorem stored_int_in_var_type (varTy storeTy : IntTy) (tag : Int → Arg) (pm : Meta.Ptr) (loc : Bytes)
    (old raw new : Int) (a : Arg) (args : List Arg) (ev : List Event)
    (harg : argI a = .ok raw) (hsub : varTy.Sub storeTy)
    (hres : intCb varTy storeTy tag pm loc old (a :: args) = .ok (new, ev)) :
    varTy.InRange new := by
  simp only [intCb, harg, bind, Except.bind] at hres
  split at hres
  · cases hres
  · rename_i lo hmn
    split at hres
    · cases hres
    · rename_i hi hmx
      simp only [pure, Except.pure, Except.ok.injEq, Prod.mk.injEq] at hres
      have hvr := limitInt_inRange varTy lo hi _ (IntTy.wrap_inRange varTy raw)
      rw [← hres.1, IntTy.wrap_of_inRange _ _ (hsub.inRange hvr)]
      exact hvr

/-- **stored_is_clamped** (rParamF, rArrayF): clamping in the IEEE order of the bit
    patterns; bounds are `(float)atof(metadata)`.  Holds for every pattern, NaN included
    (a NaN compares neither below nor above and is stored as it is). -/
theorem stored_is_clamped_float (pm : Meta.Ptr) (loc : Bytes) (old raw new : UInt32) (a : Arg)
    (args : List Arg) (lo hi : Option UInt32) (ev : List Event)
    (harg : argF a = .ok raw)
    (hmn : bound atofF32 pm kMin = .ok lo) (hmx : bound atofF32 pm kMax = .ok hi)
    (hord : ∀ l h, lo = some l → hi = some h → fLt h l = false)
    (hres : fltCb pm loc old (a :: args) = .ok (new, ev)) :
    Clamped fltOps lo hi raw new := by
  obtain ⟨hnew, _⟩ := fltCb_set_result pm loc old raw new a args lo hi ev harg hmn hmx hres
  rw [hnew]
  exact limit_clamps fltOps fltOps_ordered lo hi raw hord

/-- **stored_is_clamped** (rOption, rArrayOption with an integer argument `i` or `c`). -/
theorem stored_is_clamped_option (storeTy : IntTy) (pm : Meta.Ptr) (loc : Bytes)
    (old raw new : Int) (a : Arg) (rest : List Arg) (lo hi : Option Int) (ev : List Event)
    (harg : a = .i raw ∨ a = .c raw) (hraw : storeTy.InRange raw)
    (hmn : bound atoi pm kMin = .ok lo) (hmx : bound atoi pm kMax = .ok hi)
    (hlo : ∀ l, lo = some l → storeTy.InRange l) (hhi : ∀ h, hi = some h → storeTy.InRange h)
    (hord : ∀ l h, lo = some l → hi = some h → l ≤ h)
    (hres : optCb storeTy pm loc old (a :: rest) = .ok (new, ev)) :
    (∀ l, lo = some l → raw < l → new = l) ∧
    (∀ h, hi = some h → h < raw → new = h) ∧
    ((∀ l, lo = some l → l ≤ raw) → (∀ h, hi = some h → raw ≤ h) → new = raw) := by
  obtain ⟨hnew, _⟩ := optCb_int_result storeTy pm loc old raw new a rest lo hi ev harg hraw hmn hmx hlo hhi hres
  rw [hnew]
  exact limit_int_clamps lo hi raw hord

/-- **stored value of a toggle** (rToggle and the element callbacks of rArrayT and
    rArrayTCbMember): the stored value is the incoming one; a broadcast carrying it is sent
    iff it differs from the old value; no other message is sent.  Arguments behind the first
    one change nothing. -/
theorem stored_toggle (loc : Bytes) (old v : Bool) (a : Arg) (rest : List Arg) (harg : argT a = .ok v) :
    rToggleCb loc old (a :: rest) = .ok (v, if old ≠ v then [broadcast loc [tfArg v]] else []) ∧
    rArrayTElem loc old (a :: rest) = .ok (v, if old ≠ v then [broadcast loc [tfArg v]] else []) ∧
    rArrayTMemberElem loc old (a :: rest) = .ok (v, if old ≠ v then [broadcast loc [tfArg v]] else []) := by
  cases a <;> simp [argT] at harg <;> subst harg <;> cases old <;>
    simp [rToggleCb, rArrayTElem, rArrayTMemberElem, argT, tfArg, bind, Except.bind]

/-! ## a message without arguments replies the stored value at the port's address and changes nothing -/

theorem query_replies_and_preserves_int (varTy storeTy : IntTy) (tag : Int → Arg) (pm : Meta.Ptr)
    (loc : Bytes) (old : Int) (hold : IntTy.i32.InRange old) :
    intCb varTy storeTy tag pm loc old [] = .ok (old, [reply loc [tag old]]) := by
  simp [intCb, IntTy.wrap_of_inRange _ _ hold]

/-- the reply carries the stored pattern (`fArg old = .f old` for every non-NaN value,
    `fArg_of_not_nan`; a signalling NaN arrives quiet, as the `float → double → float`
    round trip of the variadic call makes it) -/
theorem query_replies_and_preserves_float (pm : Meta.Ptr) (loc : Bytes) (old : UInt32) :
    fltCb pm loc old [] = .ok (old, [reply loc [fArg old]]) ∧
    (isNaN old = false → fltCb pm loc old [] = .ok (old, [reply loc [.f old]])) := by
  refine ⟨by simp [fltCb], fun h => by simp [fltCb, fArg_of_not_nan old h]⟩

theorem query_replies_and_preserves_option (storeTy : IntTy) (pm : Meta.Ptr) (loc : Bytes) (old : Int)
    (hold : IntTy.i32.InRange old) :
    optCb storeTy pm loc old [] = .ok (old, [reply loc [.i old]]) := by
  simp [optCb, IntTy.wrap_of_inRange _ _ hold]

theorem query_replies_and_preserves_toggle (loc : Bytes) (old : Bool) :
    rToggleCb loc old [] = .ok (old, [reply loc [tfArg old]]) ∧
    rArrayTElem loc old [] = .ok (old, [reply loc [tfArg old]]) ∧
    rArrayTMemberElem loc old [] = .ok (old, [reply loc [tfArg old]]) := by
  simp [rToggleCb, rArrayTElem, rArrayTMemberElem]

theorem query_replies_and_preserves_string (len : Nat) (loc old s : Bytes) (hs : cstr old = some s) :
    rStringCb len loc old [] = .ok (old, [reply loc [.s s]]) := by
  simp [rStringCb, hs]

/-- **query on an array port**: whenever the element callback answers a query with the
    element unchanged (the four theorems above), the array callback returns the array
    unchanged with that reply. -/
theorem query_replies_and_preserves_array {α : Type} (elem : α → List Arg → Except Err (α × List Event))
    (pattern path : Bytes) (xs : List α) (i : Nat) (x : α) (ev : List Event)
    (hidx : arrayIndex pattern path = .ok i) (hx : xs[i]? = some x)
    (hq : elem x [] = .ok (x, ev)) :
    arrCb elem pattern path xs [] = .ok (xs, ev) := by
  obtain ⟨hlt, hget⟩ := List.getElem?_eq_some_iff.mp hx
  simp only [arrCb, hidx, bind, Except.bind, hx, hq, pure, Except.pure]
  rw [← hget, List.set_getElem_self]

/-! ## a change is broadcast with the new value -/

/-- every set message on an integer port ends with a broadcast of the stored value at the
    port's address (so in particular every change is broadcast) -/
theorem change_is_broadcast_int (varTy storeTy : IntTy) (tag : Int → Arg) (pm : Meta.Ptr) (loc : Bytes)
    (old raw new : Int) (a : Arg) (args : List Arg) (lo hi : Option Int) (ev : List Event)
    (harg : argI a = .ok raw) (hsub : varTy.Sub storeTy)
    (hmn : bound atoi pm kMin = .ok lo) (hmx : bound atoi pm kMax = .ok hi)
    (hres : intCb varTy storeTy tag pm loc old (a :: args) = .ok (new, ev)) :
    ev.getLast? = some (broadcast loc [tag new]) := by
  obtain ⟨_, hev⟩ := intCb_set_result varTy storeTy tag pm loc old raw new a args lo hi ev harg hsub hmn hmx hres
  rw [hev]; simp

theorem change_is_broadcast_float (pm : Meta.Ptr) (loc : Bytes) (old raw new : UInt32) (a : Arg)
    (args : List Arg) (lo hi : Option UInt32) (ev : List Event)
    (harg : argF a = .ok raw)
    (hmn : bound atofF32 pm kMin = .ok lo) (hmx : bound atofF32 pm kMax = .ok hi)
    (hres : fltCb pm loc old (a :: args) = .ok (new, ev)) :
    ev.getLast? = some (broadcast loc [fArg new]) := by
  obtain ⟨_, hev⟩ := fltCb_set_result pm loc old raw new a args lo hi ev harg hmn hmx hres
  rw [hev]; simp

/-- option ports broadcast the stored index with the type tag of the request (`i` or `c`) -/
theorem change_is_broadcast_option (storeTy : IntTy) (pm : Meta.Ptr) (loc : Bytes)
    (old raw new : Int) (a : Arg) (rest : List Arg) (lo hi : Option Int) (ev : List Event)
    (harg : a = .i raw ∨ a = .c raw) (hraw : storeTy.InRange raw)
    (hmn : bound atoi pm kMin = .ok lo) (hmx : bound atoi pm kMax = .ok hi)
    (hlo : ∀ l, lo = some l → storeTy.InRange l) (hhi : ∀ h, hi = some h → storeTy.InRange h)
    (hres : optCb storeTy pm loc old (a :: rest) = .ok (new, ev)) :
    ev.getLast? = some (broadcast loc [if a = .c raw then .c new else .i new]) := by
  obtain ⟨_, hev⟩ := optCb_int_result storeTy pm loc old raw new a rest lo hi ev harg hraw hmn hmx hlo hhi hres
  rw [hev]; simp

theorem change_is_broadcast_toggle (loc : Bytes) (old v : Bool) (a : Arg) (rest : List Arg)
    (harg : argT a = .ok v) (hch : old ≠ v) :
    rToggleCb loc old (a :: rest) = .ok (v, [broadcast loc [tfArg v]]) ∧
    rArrayTElem loc old (a :: rest) = .ok (v, [broadcast loc [tfArg v]]) ∧
    rArrayTMemberElem loc old (a :: rest) = .ok (v, [broadcast loc [tfArg v]]) := by
  have := stored_toggle loc old v a rest harg
  simpa [hch] using this

/-! ## strings are truncated to the declared length -/

/-- **string_truncated** (and change_is_broadcast for strings): after a set message the
    buffer still has its declared length, holds the first `length-1` bytes of the incoming
    string as a C string, and exactly that string is broadcast at the port's address. -/
theorem string_truncated (len : Nat) (loc old x : Bytes) (a : Arg) (args : List Arg)
    (harg : argS a = .ok x) (hx : ∀ c ∈ x, c ≠ 0) (hold : old.length = len) (hlen : 0 < len) :
    ∃ buf, rStringCb len loc old (a :: args) = .ok (buf, [broadcast loc [.s (x.take (len - 1))]]) ∧
      buf.length = len ∧ cstr buf = some (x.take (len - 1)) := by
  obtain ⟨n, rfl⟩ : ∃ n, len = n + 1 := ⟨len - 1, by omega⟩
  rw [Nat.add_sub_cancel]
  have ht : (x.take n).length ≤ n := List.length_take_le n x
  -- the buffer is the `n` bytes `strncpy` writes followed by its own last byte, which is zeroed
  obtain ⟨d, hd⟩ : ∃ d, old.drop n = [d] :=
    List.length_eq_one_iff.mp (by rw [List.length_drop, hold, Nat.add_sub_cancel_left])
  have hn : (x.take n ++ List.replicate (n - (x.take n).length) 0).length = n := by
    rw [List.length_append, List.length_replicate]; omega
  have hb : (strncpy old x n).set n 0 = x.take n ++ 0 :: List.replicate (n - (x.take n).length) 0 := by
    rw [strncpy, hd, List.set_append_right _ _ (Nat.le_of_eq hn), hn, Nat.sub_self, List.set_cons_zero,
      List.append_assoc, ← List.replicate_succ', List.replicate_succ]
  have hc := cstr_append_nul (x.take n) (List.replicate (n - (x.take n).length) 0)
    (fun c hc => hx c (List.mem_of_mem_take hc))
  refine ⟨_, ?_, ?_, hc⟩
  · simp only [rStringCb, harg, bind, Except.bind, Nat.add_sub_cancel, hb, hc,
      if_neg (show ¬ (n + 1 = 0 ∨ old.length < n + 1) by omega)]
  · rw [List.length_append, List.length_cons, List.length_replicate]; omega

theorem change_is_broadcast_string (len : Nat) (loc old x : Bytes) (a : Arg) (args : List Arg)
    (harg : argS a = .ok x) (hx : ∀ c ∈ x, c ≠ 0) (hold : old.length = len) (hlen : 0 < len) :
    ∃ buf, rStringCb len loc old (a :: args) = .ok (buf, [broadcast loc [.s (x.take (len - 1))]]) := by
  obtain ⟨buf, h, _⟩ := string_truncated len loc old x a args harg hx hold hlen
  exact ⟨buf, h⟩

/-! ## exactly one undo event, with the true old and new value, iff the stored value changed -/

/-- **undo_event_iff_changed** (rParam, rParamI, rArrayI) -/
theorem undo_event_iff_changed_int (varTy storeTy : IntTy) (tag : Int → Arg) (pm : Meta.Ptr) (loc : Bytes)
    (old raw new : Int) (a : Arg) (args : List Arg) (lo hi : Option Int) (ev : List Event)
    (harg : argI a = .ok raw) (hsub : varTy.Sub storeTy)
    (hold : varTy.InRange old) (hloc : loc ≠ undoAddr)
    (hmn : bound atoi pm kMin = .ok lo) (hmx : bound atoi pm kMax = .ok hi)
    (hres : intCb varTy storeTy tag pm loc old (a :: args) = .ok (new, ev)) :
    undoEvents ev = if new ≠ old then [reply undoAddr [.s loc, tag old, tag new]] else [] := by
  obtain ⟨_, hev⟩ := intCb_set_result varTy storeTy tag pm loc old raw new a args lo hi ev harg hsub hmn hmx hres
  rw [hev, IntTy.wrap_of_inRange _ _ hold]
  exact undoEvents_set intOps old new loc _ _ _ hloc ((intOps_ne _ _).trans ne_comm)

/-- **undo_event_iff_changed** (rParamF, rArrayF), non-NaN values; "changed" is IEEE
    inequality, i.e. inequality of the order keys (`+0 = -0`).  The event carries the bit
    patterns of the true previous and of the new stored value. -/
theorem undo_event_iff_changed_float (pm : Meta.Ptr) (loc : Bytes) (old raw new : UInt32) (a : Arg)
    (args : List Arg) (lo hi : Option UInt32) (ev : List Event)
    (harg : argF a = .ok raw) (hloc : loc ≠ undoAddr)
    (hold : isNaN old = false) (hraw : isNaN raw = false)
    (hmn : bound atofF32 pm kMin = .ok lo) (hmx : bound atofF32 pm kMax = .ok hi)
    (hlo : ∀ l, lo = some l → isNaN l = false) (hhi : ∀ h, hi = some h → isNaN h = false)
    (hres : fltCb pm loc old (a :: args) = .ok (new, ev)) :
    undoEvents ev = if fKey new ≠ fKey old then [reply undoAddr [.s loc, .f old, .f new]] else [] := by
  obtain ⟨hnew, hev⟩ := fltCb_set_result pm loc old raw new a args lo hi ev harg hmn hmx hres
  have hnn : isNaN new = false :=
    hnew ▸ limit_mem fltOps (P := fun b => isNaN b = false) lo hi raw hraw hlo hhi
  rw [hev, fArg_of_not_nan old hold, fArg_of_not_nan new hnn]
  exact undoEvents_set fltOps old new loc _ _ _ hloc (by
    show fNe old new = true ↔ _
    rw [fNe_iff, hold, hnn]; simp; omega)

/-- **undo_event_iff_changed** (rOption, rArrayOption, integer argument) -/
theorem undo_event_iff_changed_option (storeTy : IntTy) (pm : Meta.Ptr) (loc : Bytes)
    (old raw new : Int) (a : Arg) (rest : List Arg) (lo hi : Option Int) (ev : List Event)
    (harg : a = .i raw ∨ a = .c raw) (hraw : storeTy.InRange raw)
    (hold : IntTy.i32.InRange old) (hloc : loc ≠ undoAddr)
    (hmn : bound atoi pm kMin = .ok lo) (hmx : bound atoi pm kMax = .ok hi)
    (hlo : ∀ l, lo = some l → storeTy.InRange l) (hhi : ∀ h, hi = some h → storeTy.InRange h)
    (hres : optCb storeTy pm loc old (a :: rest) = .ok (new, ev)) :
    undoEvents ev = if new ≠ old then [reply undoAddr [.s loc, .i old, .i new]] else [] := by
  obtain ⟨_, hev⟩ := optCb_int_result storeTy pm loc old raw new a rest lo hi ev harg hraw hmn hmx hlo hhi hres
  rw [hev, IntTy.wrap_of_inRange _ _ hold]
  exact undoEvents_set intOps old new loc _ _ _ hloc ((intOps_ne _ _).trans ne_comm)

/-! ## option symbols are translated to their index -/

/-- **option_symbol_translated**: a symbol (`S` or `s`) that the metadata declares as
    `map k = sym` stores `k`, emits the undo event iff `k` differs from the old value and
    broadcasts `k` — whatever further arguments follow the symbol (before
    fixes/C14-consumed-argument-tag.patch `/x ,Si "blue" 1` read the string pointer as an
    integer and crashed in the broadcast). -/
theorem option_symbol_translated (storeTy : IntTy) (pm : Meta.Ptr) (loc sym : Bytes) (old k : Int)
    (ps : List Meta.Pair) (hps : Meta.pairs pm = some ps) (hdecl : Declares ps sym k)
    (hk : storeTy.InRange k) (hold : IntTy.i32.InRange old) (hloc : loc ≠ undoAddr) :
    (∀ a rest, a = .S sym ∨ a = .s sym →
      ∃ ev, optCb storeTy pm loc old (a :: rest) = .ok (k, ev) ∧
        undoEvents ev = (if k ≠ old then [reply undoAddr [.s loc, .i old, .i k]] else []) ∧
        ev.getLast? = some (broadcast loc [.i k])) := by
  intro a rest ha
  have hkey : enumKey pm sym = .ok k := by
    simp only [enumKey, hps]; exact enumKeyLoop_declares ps sym k hdecl
  have hk32 : IntTy.i32.InRange k := (IntTy.sub_i32 storeTy).inRange hk
  have hcb : optCb storeTy pm loc old (a :: rest) =
      .ok (k, undoEvent intOps old k loc (.i old) (.i k) ++ [broadcast loc [.i k]]) := by
    rw [optCb_sym_set storeTy pm loc old rest ha hkey]
    simp only [optApply, IntTy.wrap_of_inRange _ _ hk, IntTy.wrap_of_inRange _ _ hold,
      IntTy.wrap_of_inRange _ _ hk32]
  refine ⟨_, hcb, ?_, by simp⟩
  exact undoEvents_set intOps old k loc _ _ _ hloc ((intOps_ne _ _).trans ne_comm)

/-! ## an array port touches only the element its address names -/

/-- **array_index_of_address**: for a macro-generated array port `name#N…` the index the
    callback uses is the number written behind the name in the address, whatever
    characters (digits included) the name contains. -/
theorem array_index_of_address (name rest ds : Bytes) (hname : ∀ c ∈ name, c ≠ 35)
    (hds : AllDigits ds) (hv : digitsVal ds ≤ 2147483647) :
    arrayIndex (name ++ 35 :: rest) (name ++ ds) = .ok (digitsVal ds) := by
  simp only [arrayIndex, walkPrefix_name name rest ds hname, atoi_digits ds hds hv]
  have : ¬ ((digitsVal ds : Int) < 0) := Int.not_lt.mpr (Int.natCast_nonneg _)
  simp [this]

/-- **array_touches_only_index**: whatever the element callback does, an array callback
    leaves the length and every other element unchanged. -/
theorem array_touches_only_index {α : Type} (elem : α → List Arg → Except Err (α × List Event))
    (pattern path : Bytes) (xs ys : List α) (args : List Arg) (ev : List Event) (i : Nat)
    (hidx : arrayIndex pattern path = .ok i)
    (hres : arrCb elem pattern path xs args = .ok (ys, ev)) :
    ys.length = xs.length ∧ ∀ j, j ≠ i → ys[j]? = xs[j]? := by
  simp only [arrCb, hidx, bind, Except.bind] at hres
  split at hres
  · cases hres
  · rename_i x hx
    split at hres
    · cases hres
    · rename_i r hr
      obtain ⟨x', ev'⟩ := r
      simp only [pure, Except.pure, Except.ok.injEq, Prod.mk.injEq] at hres
      obtain ⟨rfl, _⟩ := hres
      refine ⟨by simp, fun j hj => ?_⟩
      rw [List.getElem?_set_ne (Ne.symm hj)]

/-- **array_applies_element_callback**: the addressed element is updated by exactly the
    scalar callback (with the same location, metadata and arguments), so every scalar
    theorem above holds for the addressed element of the corresponding array port. -/
theorem array_applies_element_callback {α : Type} (elem : α → List Arg → Except Err (α × List Event))
    (pattern path : Bytes) (xs : List α) (args : List Arg) (i : Nat) (x : α)
    (hidx : arrayIndex pattern path = .ok i) (hx : xs[i]? = some x) :
    arrCb elem pattern path xs args = (elem x args).map (fun r => (xs.set i r.1, r.2)) := by
  simp only [arrCb, hidx, bind, Except.bind, hx]
  cases elem x args with
  | error e => rfl
  | ok r => obtain ⟨x', ev⟩ := r; rfl

/-! ## "at the port's full address": delivery of a message to a port

  Three layers.
  * One port, scalar (`name::tags`) or array (`name#N::tags`), over the restricted model of
    `rtosc_match` in Param/Port.lean (what the `param` engine runs): `dispatch_scalar_at_address`,
    `dispatch_array_at_address`, `dispatch_array_only`, `array_callback_runs_element`.  The
    address of the object the port belongs to is a parameter `pfx` there.
  * The walk of `Ports::dispatch` through `rRecur` sub-trees of any depth that builds that
    address — the model of C04 (Ports/Dispatch.lean: linear and hashed lookup, `SNIP`, the
    location buffer): `delivery_through_recur`.  It shows that `pfx` is the address in front
    of the port's own part of the path, that `loc` is the full address, and that C04's
    matcher (C05) and the restricted one agree on macro names.
  * That C04's model is what the library does is C04's correspondence, not C14's. -/

/-- the type specifications the scalar port macros write behind the name, each with the
    type strings of the messages the property speaks about (query, one value) -/
def macroSpecs : List (Bytes × List Bytes) :=
  [([58, 58, 99], [[], [99]]),                                  -- "::c"      rParam
   ([58, 58, 102], [[], [102]]),                                -- "::f"      rParamF
   ([58, 58, 105], [[], [105]]),                                -- "::i"      rParamI
   ([58, 58, 105, 58, 99, 58, 83], [[], [105], [99], [83]]),    -- "::i:c:S"  rOption
   ([58, 58, 84, 58, 70], [[], [84], [70]]),                    -- "::T:F"    rToggle
   ([58, 58, 115], [[], [115]])]                                -- "::s"      rString

theorem macro_specs_accept :
    ∀ st ∈ macroSpecs, ∀ t ∈ st.2, matchArgs (st.1.length + 2) st.1 t = true := by decide

/-- **delivery, scalar ports**: a message is handed to the callback of a scalar macro port
    exactly when its path below the object is the port's name (and its type string is
    accepted); the callback then runs with `loc` = the object's address followed by the name. -/
theorem dispatch_scalar_at_address (p : Port) (name spec pfx path : Bytes) (fld : Field) (args : List Arg)
    (hp : p.pattern = name ++ 58 :: spec) (hn : PlainName name) :
    (path ≠ name → dispatch p pfx path fld args = .ok none) ∧
    (path = name → matchArgs ((58 :: spec).length + 2) (58 :: spec) (args.map Arg.tag) = true →
      dispatch p pfx path fld args =
        match callback p (pfx ++ name) name fld args with
        | .error e => .error e
        | .ok r => .ok (some r)) := by
  constructor
  · intro h
    simp [dispatch, hp, portMatches_scalar name spec path _ hn, h]
  · intro h hm
    subst h
    simp only [List.length_cons] at hm
    simp only [dispatch, hp, portMatches_scalar path spec path _ hn, List.length_cons, hm, decide_true, Bool.and_self]
    cases callback p (pfx ++ path) path fld args <;> rfl

-- a name in the sense of `PlainName`: "pf0"
example : PlainName [112, 102, 48] := by
  intro c hc
  simp only [List.mem_cons, List.not_mem_nil, or_false] at hc
  rcases hc with rfl | rfl | rfl <;> decide

/-- **delivery, array ports** (rArrayF / rArrayI / rArrayT / rArrayOption: `name#N::tags`): a
    message at the address `name<k>` (any spelling of `k` in decimal digits, leading zeros
    included) is handed to the callback iff `k < N` (and its type string is accepted), with
    `loc` = the object's address followed by `name<k>`; an index `k ≥ N` matches nothing. -/
theorem dispatch_array_at_address (p : Port) (name nd spec pfx ds : Bytes) (fld : Field) (args : List Arg)
    (hp : p.pattern = arrPattern name nd spec) (hn : PlainName name)
    (hnd : AllDigits nd) (hnne : nd ≠ []) (hnv : digitsVal nd ≤ 2147483647)
    (hds : AllDigits ds) (hdne : ds ≠ []) (hdv : digitsVal ds ≤ 2147483647) :
    (digitsVal nd ≤ digitsVal ds → dispatch p pfx (name ++ ds) fld args = .ok none) ∧
    (digitsVal ds < digitsVal nd →
      matchArgs ((58 :: spec).length + 2) (58 :: spec) (args.map Arg.tag) = true →
      dispatch p pfx (name ++ ds) fld args =
        match callback p (pfx ++ (name ++ ds)) (name ++ ds) fld args with
        | .error e => .error e
        | .ok r => .ok (some r)) := by
  have hm := portMatches_array name nd spec ds (args.map Arg.tag) hn hnd hnne hnv hds hdne hdv
  constructor
  · intro h
    have : ¬ (digitsVal ds < digitsVal nd) := by omega
    simp [dispatch, hp, hm, this]
  · intro h ha
    simp only [dispatch, hp, hm, h, decide_true, ha, Bool.and_self]
    cases callback p (pfx ++ (name ++ ds)) (name ++ ds) fld args <;> rfl

/-- **only such addresses**: whatever the path below the object is, if the callback of an
    array port runs then the path is the port's name followed by a non-empty run of digits
    whose value is below the declared length. -/
theorem dispatch_array_only (p : Port) (name nd spec pfx path : Bytes) (fld : Field) (args : List Arg)
    (r : Field × List Event)
    (hp : p.pattern = arrPattern name nd spec) (hn : PlainName name)
    (hnd : AllDigits nd) (hnne : nd ≠ []) (hnv : digitsVal nd ≤ 2147483647)
    (h : dispatch p pfx path fld args = .ok (some r)) :
    ∃ ds, path = name ++ ds ∧ ds ≠ [] ∧ AllDigits ds ∧ digitsVal ds < digitsVal nd := by
  simp only [dispatch, hp] at h
  split at h
  · cases h
  · cases h
  · rename_i hm
    exact portMatches_array_only name nd spec path _ hn hnd hnne hnv hm

/-- **the callback of an array port runs the element callback on element `k`** of the address
    `name<k>` — all five array macros; with `dispatch_array_at_address` (which gives `k < N`, and
    `N` is the length of the field) and the scalar theorems above this is "a set message at
    `name<k>` reaches element `k`": the new array is the old one with element `k` replaced by what
    the element callback stores, the messages are the element callback's. -/
theorem array_callback_runs_element (p : Port) (name nd spec loc ds : Bytes) (pm : Meta.Ptr) (args : List Arg)
    (hp : p.pattern = arrPattern name nd spec) (hn : PlainName name)
    (hpm : Meta.container p.block = some pm)
    (hds : AllDigits ds) (hdv : digitsVal ds ≤ 2147483647) :
    (p.kind = .arrayF → ∀ xs x, xs[digitsVal ds]? = some x →
      callback p loc (name ++ ds) (.flts xs) args =
        (rArrayFElem pm loc x args).map (fun r => (.flts (xs.set (digitsVal ds) r.1), r.2))) ∧
    (p.kind = .arrayI → ∀ xs x, xs[digitsVal ds]? = some x →
      callback p loc (name ++ ds) (.ints xs) args =
        (rArrayIElem p.ty pm loc x args).map (fun r => (.ints (xs.set (digitsVal ds) r.1), r.2))) ∧
    (p.kind = .arrayOption → ∀ xs x, xs[digitsVal ds]? = some x →
      callback p loc (name ++ ds) (.ints xs) args =
        (rArrayOptionElem p.ty pm loc x args).map (fun r => (.ints (xs.set (digitsVal ds) r.1), r.2))) ∧
    (p.kind = .arrayT → ∀ xs x, xs[digitsVal ds]? = some x →
      callback p loc (name ++ ds) (.bools xs) args =
        (rArrayTElem loc x args).map (fun r => (.bools (xs.set (digitsVal ds) r.1), r.2))) ∧
    (p.kind = .arrayTMember → ∀ xs x, xs[digitsVal ds]? = some x →
      callback p loc (name ++ ds) (.bools xs) args =
        (rArrayTMemberElem loc x args).map (fun r => (.bools (xs.set (digitsVal ds) r.1), r.2))) := by
  have hname : ∀ c ∈ name, c ≠ 35 := fun c hc => (hn c hc).2.2.2.2
  have hidx : arrayIndex p.pattern (name ++ ds) = .ok (digitsVal ds) := by
    rw [hp, arrPattern]; exact array_index_of_address name _ ds hname hds hdv
  refine ⟨?_, ?_, ?_, ?_, ?_⟩ <;> intro hk xs x hx
  · simp only [callback, hpm, hk, rArrayFCb, array_applies_element_callback _ _ _ xs args _ x hidx hx]
    cases rArrayFElem pm loc x args <;> rfl
  · simp only [callback, hpm, hk, rArrayICb, array_applies_element_callback _ _ _ xs args _ x hidx hx]
    cases rArrayIElem p.ty pm loc x args <;> rfl
  · simp only [callback, hpm, hk, rArrayOptionCb, array_applies_element_callback _ _ _ xs args _ x hidx hx]
    cases rArrayOptionElem p.ty pm loc x args <;> rfl
  · simp only [callback, hpm, hk, rArrayTCb, array_applies_element_callback _ _ _ xs args _ x hidx hx]
    cases rArrayTElem loc x args <;> rfl
  · simp only [callback, hpm, hk, rArrayTCbMember, array_applies_element_callback _ _ _ xs args _ x hidx hx]
    cases rArrayTMemberElem loc x args <;> rfl

/-- the names the parameter macros generate, as structured names of C05/C04 -/
inductive MacroName : Match.Pat → Prop
  | scalar (name : Bytes) (ts : List Bytes) : PlainName name → MacroName (scalarPat name ts)
  | array (name nd : Bytes) (ts : List Bytes) : PlainName name → MacroName (arrayPat name nd ts)

theorem MacroName.nosub {p : Match.Pat} (h : MacroName p) : p.sub = false := by
  cases h <;> rfl

/-- on a macro name of a well-formed tree, what C05's matcher accepts the restricted matcher accepts -/
theorem MacroName.bridge {p : Match.Pat} (h : MacroName p) (hwf : Ports.nameWf p = true) {path tags t' : Bytes}
    (hm : Ports.matchB p path tags = some t') : portMatches p.render path tags = .ok true := by
  cases h with
  | scalar name ts hn =>
    obtain ⟨h1, h2⟩ := scalarPat_facts hwf
    rw [(matchB_scalar name ts path tags hn h1 h2).1, hm]; rfl
  | array name nd ts hn =>
    obtain ⟨⟨h1, h2⟩, h3, h4, h5⟩ := arrayPat_facts hwf
    exact (matchB_array name nd ts path tags t' hn h3 h4 h5 h1 h2 hm).1

/-- **delivery through the rRecur address walk** (clause "at the port's full address"): a
    macro-generated port `q` (scalar or array form) anywhere in a well-formed port tree — below
    sub-trees of any depth, in tables that are searched linearly or by hash (any lookup
    tables satisfying C04's `MkOK`, in particular the real ones) —, any message in C04's scope,
    dispatched with a location buffer.  Then
    * the callback of `q` is invoked iff the address matches at every level and the type string
      is accepted (`AnswersRoot`, the specification of C04), and no callback is invoked twice;
    * when it is invoked it is handed: `msg` = `path`, the part of the address its own name
      matches; `loc` = the *full address* `pfx ++ path` of the message (after a base dispatch:
      `"/"` followed by the address without its leading slash); the object handed down by its
      parents and its own port pointer;
    * the restricted matcher of Param/Port.lean accepts `path`, and the one-port model
      `dispatch port pfx path` that the correspondence run executes is exactly the port's
      callback run with that `loc` and `msg`: every callback theorem of this file, instantiated
      with `loc` = the full address, describes what happens. -/
theorem delivery_through_recur {mk : List Bytes → Option Ports.Hash.Matcher} (hmk : Ports.MkOK mk)
    {P : Ports.PPorts} {addr tags rest : Bytes} (h : Ports.InScope P addr tags rest) (k : Nat) (base : Bool)
    (d : Ports.RtData) (L0 : Bytes) (hd : d.loc = some L0) (hsz : d.locSize ≠ 0) (hobj : d.obj = [])
    (q : List Nat) (pat : Match.Pat) (hq : P.tab.find 0 q = some (pat, true)) (hmac : MacroName pat)
    (port : Port) (hport : port.pattern = pat.render) :
    ∃ log d', Ports.dispatch mk P.render (Ports.msgBuf addr tags k rest) d base = some (log, d') ∧
      ((∃ c ∈ log, c.who = .port q) ↔ Ports.AnswersRoot P (Ports.rootAddr base addr) tags (.port q)) ∧
      (log.map (·.who)).Nodup ∧
      ∀ c ∈ log, c.who = .port q →
        ∃ pfx path, Ports.rootLoc base L0 ++ Ports.rootAddr base addr = pfx ++ path ∧
          c.loc = some (pfx ++ path) ∧ c.m = path ++ 0 :: Ports.msgTail k tags rest ∧
          c.obj = q.dropLast ∧ c.dport = some q ∧
          portMatches port.pattern path tags = .ok true ∧
          ∀ fld args, args.map Arg.tag = tags →
            dispatch port pfx path fld args =
              match callback port (Ports.rootLoc base L0 ++ Ports.rootAddr base addr) path fld args with
              | .error e => .error e
              | .ok r => .ok (some r) := by
  obtain ⟨log, d', hdisp, hhand⟩ := Ports.dispatch_handed hmk h k base d L0 hd hsz
  obtain ⟨log1, d1, hdisp1, hiff⟩ := Ports.dispatch_loc_iff hmk h k base d L0 hd hsz
  obtain ⟨log2, d2, hdisp2, hptr⟩ := Ports.port_pointer_own hmk h k base d L0 hd hsz hobj
  have hr : Ports.TwoRuns d { d with loc := none } L0 := ⟨hd, hsz, rfl, rfl, rfl⟩
  obtain ⟨log3, d3, _, _, hdisp3, _, hnd, _⟩ := Ports.dispatch_unique hmk h k base hr
  rw [hdisp] at hdisp1 hdisp2 hdisp3
  cases hdisp1; cases hdisp2; cases hdisp3
  refine ⟨log, d', hdisp, ?_, hnd, ?_⟩
  · rw [← hiff]
    simp only [List.mem_map]
  · intro c hc hw
    obtain ⟨p, pfx, path, t', hfind, hfull, hm, hloc, hmsg⟩ := hhand c hc q hw
    rw [hq] at hfind
    simp only [Option.some.injEq, Prod.mk.injEq] at hfind
    obtain ⟨rfl, _⟩ := hfind
    obtain ⟨rfl, hcons⟩ := Ports.matchB_nosub hmac.nosub hm
    rw [hcons] at hloc
    have hwf := Ports.PTable.find_wf P.tab h.wf 0 q pat true hq
    have hpm : portMatches port.pattern path tags = .ok true := by rw [hport]; exact hmac.bridge hwf hm
    obtain ⟨hp1, hp2⟩ := (hptr c hc).1 q hw
    refine ⟨pfx, path, hfull, hloc, hmsg, hp2, hp1, hpm, ?_⟩
    intro fld args hargs
    simp only [dispatch, hargs, hpm, hfull]
    cases callback port (pfx ++ path) path fld args <;> rfl

/-- after a base dispatch of a message whose address begins with '/', the "full address" of
    `delivery_through_recur` is literally the address of the message -/
theorem full_address_base (L0 r : Bytes) :
    Ports.rootLoc true L0 ++ Ports.rootAddr true (47 :: r) = 47 :: r := by
  simp [Ports.rootLoc, Ports.rootAddr, Ports.stripSlash]

/-! ## finding C14-K1: non-integral bounds of integer ports are truncated toward zero

  `rLIMIT(var, atoi)` converts the metadata literal with `atoi`.  For a positive
  non-integral minimum (`rLinear(2.5, …)` → 2) or a negative non-integral maximum
  (`rLinear(…, -2.5)` → -2) the bound used lies *outside* the declared range, so one
  integer outside the range is stored unclamped.  The statement "the bound used respects
  the declared literal" is therefore false in general; it holds exactly when the trigger
  `boundTruncatedOutward` is false.  (All theorems above are about the bound the callback
  uses, `bound conv pm key`, and are unaffected.) -/

/-- full statement (false, see the counterexample) -/
def declared_int_bound_respected_statement : Prop :=
  ∀ (isMin : Bool) (l : DecLit), l.WF → ∀ m, atoi l.bytes = some m → BoundRespects isMin l m

/-- a declared minimum `2.5` is used as `2` -/
theorem declared_int_bound_respected_counterexample : ¬ declared_int_bound_respected_statement := by
  intro h
  have hwf : (⟨false, [50], [53]⟩ : DecLit).WF :=
    ⟨by decide, by intro c hc; simp at hc; subst hc; decide,
      by intro c hc; simp at hc; subst hc; decide, by decide⟩
  have := h true ⟨false, [50], [53]⟩ hwf 2 (by decide)
  simp [BoundRespects, DecLit.num, digitsVal] at this

/-- **declared_int_bound_respected_partial**: outside the trigger of C14-K1 the bound the
    callback uses never lies outside the declared range (integral literals are exact, the
    other non-integral literals are truncated inward). -/
theorem declared_int_bound_respected_partial (isMin : Bool) (l : DecLit) (hwf : l.WF)
    (htrig : boundTruncatedOutward isMin l = false) (m : Int) (hm : atoi l.bytes = some m) :
    BoundRespects isMin l m := by
  rw [atoi_decLit l hwf] at hm
  simp only [Option.some.injEq] at hm
  subst hm
  unfold BoundRespects DecLit.num
  simp only [Int.natCast_add, Int.natCast_mul]
  cases isMin <;> cases hneg : l.neg <;>
    simp only [boundTruncatedOutward, hneg, Bool.and_eq_false_iff, decide_eq_false_iff_not,
      Decidable.not_not, Bool.not_false, Bool.not_true, Bool.false_eq_true, Bool.true_eq_false,
      ↓reduceIte, or_false, or_true, Int.neg_mul] at htrig ⊢ <;>
    (generalize ((digitsVal l.ip : Nat) : Int) * ((10 ^ l.fp.length : Nat) : Int) = P; omega)

/-! ## non-vacuity: concrete ports meeting the hypotheses -/

/-- metadata of `rParamF(x, rLinear(-1.5, 2.25), "d")` -/
def exBlockF : Bytes :=
  [58, 112, 97, 114, 97, 109, 101, 116, 101, 114, 0, 58, 109, 105, 110, 0, 61, 45, 49, 46, 53, 0, 58, 109, 97, 120, 0, 61, 50, 46, 50, 53, 0, 58, 115, 99, 97, 108, 101, 0, 61, 108, 105, 110, 101, 97, 114, 0, 58, 100, 111, 99, 117, 109, 101, 110, 116, 97, 116, 105, 111, 110, 0, 61, 100, 0, 0]
/-- metadata of `rOption(x, rOptions(red, blue), rLinear(0, 1), "d")` -/
def exBlockO : Bytes :=
  [58, 112, 97, 114, 97, 109, 101, 116, 101, 114, 0, 58, 101, 110, 117, 109, 101, 114, 97, 116, 101, 100, 0, 58, 109, 97, 112, 32, 48, 0, 61, 114, 101, 100, 0, 58, 109, 97, 112, 32, 49, 0, 61, 98, 108, 117, 101, 0, 58, 109, 105, 110, 0, 61, 48, 0, 58, 109, 97, 120, 0, 61, 49, 0, 58, 100, 111, 99, 117, 109, 101, 110, 116, 97, 116, 105, 111, 110, 0, 61, 100, 0, 0]
/-- "/x" -/
def exLoc : Bytes := [47, 120]
def exPm (b : Bytes) : Meta.Ptr := (Meta.container b).getD none
/-- "blue" -/
def exBlue : Bytes := [98, 108, 117, 101]

-- the declared bounds are found and converted: -1.5 = 0xbfc00000, 2.25 = 0x40100000
example : (bound atofF32 (exPm exBlockF) kMin).toOption = some (some 0xbfc00000) := by decide +kernel
example : (bound atofF32 (exPm exBlockF) kMax).toOption = some (some 0x40100000) := by decide +kernel
example : fLt 0x40100000 0xbfc00000 = false := by decide +kernel
example : isNaN 0x3fa00000 = false ∧ isNaN 0x40e00000 = false ∧ exLoc ≠ undoAddr := by decide +kernel
-- 1.25 → 7.0 (clamped to 2.25): one undo event with the true old and new value, then the broadcast
example : (fltCb (exPm exBlockF) exLoc 0x3fa00000 [.f 0x40e00000]).toOption =
    some (0x40100000, [reply undoAddr [.s exLoc, .f 0x3fa00000, .f 0x40100000],
                       broadcast exLoc [.f 0x40100000]]) := by decide +kernel
-- -0.0 over +0.0: the bits change, the value does not: no undo event
example : (fltCb (exPm exBlockF) exLoc 0 [.f 0x80000000]).toOption =
    some (0x80000000, [broadcast exLoc [.f 0x80000000]]) := by decide +kernel
-- char-backed integer port with bounds 0..1: 100 is clamped to 1
example : (bound atoi (exPm exBlockO) kMin).toOption = some (some 0) := by decide +kernel
example : IntTy.i8.InRange 100 ∧ IntTy.i8.InRange 5 ∧ IntTy.i8.Sub .i8 := ⟨by decide, by decide, IntTy.sub_refl _⟩
example : (rParamCb .i8 (exPm exBlockO) exLoc 5 [.c 100]).toOption =
    some (1, [reply undoAddr [.s exLoc, .c 5, .c 1], broadcast exLoc [.c 1]]) := by decide +kernel
-- option: the block declares blue ↦ 1
def exPairsO : List Meta.Pair :=
  [([112, 97, 114, 97, 109, 101, 116, 101, 114], none), ([101, 110, 117, 109, 101, 114, 97, 116, 101, 100], none), ([109, 97, 112, 32, 48], some [114, 101, 100]), ([109, 97, 112, 32, 49], some [98, 108, 117, 101]), ([109, 105, 110], some [48]), ([109, 97, 120], some [49]), ([100, 111, 99, 117, 109, 101, 110, 116, 97, 116, 105, 111, 110], some [100])]
example : Meta.pairs (exPm exBlockO) = some exPairsO := by decide +kernel
example : Declares exPairsO exBlue 1 := by
  -- "map 1" is the fourth pair; of the three in front only "map 0" is a `map` entry, for "red"
  refine ⟨⟨exPairsO.take 3, [49], exPairsO.drop 4, by decide +kernel, by decide +kernel, ?_⟩⟩
  intro p hp hm
  simp only [exPairsO, List.take_succ_cons, List.take_zero, List.mem_cons, List.not_mem_nil, or_false] at hp
  rcases hp with rfl | rfl | rfl
  · exact absurd hm (by decide)
  · exact absurd hm (by decide)
  · exact ⟨_, rfl, by decide⟩
example : (optCb .i32 (exPm exBlockO) exLoc 0 [.S exBlue]).toOption =
    some (1, [reply undoAddr [.s exLoc, .i 0, .i 1], broadcast exLoc [.i 1]]) := by decide +kernel
-- array: a name containing a digit ("a2x#3::f", path "a2x1"), leading zeros ("017")
example : (arrayIndex [97, 50, 120, 35, 51, 58, 58, 102] [97, 50, 120, 49]).toOption = some 1 := by decide +kernel
example : (∀ c ∈ ([97, 50, 120] : Bytes), c ≠ 35) ∧ AllDigits [48, 49, 55] ∧ digitsVal [48, 49, 55] = 17 := by
  refine ⟨by decide, ?_, by decide⟩
  intro c hc
  simp only [List.mem_cons, List.not_mem_nil, or_false] at hc
  rcases hc with rfl | rfl | rfl <;> decide
-- string of capacity 4: "hello" is stored as "hel"
example : (rStringCb 4 exLoc [120, 0, 0, 0] [.s [104, 101, 108, 108, 111]]).toOption =
    some ([104, 101, 108, 0], [broadcast exLoc [.s [104, 101, 108]]]) := by decide +kernel
example : argT .T = .ok true := rfl

-- fixes/C14-limit-bound-narrowing.patch: `rArrayI(a, 4, rLinear(0, 200), "d")`, an `int` element
-- behind the callback's `char var`: the declared maximum 200 is not narrowed to -56, incoming 100 is stored
/-- metadata of `rArrayI(a, 4, rLinear(0, 200), "d")` -/
def exBlockA : Bytes :=
  [58, 112, 97, 114, 97, 109, 101, 116, 101, 114, 0, 58, 109, 105, 110, 0, 61, 48, 0, 58, 109, 97, 120, 0, 61, 50, 48, 48, 0, 58, 115, 99, 97, 108, 101, 0, 61, 108, 105, 110, 101, 97, 114, 0, 58, 100, 111, 99, 117, 109, 101, 110, 116, 97, 116, 105, 111, 110, 0, 61, 100, 0, 0]
example : (bound atoi (exPm exBlockA) kMax).toOption = some (some 200) ∧ IntTy.i8.min ≤ 200 ∧ IntTy.i8.InRange 100 ∧
    IntTy.i8.Sub .i32 := by
  refine ⟨by decide, by decide, by decide, IntTy.sub_i32 _⟩
example : (rArrayIElem .i32 (exPm exBlockA) exLoc 5 [.i 100]).toOption =
    some (100, [reply undoAddr [.s exLoc, .i 5, .i 100], broadcast exLoc [.i 100]]) := by decide +kernel
-- fixes/C14-consumed-argument-tag.patch: `/x ,Si "blue" 1` is the symbol `blue`, the second argument is ignored
example : (optCb .i32 (exPm exBlockO) exLoc 0 [.S exBlue, .i 1]).toOption =
    some (1, [reply undoAddr [.s exLoc, .i 0, .i 1], broadcast exLoc [.i 1]]) := by decide +kernel
example : (rToggleCb exLoc false [.T, .i 7]).toOption = some (true, [broadcast exLoc [.T]]) := by decide +kernel
-- an `rSpecial(disable)` entry (a title followed by a bare string) in front of the range does not hide it
/-- metadata of `rParamF(x, rSpecial(disable), rLinear(0, 2.5), "d")` -/
def exBlockS : Bytes :=
  [58, 112, 97, 114, 97, 109, 101, 116, 101, 114, 0, 58, 115, 112, 101, 99, 105, 97, 108, 0, 100, 105, 115, 97, 98, 108, 101, 0, 58, 109, 105, 110, 0, 61, 48, 0, 58, 109, 97, 120, 0, 61, 50, 46, 53, 0, 58, 115, 99, 97, 108, 101, 0, 61, 108, 105, 110, 101, 97, 114, 0, 58, 100, 111, 99, 117, 109, 101, 110, 116, 97, 116, 105, 111, 110, 0, 61, 100, 0, 0]
example : (bound atofF32 (exPm exBlockS) kMin).toOption = some (some 0) ∧
    (bound atofF32 (exPm exBlockS) kMax).toOption = some (some 0x40200000) := by decide +kernel
-- a signalling NaN is stored as it is and reported quiet
example : (fltCb (exPm exBlockF) exLoc 0x7f800001 []).toOption = some (0x7f800001, [reply exLoc [.f 0x7fc00001]]) := by decide +kernel

-- C14-K1 on a callback: metadata `min = 2.5`, incoming 2 is stored although 2 < 2.5
/-- metadata of `rParamI(x, rLinear(2.5, 7.9), "d")` -/
def exBlockK : Bytes :=
  [58, 112, 97, 114, 97, 109, 101, 116, 101, 114, 0, 58, 109, 105, 110, 0, 61, 50, 46, 53, 0, 58, 109, 97, 120, 0, 61, 55, 46, 57, 0, 58, 115, 99, 97, 108, 101, 0, 61, 108, 105, 110, 101, 97, 114, 0, 58, 100, 111, 99, 117, 109, 101, 110, 116, 97, 116, 105, 111, 110, 0, 61, 100, 0, 0]
example : (rParamICb .i32 (exPm exBlockK) exLoc 5 [.i 2]).toOption =
    some (2, [reply undoAddr [.s exLoc, .i 5, .i 2], broadcast exLoc [.i 2]]) := by decide +kernel
example : boundTruncatedOutward true ⟨false, [50], [53]⟩ = true ∧
    boundTruncatedOutward false ⟨false, [55], [57]⟩ = false ∧
    boundTruncatedOutward true ⟨true, [50], [53]⟩ = false := by decide +kernel

/-! ### non-vacuity of the delivery theorems -/

-- array port "af#4::f": name "af", N = "4", specification ":f"
example : arrPattern [97, 102] [52] [58, 102] = [97, 102, 35, 52, 58, 58, 102] := by decide +kernel
example : PlainName [97, 102] := by
  intro c hc
  simp only [List.mem_cons, List.not_mem_nil, or_false] at hc
  rcases hc with rfl | rfl <;> decide
-- "af3" is delivered, "af4" and "af04" are not, "af03" is element 3
example : (portMatches [97, 102, 35, 52, 58, 58, 102] [97, 102, 51] [102]).toOption = some true ∧
    (portMatches [97, 102, 35, 52, 58, 58, 102] [97, 102, 52] [102]).toOption = some false ∧
    (portMatches [97, 102, 35, 52, 58, 58, 102] [97, 102, 48, 52] [102]).toOption = some false ∧
    (portMatches [97, 102, 35, 52, 58, 58, 102] [97, 102, 48, 51] [102]).toOption = some true ∧
    (portMatches [97, 102, 35, 52, 58, 58, 102] [97, 102] [102]).toOption = some false := by decide +kernel
/-- the port `rArrayF(af, 4, rLinear(-1.5, 2.25), "d")` -/
def exPortAF : Port := { kind := .arrayF, ty := .i32, len := 4, pattern := [97, 102, 35, 52, 58, 58, 102], block := exBlockF }
-- "/sub/deep1/" ++ "af3", 7.0: element 3 (and only it) becomes 2.25, reported at the full address
example : (dispatch exPortAF [47, 115, 117, 98, 47, 100, 101, 101, 112, 49, 47] [97, 102, 51] (.flts [0, 0, 0, 0x3fa00000])
      [.f 0x40e00000]).toOption =
    some (some (.flts [0, 0, 0, 0x40100000],
      [reply undoAddr [.s [47, 115, 117, 98, 47, 100, 101, 101, 112, 49, 47, 97, 102, 51], .f 0x3fa00000, .f 0x40100000],
       broadcast [47, 115, 117, 98, 47, 100, 101, 101, 112, 49, 47, 97, 102, 51] [.f 0x40100000]])) := by decide +kernel

/-- `sub/` → { `deep#2/` → { `pf::f`, `af#4::f` } }, `v#2::i` -/
def exWalkTree : Ports.PPorts :=
  { dflt := false,
    tab :=
      .node { segs := [.lit [115, 117, 98]], sub := true, types := none }
        (.node { segs := [.lit [100, 101, 101, 112], .enum [50]], sub := true, types := none }
          (.leaf (scalarPat [112, 102] [[], [102]]) <|
           .leaf (arrayPat [97, 102] [52] [[], [102]]) .nil) false .nil) false <|
      .leaf (arrayPat [118] [50] [[], [105]]) .nil }

/-- "/sub/deep1/af3" -/
def exWalkAddr : Bytes := [47, 115, 117, 98, 47, 100, 101, 101, 112, 49, 47, 97, 102, 51]

example : exWalkTree.tab.WF := by decide +kernel
example : exWalkTree.tab.find 0 [0, 0, 1] = some (arrayPat [97, 102] [52] [[], [102]], true) := by decide +kernel
example : MacroName (arrayPat [97, 102] [52] [[], [102]]) :=
  .array _ _ _ (by
    intro c hc
    simp only [List.mem_cons, List.not_mem_nil, or_false] at hc
    rcases hc with rfl | rfl <;> decide)
example : exPortAF.pattern = (arrayPat [97, 102] [52] [[], [102]]).render := by decide +kernel
example : Ports.InScope exWalkTree exWalkAddr [102] [0, 0, 0, 0] :=
  { wf := by decide +kernel
    addr_nul := by unfold Match.NulFree exWalkAddr; decide
    addr_idx := Match.idxBounded_of_check (by decide)
    tags_nul := by unfold Match.NulFree; decide }
def exWalkData : Ports.RtData := { loc := some [], locSize := 64, locHigh := 0, obj := [], nmatches := 0, port := none }
-- the real lookup tables (every table of this tree has a `#` port and is searched linearly; hashed tables: C04's
-- examples — the theorem holds for both): three callbacks (`sub/`, `deep#2/`, `af#4::f`); the last one sees the full address in `loc`,
-- "af3" as its message, the object of its table and its own port pointer
example :
    (Ports.dispatchReal exWalkTree.render (Match.mkMsg exWalkAddr [102] [0, 0, 0, 0]) exWalkData true).map
      (fun r => r.1.map (fun c => (c.who, c.loc, c.obj))) =
    some [(.port [0], some [47, 115, 117, 98, 47], []),
          (.port [0, 0], some [47, 115, 117, 98, 47, 100, 101, 101, 112, 49, 47], [0]),
          (.port [0, 0, 1], some exWalkAddr, [0, 0])] := by decide +kernel

/-! ## every C integer type: `unsigned short`, `unsigned`, `long`, `unsigned long` fields

  `intCbW` (Param/Wide.lean) is the integer callback for a `var` / field of any C integer type;
  on the four types of `IntTy` it is `intCb` (`intCbW_eq_intCb`), so the theorems of this
  section contain the `…_int` theorems above.  In addition, for the wide types: the comparison of
  `rLIMIT` is made in `decltype(var+0)`, and messages carry the low 32 bits of a value. -/

/-- **stored_is_clamped**, every C integer type: hypotheses as in `stored_is_clamped_int`, and
    the declared bounds are values of the promoted type of `var` (for `unsigned` / `unsigned long`
    variables: not negative — see `limitIntW_clamps_counterexample`; always true for the types
    below `int` and for `int`, `long`). -/
theorem stored_is_clamped_int_wide (varTy storeTy : CTy) (tag : Int → Arg) (pm : Meta.Ptr) (loc : Bytes)
    (old raw new : Int) (a : Arg) (args : List Arg) (lo hi : Option Int) (ev : List Event)
    (harg : argI a = .ok raw) (hraw : varTy.InRange raw) (hsub : varTy.Sub storeTy)
    (hmn : bound atoi pm kMin = .ok lo) (hmx : bound atoi pm kMax = .ok hi)
    (hlo : ∀ l, lo = some l → varTy.prom.InRange l ∧ l ≤ varTy.max)
    (hhi : ∀ h, hi = some h → varTy.prom.InRange h ∧ varTy.min ≤ h)
    (hord : ∀ l h, lo = some l → hi = some h → l ≤ h)
    (hres : intCbW varTy storeTy tag pm loc old (a :: args) = .ok (new, ev)) :
    (∀ l, lo = some l → raw < l → new = l) ∧
    (∀ h, hi = some h → h < raw → new = h) ∧
    ((∀ l, lo = some l → l ≤ raw) → (∀ h, hi = some h → raw ≤ h) → new = raw) := by
  obtain ⟨hnew, _⟩ := intCbW_set_result varTy storeTy tag pm loc old raw new a args lo hi ev harg hsub hmn hmx hres
  rw [CTy.wrap_of_inRange _ _ hraw, limitIntW_eq_limit varTy lo hi raw hraw hlo hhi hord] at hnew
  rw [hnew]
  exact limit_int_clamps lo hi raw hord

/-- whatever the declared bounds are, the stored value is a value of the type of `var`; if the
    incoming value is an OSC integer it also is one (so messages carry it unchanged) -/
theorem stored_int_in_var_type_wide (varTy storeTy : CTy) (tag : Int → Arg) (pm : Meta.Ptr) (loc : Bytes)
    (old raw new : Int) (a : Arg) (args : List Arg) (ev : List Event)
    (harg : argI a = .ok raw) (hsub : varTy.Sub storeTy)
    (hres : intCbW varTy storeTy tag pm loc old (a :: args) = .ok (new, ev)) :
    varTy.InRange new := by
  simp only [intCbW, harg, bind, Except.bind] at hres
  split at hres
  · cases hres
  · rename_i lo hmn
    split at hres
    · cases hres
    · rename_i hi hmx
      simp only [pure, Except.pure, Except.ok.injEq, Prod.mk.injEq] at hres
      have hvr := limitIntW_inRange varTy lo hi _ (CTy.wrap_inRange varTy raw)
      rw [← hres.1, CTy.wrap_of_inRange _ _ (hsub.inRange hvr)]
      exact hvr

/-- **query**, every C integer type: the reply carries the low 32 bits of the stored value — the
    value itself when it is an OSC integer — and nothing changes -/
theorem query_replies_and_preserves_int_wide (varTy storeTy : CTy) (tag : Int → Arg) (pm : Meta.Ptr)
    (loc : Bytes) (old : Int) :
    intCbW varTy storeTy tag pm loc old [] = .ok (old, [reply loc [tag (w32 old)]]) ∧
    (IntTy.i32.InRange old → intCbW varTy storeTy tag pm loc old [] = .ok (old, [reply loc [tag old]])) := by
  refine ⟨rfl, fun h => by simp [intCbW, w32_of_inRange old h]⟩

/-- **change_is_broadcast**, every C integer type -/
theorem change_is_broadcast_int_wide (varTy storeTy : CTy) (tag : Int → Arg) (pm : Meta.Ptr) (loc : Bytes)
    (old raw new : Int) (a : Arg) (args : List Arg) (lo hi : Option Int) (ev : List Event)
    (harg : argI a = .ok raw) (hsub : varTy.Sub storeTy)
    (hmn : bound atoi pm kMin = .ok lo) (hmx : bound atoi pm kMax = .ok hi)
    (hres : intCbW varTy storeTy tag pm loc old (a :: args) = .ok (new, ev)) :
    ev.getLast? = some (broadcast loc [tag (w32 new)]) ∧
    (IntTy.i32.InRange new → ev.getLast? = some (broadcast loc [tag new])) := by
  obtain ⟨_, hev⟩ := intCbW_set_result varTy storeTy tag pm loc old raw new a args lo hi ev harg hsub hmn hmx hres
  refine ⟨by rw [hev]; simp, fun h => by rw [hev, w32_of_inRange new h]; simp⟩

/-- **undo_event_iff_changed**, every C integer type: exactly one event iff the stored value
    changed; it carries the low 32 bits of the previous and of the new value — the values
    themselves when they are OSC integers. -/
theorem undo_event_iff_changed_int_wide (varTy storeTy : CTy) (tag : Int → Arg) (pm : Meta.Ptr) (loc : Bytes)
    (old raw new : Int) (a : Arg) (args : List Arg) (lo hi : Option Int) (ev : List Event)
    (harg : argI a = .ok raw) (hsub : varTy.Sub storeTy)
    (hold : varTy.InRange old) (hloc : loc ≠ undoAddr)
    (hmn : bound atoi pm kMin = .ok lo) (hmx : bound atoi pm kMax = .ok hi)
    (hres : intCbW varTy storeTy tag pm loc old (a :: args) = .ok (new, ev)) :
    undoEvents ev = (if new ≠ old then [reply undoAddr [.s loc, tag (w32 old), tag (w32 new)]] else []) ∧
    (IntTy.i32.InRange old → IntTy.i32.InRange new →
      undoEvents ev = if new ≠ old then [reply undoAddr [.s loc, tag old, tag new]] else []) := by
  obtain ⟨_, hev⟩ := intCbW_set_result varTy storeTy tag pm loc old raw new a args lo hi ev harg hsub hmn hmx hres
  have h1 : undoEvents ev = (if new ≠ old then [reply undoAddr [.s loc, tag (w32 old), tag (w32 new)]] else []) := by
    rw [hev, CTy.wrap_of_inRange _ _ hold]
    exact undoEvents_set intOps old new loc _ _ _ hloc ((intOps_ne _ _).trans ne_comm)
  refine ⟨h1, fun ho hn => ?_⟩
  rw [h1, w32_of_inRange old ho, w32_of_inRange new hn]

/-! ### finding: a negative declared bound of an unsigned variable -/

/-- full statement (false, see the counterexample): `rLIMIT` clamps whenever the declared range
    meets the variable's type -/
def limitIntW_clamps_statement : Prop :=
  ∀ (ty : CTy) (lo hi : Option Int) (v : Int), ty.InRange v →
    (∀ l, lo = some l → IntTy.i32.InRange l ∧ l ≤ ty.max) → (∀ h, hi = some h → IntTy.i32.InRange h ∧ ty.min ≤ h) →
    (∀ l h, lo = some l → hi = some h → l ≤ h) →
    limitIntW ty lo hi v = limit intOps lo hi v

/-- the trigger: the declared bound is not a value of the type the comparison is made in -/
def boundOutsidePromoted (ty : CTy) (b : Int) : Bool := !decide (ty.prom.InRange b)

/-- `rParamI(u, rLinear(-1, 10))` on an `unsigned u`: incoming 5 is inside the declared range but
    `5 < (unsigned)-1`, so `var` becomes `UINT_MAX` and then the maximum: 10 is stored. -/
theorem limitIntW_clamps_counterexample : ¬ limitIntW_clamps_statement := by
  intro h
  have := h .u32 (some (-1)) (some 10) 5 (by decide)
    (by intro l hl; cases hl; decide) (by intro x hx; cases hx; decide) (by intro l x hl hx; cases hl; cases hx; decide)
  revert this
  decide

/-- **limitIntW_clamps_partial**: outside the trigger the repaired `rLIMIT` is the clamp -/
theorem limitIntW_clamps_partial (ty : CTy) (lo hi : Option Int) (v : Int) (hv : ty.InRange v)
    (hlo : ∀ l, lo = some l → boundOutsidePromoted ty l = false ∧ l ≤ ty.max)
    (hhi : ∀ h, hi = some h → boundOutsidePromoted ty h = false ∧ ty.min ≤ h)
    (hord : ∀ l h, lo = some l → hi = some h → l ≤ h) :
    limitIntW ty lo hi v = limit intOps lo hi v :=
  limitIntW_eq_limit ty lo hi v hv
    (fun l hl => ⟨by have := (hlo l hl).1; simpa [boundOutsidePromoted] using this, (hlo l hl).2⟩)
    (fun h hh => ⟨by have := (hhi h hh).1; simpa [boundOutsidePromoted] using this, (hhi h hh).2⟩) hord

/-- the trigger never fires for the types below `int`, for `int` and for `long` (bounds come from `atoi`) -/
theorem boundOutsidePromoted_signed (ty : CTy) (b : Int) (hb : IntTy.i32.InRange b)
    (hty : ty ≠ .u32 ∧ ty ≠ .u64) : boundOutsidePromoted ty b = false := by
  unfold IntTy.InRange at hb
  simp only [IntTy.min, IntTy.max] at hb
  obtain ⟨h1, h2⟩ := hty
  unfold boundOutsidePromoted
  rw [Bool.not_eq_eq_eq_not, Bool.not_false, decide_eq_true_eq]
  cases ty <;> first | exact absurd rfl h1 | exact absurd rfl h2 |
    (simp only [CTy.prom, CTy.InRange, CTy.min, CTy.max]; omega)

/-- metadata of `rParamI(u, rLinear(-1, 10), "d")` -/
def exBlockU : Bytes :=
  [58, 112, 97, 114, 97, 109, 101, 116, 101, 114, 0, 58, 109, 105, 110, 0, 61, 45, 49, 0, 58, 109, 97, 120, 0, 61, 49, 48, 0, 58, 115, 99, 97, 108, 101, 0, 61, 108, 105, 110, 101, 97, 114, 0, 58, 100, 111, 99, 117, 109, 101, 110, 116, 97, 116, 105, 111, 110, 0, 61, 100, 0, 0]
example : (bound atoi (exPm exBlockU) kMin).toOption = some (some (-1)) ∧
    (bound atoi (exPm exBlockU) kMax).toOption = some (some 10) := by decide +kernel
-- the callback on an `unsigned` field: 5 → 10 (what the compiled macro does)
example : (intCbW .u32 .u32 Arg.i (exPm exBlockU) exLoc 0 [.i 5]).toOption =
    some (10, [reply undoAddr [.s exLoc, .i 0, .i 10], broadcast exLoc [.i 10]]) := by decide +kernel
-- on a `long` field the same declaration clamps: 5 → 5, -7 → -1; a stored 5000000000 is reported as its low 32 bits
example : (intCbW .i64 .i64 Arg.i (exPm exBlockU) exLoc 0 [.i 5]).toOption =
    some (5, [reply undoAddr [.s exLoc, .i 0, .i 5], broadcast exLoc [.i 5]]) := by decide +kernel
example : (intCbW .i64 .i64 Arg.i (exPm exBlockU) exLoc 5000000000 [.i (-7)]).toOption =
    some (-1, [reply undoAddr [.s exLoc, .i 705032704, .i (-1)], broadcast exLoc [.i (-1)]]) := by decide +kernel
example : boundOutsidePromoted .u32 (-1) = true ∧ boundOutsidePromoted .i64 (-1) = false ∧
    boundOutsidePromoted .u16 (-1) = false ∧ CTy.u32.Sub .u32 ∧ CTy.u32.InRange 5 := by
  refine ⟨by decide, by decide, by decide, CTy.sub_refl _, by decide⟩

/-! ## enumerated sub-trees (rRecurs) and index digit runs that do not fit `int` -/

/-- **recurs_index_of_address** (`rRecursCb` / `rRecurspCb`: `data.obj = &obj->name[idx]` with the index
    extraction of `rBOILS_BEGIN`): for an enumerated sub-tree port `name#N/` the element whose object is
    handed down is the number written behind the name in the address, whatever follows the `/`.
    (Which C++ object that is, is observed on the compiled code only: harness/param.cpp `/voice<k>/`.) -/
theorem recurs_index_of_address (name rest ds tail : Bytes) (hname : ∀ c ∈ name, c ≠ 35)
    (hds : AllDigits ds) (hne : ds ≠ []) (hv : digitsVal ds ≤ 2147483647) :
    arrayIndex (name ++ 35 :: rest) (name ++ ds ++ 47 :: tail) = .ok (digitsVal ds) := by
  have hst : Stops (47 :: tail) := stops_cons tail (by decide)
  rw [List.append_assoc]
  simp only [arrayIndex, walkPrefix_name name rest (ds ++ 47 :: tail) hname, atoi_run ds (47 :: tail) hds hne hst, hv,
    if_true]
  have : ¬ ((digitsVal ds : Int) < 0) := Int.not_lt.mpr (Int.natCast_nonneg _)
  simp [this]

-- `voice#3/` and `voice2/vvol`: element 2
example : (arrayIndex [118, 111, 105, 99, 101, 35, 51, 47] [118, 111, 105, 99, 101, 50, 47, 118, 118, 111, 108]).toOption =
    some 2 := by decide +kernel

/-- **matchPath_index_overflow**: an index digit run in the address whose value does not fit `int`
    (`atoi` undefined) makes the `#N` step of the matcher undefined in the model - it neither matches nor
    rejects, and nothing is defaulted.  The compiled `rtosc_match_number` wraps such a run modulo 2^32
    (`ASSUMPTIONS` of tools/props/c14.py: index digit runs below 2^31). -/
theorem matchPath_index_overflow (fuel : Nat) (p ds : Bytes) (pc mc : UInt8)
    (hp : isDigit pc = true) (hm : isDigit mc = true) (hov : atoi (mc :: ds) = none) :
    matchPath (fuel + 1) (35 :: pc :: p) (mc :: ds) = .error .unsup := by
  simp only [matchPath, hp, hm, hov, Bool.and_self, if_true]
  cases atoi (pc :: p) <;> rfl

/-- **array_index_overflow_unsup**: an address whose index does not fit `int`, on the model: `af4294967299`
    sent to `af#4::f` is reported as outside the model; the compiled code delivers it to element 3. -/
theorem array_index_overflow_unsup :
    dispatch exPortAF [47] [97, 102, 52, 50, 57, 52, 57, 54, 55, 50, 57, 57] (.flts [0, 0, 0, 0]) [.f 0] =
      .error .unsup := by
  rfl

end Rtosc.Param
