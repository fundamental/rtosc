/-
  C11 — The scanner accepts the documented text syntax and canonicalises it.
  The property theorems, with the few lemmas only they need; the others live in Proofs/Scan*.lean.

  Reading of the statement.  The code under test is `rtosc_count_printed_arg_vals` (model
  `C11.countPrintedArgVals`), `rtosc_scan_arg_vals` (`C11.scanArgVals`) — C10's model, which
  has the repairs fixes/C11-01 … C11-06 and C11-08, with fix C11-07 and the `int` overflow in
  `delta_from_arg_vals` (`Pretty/C11Model.lean`) — and
  `rtosc_print_arg_vals` with the default options (C10's `printArgVals defaultOpt`).
  The sentences of the grammar of doc/Guide.adoc, "Pretty-printing Messages", are the values of
  `Sentence` (`Pretty/C11Spec.lean`): lists of (value, spelling) choices; `render s L` is the text
  of `s` under the layout `L` (white space, line breaks, '%' comments in front of / between /
  behind the values, blanks inside the values), `cells s` the argument values it denotes in the
  memory layout of `rtosc_arg_val_t[]`.

  The four clauses (DESIGN.md §5 C11), each as the FULL statement `…_statement : Prop` over all
  sentences, and the part that is proved, `…_partial`:
    checker_scanner_agree            count = number of cells written, whole text consumed
    scan_denotes                     scanned values = denotation
    whitespace_comment_invariance    two layouts of one sentence scan to equal values
    print_scan_fixpoint              scan (print (scan s)) = scan s
  Proved (`Proved`; for the fixpoint `Plain`: scalars only): sentences of any length whose values are
  scalars in the spellings of `Tok.proved`, arrays `[ … ]` (nested to any depth, without open end) of
  such values of one type, and repetitions `nxA` of a scalar or an array.  The scalar spellings: 'i' integers in decimal (with and
  without the suffix `i`) and in hexadecimal (`0x2a`, `-0x2a`, `0x2A`, two's complement `0xffffffd6`),
  decimal 'h' integers, characters raw or escaped, strings and quoted symbols with every escape sequence and any
  concatenation `"…"\ "…"`, identifiers, true/false/nil/inf/now/immediately, colours, MIDI, blobs —
  under EVERY layout: any white space, line breaks and comment lines in front of, between and
  behind the values, any white space between the parts of a string and between the bytes of a
  blob.  No bound on the number of values, parts, gaps or characters; induction over the token list.
  Also proved (`Ranged`, `…_ranges_partial`): ranges `b ... c` of decimal 'i' integers anywhere in such a
  sentence — at top level and inside arrays nested to any depth —, standing first (in the sentence, in
  their array) or behind a scalar value, `nx<scalar>`, another such range, an array or `nx[array]`:
  `a b ... c` with the step `b - a`, the step ±1 behind values of other types and behind arrays.
  What the hypotheses `Plain`, `Proved`, `Ranged` and the cells in the conclusions rest on — `Tok.proved`, `plainFrom`,
  `provedFrom`, `valCells`, `pCells`, `RangeOK`, `rangeFirst`, `rangeCells`; `rangedFromA`, `rcellsE` — is defined
  beside the specification, in `Pretty/C11ProvedSpec.lean` and `Pretty/C11RangedSpec.lean`.
  Not proved, covered by the correspondence check and the oracle only: octal spellings, hex with
  a suffix or for 'h',
  floats and doubles in every notation, upper-case colours, other blanks inside MIDI,
  `b ... c` ranges of c / h / f / d or in other spellings (hex, suffix `i`), arrays with an open end; and
  `print_scan_fixpoint` for arrays and for values the printer compresses (`nxA`, five equal-typed
  values in a row).
  Known finding C11-K1 (`scan_denotes_counterexample`, `checker_scanner_agree_counterexample`): an
  unsuffixed octal literal is read as decimal; trigger `hasOctalPlain`.
  Finding C11-K2 (a numeric literal directly followed by '%' is rejected) is repaired by fixes/C11-08:
  the numeric word ends at the comment sign (`num_comment_reads`, `exTightNum`).
-/
import RtoscModel.Proofs.ScanPrint
import RtoscModel.Proofs.ScanRangeArrSpec
namespace Rtosc.Pretty.C11
open Rtosc Rtosc.Libc Rtosc.Pretty
open Rtosc.ArgVal (Cell Item flatList expandList)

deriving instance DecidableEq for Except

/-- what C11 observes on a text (`observe_at`): `rtosc_count_printed_arg_vals` returns the number
    of cells, and `rtosc_scan_arg_vals`, asked for that many, writes exactly the cells `cs` and
    consumes the whole text -/
structure Reads (text : Bytes) (cs : List Cell) : Prop where
  count : C11.countPrintedArgVals text = .ok (cs.length : Int)
  scan : C11.scanArgVals text cs.length = .ok (text.length, cs)

/-- "equal values": the same cells, or cells that denote the same expanded value list -/
def SameValues (a b : List Cell) : Prop :=
  a = b ∨ ∃ ia ib : List Item, flatList ia = a ∧ flatList ib = b ∧
    (expandList ia).isSome = true ∧ expandList ia = expandList ib

/-- **checker_scanner_agree**, full statement: for every sentence and layout the checker accepts
    the text with exactly the number of cells the scanner then writes, and the scanner consumes
    the whole text.  NOT proved in full (and false on the unrepaired part of the code: C11-K1 makes
    the checker reject `-071 -58 ... -076`, `checker_scanner_agree_counterexample`); see
    `checker_scanner_agree_partial`. -/
def checker_scanner_agree_statement : Prop :=
  ∀ (s : Sentence) (L : Layout), s.wf = true → (cells s).isSome = true →
    ∃ (n : Nat) (cs : List Cell),
      C11.countPrintedArgVals (render s L) = .ok (n : Int) ∧
      C11.scanArgVals (render s L) n = .ok ((render s L).length, cs) ∧ cs.length = n

/-- **scan_denotes**, full statement: the scanner yields the values the spelling denotes.
    FALSE for the code as it is (`scan_denotes_counterexample`, known finding C11-K1). -/
def scan_denotes_statement : Prop :=
  ∀ (s : Sentence) (L : Layout) (cs : List Cell), s.wf = true → cells s = some cs → Reads (render s L) cs

/-- the same with the trigger of the known finding C11-K1 (unsuffixed octal literal) excluded: what
    the correspondence check and the oracle test on every generated sentence — also under layouts
    that put a comment directly behind a numeric literal (`42%c`: finding C11-K2,
    fix C11-08).  Proved for `Proved` sentences under layouts in which no comment
    follows a value directly (`scan_denotes_partial`). -/
def scan_denotes_modulo_known_statement : Prop :=
  ∀ (s : Sentence) (L : Layout) (cs : List Cell), s.wf = true → hasOctalPlain s = false →
    cells s = some cs → Reads (render s L) cs

/-- **whitespace_comment_invariance**, full statement: two texts that differ only in the layout
    scan to equal values (whenever both are accepted). -/
def whitespace_comment_invariance_statement : Prop :=
  ∀ (s : Sentence) (L₁ L₂ : Layout) (cs₁ cs₂ : List Cell), s.wf = true →
    Reads (render s L₁) cs₁ → Reads (render s L₂) cs₂ → cs₁ = cs₂

/-- **print_scan_fixpoint**, full statement: printing the scanned values with the default options
    and scanning again gives equal values (ranges compared by their expansion). -/
def print_scan_fixpoint_statement : Prop :=
  ∀ (s : Sentence) (L : Layout) (cs : List Cell), s.wf = true → Reads (render s L) cs →
    ∃ (st : PSt) (ret : Nat) (cs' : List Cell),
      C11.printArgVals defaultOpt cs ⟨[], 0⟩ = .ok (st, ret) ∧ Reads st.out cs' ∧ SameValues cs' cs

/-- the sentences for which the first three clauses are proved: every value is (`SVal.proved`) a
    scalar in one of the spellings of `Tok.proved` (under the blanks the layout `L` puts inside it),
    an array without open end whose elements are such values of one type (any white space between
    them, nested to any depth), or `nxA` with a scalar or array `A` and `1 ≤ n ≤ 2³¹-1` -/
def Proved (s : Sentence) (L : Layout) : Prop := L.spaced ∧ provedFrom L 0 s

/-- the same without `nxA`: the sentences for which `print_scan_fixpoint` is proved -/
def Plain (s : Sentence) (L : Layout) : Prop := L.spaced ∧ plainFrom L 0 s

theorem Plain.proved {s : Sentence} {L : Layout} (h : Plain s L) : Proved s L := ⟨h.1, (plain_proved L s 0 h.2).1⟩

theorem gapsBytes_append (a b : List Gap) : gapsBytes (a ++ b) = gapsBytes a ++ gapsBytes b := by
  simp [gapsBytes]

/-- the widest class, of which `Proved` is the part without ranges (`Proved.ranged`; what is proved of `Proved`
    below is proved of `Ranged` first).
    The sentences for which the first three clauses are proved in addition to `Proved`: every value
    has proved agreement in the wider sense (`SVal.rproved`: scalars in proved spellings, `nxA`, and
    arrays without open end whose ELEMENTS are again such values or ranges) or is a range
    `b ... c` of two 'i' integers in plain decimal spelling with at least one white-space character in
    front of the dots, that stands first in the sentence (in its array) or behind a scalar value, a
    repetition `nx<scalar>`, another such range, an array or a repeated array `nx[…]`
    (`rangedFromA` / `rangedElemsG`), and satisfies `RangeOK`: the step — `b - a`
    if the value `a` to the left is an 'i' integer different from `b` (for a range to the left: its
    right end), else ±1 (also behind an array: its last element is not the left neighbour, fix
    C11-04) — is an `int32_t` that reaches `c` from `b` in 1 … 2³¹-2 steps, and the width
    `c - b` is an `int32_t` -/
def Ranged (s : Sentence) (L : Layout) : Prop := L.spaced ∧ rangedFromA L 0 (some none) s

/-- every `Proved` sentence is `Ranged` -/
theorem Proved.ranged {s : Sentence} {L : Layout} (h : Proved s L) : Ranged s L :=
  ⟨h.1, rangedFromA_of_proved L s 0 _ h.2⟩

/-- a `Ranged` sentence is read as its cells, under every layout in which no comment follows a
    value directly -/
theorem reads_ranged (s : Sentence) (L : Layout) (h : Ranged s L) : Reads (render s L) (rcellsE (some none) s) := by
  by_cases hs : s = []
  · subst hs
    -- only gaps, possibly an unterminated comment
    have hform : ∃ (g : List Gap) (tail : Bytes), render [] L = gapsBytes g ++ tail ∧
        (tail = [] ∨ ∃ b, tail = 37 :: commentBody b) := by
      cases hl : L.last with
      | none => exact ⟨L.lead ++ L.trail, [], by simp [render, valuesText, trailBytes, hl, gapsBytes_append], Or.inl rfl⟩
      | some b =>
        exact ⟨L.lead ++ L.trail, 37 :: commentBody b,
          by simp [render, valuesText, trailBytes, hl, gapsBytes_append], Or.inr ⟨b, rfl⟩⟩
    obtain ⟨g, tail, hr, ht⟩ := hform
    rw [hr]
    exact ⟨by simpa [rcellsE] using countPrintedArgVals_empty g tail ht,
      by simpa [rcellsE] using scanArgVals_empty g tail ht⟩
  · have hlay := layR_rangedA L h.1.1 (trailBytes L.trail L.last) (tail_trail L.trail L.last h.1.2) s 0 .first (some none) hs
      ⟨by simp, rfl⟩ h.2
    have hcells := allCells_rArgsA L s 0 (some none)
    have hr : render s L = gapsBytes L.lead ++ (valuesText L 0 s ++ trailBytes L.trail L.last) := by
      simp [render]
    rw [hr]
    refine ⟨?_, ?_⟩
    · have := countPrintedArgVals_layR L.lead hlay
      rwa [hcells] at this
    · have := scanArgVals_layR L.lead hlay
      rwa [hcells] at this

/-- **checker_scanner_agree** (ranges with a left neighbour, proved part): for every `Ranged`
    sentence of any length — `a b ... c` with the step taken from `a` and `b`, ranges behind
    ranges, behind values of other types, behind `nx<scalar>`, behind arrays and `nx[array]`, at top
    level and inside arrays of any nesting depth, anywhere among values with proved
    agreement — the checker counts exactly the cells the scanner writes and the scanner consumes the
    whole text. -/
theorem checker_scanner_agree_ranges_partial (s : Sentence) (L : Layout) (h : Ranged s L) :
    ∃ (n : Nat) (cs : List Cell),
      C11.countPrintedArgVals (render s L) = .ok (n : Int) ∧
      C11.scanArgVals (render s L) n = .ok ((render s L).length, cs) ∧ cs.length = n :=
  ⟨_, _, (reads_ranged s L h).count, (reads_ranged s L h).scan, rfl⟩

/-- **scan_denotes** (ranges with a left neighbour, proved part): the scanned values of a `Ranged`
    sentence are the values its spelling denotes: for `a b ... c` the range header with the count
    `(c - b) / (b - a) + 1`, the step `b - a` and the start `b`. -/
theorem scan_denotes_ranges_partial (s : Sentence) (L : Layout) (cs : List Cell) (h : Ranged s L)
    (hc : cells s = some cs) : Reads (render s L) cs := by
  rw [cells_rangedA L s h.2] at hc
  cases hc
  exact reads_ranged s L h

/-- **whitespace_comment_invariance** (ranges with a left neighbour, proved part): two layouts of
    one `Ranged` sentence are both accepted and scan to the same values. -/
theorem whitespace_comment_invariance_ranges_partial (s : Sentence) (L₁ L₂ : Layout)
    (h₁ : Ranged s L₁) (h₂ : Ranged s L₂) :
    ∃ cs, Reads (render s L₁) cs ∧ Reads (render s L₂) cs :=
  ⟨_, reads_ranged s L₁ h₁, reads_ranged s L₂ h₂⟩

/-- a sentence of proved values is read as its cells, under every layout -/
theorem reads_proved (s : Sentence) (L : Layout) (h : Proved s L) : Reads (render s L) (pCells s) := by
  have := reads_ranged s L h.ranged
  rwa [rcellsE_of_proved _ s (provedFrom.all L s 0 h.2)] at this

theorem reads_plain (s : Sentence) (L : Layout) (h : Plain s L) : Reads (render s L) (valCells s) := by
  have := reads_proved s L h.proved
  rwa [(plain_proved L s 0 h.2).2] at this

/-- **checker_scanner_agree** (proved part): for every `Proved` sentence of any length and every
    layout, the checker counts exactly the cells the scanner writes and the scanner consumes the
    whole text. -/
theorem checker_scanner_agree_partial (s : Sentence) (L : Layout) (h : Proved s L) :
    ∃ (n : Nat) (cs : List Cell),
      C11.countPrintedArgVals (render s L) = .ok (n : Int) ∧
      C11.scanArgVals (render s L) n = .ok ((render s L).length, cs) ∧ cs.length = n :=
  checker_scanner_agree_ranges_partial s L h.ranged

/-- **scan_denotes** (proved part): the scanned values of a `Proved` sentence are the values its
    spelling denotes. -/
theorem scan_denotes_partial (s : Sentence) (L : Layout) (cs : List Cell) (h : Proved s L)
    (hc : cells s = some cs) : Reads (render s L) cs :=
  scan_denotes_ranges_partial s L cs h.ranged hc

/-- **whitespace_comment_invariance** (proved part): two layouts of one `Proved` sentence are both
    accepted and scan to the same values. -/
theorem whitespace_comment_invariance_partial (s : Sentence) (L₁ L₂ : Layout)
    (h₁ : Proved s L₁) (h₂ : Proved s L₂) :
    ∃ cs, Reads (render s L₁) cs ∧ Reads (render s L₂) cs :=
  whitespace_comment_invariance_ranges_partial s L₁ L₂ h₁.ranged h₂.ranged

theorem reads_unique {text : Bytes} {a b : List Cell} (ha : Reads text a) (hb : Reads text b) : a = b := by
  have h1 := ha.count
  rw [hb.count] at h1
  have hl : b.length = a.length := by
    have := Except.ok.inj h1
    omega
  have h2 := ha.scan
  rw [← hl, hb.scan] at h2
  exact (Prod.mk.inj (Except.ok.inj h2)).2.symm

/-- the same in the form of `whitespace_comment_invariance_statement`: any two readings are equal -/
theorem whitespace_comment_invariance_partial' (s : Sentence) (L₁ L₂ : Layout) (cs₁ cs₂ : List Cell)
    (h₁ : Proved s L₁) (h₂ : Proved s L₂) (r₁ : Reads (render s L₁) cs₁) (r₂ : Reads (render s L₂) cs₂) :
    cs₁ = cs₂ := by
  rw [reads_unique r₁ (reads_proved s L₁ h₁), reads_unique r₂ (reads_proved s L₂ h₂)]

theorem plain_cells (L : Layout) : ∀ (s : Sentence) (i : Nat), plainFrom L i s →
    ∀ c ∈ valCells s, c.isScalar = true ∧ PrintsVal defaultOpt c := by
  intro s
  induction s with
  | nil => intro i _ c hc; simp [valCells] at hc
  | cons x r ih =>
    intro i h c hc
    obtain ⟨⟨t, rfl, hwf, hp⟩, hr⟩ := h
    simp only [valCells, List.mem_cons] at hc
    rcases hc with rfl | hc
    · exact ⟨(valOK_tok _ t hwf hp).scalar, printsVal_tok defaultOpt _ t hwf hp⟩
    · exact ih (i + 1) hr c hc

/-- **print_scan_fixpoint** (proved part): for a `Plain` sentence whose values the printer does
    not compress into ranges (no five values of one type in a row), printing the scanned values
    with the default options gives a text that is accepted and scans to exactly the same values:
    `scan (print (scan s)) = scan s`. -/
theorem print_scan_fixpoint_partial (s : Sentence) (L : Layout) (cs : List Cell) (h : Plain s L)
    (hr : Reads (render s L) cs) (hrun : NoLongRun cs) :
    ∃ (st : PSt) (ret : Nat),
      C11.printArgVals defaultOpt cs ⟨[], 0⟩ = .ok (st, ret) ∧ ret = st.out.length ∧ Reads st.out cs := by
  have hcs : cs = valCells s := reads_unique hr (reads_plain s L h)
  subst hcs
  have hP := plain_cells L s 0 h.2
  obtain ⟨st, ret, hprint, hret, hlay⟩ := printArgVals_lay defaultOpt (valCells s) hP
    (noConversion defaultOpt (valCells s) (fun c hc => (hP c hc).1) (Or.inr hrun))
  refine ⟨st, ret, ?_, hret, ?_⟩
  · simp [C11.printArgVals, hprint]
  · rcases hlay with ⟨h1, h2⟩ | ⟨tcs, hl, hc⟩
    · rw [h1, h2]
      exact ⟨by simpa [gapsBytes] using countPrintedArgVals_empty [] [] (Or.inl rfl),
        by simpa [gapsBytes] using scanArgVals_empty [] [] (Or.inl rfl)⟩
    · rw [← hc]
      exact ⟨by simpa [gapsBytes] using countPrintedArgVals_lay [] hl,
        by simpa [gapsBytes] using scanArgVals_lay [] hl⟩

/-! ### a leading integer range (the case of `Ranged` with the range in front) -/

/-- a sentence that starts with a range `b ... c` of two different 'i' integers in decimal spelling
    (nothing stands to its left: the step is `sgn(c - b)`), with at least one white-space character
    in front of the dots, followed by any `Proved` values, is read as the range header, the step,
    the start and the cells of the other values — under every layout in which no comment follows
    a value directly -/
theorem reads_range_first (x z : Int) (hx1 : -2147483648 ≤ x) (hx2 : x ≤ 2147483647)
    (hz1 : -2147483648 ≤ z) (hz2 : z ≤ 2147483647) (hxz : x ≠ z) (hwid : (z - x).natAbs ≤ 2147483646)
    (s' : Sentence) (L : Layout) (hL : L.spaced) (hb : L.blank [0, 1] ≠ []) (hp : provedFrom L 1 s') :
    Reads (render (rangeFirst x z s') L) (rangeCells x z ++ pCells s') := by
  obtain ⟨hr, hc⟩ := rangeOK_first hx1 hx2 hz1 hz2 hxz hwid
  have := reads_ranged (rangeFirst x z s') L
    ⟨hL, (rangedElemsG_cons _ _ _ _ _ _).2 ⟨⟨⟨none, rfl, hr⟩, hb⟩, rangedFromA_of_proved L s' 1 _ hp⟩⟩
  rwa [rangeFirst, rcellsE_cons, rcellsE_of_proved _ s' (provedFrom.all L s' 1 hp),
    show argCells (some none) (.range (.int x .dec false) (.int z .dec false)) = rangeCells x z from hc] at this

/-- **checker_scanner_agree / scan_denotes for a leading integer range** (partial): the sentence
    `b ... c v₁ v₂ …` (b ≠ c decimal 'i' integers with `|c - b| + 1 < 2³¹` values, `vᵢ` `Proved`)
    denotes `|c - b| + 1` values from `b` in steps of ±1, and the checker counts and the scanner writes
    exactly the cells of that denotation, consuming the whole text.  (Ranges with a left neighbour:
    `checker_scanner_agree_ranges_partial` above, also behind and inside arrays; ranges of other types
    or spellings and open-ended arrays are NOT proved: correspondence and oracle only.) -/
theorem range_first_partial (x z : Int) (hx1 : -2147483648 ≤ x) (hx2 : x ≤ 2147483647)
    (hz1 : -2147483648 ≤ z) (hz2 : z ≤ 2147483647) (hxz : x ≠ z) (hwid : (z - x).natAbs ≤ 2147483646)
    (s' : Sentence) (L : Layout) (hL : L.spaced) (hb : L.blank [0, 1] ≠ []) (hp : provedFrom L 1 s') :
    ∃ cs, cells (rangeFirst x z s') = some cs ∧ Reads (render (rangeFirst x z s') L) cs ∧
      cs.take 3 = [Cell.rep (((z - x).natAbs : Int) + 1) 1, Cell.int .i (if x < z then 1 else -1), Cell.int .i x] :=
  ⟨_, cells_range_first x z hxz hwid s' L hp, reads_range_first x z hx1 hx2 hz1 hz2 hxz hwid s' L hL hb hp,
    by simp [rangeCells]⟩

theorem tok_no_trigger (bl : List Nat → Blank) (t : Tok) (hp : t.proved bl = true) : t.octalPlain = false := by
  cases t with
  | int v base sfx => cases base <;> cases sfx <;> first | rfl | (simp [Tok.proved] at hp)
  | _ => rfl

mutual
theorem proved_noK1 : ∀ (bl : List Nat → Blank) (x : SVal), x.proved bl → x.hasOctalPlain = false
  | bl, .val t, h => by
    rw [proved_unfold_val] at h
    simpa [SVal.hasOctalPlain] using tok_no_trigger _ t h.2
  | bl, .rep n x, h => by
    rw [proved_unfold_rep] at h
    simpa [SVal.hasOctalPlain] using proved_noK1 _ x h.2.2.2
  | bl, .range _ _, h => by simp [SVal.proved] at h
  | bl, .arr es opn, h => by
    simp only [SVal.proved] at h
    simpa [SVal.hasOctalPlain] using provedElems_noK1 bl 1 es h.2.2
theorem provedElems_noK1 : ∀ (bl : List Nat → Blank) (k : Nat) (es : List SVal), provedElems bl k es →
    hasOctalPlainList es = false
  | bl, k, [], _ => rfl
  | bl, k, x :: r, h => by
    simp only [provedElems] at h
    simp [hasOctalPlainList, proved_noK1 _ x h.1, provedElems_noK1 bl (k + 1) r h.2]
end

theorem proved_no_trigger (L : Layout) : ∀ (s : Sentence) (i : Nat), provedFrom L i s → hasOctalPlainList s = false := by
  intro s
  induction s with
  | nil => intro i _; rfl
  | cons x r ih =>
    intro i h
    obtain ⟨hx, hr⟩ := h
    simp [hasOctalPlainList, proved_noK1 _ x hx, ih (i + 1) hr]

/-- the proved part lies inside the statement with the trigger excluded -/
theorem proved_not_K1 (s : Sentence) (L : Layout) (h : Proved s L) : hasOctalPlain s = false :=
  proved_no_trigger L s 0 h.2

/-- a layout without any insertion -/
def L0 : Layout := { lead := [], sep := fun _ => [], trail := [], last := none, blank := fun _ => [] }

/-- `077` is a sentence that denotes the 'i' value 63 (C99 octal, like `077i` and `077h`) … -/
theorem k1_witness : Sentence.wf [SVal.val (.int 63 .oct false)] = true ∧
    cells [SVal.val (.int 63 .oct false)] = some [Cell.int .i 63] ∧
    render [SVal.val (.int 63 .oct false)] L0 = [48, 55, 55] ∧
    hasOctalPlain [SVal.val (.int 63 .oct false)] = true := by
  decide +kernel

/-- … and the scanner reads it as 77 -/
theorem k1_scan : C11.scanArgVals [48, 55, 55] 1 = .ok (3, [Cell.int .i 77]) := by decide +kernel

/-- **scan_denotes_counterexample** (known finding C11-K1): the full statement does not hold for
    the code as it is. -/
theorem scan_denotes_counterexample : ¬ scan_denotes_statement := by
  intro h
  obtain ⟨hwf, hc, hr, _⟩ := k1_witness
  have := (h _ L0 _ hwf hc).scan
  rw [hr] at this
  have e := k1_scan
  simp only [List.length_cons, List.length_nil] at this
  rw [e] at this
  exact absurd this (by decide)

/-- `-071 -58 ... -076`: the manual reads -57, then -58 … -62 in steps of -58 - -57 = -1 -/
def exK1Range : Sentence :=
  [.val (.int (-57) .oct false), .range (.int (-58) .dec false) (.int (-62) .oct false)]

/-- **checker_scanner_agree_counterexample** (known finding C11-K1): the full statement does not
    hold for the code as it is: with `-071` read as -71 the step is 13, -076 = -76 is not reached
    from -58 and the checker rejects the text as a whole. -/
theorem checker_scanner_agree_counterexample : ¬ checker_scanner_agree_statement := by
  intro h
  have hcount : C11.countPrintedArgVals (render exK1Range L0) = .ok (-2) := by decide +kernel
  obtain ⟨n, cs, h1, _, _⟩ := h exK1Range L0 (by decide +kernel) (by decide +kernel)
  rw [hcount] at h1
  have := Except.ok.inj h1
  omega

/-- the layout of `42%c` (`2`: of the finding C11-K2): a comment without line break directly behind the last value -/
def L2 : Layout := { L0 with last := some [99] }

/-- `42%c` is a sentence under a layout that puts a comment directly behind the value … -/
theorem num_comment_witness : Sentence.wf [SVal.val (.int 42 .dec false)] = true ∧
    cells [SVal.val (.int 42 .dec false)] = some [Cell.int .i 42] ∧
    render [SVal.val (.int 42 .dec false)] L2 = [52, 50, 37, 99] ∧
    hasNumPercent [SVal.val (.int 42 .dec false)] L2 = true ∧
    hasOctalPlain [SVal.val (.int 42 .dec false)] = false := by
  decide +kernel

/-- … and it is read as the value 42 (fix C11-08: `scanf_fmtstr` ends the numeric word
    at '%'), like `true%c` is read as `true` -/
theorem num_comment_reads : Reads [52, 50, 37, 99] [Cell.int .i 42] ∧
    Reads [116, 114, 117, 101, 37, 99] [Cell.flag .T] :=
  ⟨⟨by decide +kernel, by decide +kernel⟩, ⟨by decide +kernel, by decide +kernel⟩⟩

/-- a messy layout: comments and line breaks in front, between and behind the values.  A path of `blank`
    starts with the number of the value in the sentence (`valuesText`); the rest is the place inside the value as
    `SVal.text` / `Tok.text` (Pretty/C11Spec.lean) number it: here `[4, 0]` and `[8, 0]` are the blanks behind the
    words `MIDI` and `BLOB` of the values 4 and 8 of `exSentence`, `[8, k]` with `3 ≤ k` the blanks in front of the
    bytes of the blob -/
def exLayout : Layout :=
  { lead := [.ws .nl, .comment (lit "1 2 ... ["), .ws .tab]
    sep := fun i => if i % 2 = 0 then [.ws .sp, .comment (lit "\"quoted\" 'c'"), .comment [], .ws .cr]
                    else [.ws .tab, .comment (lit "3x5")]
    trail := [.ws .vt]
    last := some (lit "the end")
    blank := fun p => if p = [4, 0] ∨ p = [8, 0] then [.sp] else if p.getD 0 0 = 8 ∧ 3 ≤ p.getD 1 0 then [.nl, .tab] else [] }

/-- no insertion at all (the blank behind `MIDI` / `BLOB` is part of the proved spelling) -/
def exLayout0 : Layout :=
  { L0 with blank := fun p => if p = [4, 0] ∨ p = [8, 0] then [.sp] else [] }

theorem exLayout_spaced : exLayout.spaced := by
  refine ⟨fun i => ?_, Or.inr rfl⟩
  by_cases h : i % 2 = 0 <;> simp [exLayout, h, startsWs]

theorem exLayout0_spaced : exLayout0.spaced := ⟨fun _ => Or.inl rfl, Or.inl ⟨rfl, rfl⟩⟩

/-- one value of every proved construct -/
def exSentence : Sentence :=
  [.val (.int (-42) .dec false), .val (.huge 5000000000 .dec), .val (.chr 10 true), .val (.chr 65 false),
   .val (.midi 1 2 254 255 true), .val (.str false [[.raw 104, .raw 105, .esc 10], [], [.esc 34]]), .val (.str true [[]]),
   .val (.ident (lit "An_Identifier_12345")), .val (.blob [114, 116]), .val (.kw .now), .val (.int 123 .dec true),
   .val (.color 0x8badf00d false)]

theorem exPlain : Plain exSentence exLayout := by
  refine ⟨exLayout_spaced, ?_⟩
  unfold exSentence
  simp only [plainFrom, and_true]
  refine ⟨⟨_, rfl, ?_, ?_⟩, ⟨_, rfl, ?_, ?_⟩, ⟨_, rfl, ?_, ?_⟩, ⟨_, rfl, ?_, ?_⟩, ⟨_, rfl, ?_, ?_⟩, ⟨_, rfl, ?_, ?_⟩,
    ⟨_, rfl, ?_, ?_⟩, ⟨_, rfl, ?_, ?_⟩, ⟨_, rfl, ?_, ?_⟩, ⟨_, rfl, ?_, ?_⟩, ⟨_, rfl, ?_, ?_⟩, ⟨_, rfl, ?_, ?_⟩⟩ <;>
    decide +kernel

/-- the example with repetitions and arrays in front: `3x["bad" "luck"] [[1 1000x-7i] []] 2147483647x0xffffffd6 …` -/
def exSentenceRep : Sentence :=
  .rep 3 (.arr [.val (.str false [[.raw 98, .raw 97, .raw 100]]), .val (.str false [[.raw 108, .raw 117, .raw 99, .raw 107]])] false) ::
  .arr [.arr [.val (.int 1 .dec false), .rep 1000 (.val (.int (-7) .dec true))] false, .arr [] false] false ::
  .rep 2147483647 (.val (.int (-42) .hex2c false)) :: exSentence.drop 5

def exLayoutRep : Layout := { L0 with blank := fun p => if p = [6, 0] then [.sp] else [] }

theorem exProved : Proved exSentenceRep exLayoutRep := by
  refine ⟨⟨fun _ => Or.inl rfl, Or.inl ⟨rfl, rfl⟩⟩, ?_⟩
  unfold exSentenceRep exSentence
  simp only [List.drop_succ_cons, List.drop_zero, provedFrom, SVal.proved, provedElems, SVal.repeatable, and_true,
    true_and]
  refine ⟨⟨by decide, by decide, by decide +kernel, ⟨by decide +kernel, by decide +kernel⟩, by decide +kernel,
      by decide +kernel⟩,
    ⟨by decide +kernel, ⟨by decide +kernel, ⟨by decide +kernel, by decide +kernel⟩, by decide, by decide,
      by decide +kernel, by decide +kernel⟩, by decide +kernel⟩,
    ⟨by decide, by decide, by decide +kernel, by decide +kernel⟩,
    ⟨by decide +kernel, by decide +kernel⟩, ⟨by decide +kernel, by decide +kernel⟩, ⟨by decide +kernel, by decide +kernel⟩,
    ⟨by decide +kernel, by decide +kernel⟩, ⟨by decide +kernel, by decide +kernel⟩, ⟨by decide +kernel, by decide +kernel⟩,
    ⟨by decide +kernel, by decide +kernel⟩⟩

/-- Texts are shown as string literals.  A literal unfolds to `String.ofList` of its characters, so that the
    comparison is one of two lists of characters and not of two UTF-8 encodings. -/
theorem ofList_eq_of_toList {l : List Char} {s : String} (h : l = s.toList) : String.ofList l = s := by
  rw [h, String.ofList_toList]

example : String.ofList ((render exSentenceRep exLayoutRep).map (fun b => Char.ofNat b.toNat)) =
    "3x[\"bad\" \"luck\"] [[1 1000x-7i] []] 2147483647x0xffffffd6 \"hi\\n\"\\\"\"\\\"\\\"\" \"\"S An_Identifier_12345 BLOB [2 0x72 0x74] now 123i #8badf00d" := by
  apply ofList_eq_of_toList
  rw [String.toList_ofList]
  decide +kernel

/-- the hypotheses of all `_partial` theorems hold for a non-trivial sentence -/
example : Plain exSentence exLayout ∧ Plain exSentence exLayout0 ∧ NoLongRun (valCells exSentence) ∧
    cells exSentence = some (valCells exSentence) ∧ (valCells exSentence).length = 12 := by
  refine ⟨exPlain, ?_, ?_, cells_plain _ _ exPlain.2, by decide +kernel⟩
  · refine ⟨exLayout0_spaced, ?_⟩
    unfold exSentence
    simp only [plainFrom, and_true]
    refine ⟨⟨_, rfl, ?_, ?_⟩, ⟨_, rfl, ?_, ?_⟩, ⟨_, rfl, ?_, ?_⟩, ⟨_, rfl, ?_, ?_⟩, ⟨_, rfl, ?_, ?_⟩, ⟨_, rfl, ?_, ?_⟩,
      ⟨_, rfl, ?_, ?_⟩, ⟨_, rfl, ?_, ?_⟩, ⟨_, rfl, ?_, ?_⟩, ⟨_, rfl, ?_, ?_⟩, ⟨_, rfl, ?_, ?_⟩, ⟨_, rfl, ?_, ?_⟩⟩ <;>
      decide +kernel
  · unfold NoLongRun
    decide +kernel

/-- what the theorems say about the example under the messy layout, and its text without insertions -/
example : Reads (render exSentence exLayout) (valCells exSentence) := reads_plain _ _ exPlain

example : String.ofList ((render exSentence exLayout0).map (fun b => Char.ofNat b.toNat)) =
    "-42 5000000000h '\\n' 'A' MIDI [0x01 0x02 0xfe 0xff] \"hi\\n\"\\\"\"\\\"\\\"\" \"\"S An_Identifier_12345 BLOB [2 0x72 0x74] now 123i #8badf00d" := by
  apply ofList_eq_of_toList
  rw [String.toList_ofList]
  decide +kernel

/-- the messy layout with a blank and a line break in front of the dots of a leading range -/
def exLayoutRange : Layout := { exLayout with blank := fun p => if p = [0, 1] then [.sp, .nl] else [] }

/-- non-vacuity: `10 ... 2 "s" [1 2]` under the messy layout with a blank in front of the dots -/
example : ∃ cs, cells (rangeFirst 10 2 [.val (.str false [[.raw 115]]), .arr [.val (.int 1 .dec false), .val (.int 2 .dec false)] false]) = some cs ∧
    Reads (render (rangeFirst 10 2 [.val (.str false [[.raw 115]]), .arr [.val (.int 1 .dec false), .val (.int 2 .dec false)] false])
      exLayoutRange) cs ∧
    cs.take 3 = [Cell.rep 9 1, Cell.int .i (-1), Cell.int .i 10] := by
  have := range_first_partial 10 2 (by decide) (by decide) (by decide) (by decide) (by decide) (by decide)
    [.val (.str false [[.raw 115]]), .arr [.val (.int 1 .dec false), .val (.int 2 .dec false)] false]
    exLayoutRange
    ⟨exLayout_spaced.1, exLayout_spaced.2⟩ (by decide)
    (by
      simp only [provedFrom, SVal.proved, provedElems, and_true, true_and]
      refine ⟨⟨by decide +kernel, by decide +kernel⟩, by decide +kernel, ⟨by decide +kernel, by decide +kernel⟩,
        by decide +kernel, by decide +kernel⟩)
  simpa using this

/-! ### sentences of the class `Ranged`, with ranges at top level and inside arrays -/

/-- `10 8 ... 2 "s" 7 ... 9 12 ... 18 2x5 6 ... 9 [1 2] 'c' 1 ... 2`: a step from the left neighbour
    (-2), a string to the left (+1), a range to the left (its end 9 gives the step 3), a repeated
    value to the left (5: step 6 - 5 = 1), a character to the left -/
def exRanged : Sentence :=
  [.val (.int 10 .dec false), .range (.int 8 .dec false) (.int 2 .dec false),
   .val (.str false [[.raw 115]]), .range (.int 7 .dec false) (.int 9 .dec false),
   .range (.int 12 .dec false) (.int 18 .dec false),
   .rep 2 (.val (.int 5 .dec false)), .range (.int 6 .dec false) (.int 9 .dec false),
   .arr [.val (.int 1 .dec false), .val (.int 2 .dec false)] false,
   .val (.chr 99 false), .range (.int 1 .dec false) (.int 2 .dec false)]

/-- the messy layout with a blank (and a line break) in front of the dots of every range -/
def exLayoutRanged : Layout :=
  { exLayout with blank := fun p => if p.getD 1 0 = 1 ∧ p.length = 2 then [.sp, .nl] else [] }

/-- `RangeOK` as a Boolean (for concrete instances) -/
def rangeOKb (nb : Option Int) (x z : Int) : Bool :=
  decide (-2147483648 ≤ x) && decide (x ≤ 2147483647) && decide (-2147483648 ≤ z) && decide (z ≤ 2147483647) &&
  decide (-2147483648 ≤ rangeStepI nb x z) && decide (rangeStepI nb x z ≤ 2147483647) &&
  decide ((z - x) % rangeStepI nb x z = 0) && decide (1 ≤ (z - x) / rangeStepI nb x z) &&
  decide ((z - x) / rangeStepI nb x z < 2147483647) && decide (-2147483647 ≤ z - x) && decide (z - x ≤ 2147483647)

theorem rangeOK_of_b (nb : Option Int) (x z : Int) (h : rangeOKb nb x z = true) : RangeOK nb x z := by
  simp only [rangeOKb, Bool.and_eq_true, decide_eq_true_eq] at h
  obtain ⟨⟨⟨⟨⟨⟨⟨⟨⟨⟨a, b⟩, c⟩, d⟩, e⟩, f⟩, g⟩, i⟩, j⟩, k⟩, l⟩ := h
  exact ⟨a, b, c, d, e, f, g, i, j, k, l⟩

theorem exRanged_ranged : Ranged exRanged exLayoutRanged := by
  refine ⟨⟨exLayout_spaced.1, exLayout_spaced.2⟩, ?_⟩
  unfold exRanged
  simp only [rangedFromA, rangedElemsG, SVal.iRange, SVal.next, SVal.offer, SVal.rproved, SVal.repeatable, Tok.cell, nbInt,
    and_true, true_and]
  repeat' apply And.intro
  all_goals first | exact ⟨_, rfl, rangeOK_of_b _ _ _ (by decide +kernel)⟩ | decide +kernel

example : String.ofList ((render exRanged { L0 with blank := exLayoutRanged.blank }).map (fun b => Char.ofNat b.toNat)) =
    "10 8 \n...2 \"s\" 7 \n...9 12 \n...18 2x5 6 \n...9 [1 2] 'c' 1 \n...2" := by
  apply ofList_eq_of_toList
  rw [String.toList_ofList]
  decide +kernel

/-- non-vacuity: the example is `Ranged`, its cells are what the specification says, and they are read -/
example : cells exRanged = some
    [.int .i 10, .rep 4 1, .int .i (-2), .int .i 8, .str .s (some [115]), .rep 3 1, .int .i 1, .int .i 7,
     .rep 3 1, .int .i 3, .int .i 12, .rep 2 0, .int .i 5, .rep 4 1, .int .i 1, .int .i 6,
     .arr 105 2, .int .i 1, .int .i 2, .int .c 99, .rep 2 1, .int .i 1, .int .i 1] ∧
    ∃ cs, cells exRanged = some cs ∧ Reads (render exRanged exLayoutRanged) cs := by
  refine ⟨by decide +kernel, _, cells_rangedA _ _ exRanged_ranged.2, reads_ranged _ _ exRanged_ranged⟩

/-- `[1 2] 5 ...9 3x[7] 2 ...0 [1 3 ...7 8 ...10 2x5 6 ...7] [[1 ...3] [2 4 ...8]] 1 ...2`: ranges directly
    behind an array and behind a repeated array (the last element inside is NOT the left neighbour: steps +1
    and -1), ranges inside an array (behind a scalar: step 3 - 1 = 2; behind a range: its end 7 gives the
    step 1; behind `2x5`: step 1), ranges as the first element of nested arrays, a range behind an array
    of arrays -/
def exRangedArr : Sentence :=
  [.arr [.val (.int 1 .dec false), .val (.int 2 .dec false)] false, .range (.int 5 .dec false) (.int 9 .dec false),
   .rep 3 (.arr [.val (.int 7 .dec false)] false), .range (.int 2 .dec false) (.int 0 .dec false),
   .arr [.val (.int 1 .dec false), .range (.int 3 .dec false) (.int 7 .dec false),
         .range (.int 8 .dec false) (.int 10 .dec false), .rep 2 (.val (.int 5 .dec false)),
         .range (.int 6 .dec false) (.int 7 .dec false)] false,
   .arr [.arr [.range (.int 1 .dec false) (.int 3 .dec false)] false,
         .arr [.val (.int 2 .dec false), .range (.int 4 .dec false) (.int 8 .dec false)] false] false,
   .range (.int 1 .dec false) (.int 2 .dec false)]

/-- the messy layout with a blank in front of the dots of every range, at every depth -/
def exLayoutArr : Layout :=
  { exLayout with blank := fun p => if p.getLast? = some 1 ∧ 2 ≤ p.length then [.sp] else [] }

theorem exRangedArr_ranged : Ranged exRangedArr exLayoutArr := by
  refine ⟨⟨exLayout_spaced.1, exLayout_spaced.2⟩, ?_⟩
  unfold exRangedArr
  simp only [rangedFromA, rangedElemsG, SVal.iRange, SVal.next, SVal.offer, SVal.rproved, SVal.repeatable, Tok.cell, nbInt,
    and_true, true_and]
  repeat' apply And.intro
  all_goals first | exact ⟨_, rfl, rangeOK_of_b _ _ _ (by decide +kernel)⟩ | decide +kernel

example : String.ofList ((render exRangedArr { L0 with blank := exLayoutArr.blank }).map (fun b => Char.ofNat b.toNat)) =
    "[1 2] 5 ...9 3x[7] 2 ...0 [1 3 ...7 8 ...10 2x5 6 ...7] [[1 ...3] [2 4 ...8]] 1 ...2" := by
  apply ofList_eq_of_toList
  rw [String.toList_ofList]
  decide +kernel

/-- non-vacuity for ranges behind and inside arrays: the example is `Ranged`, its cells are what the
    specification says, and they are read under the messy layout -/
example : cells exRangedArr = some
    [.arr 105 2, .int .i 1, .int .i 2, .rep 5 1, .int .i 1, .int .i 5, .rep 3 0, .arr 105 1, .int .i 7,
     .rep 3 1, .int .i (-1), .int .i 2,
     .arr 105 12, .int .i 1, .rep 3 1, .int .i 2, .int .i 3, .rep 3 1, .int .i 1, .int .i 8, .rep 2 0, .int .i 5,
     .rep 2 1, .int .i 1, .int .i 6,
     .arr 97 9, .arr 105 3, .rep 3 1, .int .i 1, .int .i 1, .arr 105 4, .int .i 2, .rep 3 1, .int .i 2, .int .i 4,
     .rep 2 1, .int .i 1, .int .i 1] ∧
    ∃ cs, cells exRangedArr = some cs ∧ Reads (render exRangedArr exLayoutArr) cs := by
  refine ⟨by decide +kernel, _, cells_rangedA _ _ exRangedArr_ranged.2, reads_ranged _ _ exRangedArr_ranged⟩

/-! ### the width hypothesis of `RangeOK`, and the recursion bound of the checker's look-back

  * `RangeOK.hw1/hw2`: the width `c - b` must be an `int32_t`.  The specification (`stepsOf`) only
    bounds the number of steps; `a b ... c` with `|c - b| > 2³¹-1` (possible when `b - a` is large)
    denotes a range in the manual's reading, while `delta_from_arg_vals` computes `c - b` in `int`
    (signed overflow in C, wrapped in the model) and the checker rejects the text.
  * behind "..." the checker re-skips the PREVIOUS argument.  The C code recurses without a bound; the recursion
    bound `C11.countLoop` hands to `rtosc_skip_next_printed_arg`, `lookBackFuel src recent`, therefore covers the
    text from the previous argument on, not only the rest of the text: a left neighbour may be nested deeper than
    the rest of the text is long (`deep_neighbour_reads`). -/

def nest : Nat → SVal → SVal
  | 0, v => v
  | k + 1, v => .arr [nest k v] false

/-- `[[[[[[[[1]]]]]]]] 2...5` -/
def exDeep : Sentence := [nest 8 (.val (.int 1 .dec false)), .range (.int 2 .dec false) (.int 5 .dec false)]

/-- `-2100000000 -1500000000...900000000` -/
def exWide : Sentence := [.val (.int (-2100000000) .dec false), .range (.int (-1500000000) .dec false) (.int 900000000 .dec false)]

/-- the full statement fails for a range whose width is not an `int32_t`: the specification denotes
    five values, the checker rejects the text -/
theorem wide_range_counterexample : Sentence.wf exWide = true ∧
    cells exWide = some [.int .i (-2100000000), .rep 5 1, .int .i 600000000, .int .i (-1500000000)] ∧
    hasOctalPlain exWide = false ∧
    C11.countPrintedArgVals (render exWide L0) = .ok (-2) := by
  decide +kernel

/-! ### instances of the full statement outside the proved class (evaluated, not general) -/

/-- the decidable form of "the sentence denotes cells and its text is read as them" -/
def agrees (s : Sentence) (L : Layout) : Bool :=
  match cells s with
  | some cs =>
    decide (C11.countPrintedArgVals (render s L) = .ok (cs.length : Int)) &&
    decide (C11.scanArgVals (render s L) cs.length = .ok ((render s L).length, cs))
  | none => false

theorem agrees_reads (s : Sentence) (L : Layout) (h : agrees s L = true) :
    ∃ cs, cells s = some cs ∧ Reads (render s L) cs := by
  unfold agrees at h
  cases hc : cells s with
  | none => rw [hc] at h; cases h
  | some cs =>
    rw [hc] at h
    simp only [Bool.and_eq_true, decide_eq_true_eq] at h
    exact ⟨cs, rfl, h.1, h.2⟩

/-- a left neighbour nested deeper than the rest of the text is long: under the bound `lookBackFuel`, taken from
    the previous argument on, the checker's look-back skips it like the C code does, and the text is read as its
    denotation (8 array headers, the 1, the three cells of the range) -/
theorem deep_neighbour_reads : Sentence.wf exDeep = true ∧ agrees exDeep L0 = true ∧
    C11.countPrintedArgVals (render exDeep L0) = .ok 12 := by
  decide +kernel

/-- `10 8...2 3x["b" "c"] [1 2...] [1...5] [] [1 1...] 4xnil`: integer ranges with and without a
    left neighbour, open-ended arrays with and without a step -/
def exRanges : Sentence :=
  [.val (.int 10 .dec false), .range (.int 8 .dec false) (.int 2 .dec false),
   .rep 3 (.arr [.val (.str false [[.raw 98]]), .val (.str false [[.raw 99]])] false),
   .arr [.val (.int 1 .dec false), .val (.int 2 .dec false)] true, .arr [.range (.int 1 .dec false) (.int 5 .dec false)] false,
   .arr [] false, .arr [.val (.int 1 .dec false), .val (.int 1 .dec false)] true, .rep 4 (.val (.kw .nil))]

example : cells exRanges = some
    [.int .i 10, .rep 4 1, .int .i (-2), .int .i 8, .rep 3 0, .arr 115 2, .str .s (some [98]), .str .s (some [99]),
     .arr 105 4, .int .i 1, .rep 0 1, .int .i 1, .int .i 2, .arr 105 3, .rep 5 1, .int .i 1, .int .i 1, .arr 32 0,
     .arr 105 3, .int .i 1, .rep 0 0, .int .i 1, .rep 4 0, .flag .N] := by decide +kernel

example : agrees exRanges L0 = true ∧ agrees exRanges exLayout = true := by decide +kernel

/-- comments directly behind the values (no white space in front of '%'), also at the very end -/
def exLayoutTight : Layout :=
  { lead := [.comment (lit "lead")], sep := fun i => if i % 2 = 0 then [.comment (lit "c")] else [.comment [], .ws .sp, .comment (lit "x")]
    trail := [], last := some (lit "end"), blank := fun _ => [] }

/-- `true 'a' "s"\"t" "q"S abc #8badf00d [1 2] 2x"s" [1 2...] 0.5 (0x1p-1) MIDI […] BLOB […] nil`: every kind
    of value end that is not a numeric word -/
def exTight : Sentence :=
  [.val (.kw .true_), .val (.chr 97 false), .val (.str false [[.raw 115], [.raw 116]]), .val (.str true [[.raw 113]]),
   .val (.ident (lit "abc")), .val (.color 0x8badf00d false), .arr [.val (.int 1 .dec false), .val (.int 2 .dec false)] false,
   .rep 2 (.val (.str false [[.raw 115]])), .arr [.val (.int 1 .dec false), .val (.int 2 .dec false)] true,
   .val (.flt false false (.dec ⟨false, [0], some [5], none, false, false⟩) (some ⟨false, [1], none, -1⟩)),
   .val (.midi 1 2 3 4 true), .val (.blob [1]), .val (.kw .nil)]

example : hasNumPercent exTight exLayoutTight = false ∧ agrees exTight exLayoutTight = true := by decide +kernel

/-- `42 1.5 0x1p+3 2x7 1i 077h 0x2a -5d 1e3f 3...5`: every kind of value end that IS a numeric word
    (decimal / hexadecimal / suffixed integers, floats in point, exponent, hexadecimal and suffixed
    notation, a repetition and a range that end in one) -/
def exTightNum : Sentence :=
  [.val (.int 42 .dec false), .val (.flt false false (.dec ⟨false, [1], some [5], none, false, false⟩) none),
   .val (.flt false false (.hex ⟨false, [1], none, 3⟩) none), .rep 2 (.val (.int 7 .dec false)), .val (.int 1 .dec true),
   .val (.huge 63 .oct), .val (.int 42 .hex false), .val (.flt true true (.dec ⟨true, [5], none, none, false, false⟩) none),
   .val (.flt false true (.dec ⟨false, [1], none, some 3, false, false⟩) none),
   .range (.int 3 .dec false) (.int 5 .dec false)]

/-- with a comment directly behind every one of them (`42%c`: finding C11-K2, fix C11-08)
    the text is read as the denotation -/
theorem exTightNum_reads : Sentence.wf exTightNum = true ∧ hasNumPercent exTightNum exLayoutTight = true ∧
    agrees exTightNum exLayoutTight = true ∧ agrees exTightNum L0 = true := by decide +kernel

example : String.ofList ((render exTightNum exLayoutTight).map (fun b => Char.ofNat b.toNat)) =
    "%lead\n42%c\n1.5%\n %x\n0x1p+3%c\n2x7%\n %x\n1i%c\n077h%\n %x\n0x2a%c\n-5d%\n %x\n1e3f%c\n3...5%end" := by
  apply ofList_eq_of_toList
  rw [String.toList_ofList]
  decide +kernel

example : String.ofList ((render [SVal.val (.kw .true_), .val (.kw .false_)] exLayoutTight).map (fun b => Char.ofNat b.toNat)) =
    "%lead\ntrue%c\nfalse%end" := by
  apply ofList_eq_of_toList
  rw [String.toList_ofList]
  decide +kernel

/-- `0.0 0.3...1.1995 -10E+2d 0.000061 (0x0.1p-10) 0x2ah 052i`: a float range inside the tolerance
    (nearest step count, fix C11-05), exponent / exact / suffixed spellings -/
def exFloats : Sentence :=
  [.val (.flt false false (.dec ⟨false, [0], some [0], none, false, false⟩) none),
   .range (.flt false false (.dec ⟨false, [0], some [3], none, false, false⟩) none)
          (.flt false false (.dec ⟨false, [1], some [1, 9, 9, 5], none, false, false⟩) none),
   .val (.flt true true (.dec ⟨true, [1, 0], none, some 2, true, true⟩) none),
   .val (.flt false false (.dec ⟨false, [0], some [0, 0, 0, 0, 6, 1], none, false, false⟩) (some ⟨false, [0], some [1], -10⟩)),
   .val (.huge 42 .hex), .val (.int 42 .oct true)]

example : agrees exFloats L0 = true ∧ agrees exFloats exLayout = true := by decide +kernel

end Rtosc.Pretty.C11
