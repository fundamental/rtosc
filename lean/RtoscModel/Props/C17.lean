/-
  C17 — Port metadata is read back exactly as written.
  Property theorems only; helper lemmas live in Proofs/MetaLemmas.lean.

  Reading of the statement: `block = serialize es` is what rMap/rProp/rDoc/rOptions
  produce (":k\0=v\0" / ":k\0" … plus the string literal's NUL); the reader under test
  is `Port::meta()` (which strips the leading ':') followed by range-for / operator[]
  / find / length.  All entries are well-formed (`EntryWF`: key non-empty, NUL-free,
  not starting with ':'; value NUL-free — values MAY contain ':' and '=').
  `macros_serialize` ties `serialize` to the macro texts of port-sugar.h as transcribed in
  RtoscModel/MetaMacros.lean (the transcription itself is checked against the compiled header
  by the `M` ops of the correspondence engine on every run).
-/
import RtoscModel.Proofs.MetaLemmas
namespace Rtosc.Meta
open Rtosc

theorem container_serialize (e : Bytes × Option Bytes) (es) :
    container (serialize (e :: es)) = some (some (ent e (rest es))) := by
  simp [container, serialize_eq, rest, portMeta]

private theorem begin_ent (e : Bytes × Option Bytes) (es) (hwf : EntryWF e) :
    begin (some (ent e (rest es))) = some (iterAt e es) := by
  obtain ⟨c, k, hek, _, hc58, _⟩ := key_cons hwf
  have hshape := ent_cons hek (rest es)
  unfold begin
  simp only [hshape, hc58, ↓reduceIte]
  rw [← hshape]; exact mk'_ent e es hwf

private theorem fuel_ok (e : Bytes × Option Bytes) (es : List (Bytes × Option Bytes)) :
    es.length + 2 ≤ ((some (ent e (rest es)) : Ptr).getD []).length + 2 := by
  have := rest_length es
  have := length_le_ent e (rest es)
  simp only [Option.getD_some]; omega

/-- **iterate_serialize**: range-for over `Port::meta()` yields exactly the written
    key/value pairs, in order, and never reads outside the block. -/
theorem iterate_serialize (e : Bytes × Option Bytes) (es : List (Bytes × Option Bytes))
    (hwf : ∀ x ∈ e :: es, EntryWF x) :
    (container (serialize (e :: es))).bind (fun m => pairs m) = some (e :: es) := by
  have he := hwf e (List.mem_cons_self)
  have hes : ∀ x ∈ es, EntryWF x := fun x hx => hwf x (List.mem_cons_of_mem _ hx)
  rw [container_serialize]
  simp only [Option.bind_some, pairs, begin_ent e es he]
  exact iterate_iterAt _ e es he hes (fuel_ok e es)

/-- **get_first**: `meta()[key]` is the value of the first entry with that key;
    NULL when the key is absent or that first entry has no value. -/
theorem get_first (e : Bytes × Option Bytes) (es : List (Bytes × Option Bytes)) (key : Bytes)
    (hwf : ∀ x ∈ e :: es, EntryWF x) :
    (container (serialize (e :: es))).bind (fun m => lookup m key) =
      some (match (e :: es).find? (fun x => x.1 = key) with
            | none => none
            | some x => x.2) := by
  have he := hwf e (List.mem_cons_self)
  have hes : ∀ x ∈ es, EntryWF x := fun x hx => hwf x (List.mem_cons_of_mem _ hx)
  rw [container_serialize]
  simp only [Option.bind_some, lookup, begin_ent e es he]
  exact lookupFuel_of_iterate key _ _ _ (iterate_iterAt _ e es he hes (fuel_ok e es))

/-- **find_presence**: `meta().find(key)` reports whether some entry has that key. -/
theorem find_presence (e : Bytes × Option Bytes) (es : List (Bytes × Option Bytes)) (key : Bytes)
    (hwf : ∀ x ∈ e :: es, EntryWF x) :
    (container (serialize (e :: es))).bind (fun m => find m key) =
      some ((e :: es).any (fun x => x.1 = key)) := by
  have he := hwf e (List.mem_cons_self)
  have hes : ∀ x ∈ es, EntryWF x := fun x hx => hwf x (List.mem_cons_of_mem _ hx)
  rw [container_serialize]
  simp only [Option.bind_some, find, begin_ent e es he]
  exact findFuel_of_iterate key _ _ _ (iterate_iterAt _ e es he hes (fuel_ok e es))

/-- **length_serialize**: `meta().length()` is the byte length of the block the macros
    wrote, leading ':' and terminating NUL included. -/
theorem length_serialize (e : Bytes × Option Bytes) (es : List (Bytes × Option Bytes))
    (hwf : ∀ x ∈ e :: es, EntryWF x) :
    (container (serialize (e :: es))).bind (fun m => length m) =
      some (serialize (e :: es)).length := by
  have he := hwf e (List.mem_cons_self)
  have hes : ∀ x ∈ es, EntryWF x := fun x hx => hwf x (List.mem_cons_of_mem _ hx)
  obtain ⟨c, k, hek, hc, _, _⟩ := key_cons he
  have hshape := ent_cons hek (rest es)
  rw [container_serialize, serialize_eq]
  simp only [Option.bind_some, length, hshape, hc, ↓reduceIte]
  rw [← hshape, lenScan_first e es he hes]
  simp only [Option.map_some, rest, List.length_cons]
  congr 1
  have : 1 ≤ (ent e (rest es)).length := by rw [hshape]; simp
  omega

/-- A container constructed directly over the block (without `Port::meta()`'s strip),
    as `path_search` does, reports one byte MORE than the block holds: the observation
    behind finding C18-F1 (fixes/C18-pathsearch-metalen.patch). -/
theorem length_unstripped (e : Bytes × Option Bytes) (es : List (Bytes × Option Bytes))
    (hwf : ∀ x ∈ e :: es, EntryWF x) :
    length (some (serialize (e :: es))) = some ((serialize (e :: es)).length + 1) := by
  rw [serialize_eq]
  have h := lenScan_rest (e :: es) hwf
  have h1 := rest_length (e :: es)
  simp only [rest] at h h1 ⊢
  simp only [length, show ((58:UInt8) = 0) = False by decide, ↓reduceIte, h, Option.map_some]
  simp only [List.length_cons, Option.some.injEq]; omega

/-! Non-vacuity: a concrete block with a valueless entry, a value containing ':' and
    '=', a repeated key and an empty value meets the hypotheses, and the four
    conclusions evaluate as stated. -/
def exEntries : List (Bytes × Option Bytes) :=
  [([97], none), ([98, 58], some [58, 61, 49]), ([97], some [120]), ([99], some [])]

example : ∀ x ∈ exEntries, EntryWF x := by
  intro x hx
  simp only [exEntries, List.mem_cons, List.not_mem_nil, or_false] at hx
  rcases hx with rfl | rfl | rfl | rfl <;>
    exact ⟨by unfold NoNul; decide, ⟨_, _, rfl, by decide⟩, fun v hv => by cases hv <;> (unfold NoNul; decide)⟩

example : (container (serialize exEntries)).bind (fun m => pairs m) = some exEntries := by decide +kernel
example : (container (serialize exEntries)).bind (fun m => lookup m [97]) = some none := by decide +kernel
example : (container (serialize exEntries)).bind (fun m => length m) = some 24 := by decide +kernel

/-- **macros_serialize** ("as the rMap/rProp/rDoc/rOptions macros produce"): the string
    literal obtained by writing rProp / rMap / rDoc / rOpt (rOptions) / rPreset invocations
    side by side is `serialize` of the entries they stand for; `rSpecial` is excluded by the
    hypothesis (it stands for no entry). -/
theorem macros_serialize (ms : List Macro) (h : ∀ m ∈ ms, m.entry.isSome) :
    literal ms = serialize (ms.filterMap Macro.entry) := by
  unfold literal serialize
  congr 1
  induction ms with
  | nil => rfl
  | cons m ms ih =>
    have hm := h m (List.mem_cons_self ..)
    obtain ⟨e, he⟩ := Option.isSome_iff_exists.mp hm
    have ih' := ih (fun x hx => h x (List.mem_cons_of_mem _ hx))
    simp only [List.map_cons, List.flatten_cons, List.filterMap_cons, he, ih',
      Macro.bytes_entry m e he]

/-! Non-vacuity of `macros_serialize`: the metadata of
    `rOption(mode, rOptions(sine, saw), rDefault(saw), "Wave")`, and what the readers make of
    a block with `rSpecial(disable)` (outside the statement: the text is skipped, the key
    `special` has no value). -/
def exMacros : List Macro :=
  [.prop (asc "parameter"), .prop (asc "enumerated")] ++ rOptions [asc "sine", asc "saw"] ++
  [.map (asc "default") (asc "saw"), .doc (asc "Wave")]

example : ∀ m ∈ exMacros, m.entry.isSome := by decide
example : (container (literal exMacros)).bind (fun m => lookup m (asc "map 1")) = some (some (asc "saw")) := by
  decide +kernel
example : (container (literal [.prop (asc "a"), .special (asc "off"), .map (asc "b") (asc "1")])).bind
    (fun m => pairs m) = some [(asc "a", none), (asc "special", none), (asc "b", some (asc "1"))] := by
  decide +kernel

end Rtosc.Meta
