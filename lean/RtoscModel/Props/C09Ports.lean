/-
  C09 — the dispatch clause against C04's model of `Ports::dispatch`
  (RtoscModel/Ports/Dispatch.lean: the linear scan without location buffer, the linear scan and
  the hashed lookup with one, the recursion callbacks of port-sugar.h), with and without a
  location buffer.  Property theorems only; the embedding of this property's tree type into
  C04's (`toTable`, `PortsFlat`, `OnPath`) is defined in RtoscModel/Walk/PortsSpec.lean, the helper
  lemmas are in RtoscModel/Proofs/WalkPorts.lean.

  Own module (not part of Props/C09.lean) because it imports C04's theorems: a change of C04's
  statements shows here, not in the walk theorems.

  Reading
  * `toTable (toPorts ts)` is the `Ports` object: the table `walk_ports` walks, every port with
    a sub-table given the recursion callback `rRecurCb` (`SNIP`, then the sub-table's
    `dispatch`), no default handlers (`toPTable_render`: it is the rendering of the table with
    structured names that C04's theorems speak about).
  * `PortsFlat ts`: C04's well-formedness — `SNIP` cuts exactly one path component, so sub-tree
    names have one (no '/' in front of the trailing one: what `rRecur*` generate), and no leaf
    name is empty in front of '/' and type part.  Multi-component sub-tree names (`a#3/b#2/c/`)
    are outside C04's model; for them only `walked_address_dispatched` (Props/C09.lean, the
    driver's `dispatchSim`, whose sub-tree callback skips as many components as the name has)
    is proved.
  * the message: `msgBuf ("/" ++ rel) tags k rest` — the address, k+1 NULs, ",tags", NUL, any
    bytes; every message `rtosc_amessage` lays out has this form (`Ports.mkMsg_msgBuf`).
  * `mk`: the function that builds the lookup tables (`MkOK`; `Ports.real_MkOK`: `refreshMagic`).
-/
import RtoscModel.Proofs.WalkPorts
import RtoscModel.Proofs.WalkDigits
namespace Rtosc.Walk
open Rtosc Rtosc.Path Rtosc.Match

/-- **walked_address_dispatches_ports** (the dispatch clause against C04's `Ports::dispatch`): for
    every well-formed tree with one-component sub-tree names (`PortsFlat`) and pairwise apart rows,
    every pair `(port, address)` of `enumerate` and every type string admitted along the index path
    (`admittedAlong`: by the reported leaf's type part and by those of the sub-tree ports on the
    way), the message "/" ++ rel, dispatched at the root (`base_dispatch = true`)
      * without a location buffer (`d.loc = none`: linear search of every table) and
      * with one (`d.loc = some L0`, `loc_size ≠ 0`: every table looked up by the strategy `mk`
        picked for it — linear or perfect hash),
    returns (no read leaves a buffer) and invokes exactly the callbacks of the ports on the index
    path — the recursion callback of every sub-tree port on the way and the callback of the
    reported leaf port —, each once, and no other callback. -/
theorem walked_address_dispatches_ports {mk : List Bytes → Option Ports.Hash.Matcher} (hmk : Ports.MkOK mk)
    (ts : List STree) (hwf : TreeWF ts) (hfl : PortsFlat ts) (hs : SiblingsApart ts)
    (pre : Bytes) (ix : List Nat) (addr : Bytes) (h : (ix, addr) ∈ enumerate ts pre)
    (tags : Bytes) (ht : NulFree tags) (hadm : admittedAlong tags ix ts = true) :
    ∃ rel, addr = pre ++ rel ∧ NulFree rel ∧
      (IdxBounded rel → ∀ (k : Nat) (rest : Bytes) (d : Ports.RtData),
        (d.loc = none ∨ ∃ L0, d.loc = some L0 ∧ d.locSize ≠ 0) →
        ∃ log d', Ports.dispatch mk ⟨toTable (toPorts ts), false⟩ (Ports.msgBuf (47 :: rel) tags k rest) d true
            = some (log, d') ∧
          (∀ w, w ∈ log.map (·.who) ↔ OnPath [] ix w) ∧ (log.map (·.who)).Nodup) := by
  obtain ⟨rel, h1, h2, h3⟩ := ports_dispatch_reported hmk true ts hwf hfl (fun _ => hs) pre ix addr h tags ht hadm
  refine ⟨rel, h1, h2, ?_⟩
  intro hb k rest d hd
  obtain ⟨log, d', hdisp, ha, hb', hnd⟩ := h3 hb k rest d hd
  exact ⟨log, d', hdisp, fun w => ⟨hb' rfl w, ha w⟩, hnd⟩

/-- **walked_address_dispatches_ports_short**: the same with the hypothesis on the reported address
    (`IdxBounded`) replaced by the decidable condition `DigitsShort` on the names of the tree. -/
theorem walked_address_dispatches_ports_short {mk : List Bytes → Option Ports.Hash.Matcher} (hmk : Ports.MkOK mk)
    (ts : List STree) (hwf : TreeWF ts) (hfl : PortsFlat ts) (hs : SiblingsApart ts) (hd : DigitsShort ts)
    (pre : Bytes) (ix : List Nat) (addr : Bytes) (h : (ix, addr) ∈ enumerate ts pre)
    (tags : Bytes) (ht : NulFree tags) (hadm : admittedAlong tags ix ts = true) :
    ∃ rel, addr = pre ++ rel ∧ ∀ (k : Nat) (rest : Bytes) (d : Ports.RtData),
        (d.loc = none ∨ ∃ L0, d.loc = some L0 ∧ d.locSize ≠ 0) →
        ∃ log d', Ports.dispatch mk ⟨toTable (toPorts ts), false⟩ (Ports.msgBuf (47 :: rel) tags k rest) d true
            = some (log, d') ∧
          (∀ w, w ∈ log.map (·.who) ↔ OnPath [] ix w) ∧ (log.map (·.who)).Nodup := by
  obtain ⟨n, ixr, rel, rfl, h2, hr⟩ := reported_of_mem h
  refine ⟨rel, h2, fun k rest d hd' => ?_⟩
  obtain ⟨log, d', hdisp, ha, hb', hnd⟩ := hr.portsDispatch hmk true hwf hfl (fun _ => hs) tags ht hadm
    (idxBounded_of_runsLe (hr.shortRuns hwf hd)) k rest d hd'
  exact ⟨log, d', hdisp, fun w => ⟨hb' rfl w, ha w⟩, hnd⟩

/-- **walked_address_dispatches_ports_among**: without `SiblingsApart` the callbacks of the ports on
    the index path are still among those invoked. -/
theorem walked_address_dispatches_ports_among {mk : List Bytes → Option Ports.Hash.Matcher} (hmk : Ports.MkOK mk)
    (ts : List STree) (hwf : TreeWF ts) (hfl : PortsFlat ts)
    (pre : Bytes) (ix : List Nat) (addr : Bytes) (h : (ix, addr) ∈ enumerate ts pre)
    (tags : Bytes) (ht : NulFree tags) (hadm : admittedAlong tags ix ts = true) :
    ∃ rel, addr = pre ++ rel ∧ NulFree rel ∧
      (IdxBounded rel → ∀ (k : Nat) (rest : Bytes) (d : Ports.RtData),
        (d.loc = none ∨ ∃ L0, d.loc = some L0 ∧ d.locSize ≠ 0) →
        ∃ log d', Ports.dispatch mk ⟨toTable (toPorts ts), false⟩ (Ports.msgBuf (47 :: rel) tags k rest) d true
            = some (log, d') ∧
          (∀ w, OnPath [] ix w → w ∈ log.map (·.who)) ∧ (log.map (·.who)).Nodup) := by
  obtain ⟨rel, h1, h2, h3⟩ := ports_dispatch_reported hmk false ts hwf hfl (by intro h; cases h) pre ix addr h tags ht hadm
  refine ⟨rel, h1, h2, ?_⟩
  intro hb k rest d hd
  obtain ⟨log, d', hdisp, ha, _, hnd⟩ := h3 hb k rest d hd
  exact ⟨log, d', hdisp, ha, hnd⟩

/-- the callbacks of the ports on an index path: the reported leaf is the last of them -/
theorem onPath_leaf (ix : List Nat) (h : ix ≠ []) : OnPath [] ix (.port ix) :=
  ⟨ix, h, List.prefix_refl _, rfl⟩

/-- the `Ports` object of C04's model is the table with structured names that C04's theorems
    quantify over, rendered -/
theorem ports_table_is_rendering (ts : List STree) : (toPTable ts).render = toTable (toPorts ts) :=
  toPTable_render ts

/-- C04's well-formedness of that table follows from `TreeWF` and `PortsFlat` -/
theorem ports_table_wf (ts : List STree) (hwf : TreeWF ts) (hfl : PortsFlat ts) : (toPTable ts).WF :=
  toPTable_wf ts hwf hfl

/-! ## Non-vacuity -/

/-- `self:`, `on::T:F`, `a/` → { `t::T:F`, `v::i` }, `k#2/` → { `y`, `p#3/` → { `q:f:i` } } -/
def flatTree : List STree :=
  [.leaf ⟨[115, 101, 108, 102], [], false, some [[]]⟩ none,
   .leaf ⟨[111, 110], [], false, some [[], [84], [70]]⟩ none,
   .sub ⟨[97], [], true, none⟩ none
     [.leaf ⟨[116], [], false, some [[], [84], [70]]⟩ none, .leaf ⟨[118], [], false, some [[], [105]]⟩ none],
   .sub ⟨[107], [([50], [])], true, none⟩ none
     [.leaf ⟨[121], [], false, none⟩ none,
      .sub ⟨[112], [([51], [])], true, none⟩ none [.leaf ⟨[113], [], false, some [[102], [105]]⟩ none]]]

example : TreeWF flatTree := by decide
example : PortsFlat flatTree := by decide
example : HeadsApart flatTree := by decide
example : SubsUntyped flatTree := by decide
example : DigitsShort flatTree := by decide
/-- "/k1/p2/q" is reported for the port 3.1.0 … -/
example : ([3, 1, 0], [47, 107, 49, 47, 112, 50, 47, 113]) ∈ enumerate flatTree [47] := by decide
/-- … whose type part `:f:i` admits "i" (and "f", and every extension of "i") -/
example : admittedAlong [105] [3, 1, 0] flatTree = true := by decide
example : admittedAlong [102] [3, 1, 0] flatTree = true := by decide
example : admittedAlong [105, 105] [3, 1, 0] flatTree = true := by decide
example : admittedAlong [] [3, 1, 0] flatTree = false := by decide
example : IdxBounded [107, 49, 47, 112, 50, 47, 113] := idxBounded_of_check (by decide)

end Rtosc.Walk
