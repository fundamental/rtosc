/-
  C09 — Walking a port tree enumerates exactly its dispatchable addresses.
  Property theorems only; the model is RtoscModel/Walk/{Buf,Model}.lean, the specification
  RtoscModel/Walk/Spec.lean, helper lemmas RtoscModel/Proofs/Walk*.lean.  The hypotheses of the
  statements are defined in Walk/Spec.lean, Walk/DigitsSpec.lean, Walk/DispatchSpec.lean and
  (`PathPrefix`) Walk/PropsSpec.lean.

  Reading of the statement
  * "all generated port trees": `TreeWF ts` — every name has the form
        head #N1 text1 … #Nk textk ['/'] [:types]
    (`WName`: literal text over any characters but NUL `# { * :`, numbers below 2^31, a text
    behind a number does not begin with a digit and is empty only at the end); a sub-tree
    name begins with text, ends in '/' and has every N ≥ 1.  Any depth, any size.
    The table handed to `walk_ports` is `toPorts ts`.
  * "the caller's name buffer": `pre ++ 0 :: J` — the address `pre` of the table
    (non-empty, NUL-free: `PrefixOk`), its terminator, and whatever else the block holds
    (`J`, arbitrary bytes); or `0 :: 0 :: J` for the empty buffer (the byte behind the
    terminator must be NUL: `walk_ports` writes the root '/' without a terminator;
    ports.h asks for an all-zero buffer).  `buffer_size` is never looked at by the
    code; what matters is the real size of the block: `needList ts ≤ J.length`, i.e. the
    block holds the longest address the walk forms plus its terminator — exactly
    (`walk_needs_room`).
  * "reports": the walker callback is called with `(port, name_buffer)`; the model records
    the index path of the port and the C string in the buffer.  `enumerate ts pre` is the
    list the statement fixes.
  * The model contains the repairs fixes/C09-recurse0-strchr.patch (F17: the search for '#'
    started behind the name's terminator; in the repository as commit 1147f04),
    fixes/C09-recurse0-index-text.patch (text behind `#N` in a sub-tree name was replaced by
    "N/…") and fixes/C09-enabled-subport-runtime.patch (a toggle inside a sub-tree was asked
    on the parent's object).

  One deviation remains (known finding C09-K1, acknowledged in test/walk-ports.cpp): for a
  *leaf* name with more than one '#', `bundle_foreach` expands only the first.  Trigger
  predicate `multiHashLeafList`; `walk_eq_enumerate_counterexample`,
  `walk_eq_enumerate_partial`.  The buffer clause holds without the exclusion.

  * "exactly once": `walk_reports_exactly_once` (the list reported has no repetition).  The
    theorems fix the order of the reports (table order, leftmost enumeration outermost); the
    statement does not, and the check compares the reports as a multiset.
  * "every reported address, sent as a message, is dispatched to the very port it was reported
    with": `walked_address_dispatched` / `walked_address_reaches_port` — the model of
    `Ports::dispatch` without location buffer that the correspondence driver runs (`dispatchSim`,
    Walk/Dispatch.lean: `rtosc_match` of C05 on every row, type part included; the callback of a
    sub-tree port skips the components of its name and dispatches to the sub-table) invokes
    exactly the reported port, iff the type string of the message is admitted by every port on the
    way.  The same against C04's model of `Ports::dispatch` (with and without location buffer,
    any lookup strategy) is in the module Props/C09Ports.lean.  `walked_address_dispatches` is the
    statement about `rtosc_match_path` level by level.
  * The runtime clause is `walk_prunes` (NULL pointers and "enabled by" toggles at every depth;
    its hypotheses `PathPrefix` / `GuardsOK` say where `port_is_enabled` is defined at all) and
    `walk_prunes_partial` (NULL pointers only, without those hypotheses).  The model is that of
    a library built with NDEBUG and with fixes/C09-enabled-loc-copy-size.patch: `buffer_size`
    is not looked at; the scratch buffers `char[1024]` of `walk_ports_recurse` are modelled
    (`SCRATCH`).
-/
import RtoscModel.Proofs.WalkGuard
import RtoscModel.Proofs.WalkOnce
import RtoscModel.Proofs.WalkSim
import RtoscModel.Proofs.WalkDigits
namespace Rtosc.Walk
open Rtosc Rtosc.Path Rtosc.Match

/-! ## Clause 1: every leaf under every concrete address, exactly once, nothing else -/

/-- The clause as the statement reads, for all well-formed trees.  It does **not** hold of
    the code: `walk_eq_enumerate_counterexample`. -/
def walk_eq_enumerate_statement : Prop :=
  ∀ (ts : List STree) (pre J : Buf), TreeWF ts → PrefixOk pre → needList ts ≤ J.length →
    ∃ b', walkPorts {} (toPorts ts) none (pre ++ 0 :: J) = .ok (enumerate ts pre, b')

/-- **walk_eq_enumerate_partial**: for every well-formed tree in which no leaf name has more
    than one '#' (`¬ multiHashLeafList`, the trigger of finding C09-K1), every address prefix
    and every buffer with enough room, the walker is called exactly with the pairs of
    `enumerate` — each leaf under each concrete address once, in the fixed order, nothing
    else — and no access leaves the buffer (the result is `ok`). -/
theorem walk_eq_enumerate_partial (ts : List STree) (pre J : Buf) (hwf : TreeWF ts)
    (hk1 : multiHashLeafList ts = false) (hpre : PrefixOk pre) (hcap : needList ts ≤ J.length) :
    ∃ b', walkPorts {} (toPorts ts) none (pre ++ 0 :: J) = .ok (enumerate ts pre, b') := by
  obtain ⟨b', h, _⟩ := walkPorts_code ts pre J hwf hpre hcap
  exact ⟨b', by rw [h, codeList_eq_enumList ts pre [] 0 hk1]; rfl⟩

/-- the same from an empty buffer: the addresses start at the root "/" -/
theorem walk_eq_enumerate_root_partial (ts : List STree) (J : Buf) (hwf : TreeWF ts)
    (hk1 : multiHashLeafList ts = false) (hcap : needList ts ≤ J.length) :
    ∃ b', walkPorts {} (toPorts ts) none (0 :: 0 :: J) = .ok (enumerate ts [47], b') := by
  obtain ⟨b', h, _⟩ := walkPorts_code ts [47] J hwf prefixOk_root hcap
  exact ⟨b', by rw [walkPorts_root, h, codeList_eq_enumList ts [47] [] 0 hk1]; rfl⟩

/-- "exactly once", counted: `enumerate` has one entry per leaf and index tuple — the sum over
    the leaves of the product of all `N` on the way (`countList`) — whatever the prefix. -/
theorem enumerate_count (ts : List STree) (pre : Bytes) : (enumerate ts pre).length = countList ts :=
  enumList_length ts pre [] 0

/-- "exactly once": no `(leaf, address)` pair occurs twice in `enumerate` -/
theorem enumerate_nodup (ts : List STree) (hwf : TreeWF ts) (pre : Bytes) : (enumerate ts pre).Nodup :=
  enum_nodup.2 ts pre [] 0 hwf

/-- **walk_reports_exactly_once**: under the hypotheses of `walk_eq_enumerate_partial` the list of
    walker calls has no repetition and its members are exactly the pairs of `enumerate`: every
    leaf under every concrete address it answers to is reported, once, and nothing else. -/
theorem walk_reports_exactly_once (ts : List STree) (pre J : Buf) (hwf : TreeWF ts)
    (hk1 : multiHashLeafList ts = false) (hpre : PrefixOk pre) (hcap : needList ts ≤ J.length) :
    ∃ calls b', walkPorts {} (toPorts ts) none (pre ++ 0 :: J) = .ok (calls, b') ∧ calls.Nodup ∧
      ∀ c, c ∈ calls ↔ c ∈ enumerate ts pre := by
  obtain ⟨b', h⟩ := walk_eq_enumerate_partial ts pre J hwf hk1 hpre hcap
  exact ⟨_, b', h, enumerate_nodup ts hwf pre, fun _ => Iff.rfl⟩

/-- the leaf `z#2/q#2` -/
def k1Tree : List STree :=
  [.leaf ⟨[122], [([50], [47, 113]), ([50], [])], false, none⟩ none]

/-- **walk_eq_enumerate_counterexample** (finding C09-K1): `z#2/q#2` is a well-formed leaf
    name answering to four addresses; the walk reports two ("/z0/q#2", "/z1/q#2"). -/
theorem walk_eq_enumerate_counterexample : ¬ walk_eq_enumerate_statement := by
  intro h
  obtain ⟨b', hb⟩ := h k1Tree [47] (List.replicate 10 0) (by decide +kernel) prefixOk_root (by decide +kernel)
  have h1 : (walkPorts {} (toPorts k1Tree) none ([47] ++ 0 :: List.replicate 10 0)).toOption.map (·.1.length)
      = some 4 := by rw [hb]; rfl
  have h2 : (walkPorts {} (toPorts k1Tree) none ([47] ++ 0 :: List.replicate 10 0)).toOption.map (·.1.length)
      = some 2 := by decide +kernel
  rw [h2] at h1
  cases h1

/-- the trigger predicate singles this tree out -/
example : multiHashLeafList k1Tree = true := by decide +kernel

/-- what the code does on every well-formed tree, K1 included: `codeList` is `enumerate`
    with only the first '#' of a leaf name expanded -/
theorem walk_eq_code (ts : List STree) (pre J : Buf) (hwf : TreeWF ts) (hpre : PrefixOk pre)
    (hcap : needList ts ≤ J.length) :
    ∃ b', walkPorts {} (toPorts ts) none (pre ++ 0 :: J) = .ok (codeList pre [] ts 0, b') := by
  obtain ⟨b', h, _⟩ := walkPorts_code ts pre J hwf hpre hcap
  exact ⟨b', h⟩

/-! ## Clause 2: the buffer afterwards -/

/-- **walk_restores_buffer**: after the walk the caller's buffer has its size and holds, as a
    string, exactly the prefix it started with — for every well-formed tree (leaves with
    several '#' included). -/
theorem walk_restores_buffer (ts : List STree) (pre J : Buf) (hwf : TreeWF ts) (hpre : PrefixOk pre)
    (hcap : needList ts ≤ J.length) :
    ∃ calls b', walkPorts {} (toPorts ts) none (pre ++ 0 :: J) = .ok (calls, b') ∧
      cstrAt b' 0 = .ok pre ∧ b'.length = (pre ++ 0 :: J).length := by
  obtain ⟨b', h, H⟩ := walkPorts_code ts pre J hwf hpre hcap
  exact ⟨_, b', h, H.restored hpre.2⟩

/-- … and the root "/" for an empty buffer -/
theorem walk_restores_buffer_root (ts : List STree) (J : Buf) (hwf : TreeWF ts)
    (hcap : needList ts ≤ J.length) :
    ∃ calls b', walkPorts {} (toPorts ts) none (0 :: 0 :: J) = .ok (calls, b') ∧
      cstrAt b' 0 = .ok [47] ∧ b'.length = (0 :: 0 :: J).length := by
  obtain ⟨b', h, H⟩ := walkPorts_code ts [47] J hwf prefixOk_root hcap
  exact ⟨_, b', by rw [walkPorts_root, h], H.restored prefixOk_root.2⟩

/-! ## Clause 3: every reported address is dispatched to the port it was reported with -/

/-- **walked_address_dispatches**: for every pair `(port, address)` of `enumerate`, the address
    behind the table's prefix is accepted by `rtosc_match_path` level by level along the
    port's index path: at every sub-tree port with `*path_end` exactly where the sub-table's
    part starts, at the leaf as a whole.  (`IdxBounded`: C05's "indices of up to 9 digits" —
    every digit run of the address, literal digits of names included, is below 2^31.) -/
theorem walked_address_dispatches (ts : List STree) (hwf : TreeWF ts) (pre : Bytes)
    (ix : List Nat) (addr : Bytes) (h : (ix, addr) ∈ enumerate ts pre) (ex : Bytes) :
    ∃ rel, addr = pre ++ rel ∧ NulFree rel ∧
      (IdxBounded rel → Delivers false ex ix (toPorts ts) rel) := by
  obtain ⟨n, ixr, rel, rfl, h2, hr⟩ := reported_of_mem h
  exact ⟨rel, h2, hr.nulFree hwf, hr.delivers false ex hwf (fun h => nomatch h)⟩

/-- **walked_address_dispatches_only**: if in every table no two rows answer to a common
    address (`SiblingsApart`), then additionally no *other* row accepts the address at any
    level: the message reaches the reported port and only it. -/
theorem walked_address_dispatches_only (ts : List STree) (hwf : TreeWF ts) (hs : SiblingsApart ts)
    (pre : Bytes) (ix : List Nat) (addr : Bytes) (h : (ix, addr) ∈ enumerate ts pre) (ex : Bytes) :
    ∃ rel, addr = pre ++ rel ∧ NulFree rel ∧
      (IdxBounded rel → Delivers true ex ix (toPorts ts) rel) := by
  obtain ⟨n, ixr, rel, rfl, h2, hr⟩ := reported_of_mem h
  exact ⟨rel, h2, hr.nulFree hwf, hr.delivers true ex hwf (fun _ => hs)⟩

/-- a decidable sufficient condition for two rows to be `Apart`: neither text in front of
    the first '#' is a prefix of the other -/
theorem apart_of_headsApart {w v : WName} (h : headsApart w v = true) : Apart w v := apart_of_heads h

/-! ### … by the dispatch model (`dispatchSim`), type part included -/

/-- the type rule `tagsAdmitted` spelled out (C05 `types_exact`): no type part, or the type
    string is one of the alternatives, or it extends the last alternative, which is not empty -/
theorem tagsAdmitted_spec (ty : Option (List Bytes)) (tags : Bytes) :
    tagsAdmitted ty tags = true ↔
      ∀ ts, ty = some ts → tags ∈ ts ∨ ∃ l, ts.getLast? = some l ∧ l ≠ [] ∧ l <+: tags :=
  tagsAdmitted_iff ty tags

/-- **walked_address_dispatched** (the dispatch clause against the dispatch model): for every
    well-formed tree with pairwise apart rows (`SiblingsApart`) and no leaf name that is empty in
    front of a type part (`LeavesNamed`), every pair `(port, address)` of `enumerate` and every
    type string: the message `"/" ++ rel` (`rel`: the address behind the table's prefix) with these
    tags and all-zero arguments, as the harness builds it, makes `dispatchSim` return (no read
    leaves the message) with exactly the reported port called — once, and no other leaf callback —
    if the type string is admitted by every port on the index path (`admittedAlong`: the reported
    leaf *and* the sub-tree ports on the way, whose `rtosc_match` sees the same message), and with
    no callback at all otherwise.  (`IdxBounded`: every digit run of the address is below 2^31; it
    does not follow from `TreeWF` and cannot be dropped: `dispatch_needs_idxBounded`; it follows
    from the decidable condition `DigitsShort` on the names: `walked_address_dispatched_short`.) -/
theorem walked_address_dispatched (ts : List STree) (hwf : TreeWF ts) (hn : LeavesNamed ts) (hs : SiblingsApart ts)
    (pre : Bytes) (ix : List Nat) (addr : Bytes) (h : (ix, addr) ∈ enumerate ts pre) (tags : Bytes)
    (ht : NulFree tags) :
    ∃ rel, addr = pre ++ rel ∧ NulFree rel ∧
      (IdxBounded rel →
        dispatchSim (toPorts ts) (47 :: rel) tags = some (if admittedAlong tags ix ts then [ix] else [])) := by
  obtain ⟨n, ixr, rel, rfl, h2, hr⟩ := reported_of_mem h
  refine ⟨rel, h2, hr.nulFree hwf, fun hb => ?_⟩
  obtain ⟨l, hl, _, hl2⟩ := hr.dispatched true hwf hn (fun _ => hs) tags ht hb
  rw [hl, hl2 rfl]

/-- **walked_address_dispatched_among**: without `SiblingsApart` the reported port is still among
    the callbacks `dispatchSim` makes (and `dispatchSim` still returns). -/
theorem walked_address_dispatched_among (ts : List STree) (hwf : TreeWF ts) (hn : LeavesNamed ts)
    (pre : Bytes) (ix : List Nat) (addr : Bytes) (h : (ix, addr) ∈ enumerate ts pre) (tags : Bytes)
    (ht : NulFree tags) (hadm : admittedAlong tags ix ts = true) :
    ∃ rel, addr = pre ++ rel ∧ NulFree rel ∧
      (IdxBounded rel → ∃ l, dispatchSim (toPorts ts) (47 :: rel) tags = some l ∧ ix ∈ l) := by
  obtain ⟨n, ixr, rel, rfl, h2, hr⟩ := reported_of_mem h
  refine ⟨rel, h2, hr.nulFree hwf, fun hb => ?_⟩
  obtain ⟨l, hl, hl1, _⟩ := hr.dispatched false hwf hn (fun h => nomatch h) tags ht hb
  exact ⟨l, hl, hl1 hadm⟩

/-- **walked_address_reaches_port**: in a tree whose sub-tree ports declare no argument types
    (`SubsUntyped`: what `rRecur*` generate) the index path of a reported pair ends at a leaf `w`,
    and a message to the reported address is delivered to exactly that port if its type string is
    admitted by `w`'s own type part (none declared: any type string), to no port otherwise. -/
theorem walked_address_reaches_port (ts : List STree) (hwf : TreeWF ts) (hn : LeavesNamed ts) (hs : SiblingsApart ts)
    (hu : SubsUntyped ts) (pre : Bytes) (ix : List Nat) (addr : Bytes) (h : (ix, addr) ∈ enumerate ts pre) :
    ∃ rel w, addr = pre ++ rel ∧ NulFree rel ∧ leafAt ix ts = some w ∧
      (IdxBounded rel → ∀ tags, NulFree tags →
        dispatchSim (toPorts ts) (47 :: rel) tags = some (if tagsAdmitted w.types tags then [ix] else [])) := by
  obtain ⟨n, ixr, rel, rfl, h2, hr⟩ := reported_of_mem h
  obtain ⟨w, hw, hadm⟩ := hr.atLeaf
  refine ⟨rel, w, h2, hr.nulFree hwf, hw, fun hb tags ht => ?_⟩
  obtain ⟨l, hl, _, hl2⟩ := hr.dispatched true hwf hn (fun _ => hs) tags ht hb
  rw [hl, hl2 rfl, hadm hu tags]

/-- **reported_idxBounded** (`IdxBounded` from a condition on the names): if in every name of the
    tree a digit run of literal text, together with the digits of a `#N` that follows it, is at
    most nine characters long (`DigitsShort`, decidable), every digit run of every reported address
    is below 2^31. -/
theorem reported_idxBounded (ts : List STree) (hwf : TreeWF ts) (hd : DigitsShort ts) (pre : Bytes)
    (ix : List Nat) (addr : Bytes) (h : (ix, addr) ∈ enumerate ts pre) :
    ∃ rel, addr = pre ++ rel ∧ IdxBounded rel := by
  obtain ⟨n, ixr, rel, _, h1, hr⟩ := reported_of_mem h
  exact ⟨rel, h1, idxBounded_of_runsLe (hr.shortRuns hwf hd)⟩

/-- **walked_address_dispatched_short**: `walked_address_dispatched` with the hypothesis on the
    reported address replaced by `DigitsShort` on the tree. -/
theorem walked_address_dispatched_short (ts : List STree) (hwf : TreeWF ts) (hn : LeavesNamed ts)
    (hs : SiblingsApart ts) (hd : DigitsShort ts)
    (pre : Bytes) (ix : List Nat) (addr : Bytes) (h : (ix, addr) ∈ enumerate ts pre) (tags : Bytes)
    (ht : NulFree tags) :
    ∃ rel, addr = pre ++ rel ∧
      dispatchSim (toPorts ts) (47 :: rel) tags = some (if admittedAlong tags ix ts then [ix] else []) := by
  obtain ⟨n, ixr, rel, rfl, h2, hr⟩ := reported_of_mem h
  obtain ⟨l, hl, _, hl2⟩ := hr.dispatched true hwf hn (fun _ => hs) tags ht
    (idxBounded_of_runsLe (hr.shortRuns hwf hd))
  exact ⟨rel, h2, by rw [hl, hl2 rfl]⟩

/-- a decidable sufficient condition for `SiblingsApart`: `headsApart` for every two rows of every
    table -/
theorem siblingsApart_of_headsApart {ts : List STree} (h : HeadsApart ts) : SiblingsApart ts := by
  simp only [HeadsApart, Bool.and_eq_true] at h
  rw [SiblingsApart]
  exact ⟨fun i j t u => pairwiseHeads_apart h.1 i j t u, kidsApart_of_heads ts h.2⟩

/-- `a/` → { `:i` } -/
def emptyLeafTree : List STree := [.sub ⟨[97], [], true, none⟩ none [.leaf ⟨[], [], false, some [[105]]⟩ none]]

/-- **dispatch_empty_leaf_counterexample** (why `LeavesNamed`): a leaf whose whole name is a type
    part (`:i`) below `a/` is reported under "/a/"; the message "/a/" ",i" is admitted along the
    path, but when `rtosc_match` reaches the leaf nothing is left of the address and
    `rtosc_argument_string` — which skips the first byte unseen — takes ",i" for the address and
    runs through the arguments: the matcher leaves the message (`none`). -/
theorem dispatch_empty_leaf_counterexample :
    TreeWF emptyLeafTree ∧ HeadsApart emptyLeafTree ∧ ¬ LeavesNamed emptyLeafTree ∧
    ([0, 0], [47, 97, 47]) ∈ enumerate emptyLeafTree [47] ∧ IdxBounded [97, 47] ∧
    admittedAlong [105] [0, 0] emptyLeafTree = true ∧
    dispatchSim (toPorts emptyLeafTree) [47, 97, 47] [105] = none := by
  refine ⟨by decide +kernel, by decide +kernel, by decide +kernel, by decide +kernel, idxBounded_of_check (by decide +kernel), by decide +kernel, by decide +kernel⟩

/-- `a#3`, `a4294967297` -/
def wrapTree : List STree :=
  [.leaf ⟨[97], [([51], [])], false, none⟩ none, .leaf ⟨[97, 52, 50, 57, 52, 57, 54, 55, 50, 57, 55], [], false, none⟩ none]

theorem wrapTree_apart : SiblingsApart wrapTree := by
  have hap : Apart ⟨[97], [([51], [])], false, none⟩ ⟨[97, 52, 50, 57, 52, 57, 54, 55, 50, 57, 55], [], false, none⟩ := by
    rintro a ⟨⟨r1, h1, e1⟩, ⟨r2, h2, e2⟩⟩
    simp only [WName.toPat, litSeg, partSegs, List.isEmpty_cons, List.isEmpty_nil, Bool.false_eq_true, ↓reduceIte,
      List.append_nil, List.singleton_append] at h1 h2 e1 e2
    subst e1 e2
    cases h2 with
    | lit s h2' =>
      cases h2'
      generalize hA : ([97, 52, 50, 57, 52, 57, 54, 55, 50, 57, 55] ++ [] : Bytes) = A at h1
      cases h1 with
      | lit s h1' =>
        cases h1' with
        | enum ds idx _ _ _ hlt h1'' =>
          cases h1''
          simp only [List.append_nil, List.cons_append, List.nil_append, List.cons.injEq, true_and] at hA
          subst hA
          revert hlt
          decide
  unfold SiblingsApart
  refine ⟨?_, by simp [wrapTree, kidsApart]⟩
  intro i j t u hij hi hj
  have hi2 : i < 2 := by
    have := (List.getElem?_eq_some_iff.mp hi).1; simpa [wrapTree] using this
  have hj2 : j < 2 := by
    have := (List.getElem?_eq_some_iff.mp hj).1; simpa [wrapTree] using this
  have hcases : (i = 0 ∧ j = 1) ∨ (i = 1 ∧ j = 0) := by omega
  rcases hcases with ⟨rfl, rfl⟩ | ⟨rfl, rfl⟩
  · simp [wrapTree] at hi hj; subst hi hj; exact hap
  · simp [wrapTree] at hi hj; subst hi hj
    intro a ⟨h1, h2⟩; exact hap a ⟨h2, h1⟩

/-- **dispatch_needs_idxBounded** (why `IdxBounded`, and why it does not follow from `TreeWF`):
    literal text of a name may hold a digit run of any length.  The rows `a#3` and `a4294967297`
    answer to no common address (`SiblingsApart`), the walk reports "/a4294967297" for the second —
    and `rtosc_match_number` reads 4294967297 = 2^32 + 1 as the index 1 (`atoi`, then truncation to
    32 bits), so the first row's callback is invoked too. -/
theorem dispatch_needs_idxBounded :
    TreeWF wrapTree ∧ LeavesNamed wrapTree ∧ SiblingsApart wrapTree ∧
    ([1], [47, 97, 52, 50, 57, 52, 57, 54, 55, 50, 57, 55]) ∈ enumerate wrapTree [47] ∧
    ¬ IdxBounded [97, 52, 50, 57, 52, 57, 54, 55, 50, 57, 55] ∧
    dispatchSim (toPorts wrapTree) [47, 97, 52, 50, 57, 52, 57, 54, 55, 50, 57, 55] [] = some [[0], [1]] := by
  refine ⟨by decide +kernel, by decide +kernel, wrapTree_apart, by decide +kernel, ?_, by decide +kernel⟩
  intro h
  have := h [97] [52, 50, 57, 52, 57, 54, 55, 50, 57, 55] [] (by simp) (by decide +kernel)
  revert this
  decide

/-- `wrapTree` is what `DigitsShort` excludes -/
example : ¬ DigitsShort wrapTree := by decide +kernel

/-! ## Clause 4: pruning by the runtime object -/

/-- The clause as the statement reads, on the abstract runtime: a walk with a runtime object
    reports exactly `prunedFull` — `enumerate` without the sub-trees whose object pointer is
    NULL or whose "enabled by" port answers false (an enabling port that lives inside the
    table it disables is still reported, as ports.cpp documents).
    Quantified over: well-formed trees without a leaf name with several '#' (finding C09-K1);
    table addresses "/" or "/c1/…/cn/" with ordinary components (`PathPrefix`: `collapsePath`
    is applied to them); buffers with room for the longest address; addresses of at most 1014
    characters (`SCRATCH`: `walk_ports_recurse` copies them into `char[1024]`); runtime
    objects and guards for which `port_is_enabled` is defined (`GuardsOK`: metadata readable,
    sub-tree names of one path component, every "enabled by" names a row of the table that
    contains the guarded port or — `name/port`, name without '#' — of the guarded sub-tree's own
    table, and the object says what that port answers and which child object every sub-tree
    port has). -/
def walk_prunes_statement : Prop :=
  ∀ (ts : List STree) (obj : Obj) (pre J : Buf), TreeWF ts → multiHashLeafList ts = false →
    PathPrefix pre → needList ts ≤ J.length → pre.length + needList ts + 10 ≤ SCRATCH → GuardsOK ts obj →
    ∃ b', walkPorts {} (toPorts ts) (some obj) (pre ++ 0 :: J) = .ok (prunedFull pre [] (toPorts ts) ts (some obj), b') ∧
      cstrAt b' 0 = .ok pre ∧ b'.length = (pre ++ 0 :: J).length

/-- **walk_prunes**: the pruning clause, for NULL pointers and toggles (T / F / integer answers)
    at every depth; the buffer is restored as in the static walk. -/
theorem walk_prunes : walk_prunes_statement := by
  intro ts obj pre J hwf hmh hpre hcap hlen hg
  have habs : absPorts ts pre (some obj) = .ok (prunedFull pre [] (toPorts ts) ts (some obj)) := by
    rw [absPorts, abs_full.2 ts (toPorts ts) [] obj 0 pre hwf hmh hg.2 List.drop_zero hpre]
    exact selfGate (toPorts ts) [] obj pre _ hpre hg.1
  obtain ⟨b', h, H⟩ := walkPorts_abs ts (some obj) pre J _ hwf ⟨by obtain ⟨cs, _, rfl⟩ := hpre; simp, hpre.nulFree⟩
    hcap (fun _ => hlen) habs
  exact ⟨b', h, H.restored hpre.nulFree⟩

/-- **walk_prunes_partial** (NULL pointers, whole tree, any prefix and any sub-tree names, K1 leaves
    included): for every well-formed tree none of
    whose ports carries an "enabled by" property (`NoGuards`), every runtime object that
    defines the child object of every sub-tree port it is asked for (`RuntimeDefined`), the
    walk reports exactly `prunedList`: a sub-tree whose object pointer is NULL is skipped,
    every other sub-tree is visited with its own child object — at every depth. -/
theorem walk_prunes_partial (ts : List STree) (rt : Option Obj) (pre J : Buf) (hwf : TreeWF ts)
    (hng : NoGuards ts = true) (hpre : PrefixOk pre) (hcap : needList ts ≤ J.length)
    (hlen : pre.length + needList ts + 10 ≤ SCRATCH) (hdef : RuntimeDefined ts rt) :
    ∃ J', walkPorts {} (toPorts ts) rt (pre ++ 0 :: J) = .ok (prunedList pre [] rt ts 0, pre ++ 0 :: J') ∧
      J'.length = J.length := by
  obtain ⟨b', h, H⟩ := walkPorts_pruned ts rt pre J hwf (Or.inr hng) hdef hpre hcap (fun _ => hlen)
  obtain ⟨J', rfl, l⟩ := H.cut
  exact ⟨J', h, l⟩

/-- **walk_prunes_gate** (one level): what `walk_ports_recurse` decides for a sub-tree
    port once its address (`loc`, short enough for the scratch buffer) is in the buffer — NULL
    child object: skipped without a call;
    child object present and the "enabled by" test false: skipped (with the calls that test
    made); otherwise: the sub-table is walked with the child object. -/
theorem walk_prunes_gate (p : PortT) (i : Nat) (b : Buf) (base : List PortT) (path : List Nat)
    (obj : Obj) (oldEnd : Nat) (loc relAddr : Bytes) (hloc : cstrAt b 0 = .ok loc) (hfit : loc.length + 10 ≤ SCRATCH)
    (hrel : cstrAt b oldEnd = .ok relAddr) :
    (obj.kid relAddr = some none → recurseGate p i b base path (some obj) oldEnd = .ok (none, [])) ∧
    (∀ child cs, obj.kid relAddr = some (some child) →
        portIsEnabled (some (i, p)) b base path (some obj) true (some child) = .ok (false, cs) →
        recurseGate p i b base path (some obj) oldEnd = .ok (none, cs)) ∧
    (∀ child cs, obj.kid relAddr = some (some child) →
        portIsEnabled (some (i, p)) b base path (some obj) true (some child) = .ok (true, cs) →
        recurseGate p i b base path (some obj) oldEnd = .ok (some (some child), cs)) := by
  have hf : ¬ (loc.length + 10 > SCRATCH) := by omega
  refine ⟨?_, ?_, ?_⟩
  · intro h; simp [recurseGate, hloc, hf, hrel, h]
  · intro child cs h1 h2; simp [recurseGate, hloc, hf, hrel, h1, h2]
  · intro child cs h1 h2; simp [recurseGate, hloc, hf, hrel, h1, h2]

/-- an address that does not fit the scratch buffer of `walk_ports_recurse` (more than 1014
    characters) makes the walk with a runtime object leave that buffer -/
theorem walk_scratch_limit (p : PortT) (i : Nat) (b : Buf) (base : List PortT) (path : List Nat)
    (obj : Obj) (oldEnd : Nat) (loc : Bytes) (hloc : cstrAt b 0 = .ok loc) (hbig : 1014 < loc.length) :
    recurseGate p i b base path (some obj) oldEnd = .error .oob := by
  have hf : loc.length + 10 > SCRATCH := by simp only [SCRATCH]; omega
  simp [recurseGate, hloc, hf]

/-- **walk_prunes_toggle**: the "enabled by" test of a port whose metadata names a toggle of
    the same table (`ask`, row `k`; not a sub-port of the port itself) answers what that toggle
    answers on the table's runtime object; the only call it makes is for a disabling toggle of
    the table's own `self:` port (`rel = false`), reported under the collapsed address. -/
theorem walk_prunes_toggle (i : Nat) (p : PortT) (b : Buf) (base : List PortT) (path : List Nat)
    (obj : Obj) (rel : Bool) (portRt : Option Obj) (mptr : Meta.Ptr) (ep loc collapsed : Bytes) (off k : Nat)
    (ask : PortT) (v : Bool)
    (hm : Meta.portMeta p.metadata = some mptr) (hl : Meta.lookup mptr ENABLED_BY = some (some ep))
    (hsub : (subportScan p.name ep).1 = false) (hk : index base ep = some k) (hask : base[k]? = some ask)
    (hloc : cstrAt b 0 = .ok loc)
    (hcol : collapseStr (loc ++ (if rel then DOTDOTSLASH else []) ++ ep ++ [0]) = some (off, collapsed))
    (hv : obj.toggle (lit ask.name) = some v) :
    portIsEnabled (some (i, p)) b base path (some obj) rel portRt =
      .ok (v, if !v && !rel then [(path ++ [k], collapsed)] else []) :=
  portIsEnabled_toggle i p b base path obj rel portRt mptr ep loc collapsed off k ask v hm hl hsub hk hask hloc hcol hv

/-- **walk_prunes_subport_toggle**: when the metadata of a sub-tree port names a toggle *inside*
    the sub-tree (`name/toggle`; `ask` is row `k` of the sub-table), the toggle is asked on the
    sub-tree's own object `child` — the unrepaired code asked the parent's object
    (fixes/C09-enabled-subport-runtime.patch) —, and a toggle that answers false is itself
    still reported. -/
theorem walk_prunes_subport_toggle (i : Nat) (p : PortT) (b : Buf) (base : List PortT) (path : List Nat)
    (obj child : Obj) (mptr : Meta.Ptr) (ep e loc collapsed : Bytes) (off j k : Nat) (q ask : PortT) (v : Bool)
    (hm : Meta.portMeta p.metadata = some mptr) (hl : Meta.lookup mptr ENABLED_BY = some (some ep))
    (hsub : subportScan p.name ep = (true, e)) (hj : index base p.name = some j) (hq : base[j]? = some q)
    (hqp : q.hasPorts = true) (hk : index q.children (e.drop 1) = some k) (hask : q.children[k]? = some ask)
    (hloc : cstrAt b 0 = .ok loc)
    (hcol : collapseStr (loc ++ DOTDOTSLASH ++ ep ++ [0]) = some (off, collapsed))
    (hv : child.toggle (lit ask.name) = some v) :
    portIsEnabled (some (i, p)) b base path (some obj) true (some child) =
      .ok (v, if !v then [(path ++ [j] ++ [k], collapsed)] else []) :=
  portIsEnabled_subport_toggle i p b base path obj child mptr ep e loc collapsed off j k q ask v hm hl hsub hj hq hqp
    hk hask hloc hcol hv

/-! ## Remarks outside the statement (recorded, not alarms) -/

/-- The buffer need is exact: with one byte less the walk leaves the buffer
    (tree `a#2/ → x#12`, prefix "/": the longest address "/a0/x11" has 7 characters). -/
theorem walk_needs_room :
    needList [.sub ⟨[97], [([50], [])], true, none⟩ none [.leaf ⟨[120], [([49, 50], [])], false, none⟩ none]] = 6 ∧
    (walkPorts {} (toPorts [.sub ⟨[97], [([50], [])], true, none⟩ none [.leaf ⟨[120], [([49, 50], [])], false, none⟩ none]])
      none ([47] ++ 0 :: List.replicate 6 0)).toOption.map (·.1.length) = some 24 ∧
    isOob (walkPorts {} (toPorts [.sub ⟨[97], [([50], [])], true, none⟩ none [.leaf ⟨[120], [([49, 50], [])], false, none⟩ none]])
      none ([47] ++ 0 :: List.replicate 5 0)) = true := by
  refine ⟨by decide +kernel, by decide +kernel, by decide +kernel⟩

/-- An empty buffer must be followed by a second NUL: `walk_ports` writes the root '/'
    without a terminator (ports.h: "must be reset to zero over the full length").  With
    "\0zz" the walk runs off the block. -/
theorem empty_buffer_needs_zero :
    isOob (walkPorts {} (toPorts [.leaf ⟨[120], [], false, none⟩ none]) none [0, 122, 122]) = true := by
  decide +kernel

/-- A sub-tree name that begins with '#' is outside `TreeWF`: the search for the next '#'
    starts at the second character, so `#2/` is copied literally. -/
theorem leading_hash_literal :
    (walkPorts {} [.mk [35, 50, 47] none true [.mk [120] none false []]] none ([47] ++ List.replicate 8 0)).toOption.map (·.1)
      = some [([0, 0], [47, 35, 50, 47, 120])] := by
  decide +kernel

/-! ## Non-vacuity -/

/-- `a#3/b#2/c/` → { `x#2y:i`, `e/f/` },  `z#2`,  `k#2b/:i` → { `w` } -/
def exTree : List STree :=
  [.sub ⟨[97], [([51], [47, 98]), ([50], [47, 99])], true, none⟩ none
      [.leaf ⟨[120], [([50], [121])], false, some [[105]]⟩ none, .leaf ⟨[101, 47, 102], [], true, none⟩ none],
   .leaf ⟨[122], [([50], [])], false, none⟩ none,
   .sub ⟨[107], [([50], [98])], true, some [[105]]⟩ none [.leaf ⟨[119], [], false, none⟩ none]]

example : TreeWF exTree := by decide +kernel
example : multiHashLeafList exTree = false := by decide +kernel
example : (toPorts exTree).map (·.name) =
    [[97, 35, 51, 47, 98, 35, 50, 47, 99, 47], [122, 35, 50], [107, 35, 50, 98, 47, 58, 105]] := by decide +kernel
example : needList exTree = 12 := by decide +kernel
example : PrefixOk [47] := prefixOk_root
example : (enumerate exTree [47]).length = 22 := by decide +kernel
example : countList exTree = 22 := by decide +kernel
/-- "/a2/b1/c/x1y" is reported for the port with index path 0.0 -/
example : ([0, 0], [47, 97, 50, 47, 98, 49, 47, 99, 47, 120, 49, 121]) ∈ enumerate exTree [47] := by decide +kernel
example : IdxBounded [97, 50, 47, 98, 49, 47, 99, 47, 120, 49, 121] := idxBounded_of_check (by decide +kernel)
/-- the model on this tree, in a buffer of exactly the needed size with junk behind the terminator -/
example : (walkPorts {} (toPorts exTree) none ([47] ++ 0 :: List.replicate 12 0x55)).toOption.map (·.1)
    = some (enumerate exTree [47]) := by decide +kernel
/-- the rows of `exTree` are pairwise apart by the decidable criterion -/
example : headsApart ⟨[97], [([51], [47, 98]), ([50], [47, 99])], true, none⟩ ⟨[122], [([50], [])], false, none⟩ = true := by
  decide +kernel

example : LeavesNamed exTree := by decide +kernel
example : HeadsApart exTree := by decide +kernel
example : DigitsShort exTree := by decide +kernel
/-- dispatch of "/a2/b1/c/x1y" (port 0.0, `x#2y:i` below `a#3/b#2/c/`): with the tag `i` exactly that
    port, without it no port -/
example : admittedAlong [105] [0, 0] exTree = true := by decide +kernel
example : dispatchSim (toPorts exTree) [47, 97, 50, 47, 98, 49, 47, 99, 47, 120, 49, 121] [105] = some [[0, 0]] := by
  decide +kernel
example : admittedAlong [] [0, 0] exTree = false := by decide +kernel
example : dispatchSim (toPorts exTree) [47, 97, 50, 47, 98, 49, 47, 99, 47, 120, 49, 121] [] = some [] := by decide +kernel
/-- `k#2b/:i` is a typed sub-tree port: "/k1b/w" reaches `w` only with the tag `i` -/
example : typesAlong [2, 0] exTree = [some [[105]], none] := by decide +kernel
example : dispatchSim (toPorts exTree) [47, 107, 49, 98, 47, 119] [105] = some [[2, 0]] := by decide +kernel
example : dispatchSim (toPorts exTree) [47, 107, 49, 98, 47, 119] [] = some [] := by decide +kernel

/-- a runtime for `exTree` in which `a1/b0/c/` is NULL and `k0b/` is NULL -/
def exObj : Obj :=
  .mk [] [([97, 48, 47, 98, 48, 47, 99, 47], some (.mk [] [])), ([97, 48, 47, 98, 49, 47, 99, 47], some (.mk [] [])),
          ([97, 49, 47, 98, 48, 47, 99, 47], none), ([97, 49, 47, 98, 49, 47, 99, 47], some (.mk [] [])),
          ([97, 50, 47, 98, 48, 47, 99, 47], some (.mk [] [])), ([97, 50, 47, 98, 49, 47, 99, 47], some (.mk [] [])),
          ([107, 48, 98, 47], none), ([107, 49, 98, 47], some (.mk [] []))]

example : NoGuards exTree = true := by decide +kernel
example : RuntimeDefined exTree (some exObj) := by decide +kernel
example : (prunedList [47] [] (some exObj) exTree 0).length = 18 := by decide +kernel

/-- a guarded tree: `self:` (enabled by `on`), `on::T:F`, `a_on::T:F`, `en::i`,
    `a/` (enabled by `a_on`) → { `self:` (enabled by `t`), `t::T:F`, `v::i` },
    `x/` (enabled by `x/t`) → { `t::T:F`, `w` },  `s#2/` (enabled by `en`) → { `y` } -/
def gTree : List STree :=
  [.leaf ⟨[115, 101, 108, 102], [], false, (some [[]])⟩ (some [58, 101, 110, 97, 98, 108, 101, 100, 32, 98, 121, 0, 61, 111, 110, 0, 0]),
   .leaf ⟨[111, 110], [], false, (some [[], [84], [70]])⟩ none,
   .leaf ⟨[97, 95, 111, 110], [], false, (some [[], [84], [70]])⟩ none,
   .leaf ⟨[101, 110], [], false, (some [[], [105]])⟩ none,
   .sub ⟨[97], [], true, none⟩ (some [58, 101, 110, 97, 98, 108, 101, 100, 32, 98, 121, 0, 61, 97, 95, 111, 110, 0, 0])
      [.leaf ⟨[115, 101, 108, 102], [], false, (some [[]])⟩ (some [58, 101, 110, 97, 98, 108, 101, 100, 32, 98, 121, 0, 61, 116, 0, 0]), .leaf ⟨[116], [], false, (some [[], [84], [70]])⟩ none, .leaf ⟨[118], [], false, (some [[], [105]])⟩ none],
   .sub ⟨[120], [], true, none⟩ (some [58, 101, 110, 97, 98, 108, 101, 100, 32, 98, 121, 0, 61, 120, 47, 116, 0, 0])
      [.leaf ⟨[116], [], false, (some [[], [84], [70]])⟩ none, .leaf ⟨[119], [], false, none⟩ none],
   .sub ⟨[115], [([50], [])], true, none⟩ (some [58, 101, 110, 97, 98, 108, 101, 100, 32, 98, 121, 0, 61, 101, 110, 0, 0])
      [.leaf ⟨[121], [], false, none⟩ none]]

/-- `on` = T, `a_on` = T, `en` = 256; `a/` switches itself off (`t` = F), `x/` is switched off by
    its own `t` = F, `s0/` is NULL, `s1/` is there -/
def gObj : Obj :=
  .mk [([111, 110], .T), ([97, 95, 111, 110], .T), ([101, 110], .i 256)] [([97, 47], some (.mk [([116], .F)] [])), ([120, 47], some (.mk [([116], .F)] [])), ([115, 48, 47], none), ([115, 49, 47], some (.mk [] []))]

example : TreeWF gTree := by decide +kernel
example : multiHashLeafList gTree = false := by decide +kernel
example : GuardsOK gTree gObj := by decide +kernel
example : PathPrefix [47, 122, 122, 47] := ⟨[[122, 122]], by
  intro c hc; simp at hc; subst hc; exact compOk_of_B (by decide +kernel), by decide +kernel⟩
/-- reported: /zz/self /zz/on /zz/a_on /zz/en, the toggle /zz/a/t of the table that switches
    itself off, the toggle /zz/x/t that switches x/ off, /zz/s1/y (the integer 256 enables) -/
example : prunedFull [47, 122, 122, 47] [] (toPorts gTree) gTree (some gObj) =
    [([0], [47, 122, 122, 47, 115, 101, 108, 102]), ([1], [47, 122, 122, 47, 111, 110]),
     ([2], [47, 122, 122, 47, 97, 95, 111, 110]), ([3], [47, 122, 122, 47, 101, 110]),
     ([4, 1], [47, 122, 122, 47, 97, 47, 116]), ([5, 0], [47, 122, 122, 47, 120, 47, 116]),
     ([6, 0], [47, 122, 122, 47, 115, 49, 47, 121])] := by decide +kernel
/-- … and the model reports just that -/
example : (walkPorts {} (toPorts gTree) (some gObj) ([47, 122, 122, 47] ++ 0 :: List.replicate 12 0x55)).toOption.map (·.1)
    = some (prunedFull [47, 122, 122, 47] [] (toPorts gTree) gTree (some gObj)) := by decide +kernel

end Rtosc.Walk
