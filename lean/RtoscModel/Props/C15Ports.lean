/-
  C15 — end-to-end clause over C14's port model ("end-to-end histories in which the events
  come from C14's parameter ports and the undo messages are dispatched back into them").

  `Props/C15.lean` proves the end-to-end theorems (`chain_invariant_reachable`,
  `undo_all_restores`, `redo_all_restores`) over the hand-written application `App`
  ("a set that changes a value is recorded with the true old value").  This file proves that
  an application built from C14's real ports refines `App`:

    * the application `PApp` (RtoscModel/UndoPorts.lean): a table of ports of C14's model
      (`Param.dispatch` = the restricted `rtosc_match` + the macro-generated callbacks
      `rParamCb` / `rParamICb` / `rParamFCb` / `rOptionCb` / `rToggleCb`), whose `/undo_change`
      replies go to `UndoHistory::recordEvent` and into which the history's undo/redo messages
      are dispatched back with recording disabled — the wiring of test/undo-test.cpp and of the
      `E` lines of harness/undo.cpp;
    * the abstraction `PApp.abs`: the store of `App` holds, at the address of every port whose
      callback contains `rCAPPLY`, the 4-byte encoding of the field behind the port;
    * `port_msg_refines_set`: a message to such a port is the step `App.step (.set addr tag v)`
      with `v` = the value the port stored (C14: the clamped value): the `/undo_change` events
      the port emits are exactly the event `App.step` records — old value = the field before,
      new value = the stored value, none when the stored value did not change;
    * `ports_refine_app`: whole runs; `ports_chain_invariant_reachable`,
      `ports_undo_all_restores`, `ports_redo_all_restores`: the end-to-end theorems for
      histories of real ports.

  Domain (explicit predicates, RtoscModel/UndoPortsSpec.lean): `PortOK` — a scalar macro port
  (`rParam`, `rParamI`, `rParamF`, `rOption`, `rToggle`) whose metadata the callback can read,
  with a declared range C14's clamping theorems cover, at an address other than
  "/undo_change" that is shorter than 248 bytes; distinct addresses; `Stable` initial field
  values (inside the declared range; floats: neither NaN nor -0); `ArgsOK` messages (a query, or
  a first argument of the port's type; floats: neither NaN nor -0).  Each restriction is
  necessary: see the three `…_counterexample` theorems at the end.
-/
import RtoscModel.Props.C15
import RtoscModel.Proofs.UndoPortsKinds
namespace Rtosc.Undo
open Rtosc Rtosc.Param

/-- the port tables the theorems quantify over: macro-generated scalar ports in the domain
    of C14's theorems, at pairwise different addresses -/
structure TableOK (tbl : List PStat) : Prop where
  nodup : (tbl.map PStat.loc).Nodup
  ports : ∀ c ∈ tbl, PortOK c

/-- one field per port, each holding a stable value -/
def FieldsOK (tbl : List PStat) (fs : List Field) : Prop :=
  fs.length = tbl.length ∧ ∀ (i : Nat) c f, tbl[i]? = some c → fs[i]? = some f → Stable c f

/-- the operation lists the theorems quantify over: messages in the domain `ArgsOK` sent to
    ports of the table, seeks of any distance, clock steps -/
def MsgsOK (tbl : List PStat) (ops : List POp) : Prop := POpsOK ArgsOK tbl ops

theorem TableOK.tblOK {tbl : List PStat} (h : TableOK tbl) : TblOK Stable ArgsOK tbl :=
  ⟨h.nodup, fun c hc => portSem_of_portOK c (h.ports c hc)⟩

theorem pinv_init {tbl : List PStat} {fs : List Field} (hf : FieldsOK tbl fs) (t0 : Int) :
    PInv Stable tbl (PApp.init fs t0) :=
  ⟨hf.1, hf.2, by intro x hx; simp [PApp.init, Undo.init] at hx⟩

/-- the state of the port application after a message reached the callback of port `i`
    (address `c.loc`), whose field went from `f` to `f'` -/
def PApp.afterMsg (P : PApp) (i : Nat) (c : PStat) (f f' : Field) : PApp :=
  { P with
    u := if c.undoable = true ∧ encFld f' ≠ encFld f
         then recordEvent P.clock ⟨c.loc, c.tag, encFld f, encFld f'⟩ P.u else P.u
    flds := P.flds.set i f' }

/-- **port_msg_refines_set** — C14's callbacks refine `App.step`: a message in the domain sent to
    port `i` of the table either does not match the port's type pattern (nothing happens), or
    runs the callback, and then
    * the field holds a stable value `f'` (C14 `stored_is_clamped_*`: the clamped value),
    * the undo history received exactly one event `<address> <tag> old = f, new = f'` if the
      port is undoable and the value changed, and nothing otherwise (C14
      `undo_event_iff_changed_*`; a toggle port never reports),
    * for an undoable port this is literally the step `App.step (.set <address> <tag> f')` of
      the hand-written application on the abstracted state. -/
theorem port_msg_refines_set (σ0 : Store) {tbl : List PStat} (ht : TableOK tbl) (P : PApp)
    (hi : PInv Stable tbl P) (i : Nat) (c : PStat) (args : List Arg)
    (hc : tbl[i]? = some c) (ha : ArgsOK c args) :
    ∃ f, P.flds[i]? = some f ∧
      (P.step tbl (.msg i args) = some (P, []) ∨
       ∃ f', Stable c f' ∧ P.step tbl (.msg i args) = some (P.afterMsg i c f f', []) ∧
         (c.undoable = true →
           (P.abs σ0 tbl).step (.set c.loc c.tag (encFld f')) = some ((P.afterMsg i c f f').abs σ0 tbl, []))) := by
  obtain ⟨f, hf, hs | ⟨f', P', hst', rfl, hs, _, hset, _⟩⟩ :=
    msg_sim σ0 ht.tblOK P hi i c args hc ha
  · exact ⟨f, hf, Or.inl hs⟩
  · exact ⟨f, hf, Or.inr ⟨f', hst', hs, hset⟩⟩

/-- **ports_refine_app** — whole histories: from stable initial fields every operation list
    in the domain runs on the port application without an error of C14's model and without an
    out-of-range access of the history, and the final state abstracts to the final state of
    the hand-written `App` run, from the abstracted initial state, on a list of fitting
    operations (by `port_msg_refines_set`: one `set address tag stored-value` per message that
    reached the callback of an undoable port, the seeks and the clock steps, in order). -/
theorem ports_refine_app (σ0 : Store) {tbl : List PStat} (ht : TableOK tbl) {fs0 : List Field}
    (hf : FieldsOK tbl fs0) (t0 : Int) (ops : List POp) (ho : MsgsOK tbl ops) :
    ∃ P ops', (PApp.init fs0 t0).run tbl ops = some P ∧ FieldsOK tbl P.flds ∧ OpsFit ops' ∧
      (App.init (absStore σ0 tbl fs0) t0).run ops' = some (P.abs σ0 tbl) := by
  obtain ⟨P, ops', h1, h2, _, h4, h5⟩ :=
    run_sim σ0 ht.tblOK ops (PApp.init fs0 t0) (pinv_init hf t0) (good_init _ t0) ho
  exact ⟨P, ops', h1, ⟨h2.len, h2.stable⟩, h4, h5⟩

/-- **ports_chain_invariant_reachable** — `chain_invariant_reachable` for real ports: every
    history of messages to C14's ports, seeks and clock steps keeps the cursor inside at
    most 20 events and keeps the chain invariant between the history and the *fields behind
    the ports* (`absStore`: each undoable port's address ↦ the encoding of its field). -/
theorem ports_chain_invariant_reachable (σ0 : Store) {tbl : List PStat} (ht : TableOK tbl)
    {fs0 : List Field} (hf : FieldsOK tbl fs0) (t0 : Int) (ops : List POp) (ho : MsgsOK tbl ops) :
    ∃ P, (PApp.init fs0 t0).run tbl ops = some P ∧ FieldsOK tbl P.flds ∧ WF P.u ∧ size P.u ≤ 20 ∧
      AddrsFit P.u ∧ Inv P.u (absStore σ0 tbl P.flds) := by
  obtain ⟨P, ops', h1, h2, hg, _, _⟩ :=
    run_sim σ0 ht.tblOK ops (PApp.init fs0 t0) (pinv_init hf t0) (good_init _ t0) ho
  exact ⟨P, h1, ⟨h2.len, h2.stable⟩, hg.wf, hg.size, hg.fit, hg.inv⟩

/-- **ports_undo_all_restores** — `undo_all_restores` for real ports: after any history in
    the domain, a seek back by at least the cursor dispatches the emitted set-messages into
    the ports, and then the field behind every undoable port that has an applied event holds
    the (stable, hence uniquely decoded: `encFld_inj`) value whose encoding is the old value of
    its *oldest* applied event; the field of every other undoable port is as it was. -/
theorem ports_undo_all_restores {tbl : List PStat} (ht : TableOK tbl) {fs0 : List Field}
    (hf : FieldsOK tbl fs0) (t0 : Int) (ops : List POp) (ho : MsgsOK tbl ops) :
    ∃ P, (PApp.init fs0 t0).run tbl ops = some P ∧
      ∀ d : Int, d ≤ -(P.u.pos : Int) →
        ∃ P' ms, P.step tbl (.seek d) = some (P', ms) ∧ P'.u = ⟨P.u.hist, 0⟩ ∧ FieldsOK tbl P'.flds ∧
          ∀ (i : Nat) c f f', tbl[i]? = some c → c.undoable = true →
            P.flds[i]? = some f → P'.flds[i]? = some f' →
            encFld f' = match oldestFor (applied P.u) c.loc with
                        | some x => x.2.old
                        | none => encFld f := by
  let σ0 : Store := fun _ => 0
  obtain ⟨P, ops', h1, hi, hg, _, _⟩ :=
    run_sim σ0 ht.tblOK ops (PApp.init fs0 t0) (pinv_init hf t0) (good_init _ t0) ho
  refine ⟨P, h1, ?_⟩
  intro d hd
  obtain ⟨ms, hsk, hap⟩ := undo_all_restores P.u hg.wf hg.fit d hd
  obtain ⟨fs', hs1, hs2, hs3, hs4⟩ := seek_sim σ0 ht.tblOK P hi hg.wf d _ ms hsk
  refine ⟨_, ms, hs1, rfl, ⟨hs2, hs3⟩, ?_⟩
  intro i c f f' hc hu hfi hfi'
  have h1 := absStore_at σ0 tbl fs' i c f' ht.nodup hc hfi' hu
  have h2 := absStore_at σ0 tbl P.flds i c f ht.nodup hc hfi hu
  rw [← h1, hs4, hap]
  cases oldestFor (applied P.u) c.loc with
  | none => exact h2
  | some x => rfl

/-- **ports_redo_all_restores** — `redo_all_restores` for real ports: a seek forward to the
    end leaves the field behind every undoable port that has an undone event at the value
    whose encoding is the new value of its *newest* event, every other undoable port as it was. -/
theorem ports_redo_all_restores {tbl : List PStat} (ht : TableOK tbl) {fs0 : List Field}
    (hf : FieldsOK tbl fs0) (t0 : Int) (ops : List POp) (ho : MsgsOK tbl ops) :
    ∃ P, (PApp.init fs0 t0).run tbl ops = some P ∧
      ∀ d : Int, (P.u.hist.length : Int) - (P.u.pos : Int) ≤ d →
        ∃ P' ms, P.step tbl (.seek d) = some (P', ms) ∧ P'.u = ⟨P.u.hist, P.u.hist.length⟩ ∧
          FieldsOK tbl P'.flds ∧
          ∀ (i : Nat) c f f', tbl[i]? = some c → c.undoable = true →
            P.flds[i]? = some f → P'.flds[i]? = some f' →
            encFld f' = match newestFor (undone P.u) c.loc with
                        | some x => x.2.new
                        | none => encFld f := by
  let σ0 : Store := fun _ => 0
  obtain ⟨P, ops', h1, hi, hg, _, _⟩ :=
    run_sim σ0 ht.tblOK ops (PApp.init fs0 t0) (pinv_init hf t0) (good_init _ t0) ho
  refine ⟨P, h1, ?_⟩
  intro d hd
  obtain ⟨ms, hsk, hap⟩ := redo_all_restores P.u hg.wf hg.fit d hd
  obtain ⟨fs', hs1, hs2, hs3, hs4⟩ := seek_sim σ0 ht.tblOK P hi hg.wf d _ ms hsk
  refine ⟨_, ms, hs1, rfl, ⟨hs2, hs3⟩, ?_⟩
  intro i c f f' hc hu hfi hfi'
  have h1 := absStore_at σ0 tbl fs' i c f' ht.nodup hc hfi' hu
  have h2 := absStore_at σ0 tbl P.flds i c f ht.nodup hc hfi hu
  rw [← h1, hs4, hap]
  cases newestFor (undone P.u) c.loc with
  | none => exact h2
  | some x => rfl

/-- **ports_undo_redo_roundtrip** — undoing `k ≤ pos` steps and redoing them gives back the
    field behind every undoable port (and the history state). -/
theorem ports_undo_redo_roundtrip {tbl : List PStat} (ht : TableOK tbl) {fs0 : List Field}
    (hf : FieldsOK tbl fs0) (t0 : Int) (ops : List POp) (ho : MsgsOK tbl ops) :
    ∃ P, (PApp.init fs0 t0).run tbl ops = some P ∧
      ∀ k : Nat, k ≤ P.u.pos →
        ∃ P1 ms1 P2 ms2, P.step tbl (.seek (-(k : Int))) = some (P1, ms1) ∧
          P1.step tbl (.seek (k : Int)) = some (P2, ms2) ∧ P2.u = P.u ∧
          ∀ (i : Nat) c f f', tbl[i]? = some c → c.undoable = true →
            P.flds[i]? = some f → P2.flds[i]? = some f' → f' = f := by
  let σ0 : Store := fun _ => 0
  obtain ⟨P, ops', h1, hi, hg, _, _⟩ :=
    run_sim σ0 ht.tblOK ops (PApp.init fs0 t0) (pinv_init hf t0) (good_init _ t0) ho
  refine ⟨P, h1, ?_⟩
  intro k hk
  obtain ⟨s1, ms1, ms2, hb, hfw, hrt⟩ := undo_redo_roundtrip P.u _ hg.wf hg.fit hg.inv k hk
  obtain ⟨fs1, hs1, hl1, hst1, ha1⟩ := seek_sim σ0 ht.tblOK P hi hg.wf _ _ ms1 hb
  have hh := seek_hist P.u s1 _ ms1 hg.wf hb
  have hi1 : PInv Stable tbl { P with u := s1, flds := fs1 } :=
    ⟨hl1, hst1, by intro x hx; exact hi.hist x (by rw [← hh.1]; exact hx)⟩
  obtain ⟨fs2, hs2, _, hst2, ha2⟩ := seek_sim σ0 ht.tblOK _ hi1 hh.2 _ _ ms2 hfw
  refine ⟨_, ms1, _, ms2, hs1, hs2, rfl, ?_⟩
  intro i c f f' hc hu hfi hfi'
  have e1 := absStore_at σ0 tbl fs2 i c f' ht.nodup hc hfi' hu
  have e2 := absStore_at σ0 tbl P.flds i c f ht.nodup hc hfi hu
  have : encFld f' = encFld f := by
    rw [← e1, ha2]
    show applyEmits (absStore σ0 tbl fs1) ms2 c.loc = _
    have hrt' : applyEmits (applyEmits (absStore σ0 tbl P.flds) ms1) ms2 = absStore σ0 tbl P.flds := hrt
    rw [ha1, hrt', e2]
  exact encFld_inj c hu f' f (hst2 i c f' hc hfi') (hi.stable i c f hc hfi) this

/-! ### Non-vacuity: the object of harness/undo.cpp (`rParam(a)`, `rParamI(i)`) plus an
    `rParamF`, an `rOption` and an `rToggle` port -/

/-- metadata of `rParam(a, "a")`: `:parameter :min=0 :max=127 :documentation=a` -/
def exBlkParam : Bytes :=
  [58, 112, 97, 114, 97, 109, 101, 116, 101, 114, 0, 58, 109, 105, 110, 0, 61, 48, 0, 58, 109, 97, 120, 0, 61, 49, 50, 55, 0, 58, 100, 111, 99, 117, 109, 101, 110, 116, 97, 116, 105, 111, 110, 0, 61, 97, 0, 0]
/-- metadata of `rParamI(i, "i")`: `:parameter :documentation=i` -/
def exBlkParamI : Bytes :=
  [58, 112, 97, 114, 97, 109, 101, 116, 101, 114, 0, 58, 100, 111, 99, 117, 109, 101, 110, 116, 97, 116, 105, 111, 110, 0, 61, 105, 0, 0]

/-- `rParam(a, "a")` on a `char` field at "/a" -/
def exA : PStat := ⟨{ kind := .param, ty := .i8, len := 0, pattern := [97, 58, 58, 99], block := exBlkParam }, [47], [97]⟩
/-- `rParamI(i, "i")` on an `int` field at "/i" -/
def exI : PStat := ⟨{ kind := .paramI, ty := .i32, len := 0, pattern := [105, 58, 58, 105], block := exBlkParamI }, [47], [105]⟩
/-- `rParamF(f, rLinear(-1.5, 2.25), "d")` at "/f" (C14's `exBlockF`) -/
def exF : PStat := ⟨{ kind := .paramF, ty := .i32, len := 0, pattern := [102, 58, 58, 102], block := exBlockF }, [47], [102]⟩
/-- `rOption(o, rOptions(red, blue), rLinear(0, 1), "d")` on a `char` field at "/o" (C14's `exBlockO`) -/
def exO : PStat := ⟨{ kind := .option, ty := .i8, len := 0, pattern := [111, 58, 58, 105, 58, 99, 58, 83], block := exBlockO }, [47], [111]⟩
/-- `rToggle(t, "t")` at "/t" -/
def exT : PStat := ⟨{ kind := .toggle, ty := .i32, len := 0, pattern := [116, 58, 58, 84, 58, 70], block := exBlkParamI }, [47], [116]⟩

def exTbl : List PStat := [exA, exI, exF, exO, exT]

theorem exA_lo : bound atoi (pmOf exA) kMin = .ok (iLo exA) ∧ iLo exA = some 0 := iLo_ok exA _ (by decide +kernel)
theorem exA_hi : bound atoi (pmOf exA) kMax = .ok (iHi exA) ∧ iHi exA = some 127 := iHi_ok exA _ (by decide +kernel)
theorem exI_lo : bound atoi (pmOf exI) kMin = .ok (iLo exI) ∧ iLo exI = none := iLo_ok exI _ (by decide +kernel)
theorem exI_hi : bound atoi (pmOf exI) kMax = .ok (iHi exI) ∧ iHi exI = none := iHi_ok exI _ (by decide +kernel)
theorem exF_lo : bound atofF32 (pmOf exF) kMin = .ok (fLo exF) ∧ fLo exF = some 0xbfc00000 :=
  fLo_ok exF _ (by decide +kernel)
theorem exF_hi : bound atofF32 (pmOf exF) kMax = .ok (fHi exF) ∧ fHi exF = some 0x40100000 :=
  fHi_ok exF _ (by decide +kernel)
theorem exO_lo : bound atoi (pmOf exO) kMin = .ok (iLo exO) ∧ iLo exO = some 0 := iLo_ok exO _ (by decide +kernel)
theorem exO_hi : bound atoi (pmOf exO) kMax = .ok (iHi exO) ∧ iHi exO = some 1 := iHi_ok exO _ (by decide +kernel)

theorem exA_ok : PortOK exA := by
  obtain ⟨l1, l2⟩ := exA_lo
  obtain ⟨h1, h2⟩ := exA_hi
  refine ⟨by decide +kernel, (by unfold PlainName; decide), blk_of_isSome exA (by decide +kernel), by decide +kernel, by decide +kernel, ?_⟩
  have hk : exA.port.kind = .param := rfl
  simp only [KindOK, hk]
  refine ⟨l1, h1, ?_, ?_, ?_⟩
  · intro l hl; rw [l2] at hl; cases hl; decide
  · intro h hh; rw [h2] at hh; cases hh; decide
  · intro l h hl hh; rw [l2] at hl; rw [h2] at hh; cases hl; cases hh; decide

theorem exI_ok : PortOK exI := by
  obtain ⟨l1, l2⟩ := exI_lo
  obtain ⟨h1, h2⟩ := exI_hi
  refine ⟨by decide +kernel, (by unfold PlainName; decide), blk_of_isSome exI (by decide +kernel), by decide +kernel, by decide +kernel, ?_⟩
  have hk : exI.port.kind = .paramI := rfl
  simp only [KindOK, hk]
  refine ⟨l1, h1, ?_, ?_, ?_⟩
  · intro l hl; rw [l2] at hl; cases hl
  · intro h hh; rw [h2] at hh; cases hh
  · intro l h hl; rw [l2] at hl; cases hl

theorem exF_ok : PortOK exF := by
  obtain ⟨l1, l2⟩ := exF_lo
  obtain ⟨h1, h2⟩ := exF_hi
  refine ⟨by decide +kernel, (by unfold PlainName; decide), blk_of_isSome exF (by decide +kernel), by decide +kernel, by decide +kernel, ?_⟩
  have hk : exF.port.kind = .paramF := rfl
  simp only [KindOK, hk]
  refine ⟨l1, h1, ?_, ?_⟩
  · intro l hl; rw [l2] at hl; cases hl; decide
  · intro h hh; rw [h2] at hh; cases hh; decide

theorem exO_ok : PortOK exO := by
  obtain ⟨l1, l2⟩ := exO_lo
  obtain ⟨h1, h2⟩ := exO_hi
  refine ⟨by decide +kernel, (by unfold PlainName; decide), blk_of_isSome exO (by decide +kernel), by decide +kernel, by decide +kernel, ?_⟩
  have hk : exO.port.kind = .option := rfl
  simp only [KindOK, hk]
  refine ⟨l1, h1, ?_, ?_⟩
  · intro l hl; rw [l2] at hl; cases hl; decide
  · intro h hh; rw [h2] at hh; cases hh; decide

theorem exT_ok : PortOK exT :=
  ⟨by decide +kernel, (by unfold PlainName; decide), blk_of_isSome exT (by decide +kernel), by decide +kernel, by decide +kernel, by have hk : exT.port.kind = .toggle := rfl; simp only [KindOK, hk]⟩

/-- the hypotheses of all theorems above are satisfiable together -/
theorem exTbl_ok : TableOK exTbl := by
  refine ⟨by decide +kernel, ?_⟩
  intro c hc
  simp only [exTbl, List.mem_cons, List.not_mem_nil, or_false] at hc
  rcases hc with rfl | rfl | rfl | rfl | rfl
  · exact exA_ok
  · exact exI_ok
  · exact exF_ok
  · exact exO_ok
  · exact exT_ok

/-- initial fields `a = 0`, `i = 0`, `f = 0.0`, `o = 0`, `t = false` -/
def exFlds : List Field := [.ints [0], .ints [0], .flts [0], .ints [0], .bools [false]]

theorem exA_stable0 : Stable exA (.ints [0]) := by
  have hk : exA.port.kind = .param := rfl
  simp only [Stable, hk, StableI, exA_lo.2, exA_hi.2]; decide
theorem exI_stable0 : Stable exI (.ints [0]) := by
  have hk : exI.port.kind = .paramI := rfl
  simp only [Stable, hk, StableI, exI_lo.2, exI_hi.2]; decide
theorem exF_stable0 : Stable exF (.flts [0]) := by
  have hk : exF.port.kind = .paramF := rfl
  simp only [Stable, hk, StableF, exF_lo.2, exF_hi.2]; decide
theorem exO_stable0 : Stable exO (.ints [0]) := by
  have hk : exO.port.kind = .option := rfl
  simp only [Stable, hk, StableI, exO_lo.2, exO_hi.2]; decide
theorem exT_stable (b : Bool) : Stable exT (.bools [b]) := by
  have hk : exT.port.kind = .toggle := rfl
  simp only [Stable, hk, StableT]

/-- the initial fields are stable -/
theorem exFlds_ok : FieldsOK exTbl exFlds := by
  refine ⟨rfl, ?_⟩
  intro i c f hc hf
  match i, hc, hf with
  | 0, hc, hf => cases hc; cases hf; exact exA_stable0
  | 1, hc, hf => cases hc; cases hf; exact exI_stable0
  | 2, hc, hf => cases hc; cases hf; exact exF_stable0
  | 3, hc, hf => cases hc; cases hf; exact exO_stable0
  | 4, hc, hf => cases hc; cases hf; exact exT_stable false
  | n + 5, hc, _ => simp [exTbl] at hc

/-- a history in the domain: `a ← 100`, `i ← 7`, 5 s, `a ← 300` (a `char`: 44), `t ← true`,
    `f ← 7.0` (clamped to 2.25), `o ← 5` (clamped to 1), a query, undo all, redo all -/
def exOps : List POp :=
  [.msg 0 [.c 100], .msg 1 [.i 7], .tick 5, .msg 0 [.c 300], .msg 4 [.T], .msg 2 [.f 0x40e00000],
   .msg 3 [.i 5], .msg 1 [], .seek (-100), .seek 100]

example : MsgsOK exTbl exOps := by
  intro o ho
  simp only [exOps, List.mem_cons, List.not_mem_nil, or_false] at ho
  rcases ho with rfl | rfl | rfl | rfl | rfl | rfl | rfl | rfl | rfl | rfl
  · exact ⟨exA, rfl, Or.inr ⟨_, _, 100, rfl, rfl⟩⟩
  · exact ⟨exI, rfl, Or.inr ⟨_, _, 7, rfl, rfl⟩⟩
  · trivial
  · exact ⟨exA, rfl, Or.inr ⟨_, _, 300, rfl, rfl⟩⟩
  · exact ⟨exT, rfl, Or.inr ⟨_, _, true, rfl, rfl⟩⟩
  · exact ⟨exF, rfl, Or.inr ⟨_, _, rfl, by decide +kernel⟩⟩
  · exact ⟨exO, rfl, Or.inr ⟨_, _, 5, rfl, Or.inl rfl, by decide +kernel⟩⟩
  · exact ⟨exI, rfl, Or.inl rfl⟩
  · trivial
  · trivial

/-- what is observable of a run: the history and the fields -/
def observe (r : Option PApp) : Option (State × List Field) := r.map fun P => (P.u, P.flds)

/-- the model computes: the run above records five events (the toggle none, the query none),
    undo-all restores every undoable field to its initial value, redo-all to the latest -/
example : observe ((PApp.init exFlds 0).run exTbl (exOps.take 9)) =
    some (⟨[(0, ⟨[47, 97], 99, 0, 100⟩), (0, ⟨[47, 105], 105, 0, 7⟩), (5, ⟨[47, 97], 99, 100, 44⟩),
            (5, ⟨[47, 102], 102, 0, 0x40100000⟩), (5, ⟨[47, 111], 105, 0, 1⟩)], 0⟩,
          [.ints [0], .ints [0], .flts [0], .ints [0], .bools [true]]) := by decide +kernel
example : observe ((PApp.init exFlds 0).run exTbl exOps) =
    some (⟨[(0, ⟨[47, 97], 99, 0, 100⟩), (0, ⟨[47, 105], 105, 0, 7⟩), (5, ⟨[47, 97], 99, 100, 44⟩),
            (5, ⟨[47, 102], 102, 0, 0x40100000⟩), (5, ⟨[47, 111], 105, 0, 1⟩)], 5⟩,
          [.ints [44], .ints [7], .flts [0x40100000], .ints [1], .bools [true]]) := by decide +kernel

/-! ### The restrictions are necessary: three findings about the ports (each evaluated on the model)

  The hand-written `App.step` ("a change is recorded with the true old value, and a
  set-message dispatched back stores its value") is *not* refined by C14's ports outside the
  domain above.  None of the three is a defect of `UndoHistory`; they are properties of the
  port macros that an application using undo has to know. -/

/-- **Finding 1 — an initial value outside the declared range is not restored.**  An
    `rOption` port declared `0..1` whose field starts at 5 (e.g. set by a constructor): the
    message `o ← 1` is recorded as `5 → 1`; undoing it sends `o ← 5`, which the port clamps to
    1.  All hypotheses of `ports_undo_all_restores` hold except `FieldsOK` (5 is not `Stable`),
    and its conclusion fails: the field is 1, the old value of the oldest applied event is 5. -/
theorem undo_all_unstable_initial_counterexample :
    TableOK [exO] ∧ MsgsOK [exO] [.msg 0 [.i 1]] ∧ ¬ Stable exO (.ints [5]) ∧
    observe ((PApp.init [.ints [5]] 0).run [exO] [.msg 0 [.i 1], .seek (-1)]) =
      some (⟨[(0, ⟨[47, 111], 105, 5, 1⟩)], 0⟩, [.ints [1]]) := by
  refine ⟨⟨by decide +kernel, ?_⟩, ?_, ?_, by decide +kernel⟩
  · intro c hc; simp only [List.mem_cons, List.not_mem_nil, or_false] at hc; subst hc; exact exO_ok
  · intro o ho; simp only [List.mem_cons, List.not_mem_nil, or_false] at ho; subst ho
    exact ⟨exO, rfl, Or.inr ⟨_, _, 1, rfl, Or.inl rfl, by decide +kernel⟩⟩
  · have hk : exO.port.kind = .option := rfl
    simp only [Stable, hk, StableI, exO_lo.2, exO_hi.2]; decide

/-- **Finding 2 — `+0.0 → -0.0` on an `rParamF` port changes the stored bits without an undo
    event** (`rCAPPLY` compares with the IEEE `!=`), whereas `App.step` on the abstracted state
    records the change; a later redo then returns `+0.0` where the field held `-0.0`.  This is
    why `ArgsOK` / `Stable` / `KindOK` exclude `-0.0` (and NaN, which is reported as changed
    even when the bits are equal): modulo IEEE equality the port does refine `App.step`. -/
theorem negzero_not_recorded_counterexample :
    TableOK [exF] ∧ FieldsOK [exF] [.flts [0]] ∧ ¬ ArgsOK exF [.f 0x80000000] ∧
    observe ((PApp.init [.flts [0]] 0).run [exF] [.msg 0 [.f 0x80000000]]) =
      some (⟨[], 0⟩, [.flts [0x80000000]]) ∧
    ((App.init (absStore (fun _ => 0) [exF] [.flts [0]]) 0).step (.set exF.loc 102 0x80000000)).map
      (fun r => r.1.u) = some ⟨[(0, ⟨exF.loc, 102, 0, 0x80000000⟩)], 1⟩ := by
  refine ⟨⟨by decide +kernel, ?_⟩, ⟨rfl, ?_⟩, ?_, by decide +kernel, by decide +kernel⟩
  · intro c hc; simp only [List.mem_cons, List.not_mem_nil, or_false] at hc; subst hc; exact exF_ok
  · intro i c f hc hf
    match i, hc, hf with
    | 0, hc, hf => cases hc; cases hf; exact exF_stable0
    | n + 1, hc, _ => simp at hc
  · have hk : exF.port.kind = .paramF := rfl
    simp only [ArgsOK, hk]
    intro h
    rcases h with h | ⟨rest, b, h, hb⟩
    · cases h
    · cases h; exact hb.2 rfl

/-- **Finding 3 — `rToggle` ports are not undoable**: `rToggleCb` has no `rCAPPLY`, so a
    toggle change is broadcast but never reaches the undo history.  All hypotheses hold; the
    field changed, the history is empty, undoing everything leaves the new value.  This is why
    the theorems speak about `c.undoable` ports only. -/
theorem toggle_not_recorded_counterexample :
    TableOK [exT] ∧ FieldsOK [exT] [.bools [false]] ∧ MsgsOK [exT] [.msg 0 [.T], .seek (-1)] ∧
    observe ((PApp.init [.bools [false]] 0).run [exT] [.msg 0 [.T], .seek (-1)]) =
      some (⟨[], 0⟩, [.bools [true]]) := by
  refine ⟨⟨by decide +kernel, ?_⟩, ⟨rfl, ?_⟩, ?_, by decide +kernel⟩
  · intro c hc; simp only [List.mem_cons, List.not_mem_nil, or_false] at hc; subst hc; exact exT_ok
  · intro i c f hc hf
    match i, hc, hf with
    | 0, hc, hf => cases hc; cases hf; exact exT_stable false
    | n + 1, hc, _ => simp at hc
  · intro o ho; simp only [List.mem_cons, List.not_mem_nil, or_false] at ho
    rcases ho with rfl | rfl
    · exact ⟨exT, rfl, Or.inr ⟨_, _, true, rfl, rfl⟩⟩
    · trivial

end Rtosc.Undo
