/-
  C15 — Undo history rewinds and replays recorded changes exactly.
  Property theorems only; definitions are in RtoscModel/Undo.lean (model of
  src/cpp/undo-history.cpp with fixes/C15-merge-scan.patch) and RtoscModel/UndoSpec.lean
  (vocabulary of the statement); helper lemmas in Proofs/UndoLemmas.lean.

  Reading of the statement.  A history is a list of events, oldest first, and a cursor
  `pos`; `applied s` are the events before the cursor, `undone s` those after it.  All
  theorems hold for every state with `WF s` (cursor inside the history) — which is every
  state reachable through the public interface (`reachable_wf`) — and for histories of any
  length.  "Sets its address to the old value" is the message `undoMsg e`; the code can only
  build it when it fits its 256-byte buffer (`AddrsFit`: addresses shorter than 248 bytes).
  The constants 20 and 2 are `Generated.maxHistory` / `Generated.mergeWindow`, regenerated
  from the source on every run; `cap_retained` and `merge_within_window` tie them to the
  numbers of the statement.
-/
import RtoscModel.Proofs.UndoLemmas
namespace Rtosc.Undo
open Rtosc

/-- Every state reachable from a fresh `UndoHistory` by `recordEvent`/`seekHistory` has its
    cursor inside the history (so no theorem below is vacuous on real runs, and the model's
    `none` = out-of-range deque access never occurs). -/
theorem reachable_wf (s : State) (h : Reachable s) : WF s := (reachable_wf_size s h).1

/-- **seek_back_emits** — "seeking back k steps emits, newest first, one message per event
    that sets its address to the event's old value" (and leaves the events untouched, cursor
    `k` lower; `k` larger than the cursor: see `seek_clamped`). -/
theorem seek_back_emits (s : State) (hw : WF s) (hf : AddrsFit s) (k : Nat) :
    seekHistory s (-(k : Int)) =
      some (⟨s.hist, s.pos - k⟩, ((applied s).reverse.take k).map (fun x => undoMsg x.2)) := by
  induction s, hw using WF.rec_zip with | _ d u
  rw [fit_zip] at hf
  rw [seek_back_zip, map_rewind_fit _ (fun x hx => hf x (.inl (List.mem_of_mem_take hx))), zip_drop_take,
    applied_zip, List.reverse_reverse]
  rfl

/-- **seek_fwd_emits** — "seeking forward replays the new values oldest first". -/
theorem seek_fwd_emits (s : State) (hw : WF s) (hf : AddrsFit s) (k : Nat) :
    seekHistory s (k : Int) =
      some (⟨s.hist, min (s.pos + k) s.hist.length⟩,
            ((undone s).take k).map (fun x => redoMsg x.2)) := by
  induction s, hw using WF.rec_zip with | _ d u
  rw [fit_zip] at hf
  rw [seek_fwd_zip, flatMap_replay_fit _ (fun x hx => hf x (.inr (List.mem_of_mem_take hx))), zip_take_drop,
    undone_zip]
  rfl

/-- **seek_clamped** — "seeks beyond either end stop at the end": for every distance the
    seek succeeds, keeps the events, ends at the clamped position and emits exactly one
    message per step actually taken. -/
theorem seek_clamped (s : State) (hw : WF s) (hf : AddrsFit s) (d : Int) :
    ∃ s' ms, seekHistory s d = some (s', ms) ∧ s'.hist = s.hist ∧
      (s'.pos : Int) = clampPos s d ∧ (ms.length : Int) = ((s'.pos : Int) - (s.pos : Int)).natAbs := by
  induction s, hw using WF.rec_zip with | _ a u
  rw [fit_zip] at hf
  have hl : ((zip a u).hist.length : Int) = (a.length : Int) + u.length := by simp [zip]
  rcases Int.eq_nat_or_neg d with ⟨k, rfl | rfl⟩
  · -- forward: `u.take k` crosses, that is `k` entries or all that are left to redo
    refine ⟨_, _, seek_fwd_zip a u k, by rw [zip_take_drop], ?_, ?_⟩
    · show ((((u.take k).reverse ++ a).length : Nat) : Int) = max 0 (min ((a.length : Int) + k) (zip a u).hist.length)
      rw [hl, List.length_append, List.length_reverse, List.length_take]
      rcases Nat.le_total k u.length with hk | hk
      · rw [Nat.min_eq_left hk, Int.min_eq_left (by omega), Int.max_eq_right (by omega)]; omega
      · rw [Nat.min_eq_right hk, Int.min_eq_right (by omega), Int.max_eq_right (by omega)]; omega
    · rw [flatMap_replay_fit _ (fun x hx => hf x (.inr (List.mem_of_mem_take hx))), List.length_map]
      show ((u.take k).length : Int) = (((((u.take k).reverse ++ a).length : Nat) : Int) - (a.length : Int)).natAbs
      rw [List.length_append, List.length_reverse, Int.natCast_add, Int.add_sub_cancel, Int.natAbs_natCast]
  · -- back: `a.take k` crosses, that is `k` entries or all applied ones
    refine ⟨_, _, seek_back_zip a u k, by rw [zip_drop_take], ?_, ?_⟩
    · show (((a.drop k).length : Nat) : Int) = max 0 (min ((a.length : Int) + -(k : Int)) (zip a u).hist.length)
      rw [hl, List.length_drop, Int.min_eq_left (by omega)]
      rcases Nat.le_total k a.length with hk | hk
      · rw [Int.max_eq_right (by omega), Int.natCast_sub hk, Int.sub_eq_add_neg]
      · rw [Nat.sub_eq_zero_of_le hk, Int.max_eq_left (by omega)]; rfl
    · rw [List.length_map]
      show ((a.take k).length : Int) = ((((a.drop k).length : Nat) : Int) - (a.length : Int)).natAbs
      have e : (a.length : Int) = ((a.take k).length : Int) + (a.drop k).length := by
        rw [← Int.natCast_add, ← List.length_append, List.take_append_drop]
      rw [e, show (((a.drop k).length : Nat) : Int) - (((a.take k).length : Int) + (a.drop k).length) =
        -((a.take k).length : Int) by omega, Int.natAbs_neg, Int.natAbs_natCast]

/-- **record_truncates_redo** — "recording after an undo discards the undone tail": the
    result does not depend on the undone events, and afterwards nothing is left to redo. -/
theorem record_truncates_redo (now : Int) (ev : Event) (s : State) (hw : WF s) :
    recordEvent now ev s = recordEvent now ev ⟨applied s, s.pos⟩ ∧
    undone (recordEvent now ev s) = [] ∧
    ∀ k : Nat, seekHistory (recordEvent now ev s) (k : Int) = some (recordEvent now ev s, []) := by
  have e2 : (⟨applied s, s.pos⟩ : State) = zip (applied s).reverse [] := by
    simp [zip, applied, Nat.min_eq_left (show s.pos ≤ s.hist.length from hw)]
  rw [e2]
  induction s, hw using WF.rec_zip with | _ d u
  obtain ⟨d', he, _⟩ := record_shape now ev d u
  rw [applied_zip, List.reverse_reverse]
  refine ⟨by rw [record_zip, record_zip], by rw [he, undone_zip], fun k => ?_⟩
  rw [he, seek_fwd_zip, List.take_nil, List.drop_nil]
  rfl

/-- The merge window of the statement: two seconds. -/
theorem window_is_two : Generated.mergeWindow = 2 := by decide

/-- The size of the library's set-message buffer (`static char tmp[N]` and the length handed
    to `rtosc_amessage` in `rewind`/`replay`), regenerated from the source on every run, is
    256: the domain `AddrsFit` of the theorems cannot shrink (or move) without this theorem
    failing. -/
theorem tmpSize_is_256 : Generated.tmpSize = 256 := by decide

/-- The domain hypothesis `AddrsFit` / `OpsFit` in plain words: an address yields a
    set-message that fits the buffer iff it is shorter than 248 bytes (the bound used by the
    generator, the harness and the reference oracle of the check). -/
theorem fits_iff_short (a : Bytes) : fits a = true ↔ a.length < 248 := by
  simp only [fits, setMsgLen, pad4, tmpSize_is_256, decide_eq_true_eq]
  omega

/-- **merge_within_window** — "events for the same address recorded within two seconds merge
    into one (first old value, last new value)": if the most recent applied event for the
    address (`e`, recorded or last extended at `t`; nothing for that address after it) is at
    most two seconds old, the history keeps its length and that event becomes
    `addr: e.old → ev.new`, stamped `now`; all other events are untouched. -/
theorem merge_within_window (now : Int) (ev : Event) (s : State) (hw : WF s)
    (pre post : List Entry) (t : Int) (e : Event)
    (hd : applied s = pre ++ (t, e) :: post) (he : e.addr = ev.addr)
    (hpost : ∀ x ∈ post, x.2.addr ≠ ev.addr) (hwin : now - t ≤ 2) :
    recordEvent now ev s =
      ⟨pre ++ (now, ⟨ev.addr, ev.tag, e.old, ev.new⟩) :: post, s.pos⟩ :=
  record_merge now ev s hw pre post t e hd he hpost (by rw [window_is_two]; exact hwin)

/-- **append_outside_window** — the converse: with no applied event for the address, or
    the most recent one older than two seconds, the event is appended as a new entry (and
    the oldest entry dropped when that exceeds the cap). -/
theorem append_outside_window (now : Int) (ev : Event) (s : State) (hw : WF s)
    (hno : (∀ x ∈ applied s, x.2.addr ≠ ev.addr) ∨
           ∃ pre post t e, applied s = pre ++ (t, e) :: post ∧ e.addr = ev.addr ∧
             (∀ x ∈ post, x.2.addr ≠ ev.addr) ∧ now - t > 2) :
    recordEvent now ev s =
      if s.pos + 1 > 20
      then ⟨(applied s ++ [(now, ev)]).drop 1, s.pos⟩
      else ⟨applied s ++ [(now, ev)], s.pos + 1⟩ :=
  record_append now ev s hw hno

/-- `merge_within_window` and `append_outside_window` cover every case: either no applied
    event has the address, or there is a most recent one (whose age is either ≤ 2 or > 2). -/
theorem merge_or_append_exhaustive (l : List Entry) (a : Bytes) :
    (∀ x ∈ l, x.2.addr ≠ a) ∨
    ∃ pre post t e, l = pre ++ (t, e) :: post ∧ e.addr = a ∧ ∀ x ∈ post, x.2.addr ≠ a := by
  induction l with
  | nil => left; simp
  | cons y l ih =>
    rcases ih with h | ⟨pre, post, t, e, hl, he, hp⟩
    · by_cases hy : y.2.addr = a
      · right; exact ⟨[], l, y.1, y.2, by simp, hy, h⟩
      · left; intro x hx
        rcases List.mem_cons.mp hx with rfl | hx
        · exact hy
        · exact h x hx
    · right; exact ⟨y :: pre, post, t, e, by simp [hl], he, hp⟩

/-- **cap_retained** — "only the 20 most recent events are retained": the constant is 20,
    no reachable history is longer, and appending to a full history drops exactly the
    oldest event. -/
theorem cap_retained :
    Generated.maxHistory = 20 ∧
    (∀ s, Reachable s → size s ≤ 20) ∧
    (∀ (now : Int) (ev : Event) (s : State), s.pos = 20 → s.hist.length = 20 →
       (∀ x ∈ s.hist, x.2.addr ≠ ev.addr) →
       recordEvent now ev s = ⟨s.hist.drop 1 ++ [(now, ev)], 20⟩) := by
  have h20 : Generated.maxHistory = 20 := by decide
  refine ⟨h20, fun s h => (reachable_wf_size s h).2, ?_⟩
  intro now ev s hp hl hno
  have hw : WF s := by unfold WF; omega
  have ht : s.hist.take s.pos = s.hist := by rw [hp, ← hl]; exact List.take_length
  rw [record_append now ev s hw (Or.inl (by rw [ht]; exact hno)), ht, hp]
  simp [h20, List.drop_append_of_le_length (show 1 ≤ s.hist.length by omega)]

/-- **undo_all_restores** — "undoing everything retained returns every touched parameter to
    the value it had before its oldest retained change": after a seek back by at least the
    cursor, dispatching the emitted messages into any store leaves each address that has an
    applied event at the old value of its *oldest* applied event, and every other address
    as it was. -/
theorem undo_all_restores (s : State) (hw : WF s) (hf : AddrsFit s) (d : Int)
    (hd : d ≤ -(s.pos : Int)) :
    ∃ ms, seekHistory s d = some (⟨s.hist, 0⟩, ms) ∧
      ∀ (σ : Store) (a : Bytes), applyEmits σ ms a =
        match oldestFor (applied s) a with
        | some x => x.2.old
        | none => σ a := by
  obtain ⟨k, rfl⟩ := Int.exists_eq_neg_ofNat (show d ≤ 0 by omega)
  have hk : s.pos ≤ k := by omega
  refine ⟨((applied s).reverse.take k).map (fun x => undoMsg x.2), ?_, ?_⟩
  · rw [seek_back_emits s hw hf k, Nat.sub_eq_zero_of_le hk]
  · intro σ a
    have hl : (applied s).reverse.length ≤ k := by
      rw [List.length_reverse]; exact Nat.le_trans (List.length_take_le _ _) hk
    rw [List.take_of_length_le hl]
    exact applyEmits_undo (applied s) σ a

/-- **redo_all_restores** — "and redoing returns the latest values": after a seek forward
    to the end, each address with an undone event holds the new value of its *newest*
    event, every other address is as it was. -/
theorem redo_all_restores (s : State) (hw : WF s) (hf : AddrsFit s) (d : Int)
    (hd : (s.hist.length : Int) - (s.pos : Int) ≤ d) :
    ∃ ms, seekHistory s d = some (⟨s.hist, s.hist.length⟩, ms) ∧
      ∀ (σ : Store) (a : Bytes), applyEmits σ ms a =
        match newestFor (undone s) a with
        | some x => x.2.new
        | none => σ a := by
  have hw' : s.pos ≤ s.hist.length := hw
  obtain ⟨k, rfl⟩ := Int.eq_ofNat_of_zero_le (show 0 ≤ d by omega)
  have hk : s.hist.length - s.pos ≤ k := by omega
  refine ⟨((undone s).take k).map (fun x => redoMsg x.2), ?_, ?_⟩
  · rw [seek_fwd_emits s hw hf k, Nat.min_eq_right (by omega)]
  · intro σ a
    have hl : (undone s).length ≤ k := by rw [undone, List.length_drop]; exact hk
    rw [List.take_of_length_le hl]
    exact applyEmits_redo (undone s) σ a

/-- **chain_invariant_reachable** — end to end: in an application whose parameter ports
    report every change with the true old value (`App.step`, as `rCAPPLY` does) and into
    which undo/redo messages are dispatched back, every history of sets, seeks and clock
    advances runs without an out-of-range access, keeps the cursor inside at most 20
    events, and keeps the chain invariant between history and parameter store — including
    merges into an entry that is not the newest, the cap, and recording after an undo. -/
theorem chain_invariant_reachable (σ0 : Store) (t0 : Int) (ops : List Op) (hf : OpsFit ops) :
    ∃ A, (App.init σ0 t0).run ops = some A ∧ WF A.u ∧ size A.u ≤ 20 ∧ AddrsFit A.u ∧
      Inv A.u A.σ := by
  obtain ⟨A, hr, hg⟩ := run_good ops _ hf (good_init σ0 t0)
  exact ⟨A, hr, hg.wf, hg.size, hg.fit, hg.inv⟩

/-- **undo_redo_roundtrip** — with the chain invariant, undoing `k` steps and redoing
    them gives back exactly the parameter store and the history state: "redoing returns the
    latest values" as an equation on the whole application state. -/
theorem undo_redo_roundtrip (s : State) (σ : Store) (hw : WF s) (hf : AddrsFit s)
    (hi : Inv s σ) (k : Nat) (hk : k ≤ s.pos) :
    ∃ s1 ms1 ms2, seekHistory s (-(k : Int)) = some (s1, ms1) ∧
      seekHistory s1 (k : Int) = some (s, ms2) ∧
      applyEmits (applyEmits σ ms1) ms2 = σ := by
  induction s, hw using WF.rec_zip with | _ d u
  have hk' : k ≤ d.length := hk
  have hlen : (d.take k).reverse.length = k := by
    rw [List.length_reverse, List.length_take]; exact Nat.min_eq_left hk'
  rw [fit_zip] at hf
  rw [inv_zip] at hi
  have hfa : ∀ x ∈ d.take k, fits x.2.addr = true := fun x hx => hf x (.inl (List.mem_of_mem_take hx))
  refine ⟨_, _, (d.take k).reverse.map fun x => redoMsg x.2, seek_back_zip d u k, ?_, ?_⟩
  · -- the `k` entries that went over the cursor come back
    rw [seek_fwd_zip, List.take_left' hlen, List.drop_left' hlen, List.reverse_reverse, List.take_append_drop,
      flatMap_replay_fit _ (fun x hx => hfa x (List.mem_reverse.mp hx))]
  · rw [map_rewind_fit _ hfa]
    exact undo_redo_store _ (d.drop k) σ (by rw [List.take_append_drop]; exact hi.1)

/-! ### Non-vacuity: a concrete history exercising every hypothesis -/

private def eA1 : Event := ⟨[47, 97], 105, 0, 1⟩     -- "/a" i 0→1
private def eB  : Event := ⟨[47, 98], 102, 0, 5⟩     -- "/b" f
private def eA2 : Event := ⟨[47, 97], 105, 1, 2⟩     -- "/a" i 1→2
private def s3 : State := ⟨[(0, eA1), (1, eB), (5, eA2)], 2⟩

example : WF s3 := by unfold WF; decide
example : AddrsFit s3 := by unfold AddrsFit; decide
example : Reachable s3 := by
  have h1 := Reachable.record 0 eA1 Reachable.init
  have h2 := Reachable.record 1 eB h1
  have h3 := Reachable.record 5 eA2 h2
  have h4 : seekHistory (recordEvent 5 eA2 (recordEvent 1 eB (recordEvent 0 eA1 init))) (-1)
      = some (s3, [undoMsg eA2]) := by decide +kernel
  exact Reachable.seek (-1) _ h3 h4
/-- `seek_back_emits` on a real case: two steps back from `s3` emit "/b"←0 then "/a"←0. -/
example : seekHistory s3 (-2) = some (⟨s3.hist, 0⟩, [undoMsg eB, undoMsg eA1]) := by decide +kernel
/-- the merge hypotheses are satisfiable: "/a" at t=0, then "/b", then "/a" again at t=2
    merges into the entry that is *not* the newest. -/
example : recordEvent 2 eA2 ⟨[(0, eA1), (1, eB)], 2⟩ = ⟨[(2, ⟨[47, 97], 105, 0, 2⟩), (1, eB)], 2⟩ := by
  decide
example : ∃ pre post t e, applied (⟨[(0, eA1), (1, eB)], 2⟩ : State) = pre ++ (t, e) :: post ∧
    e.addr = eA2.addr ∧ (∀ x ∈ post, x.2.addr ≠ eA2.addr) ∧ (2 : Int) - t ≤ 2 :=
  ⟨[], [(1, eB)], 0, eA1, by decide +kernel, by decide +kernel, by decide +kernel, by decide +kernel⟩
/-- the witness of fixes/C15-merge-scan.patch: after that merge, "/a" recorded at t=4 is
    within two seconds of the merged entry (t=2) although "/b" (t=1) in between is older. -/
example : recordEvent 4 ⟨[47, 97], 105, 2, 3⟩ ⟨[(2, ⟨[47, 97], 105, 0, 2⟩), (1, eB)], 2⟩
    = ⟨[(4, ⟨[47, 97], 105, 0, 3⟩), (1, eB)], 2⟩ := by decide +kernel
/-- `Inv` is satisfiable with a non-empty history on both sides of the cursor. -/
example : Inv s3 (fun a => if a = [47, 97] then 1 else if a = [47, 98] then 5 else 0) := by
  simp [Inv, applied, undone, s3, RChain, Chain, Store.set, eA1, eB, eA2]
/-- both sides of the domain bound are inhabited: 247 bytes fit, 248 do not. -/
example : fits (List.replicate 247 97) = true ∧ fits (List.replicate 248 97) = false := by
  constructor
  · exact (fits_iff_short _).mpr (by rw [List.length_replicate]; omega)
  · cases h : fits (List.replicate 248 97) with
    | false => rfl
    | true => exact absurd ((fits_iff_short _).mp h) (by rw [List.length_replicate]; omega)
example : OpsFit [.set [47, 97] 105 1, .tick 1, .seek (-1), .seek 1] := by
  intro o ho; simp at ho; rcases ho with rfl | rfl | rfl | rfl <;> simp [OpFit] <;> decide

end Rtosc.Undo
