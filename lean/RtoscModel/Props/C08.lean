/-
  C08 — Bundles compose and decompose losslessly, including nesting.
  Property theorems (and the small lemmas `message_not_bundle_osc`, `c08_wf`); the other helper
  lemmas live in Proofs/Bundle*.lean, the model and the specification (`Elem`, `Spec.encodeElem`)
  in Osc/Bundle.lean.

  Reading of the statement.  A packet is `e : Elem`: a message or a bundle of packets with a
  time tag, nested to any depth; `Spec.encodeElem e` is its OSC 1.0 byte string.  `rtosc_bundle`
  gets its elements as pointers: the model gets the memory blocks `blks` they point into, and
  `BlocksHold es blks` says that block `i` starts with the encoding of element `i` (anything may
  follow — a message needs no terminator).  Readers run on `Spec.encodeElem (.bundle tt es) ++ rest`;
  every read goes through `m[p]?`, so `= some …` / `= .ok …` also says that nothing outside the
  block is read.  The theorems hold for bundles nested to any depth because `Spec.encodeElem` is
  defined by recursion over the nesting and every packet, however deep, is a whole number of
  32-bit words (`encodeElem_mod4`, by mutual structural induction): a reader applied to the element
  that `fetch_size_encode` returns is again in the scope of these theorems.

  Known finding C08-K4.  `rtosc_bundle` finds the size of an element with
  `rtosc_message_length(msg, -1)`; for an element that is itself a bundle, `bundle_ring_length`
  walks the size fields until it *reads* a zero word, i.e. one word behind the element.  If the
  element's block ends with the element (or goes on with anything but a zero word) this is a read
  outside the block / a wrong size.  The full statement `bundle_eq_spec_statement` is therefore
  false (`bundle_eq_spec_counterexample`); `bundle_eq_spec_partial` has the negation of the
  decidable trigger predicate `NestedUnterminated` as its extra hypothesis.  A bundle written by
  `rtosc_bundle` into a buffer at least 4 bytes larger than the bundle does not trigger it one
  level up (`bundle_output_composes`: the buffer is cleared first, so a zero word follows).
-/
import RtoscModel.Proofs.BundleDecompose
import RtoscModel.Proofs.BundleTerm
import RtoscModel.Proofs.BundleWrite
namespace Rtosc.Osc
open Rtosc

/-- **messageLengthU_encode** — the size `rtosc_bundle` derives for an element from the element's
    own bytes (`rtosc_message_length(msg,-1)`, every read inside the block): the exact length of
    its encoding, for a message followed by anything and for a bundle followed by a zero word. -/
theorem messageLengthU_encode (e : Elem) (blk : Bytes) (hwf : e.WF) (hh : Elem.Holds blk e)
    (ht : Elem.Terminated blk e) : messageLengthU blk = .ok (Spec.encodeElem e).length :=
  messageLengthU_elem hwf hh ht

/-- **messageLengthU_terminates** — the fuel lemma of the unbounded length walk (C07's
    `length_terminates` for `len = -1`): on *every* block shorter than 2^32 bytes, well-formed or
    not, the loops of `rtosc_message_length(msg, -1)` finish within the fuel the model gives them;
    the bundle walk in particular, since fixes/C06-bundle-length-wrap.patch, moves `pos` strictly
    forward (an element whose end is no `unsigned` position is answered with 0) and needs no size
    hypothesis (`bundleLoopU_ne_hang`).  The result is a length or `.oob` (a read behind the block:
    finding K4 and callers that pass something else than a packet), never "does not return". -/
theorem messageLengthU_terminates (blk : Bytes) (h : blk.length < 4294967296) :
    messageLengthU blk ≠ .hang :=
  messageLengthU_ne_hang blk h

/-- **bundle_terminates** — `rtosc_bundle` returns for arbitrary element blocks (each shorter
    than 2^32 bytes): both passes over the elements measure them with
    `rtosc_message_length(msg, -1)`, which returns. -/
theorem bundle_terminates (buf : Bytes) (tt : UInt64) (blks : List Bytes)
    (h : ∀ b ∈ blks, b.length < 4294967296) : bundle buf tt blks ≠ .hang := by
  unfold bundle
  have h1 := bundleTotal_ne_hang blks 16 h
  cases ht : bundleTotal 16 blks with
  | oob => simp
  | hang => exact absurd ht h1
  | ok total =>
    simp only
    split
    · simp
    · unfold bundleBody
      have h2 := bundleWrite_ne_hang blks
        ((BW.stores ⟨zeros buf.length, false⟩ 0 bundleMagic).stores 8 (put64 tt)) 16 h
      simp only
      cases hw : bundleWrite ((BW.stores ⟨zeros buf.length, false⟩ 0 bundleMagic).stores 8 (put64 tt)) 16 blks with
      | ok r => simp
      | oob => simp
      | hang => exact absurd hw h2

/-- an element block whose nested bundle has a size field 0xfffffffc (the unrepaired walk never
    left it): measured as 0, `rtosc_bundle` writes an empty element and returns -/
example : messageLengthU [35, 98, 117, 110, 100, 108, 101, 0, 0, 0, 0, 0, 0, 0, 0, 0, 255, 255, 255, 252,
    47, 97, 0, 0, 44, 0, 0, 0, 0, 0, 0, 0] = .ok 0 := by decide +kernel

/-- The full statement of "bundling any sequence of well-formed messages and bundles yields the
    bundle encoding": element blocks that merely *start* with the encodings.  False of the code
    (K4), see `bundle_eq_spec_counterexample`. -/
def bundle_eq_spec_statement : Prop :=
  ∀ (es : List Elem) (blks : List Bytes) (tt : UInt64) (buf : Bytes),
    Elems.WF es → BlocksHold es blks → (Spec.encodeElem (.bundle tt es)).length < 4294967296 →
    (Spec.encodeElem (.bundle tt es)).length ≤ buf.length →
    bundle buf tt blks = .ok ⟨Spec.encodeElem (.bundle tt es) ++
        zeros (buf.length - (Spec.encodeElem (.bundle tt es)).length),
      (Spec.encodeElem (.bundle tt es)).length, false⟩

/-- **bundle_eq_spec_partial** — `rtosc_bundle` on well-formed elements (messages and bundles
    nested to any depth), none of them a bundle in a block without a zero word behind it
    (¬ trigger of K4): the buffer holds exactly `"#bundle\0"`, the time tag and every element
    preceded by its size, followed by zero bytes; the return value is the length of that encoding;
    no store outside the buffer, no read outside the element blocks. -/
theorem bundle_eq_spec_partial (es : List Elem) (blks : List Bytes) (tt : UInt64) (buf : Bytes)
    (hwf : Elems.WF es) (hb : BlocksHold es blks) (hk4 : ¬ NestedUnterminated es blks)
    (hsz : (Spec.encodeElem (.bundle tt es)).length < 4294967296)
    (hfit : (Spec.encodeElem (.bundle tt es)).length ≤ buf.length) :
    bundle buf tt blks = .ok ⟨Spec.encodeElem (.bundle tt es) ++
        zeros (buf.length - (Spec.encodeElem (.bundle tt es)).length),
      (Spec.encodeElem (.bundle tt es)).length, false⟩ :=
  bundle_spec es blks tt buf (goodBlocks_of hwf hb hk4) hfit

/-- the empty bundle with time tag 1, in a block of exactly its 16 bytes -/
def k4Inner : Bytes := [35, 98, 117, 110, 100, 108, 101, 0, 0, 0, 0, 0, 0, 0, 0, 1]

/-- **bundle_eq_spec_counterexample** (K4) — one element, the empty bundle in an exact-size block:
    the element is well-formed and the block holds it, but `rtosc_bundle` reads the word behind
    the block (`Rd.oob`; ASan: heap-buffer-overflow READ in `bundle_ring_length`). -/
theorem bundle_eq_spec_counterexample : ¬ bundle_eq_spec_statement := by
  intro h
  have hw : Elems.WF [.bundle 1 []] := by
    simp only [Elems.WF, Elem.WF, and_true, true_and]
    decide
  have hb : BlocksHold [.bundle 1 []] [k4Inner] := ⟨⟨[], by decide⟩, trivial⟩
  have := h [.bundle 1 []] [k4Inner] 0 (List.replicate 40 170) hw hb (by decide) (by decide)
  have hoob : bundle (List.replicate 40 170) 0 [k4Inner] = .oob := by decide +kernel
  rw [hoob] at this
  cases this

/-- the trigger holds of the counterexample, and not of the same element followed by a zero word -/
example : NestedUnterminated [.bundle 1 []] [k4Inner] := by decide
example : ¬ NestedUnterminated [.bundle 1 []] [k4Inner ++ [0, 0, 0, 0]] := by decide

/-- **bundleP_encode** — the encoding of a bundle is recognised as a bundle. -/
theorem bundleP_encode (tt : UInt64) (es : List Elem) (rest : Bytes) :
    bundleP (Spec.encodeElem (.bundle tt es) ++ rest) = some true :=
  magicU_bundle tt es rest

/-- **elements_encode** — `rtosc_bundle_elements(buffer, len)` with `len` = the length of the
    bundle reports the number of elements, whatever follows the bundle in memory (nothing is read
    behind it). -/
theorem elements_encode (tt : UInt64) (es : List Elem) (rest : Bytes)
    (hsz : (Spec.encodeElem (.bundle tt es)).length < 4294967296) :
    bundleElements (Spec.encodeElem (.bundle tt es) ++ rest) (Spec.encodeElem (.bundle tt es)).length =
      .ok es.length :=
  bundleElements_exact tt es rest hsz

/-- **elements_encode_padded** — with a larger `len` (the capacity of the buffer) the word behind
    the last element is read; when it is the zero word `rtosc_bundle` left there, the count is
    again the number of elements. -/
theorem elements_encode_padded (tt : UInt64) (es : List Elem) (x : Bytes) (len : Nat)
    (hsz : (Spec.encodeElem (.bundle tt es)).length < 4294967296)
    (hlen : (Spec.encodeElem (.bundle tt es)).length ≤ len) :
    bundleElements (Spec.encodeElem (.bundle tt es) ++ 0 :: 0 :: 0 :: 0 :: x) len = .ok es.length := by
  have hl := encodeElem_bundle_length tt es
  have hle := elems_length_le es
  unfold bundleElements
  rw [elementsLoop_spec _ es 16 0 _ _ (drop16_bundle tt es _) (by unfold SmallElems; omega)
    (by omega) (Or.inr ⟨by omega, x, rfl⟩)]
  simp

/-- **fetch_size_encode** — for every element that exists (`i < count`), `rtosc_bundle_fetch`
    returns the offset of the element, `rtosc_bundle_size` its exact size, and the bytes there are
    the element's encoding, byte-identical — whatever follows the bundle (nothing behind element
    `i`'s size field is read).  The element may itself be a bundle: the theorems of this file
    apply to the returned bytes again. -/
theorem fetch_size_encode (tt : UInt64) (es : List Elem) (rest : Bytes) (i : Nat) (hi : i < es.length)
    (hsz : (Spec.encodeElem (.bundle tt es)).length < 4294967296) :
    bundleFetch (Spec.encodeElem (.bundle tt es) ++ rest) i = some (some (Spec.elemOffset es i)) ∧
    bundleSize (Spec.encodeElem (.bundle tt es) ++ rest) i = some (Spec.encodeElem es[i]).length ∧
    ((Spec.encodeElem (.bundle tt es) ++ rest).drop (Spec.elemOffset es i)).take
        (Spec.encodeElem es[i]).length = Spec.encodeElem es[i] := by
  obtain ⟨hf, hs, hv⟩ := elem_view tt es rest i hi hsz
  exact ⟨hf, hs, by rw [hv, List.take_left]⟩

/-- **timetag_encode** — the time tag is preserved, all 64 bits. -/
theorem timetag_encode (tt : UInt64) (es : List Elem) (rest : Bytes) :
    bundleTimetag (Spec.encodeElem (.bundle tt es) ++ rest) = some tt :=
  rd64_of_drop (drop8_bundle tt es rest)

/-- **messageLength_bundle** — `rtosc_message_length(buffer, len)` with the true `len` (the length
    of the bundle, or the capacity of the zero-filled buffer it was written into) reports the total
    length of the bundle. -/
theorem messageLength_bundle (tt : UInt64) (es : List Elem) (k : Nat)
    (hsz : (Spec.encodeElem (.bundle tt es)).length < 4294967296) :
    messageLength (Spec.encodeElem (.bundle tt es) ++ zeros k) =
      some (Spec.encodeElem (.bundle tt es)).length := by
  have hl := encodeElem_bundle_length tt es
  have hm4 := encodeElem_mod4 (.bundle tt es)
  let r : Ring := ⟨Spec.encodeElem (.bundle tt es) ++ zeros k, []⟩
  have hr : r.d0 ++ r.d1 = Spec.encodeElem (.bundle tt es) ++ zeros k := by simp [r]
  have hmagic : (List.range 8).map r.deref = bundleMagic := by
    rw [map_deref_take r 8 (by rw [hr, List.length_append]; omega), hr, Spec.encodeElem, List.append_assoc,
      List.append_assoc]
    exact List.take_left' bundleMagic_length
  have hd : (Spec.encodeElem (.bundle tt es) ++ zeros k).drop 16 =
      frames (es.map Spec.encodeElem) ++ zeros k := by
    rw [drop16_bundle, encodeElems_frames]
  rw [encodeElems_frames] at hl
  have hfl := length_le_frames (es.map Spec.encodeElem)
  have htot : r.total = (Spec.encodeElem (.bundle tt es)).length + k := by simp [Ring.total, r]
  show ringLength r = _
  unfold ringLength
  rw [if_pos hmagic]
  unfold bundleRingLength
  rw [bundleLoop_frames hr (es.map Spec.encodeElem) 16 r.fuel k hd (chunks_nonempty es) (by omega)
    (by simp only [Ring.fuel, htot, List.length_map] at hfl ⊢; omega) (by omega), hl]

/-- the C string `"#bundle"` -/
def bundleName : Bytes := [35, 98, 117, 110, 100, 108, 101]

/-- **message_not_bundle** — `rtosc_bundle_p` of an encoded message is true exactly when the
    address *is* the string `"#bundle"`.  `Msg.WF` does not say that an address starts with '/'
    (it says non-empty and NUL-free), hence the answer depends on the address; for an OSC address
    (first byte '/') it is false (`message_not_bundle_osc`). -/
theorem message_not_bundle (m : Msg) (rest : Bytes) (hwf : m.WF) :
    bundleP (Spec.encode m ++ rest) = some (decide (m.addr = bundleName)) := by
  unfold bundleP
  rw [magicU_eq, List.drop_zero, encode_layout m rest]
  exact magicL_cstr m.addr bundleName _ hwf.addr_nonul (by decide)

/-- a plain message (address starting with '/') is never mistaken for a bundle -/
theorem message_not_bundle_osc (m : Msg) (rest : Bytes) (hwf : m.WF) (hosc : m.addr.head? = some 47) :
    bundleP (Spec.encode m ++ rest) = some false :=
  magicU_msg m rest hwf (by rw [hosc]; decide)

/-- **decompose_encode** — lossless for every nesting depth: taking an encoded packet apart with
    `rtosc_bundle_p`, `rtosc_bundle_timetag`, `rtosc_bundle_elements`, `rtosc_bundle_fetch` and
    `rtosc_bundle_size`, recursively into every nested bundle, gives back exactly the structure
    that was encoded — every time tag, every element count, every message byte-identical — whatever
    follows the packet in memory.  By mutual structural induction over `Elem` / `List Elem`. -/
theorem decompose_encode (e : Elem) (rest : Bytes) (d : Nat) (hwf : e.WF) (hd : e.depth < d) :
    decompose d (Spec.encodeElem e ++ rest) (Spec.encodeElem e).length = .ok e.packet :=
  decompose_spec e rest d hwf hd

/-- **compose_decompose** — `rtosc_bundle` followed by the recursive decomposition of the `ret`
    bytes it reports is the identity on the elements (under the precondition of
    `bundle_eq_spec_partial`). -/
theorem compose_decompose (es : List Elem) (blks : List Bytes) (tt : UInt64) (buf : Bytes) (d : Nat)
    (hwf : Elems.WF es) (hb : BlocksHold es blks) (hk4 : ¬ NestedUnterminated es blks)
    (hsz : (Spec.encodeElem (.bundle tt es)).length < 4294967296)
    (hfit : (Spec.encodeElem (.bundle tt es)).length ≤ buf.length) (hd : Elems.depth es + 1 < d) :
    ∃ r, bundle buf tt blks = .ok r ∧ decompose d r.buf r.ret = .ok (.bundle tt (Elems.packets es)) := by
  refine ⟨_, bundle_eq_spec_partial es blks tt buf hwf hb hk4 hsz hfit, ?_⟩
  have := decompose_encode (.bundle tt es) (zeros (buf.length - (Spec.encodeElem (.bundle tt es)).length)) d
    (by simp only [Elem.WF]; exact ⟨hwf, hsz⟩) (by simp only [Elem.depth]; exact hd)
  simpa only [Elem.packet] using this

/-- **appendBundle_eq_spec** — `append_bundle` (the way `subtree_serialize` grows its bundle):
    if `max_len` (at most the destination block) has room for 4 + `src_len` more bytes, the
    destination afterwards holds the bundle extended by one element, the return value is its
    length, the bytes behind it are untouched; no store outside the destination. -/
theorem appendBundle_eq_spec (tt : UInt64) (es : List Elem) (e : Elem) (tail srest : Bytes) (maxLen : Nat)
    (hsz : (Spec.encodeElem e).length < 4294967296)
    (hmax : maxLen ≤ (Spec.encodeElem (.bundle tt es) ++ tail).length)
    (hfit : (Spec.encodeElem (.bundle tt es)).length + (Spec.encodeElem e).length + 4 ≤ maxLen) :
    appendBundle (Spec.encodeElem (.bundle tt es) ++ tail) (Spec.encodeElem e ++ srest) maxLen
        (Spec.encodeElem (.bundle tt es)).length (Spec.encodeElem e).length =
      .ok ⟨Spec.encodeElem (.bundle tt (es ++ [e])) ++ tail.drop (4 + (Spec.encodeElem e).length),
        (Spec.encodeElem (.bundle tt (es ++ [e]))).length, false⟩ :=
  appendBundle_spec tt es e tail srest maxLen hmax hfit

/-- **bundle_output_composes** — bottom-up composition: what `rtosc_bundle` itself leaves in a
    buffer at least 4 bytes larger than the bundle (`r.buf`, the block a caller hands on as an
    element of the next level) holds the encoding of the bundle *and* goes on with a zero word,
    i.e. it meets the precondition of `bundle_eq_spec_partial` one level up (no K4 trigger).  By
    induction over the nesting this is why a tree built bottom-up with `rtosc_bundle`, every nested
    bundle into a block of capacity ≥ size + 4, is encoded exactly. -/
theorem bundle_output_composes (es : List Elem) (blks : List Bytes) (tt : UInt64) (buf : Bytes)
    (hwf : Elems.WF es) (hb : BlocksHold es blks) (hk4 : ¬ NestedUnterminated es blks)
    (hsz : (Spec.encodeElem (.bundle tt es)).length < 4294967296)
    (hfit : (Spec.encodeElem (.bundle tt es)).length + 4 ≤ buf.length) :
    ∃ r, bundle buf tt blks = .ok r ∧ Elem.Holds r.buf (.bundle tt es) ∧
      Elem.Terminated r.buf (.bundle tt es) ∧ Elem.WF (.bundle tt es) := by
  refine ⟨_, bundle_eq_spec_partial es blks tt buf hwf hb hk4 hsz (by omega), ⟨_, rfl⟩, ?_, ?_⟩
  · intro _
    obtain ⟨k, hk⟩ : ∃ k, buf.length - (Spec.encodeElem (.bundle tt es)).length = k + 4 :=
      ⟨buf.length - (Spec.encodeElem (.bundle tt es)).length - 4, by omega⟩
    simp only [List.drop_left, hk]
    simp [zeros, List.replicate_succ]
  · simp only [Elem.WF]; exact ⟨hwf, hsz⟩

/-! ### Non-vacuity: a bundle holding a message and a nested bundle that holds the same message -/

def c08Msg : Msg := ⟨[47, 97], [105, 115], [.w32 7, .str [104, 105]]⟩
def c08Inner : Elem := .bundle 0xdeadbeefcafebaad [.msg c08Msg]
def c08Outer : List Elem := [.msg c08Msg, c08Inner]

def c08MsgBytes : Bytes := [47, 97, 0, 0, 44, 105, 115, 0, 0, 0, 0, 7, 104, 105, 0, 0]
def c08InnerBytes : Bytes :=
  [35, 98, 117, 110, 100, 108, 101, 0, 222, 173, 190, 239, 202, 254, 186, 173, 0, 0, 0, 16] ++ c08MsgBytes

example : Spec.encodeElem (.msg c08Msg) = c08MsgBytes := by decide +kernel
example : Spec.encodeElem c08Inner = c08InnerBytes := by decide +kernel

theorem c08_wf : Elems.WF c08Outer := by
  have hm : c08Msg.WF := by decide +kernel
  simp only [c08Outer, c08Inner, Elems.WF, Elem.WF, and_true]
  exact ⟨⟨hm, by decide⟩, ⟨hm, by decide⟩, by decide +kernel⟩

/-- two levels, concretely: the inner bundle as `rtosc_bundle` writes it into 40 bytes is accepted
    as an element by the outer call -/
example : (match bundle (List.replicate 40 170) 0xdeadbeefcafebaad [c08MsgBytes] with
    | .ok r => (match bundle (List.replicate 80 170) 1 [c08MsgBytes, r.buf] with
               | .ok r2 => some (r2.ret, r2.oob) | _ => none)
    | _ => none) = some (76, false) := by decide +kernel

/-- the message in an exact-size block, the nested bundle in a block that goes on with a zero word -/
def c08Blocks : List Bytes := [c08MsgBytes, c08InnerBytes ++ [0, 0, 0, 0, 9]]

example : BlocksHold c08Outer c08Blocks :=
  ⟨⟨[], by decide +kernel⟩, ⟨[0, 0, 0, 0, 9], by decide +kernel⟩, trivial⟩
example : ¬ NestedUnterminated c08Outer c08Blocks := by decide +kernel
example : (Spec.encodeElem (.bundle 1 c08Outer)).length = 76 := by decide +kernel

/-- the model on this input: 76 bytes, and every reader gives back what went in -/
example : (match bundle (List.replicate 80 170) 1 c08Blocks with
    | .ok r => some (r.ret, r.oob, r.buf.drop 76) | _ => none) = some (76, false, [0, 0, 0, 0]) := by
  decide +kernel
example : bundleElements (Spec.encodeElem (.bundle 1 c08Outer)) 76 = .ok 2 := by decide +kernel
example : bundleFetch (Spec.encodeElem (.bundle 1 c08Outer)) 1 = some (some 40) := by decide +kernel
example : bundleSize (Spec.encodeElem (.bundle 1 c08Outer)) 1 = some 36 := by decide +kernel
example : Spec.elemOffset c08Outer 1 = 40 := by decide +kernel
example : bundleTimetag (Spec.encodeElem (.bundle 1 c08Outer)) = some 1 := by decide +kernel
example : messageLength (Spec.encodeElem (.bundle 1 c08Outer)) = some 76 := by decide +kernel
example : bundleP c08MsgBytes = some false := by decide +kernel
/-- one level down: the fetched element is a bundle again -/
example : bundleP ((Spec.encodeElem (.bundle 1 c08Outer)).drop 40) = some true := by decide +kernel
example : bundleElements ((Spec.encodeElem (.bundle 1 c08Outer)).drop 40) 36 = .ok 1 := by decide +kernel
/-- the whole tree comes back: depth 2, fuel 3 -/
example : Elem.depth (.bundle 1 c08Outer) = 2 := by decide +kernel
example : (match decompose 3 (Spec.encodeElem (.bundle 1 c08Outer)) 76 with
    | .ok (.bundle t1 [.msg a, .bundle t2 [.msg b]]) =>
      t1 == 1 && t2 == 0xdeadbeefcafebaad && a == c08MsgBytes && b == c08MsgBytes
    | _ => false) = true := by decide +kernel
/-- the address "#bundle" is the one message that is taken for a bundle -/
example : bundleP (Spec.encode ⟨bundleName, [], []⟩) = some true := by decide +kernel

end Rtosc.Osc
