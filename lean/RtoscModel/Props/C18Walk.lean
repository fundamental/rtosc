/-
  C18 — lookup clause, continued: "an address that a port-tree walk reported" is C09's notion.
  `walk` / `walkE` (C18's own short specifications of the addresses walk_ports reports) are
  C09's enumeration specification `Walk.enumerate` (RtoscModel/Walk/Spec.lean), so the lookup
  theorems of Props/C18.lean are theorems about the addresses C09's specification lists.
  Own module: it imports C09's specification; Props/C18.lean does not.
  Property theorems only; the proofs are in Proofs/PathWalkLink.lean and Proofs/PathEnumExt.lean, the
  hypothesis `singleHashList` is defined in RtoscModel/Path/WalkLinkSpec.lean.
-/
import RtoscModel.Props.C18
import RtoscModel.Proofs.PathWalkLink
namespace Rtosc.Path
open Rtosc

/-- **walked_is_enumerate** (lookup clause, "an address that a port-tree walk reported"): for
    every tree of C09's well-formed port names (`Walk.TreeWF`: head `#N` text … `/` `:types`) in
    which no name has more than one `#`, C09's specification `enumerate ts pre` — every leaf under
    every concrete address, `pre` the address of the table — is `walkE` of the same table
    (`Walk.toPorts ts`), address for address and port for port, in the same order. -/
theorem walked_is_enumerate (ts : List Walk.STree) (pre : Bytes) (hwf : Walk.TreeWF ts)
    (hsh : singleHashList ts = true) :
    Walk.enumerate ts pre = (walkE (Walk.toPorts ts)).map (fun e => (e.2, pre ++ e.1)) := by
  unfold Walk.enumerate walkE
  rw [enumList_eq_walkEL ts pre [] 0 hwf hsh]
  simp

/-- **walked_is_enumerate_literal**: on trees of literal names (`TreeOK`, the hypothesis of
    `apropos_of_walked`) `walkE` is `walk`, so `enumerate` is `walk` there. -/
theorem walked_is_enumerate_literal (ts : List Walk.STree) (pre : Bytes) (hwf : Walk.TreeWF ts)
    (hsh : singleHashList ts = true) (hok : TreeOK (Walk.toPorts ts)) :
    Walk.enumerate ts pre = (walk (Walk.toPorts ts)).map (fun e => (e.2, pre ++ e.1)) := by
  rw [walked_is_enumerate ts pre hwf hsh, walkE_eq_walk _ hok]

/-- **apropos_of_enumerated**: the lookup clause stated with C09's notion of a walked address.
    Every `(port, address)` that C09's specification of the walk lists for the root table
    (addresses begin with `/`) is resolved by `Ports::apropos` to that port, provided no
    sibling's name is a prefix of another's (`TreeOKE`, `TreeNumOK`). -/
theorem apropos_of_enumerated (ts : List Walk.STree) (hwf : Walk.TreeWF ts)
    (hsh : singleHashList ts = true) (hok : TreeOKE (Walk.toPorts ts)) (hnum : TreeNumOK (Walk.toPorts ts))
    (c : Walk.Call) (hc : c ∈ Walk.enumerate ts [SLASH]) :
    apropos (Walk.toPorts ts) c.2 = .port c.1 := by
  rw [walked_is_enumerate ts [SLASH] hwf hsh] at hc
  obtain ⟨⟨a, ix⟩, hm, rfl⟩ := List.mem_map.mp hc
  exact (apropos_of_walked_enum _ hok hnum a ix hm).2

/-- `exTreeE` (p#3/ → { x, y#2:i }, q) written with C09's structured names -/
def exSTreeE : List Walk.STree :=
  [.sub ⟨[112], [([51], [])], true, none⟩ none
     [.leaf ⟨[120], [], false, none⟩ none, .leaf ⟨[121], [([50], [])], false, some [[105]]⟩ none],
   .leaf ⟨[113], [], false, none⟩ none]

example : Walk.TreeWF exSTreeE ∧ singleHashList exSTreeE = true := by decide +kernel
example : (Walk.toPorts exSTreeE).map PortT.name = exTreeE.map PortT.name := by decide +kernel
example : Walk.enumerate exSTreeE [SLASH] = (walkE exTreeE).map (fun e => (e.2, SLASH :: e.1)) := by decide +kernel
example : ∀ c ∈ Walk.enumerate exSTreeE [SLASH], apropos (Walk.toPorts exSTreeE) c.2 = .port c.1 := by decide +kernel

end Rtosc.Path
