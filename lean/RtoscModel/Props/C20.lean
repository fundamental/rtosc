/-
  C20 — A learned MIDI controller drives exactly its parameter, within its range.
  Property theorems only; helper lemmas live in Proofs/Midi*.lean.  The hypotheses and abstractions of the statements
  that the model file does not define (`Trace`, `HazardFree`, `Op.wf`, `Reach`, `PortOk`, `EmitsComposed`, `lastVals`, `StOk`,
  `PairInj`, `half`/`halfAt`, `Val.scaled`, `f32Scaled`, `rndZ`, `Ring` …) are defined in RtoscModel/MidiSpec.lean.

  Reading of the statement.  The system is the pair of halves of `midimapper.cpp` plus the
  two FIFO channels between them (`Midi.Sys`); a history is ANY sequence of API calls
  (`map`, `unMap`, `clear` on the non-realtime half, an incoming controller value on the
  realtime half) and single-message deliveries (`deliverRT`, `deliverNRT`), i.e. every
  interleaving that respects per-channel FIFO order (`Trace P h s`: history `h` leads from
  the initial state to `s`; `Reach P s`: some history does).  Inputs are well-formed
  (`Op.wf`): addresses exist, controller values are 7-bit.  "Which parameter a controller
  drives" is `binding` (first mapping entry of the snapshot + address of its callback).

  Two defect classes of the unchanged code are excluded by decidable trigger predicates
  (`triggerK1`, `triggerK2`, evaluated step by step as `hazard`); the clauses about the
  learn handshake are therefore `…_partial`, their unrestricted forms are kept as
  `…_statement` and are refuted on concrete witnesses: `X_counterexample : ¬ X_statement` for `bindings_independent`,
  `unassigned_silent`, `no_crash`, `half_survives_bind`, `emits_composed_value`.  Two refutations are named after the
  clause that fails, not after the statement they refute: `assigned_to_oldest_counterexample` (K1: the queued address is
  assigned to nobody) is `¬ learn_completes_statement`, and `assigned_to_oldest_step_counterexample` (K2) is
  `¬ assigned_to_oldest_statement`.  `unmap_stops_statement` and `nrt_refines_table_statement` have no such theorem:
  their docstrings name the witness.
  "Hazard-free" is spelt in four ways, all of them definitions of Midi.lean or MidiSpec.lean: `HazardFree h` (MidiSpec: no entry `(s, op)`
  of the history has `hazard s op`), the hypothesis of the `_partial` theorems; `anyStep hazard P s ops = false` for a
  run from `s`, in their conclusions; `triggerK1 P ops = false ∧ triggerK2 P ops = false`, and the Bool
  `hazardFree P ops` (Midi.lean; `!anyStep hazard P Sys.init ops` by definition), for a run from `Sys.init`, which is
  what the checks evaluate.  `anyStep_hazard` (Proofs/MidiInv), `histOf_hazardFree` (Proofs/MidiExtRun) and
  `safe_run_is_hazard_free_trace` lead from the last two to the first.  The numeric
  clauses hold for every history, hazards included: `value_in_range_monotone` about the exact
  value of the linear map, `emitted_int_in_range_monotone` / `emitted_float_in_range_monotone`
  about the value that is actually sent (after the rounding to `float` and, for an `i` port,
  the truncation to `int`), `emitted_float_bits_in_range_monotone` / `emitted_value_in_range_monotone`
  about the emitted argument itself (the `int`, or the 32 bits of the `float` read back as an
  IEEE-754 binary32).  An `i` port needs INTEGRAL bounds for that
  (`int_port_fractional_bound_counterexample`).

  The system-level numeric clause — WHICH 14-bit value is sent — is `emits_composed_value_partial`
  (hazard-free histories; `emits_composed_value_counterexample` with a K2 hazard): one message per
  value, composed from the incoming value and the LAST value (`lastVals`, a function of the history)
  of the controller bound to the other half of the same address, in range, monotone.
-/
import RtoscModel.Proofs.MidiClauses
import RtoscModel.Proofs.MidiRound
import RtoscModel.Proofs.MidiRing
import RtoscModel.Proofs.MidiExtEmit
import RtoscModel.Proofs.MidiExtRun
namespace Rtosc.Midi

/-! ## Clauses that hold for every history, hazards included -/

/-- **one_message_per_value** — "every value v it sends produces exactly one message to
    that address" and "controllers that are not assigned produce no parameter message",
    as seen by the realtime half: a controller value produces exactly one backend message,
    addressed to the parameter the controller is bound to in the snapshot the realtime half
    acts on, and none when it is bound to nothing.  (Any state, any non-crashing step.) -/
theorem one_message_per_value {P s id val s' out} (h : step P s (.cc id val) = some (s', out)) :
    (∀ a k, s.rt.binding id = some (a, k) → ∃ m, out = [m] ∧ m.addr = a) ∧
    (s.rt.binding id = none → out = []) ∧ out.length ≤ 1 := by
  rcases cc_step_spec h with ⟨hb, rfl⟩ | ⟨st, e, old, cb, _, _, _, _, hb, rfl, _⟩
  · refine ⟨?_, fun _ => rfl, by simp⟩
    intro a k h'; rw [hb] at h'; cases h'
  · refine ⟨?_, ?_, by simp⟩
    · intro a k h'; rw [hb] at h'; cases h'
      exact ⟨_, rfl, Cb.fire_addr _ _⟩
    · intro h'; rw [hb] at h'; cases h'

/-- Nothing but an incoming controller value ever reaches the backend. -/
theorem other_steps_silent {P s op s' out} (h : step P s op = some (s', out))
    (hop : ∀ id v, op ≠ .cc id v) : out = [] := by
  cases step_iff.mp h with
  | ccHit => exact absurd rfl (hop _ _)
  | _ => rfl

/-- **value_in_range_monotone** — "whose value lies within the parameter's [min,max] and
    grows monotonically with v (7-bit coarse, 14-bit …)".  In every reachable state (any
    delivery order, hazards included) the message a controller value `val` produces is the
    callback of the PORT AT THE MESSAGE'S ADDRESS applied to the 14-bit value that has `val`
    in the controller's half (coarse: upper 7 bits, fine: lower 7 bits) and some 7-bit `o`
    in the other half; the exact value `bijNum/2^17` of the linear map lies in
    `[min8/8, max8/8]` and is monotone in `val` (and in `o`).  `Cb.fire` rounds exactly this
    number to `float` (and truncates it for an `i` port): `emitted_int_in_range_monotone` and
    `emitted_float_in_range_monotone` below carry range and monotonicity over to the value
    that is sent; the special case of an `i` port with range 0..127 is
    `special_case_in_range_monotone`.  `o` is the other half of the value slot as the realtime
    half holds it; that it is the last value of the address's OTHER controller is
    `emits_composed_value_partial` (hazard-free histories). -/
theorem value_in_range_monotone {P s} (r : Reach P s) {id val s' m} (hv : val ≤ 127)
    (h : step P s (.cc id val) = some (s', [m])) :
    ∃ p k o, P[m.addr]? = some p ∧ s.rt.binding id = some (m.addr, k) ∧ o < 128 ∧
      m = (portCb m.addr p).fire (compose14 k val o) ∧ compose14 k val o < 16384 ∧
      (p.min8 ≤ p.max8 →
        16384 * p.min8 ≤ bijNum p.min8 p.max8 (compose14 k val o) ∧
        bijNum p.min8 p.max8 (compose14 k val o) ≤ 16384 * p.max8) ∧
      (p.min8 ≤ p.max8 → ∀ val' o', val ≤ val' → o ≤ o' →
        bijNum p.min8 p.max8 (compose14 k val o) ≤ bijNum p.min8 p.max8 (compose14 k val' o')) := by
  have i0 := inv0_of_reach r
  rcases cc_step_spec h with ⟨_, hout⟩ | ⟨st, e, old, cb, hst, hf, hold, hcb, hb, hout, _⟩
  · cases hout
  · simp only [List.cons.injEq, and_true] at hout
    obtain ⟨hcbs, hsmall⟩ := i0.rt st hst
    obtain ⟨p, hp, hcbeq⟩ := hcbs cb (List.mem_of_getElem? hcb)
    have holdlt : old < 16384 := hsmall old (List.mem_of_getElem? hold)
    have hblit := blit_compose e.coarse val old hv holdlt
    have ho := half_lt (!e.coarse) old holdlt
    generalize half (!e.coarse) old = o at hblit ho
    have haddr : m.addr = cb.addr := by rw [hout]; exact Cb.fire_addr _ _
    have hlt := compose14_lt (k := e.coarse) hv ho
    refine ⟨p, e.coarse, o, by rw [haddr]; exact hp, by rw [haddr]; exact hb, ho, ?_, hlt, ?_, ?_⟩
    · rw [haddr, ← hcbeq, hout, hblit]
    · intro hmm; exact bijNum_range hmm (by omega)
    · intro hmm val' o' h1 h2; exact bijNum_mono hmm (compose14_mono h1 h2)

/-- The `i` port with range 0..127 (`generateNewBijection`'s special case) sends the upper
    seven bits of the 14-bit value: within 0..127 and monotone. -/
theorem special_case_in_range_monotone (a x y : Nat) (hx : x < 16384) (hy : y < 16384) (hxy : x ≤ y) :
    ((⟨a, true, 0, 1016⟩ : Cb).fire x).val = .int ((x / 128 : Nat) : Int) ∧ x / 128 ≤ 127 ∧
    x / 128 ≤ y / 128 := by
  refine ⟨?_, by omega, Nat.div_le_div_right hxy⟩
  rw [fire_special _ x ⟨rfl, rfl, rfl⟩ hx]

/-! ### The value that is sent (after rounding / truncation), and its type -/

/-- **emitted_int_in_range_monotone** — "whose value lies within the parameter's [min,max] and
    grows monotonically with v", for the `int` that an `i` port is actually sent: for INTEGRAL
    bounds `lo ≤ hi` (`min8 = 8·lo`, `max8 = 8·hi`, `|·| ≤ 2^20`, every range the protocol can
    spell) other than the 0..127 special case (`special_case_in_range_monotone`), the message
    the callback writes for the 14-bit value `x` is `'i'`-typed, goes to the callback's address,
    carries `(int)(float)(x/16384.0*(max-min)+min)` — which lies in `[lo, hi]` — and does not
    decrease when `x` grows. -/
theorem emitted_int_in_range_monotone {a : Nat} {lo hi : Int} (hlh : lo ≤ hi) (h1 : -1048576 ≤ lo)
    (h2 : hi ≤ 1048576) (hspecial : ¬(lo = 0 ∧ hi = 127)) {x y : Nat} (hx : x < 16384) (_hy : y < 16384)
    (hxy : x ≤ y) :
    ∃ vx vy : Int, ((⟨a, true, 8 * lo, 8 * hi⟩ : Cb).fire x) = ⟨a, .int vx⟩ ∧
      ((⟨a, true, 8 * lo, 8 * hi⟩ : Cb).fire y) = ⟨a, .int vy⟩ ∧ lo ≤ vx ∧ vx ≤ hi ∧ vx ≤ vy := by
  have hs : ¬((8 * lo = 0 ∧ 8 * hi = 127 * 8 ∧ true = true)) := fun h => hspecial ⟨by omega, by omega⟩
  exact ⟨_, _, fire_int ⟨a, true, 8 * lo, 8 * hi⟩ x hs rfl, fire_int ⟨a, true, 8 * lo, 8 * hi⟩ y hs rfl,
    trunc_bijNum_range_mono hlh h1 h2 hx hxy⟩

/-- **Why the bounds of an `i` port must be integral** (the boundary of the assumption "int
    parameters have int ranges"): with `min = 0.125`, `max = 100.125` the unchanged code sends
    `(int)0.125 = 0` for the value 0, which is below `min`. -/
theorem int_port_fractional_bound_counterexample :
    ((⟨0, true, 1, 801⟩ : Cb).fire 0).val = .int 0 ∧ ¬((1 : Int) ≤ 8 * 0) := by
  decide +kernel

/-- **emitted_float_in_range_monotone** — the same clause for the `float` an `f` port is sent.
    `f32OfDyadic num 17` encodes sign, significand and exponent computed by `f32Round |num| 17`;
    that pair denotes `rnd |num| / 2^17` (`f32Round_value`), `rnd` being round-to-nearest-even to
    24 significant bits.  The rounded value `rndZ num / 2^17` lies in `[min8/8, max8/8]` (both
    ends are themselves `float`s) and does not decrease when `x` grows — for EVERY range the
    protocol can spell (`|min8|, |max8| ≤ 2^23`).  (That the 32 bits sent are the IEEE-754
    encoding of exactly this number: `float_bits_denote_rounded_value`; the clause restated on the
    bit pattern: `emitted_float_bits_in_range_monotone`.) -/
theorem emitted_float_in_range_monotone {mn mx : Int} (h : mn ≤ mx) (h1 : -8388608 ≤ mn) (h2 : mx ≤ 8388608)
    {x y : Nat} (hx : x < 16384) (_hy : y < 16384) (hxy : x ≤ y) :
    16384 * mn ≤ rndZ (bijNum mn mx x) ∧ rndZ (bijNum mn mx x) ≤ 16384 * mx ∧
    rndZ (bijNum mn mx x) ≤ rndZ (bijNum mn mx y) :=
  rndZ_bijNum_range_mono h h1 h2 hx hxy

/-- **float_bits_denote_rounded_value** — the packing step of the float path: the 32 bits
    `f32OfDyadic num e` written into the message are a FINITE IEEE-754 binary32 pattern (`f32Finite`:
    32 bits, exponent field not 255) and, read back field by field (`f32Scaled`: sign = bit 31, biased
    exponent = bits 30..23, fraction = bits 22..0; the value times `2^149`), denote exactly
    `rndZ num / 2^e`, the round-to-nearest-even of `num / 2^e` — for every numerator of at most 100 bits
    and `e ≤ 125` (the linear map uses `e = 17` and at most 38 bits). -/
theorem float_bits_denote_rounded_value {num : Int} {e : Nat} (he : e ≤ 125) (hl : bitLen num.natAbs ≤ 100) :
    f32Scaled (f32OfDyadic num e) = rndZ num * 2 ^ (149 - e) ∧ f32Finite (f32OfDyadic num e) :=
  f32OfDyadic_scaled he hl

/-- **emitted_float_bits_in_range_monotone** — "whose value lies within the parameter's [min,max] and
    grows monotonically with v", for the 32 BITS an `f` port is actually sent: for every range the
    protocol can spell the message written for the 14-bit value `x` is `'f'`-typed, goes to the
    callback's address, and its bit pattern is a finite binary32 whose exact value lies in
    `[min8/8, max8/8]` (`f32Scaled` is the value times `2^149`, so the bounds are `min8 * 2^146`,
    `max8 * 2^146`) and does not decrease when `x` grows. -/
theorem emitted_float_bits_in_range_monotone {a : Nat} {mn mx : Int} (h : mn ≤ mx) (h1 : -8388608 ≤ mn)
    (h2 : mx ≤ 8388608) {x y : Nat} (hx : x < 16384) (hy : y < 16384) (hxy : x ≤ y) :
    ∃ bx bY : Nat, ((⟨a, false, mn, mx⟩ : Cb).fire x) = ⟨a, .flt bx⟩ ∧
      ((⟨a, false, mn, mx⟩ : Cb).fire y) = ⟨a, .flt bY⟩ ∧ f32Finite bx ∧
      mn * 2 ^ 146 ≤ f32Scaled bx ∧ f32Scaled bx ≤ mx * 2 ^ 146 ∧ f32Scaled bx ≤ f32Scaled bY := by
  have hp : PortOk ⟨false, mn, mx⟩ := ⟨h, h1, h2, fun hh => by cases hh⟩
  have ex := fire_flt ⟨a, false, mn, mx⟩ x (by simp)
  have ey := fire_flt ⟨a, false, mn, mx⟩ y (by simp)
  obtain ⟨_, _, f1, f2, f3, f4⟩ := fire_in_range_monotone a hp hx hy hxy
  simp only [portCb] at f1 f2 f3 f4
  rw [ex] at f1 f2 f3 f4
  rw [ey] at f4
  exact ⟨_, _, ex, ey, f1, f2, f3, f4⟩

/-- **emitted_value_in_range_monotone** — the same clause for EVERY port the property quantifies over
    (`PortOk`: `min ≤ max`, multiples of 1/8 up to `2^20` in size, integral bounds for an `i` port; the
    0..127 special case included), in one statement about the emitted argument (`Val.scaled`: the `int`,
    or the `float` read back from its bits, times `2^149`): the message goes to the port's address, has
    the port's type, is a finite number within `[min, max]`, and does not decrease when the 14-bit
    value grows. -/
theorem emitted_value_in_range_monotone (a : Nat) {p : PortSpec} (hp : PortOk p) {x y : Nat} (hx : x < 16384)
    (hy : y < 16384) (hxy : x ≤ y) :
    ((portCb a p).fire x).addr = a ∧ ((portCb a p).fire x).val.isInt = p.isInt ∧
    ((portCb a p).fire x).val.finite ∧
    p.min8 * 2 ^ 146 ≤ ((portCb a p).fire x).val.scaled ∧
    ((portCb a p).fire x).val.scaled ≤ p.max8 * 2 ^ 146 ∧
    ((portCb a p).fire x).val.scaled ≤ ((portCb a p).fire y).val.scaled :=
  fire_in_range_monotone a hp hx hy hxy

/-- value 12288 of 16384 on a port -1..1 sends the bits of 0.5 -/
example : (⟨1, false, -8, 8⟩ : Cb).fire 12288 = ⟨1, .flt 0x3f000000⟩ ∧ f32Scaled 0x3f000000 = 2 ^ 148 := by decide +kernel
example : exPorts.all (fun p => decide (PortOk p)) = true := by decide +kernel

/-- **message_type_follows_port** — "(address, type, value)": the message a callback writes is
    `'i'`-typed exactly when `generateNewBijection` classified the port as `'i'`, … -/
theorem message_type_follows_port (c : Cb) (x : Nat) : (∃ v, (c.fire x).val = .int v) ↔ c.isInt = true := by
  unfold Cb.fire
  split
  · rename_i h; simp [h.2.2]
  · split <;> rename_i h' <;> simp [h']

/-- … and `generateNewBijection` (`strstr(port.name, ":i")`) classifies a port as `'i'` exactly
    when its signature accepts an `i` argument, for every name the protocol can declare:
    `":i"`, `"::i"`, `":f:i"`, `":i:f"` → `'i'`;  `":f"`, `"::f"` → `'f'`; any padding of the name. -/
theorem port_type_follows_signature (d : PortDecl) (hk : d.idx ≤ 9) : d.toSpec.isInt = d.sig.acceptsInt := by
  have hdig : ∀ i, i ≤ 9 → ':' ≠ Char.ofNat (48 + i) := by decide
  have hpre : ':' ∉ 'p' :: Char.ofNat (48 + d.idx) :: padText.take d.pad := by
    intro hm
    rcases List.mem_cons.mp hm with h | hm
    · exact absurd h (by decide)
    rcases List.mem_cons.mp hm with h | hm
    · exact hdig _ hk h
    · exact padText_no_colon (List.mem_of_mem_take hm)
  have e : d.name = ('p' :: Char.ofNat (48 + d.idx) :: padText.take d.pad) ++ d.sig.text := by
    simp [PortDecl.name]
  simp only [PortDecl.toSpec, e, hasInfix_append_of_no_colon _ _ hpre]
  cases d.sig <;> rfl

example : (⟨3, .oi, ['d', 'L'], 0, 800, 2, 30⟩ : PortDecl).toSpec = ⟨true, 0, 800⟩ := by
  simp only [PortDecl.toSpec, PortDecl.name, padText_chars]; decide +kernel
example : ∃ vx vy : Int, ((⟨0, true, 8 * 64, 8 * 127⟩ : Cb).fire 0) = ⟨0, .int vx⟩ ∧
    ((⟨0, true, 8 * 64, 8 * 127⟩ : Cb).fire 16383) = ⟨0, .int vy⟩ ∧ (64 : Int) ≤ vx ∧ vx ≤ 127 ∧ vx ≤ vy :=
  emitted_int_in_range_monotone (by decide) (by decide) (by decide) (by decide) (by decide) (by decide) (by decide)

/-- **fine_composes_14bit** — "(7-bit coarse, 14-bit when a fine controller has been learned
    for the same address)": when a coarse controller `c` and a fine controller `f` share a
    value slot, the value sent after `c` said `vc` and then `f` said `vf` is the slot's
    callback applied to `vc·128 + vf`. -/
theorem fine_composes_14bit {st st1 st2 : Storage} {c f slot vc vf : Nat} {m1 m2 : Msg}
    (hc : st.mapping.find? (fun e => e.id == c) = some ⟨c, true, slot⟩)
    (hf : st.mapping.find? (fun e => e.id == f) = some ⟨f, false, slot⟩)
    (hvc : vc ≤ 127) (hvf : vf ≤ 127)
    (h1 : st.handleCC c vc = some (st1, some m1)) (h2 : st1.handleCC f vf = some (st2, some m2)) :
    ∃ cb, st.callbacks[slot]? = some cb ∧ m2 = cb.fire (vc * 128 + vf) := by
  obtain ⟨old, cb, hv, hcb, rfl, rfl⟩ := Storage.handleCC_hit hc h1
  have hf' : ({ st with values := st.values.set slot (blit true vc old) } : Storage).mapping.find?
      (fun e => e.id == f) = some ⟨f, false, slot⟩ := hf
  obtain ⟨old2, cb2, hv2, hcb2, -, rfl⟩ := Storage.handleCC_hit hf' h2
  have hlt : slot < st.values.length := (List.getElem?_eq_some_iff.mp hv).1
  cases (List.getElem?_set_self hlt).symm.trans hv2
  cases hcb.symm.trans hcb2
  have hmod : old % 128 < 128 := Nat.mod_lt old (by decide)
  refine ⟨cb, hcb, ?_⟩
  show cb.fire (blit false vf (blit true vc old)) = _
  rw [blit_coarse, blit_fine _ _ (Nat.lt_succ_of_le hvf) (by omega), (digits_of_lt vc hmod).1]

/-- **The realtime half acts on a past table** — whatever the delivery order (hazards
    included), the parameter a controller drives according to the realtime half is the one
    the non-realtime half had decided at some moment of the history (now or earlier): the
    halves never disagree about more than "how up to date". Together with
    `one_message_per_value` this ties every backend message to a decision of the
    non-realtime half, whose decisions the `_partial` theorems below describe. -/
theorem rt_acts_on_past_table {P h s} (t : Trace P h s) :
    ∃ n ∈ pastNrts h s, s.rt.binding = n.binding := by
  obtain ⟨⟨n, hn, hv⟩, _⟩ := views_are_past t
  exact ⟨n, hn, binding_of_viewOf hv⟩

/-- **pending_queue_is_ring** — the realtime half's set of controllers whose learn request is under
    way is, in the code, a ring of 32 `int` cells with two cursors (`PendingQueue`); the model's FIFO
    list is a sound abstraction of it for sessions of ANY length: after any sequence of
    `insert`/`pop` from the initial state the ring holds exactly the list (oldest first), and `has`
    scans to the same answer as `List.contains`. -/
theorem pending_queue_is_ring (ops : List QOp) :
    RingOk (ops.foldl Ring.apply Ring.init) (ops.foldl pendApply []) ∧
    ∀ x, (ops.foldl Ring.apply Ring.init).has x = (ops.foldl pendApply []).contains x :=
  pending_list_refines_ring ops

/-! ## Clauses about the learn handshake: hazard-free histories -/

/-- the unrestricted form of `assigned_to_oldest` (false of the unchanged code, see
    `assigned_to_oldest_step_counterexample`) -/
def assigned_to_oldest_statement : Prop :=
  ∀ (P : List PortSpec) (h : List (Sys × Op)) (s : Sys), Trace P h s →
    ∀ id rest a k q, s.toNRT = id :: rest → s.nrt.learnQ = (a, k) :: q →
    ∃ s', step P s .deliverNRT = some (s', []) ∧ s'.nrt.learnQ = q ∧ s'.nrt.binding id = some (a, k) ∧
      (∀ id' b, s.nrt.binding id' = some b → s'.nrt.binding id' = some b)

/-- **assigned_to_oldest** (partial: hazard-free histories) — "a not yet assigned controller
    … is assigned to the oldest queued address": when the controller's request reaches the
    non-realtime half while addresses are queued, the step does not crash, the controller is
    bound to the HEAD of the learn queue (coarse/fine as queued), the queue loses exactly
    that head, every other controller keeps its binding, and the snapshot carrying the new
    binding is sent as the newest message to the realtime half. -/
theorem assigned_to_oldest_partial {P h s} (t : Trace P h s) (hf : HazardFree h)
    {id rest a k q} (hq : s.toNRT = id :: rest) (hl : s.nrt.learnQ = (a, k) :: q) :
    ∃ s' ns, step P s .deliverNRT = some (s', []) ∧ hazard s .deliverNRT = false ∧
      s'.nrt.learnQ = q ∧ s'.nrt.binding id = some (a, k) ∧
      (∀ id' b, s.nrt.binding id' = some b → s'.nrt.binding id' = some b) ∧
      s'.toRT = s.toRT ++ [.bind ns (some id)] ∧ s'.nrt.storage = some ns ∧ s'.toNRT = rest := by
  obtain ⟨n', ns, h⟩ := deliverNRT_ok (inv_of_trace t hf) hq hl
  exact ⟨_, ns, h.safe.step, h.safe.safe, h.queue, h.bound, h.keeps, rfl, h.storage, rfl⟩

/-- the unrestricted form of `learn_completes` (false of the unchanged code, see
    `assigned_to_oldest_counterexample`) -/
def learn_completes_statement : Prop :=
  ∀ (P : List PortSpec) (h : List (Sys × Op)) (s : Sys), Trace P h s → s.quiescent →
    ∀ a k q id val, s.nrt.learnQ = (a, k) :: q → s.rt.binding id = none → val ≤ 127 →
    ∃ s3 outs, run P s [.cc id val, .deliverNRT, .deliverRT] = some (s3, outs) ∧
      s3.rt.binding id = some (a, k)

/-- **learn_completes** (partial) — the whole clause "after a parameter address has been
    queued for MIDI learning and a not yet assigned controller arrives, that controller is
    assigned to the oldest queued address and from then on every value it sends produces
    exactly one message to that address", end to end: in any state reached by a hazard-free
    history in which nothing is under way, if `(a,k)` heads the learn queue and controller
    `id` is bound to nothing, then the controller's value, the delivery of its request and
    the delivery of the answer (none of them a hazard, none of them crashing, none of them
    producing a message) lead to a state in which again nothing is under way, `id` drives
    `(a,k)` in both halves, the queue has lost its head, all other bindings are as before —
    and every further value of `id` produces exactly one message, to address `a`. -/
theorem learn_completes_partial {P h s} (t : Trace P h s) (hf : HazardFree h) (hquiet : s.quiescent)
    {a k q id val} (hl : s.nrt.learnQ = (a, k) :: q) (hb : s.rt.binding id = none) :
    ∃ s3, run P s [.cc id val, .deliverNRT, .deliverRT] = some (s3, [[], [], []]) ∧
      anyStep hazard P s [.cc id val, .deliverNRT, .deliverRT] = false ∧
      s3.quiescent ∧ s3.nrt.learnQ = q ∧
      s3.rt.binding id = some (a, k) ∧ s3.nrt.binding id = some (a, k) ∧
      (∀ id' b, s.rt.binding id' = some b → s3.rt.binding id' = some b) ∧
      (∀ v s4 out, step P s3 (.cc id v) = some (s4, out) → ∃ m, out = [m] ∧ m.addr = a) := by
  obtain ⟨s1, s2, s3, h⟩ := learn_handshake (val := val) (inv_of_trace t hf) hquiet hl hb
  refine ⟨s3, by simp [run, h.cc.step, h.nrt.step, h.rt.step],
    by simp [anyStep, h.cc.step, h.nrt.step, h.rt.step, h.cc.safe, h.nrt.safe, h.rt.safe],
    h.quiet, h.queue, h.rtBound, h.nrtBound, h.keeps, ?_⟩
  intro v s4 out h4
  exact (one_message_per_value h4).1 a k h.rtBound

/-- the unrestricted form of `unassigned_silent` -/
def unassigned_silent_statement : Prop :=
  ∀ (P : List PortSpec) (h : List (Sys × Op)) (s : Sys), Trace P h s →
    ∀ id val s' m, step P s (.cc id val) = some (s', [m]) → Assigned h id

/-- **unassigned_silent** (partial) — "controllers that were never assigned produce no
    parameter message": along a hazard-free history, a controller whose value produces a
    message was assigned by a learn step of that very history (its request reached
    `useFreeID` while an address was queued). -/
theorem unassigned_silent_partial {P h s} (t : Trace P h s) (hf : HazardFree h)
    {id val s' m} (hs : step P s (.cc id val) = some (s', [m])) : Assigned h id := by
  apply known_assigned t hf
  rcases cc_step_spec hs with ⟨_, hout⟩ | ⟨st, e, _, _, hst, hfind, _⟩
  · cases hout
  · right; right
    have hid : e.id = id := by have := List.find?_some hfind; simpa using this
    simpa [omap, hst] using mem_ids.mpr ⟨e, List.mem_of_find?_eq_some hfind, hid⟩

/-- the unrestricted form of `bindings_independent` for `unMap` -/
def bindings_independent_statement : Prop :=
  ∀ (P : List PortSpec) (h : List (Sys × Op)) (s : Sys), Trace P h s →
    ∀ a k s' out, a < P.length → step P s (.unmap a k) = some (s', out) →
    ∀ id b, s.nrt.binding id = some b → b ≠ (a, k) → s'.nrt.binding id = some b

/-- **bindings_independent** (partial) — "other addresses' bindings are unaffected": along a
    hazard-free history,
    * `map(a,k)` / `unMap(a,k)` keep every binding to a parameter other than `(a,k)`;
    * a learn step keeps every existing binding;
    * an incoming controller value and a delivery to the realtime half do not touch the
      non-realtime half at all, and a controller value leaves every binding of the realtime
      half as it is (it only writes the value slot of its own parameter). -/
theorem bindings_independent_partial {P h s} (t : Trace P h s) (hf : HazardFree h)
    {op s' out} (hwf : op.wf P) (hz : hazard s op = false) (hs : step P s op = some (s', out)) :
    (∀ a k, (op = .map a k ∨ op = .unmap a k) →
      ∀ id b, s.nrt.binding id = some b → b ≠ (a, k) → s'.nrt.binding id = some b) ∧
    (op = .deliverNRT → ∀ id b, s.nrt.binding id = some b → s'.nrt.binding id = some b) ∧
    ((∃ id v, op = .cc id v) ∨ op = .deliverRT → s'.nrt = s.nrt) ∧
    (∀ id v, op = .cc id v → s'.rt.binding = s.rt.binding) := by
  have hi := inv_of_trace t hf
  refine ⟨?_, ?_, ?_, ?_⟩
  · rintro a k (rfl | rfl) id b hb hne
    · cases step_iff.mp hs with
      | nrt hn =>
        cases hn with
        | map hm => exact map_bindings hi.nrt hm id b hb hne
      | idle hc => rcases hc with ⟨e, -⟩ | ⟨e, -⟩ <;> cases e
    · cases step_iff.mp hs with
      | nrt hn =>
        cases hn with
        | unmap hm => exact (unMap_bindings hi.nrt hm).1 id b hb hne
      | idle hc => rcases hc with ⟨e, -⟩ | ⟨e, -⟩ <;> cases e
  · rintro rfl id b hb
    cases step_iff.mp hs with
    | idle => exact hb
    | nrt hn =>
      cases hn with
      | learn hq hu =>
        cases hl : s.nrt.learnQ with
        | nil => exact (hazardK1_queued (hazard_iff.mp hz).1 hq hl).elim
        | cons x q =>
          obtain ⟨n', ns, h⟩ := deliverNRT_ok hi hq hl
          have e := congrArg (fun r : Sys × List Msg => r.1.nrt) (Option.some.inj (hs.symm.trans h.safe.step))
          exact e ▸ h.keeps id b hb
  · rintro (⟨id, v, rfl⟩ | rfl) <;> cases step_iff.mp hs with
    | nrt hn => cases hn
    | _ => rfl
  · rintro id v rfl
    cases step_iff.mp hs with
    | nrt hn => cases hn
    | ccHit hst =>
      -- the snapshot keeps its mapping and callbacks
      rw [RT.binding_eq hst, RT.binding_eq rfl]; rfl
    | _ => rfl

/-- the unrestricted form of `unmap_stops` (non-realtime half); false of the unchanged code: in `k4State`, the witness of
    `no_crash_counterexample`, `unMap(p0, coarse)` crashes -/
def unmap_stops_statement : Prop :=
  ∀ (P : List PortSpec) (h : List (Sys × Op)) (s : Sys), Trace P h s → ∀ a k, a < P.length →
    ∃ s1, step P s (.unmap a k) = some (s1, []) ∧ ∀ id, s1.nrt.binding id ≠ some (a, k)

/-- **unmap_stops** (partial) — "unmapping an address stops its controller from driving it":
    along a hazard-free history `unMap(a,k)` does not crash and leaves no controller bound
    to `(a,k)` in the non-realtime half; and from a state in which nothing is under way,
    once the resulting `midi-bind` (if any) has been delivered, no controller value produces
    a message for `(a,k)` any more while every other binding of the realtime half is as
    before. -/
theorem unmap_stops_partial {P h s} (t : Trace P h s) (hf : HazardFree h) (a : Nat) (k : Bool) :
    (∃ s1, step P s (.unmap a k) = some (s1, []) ∧ ∀ id, s1.nrt.binding id ≠ some (a, k)) ∧
    (s.quiescent → ∃ s2, run P s [.unmap a k, .deliverRT] = some (s2, [[], []]) ∧
      anyStep hazard P s [.unmap a k, .deliverRT] = false ∧ s2.quiescent ∧
      (∀ id, s2.rt.binding id ≠ some (a, k)) ∧
      (∀ id b, s.rt.binding id = some b → b ≠ (a, k) → s2.rt.binding id = some b) ∧
      (∀ id v s3 out, s.rt.binding id = some (a, k) → step P s2 (.cc id v) = some (s3, out) → out = [])) := by
  have hi := inv_of_trace t hf
  constructor
  · obtain ⟨n', ms, hun, -⟩ := unMap_ok hi.nrt a k
    exact ⟨_, step_iff.mpr (.nrt (.unmap hun)), (unMap_bindings hi.nrt hun).2.1⟩
  · intro hquiet
    obtain ⟨s1, s2, h⟩ := unmap_handshake hi hquiet a k
    refine ⟨s2, by simp [run, h.unmap.step, h.rt.step],
      by simp [anyStep, h.unmap.step, h.rt.step, h.unmap.safe, h.rt.safe], h.quiet, h.stops, h.keeps, ?_⟩
    intro id v s3 out hb h3
    -- `id` was the controller of (a,k); it is bound to nothing now
    exact (one_message_per_value h3).2.1 (h.gone id hb)

/-- the unrestricted form of `nrt_refines_table`; false of the unchanged code: in `k2PrefixState`, the witness of
    `assigned_to_oldest_step_counterexample`, the delivered request of controller 5 leaves it on `p0` where `Table.learn`
    gives it `p1` -/
def nrt_refines_table_statement : Prop :=
  ∀ (P : List PortSpec) (h : List (Sys × Op)) (s : Sys), Trace P h s →
    ∀ op s' out, op.wf P → step P s op = some (s', out) →
    tableOf s'.nrt = (tableOf s.nrt).step op s.toNRT.head?

/-- **The non-realtime half refines the specification of the learn table** (partial) — along
    a hazard-free history every step changes the pair (learn queue, controller ↦ parameter)
    exactly as `Table.step` prescribes: `map` queues once and forgets the old controller,
    `unMap` stops exactly the controller of `(a,k)`, a request is served with the OLDEST
    queued address, everything else leaves the table alone.  This one statement contains
    `assigned_to_oldest`, `bindings_independent` and `unmap_stops` for the non-realtime half. -/
theorem nrt_refines_table_partial {P h s} (t : Trace P h s) (hf : HazardFree h)
    {op s' out} (hwf : op.wf P) (hz : hazard s op = false) (hs : step P s op = some (s', out)) :
    tableOf s'.nrt = (tableOf s.nrt).step op s.toNRT.head? := by
  have hi := inv_of_trace t hf
  cases step_iff.mp hs with
  | nrt hn => exact (hi.nrt_ok hn hwf.map (hazard_iff.mp hz).1).table
  | ccHit => rfl
  | ccAsk => rfl
  | ccDrop => rfl
  | watch => rfl
  | bind => rfl
  | idle hc =>
    rcases hc with ⟨rfl, -⟩ | ⟨rfl, hq⟩
    · rfl
    · simp [Table.step, hq]

/-- **K1 needs `clear`** — in a history without `clear` no request ever meets an empty
    learn queue (watches and queued addresses stay in balance): `triggerK1` is false. -/
theorem triggerK1_needs_clear (P : List PortSpec) (ops : List Op) (h : Op.clear ∉ ops) :
    triggerK1 P ops = false :=
  k1_free_without_clear P ops Sys.init h (by simp [Sys.credits, Sys.init, RT.init, NRT.init, watchesOf])

/-- the unrestricted form of `no_crash` -/
def no_crash_statement : Prop :=
  ∀ (P : List PortSpec) (h : List (Sys × Op)) (s : Sys), Trace P h s →
    ∀ op, op.wf P → ∃ s' out, step P s op = some (s', out)

/-- **no_crash** (partial) — along a hazard-free history no step on well-formed input
    indexes outside a vector (`killMap`, `handleCC`, `cloneValues`). -/
theorem no_crash_partial {P h s} (t : Trace P h s) (hf : HazardFree h) {op} (hwf : op.wf P)
    (hz : hazard s op = false) : ∃ s' out, step P s op = some (s', out) := by
  obtain ⟨s', out, he, _⟩ := inv_step (inv_of_trace t hf) hwf hz
  exact ⟨s', out, he⟩

/-- The executable trigger predicates decide hazard-freedom: a run of the compiled model
    from the initial state on which both triggers are false is a hazard-free history (so all
    `_partial` theorems apply to its end state and, by the same argument, to every prefix). -/
theorem safe_run_is_hazard_free_trace {P : List PortSpec} {ops s outs} (hwf : ∀ op ∈ ops, op.wf P)
    (k1 : triggerK1 P ops = false) (k2 : triggerK2 P ops = false)
    (hr : run P Sys.init ops = some (s, outs)) : ∃ h, Trace P h s ∧ HazardFree h := by
  have hfree : anyStep hazard P Sys.init ops = false := by
    rw [anyStep_hazard]; simp only [triggerK1, triggerK2] at k1 k2; simp [k1, k2]
  exact ⟨_, by simpa using trace_histOf ops [] Sys.init s outs Trace.init hwf hr,
    histOf_hazardFree ops Sys.init hfree⟩

/-! ## The two defect classes: witnesses -/

/-- K1 (DESIGN.md: C20-K1) `map A; clear; CC7; map B`, every message delivered at once -/
def k1Ops : List Op :=
  [.map 0 true, .deliverRT, .clear, .deliverRT, .cc 7 1, .deliverNRT, .deliverRT, .map 1 true, .deliverRT]

def k1State : Sys := ((run exPorts Sys.init k1Ops).map (·.1)).getD Sys.init

/-- K2: `p2` learned to 9; `p0`, `p1` queued; CC5 requests; `unMap p2` sends a `midi-bind`
    that answers nothing and pops 5 from `pending`; CC5 requests again; both requests are
    served: 5 is assigned to `p0` AND `p1`. -/
def k2Ops : List Op :=
  [.map 2 true, .deliverRT, .cc 9 1, .deliverNRT, .deliverRT, .map 0 true, .map 1 true, .deliverRT, .deliverRT,
   .cc 5 1, .unmap 2 true, .deliverRT, .cc 5 2, .deliverNRT, .deliverNRT, .deliverRT, .deliverRT]

def k2State : Sys := ((run exPorts Sys.init k2Ops).map (·.1)).getD Sys.init

/-- `k2Ops` up to the moment the SECOND request of controller 5 is about to be delivered -/
def k2PrefixOps : List Op := k2Ops.take 14

def k2PrefixState : Sys := ((run exPorts Sys.init k2PrefixOps).map (·.1)).getD Sys.init

/-- `k2Ops`, then `unMap(p1, coarse)`; the next `unMap(p0, coarse)` overflows -/
def k4Ops : List Op := k2Ops ++ [.unmap 1 true]

def k4State : Sys := ((run exPorts Sys.init k4Ops).map (·.1)).getD Sys.init

/-- `k2Ops`, then `unMap(p1, coarse)` delivered -/
def k3Ops : List Op := k2Ops ++ [.unmap 1 true, .deliverRT]

def k3State : Sys := ((run exPorts Sys.init k3Ops).map (·.1)).getD Sys.init

/-- **K1 refutes the unrestricted `learn_completes`**: after `map A; clear; CC7; map B`
    (all delivered; `triggerK1` fires at the delivery of CC7's request to the emptied queue)
    nothing is under way, `p1` is queued, controller 7 is bound to nothing — and the
    handshake does not even start: 7 is still in `pending`, no request is sent, 7 stays
    unbound. -/
theorem assigned_to_oldest_counterexample : ¬ learn_completes_statement := by
  intro hst
  have t := trace_of_concrete_run (P := exPorts) (ops := k1Ops) (by decide) (by decide)
  obtain ⟨s3, outs, hr, hb⟩ := hst exPorts _ k1State t (by decide) 1 true [] 7 1 (by decide) (by decide) (by decide)
  have : (run exPorts k1State [.cc 7 1, .deliverNRT, .deliverRT]).map (fun r => r.1.rt.binding 7) = some none := by
    decide
  rw [hr] at this; simp [hb] at this

theorem k1_trigger : triggerK1 exPorts k1Ops = true ∧ triggerK2 exPorts k1Ops = false := by decide +kernel

/-- **K2 refutes the unrestricted `assigned_to_oldest`**: controller 5's second request is
    delivered while `p1` heads the queue and 5 already drives `p0`; afterwards 5 still
    drives `p0` (the first mapping entry wins): it was not assigned to the oldest queued
    address, and `p1`'s learn request is gone. -/
theorem assigned_to_oldest_step_counterexample : ¬ assigned_to_oldest_statement := by
  intro hst
  have t := trace_of_concrete_run (P := exPorts) (ops := k2PrefixOps) (by decide) (by decide)
  obtain ⟨s', hs, _, hb, _⟩ := hst exPorts _ k2PrefixState t 5 [] 1 true [] (by decide) (by decide)
  have h2 : (step exPorts k2PrefixState .deliverNRT).map (fun r => r.1.nrt.binding 5) = some (some (0, true)) := by
    decide
  rw [hs] at h2; simp [hb] at h2

/-- **K2 refutes the unrestricted `bindings_independent`**: in the state after `k2Ops`
    controller 5 drives `p0`; `unMap(p1, coarse)` — another address — removes that binding. -/
theorem bindings_independent_counterexample : ¬ bindings_independent_statement := by
  intro hst
  have t := trace_of_concrete_run (P := exPorts) (ops := k2Ops) (by decide) (by decide)
  cases hs : step exPorts k2State (.unmap 1 true) with
  | none => have : (step exPorts k2State (.unmap 1 true)).isSome = true := by decide
            simp [hs] at this
  | some r =>
    have := hst exPorts _ k2State t 1 true r.1 r.2 (by decide) hs 5 (0, true) (by decide) (by decide)
    have h2 : (step exPorts k2State (.unmap 1 true)).map (fun r => r.1.nrt.binding 5) = some none := by decide
    rw [hs] at h2; simp [this] at h2

/-- **K2 refutes the unrestricted `unassigned_silent`**: after `k2Ops; unMap(p1,coarse)`
    delivered, controller 0 — which never sent a value, let alone was assigned — drives
    `p2` (the default-constructed cell `killMap` leaves behind). -/
theorem unassigned_silent_counterexample : ¬ unassigned_silent_statement := by
  intro hst
  have t := trace_of_concrete_run (P := exPorts) (ops := k3Ops) (by decide) (by decide)
  obtain ⟨s', m, hs⟩ := step_one_msg (P := exPorts) (s := k3State) (op := .cc 0 7) (by decide)
  have hass := hst exPorts _ k3State t 0 7 s' m hs
  have hno : ¬ Assigned (histOf exPorts Sys.init k3Ops) 0 := by decide
  exact hno hass

/-- **K2 reaches a heap overflow**: after `k2Ops; unMap(p1,coarse)`, `unMap(p0,coarse)`
    makes `killMap` copy one cell past its new vector (`step = none` is the crash the
    harness reports as `heap-buffer-overflow` under ASan). -/
theorem no_crash_counterexample : ¬ no_crash_statement := by
  intro hst
  have t := trace_of_concrete_run (P := exPorts) (ops := k4Ops) (by decide) (by decide)
  obtain ⟨s', out, hs⟩ := hst exPorts _ k4State t (.unmap 0 true) (by decide)
  have : step exPorts k4State (.unmap 0 true) = none := by decide
  rw [this] at hs; cases hs

theorem k2_trigger : triggerK1 exPorts k4Ops = false ∧ triggerK2 exPorts k4Ops = true := by decide +kernel

/-! ## The other half of a 14-bit value across a `midi-bind` -/

/-- the unrestricted form of `half_survives_bind` (false of the unchanged code after a K2 hazard, see
    `half_survives_bind_counterexample`) -/
def half_survives_bind_statement : Prop :=
  ∀ (P : List PortSpec) (h : List (Sys × Op)) (s : Sys), Trace P h s →
    ∀ ns ans rest old, s.toRT = .bind ns ans :: rest → s.rt.storage = some old →
    ∃ s' ns', step P s .deliverRT = some (s', []) ∧ s'.rt.storage = some ns' ∧ ns'.mapping = ns.mapping ∧
      ∀ d ∈ ns.mapping, ∀ e ∈ old.mapping, d.id = e.id →
        ∃ sv, old.values[e.slot]? = some sv ∧ halfAt d.slot d.coarse ns'.values = some (half e.coarse sv)

/-- **half_survives_bind** (partial: hazard-free histories) — "(7-bit coarse, 14-bit when a fine
    controller has been learned for the same address)" across snapshot changes: whenever the realtime
    half replaces the snapshot it acts on (`midi-bind`, i.e. after every learn / unMap / clear), every
    controller that is bound before and after keeps the 7-bit value it last sent, in the half
    (coarse: upper, fine: lower) of the value slot the NEW snapshot gives it.  Together with
    `fine_composes_14bit` (one snapshot) and `value_in_range_monotone` (the value sent is the
    callback applied to the slot) this makes the `o` of `value_in_range_monotone` the last value of
    the address's other controller for as long as both stay bound. -/
theorem half_survives_bind_partial {P h s} (t : Trace P h s) (hf : HazardFree h) {ns ans rest old}
    (hq : s.toRT = .bind ns ans :: rest) (hold : s.rt.storage = some old)
    (hz : hazard s .deliverRT = false) :
    ∃ s' ns', step P s .deliverRT = some (s', []) ∧ s'.rt.storage = some ns' ∧ ns'.mapping = ns.mapping ∧
      ∀ d ∈ ns.mapping, ∀ e ∈ old.mapping, d.id = e.id →
        ∃ sv, old.values[e.slot]? = some sv ∧ halfAt d.slot d.coarse ns'.values = some (half e.coarse sv) :=
  half_survives_bind t hf hq hold hz

/-- `k2Ops` (controller 5 assigned to `p0` AND `p1`), then 5 says 100 (it drives `p0`), `p2` is queued
    again and learned by controller 9; the `midi-bind` carrying that snapshot is about to be delivered -/
def cxOps : List Op := k2Ops ++ [.cc 5 100, .map 2 true, .deliverRT, .cc 9 1, .deliverNRT]

def cxState : Sys := ((run exPorts Sys.init cxOps).map (·.1)).getD Sys.init
def cxOld : Storage := cxState.rt.storage.getD Storage.empty
def cxNs : Storage := match cxState.toRT with | .bind ns _ :: _ => ns | _ => Storage.empty

/-- **K2 refutes the unrestricted `half_survives_bind`**: after a K2 hazard one controller can have two
    mapping entries; `cloneValues` then lets the LAST old entry of a controller win, so controller 5 —
    bound to `p0` before and after the `midi-bind`, last value 100 — finds 0 in its half of `p0`'s value
    slot: the next fine value for `p0` is composed with 0 instead of 100. -/
theorem half_survives_bind_counterexample : ¬ half_survives_bind_statement := by
  intro hst
  have t := trace_of_concrete_run (P := exPorts) (ops := cxOps) (by decide) (by decide)
  obtain ⟨s', ns', hstep, hst', _, hall⟩ := hst exPorts _ cxState t cxNs (some 9) [] cxOld (by decide) (by decide)
  obtain ⟨sv, hsv, hh⟩ := hall ⟨5, true, 1⟩ (by decide) ⟨5, true, 1⟩ (by decide) rfl
  have h1 : cxOld.values[1]? = some 12800 := by decide
  have h2 : (step exPorts cxState .deliverRT).map (fun r => r.1.rt.storage.map (fun st => halfAt 1 true st.values)) =
      some (some (some 0)) := by decide
  rw [hstep] at h2
  simp only [Option.map_some, hst', Option.some.injEq] at h2
  simp only at hsv hh
  rw [h1] at hsv; cases hsv
  rw [h2] at hh
  revert hh; decide

/-- **half_survives_bind for every reachable state with well-formed snapshots** — the hypothesis the
    counterexample violates, made explicit: in ANY reachable state (hazards allowed) in which the
    delivered snapshot `ns` and the snapshot `old` the realtime half acts on have their slots inside
    the vectors and pairwise distinct controller IDs (`StOk`) and no two entries of `ns` own the same
    half of a slot (`PairInj`), the delivery does not crash and every controller bound before and after
    keeps its 7-bit value.  (In `cxState`, `StOk cxOld` fails: controller 5 occurs twice.) -/
theorem half_survives_bind_wellformed {P s} (r : Reach P s) {ns ans rest old}
    (hq : s.toRT = .bind ns ans :: rest) (hold : s.rt.storage = some old)
    (hns : StOk ns) (hok : StOk old) (hinj : PairInj ns.mapping) :
    ∃ s' ns', step P s .deliverRT = some (s', []) ∧ s'.rt.storage = some ns' ∧ ns'.mapping = ns.mapping ∧
      ∀ d ∈ ns.mapping, ∀ e ∈ old.mapping, d.id = e.id →
        ∃ sv, old.values[e.slot]? = some sv ∧ halfAt d.slot d.coarse ns'.values = some (half e.coarse sv) :=
  half_survives_bind_of_wellformed r hq hold hns hok hinj

example : ¬ (ids cxOld.mapping).Nodup := by decide +kernel

/-! ## End to end: which value a bound controller sends -/

/-- the unrestricted form of `emits_composed_value` (false of the unchanged code after a K2 hazard, see
    `emits_composed_value_counterexample`) -/
def emits_composed_value_statement : Prop :=
  ∀ (P : List PortSpec) (h : List (Sys × Op)) (s : Sys), (∀ p ∈ P, PortOk p) → Trace P h s →
    ∀ id val s' out, val ≤ 127 → step P s (.cc id val) = some (s', out) → EmitsComposed P h s id val out

/-- **emits_composed_value** (partial: hazard-free histories) — "from then on every value v it sends
    produces exactly one message to that address whose value lies within the parameter's [min,max] and
    grows monotonically with v (7-bit coarse, 14-bit when a fine controller has been learned for the
    same address)", as ONE statement about every controller value of every hazard-free history, in
    every delivery order (`Trace` quantifies over all interleavings of API calls and deliveries; the
    theorem speaks about an arbitrary step of an arbitrary history, hence about the whole sequence of
    backend messages).  `EmitsComposed P h s id val out`:
    * a controller the realtime half has bound to nothing produces no message;
    * a controller bound to `(a, k)` produces exactly one message: the one the port at `a` writes for
      the 14-bit value with `val` in the controller's half (`k`: coarse = upper 7 bits, fine = lower)
      and `o` in the other half, where `o = lastVals h id'` is the LAST value that the controller `id'`
      bound to the other half of `a` sent while bound (0 if it sent none) — `lastVals` is a function of
      the history alone: it survives every `midi-bind` (`cloneValues`, whatever slots the snapshots
      assign) and every value of other controllers — and `o = 0` when no controller is bound to the
      other half;
    * for this fixed other half, the message written for any 7-bit value goes to `a`, has the port's
      type, is a finite number inside `[min, max]` (as emitted: the `int`, or the `float` decoded from
      its 32 bits) and does not decrease when the value grows. -/
theorem emits_composed_value_partial {P : List PortSpec} {h s} (hP : ∀ p ∈ P, PortOk p) (t : Trace P h s)
    (hf : HazardFree h) {id val s' out} (hv : val ≤ 127) (hs : step P s (.cc id val) = some (s', out)) :
    EmitsComposed P h s id val out := by
  obtain ⟨h1, h2⟩ := cc_emits_composed t hf hv hs
  refine ⟨h1, fun a k hb => ?_⟩
  obtain ⟨p, o, hp, ho, c1, c2, hout⟩ := h2 a k hb
  exact ⟨p, o, hp, ho, c1, c2, hout, fun v v' hvv hv' =>
    fire_in_range_monotone a (hP p (List.mem_of_getElem? hp))
      (compose14_lt (by omega) ho) (compose14_lt hv' ho) (compose14_mono hvv (Nat.le_refl o))⟩

/-- **run_emits_composed_values** — the same clause as a statement about the message SEQUENCE of a
    whole history, in the vocabulary of the executable model that is compared with the code: for every
    port table of well-formed ports and every list of well-formed steps (API calls, controller values,
    deliveries in any order) on which neither trigger predicate fires, the run from the initial state
    puts out exactly one list of backend messages per step; the list of a step that is not a controller
    value is empty, and the list of step `i = cc id val` is what `EmitsComposed` says for the state `si`
    and the history reached by the first `i` steps: none if `id` is bound to nothing, else exactly one
    message, composed from `val` and the last value of the other half's controller, in range, of the
    port's type, monotone in the value. -/
theorem run_emits_composed_values {P : List PortSpec} {ops s outs} (hP : ∀ p ∈ P, PortOk p)
    (hwf : ∀ op ∈ ops, op.wf P) (k1 : triggerK1 P ops = false) (k2 : triggerK2 P ops = false)
    (hr : run P Sys.init ops = some (s, outs)) :
    outs.length = ops.length ∧
    ∀ i op, ops[i]? = some op →
      ∃ si oi out, run P Sys.init (ops.take i) = some (si, oi) ∧ outs[i]? = some out ∧
        StepEmits P (histOf P Sys.init (ops.take i)) si op out := by
  refine ⟨run_length ops _ _ _ hr, ?_⟩
  intro i op hi
  have hlt : i < ops.length := (List.getElem?_eq_some_iff.mp hi).1
  have hsplit : ops = ops.take i ++ op :: ops.drop (i + 1) := by
    have h1 : ops.drop i = op :: ops.drop (i + 1) := by
      rw [List.drop_eq_getElem_cons hlt]
      congr 1
      exact Option.some.inj ((List.getElem?_eq_getElem hlt).symm.trans hi)
    rw [← h1, List.take_append_drop]
  have hfree : anyStep hazard P Sys.init ops = false := by
    rw [anyStep_hazard]; simp only [triggerK1, triggerK2] at k1 k2; simp [k1, k2]
  rw [hsplit] at hr hfree
  obtain ⟨si, oi, o2, h1, h2, rfl, hl⟩ := run_append _ _ _ _ _ hr
  have hfp := histOf_hazardFree _ _ (anyStep_prefix hazard _ _ _ hfree)
  have hwfp : ∀ o ∈ ops.take i, o.wf P := fun o ho => hwf o (List.mem_of_mem_take ho)
  have t : Trace P (histOf P Sys.init (ops.take i)) si := by
    simpa using trace_histOf (ops.take i) [] Sys.init si oi Trace.init hwfp h1
  obtain ⟨s2, out, o3, hs, -, rfl⟩ := run_cons.mp h2
  have hli : oi.length = i := by rw [hl]; exact List.length_take_of_le (Nat.le_of_lt hlt)
  refine ⟨si, oi, out, h1, ?_, ?_⟩
  · rw [List.getElem?_append_right (by omega)]; simp [hli]
  · have hopwf : op.wf P := hwf op (List.mem_of_getElem? hi)
    cases op with
    | cc id val => exact emits_composed_value_partial hP t hfp hopwf hs
    | _ => exact other_steps_silent hs (by intro _ _ h; cases h)

/-- `k2Ops` (controller 5 assigned to `p0` AND `p1`), then 5 says 100 (it drives `p0`, coarse), then
    controller 7 is learned as the FINE controller of `p0` -/
def cyOps : List Op := k2Ops ++ [.cc 5 100, .map 0 false, .deliverRT, .cc 7 1, .deliverNRT, .deliverRT]

def cyState : Sys := ((run exPorts Sys.init cyOps).map (·.1)).getD Sys.init

/-- **K2 refutes the unrestricted `emits_composed_value`**: in `cyState` controller 5 is the coarse and
    controller 7 the fine controller of `p0`, the last value of 5 is 100 — but the `midi-bind` that
    brought controller 7 zeroed 5's half (5 has two mapping entries, `half_survives_bind_counterexample`):
    the value 3 of controller 7 sends `(int)0` to `p0` (0..127: the upper seven bits) instead of 100. -/
theorem emits_composed_value_counterexample : ¬ emits_composed_value_statement := by
  intro hst
  have t := trace_of_concrete_run (P := exPorts) (ops := cyOps) (by decide) (by decide)
  cases hs : step exPorts cyState (.cc 7 3) with
  | none => have : (step exPorts cyState (.cc 7 3)).isSome = true := by decide
            simp [hs] at this
  | some r =>
    obtain ⟨_, h2⟩ := hst exPorts _ cyState (by decide) t 7 3 r.1 r.2 (by decide) hs
    obtain ⟨p, o, hp, _, c1, _, hout, _⟩ := h2 0 false (by decide)
    have ho : o = 100 := by
      rw [c1 5 (by decide)]; decide
    subst ho
    have hp' : p = ⟨true, 0, 1016⟩ := by
      have : exPorts[0]? = some ⟨true, 0, 1016⟩ := by decide
      rw [this] at hp; exact (Option.some.inj hp).symm
    subst hp'
    have hact : (step exPorts cyState (.cc 7 3)).map (·.2) = some [⟨0, .int 0⟩] := by decide
    rw [hs] at hact
    simp only [Option.map_some, Option.some.injEq] at hact
    rw [hact] at hout
    revert hout; decide

example : triggerK2 exPorts cyOps = true := by decide +kernel

/-! ## Non-vacuity: concrete hazard-free histories meet the hypotheses -/

/-- coarse and fine controller learned for `p1`, values sent, coarse unmapped — delivered
    in a non-trivial order -/
def okOps : List Op :=
  [.map 1 true, .map 1 false, .map 0 true, .deliverRT, .deliverRT, .cc 5 100, .cc 6 3, .deliverNRT,
   .deliverRT, .deliverRT, .deliverNRT, .deliverRT, .cc 5 100, .cc 6 3, .cc 7 9, .deliverNRT, .deliverRT,
   .cc 7 127, .unmap 1 true, .cc 5 1, .deliverRT, .cc 5 2, .cc 6 4]

example : okOps.all (fun op => decide (op.wf exPorts)) = true := by decide +kernel
example : triggerK1 exPorts okOps = false ∧ triggerK2 exPorts okOps = false := by decide +kernel
example : (run exPorts Sys.init okOps).map (fun r => r.2.filter (· ≠ []) |>.map (List.map Msg.addr)) =
    some [[1], [1], [0], [1], [1]] := by decide +kernel
/-- the hypotheses of `learn_completes_partial` are met by the state after `map p0; deliver` -/
example : let s := ((run exPorts Sys.init [.map 0 true, .deliverRT]).map (·.1)).getD Sys.init
    s.quiescent ∧ s.nrt.learnQ = [(0, true)] ∧ s.rt.binding 5 = none := by decide +kernel
/-- the hypotheses of `half_survives_bind_partial` are met: controller 5 drives `p0` and has sent 77,
    the snapshot that adds controller 6 for `p1` is the oldest message to the realtime half -/
example : let ops := [Op.map 0 true, .deliverRT, .cc 5 1, .deliverNRT, .deliverRT, .cc 5 77, .map 1 true,
      .deliverRT, .cc 6 1, .deliverNRT]
    let s := ((run exPorts Sys.init ops).map (·.1)).getD Sys.init
    (match s.toRT with | .bind ns _ :: _ => ns.mapping.length == 2 | _ => false) = true ∧
    (s.rt.storage.map (fun st => st.values)) = some [77 * 128] ∧ hazard s .deliverRT = false ∧
    triggerK1 exPorts ops = false ∧ triggerK2 exPorts ops = false := by decide +kernel

/-- the hypotheses of `emits_composed_value_partial` are met non-trivially: after the first 13 steps of
    `okOps` (hazard-free) controller 5 is the coarse and 6 the fine controller of `p1`, 5's last value is
    100 (sent before AND carried across two `midi-bind`s), and the value 3 of controller 6 sends the
    `float` for `100·128 + 3` -/
example : let ops := okOps.take 13
    let s := ((run exPorts Sys.init ops).map (·.1)).getD Sys.init
    hazardFree exPorts ops = true ∧ s.rt.binding 5 = some (1, true) ∧ s.rt.binding 6 = some (1, false) ∧
    lastVals (histOf exPorts Sys.init ops) 5 = 100 ∧
    (step exPorts s (.cc 6 3)).map (·.2) = some [(portCb 1 ⟨false, -8, 8⟩).fire (compose14 false 3 100)] := by
  decide +kernel

end Rtosc.Midi
