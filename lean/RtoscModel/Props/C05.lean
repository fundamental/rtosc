/-
  C05 — Path-pattern matching follows the documented pattern language.
  Property theorems only; helper lemmas live in Proofs/MatchLemmas.lean (path matcher),
  Proofs/MatchExtLeft.lean (digit runs at enumerations, leftmost reading) and Proofs/MatchArgs.lean
  (type matcher).  The specification is Match/Spec.lean and Match/SpecExt.lean; `greedy` and `typesCode`
  (what the code computes on a structured pattern) are Match/CodeSpec.lean.

  Reading of the statement
  * "every pattern of the documented form": `Pat.WF0 p` (Match/Spec.lean) — literal text
    over any characters but NUL `# { * :`, `#N` with N < 2^31, `{a,b,…}` over any
    characters but NUL `,` `}`, optional trailing '/', optional `:types` alternatives.
    The pattern string is `p.cstr` (rendering + NUL).
  * "a message": an address `addr` and a type string `tags` (C strings: no NUL inside),
    laid out as `mkMsg addr tags rest` (address and ",tags" each NUL-padded to a
    multiple of four, then `rest` = argument payload and whatever else the buffer holds).
    `rtosc_match_path` also accepts a plain C string: `addr ++ 0 :: ex`.
  * "indices … up to 9 digits": `EnumIdxBounded p addr` (Match/SpecExt.lean) — the digit
    runs of the address that stand at enumerations of the pattern denote numbers below 2^31
    (beyond that `atoi` wraps, see `atoi_wraps`, `match_sound_needs_enumIdx`).  The `…_enum`
    theorems carry this hypothesis; completeness (`match_complete`, `msg_complete`) and memory
    safety (`match_total_all`, `msg_total_all`) need no hypothesis on digit runs at all.  The
    theorems with the stronger `IdxBounded addr` (every digit run of the whole address:
    `match_sound`, `match_iff_spec`, `types_sandwich`, `types_exact`, …) are their special
    cases.
  * "matches": `rtosc_match_path` returns non-NULL (`PathMatches`), `rtosc_match`
    returns true (`MsgMatches`).
  * The address part is an equivalence (`match_iff_spec`); for the type string the
    statement gives a sandwich (`types_sandwich`), the exact behaviour is `types_exact`.

  Deviations of the code from the statement found with the proof / the correspondence:
  * K2 (fixed, fixes/C05-colon-address.patch): a ':' in the pattern was compared with the
    address, so the address "a:i" matched the pattern "a:i" whatever its arguments.
    The model mirrors the repaired code; `colon_address_counterexample` records what the
    unrepaired cascade did.
  * the over-read of `rtosc_match_args` behind the type string (fixed,
    fixes/C05-args-overread.patch): `args_overread_counterexample`; the model mirrors the
    repaired loop, so no theorem carries a condition on the buffer behind the type string
    (`msg_total`).
  * K1 (known finding C05-K1): a `{}` group commits to the first alternative that is a
    prefix of the address (no backtracking), so `{a,ab}c` does not match "abc".
    Trigger predicate `Pat.hasPrefixAlts`; `match_complete_counterexample`,
    `match_complete_partial`.  Soundness (`match_sound`, `enum_bound_strict`, the
    right-hand side of the sandwich) does not need the exclusion.
    What the code does on the K1 class is stated exactly: it accepts an address iff the
    *leftmost-alternative reading* spells the pattern (`match_iff_leftmost`,
    `msg_iff_leftmost`, `k1_exact`, `enum_bound_leftmost`).
-/
import RtoscModel.Proofs.MatchExtLeft
namespace Rtosc.Match
open Rtosc

/-- `rtosc_match_path(pattern, msg, …) != NULL` -/
def PathMatches (pat msg : Bytes) : Prop := ∃ r, path pat msg = .ok r

/-- `rtosc_match(pattern, msg, …)` returns true -/
def MsgMatches (pat msg : Bytes) : Prop := (full pat msg).map (·.1) = some true

instance (pat msg : Bytes) : Decidable (MsgMatches pat msg) := by unfold MsgMatches; infer_instance

/-! ### The digit runs at enumerations (`EnumIdxBounded`); memory safety without any hypothesis on digit runs -/

/-- **idxBounded_enumIdx**: `IdxBounded` (every digit run of the whole address below 2^31)
    implies `EnumIdxBounded` (only the digit runs that stand at enumerations of the pattern),
    for every pattern. -/
theorem idxBounded_enumIdx (p : Pat) {addr : Bytes} (hb : IdxBounded addr) : EnumIdxBounded p addr :=
  enumRunsBounded_of_idxBounded p.segs hb

/-- **enumIdxBounded_iff_check**: `EnumIdxBounded` is decidable (evaluated by `enumIdxCheck`). -/
theorem enumIdxBounded_iff_check (p : Pat) (addr : Bytes) :
    EnumIdxBounded p addr ↔ enumIdxCheck p.segs addr = true :=
  enumRunsBounded_iff_check p.segs addr

/-- **enumIdxBounded_of_all_readings**: the form of the hypothesis that does not mention the
    leftmost reading — the digit run behind *every* reading of the segments in front of an
    enumeration is below 2^31 — implies it. -/
theorem enumIdxBounded_of_all_readings {p : Pat} {addr : Bytes}
    (h : ∀ pre ds post x, p.segs = pre ++ .enum ds :: post → SpellsAll pre addr x →
      decVal (x.takeWhile isDigit) < 2 ^ 31) : EnumIdxBounded p addr :=
  fun pre ds post x hs hsp => h pre ds post x hs hsp.spells

/-- **match_total_all** (memory safety of `rtosc_match_path` with *no* hypothesis on the digit
    runs): for every pattern of the documented form and every C-string address the walk
    reads nothing outside the two strings; it returns NULL or a pointer to the pattern's type
    part, with `*path_end` pointing into the address. -/
theorem match_total_all {p : Pat} (hwf : p.WF0) {addr : Bytes} (ex : Bytes) (ha : NulFree addr) :
    path p.cstr (addr ++ 0 :: ex) = .fail ∨
    ∃ t, path p.cstr (addr ++ 0 :: ex) = .ok (renderTypes p.types ++ [0], t ++ 0 :: ex) ∧
      t <:+ addr := by
  rw [path_renderedU hwf ex ha]
  cases hg : greedyU p.segs p.sub addr with
  | none => exact Or.inl rfl
  | some t => exact Or.inr ⟨t, rfl, greedyU_suffix p.sub p.segs addr t hg⟩

/-- **msg_total_all** (memory safety of `rtosc_match` with no hypothesis on the digit runs):
    every message laid out as `rtosc_amessage` does, in a buffer of any size from exactly
    the message's own on, gets a verdict. -/
theorem msg_total_all {p : Pat} (hwf : p.WF0) {addr tags : Bytes} (rest : Bytes)
    (ha : NulFree addr) (ht : NulFree tags) :
    ∃ r, full p.cstr (mkMsg addr tags rest) = some r := by
  obtain ⟨ex, hfull⟩ := full_renderedU hwf rest ha (fun _ => ht)
  rw [hfull]
  cases greedyU p.segs p.sub addr with
  | none => exact ⟨_, rfl⟩
  | some t => exact ⟨_, rfl⟩

/-! ### The leftmost-alternative reading: what the matcher accepts on *every* pattern of
    the documented form (the K1 class included) -/

/-- **leftmost_spells**: a leftmost reading is a reading in the sense of the statement. -/
theorem leftmost_spells {p : Pat} {addr : Bytes} (h : PathSpecLeftmost p addr) : PathSpec p addr := by
  obtain ⟨rest, h1, h2⟩ := h
  exact ⟨rest, h1.spells, h2⟩

/-- **leftmost_iff_spec**: on prefix-free groups the two notions coincide. -/
theorem leftmost_iff_spec {p : Pat} (hpf : p.hasPrefixAlts = false) (addr : Bytes) :
    PathSpecLeftmost p addr ↔ PathSpec p addr := by
  have hpf' : segsPrefixFree p.segs = true := by
    simpa [Pat.hasPrefixAlts, Pat.prefixFree] using hpf
  constructor
  · exact leftmost_spells
  · rintro ⟨rest, h1, h2⟩
    exact ⟨rest, spellsAll_leftmost h1 hpf', h2⟩

/-- **match_iff_leftmost** (the K1 class made precise): for every pattern of the documented
    form — groups with prefix-related alternatives included — `rtosc_match_path` accepts
    an address iff its *leftmost-alternative reading* spells the pattern: literal text
    character for character, at each `#N` a whole decimal index < N, at each `{}` group the
    first alternative (in pattern order) that is a prefix of what is left of the address,
    and the address ends where the pattern's path ends (or continues after the trailing '/'). -/
theorem match_iff_leftmost {p : Pat} (hwf : p.WF0) {addr : Bytes} (ex : Bytes)
    (ha : NulFree addr) (hb : EnumIdxBounded p addr) :
    PathMatches p.cstr (addr ++ 0 :: ex) ↔ PathSpecLeftmost p addr := by
  rw [← greedy_iff_leftmost, PathMatches, path_rendered_enum hwf ex ha hb]
  cases greedy p.segs p.sub addr <;> simp

/-- **match_leftmost_complete** (completeness for *every* pattern of the documented form,
    no hypothesis on digit runs): an address whose leftmost-alternative reading spells the
    pattern is accepted. -/
theorem match_leftmost_complete {p : Pat} (hwf : p.WF0) {addr : Bytes} (ex : Bytes)
    (ha : NulFree addr) (hs : PathSpecLeftmost p addr) : PathMatches p.cstr (addr ++ 0 :: ex) :=
  (match_iff_leftmost hwf ex ha (enumIdxBounded_of_leftmost hwf hs.choose_spec.1)).mpr hs

/-- **k1_exact**: the addresses finding C05-K1 is about — they spell the pattern, the code
    rejects them — are exactly those that spell it by a reading other than the leftmost one only. -/
theorem k1_exact {p : Pat} (hwf : p.WF0) {addr : Bytes} (ex : Bytes)
    (ha : NulFree addr) (hb : EnumIdxBounded p addr) :
    (PathSpec p addr ∧ ¬ PathMatches p.cstr (addr ++ 0 :: ex)) ↔
    (PathSpec p addr ∧ ¬ PathSpecLeftmost p addr) := by
  rw [match_iff_leftmost hwf ex ha hb]

/-- **leftmost_unique**: an address has at most one leftmost reading. -/
theorem leftmost_unique {segs : List Seg} {a r1 r2 : Bytes}
    (h1 : SpellsLeftmost segs a r1) (h2 : SpellsLeftmost segs a r2) : r1 = r2 := by
  induction segs generalizing a with
  | nil => cases h1; cases h2; rfl
  | cons s r ih =>
    obtain ⟨x, hs, hr⟩ := spellsLeftmost_cons.mp h1
    obtain ⟨x', hs', hr'⟩ := spellsLeftmost_cons.mp h2
    obtain rfl : x = x' := Option.some.inj (hs.symm.trans hs')
    exact ih hr hr'

/-! ### Soundness under `EnumIdxBounded`, completeness without any hypothesis on digit runs -/

/-- **match_sound_enum**: `match_sound` with `IdxBounded` weakened to the digit runs that
    stand at enumerations of the pattern. -/
theorem match_sound_enum {p : Pat} (hwf : p.WF0) {addr : Bytes} (ex : Bytes)
    (ha : NulFree addr) (hb : EnumIdxBounded p addr)
    (hm : PathMatches p.cstr (addr ++ 0 :: ex)) : PathSpec p addr :=
  leftmost_spells ((match_iff_leftmost hwf ex ha hb).mp hm)

/-- **match_complete** (completeness of `rtosc_match_path` at full strength for patterns with
    prefix-free groups): every C-string address that spells the pattern is accepted — no
    hypothesis on digit runs (the indices the address carries are below N < 2^31 because it
    spells the pattern; digit runs elsewhere are compared as text). -/
theorem match_complete {p : Pat} (hwf : p.WF) {addr : Bytes} (ex : Bytes) (ha : NulFree addr)
    (hs : PathSpec p addr) : PathMatches p.cstr (addr ++ 0 :: ex) := by
  have hpf := wf_noPrefixAlts hwf
  exact match_leftmost_complete (wf_wf0 hwf) ex ha ((leftmost_iff_spec hpf addr).mpr hs)

/-- **match_iff_spec_enum**: `match_iff_spec` with `IdxBounded` weakened to the digit runs
    that stand at enumerations of the pattern. -/
theorem match_iff_spec_enum {p : Pat} (hwf : p.WF) {addr : Bytes} (ex : Bytes)
    (ha : NulFree addr) (hb : EnumIdxBounded p addr) :
    PathMatches p.cstr (addr ++ 0 :: ex) ↔ PathSpec p addr :=
  ⟨match_sound_enum (wf_wf0 hwf) ex ha hb, match_complete hwf ex ha⟩

/-- **match_sound_needs_enumIdx**: the weakened hypothesis cannot be dropped: `#2` accepts the
    address "4294967296" (`atoi` wraps to 0), which carries an index ≥ 2 at the enumeration. -/
theorem match_sound_needs_enumIdx :
    let p : Pat := { segs := [.enum [50]], sub := false, types := none }
    let addr : Bytes := [52, 50, 57, 52, 57, 54, 55, 50, 57, 54]
    p.WF ∧ NulFree addr ∧ PathMatches p.cstr (addr ++ [0]) ∧ ¬ PathSpec p addr ∧
      ¬ EnumIdxBounded p addr := by
  intro p addr
  have hwf : p.WF := by decide +kernel
  have hn : NulFree addr := by unfold NulFree; decide
  have hm : PathMatches p.cstr (addr ++ [0]) := ⟨([0], [0]), by decide +kernel⟩
  have hnb : ¬ EnumIdxBounded p addr := by decide +kernel
  refine ⟨hwf, hn, hm, ?_, hnb⟩
  intro hs
  have hb := enumIdxBounded_of_leftmost (wf_wf0 hwf)
    ((leftmost_iff_spec (by decide) addr).mpr hs).choose_spec.1
  exact hnb hb

theorem TypesExact.code {p : Pat} {tags : Bytes} (h : TypesExact p tags) : TypesCode p tags :=
  fun ts hts => Or.inl (h ts hts)

theorem TypesCode.loose {p : Pat} {tags : Bytes} (h : TypesCode p tags) : TypesLoose p tags := by
  intro ts hts
  rcases h ts hts with h | ⟨l, hl, _, hpre⟩
  · exact ⟨tags, h, List.prefix_refl _⟩
  · exact ⟨l, List.mem_of_getLast? hl, hpre⟩

/-- `msg_iff_leftmost` asking of the type string only what is looked at: a C string if the pattern has a
    type part -/
theorem msg_iff_leftmost_typed {p : Pat} (hwf : p.WF0) {addr tags : Bytes} (rest : Bytes)
    (ha : NulFree addr) (hb : EnumIdxBounded p addr) (ht : p.types ≠ none → NulFree tags) :
    MsgMatches p.cstr (mkMsg addr tags rest) ↔ PathSpecLeftmost p addr ∧ TypesCode p tags := by
  obtain ⟨ex, hfull⟩ := full_rendered_enum hwf rest ha hb ht
  have hiff := greedy_iff_leftmost p addr
  cases hg : greedy p.segs p.sub addr with
  | none =>
    simp only [hg] at hfull hiff
    have : ¬ PathSpecLeftmost p addr := fun h => by simpa using hiff.mpr h
    simp [MsgMatches, hfull, this]
  | some t =>
    have hps : PathSpecLeftmost p addr := hiff.mp ⟨t, hg⟩
    simp only [hg] at hfull
    cases htypes : p.types with
    | none => simp only [htypes] at hfull; simp [MsgMatches, hfull, hps, TypesCode, htypes]
    | some ts =>
      simp only [htypes] at hfull
      have htw := wf0_types hwf
      simp only [htypes, typesWf, Bool.and_eq_true, Bool.not_eq_eq_eq_not, Bool.not_true,
        List.isEmpty_eq_false_iff] at htw
      simp only [MsgMatches, hfull, Option.map_some, Option.some.injEq, hps, true_and, TypesCode,
        htypes, forall_eq']
      exact typesCode_exact htw.1

/-- **msg_iff_leftmost** (the K1 class made precise, for whole messages): for every
    pattern of the documented form `rtosc_match` accepts a message iff the leftmost-alternative
    reading of its address spells the pattern and its type string is one of the alternatives
    or an extension of the last one. -/
theorem msg_iff_leftmost {p : Pat} (hwf : p.WF0) {addr tags : Bytes} (rest : Bytes)
    (ha : NulFree addr) (hb : EnumIdxBounded p addr) (ht : NulFree tags) :
    MsgMatches p.cstr (mkMsg addr tags rest) ↔ PathSpecLeftmost p addr ∧ TypesCode p tags :=
  msg_iff_leftmost_typed hwf rest ha hb fun _ => ht

/-- **msg_sound_enum**: `msg_sound` with `IdxBounded` weakened to the digit runs that stand at
    enumerations of the pattern. -/
theorem msg_sound_enum {p : Pat} (hwf : p.WF0) {addr tags : Bytes} (rest : Bytes)
    (ha : NulFree addr) (hb : EnumIdxBounded p addr) (ht : NulFree tags)
    (hm : MsgMatches p.cstr (mkMsg addr tags rest)) : SpecMayMatch p addr tags := by
  obtain ⟨hps, hty⟩ := (msg_iff_leftmost hwf rest ha hb ht).mp hm
  exact ⟨leftmost_spells hps, hty.loose⟩

/-- **msg_leftmost_complete** (message-level completeness for *every* pattern of the
    documented form): a message whose address spells the pattern by its leftmost-alternative
    reading and whose type string is one of the alternatives (any type string, C string or
    not, if the pattern gives none) is accepted — whatever digit runs the address holds and
    whatever follows the message in its buffer. -/
theorem msg_leftmost_complete {p : Pat} (hwf : p.WF0) {addr tags : Bytes} (rest : Bytes)
    (ha : NulFree addr) (hs : PathSpecLeftmost p addr) (hty : TypesExact p tags) :
    MsgMatches p.cstr (mkMsg addr tags rest) := by
  refine (msg_iff_leftmost_typed hwf rest ha (enumIdxBounded_of_leftmost hwf hs.choose_spec.1) ?_).mpr
    ⟨hs, hty.code⟩
  intro hne
  obtain ⟨ts, htypes⟩ := Option.ne_none_iff_exists'.mp hne
  exact wf0_types_nulFree hwf htypes (hty ts htypes)

/-- **msg_complete** (message-level completeness at full strength, the clause "a message
    matches … when its address spells … and, if type alternatives are given, its type tag
    string equals one of them"): for every well-formed pattern (prefix-free groups) and every
    message whose address — a C string — spells the pattern and whose type string is one of
    the alternatives (any type string if the pattern gives none), `rtosc_match` accepts.  No
    hypothesis on the digit runs of the address, none on the type string beyond the statement's,
    none on the buffer behind the message. -/
theorem msg_complete {p : Pat} (hwf : p.WF) {addr tags : Bytes} (rest : Bytes)
    (ha : NulFree addr) (hs : SpecMatch p addr tags) : MsgMatches p.cstr (mkMsg addr tags rest) := by
  have hpf := wf_noPrefixAlts hwf
  exact msg_leftmost_complete (wf_wf0 hwf) rest ha ((leftmost_iff_spec hpf addr).mpr hs.1) hs.2

/-- **types_exact_enum**: `types_exact` with `IdxBounded` weakened to the digit runs that
    stand at enumerations of the pattern. -/
theorem types_exact_enum {p : Pat} (hwf : p.WF) {addr tags : Bytes} (rest : Bytes)
    (ha : NulFree addr) (hb : EnumIdxBounded p addr) (ht : NulFree tags) :
    MsgMatches p.cstr (mkMsg addr tags rest) ↔ PathSpec p addr ∧ TypesCode p tags := by
  have hpf := wf_noPrefixAlts hwf
  rw [msg_iff_leftmost (wf_wf0 hwf) rest ha hb ht, leftmost_iff_spec hpf addr]

/-- **types_sandwich_enum**: `types_sandwich` with (left) no hypothesis on digit runs or on
    the type string, (right) `IdxBounded` weakened. -/
theorem types_sandwich_enum {p : Pat} (hwf : p.WF) {addr tags : Bytes} (rest : Bytes)
    (ha : NulFree addr) :
    (SpecMatch p addr tags → MsgMatches p.cstr (mkMsg addr tags rest)) ∧
    (EnumIdxBounded p addr → NulFree tags →
      MsgMatches p.cstr (mkMsg addr tags rest) → SpecMayMatch p addr tags) :=
  ⟨msg_complete hwf rest ha, fun hb ht => msg_sound_enum (wf_wf0 hwf) rest ha hb ht⟩

/-- **enum_bound_leftmost** (the array-safety corollary for *every* pattern of the documented
    form): an address whose leftmost reading of the segments in front of an enumeration `#N`
    is followed by an index `idx` — the whole digit run found there, itself below 2^31 —
    with `idx ≥ N` is rejected, whatever follows.  No hypothesis on any other digit run. -/
theorem enum_bound_leftmost {p : Pat} (hwf : p.WF0) {pre post : List Seg} {ds : Bytes}
    (hp : p.segs = pre ++ .enum ds :: post)
    {addr idx r : Bytes} (hsp : SpellsLeftmost pre addr (idx ++ r))
    (hdig : ∀ c ∈ idx, isDigit c = true) (hmax : ∀ c t, r = c :: t → isDigit c = false)
    (hN : decVal ds ≤ decVal idx) (hidx : decVal idx < 2 ^ 31)
    (ex : Bytes) (ha : NulFree addr) :
    path p.cstr (addr ++ 0 :: ex) = .fail := by
  obtain ⟨h1, _⟩ := takeWhile_run hdig hmax
  have hNs := segsWf_enum (wf0_segs hwf)
  rw [hp] at hNs
  have hno : ¬ (idx ≠ [] ∧ decVal idx < decVal ds) := fun h => by omega
  have hck : enumIdxCheck p.segs addr = true := by
    rw [hp, enumIdxCheck_prefix hsp (fun ds' h => hNs ds' (by simp [h]))]
    simp [enumIdxCheck, h1, hidx, hno]
  have hg := greedy_leftmost_complete p.sub (.enum ds :: post) hsp
  rw [path_rendered_enum hwf ex ha ((enumIdxBounded_iff_check p addr).mpr hck), hp, hg]
  simp [greedy, h1, hno]

/-- **enum_bound_strict_idx**: `enum_bound_strict` with `IdxBounded addr` weakened to a bound
    on the one index in question. -/
theorem enum_bound_strict_idx {p : Pat} (hwf : p.WF) {pre post : List Seg} {ds : Bytes}
    (hp : p.segs = pre ++ .enum ds :: post)
    {addr idx r : Bytes} (hsp : SpellsAll pre addr (idx ++ r))
    (hdig : ∀ c ∈ idx, isDigit c = true) (hmax : ∀ c t, r = c :: t → isDigit c = false)
    (hN : decVal ds ≤ decVal idx) (hidx : decVal idx < 2 ^ 31)
    (ex : Bytes) (ha : NulFree addr) :
    path p.cstr (addr ++ 0 :: ex) = .fail :=
  enum_bound_leftmost (wf_wf0 hwf) hp (spellsAll_leftmost hsp (wf_prefixFree_pre hwf hp)) hdig hmax hN
    hidx ex ha

/-- the same for `rtosc_match`: no message with such an address matches -/
theorem enum_bound_leftmost_msg {p : Pat} (hwf : p.WF0) {pre post : List Seg} {ds : Bytes}
    (hp : p.segs = pre ++ .enum ds :: post)
    {addr idx r : Bytes} (hsp : SpellsLeftmost pre addr (idx ++ r))
    (hdig : ∀ c ∈ idx, isDigit c = true) (hmax : ∀ c t, r = c :: t → isDigit c = false)
    (hN : decVal ds ≤ decVal idx) (hidx : decVal idx < 2 ^ 31)
    (tags rest : Bytes) (ha : NulFree addr) :
    full p.cstr (mkMsg addr tags rest) = some (false, none) := by
  obtain ⟨ex, hex⟩ := mkMsg_shape addr tags rest
  have := enum_bound_leftmost hwf hp hsp hdig hmax hN hidx ex ha
  rw [← hex] at this
  simp [full, this]

/-! ### The same with `IdxBounded`: every digit run of the whole address below 2^31 -/

/-- **match_sound** (the "no … ever matches" half, for *every* pattern of the documented
    form, prefix-related alternatives included): if `rtosc_match_path` accepts an
    address, the address spells the pattern as the statement says — literal text
    character for character, at each `#N` a whole decimal index < N, one of the
    alternatives, and it ends where the pattern's path ends (or continues after the
    trailing '/').  The returned pointer is the pattern's type part. -/
theorem match_sound {p : Pat} (hwf : p.WF0) {addr : Bytes} (ex : Bytes)
    (ha : NulFree addr) (hb : IdxBounded addr)
    (hm : PathMatches p.cstr (addr ++ 0 :: ex)) : PathSpec p addr :=
  match_sound_enum hwf ex ha (idxBounded_enumIdx p hb) hm

/-- The completeness half as the statement reads, for all patterns of the documented
    form.  It does **not** hold of the code: `match_complete_counterexample`. -/
def match_complete_statement : Prop :=
  ∀ (p : Pat), p.WF0 → ∀ (addr ex : Bytes), NulFree addr → IdxBounded addr →
    PathSpec p addr → PathMatches p.cstr (addr ++ 0 :: ex)

/-- **match_complete_partial**: every address that spells the pattern is accepted,
    provided no `{}` group has an alternative that is a proper prefix of another one
    (`¬ p.hasPrefixAlts`, the trigger of finding C05-K1). -/
theorem match_complete_partial {p : Pat} (hwf : p.WF0) (hk1 : p.hasPrefixAlts = false)
    {addr : Bytes} (ex : Bytes) (ha : NulFree addr) (hb : IdxBounded addr)
    (hs : PathSpec p addr) : PathMatches p.cstr (addr ++ 0 :: ex) :=
  match_leftmost_complete hwf ex ha ((leftmost_iff_spec hk1 addr).mpr hs)

/-- **match_iff_spec**: for every well-formed pattern and every address,
    `rtosc_match_path` accepts exactly the addresses the statement describes. -/
theorem match_iff_spec {p : Pat} (hwf : p.WF) {addr : Bytes} (ex : Bytes)
    (ha : NulFree addr) (hb : IdxBounded addr) :
    PathMatches p.cstr (addr ++ 0 :: ex) ↔ PathSpec p addr :=
  match_iff_spec_enum hwf ex ha (idxBounded_enumIdx p hb)

/-- **match_total**: on these inputs `rtosc_match_path` never reads outside the two
    strings; it returns NULL or a pointer to the pattern's type part, with `*path_end`
    inside the address. -/
theorem match_total {p : Pat} (hwf : p.WF0) {addr : Bytes} (ex : Bytes)
    (ha : NulFree addr) (hb : IdxBounded addr) :
    path p.cstr (addr ++ 0 :: ex) = .fail ∨
    ∃ t, path p.cstr (addr ++ 0 :: ex) = .ok (renderTypes p.types ++ [0], t ++ 0 :: ex) ∧
      t.length ≤ addr.length := by
  rcases match_total_all hwf ex ha with h | ⟨t, h, hsuf⟩
  · exact .inl h
  · exact .inr ⟨t, h, hsuf.length_le⟩

/-- **enum_bound_strict** (the array-safety corollary): an address that spells the
    segments in front of an enumeration `#N` and then carries the index `idx` — the
    whole digit run found there — with `idx ≥ N` is rejected, whatever follows. -/
theorem enum_bound_strict {p : Pat} (hwf : p.WF) {pre post : List Seg} {ds : Bytes}
    (hp : p.segs = pre ++ .enum ds :: post)
    {addr idx r : Bytes} (hsp : SpellsAll pre addr (idx ++ r))
    (hdig : ∀ c ∈ idx, isDigit c = true) (hmax : ∀ c t, r = c :: t → isDigit c = false)
    (hN : decVal ds ≤ decVal idx)
    (ex : Bytes) (ha : NulFree addr) (hb : IdxBounded addr) :
    path p.cstr (addr ++ 0 :: ex) = .fail :=
  enum_bound_strict_idx hwf hp hsp hdig hmax hN (hb.index hsp hdig) ex ha

/-- the same for `rtosc_match`: no message with such an address matches -/
theorem enum_bound_strict_msg {p : Pat} (hwf : p.WF) {pre post : List Seg} {ds : Bytes}
    (hp : p.segs = pre ++ .enum ds :: post)
    {addr idx r : Bytes} (hsp : SpellsAll pre addr (idx ++ r))
    (hdig : ∀ c ∈ idx, isDigit c = true) (hmax : ∀ c t, r = c :: t → isDigit c = false)
    (hN : decVal ds ≤ decVal idx)
    (tags rest : Bytes) (ha : NulFree addr) (hb : IdxBounded addr) :
    full p.cstr (mkMsg addr tags rest) = some (false, none) :=
  enum_bound_leftmost_msg (wf_wf0 hwf) hp (spellsAll_leftmost hsp (wf_prefixFree_pre hwf hp)) hdig hmax hN
    (hb.index hsp hdig) tags rest ha

/-- **msg_total** (memory safety of the whole of `rtosc_match`, after the repair
    fixes/C05-args-overread.patch): for every pattern of the documented form and every
    message laid out as `rtosc_amessage` does — *whatever* follows the padded type string,
    in particular nothing (`rest = []`, a buffer of exactly the message's size) —
    `rtosc_match` returns a verdict without reading outside the pattern or the message. -/
theorem msg_total {p : Pat} (hwf : p.WF0) {addr tags : Bytes} (rest : Bytes)
    (ha : NulFree addr) (hb : IdxBounded addr) (ht : NulFree tags) :
    ∃ r, full p.cstr (mkMsg addr tags rest) = some r :=
  msg_total_all hwf rest ha ht

/-- **msg_sound** (the "no … ever matches" half for whole messages, for *every* pattern
    of the documented form, prefix-related alternatives included): a message that
    `rtosc_match` accepts has an address that spells the pattern, and — if the pattern
    gives type alternatives — a type string equal to or an extension of one of them. -/
theorem msg_sound {p : Pat} (hwf : p.WF0) {addr tags : Bytes} (rest : Bytes)
    (ha : NulFree addr) (hb : IdxBounded addr) (ht : NulFree tags)
    (hm : MsgMatches p.cstr (mkMsg addr tags rest)) : SpecMayMatch p addr tags :=
  msg_sound_enum hwf rest ha (idxBounded_enumIdx p hb) ht hm

/-- **msg_complete_partial**: a message whose address spells the pattern and whose type
    string is one of the alternatives (any type string if the pattern gives none) is
    accepted, provided no `{}` group has an alternative that is a proper prefix of
    another one (trigger of finding C05-K1).  No condition on the buffer behind the type
    string (fixes/C05-args-overread.patch). -/
theorem msg_complete_partial {p : Pat} (hwf : p.WF0) (hk1 : p.hasPrefixAlts = false)
    {addr tags : Bytes} (rest : Bytes)
    (ha : NulFree addr) (hb : IdxBounded addr) (ht : NulFree tags)
    (hs : SpecMatch p addr tags) : MsgMatches p.cstr (mkMsg addr tags rest) :=
  msg_leftmost_complete hwf rest ha ((leftmost_iff_spec hk1 addr).mpr hs.1) hs.2

/-- **types_sandwich**: for a well-formed pattern and any buffer content `rest` behind the
    message's type string (none at all included),
    (left) a message whose address spells the pattern and whose type string equals one
    of the alternatives (or any type string if the pattern gives none) matches;
    (right) a message that matches has such an address, and its type string is equal to
    or an extension of one of the alternatives.  (right) holds for every pattern of the
    documented form (`msg_sound`); (left) needs the K1 exclusion only
    (`msg_complete_partial`). -/
theorem types_sandwich {p : Pat} (hwf : p.WF) {addr tags : Bytes} (rest : Bytes)
    (ha : NulFree addr) (hb : IdxBounded addr) (ht : NulFree tags) :
    (SpecMatch p addr tags → MsgMatches p.cstr (mkMsg addr tags rest)) ∧
    (MsgMatches p.cstr (mkMsg addr tags rest) → SpecMayMatch p addr tags) :=
  ⟨msg_complete_partial (wf_wf0 hwf) (wf_noPrefixAlts hwf) rest ha hb ht, msg_sound (wf_wf0 hwf) rest ha hb ht⟩

/-- **types_exact**: what the type matcher really does — every alternative but the last
    must equal the type string, the last one matches every extension of itself (an
    empty last alternative matches only the empty type string). -/
theorem types_exact {p : Pat} (hwf : p.WF) {addr tags : Bytes} (rest : Bytes)
    (ha : NulFree addr) (hb : IdxBounded addr) (ht : NulFree tags) :
    MsgMatches p.cstr (mkMsg addr tags rest) ↔
      PathSpec p addr ∧ ∀ ts, p.types = some ts →
        tags ∈ ts ∨ ∃ l, ts.getLast? = some l ∧ l ≠ [] ∧ l <+: tags :=
  types_exact_enum hwf rest ha (idxBounded_enumIdx p hb) ht

/-- **copies_agree**: the two further copies of the type matcher in ports.cpp compute,
    on every pattern and every buffer (no well-formedness needed), exactly what
    `rtosc_match_args` of dispatch.c computes — out-of-bounds reads included. -/
theorem copies_agree (pattern buf : Bytes) :
    argMatcher pattern buf = args pattern buf ∧
    portMatcherArgs pattern buf = argsOfMsg pattern buf := by
  have hargs : ∀ (pattern a : Bytes), argMatcherFuel (pattern.length + 1) pattern a = args pattern a := by
    intro pattern a
    cases pattern with
    | nil => rfl
    | cons c p =>
      by_cases hc : c = 58
      · subst hc
        rw [args_colon]
        exact argMatcherFuel_colon _ p a (Nat.lt_succ_self _)
      · simp [argMatcherFuel, args, hc]
  refine ⟨hargs pattern buf, ?_⟩
  cases pattern with
  | nil => rfl
  | cons c p =>
    by_cases hc : c = 58
    · subst hc
      cases hs : argString buf with
      | none => simp [portMatcherArgs, portMatcherFuel, argsOfMsg, hs]
      | some a =>
        rw [portMatcherArgs, portMatcherFuel_colon hs]
        simp only [argsOfMsg, ne_eq, not_true_eq_false, ↓reduceIte, hs]
        exact hargs _ a
    · simp [portMatcherArgs, portMatcherFuel, argsOfMsg, hc]

/-! ### The two deviations -/

/-- pattern `{a,ab}c` -/
def k1Pat : Pat := { segs := [.alts [[97], [97, 98]], .lit [99]], sub := false, types := none }

/-- "abc" spells `{a,ab}c` (alternative "ab", then "c") -/
theorem k1Pat_spells : PathSpec k1Pat [97, 98, 99] :=
  ⟨[], SpellsAll.alts _ [97, 98] (by simp) (SpellsAll.lit [99] (SpellsAll.nil [])), by simp [k1Pat]⟩

theorem k1Pat_nulFree : NulFree [97, 98, 99] := by unfold NulFree; decide

/-- … and `rtosc_match_path` returns NULL -/
theorem k1Pat_rejected : ¬ PathMatches k1Pat.cstr ([97, 98, 99] ++ [0]) := by
  have : path k1Pat.cstr ([97, 98, 99] ++ [0]) = .fail := by decide +kernel
  rintro ⟨r, hr⟩
  rw [this] at hr
  cases hr

/-- **match_complete_counterexample** (finding C05-K1): `{a,ab}c` is of the documented
    form, the address "abc" spells it (alternative "ab", then "c"), and
    `rtosc_match_path` returns NULL: the group committed to "a". -/
theorem match_complete_counterexample : ¬ match_complete_statement := fun h =>
  k1Pat_rejected (h k1Pat (by decide) [97, 98, 99] [] k1Pat_nulFree (IdxBounded_of_length (by simp)) k1Pat_spells)

/-- the trigger predicate singles this pattern out -/
example : k1Pat.hasPrefixAlts = true := by decide +kernel

/-- pattern `a:i` -/
def k2Pat : Pat := { segs := [.lit [97]], sub := false, types := some [[105]] }

/-- **colon_address_counterexample** (K2, repaired by fixes/C05-colon-address.patch):
    on the unrepaired cascade the message with address "a:i" and type string "s"
    matches the pattern `a:i` — although the address does not end where the pattern's
    path ends and "s" is not one of the listed type strings.  The repaired cascade
    (`full`, Match/Path.lean) rejects it. -/
theorem colon_address_counterexample :
    fullUnfixed k2Pat.cstr (mkMsg [97, 58, 105] [115] []) = some true ∧
    ¬ SpecMayMatch k2Pat [97, 58, 105] [115] ∧
    (full k2Pat.cstr (mkMsg [97, 58, 105] [115] [])).map (·.1) = some false := by
  refine ⟨by decide +kernel, ?_, by decide +kernel⟩
  intro ⟨hps, _⟩
  have hb : IdxBounded [97, 58, 105] := IdxBounded_of_length (by simp)
  have hn : NulFree [97, 58, 105] := by intro c hc; simp at hc; rcases hc with rfl | rfl | rfl <;> decide
  obtain ⟨r, hr⟩ := (match_iff_spec (p := k2Pat) (by decide) [] hn hb).mpr hps
  have : path k2Pat.cstr ([97, 58, 105] ++ [0]) = .fail := by decide +kernel
  rw [this] at hr
  cases hr

/-! ### Remarks outside the statement (recorded, not alarms) -/

/-- Beyond the bound of `IdxBounded` the index wraps as `atoi` does:
    `#2` accepts the address "4294967296" (= 2^32). -/
theorem atoi_wraps :
    PathMatches ([35, 50] ++ [0]) ([52, 50, 57, 52, 57, 54, 55, 50, 57, 54] ++ [0]) :=
  ⟨([0], [0]), by decide +kernel⟩

/-- **args_overread_counterexample** (genuine defect, repaired by
    fixes/C05-args-overread.patch): the unrepaired `rtosc_match_args` advanced and read
    `arg_str` once per pattern character, also behind the NUL of the type string.  With the
    pattern `a:iiii` and the argument-less message "a\0\0\0,\0\0\0" in a buffer of exactly
    its eight bytes the comparison left the buffer (ASan on the unrepaired source:
    heap-buffer-overflow READ in `rtosc_match_args`); the repaired loop (`args`, Match/Path.lean)
    stops at the NUL and answers `false`. -/
theorem args_overread_counterexample :
    (argString (mkMsg [97] [] [])).bind (argsUnfixed [58, 105, 105, 105, 105, 0]) = none ∧
    (argString (mkMsg [97] [] [])).bind (args [58, 105, 105, 105, 105, 0]) = some false ∧
    full ([97, 58, 105, 105, 105, 105] ++ [0]) (mkMsg [97] [] []) = some (false, some [0, 0, 0, 44, 0, 0, 0]) := by
  refine ⟨by decide +kernel, by decide +kernel, by decide +kernel⟩

/-! ### Non-vacuity -/

/-- `ab#12/c{x,yz}/:i:ff:` — literal text with an inner '/', an enumeration, a group,
    a trailing '/', three type alternatives (the last one empty) -/
def exPat : Pat :=
  { segs := [.lit [97, 98], .enum [49, 50], .lit [47, 99], .alts [[120], [121, 122]]],
    sub := true, types := some [[105], [102, 102], []] }

example : exPat.WF := by decide +kernel
example : exPat.cstr = [97, 98, 35, 49, 50, 47, 99, 123, 120, 44, 121, 122, 125, 47,
    58, 105, 58, 102, 102, 58, 0] := by decide

/-- "ab007/cyz/rest" -/
def exAddr : Bytes := [97, 98, 48, 48, 55, 47, 99, 121, 122, 47, 114, 101, 115, 116]

example : NulFree exAddr := by
  unfold NulFree exAddr; decide
example : IdxBounded exAddr := idxBounded_of_check (by decide +kernel)

/-- the address spells the pattern (index 007 < 12, alternative "yz", continues after
    the trailing '/') -/
theorem exAddr_spells : PathSpec exPat exAddr :=
  ⟨[47, 114, 101, 115, 116],
   SpellsAll.lit [97, 98]
     (SpellsAll.enum [49, 50] [48, 48, 55] (by simp) (by decide) (by intro c t h; cases h; decide)
       (by decide)
       (SpellsAll.lit [47, 99] (SpellsAll.alts _ [121, 122] (by simp) (SpellsAll.nil _)))),
   ⟨_, rfl⟩⟩

theorem exAddr_specMatch : SpecMatch exPat exAddr [102, 102] :=
  ⟨exAddr_spells, by intro ts h; cases h; simp⟩

example : PathSpec exPat exAddr := exAddr_spells

example : SpecMatch exPat exAddr [102, 102] := exAddr_specMatch

example : MsgMatches exPat.cstr (mkMsg exAddr [102, 102] [0, 0, 0, 0, 0, 0, 0, 0]) := by decide +kernel
example : ¬ MsgMatches exPat.cstr (mkMsg exAddr [102] [0, 0, 0, 0]) := by decide +kernel
/-- a message in a buffer of exactly its size (no byte behind the padded type string) and a
    pattern whose alternatives are longer than the type string: decided, no out-of-bounds read -/
example : ¬ MsgMatches exPat.cstr (mkMsg exAddr [102] []) := by decide +kernel
example : (full exPat.cstr (mkMsg exAddr [102] [])).isSome = true := by decide +kernel
example : MsgMatches exPat.cstr (mkMsg exAddr [] []) := by decide +kernel

/-- an instance of `enum_bound_strict`: index 12 is not below 12 -/
example : path exPat.cstr ([97, 98, 49, 50, 47, 99, 120, 47] ++ [0]) = .fail := by decide +kernel

/-- the copies are exercised on a pattern with a retry and a prefix match -/
example : argMatcher [58, 105, 58, 102, 0] [102, 102, 0] = some true := by decide +kernel

/-- pattern `{a1,a}#5` -/
def k1EnumPat : Pat := { segs := [.alts [[97, 49], [97]], .enum [53]], sub := false, types := none }

/-- **enum_bound_needs_leftmost**: with prefix-related alternatives the enumeration bound holds
    of the leftmost reading only.  `{a1,a}#5` and the address "a12": read with the alternative
    "a" the index is 12 ≥ 5, and the address is accepted all the same — by its leftmost reading
    (alternative "a1", index 2 < 5), which is a reading in the sense of the statement, so the
    accepted index is below N (`match_sound_enum`). -/
theorem enum_bound_needs_leftmost :
    k1EnumPat.WF0 ∧ SpellsAll [.alts [[97, 49], [97]]] [97, 49, 50] ([49, 50] ++ []) ∧
    decVal [53] ≤ decVal [49, 50] ∧
    PathMatches k1EnumPat.cstr ([97, 49, 50] ++ [0]) ∧ PathSpecLeftmost k1EnumPat [97, 49, 50] := by
  have hm : PathMatches k1EnumPat.cstr ([97, 49, 50] ++ [0]) := ⟨([0], [0]), by decide +kernel⟩
  have hn : NulFree [97, 49, 50] := by unfold NulFree; decide
  refine ⟨by decide, SpellsAll.alts _ [97] (by simp) (SpellsAll.nil _), by decide, hm,
    (match_iff_leftmost (p := k1EnumPat) (by decide) [] hn (by decide)).mp hm⟩

/-! ### Non-vacuity on a pattern of the K1 class and an address with a digit run beyond 2^32 -/

/-- `v4294967296x#12{y,yz}z:i` — literal text that holds a digit run ≥ 2^32, an enumeration,
    a group with prefix-related alternatives (K1 class), a type alternative -/
def exPat2 : Pat :=
  { segs := [.lit [118, 52, 50, 57, 52, 57, 54, 55, 50, 57, 54, 120], .enum [49, 50],
             .alts [[121], [121, 122]], .lit [122]],
    sub := false, types := some [[105]] }

/-- "v4294967296x007yz" -/
def exAddr2 : Bytes := [118, 52, 50, 57, 52, 57, 54, 55, 50, 57, 54, 120, 48, 48, 55, 121, 122]

example : exPat2.WF0 := by decide +kernel
example : exPat2.hasPrefixAlts = true := by decide +kernel
example : NulFree exAddr2 := by unfold NulFree exAddr2; decide
/-- `EnumIdxBounded` holds … -/
example : EnumIdxBounded exPat2 exAddr2 := by decide +kernel
/-- … `IdxBounded` does not: the digit run inside the literal text is 2^32 -/
example : ¬ IdxBounded exAddr2 := fun h =>
  absurd (h [118] [52, 50, 57, 52, 57, 54, 55, 50, 57, 54] [120, 48, 48, 55, 121, 122] rfl (by decide))
    (by decide)
/-- the leftmost reading: literal text, index 007 < 12, alternative "y", then "z" -/
example : PathSpecLeftmost exPat2 exAddr2 :=
  ⟨[], SpellsLeftmost.lit _
    (SpellsLeftmost.enum [49, 50] [48, 48, 55] (by simp) (by decide) (by intro c t h; cases h; decide)
      (by decide)
      (SpellsLeftmost.alts _ [] [121] [[121, 122]] rfl (by simp)
        (SpellsLeftmost.lit [122] (SpellsLeftmost.nil [])))), by simp [exPat2]⟩
example : MsgMatches exPat2.cstr (mkMsg exAddr2 [105] []) := by decide +kernel
/-- "v4294967296x007yzz" spells the pattern (alternative "yz", then "z") but not by its
    leftmost reading: rejected (finding C05-K1) -/
example : ¬ MsgMatches exPat2.cstr (mkMsg (exAddr2 ++ [122]) [105] []) := by decide +kernel

/-- the K1 witness `{a,ab}c` / "abc" in the terms of `k1_exact`: it spells the pattern, but
    not by its leftmost reading -/
example : PathSpec k1Pat [97, 98, 99] ∧ ¬ PathSpecLeftmost k1Pat [97, 98, 99] :=
  ⟨k1Pat_spells, fun h => k1Pat_rejected (match_leftmost_complete (p := k1Pat) (by decide) [] k1Pat_nulFree h)⟩

/-- `msg_complete` on `exPat` / `exAddr`: no bound on digit runs asked for -/
example : MsgMatches exPat.cstr (mkMsg exAddr [102, 102] []) :=
  msg_complete (by decide) [] (by unfold NulFree exAddr; decide) exAddr_specMatch

end Rtosc.Match
