/-
  C06 — ThreadLink is a lossless FIFO between two threads under every interleaving.

  Models: `Ring/Seq.lean` (sequential mirror of thread-link.cpp), `Ring/Conc.lean` (writer
  and reader as pc-machines, one step per shared access), `Ring/Spec.lean` (bounded FIFO
  with lookahead cursor).  The theorems are first stated for an abstract framing function:
  `Framing frame IsMsg` says that `frame` recognises every message `m` with its own length
  whatever follows it.  They are then *instantiated* (the `…_osc` theorems)
  with `frameOsc` = C01's model of `rtosc_message_ring_length` (`Osc.ringLength`, the function
  the driver runs against the compiled code) and `IsOscMsg` = the encodings of well-formed OSC
  messages whose address does not start with '#': `oscFraming` (Proofs/RingOsc.lean) derives
  `Framing frameOsc IsOscMsg` from C01's `ringLength_spec` (Proofs/OscLength.lean).
  All theorems quantify over *every* operation history, every interleaving and every memcpy chunk
  size; none has a bound.

  The lookahead clause under concurrency (section "lookahead reads under concurrency") uses the
  cursors of the bounded FIFO computed from the reader's own log (`curOf`, `Conc.lookahead`,
  `Conc.cursor`); `conc_cursor_is_queue` shows that they are the cursors `Q.step` maintains.

  What the statements are made of besides the models — `Inv`, the cursors, `qAt`, `Conc.queuedBytes`,
  `Op.Ok` — is defined in `Ring/ConcSpec.lean`; `OpsOk`, `WOpsOk`, `Conc.absQ` below.
-/
import RtoscModel.Proofs.RingOsc
import RtoscModel.Proofs.RingAccept
import RtoscModel.Proofs.RingLook
namespace Rtosc.Ring
open Rtosc

variable {frame : Bytes → Nat} {IsMsg : Bytes → Prop}

/-- the histories the property quantifies over: everything written is a message -/
def OpsOk (IsMsg : Bytes → Prop) (ops : List Op) : Prop := ∀ op, op ∈ ops → op.Ok IsMsg

def WOpsOk (IsMsg : Bytes → Prop) (wops : List WOp) : Prop := ∀ op, op ∈ wops → IsMsg op.msg

/-- **C06 / FIFO, sequentially.** For any operation history the model of thread-link.cpp
    returns exactly what the bounded FIFO with lookahead cursor returns (messages byte for
    byte, `hasNext`/`hasNextLookahead` values), and no copy ever leaves its buffer. -/
theorem seq_refines_queue (fr : Framing frame IsMsg) (maxMsg nmsgs : Nat) (hN : 0 < maxMsg * nmsgs)
    (ops : List Op) (hops : OpsOk IsMsg ops) :
    (Seq.run frame (Seq.init maxMsg nmsgs) ops).2 = (Q.run (Q.init maxMsg nmsgs) ops).2 ∧
    (Seq.run frame (Seq.init maxMsg nmsgs) ops).1.fault = false := by
  obtain ⟨P, C, L, inv, h⟩ := run_refines fr ops _ [] 0 0 (init_sinv maxMsg nmsgs hN) hops
  rw [absQ_init] at h
  exact ⟨by rw [h], inv.hfault⟩

/-- **C06 / "dropped whole".** After any history, a write (or raw_write) of a message that
    does not fit into the free space or exceeds `MaxMsg` — i.e. that the FIFO `q` reached
    by the same history does not accept — leaves the ThreadLink state *unchanged*. -/
theorem drop_whole (fr : Framing frame IsMsg) (maxMsg nmsgs : Nat) (hN : 0 < maxMsg * nmsgs)
    (ops : List Op) (hops : OpsOk IsMsg ops) (m : Bytes) (hm : IsMsg m)
    (hfit : (Q.run (Q.init maxMsg nmsgs) ops).1.fits m = false) :
    (Seq.run frame (Seq.init maxMsg nmsgs) ops).1.write m = (Seq.run frame (Seq.init maxMsg nmsgs) ops).1 ∧
    (Seq.run frame (Seq.init maxMsg nmsgs) ops).1.rawWrite frame m =
      (Seq.run frame (Seq.init maxMsg nmsgs) ops).1 := by
  obtain ⟨P, C, L, inv, h⟩ := run_refines fr ops _ [] 0 0 (init_sinv maxMsg nmsgs hN) hops
  rw [absQ_init] at h
  rw [h] at hfit
  generalize (Seq.run frame (Seq.init maxMsg nmsgs) ops).1 = s at *
  have hno : ¬(m.length ≤ s.maxMsg ∧ writeSize s.w s.r s.size ≥ m.length) := by
    intro hc
    have := (inv.fits_iff m).mpr hc
    simp only at hfit
    rw [this] at hfit; cases hfit
  have hwlt : s.w < s.size := by rw [inv.hw]; exact Nat.mod_lt _ inv.hN
  have e : frame m = m.length := fr.self hm
  constructor
  · unfold Seq.write
    by_cases hmx : m.length ≤ s.maxMsg
    · simp only [hmx, if_true]
      rw [if_neg (fun hc => hno ⟨hmx, hc⟩)]
    · simp only [hmx, if_false, List.length_nil, ge_iff_le, Nat.zero_le, if_true]
      exact ringWrite_nil hwlt inv.hbuf
  · unfold Seq.rawWrite
    simp only [e]
    rw [if_neg hno]

/-- **C06 / lookahead.** After any history that ends with a `read` (which resynchronises
    the lookahead position), `k` lookahead reads return the same sequence as `k` reads would,
    and they consume nothing: `k` reads issued *afterwards* still return that sequence. -/
theorem lookahead_replays (fr : Framing frame IsMsg) (maxMsg nmsgs : Nat) (hN : 0 < maxMsg * nmsgs)
    (ops : List Op) (hops : OpsOk IsMsg ops) (k : Nat) :
    let s := (Seq.run frame (Seq.init maxMsg nmsgs) (ops ++ [.read])).1
    (Seq.run frame s (List.replicate k .readLookahead)).2 = (Seq.run frame s (List.replicate k .read)).2 ∧
    (Seq.run frame (Seq.run frame s (List.replicate k .readLookahead)).1 (List.replicate k .read)).2 =
      (Seq.run frame s (List.replicate k .read)).2 := by
  intro s
  have hops' : OpsOk IsMsg (ops ++ [.read]) :=
    List.forall_mem_append.mpr ⟨hops, List.forall_mem_singleton.mpr trivial⟩
  obtain ⟨P, C, L, inv, h⟩ := run_refines fr (ops ++ [Op.read]) _ [] 0 0 (init_sinv maxMsg nmsgs hN) hops'
  -- after a read the cursor of the queue is 0
  have hla0 : (Q.run (absQ (Seq.init maxMsg nmsgs) [] 0 0) (ops ++ [.read])).1.la = 0 := by
    have hrun : ∀ (l : List Op) (q : Q), (Q.run q (l ++ [.read])).1.la = 0 := by
      intro l
      induction l with
      | nil => intro q; simp only [List.nil_append, Q.run, Q.step]; cases q.items <;> rfl
      | cons o l ih => intro q; simp only [List.cons_append, Q.run]; exact ih _
    exact hrun ops _
  rw [h] at hla0
  have hrl : ∀ o, o ∈ List.replicate k Op.readLookahead → o.Ok IsMsg := Op.Ok.of_mem_replicate trivial
  have hrr : ∀ o, o ∈ List.replicate k Op.read → o.Ok IsMsg := Op.Ok.of_mem_replicate trivial
  obtain ⟨P1, C1, L1, inv1, h1⟩ := run_refines fr (List.replicate k .readLookahead) s P C L inv hrl
  obtain ⟨P2, C2, L2, -, h2⟩ := run_refines fr (List.replicate k .read) s P C L inv hrr
  obtain ⟨P3, C3, L3, -, h3⟩ := run_refines fr (List.replicate k .read) _ P1 C1 L1 inv1 hrr
  have e1 := congrArg Prod.snd h1
  have e2 := congrArg Prod.snd h2
  have e3 := congrArg Prod.snd h3
  have s1 := congrArg Prod.fst h1
  simp only at e1 e2 e3 s1
  generalize absQ s P C L = q at *
  have hq : ({ q with items := q.items.drop q.la, la := 0 } : Q) = q := by
    cases q; simp only at hla0; subst hla0; simp
  have hA := Q.la_outs k q
  rw [hq] at hA
  refine ⟨by rw [← e1, ← e2, hA], ?_⟩
  rw [← e3, ← e2, ← s1]
  obtain ⟨i1, i2, i3⟩ := Q.la_run_items k q
  have : (Q.run q (List.replicate k .readLookahead)).1 =
      { q with la := (Q.run q (List.replicate k .readLookahead)).1.la } := by
    generalize (Q.run q (List.replicate k .readLookahead)).1 = q' at *
    cases q'; cases q; simp only at i1 i2 i3; subst i1 i2 i3; rfl
  rw [this, Q.read_outs_la]

/-- **C06 / resynchronisation.** A normal read leaves the lookahead position equal to the
    read position, in every state (the semantic consequence is `lookahead_replays`). -/
theorem read_resyncs_lookahead (frame : Bytes → Nat) (s : Seq) :
    (s.read frame false).1.la = (s.read frame false).1.r := by
  unfold Seq.read Seq.ringRead
  rcases readVector s.buf s.size s.w (if false = true then s.la else s.r) with ⟨d0, d1, -⟩
  simp only
  rcases copyOut s.buf s.rbuf s.size (if false = true then s.la else s.r) (frame (d0 ++ d1)) with ⟨-, -⟩
  rfl

/-- **C06 / invariant.** Every state reachable by any interleaving of the writer's and the
    reader's shared accesses satisfies `Inv`: the ring bytes between the read and the write
    position are the published messages laid end to end, the writer's pending bytes lie in
    the free region, the reader's copied prefix is a prefix of the head message, no copy
    has left its buffer. -/
theorem conc_inv (fr : Framing frame IsMsg) (maxMsg nmsgs chunk : Nat) (hN : 0 < maxMsg * nmsgs)
    (wops : List WOp) (rops : List ROp) (hops : WOpsOk IsMsg wops) (s : Conc)
    (h : Conc.Reach frame (Conc.init frame maxMsg nmsgs chunk wops rops) s) : Inv frame IsMsg s :=
  (reach_init fr hN hops h).1.inv

/-- **C06 / data-race freedom.** In no reachable state are a plain write of the writer and
    a plain read of the reader to the same ring byte both enabled.  (The ring bytes are the
    only non-atomic shared locations; hence by C++11 DRF-SC the interleaving semantics is
    exhaustive for the real program.) -/
theorem conc_drf (fr : Framing frame IsMsg) (maxMsg nmsgs chunk : Nat) (hN : 0 < maxMsg * nmsgs)
    (wops : List WOp) (rops : List ROp) (hops : WOpsOk IsMsg wops) (s : Conc)
    (h : Conc.Reach frame (Conc.init frame maxMsg nmsgs chunk wops rops) s) :
    ∀ o, o ∈ s.writerWrites → o ∉ s.readerReads :=
  fun o hw hr => inv_drf (conc_inv fr maxMsg nmsgs chunk hN wops rops hops s h) o hw hr

/-- **C06 / FIFO.** In every reachable state the messages returned by the reader's
    (consuming) reads are exactly the first published messages, byte for byte and in order
    — nothing duplicated, skipped or torn; the published messages are a sub-sequence, in
    order, of the messages given to the writer (those it accepted); no copy left its buffer. -/
theorem conc_fifo (fr : Framing frame IsMsg) (maxMsg nmsgs chunk : Nat) (hN : 0 < maxMsg * nmsgs)
    (wops : List WOp) (rops : List ROp) (hops : WOpsOk IsMsg wops) (s : Conc)
    (h : Conc.Reach frame (Conc.init frame maxMsg nmsgs chunk wops rops) s) :
    s.returned = s.published.take s.returned.length ∧
    s.published.Sublist (wops.map WOp.msg) ∧ s.fault = false := by
  obtain ⟨⟨inv, -, -⟩, ac⟩ := reach_init fr hN hops h
  exact ⟨inv.hret, ac.published_sublist, inv.hfault⟩

/-! ## lookahead reads under concurrency

  `s.lookahead` (= `laOf s.rlog`) is the position of the lookahead cursor of the bounded FIFO,
  computed from the results the reader has received so far with the cursor arithmetic of
  `Q.step` (`curStep`: a lookahead read that returns a message advances it, every normal read
  sets it to the number of consumed messages); `s.cursor l` is the published message a
  `read(l)` looks at: `s.lookahead` for `read_lookahead`, `s.returned.length` for `read`;
  `s.absQ` is the bounded FIFO holding the published messages with these two cursors. -/

/-- the bounded FIFO a reachable state stands for: the published messages, of which
    `returned.length` are consumed, lookahead cursor at `lookahead` -/
def Conc.absQ (s : Conc) : Q := qAt (s.N - 1) s.maxMsg s.published (s.returned.length, s.lookahead)

/-- **C06 / lookahead, under every interleaving: the cursors are the queue's cursors.**  In
    every reachable state, a `read` / `read_lookahead` of the bounded FIFO `s.absQ` returns the
    published message at `s.cursor l` (nothing iff the cursor is behind the last published
    message) and leaves the FIFO with the cursors that `curStep` computes from that result —
    so the log-defined cursors used by the theorems below are exactly the cursors of the
    abstract queue; `hasNext` / `hasNextLookahead` of the FIFO answer `cursor < published`. -/
theorem conc_cursor_is_queue (fr : Framing frame IsMsg) (maxMsg nmsgs chunk : Nat) (hN : 0 < maxMsg * nmsgs)
    (wops : List WOp) (rops : List ROp) (hops : WOpsOk IsMsg wops) (s : Conc)
    (h : Conc.Reach frame (Conc.init frame maxMsg nmsgs chunk wops rops) s) (l : Bool) :
    Q.step s.absQ (ropOp l) =
      (qAt (s.N - 1) s.maxMsg s.published
         (curStep (s.returned.length, s.lookahead) (.read l ((s.published[s.cursor l]?).getD []))),
       .msg s.published[s.cursor l]?) ∧
    (Q.step s.absQ (if l = true then .hasNextLookahead else .hasNext)).2 =
      .bool (decide (s.cursor l < s.published.length)) := by
  obtain ⟨⟨inv, li, -⟩, -⟩ := reach_init fr hN hops h
  exact ⟨queue_cursor _ _ _ (fun m hm => fr.ne m (inv.hP m hm).1) _ _ li.hlo l,
    queue_hasNext _ _ _ _ _ li.hlo l⟩

/-- **C06 / lookahead FIFO, under every interleaving.**  In every reachable state the lookahead
    cursor lies between the consumed and the published messages, and *every* completed read in
    the reader's log that returned a message — `read_lookahead` as well as `read` — returned,
    byte for byte, the published message its cursor pointed at when it was issued (the cursors
    computed from the results that precede it in the log): lookahead reads replay the published
    sequence from the last consuming read on, without skipping, duplicating or tearing. -/
theorem conc_lookahead_fifo (fr : Framing frame IsMsg) (maxMsg nmsgs chunk : Nat) (hN : 0 < maxMsg * nmsgs)
    (wops : List WOp) (rops : List ROp) (hops : WOpsOk IsMsg wops) (s : Conc)
    (h : Conc.Reach frame (Conc.init frame maxMsg nmsgs chunk wops rops) s) :
    s.returned.length ≤ s.lookahead ∧ s.lookahead ≤ s.published.length ∧
    ∀ i l m, s.rlog[i]? = some (.read l m) → m ≠ [] →
      s.published[curAt l (s.rlog.take i)]? = some m := by
  have li := (reach_init fr hN hops h).1.li
  exact ⟨li.hlo, li.hhi, li.hlog⟩

/-- **C06 / hasNext and hasNextLookahead.**  In every reachable state in which the reader is about
    to execute `hasNext()` (`l = false`) or `hasNextLookahead()` (`l = true`), its single shared
    access (the load of the write index — the linearisation point) yields `true` exactly when a
    published message lies at its cursor. -/
theorem hasNext_exact_cursor (fr : Framing frame IsMsg) (maxMsg nmsgs chunk : Nat) (hN : 0 < maxMsg * nmsgs)
    (wops : List WOp) (rops : List ROp) (hops : WOpsOk IsMsg wops) (s : Conc)
    (h : Conc.Reach frame (Conc.init frame maxMsg nmsgs chunk wops rops) s)
    (l : Bool) (rest : List ROp) (hpc : s.rpc = .idle) (hop : s.rops = .hasNext l :: rest) :
    ∃ s' b, s.step frame .reader = some (s', .loadW s.w) ∧ s'.rlog = s.rlog ++ [.hasNext l b] ∧
      (b = true ↔ s.cursor l < s.published.length) := by
  obtain ⟨⟨inv, li, -⟩, -⟩ := reach_init fr hN hops h
  have hC : (retOf s.rlog).length ≤ (pubOf s.wlog).length := inv.hC
  have hx : readSize s.w (if l = true then s.la else s.r) s.N ≠ 0 ↔ curAt l s.rlog < (pubOf s.wlog).length := by
    cases l with
    | false => exact inv_readSize_at fr inv (Nat.le_refl _) hC inv.hr
    | true => exact inv_readSize_at fr inv li.hlo li.hhi li.hla
  refine ⟨{ s with rops := rest, rlog := s.rlog ++ [.hasNext l (decide (readSize s.w (if l = true then s.la else s.r) s.N ≠ 0))] },
    decide (readSize s.w (if l = true then s.la else s.r) s.N ≠ 0), ?_, rfl, ?_⟩
  · simp only [Conc.step, Conc.rStep, hpc, hop]
  · rw [decide_eq_true_iff]; exact hx

/-- **C06 / hasNext.** In every reachable state in which the reader is about to execute
    `hasNext()`, its single shared access (the load of the write index — the linearisation
    point) yields `false` exactly when every published message has been consumed. -/
theorem hasNext_exact (fr : Framing frame IsMsg) (maxMsg nmsgs chunk : Nat) (hN : 0 < maxMsg * nmsgs)
    (wops : List WOp) (rops : List ROp) (hops : WOpsOk IsMsg wops) (s : Conc)
    (h : Conc.Reach frame (Conc.init frame maxMsg nmsgs chunk wops rops) s)
    (rest : List ROp) (hpc : s.rpc = .idle) (hop : s.rops = .hasNext false :: rest) :
    ∃ s' b, s.step frame .reader = some (s', .loadW s.w) ∧ s'.rlog = s.rlog ++ [.hasNext false b] ∧
      (b = false ↔ s.returned.length = s.published.length) := by
  obtain ⟨s', b, h1, h2, h3⟩ := hasNext_exact_cursor fr maxMsg nmsgs chunk hN wops rops hops s h false rest hpc hop
  have hC : s.returned.length ≤ s.published.length := (conc_inv fr maxMsg nmsgs chunk hN wops rops hops s h).hC
  exact ⟨s', b, h1, h2, eq_false_iff_eq_of_eq_true_iff_lt hC h3⟩

/-- **C06 / hasNextLookahead.**  `hasNextLookahead()` answers `false` exactly when the lookahead
    cursor has reached the end of the published messages (counterpart of `hasNext_exact`). -/
theorem hasNextLookahead_exact (fr : Framing frame IsMsg) (maxMsg nmsgs chunk : Nat) (hN : 0 < maxMsg * nmsgs)
    (wops : List WOp) (rops : List ROp) (hops : WOpsOk IsMsg wops) (s : Conc)
    (h : Conc.Reach frame (Conc.init frame maxMsg nmsgs chunk wops rops) s)
    (rest : List ROp) (hpc : s.rpc = .idle) (hop : s.rops = .hasNext true :: rest) :
    ∃ s' b, s.step frame .reader = some (s', .loadW s.w) ∧ s'.rlog = s.rlog ++ [.hasNext true b] ∧
      (b = false ↔ s.lookahead = s.published.length) := by
  obtain ⟨s', b, h1, h2, h3⟩ := hasNext_exact_cursor fr maxMsg nmsgs chunk hN wops rops hops s h true rest hpc hop
  have li := (conc_lookahead_fifo fr maxMsg nmsgs chunk hN wops rops hops s h).2.1
  exact ⟨s', b, h1, h2, eq_false_iff_eq_of_eq_true_iff_lt li h3⟩

/-- **C06 / what a read returns, at its linearisation point.**  In every reachable state in which
    the reader is about to execute `read()` (`l = false`) or `read_lookahead()` (`l = true`), its
    first shared access is the load of the write index; whatever the two threads do from there
    (any interleaving, any number of steps), the reader's log is unchanged until the operation
    completes, and the entry it then appends is the message that was published *at that load*
    at the operation's cursor — nothing (`[]`) exactly when the cursor had reached the end of
    the published messages at that moment.  By `conc_cursor_is_queue` this is what
    `read` / `read_lookahead` of the bounded FIFO with lookahead cursor return in that state. -/
theorem conc_read_exact (fr : Framing frame IsMsg) (maxMsg nmsgs chunk : Nat) (hN : 0 < maxMsg * nmsgs)
    (wops : List WOp) (rops : List ROp) (hops : WOpsOk IsMsg wops) (s : Conc)
    (h : Conc.Reach frame (Conc.init frame maxMsg nmsgs chunk wops rops) s)
    (l : Bool) (rest : List ROp) (hpc : s.rpc = .idle) (hop : s.rops = .read l :: rest) :
    ∃ s1, s.step frame .reader = some (s1, .loadW s.w) ∧
      ∀ s', Conc.Reach frame s1 s' →
        s'.rlog = s.rlog ∨
        ∃ more, s'.rlog = s.rlog ++ .read l ((s.published[s.cursor l]?).getD []) :: more := by
  have I := (reach_init fr hN hops h).1
  have hstep : s.step frame .reader = some ({ s with rops := rest, rpc := .framing l s.w }, .loadW s.w) := by
    simp only [Conc.step, Conc.rStep, hpc, hop]
  refine ⟨_, hstep, ?_⟩
  intro s' hr
  obtain ⟨hX, hw0, p1⟩ := pend_start I.inv I.li l rest
  obtain ⟨-, -, pc⟩ := reach_pend fr hX hw0 (step_invL fr .reader I hstep) p1 hr
  rcases pc with ⟨plog, -⟩ | ⟨plog, -⟩ | ⟨more, plog⟩
  · exact Or.inl plog
  · exact Or.inl plog
  · exact Or.inr ⟨more, plog⟩

/-- **C06 / nothing lost, with the lookahead cursor.**  Whenever both threads are between
    operations (the proof needs only the writer to be), the ThreadLink is a sequential ThreadLink
    that *is* the bounded FIFO `s.absQ`:
    any further (sequential) history of writes, reads, lookahead reads and hasNext queries
    returns what that FIFO returns (`conc_lossless` is the case of `k` reads). -/
theorem conc_quiescent_queue (fr : Framing frame IsMsg) (maxMsg nmsgs chunk : Nat) (hN : 0 < maxMsg * nmsgs)
    (wops : List WOp) (rops : List ROp) (hops : WOpsOk IsMsg wops) (s : Conc)
    (h : Conc.Reach frame (Conc.init frame maxMsg nmsgs chunk wops rops) s)
    (hw : s.wpc = .idle) (_hr : s.rpc = .idle) (ops : List Op) (hok : OpsOk IsMsg ops) :
    (Seq.run frame s.toSeq ops).2 = (Q.run s.absQ ops).2 := by
  obtain ⟨⟨inv, li, -⟩, -⟩ := reach_init fr hN hops h
  obtain ⟨P2, C2, L2, -, h2⟩ := run_refines fr ops _ _ _ _ (inv.toSeq_at li hw) hok
  have e2 := congrArg Prod.snd h2
  simp only at e2
  rw [← e2]
  rfl

/-- **C06 / nothing lost.** Whenever both threads are between operations (the proof needs only the
    writer to be), the ThreadLink is a sequential ThreadLink that holds exactly the published
    messages not yet returned:
    `k` further reads return them in order and then nothing. -/
theorem conc_lossless (fr : Framing frame IsMsg) (maxMsg nmsgs chunk : Nat) (hN : 0 < maxMsg * nmsgs)
    (wops : List WOp) (rops : List ROp) (hops : WOpsOk IsMsg wops) (s : Conc)
    (h : Conc.Reach frame (Conc.init frame maxMsg nmsgs chunk wops rops) s)
    (hw : s.wpc = .idle) (hr : s.rpc = .idle) (k : Nat) :
    (Seq.run frame s.toSeq (List.replicate k .read)).2 =
      (List.range k).map fun i => Out.msg (s.published.drop s.returned.length)[i]? := by
  rw [conc_quiescent_queue fr maxMsg nmsgs chunk hN wops rops hops s h hw hr (List.replicate k .read)
    (Op.Ok.of_mem_replicate trivial), Q.read_outs]
  rfl

/-- **C06 / acceptance under concurrency.**  In every reachable state in which the writer is
    about to start an operation, its first shared access — the load of the read index, the
    moment "it looks" — decides the fate of the message `m`: it is accepted (and `m` itself
    becomes the bytes in flight, to be published by the store of the write index, see
    `conc_publish`) **iff** `m` is not longer than `MaxMsg` and fits, together with the bytes
    of the published-but-not-yet-returned messages, into the `N - 1` usable bytes of the ring
    *at that moment*; otherwise nothing is in flight, and ring, write index and published
    messages are unchanged (dropped whole, disturbing nothing). -/
theorem conc_accept_exact (fr : Framing frame IsMsg) (maxMsg nmsgs chunk : Nat) (hN : 0 < maxMsg * nmsgs)
    (wops : List WOp) (rops : List ROp) (hops : WOpsOk IsMsg wops) (s : Conc)
    (h : Conc.Reach frame (Conc.init frame maxMsg nmsgs chunk wops rops) s)
    (op : WOp) (rest : List WOp) (hpc : s.wpc = .idle) (hop : s.wops = op :: rest) :
    ∃ s', s.step frame .writer = some (s', .loadR s.r) ∧
      (if op.msg.length ≤ s.maxMsg ∧ s.queuedBytes + op.msg.length ≤ s.N - 1
       then s'.wpc = .copying op.msg op.msg 0 ∧ s'.wlog = s.wlog
       else s'.wpc.inflight = [] ∧ s'.published = s.published) ∧
      s'.buf = s.buf ∧ s'.w = s.w :=
  inv_accept fr (conc_inv fr maxMsg nmsgs chunk hN wops rops hops s h) hpc hop

/-- **C06 / publication.**  Once the bytes in flight have been copied, the writer's next step
    is the store of the write index and appends exactly those bytes to the published
    messages (nothing for an empty transfer). -/
theorem conc_publish (frame : Bytes → Nat) (s : Conc) (m d : Bytes) (k : Nat)
    (hpc : s.wpc = .copying m d k) (hk : d.length ≤ k) :
    ∃ s', s.step frame .writer = some (s', .storeW ((s.w + d.length) % s.N)) ∧
      s'.published = s.published ++ (if d = [] then [] else [d]) ∧ s'.wpc = .idle := by
  simp only [Conc.step, Conc.wStep, hpc]
  rw [if_neg (by omega)]
  refine ⟨_, rfl, ?_, rfl⟩
  by_cases hd : d = []
  · simp only [hd, if_true]; exact pubOf_wNext ..
  · simp only [hd, if_false]; exact pubOf_wNext ..

/-- `Framing` holds of the model of the real framing function. -/
theorem framing_osc : Framing frameOsc IsOscMsg := oscFraming

/-- **C06 / FIFO, sequentially, with the real length functions.**  For every history whose
    written payloads are encodings of well-formed OSC messages (address not starting with '#'),
    the model of thread-link.cpp that computes lengths like the code — `raw_write` with
    `rtosc_message_length(msg,-1)` (`rawLen`: every operation returns, no read outside the block),
    reads with `rtosc_message_ring_length` — returns what the bounded FIFO returns. -/
theorem seq_refines_queue_osc (maxMsg nmsgs : Nat) (hN : 0 < maxMsg * nmsgs)
    (ops : List Op) (hops : OpsOk IsOscMsg ops) :
    ∃ s outs, Seq.runOsc (Seq.init maxMsg nmsgs) ops = some (s, outs) ∧
      outs = (Q.run (Q.init maxMsg nmsgs) ops).2 ∧ s.fault = false := by
  have h := seq_refines_queue oscFraming maxMsg nmsgs hN ops hops
  exact ⟨_, _, runOsc_eq ops _ hops, h.1, h.2⟩

theorem drop_whole_osc (maxMsg nmsgs : Nat) (hN : 0 < maxMsg * nmsgs)
    (ops : List Op) (hops : OpsOk IsOscMsg ops) (m : Bytes) (hm : IsOscMsg m)
    (hfit : (Q.run (Q.init maxMsg nmsgs) ops).1.fits m = false) :
    (Seq.run frameOsc (Seq.init maxMsg nmsgs) ops).1.write m = (Seq.run frameOsc (Seq.init maxMsg nmsgs) ops).1 ∧
    (Seq.run frameOsc (Seq.init maxMsg nmsgs) ops).1.stepOsc (.rawWrite m) =
      some ((Seq.run frameOsc (Seq.init maxMsg nmsgs) ops).1, .unit) := by
  have h := drop_whole oscFraming maxMsg nmsgs hN ops hops m hm hfit
  refine ⟨h.1, ?_⟩
  rw [stepOsc_eq _ _ (show (Op.rawWrite m).Ok IsOscMsg from hm)]
  simp only [Seq.step, h.2]

theorem conc_inv_osc (maxMsg nmsgs chunk : Nat) (hN : 0 < maxMsg * nmsgs)
    (wops : List WOp) (rops : List ROp) (hops : WOpsOk IsOscMsg wops) (s : Conc)
    (h : Conc.Reach frameOsc (Conc.init frameOsc maxMsg nmsgs chunk wops rops) s) : Inv frameOsc IsOscMsg s :=
  conc_inv oscFraming maxMsg nmsgs chunk hN wops rops hops s h

theorem conc_drf_osc (maxMsg nmsgs chunk : Nat) (hN : 0 < maxMsg * nmsgs)
    (wops : List WOp) (rops : List ROp) (hops : WOpsOk IsOscMsg wops) (s : Conc)
    (h : Conc.Reach frameOsc (Conc.init frameOsc maxMsg nmsgs chunk wops rops) s) :
    ∀ o, o ∈ s.writerWrites → o ∉ s.readerReads :=
  conc_drf oscFraming maxMsg nmsgs chunk hN wops rops hops s h

/-- **C06 / FIFO under every interleaving, for OSC messages and the real framing function.** -/
theorem conc_fifo_osc (maxMsg nmsgs chunk : Nat) (hN : 0 < maxMsg * nmsgs)
    (wops : List WOp) (rops : List ROp) (hops : WOpsOk IsOscMsg wops) (s : Conc)
    (h : Conc.Reach frameOsc (Conc.init frameOsc maxMsg nmsgs chunk wops rops) s) :
    s.returned = s.published.take s.returned.length ∧
    s.published.Sublist (wops.map WOp.msg) ∧ s.fault = false :=
  conc_fifo oscFraming maxMsg nmsgs chunk hN wops rops hops s h

theorem conc_lossless_osc (maxMsg nmsgs chunk : Nat) (hN : 0 < maxMsg * nmsgs)
    (wops : List WOp) (rops : List ROp) (hops : WOpsOk IsOscMsg wops) (s : Conc)
    (h : Conc.Reach frameOsc (Conc.init frameOsc maxMsg nmsgs chunk wops rops) s)
    (hw : s.wpc = .idle) (hr : s.rpc = .idle) (k : Nat) :
    (Seq.run frameOsc s.toSeq (List.replicate k .read)).2 =
      (List.range k).map fun i => Out.msg (s.published.drop s.returned.length)[i]? :=
  conc_lossless oscFraming maxMsg nmsgs chunk hN wops rops hops s h hw hr k

theorem hasNext_exact_osc (maxMsg nmsgs chunk : Nat) (hN : 0 < maxMsg * nmsgs)
    (wops : List WOp) (rops : List ROp) (hops : WOpsOk IsOscMsg wops) (s : Conc)
    (h : Conc.Reach frameOsc (Conc.init frameOsc maxMsg nmsgs chunk wops rops) s)
    (rest : List ROp) (hpc : s.rpc = .idle) (hop : s.rops = .hasNext false :: rest) :
    ∃ s' b, s.step frameOsc .reader = some (s', .loadW s.w) ∧ s'.rlog = s.rlog ++ [.hasNext false b] ∧
      (b = false ↔ s.returned.length = s.published.length) :=
  hasNext_exact oscFraming maxMsg nmsgs chunk hN wops rops hops s h rest hpc hop

theorem conc_accept_exact_osc (maxMsg nmsgs chunk : Nat) (hN : 0 < maxMsg * nmsgs)
    (wops : List WOp) (rops : List ROp) (hops : WOpsOk IsOscMsg wops) (s : Conc)
    (h : Conc.Reach frameOsc (Conc.init frameOsc maxMsg nmsgs chunk wops rops) s)
    (op : WOp) (rest : List WOp) (hpc : s.wpc = .idle) (hop : s.wops = op :: rest) :
    ∃ s', s.step frameOsc .writer = some (s', .loadR s.r) ∧
      (if op.msg.length ≤ s.maxMsg ∧ s.queuedBytes + op.msg.length ≤ s.N - 1
       then s'.wpc = .copying op.msg op.msg 0 ∧ s'.wlog = s.wlog
       else s'.wpc.inflight = [] ∧ s'.published = s.published) ∧
      s'.buf = s.buf ∧ s'.w = s.w :=
  conc_accept_exact oscFraming maxMsg nmsgs chunk hN wops rops hops s h op rest hpc hop

/-- **C06 / lookahead FIFO under every interleaving, for OSC messages and the real framing function.** -/
theorem conc_lookahead_fifo_osc (maxMsg nmsgs chunk : Nat) (hN : 0 < maxMsg * nmsgs)
    (wops : List WOp) (rops : List ROp) (hops : WOpsOk IsOscMsg wops) (s : Conc)
    (h : Conc.Reach frameOsc (Conc.init frameOsc maxMsg nmsgs chunk wops rops) s) :
    s.returned.length ≤ s.lookahead ∧ s.lookahead ≤ s.published.length ∧
    ∀ i l m, s.rlog[i]? = some (.read l m) → m ≠ [] →
      s.published[curAt l (s.rlog.take i)]? = some m :=
  conc_lookahead_fifo oscFraming maxMsg nmsgs chunk hN wops rops hops s h

theorem conc_cursor_is_queue_osc (maxMsg nmsgs chunk : Nat) (hN : 0 < maxMsg * nmsgs)
    (wops : List WOp) (rops : List ROp) (hops : WOpsOk IsOscMsg wops) (s : Conc)
    (h : Conc.Reach frameOsc (Conc.init frameOsc maxMsg nmsgs chunk wops rops) s) (l : Bool) :
    Q.step s.absQ (ropOp l) =
      (qAt (s.N - 1) s.maxMsg s.published
         (curStep (s.returned.length, s.lookahead) (.read l ((s.published[s.cursor l]?).getD []))),
       .msg s.published[s.cursor l]?) ∧
    (Q.step s.absQ (if l = true then .hasNextLookahead else .hasNext)).2 =
      .bool (decide (s.cursor l < s.published.length)) :=
  conc_cursor_is_queue oscFraming maxMsg nmsgs chunk hN wops rops hops s h l

theorem hasNext_exact_cursor_osc (maxMsg nmsgs chunk : Nat) (hN : 0 < maxMsg * nmsgs)
    (wops : List WOp) (rops : List ROp) (hops : WOpsOk IsOscMsg wops) (s : Conc)
    (h : Conc.Reach frameOsc (Conc.init frameOsc maxMsg nmsgs chunk wops rops) s)
    (l : Bool) (rest : List ROp) (hpc : s.rpc = .idle) (hop : s.rops = .hasNext l :: rest) :
    ∃ s' b, s.step frameOsc .reader = some (s', .loadW s.w) ∧ s'.rlog = s.rlog ++ [.hasNext l b] ∧
      (b = true ↔ s.cursor l < s.published.length) :=
  hasNext_exact_cursor oscFraming maxMsg nmsgs chunk hN wops rops hops s h l rest hpc hop

theorem hasNextLookahead_exact_osc (maxMsg nmsgs chunk : Nat) (hN : 0 < maxMsg * nmsgs)
    (wops : List WOp) (rops : List ROp) (hops : WOpsOk IsOscMsg wops) (s : Conc)
    (h : Conc.Reach frameOsc (Conc.init frameOsc maxMsg nmsgs chunk wops rops) s)
    (rest : List ROp) (hpc : s.rpc = .idle) (hop : s.rops = .hasNext true :: rest) :
    ∃ s' b, s.step frameOsc .reader = some (s', .loadW s.w) ∧ s'.rlog = s.rlog ++ [.hasNext true b] ∧
      (b = false ↔ s.lookahead = s.published.length) :=
  hasNextLookahead_exact oscFraming maxMsg nmsgs chunk hN wops rops hops s h rest hpc hop

/-- **C06 / what `read` and `read_lookahead` return at their linearisation point, for OSC
    messages and the real framing function.** -/
theorem conc_read_exact_osc (maxMsg nmsgs chunk : Nat) (hN : 0 < maxMsg * nmsgs)
    (wops : List WOp) (rops : List ROp) (hops : WOpsOk IsOscMsg wops) (s : Conc)
    (h : Conc.Reach frameOsc (Conc.init frameOsc maxMsg nmsgs chunk wops rops) s)
    (l : Bool) (rest : List ROp) (hpc : s.rpc = .idle) (hop : s.rops = .read l :: rest) :
    ∃ s1, s.step frameOsc .reader = some (s1, .loadW s.w) ∧
      ∀ s', Conc.Reach frameOsc s1 s' →
        s'.rlog = s.rlog ∨
        ∃ more, s'.rlog = s.rlog ++ .read l ((s.published[s.cursor l]?).getD []) :: more :=
  conc_read_exact oscFraming maxMsg nmsgs chunk hN wops rops hops s h l rest hpc hop

theorem conc_quiescent_queue_osc (maxMsg nmsgs chunk : Nat) (hN : 0 < maxMsg * nmsgs)
    (wops : List WOp) (rops : List ROp) (hops : WOpsOk IsOscMsg wops) (s : Conc)
    (h : Conc.Reach frameOsc (Conc.init frameOsc maxMsg nmsgs chunk wops rops) s)
    (hw : s.wpc = .idle) (hr : s.rpc = .idle) (ops : List Op) (hok : OpsOk IsOscMsg ops) :
    (Seq.run frameOsc s.toSeq ops).2 = (Q.run s.absQ ops).2 :=
  conc_quiescent_queue oscFraming maxMsg nmsgs chunk hN wops rops hops s h hw hr ops hok

/-! ## known finding C06-K5: bundles are outside `IsMsg` -/

/-- trigger predicate of finding C06-K5: some `raw_write` block starts with `#bundle\0` -/
def HasBundle (ops : List Op) : Bool :=
  ops.any fun
    | .rawWrite b => b.take 8 == bundleMagic
    | _ => false

/-- "#bundle\0", time tag 0, one element `/a ,` (8 bytes), 4 zero bytes behind the block -/
def k5Bundle : Bytes :=
  [35, 98, 117, 110, 100, 108, 101, 0, 0, 0, 0, 0, 0, 0, 0, 0, 0, 0, 0, 8, 47, 97, 0, 0, 44, 0, 0, 0,
   0, 0, 0, 0]

def k5History : List Op := [.rawWrite k5Bundle, .write [47, 98, 0, 0, 44, 0, 0, 0], .hasNext, .read, .read]

/-- **C06-K5.** With the real framing function a bundle sent through `raw_write` is not
    self-delimiting inside the ring: once a message is queued behind it, `read` finds nothing
    although `hasNext` is true — the FIFO would return the bundle, then the message. -/
theorem bundle_not_self_delimiting_counterexample :
    HasBundle k5History = true ∧
    (Seq.run frameExec (Seq.init 32 2) k5History).2 = [.unit, .unit, .bool true, .msg none, .msg none] ∧
    (Q.run (Q.init 32 2) [.rawWrite (k5Bundle.take 28), .write [47, 98, 0, 0, 44, 0, 0, 0], .hasNext, .read, .read]).2
      = [.unit, .unit, .bool true, .msg (some (k5Bundle.take 28)), .msg (some [47, 98, 0, 0, 44, 0, 0, 0])] := by
  decide +kernel


/-! ## `raw_write` returns on every block (the code with fixes/C06-bundle-length-wrap.patch, finding C06-K6)

`raw_write` calls `rtosc_message_length(msg, -1)`: the ring it builds has `total = SIZE_MAX`, so
the guard `advance > total - pos` of `bundle_ring_length` cannot fire.  The code rejects (length 0)
an element whose end `pos + 4 + advance` is not an `unsigned` position, so `pos` strictly
increases; every round reads `msg[pos]`, so the walk has at most `|block|` rounds. -/

/-- **rawLen_terminates** — the fuel lemma for the unbounded length walk (the counterpart of
    C07's `length_terminates` for `len = -1`): on every block shorter than 2^32 bytes the loops of
    `rtosc_message_length(msg, -1)` (path scan, type-string scan, argument walk, bundle walk)
    finish within the fuel the model gives them (`|block| + 2` rounds each): `raw_write`'s length
    computation returns — with a length, or having read behind the block it was handed (`.oob`),
    never not at all. -/
theorem rawLen_terminates (b : Bytes) (h : b.length < 4294967296) : rawLen b ≠ .hang :=
  rawLen_ne_hang b (Or.inl h)

/-- **rawLen_bundle_terminates** — for a block that starts with `#bundle\0` there is no size
    hypothesis at all: whatever the element sizes are, the bundle walk
    moves strictly forward inside the block and stops. -/
theorem rawLen_bundle_terminates (b : Bytes) (h : b.take 8 = bundleMagic) : rawLen b ≠ .hang :=
  rawLen_ne_hang b (Or.inr h)

/-- the length `rtosc_message_length(bundle, -1)` reports is 0 or a position inside the block,
    behind the time tag -/
theorem rawLen_bundle_inside (b : Bytes) (h : b.take 8 = bundleMagic) (n : Nat)
    (hn : rawLen b = .ok n) : n = 0 ∨ (16 ≤ n ∧ n < b.length) := by
  unfold rawLen Osc.messageLengthU at hn
  rw [magicU_of_take b h] at hn
  rcases Osc.bundleLoopU_ok_le b _ _ _ hn with h0 | ⟨h1, h2⟩
  · exact Or.inl h0
  · exact Or.inr ⟨h2, h1⟩

/-- **raw_write_returns** — every operation of the sequential ThreadLink with the real length
    functions returns, for *any* payload (message, bundle, arbitrary bytes): the only way not to
    have a successor state is a `raw_write` whose length walk reads behind the block it was
    given (the caller's contract: `raw_write` is handed a complete message). -/
theorem raw_write_returns (s : Seq) (op : Op)
    (hsz : ∀ b, op = .rawWrite b → b.length < 4294967296 ∨ b.take 8 = bundleMagic) :
    (∃ s' o, s.stepOsc op = some (s', o)) ∨ ∃ b, op = .rawWrite b ∧ rawLen b = .oob := by
  cases hs : s.stepOsc op with
  | some r => exact Or.inl ⟨r.1, r.2, rfl⟩
  | none =>
    obtain ⟨b, hb, ho | hh⟩ := stepOsc_none s op hs
    · exact Or.inr ⟨b, hb, ho⟩
    · exact absurd hh (rawLen_ne_hang b (hsz b hb))

/-- "#bundle\0", time tag 0, element size 0xfffffffc, `/a ,`, 4 zero bytes behind the block -/
def k6Bundle : Bytes :=
  [35, 98, 117, 110, 100, 108, 101, 0, 0, 0, 0, 0, 0, 0, 0, 0, 255, 255, 255, 252, 47, 97, 0, 0, 44, 0, 0, 0,
   0, 0, 0, 0]

/-- "#bundle\0", time tag 0, element `/a ,` (size 8), element size 0xfffffff0, `/b ,`, 4 zero
    bytes: 16 → 28 → 28 + 4 + 0xfffffff0 = 2^32 + 16, a walk without the guard is back at 16 -/
def k6Cycle : Bytes :=
  [35, 98, 117, 110, 100, 108, 101, 0, 0, 0, 0, 0, 0, 0, 0, 0, 0, 0, 0, 8, 47, 97, 0, 0, 44, 0, 0, 0,
   255, 255, 255, 240, 47, 98, 0, 0, 44, 0, 0, 0, 0, 0, 0, 0]

def k6History : List Op := [.rawWrite k6Bundle, .hasNext, .read]

/-- **The witnesses of finding C06-K6** (an element size that makes `pos += 4 + advance` a no-op;
    sizes that add up to a multiple of 2^32): `rtosc_message_length(msg, -1)` reports 0, `raw_write`
    copies nothing into the ring (`ring_write` of 0 bytes), the queue stays empty, and the history
    runs to its end.  The same blocks inside a ring view, where `total` is the view's size, are
    rejected with length 0 too. -/
theorem raw_write_wrapping_bundle_dropped :
    rawLen k6Bundle = .ok 0 ∧ rawLen k6Cycle = .ok 0 ∧
    (Seq.runOsc (Seq.init 32 2) k6History).map (·.2) = some [.unit, .bool false, .msg none] ∧
    (Seq.runOsc (Seq.init 32 2) k6History).map (·.1.w) = some 0 ∧
    (Seq.runOsc (Seq.init 48 2) [.rawWrite k6Cycle, .hasNext, .read]).map (·.2)
      = some [.unit, .bool false, .msg none] ∧
    frameOsc k6Bundle = 0 ∧ frameOsc k6Cycle = 0 := by
  decide +kernel

/-! ## non-vacuity: the hypotheses are satisfiable and the conclusions say something -/

/-- a toy framing for the examples: the first byte of a message is its length -/
def toyFrame (v : Bytes) : Nat := min (v.headD 0).toNat v.length

def ToyMsg (m : Bytes) : Prop := m ≠ [] ∧ (m.headD 0).toNat = m.length

theorem toyFraming : Framing toyFrame ToyMsg where
  le := fun v => Nat.min_le_right _ _
  msg := by
    intro m rest ⟨hne, hl⟩
    cases m with
    | nil => exact absurd rfl hne
    | cons a t =>
      simp only [toyFrame, List.cons_append, List.headD_cons, List.length_cons, List.length_append] at hl ⊢
      omega
  ne := fun _ h => h.1

example : OpsOk ToyMsg [.write [3, 1, 2], .hasNext, .readLookahead, .rawWrite [2, 9], .read, .read, .read] := by
  intro op hop
  simp only [List.mem_cons, List.not_mem_nil, or_false] at hop
  rcases hop with rfl | rfl | rfl | rfl | rfl | rfl | rfl <;>
    first | trivial | exact ⟨by decide, by decide⟩

/-- the sequential model on that history: lookahead does not consume, both messages come out -/
example : (Seq.run toyFrame (Seq.init 4 2)
    [.write [3, 1, 2], .hasNext, .readLookahead, .rawWrite [2, 9], .read, .read, .read]).2 =
    [.unit, .bool true, .msg (some [3, 1, 2]), .unit, .msg (some [3, 1, 2]), .msg (some [2, 9]), .msg none] := by
  decide +kernel

example : WOpsOk ToyMsg [.write [3, 1, 2], .rawWrite [2, 9]] := by
  intro op hop
  simp only [List.mem_cons, List.not_mem_nil, or_false] at hop
  rcases hop with rfl | rfl <;> exact ⟨by decide, by decide⟩

open Tid in
/-- a reachable state of the two-thread model (byte-wise memcpy, the reader starts framing
    while the writer copies the second message): both messages are returned, in order -/
example :
    let s := (Conc.run toyFrame
      [writer, writer, writer, writer, writer, reader, writer, reader, writer, reader, reader,
       reader, writer, reader, writer, reader, reader, reader, reader, reader, reader]
      (Conc.init toyFrame 4 2 1 [.write [3, 1, 2], .rawWrite [2, 9]] [.read false, .hasNext false, .read false])).1
    s.returned = [[3, 1, 2], [2, 9]] ∧ s.published = [[3, 1, 2], [2, 9]] := by
  decide +kernel

open Tid in
/-- a schedule (byte-wise memcpy) in which, on the history of `lookState` below, the second
    `read_lookahead` loads the write index before the second message is published and the third one
    after: the three lookahead reads return the first message, nothing, the second message, and
    consume nothing -/
def lookSched : List Tid :=
  List.replicate 5 writer ++ List.replicate 6 reader ++ List.replicate 6 writer ++ List.replicate 40 reader

def lookState : Conc :=
  (Conc.run toyFrame lookSched
    (Conc.init toyFrame 4 2 1 [.write [3, 1, 2], .rawWrite [2, 9]]
      [.read true, .read true, .read true, .hasNext true, .read false, .read true])).1

/-- that state is reachable (so every theorem above applies to it) … -/
example : Conc.Reach toyFrame (Conc.init toyFrame 4 2 1 [.write [3, 1, 2], .rawWrite [2, 9]]
    [.read true, .read true, .read true, .hasNext true, .read false, .read true]) lookState :=
  run_reach _ _ Conc.Reach.refl

/-- … and the conclusions say something about it: a lookahead read that finds nothing, two
    that return messages without consuming, `hasNextLookahead` false at the end of the
    published messages, a `read` that resynchronises the cursor, a lookahead read that
    replays the second message -/
example :
    lookState.rlog = [.read true [3, 1, 2], .read true [], .read true [2, 9], .hasNext true false,
                      .read false [3, 1, 2], .read true [2, 9]] ∧
    lookState.lookahead = 2 ∧ lookState.returned = [[3, 1, 2]] ∧
    lookState.published = [[3, 1, 2], [2, 9]] ∧
    curAt true (lookState.rlog.take 2) = 1 ∧ curAt true (lookState.rlog.take 5) = 1 := by
  decide +kernel

open Tid in
/-- a reachable state in which the reader is about to start a `read_lookahead` while the
    writer is in the middle of a copy (hypotheses of `conc_read_exact`, `l = true`) -/
example :
    let s := (Conc.run toyFrame [writer, writer, writer, writer, writer, reader, reader, reader, reader, reader,
                                 writer, writer]
      (Conc.init toyFrame 4 2 1 [.write [3, 1, 2], .rawWrite [2, 9]] [.read true, .read true])).1
    s.rpc = .idle ∧ s.rops = [.read true] ∧ s.wpc = .copying [2, 9] [2, 9] 1 ∧ s.cursor true = 1 ∧
    s.published = [[3, 1, 2]] := by
  decide +kernel

/-- `/a` with no arguments and `/bc` with one int32 are OSC messages in the sense of `IsOscMsg` -/
example : IsOscMsg [47, 97, 0, 0, 44, 0, 0, 0] := ⟨⟨[47, 97], [], []⟩, by decide, by decide, by decide⟩

example : IsOscMsg [47, 98, 99, 0, 44, 105, 0, 0, 0, 0, 0, 7] :=
  ⟨⟨[47, 98, 99], [105], [.w32 7]⟩, by decide, by decide, by decide⟩

/-- the sequential model with the real length functions: lookahead does not consume, both come out -/
example : (Seq.runOsc (Seq.init 12 2)
    [.write [47, 97, 0, 0, 44, 0, 0, 0], .hasNext, .readLookahead, .rawWrite [47, 98, 99, 0, 44, 105, 0, 0, 0, 0, 0, 7],
     .read, .read, .read]).map (·.2) =
    some [.unit, .bool true, .msg (some [47, 97, 0, 0, 44, 0, 0, 0]), .unit, .msg (some [47, 97, 0, 0, 44, 0, 0, 0]),
          .msg (some [47, 98, 99, 0, 44, 105, 0, 0, 0, 0, 0, 7]), .msg none] := by
  decide +kernel


end Rtosc.Ring
