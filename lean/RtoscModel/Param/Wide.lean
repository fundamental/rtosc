/-
  C14 — the integer parameter callbacks (rParamCb / rParamICb / the element part of
  rArrayICb, include/rtosc/port-sugar.h) for *every* C integer type a field or the macro's
  `var` can have on an LP64 target: besides `char`, `unsigned char`, `short`, `int` (the
  `IntTy` of Param/Num.lean, which the `param` engine executes and compares with the compiled
  macros) also `unsigned short`, `unsigned`, `long`, `unsigned long`.

  This file is a conservative extension: `intCbW` restricted to the four `IntTy` types *is*
  `intCb` (Proofs/ParamWide.lean, `intCbW_eq_intCb`); the `param` engine of the driver runs
  `intCbW` for fields of the wide types and `intCb` otherwise (Driver/ParamEngine.lean).  What
  is new for the wide types:
    * `rLIMIT` compares in `decltype(var+0)`: `int` for the types below `int`, the type itself
      for `unsigned`, `long`, `unsigned long` — the declared bound `atoi(…)` is converted to
      that type first (`CTy.prom`), so a negative bound of an unsigned variable becomes huge;
    * the values handed to the variadic `reply` / `broadcast` are read back as `int32_t`
      (`rtosc_v2args`: `va_arg(ap, int)`): the low 32 bits (`w32`).
  No Mathlib import.
-/
import RtoscModel.Param.Sugar
namespace Rtosc.Param
open Rtosc

/-- C integer types (LP64) -/
inductive CTy
  | i8 | u8 | i16 | u16 | i32 | u32 | i64 | u64
deriving Repr, DecidableEq

def CTy.min : CTy → Int
  | .i8 => -128 | .u8 => 0 | .i16 => -32768 | .u16 => 0 | .i32 => -2147483648 | .u32 => 0
  | .i64 => -9223372036854775808 | .u64 => 0

def CTy.max : CTy → Int
  | .i8 => 127 | .u8 => 255 | .i16 => 32767 | .u16 => 65535 | .i32 => 2147483647 | .u32 => 4294967295
  | .i64 => 9223372036854775807 | .u64 => 18446744073709551615

def CTy.modulus : CTy → Int
  | .i8 => 256 | .u8 => 256 | .i16 => 65536 | .u16 => 65536 | .i32 => 4294967296 | .u32 => 4294967296
  | .i64 => 18446744073709551616 | .u64 => 18446744073709551616

/-- conversion of an integer value to the type (modular) -/
def CTy.wrap (t : CTy) (v : Int) : Int := (v - t.min) % t.modulus + t.min

def CTy.InRange (t : CTy) (v : Int) : Prop := t.min ≤ v ∧ v ≤ t.max

instance (t : CTy) (v : Int) : Decidable (t.InRange v) := by unfold CTy.InRange; infer_instance

/-- `decltype(var+0)`: the type `var` is promoted to in a comparison -/
def CTy.prom : CTy → CTy
  | .i8 | .u8 | .i16 | .u16 | .i32 => .i32
  | .u32 => .u32
  | .i64 => .i64
  | .u64 => .u64

def CTy.ofIntTy : IntTy → CTy
  | .i8 => .i8 | .u8 => .u8 | .i16 => .i16 | .i32 => .i32

/-- an integer handed to the variadic `reply` / `broadcast` for an `i` / `c` tag and read
    back with `va_arg(ap, int)`: its low 32 bits -/
def w32 (v : Int) : Int := IntTy.i32.wrap v

/-- `rLIMIT(var, atoi)` for a variable of type `ty`: the bound is converted to
    `decltype(var+0)` for the comparison and to `decltype(var)` for the assignment -/
def limitIntW (ty : CTy) (mn mx : Option Int) (v : Int) : Int :=
  let v1 := match mn with
    | some m => if v < ty.prom.wrap m then ty.wrap m else v
    | none => v
  match mx with
  | some M => if ty.prom.wrap M < v1 then ty.wrap M else v1
  | none => v1

/-- `rParamCb` / `rParamICb` / the element part of `rArrayICb` for a `var` of type `varTy`
    and a field of type `storeTy` -/
def intCbW (varTy storeTy : CTy) (tag : Int → Arg) (pm : Meta.Ptr) (loc : Bytes)
    (old : Int) (args : List Arg) : Except Err (Int × List Event) :=
  match args with
  | [] => .ok (old, [reply loc [tag (w32 old)]])
  | a :: _ => do
    let raw ← argI a
    let var0 := varTy.wrap raw                                   -- T var = rtosc_argument(msg,0).i
    let mn ← bound atoi pm kMin
    let mx ← bound atoi pm kMax
    let var := limitIntW varTy mn mx var0                         -- rLIMIT(var, atoi)
    let undo := undoEvent intOps (varTy.wrap old) var loc (tag (w32 (varTy.wrap old))) (tag (w32 var))
    let new := storeTy.wrap var                                   -- obj->name = var
    pure (new, undo ++ [broadcast loc [tag (w32 new)]])

end Rtosc.Param
