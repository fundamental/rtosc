/-
  C14 — a macro-generated parameter port as a whole: the `Port` entry the macro writes
  (name pattern, metadata block, callback kind), the part of `Ports::dispatch` that the
  callbacks depend on (path and argument-type match of src/dispatch.c restricted to the
  patterns the macros generate: literal name, optional `#N`, `:tags` alternatives; the
  location string handed to the callback), and the callback itself.
-/
import RtoscModel.Param.Sugar
namespace Rtosc.Param
open Rtosc

/-- which macro generated the port -/
inductive Kind
  | param | paramF | paramI | option | toggle | string
  | arrayF | arrayT | arrayI | arrayOption | arrayTMember
deriving Repr, DecidableEq

/-- the value(s) of the field behind a port -/
inductive Field
  | ints (xs : List Int)
  | flts (xs : List UInt32)
  | bools (xs : List Bool)
  | str (b : Bytes)
deriving Repr, DecidableEq

structure Port where
  kind : Kind
  /-- C type of the field (elements), for the integer-backed kinds -/
  ty : IntTy
  /-- declared array length / string capacity -/
  len : Nat
  /-- `Port::name`, e.g. `arr#4::f` -/
  pattern : Bytes
  /-- `Port::metadata` -/
  block : Bytes
deriving Repr

/-! ### src/dispatch.c, restricted -/

def dropDigits : Bytes → Bytes
  | [] => []
  | c :: r => if isDigit c then dropDigits r else c :: r

/-- `rtosc_match_path` for patterns made of literal characters and `#N`; returns the
    rest of the pattern (the argument specification) on success.  Patterns with `{`, `*`
    or `/` are outside the model. -/
def matchPath : Nat → Bytes → Bytes → Except Err (Option Bytes)
  | 0, _, _ => .error .unsup
  | fuel + 1, pat, msg =>
    match pat, msg with
    | 58 :: _, [] => .ok (some pat)                                  -- ':' and end of path
    | 58 :: _, _ :: _ => .ok none                                    -- ':' but the path goes on
    | 123 :: _, _ => .error .unsup
    | 42 :: _, _ => .error .unsup
    | 47 :: _, _ => .error .unsup
    | 35 :: p, _ =>                                                  -- '#': rtosc_match_number
      (match p, msg with
       | pc :: _, mc :: _ =>
         if isDigit pc && isDigit mc then
           match atoi p, atoi msg with
           | some mx, some v =>
             if v < mx then matchPath fuel (dropDigits p) (dropDigits msg) else .ok none
           | _, _ => .error .unsup
         else .ok none
       | _, _ => .ok none)
    | [], [] => .ok (some [])                                        -- both at their NUL
    | pc :: p, mc :: m => if pc = mc then matchPath fuel p m else .ok none
    | _, _ => .ok none

/-- `rtosc_match_args` -/
def matchArgs : Nat → Bytes → Bytes → Bool
  | 0, _, _ => false
  | fuel + 1, pat, tags =>
    match pat with
    | 58 :: p =>
      let am0 : Bool := !p.isEmpty || tags.isEmpty                   -- *pattern || *pattern == *arg_str
      let alt := p.takeWhile (· ≠ 58)
      let rest := p.dropWhile (· ≠ 58)
      -- while(*pattern && *pattern != ':') { arg_match = arg_match && (*pattern==*arg_str++); ++pattern; }
      let am := am0 && (alt == tags.take alt.length)
      let tagsRest := tags.drop alt.length
      match rest with
      | 58 :: _ => if am && tagsRest.isEmpty then true else matchArgs fuel rest tags
      | _ => am
    | _ => true

/-- `rtosc_match(port.name, m, …)` -/
def portMatches (pattern path tags : Bytes) : Except Err Bool :=
  match matchPath (pattern.length + path.length + 2) pattern path with
  | .error e => .error e
  | .ok none => .ok false
  | .ok (some spec) => .ok (matchArgs (spec.length + 2) spec tags)

/-- the literal name in front of `#`/`:` -/
def patternName (pattern : Bytes) : Bytes := pattern.takeWhile (fun c => c ≠ 35 ∧ c ≠ 58)

/-! ### the callback of a port -/

/-- runs the port's callback on its field.  `loc` is `data.loc` (the full address),
    `path` the message path below the object (what the callback receives as `msg`). -/
def callback (p : Port) (loc path : Bytes) (fld : Field) (args : List Arg) : Except Err (Field × List Event) :=
  match Meta.container p.block with
  | none => .error .oob
  | some pm =>
    match p.kind, fld with
    | .param, .ints [x] => (rParamCb p.ty pm loc x args).map fun (v, ev) => (.ints [v], ev)
    | .paramI, .ints [x] => (rParamICb p.ty pm loc x args).map fun (v, ev) => (.ints [v], ev)
    | .paramF, .flts [x] => (rParamFCb pm loc x args).map fun (v, ev) => (.flts [v], ev)
    | .option, .ints [x] => (rOptionCb p.ty pm loc x args).map fun (v, ev) => (.ints [v], ev)
    | .toggle, .bools [x] => (rToggleCb loc x args).map fun (v, ev) => (.bools [v], ev)
    | .string, .str b => (rStringCb p.len loc b args).map fun (v, ev) => (.str v, ev)
    | .arrayF, .flts xs => (rArrayFCb pm loc p.pattern path xs args).map fun (v, ev) => (.flts v, ev)
    | .arrayT, .bools xs => (rArrayTCb loc p.pattern path xs args).map fun (v, ev) => (.bools v, ev)
    | .arrayTMember, .bools xs => (rArrayTCbMember loc p.pattern path xs args).map fun (v, ev) => (.bools v, ev)
    | .arrayI, .ints xs => (rArrayICb p.ty pm loc p.pattern path xs args).map fun (v, ev) => (.ints v, ev)
    | .arrayOption, .ints xs => (rArrayOptionCb p.ty pm loc p.pattern path xs args).map fun (v, ev) => (.ints v, ev)
    | _, _ => .error .unsup

/-- One message sent to the port table: `prefix` is the address of the object
    (`/` or `/sub/`), `path` the rest of the address.  Result: `d.matches`, the field and
    the logged messages (`none`: the port does not match, nothing happens). -/
def dispatch (p : Port) (pfx path : Bytes) (fld : Field) (args : List Arg) :
    Except Err (Option (Field × List Event)) :=
  match portMatches p.pattern path (args.map Arg.tag) with
  | .error e => .error e
  | .ok false => .ok none
  | .ok true =>
    match callback p (pfx ++ path) path fld args with
    | .error e => .error e
    | .ok r => .ok (some r)

end Rtosc.Param
