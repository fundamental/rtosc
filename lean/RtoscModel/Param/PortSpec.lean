/-
  C14 — the words of the statements of Props/C14.lean, and of the obligations of that property
  that stand in Proofs/Param*.lean, which are not part of the model: port names made of literal
  characters, the pattern an array macro writes, what ends a run of digits, inclusion of C
  integer types, the structured names (C05 `Pat`) of the macro-generated ports, and the port
  with a given tree path in C04's tables.  Definitions only.
-/
import RtoscModel.Param.Spec
import RtoscModel.Param.Wide
import RtoscModel.Match.Spec
import RtoscModel.Ports.Spec
namespace Rtosc.Param
open Rtosc

/-- a port name made of literal characters only -/
def PlainName (name : Bytes) : Prop := ∀ c ∈ name, c ≠ 58 ∧ c ≠ 123 ∧ c ≠ 42 ∧ c ≠ 47 ∧ c ≠ 35

/-- the pattern of an array port macro: `name#N` followed by the type specification -/
def arrPattern (name nd spec : Bytes) : Bytes := name ++ 35 :: (nd ++ 58 :: spec)

def Stops (tail : Bytes) : Prop := tail = [] ∨ ∃ c r, tail = c :: r ∧ isDigit c = false

def IntTy.Sub (a b : IntTy) : Prop := b.min ≤ a.min ∧ a.max ≤ b.max

def CTy.Sub (a b : CTy) : Prop := b.min ≤ a.min ∧ a.max ≤ b.max

end Rtosc.Param

namespace Rtosc.Param
open Rtosc Rtosc.Match

/-- the structured name (C05 `Pat`) of a scalar macro port: `name:t1:t2…` -/
def scalarPat (name : Bytes) (ts : List Bytes) : Pat := ⟨[.lit name], false, some ts⟩
/-- the structured name of an array macro port: `name#N:t1:t2…` -/
def arrayPat (name nd : Bytes) (ts : List Bytes) : Pat := ⟨[.lit name, .enum nd], false, some ts⟩

end Rtosc.Param

namespace Rtosc.Ports
open Rtosc Rtosc.Match

/-- the port with tree path `q` in a table whose first port has index `i`: its structured
    name, and whether it is a port without sub-table -/
def PTable.find : PTable → Nat → List Nat → Option (Pat × Bool)
  | .nil, _, _ => none
  | .leaf p r, i, q =>
    match q with
    | [] => none
    | j :: js => if j = i then (if js.isEmpty then some (p, true) else none) else r.find (i + 1) (j :: js)
  | .node p c _ r, i, q =>
    match q with
    | [] => none
    | j :: js => if j = i then (if js.isEmpty then some (p, false) else c.find 0 js) else r.find (i + 1) (j :: js)

end Rtosc.Ports
