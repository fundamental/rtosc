/-
  C18 — model of `Ports::collapsePath` (src/cpp/ports.cpp) with its three helpers
  `parent_path_p`, `read_path`, `move_path`.

  The memory block the argument points to is a `Bytes` (it contains the terminating
  NUL and possibly more bytes behind it).  The two cursors are kept as *counts*:
  `r = read_pos - p + 1` and `w = write_pos - p + 1`, so that the C condition
  `read_pos >= p` is `0 < r`, `r < start` is `r = 0`, and the returned pointer
  `write_pos + 1` is the offset `w`.  `consuming` is the third piece of state.
  Every byte access goes through `buf[i]?`; an access outside the block makes the
  whole function return `none` (out of bounds) — it is never defaulted.
-/
import RtoscModel.Basic
namespace Rtosc.Path
open Rtosc

def SLASH : UInt8 := 47
def DOT : UInt8 := 46
def COLON : UInt8 := 58

/-- `strlen`: index of the first NUL (`none`: no terminator inside the block). -/
def strlen : Bytes → Option Nat
  | [] => none
  | b :: r => if b = 0 then some 0 else (strlen r).map (· + 1)

/-- `parent_path_p(read, start)` with `read = start + r - 1`:
    `if(read-start<2) return false; return read[0]=='.' && read[-1]=='.' && read[-2]=='/';` -/
def parentPathP (buf : Bytes) (r : Nat) : Option Bool :=
  if r < 3 then some false
  else match buf[r - 1]? with
    | none => none
    | some a => if a ≠ DOT then some false else
      match buf[r - 2]? with
      | none => none
      | some b => if b ≠ DOT then some false else
        match buf[r - 3]? with
        | none => none
        | some c => some (c = SLASH)

/-- `read_path(r, start)`:
    `while(1){ if(r<start) break; bool doBreak = *r=='/'; r--; if(doBreak) break; }` -/
def readPath (buf : Bytes) : Nat → Option Nat
  | 0 => some 0
  | r + 1 =>
    match buf[r]? with
    | none => none
    | some c => if c = SLASH then some r else readPath buf r

/-- `move_path(r, w, start)`:
    `while(1){ if(r<start) break; bool doBreak = *r=='/'; *w-- = *r--; if(doBreak) break; }`
    Returns the new buffer and the two cursors. -/
def movePath (buf : Bytes) : Nat → Nat → Option (Bytes × Nat × Nat)
  | 0, w => some (buf, 0, w)
  | r + 1, w =>
    match buf[r]? with
    | none => none
    | some c =>
      match w with
      | 0 => none                                   -- `*w` in front of the block
      | w' + 1 =>
        if w' < buf.length then
          let buf' := buf.set w' c
          if c = SLASH then some (buf', r, w') else movePath buf' r w'
        else none

/-- The main loop `while(read_pos >= p) { … }`.  Every iteration lowers `r` by at
    least one, so `fuel = r` suffices (hypothesis `… ≤ fuel` of `loop_spec`, Proofs/PathCollapse.lean). -/
def collapseLoop : Nat → Bytes → Nat → Nat → Nat → Option (Bytes × Nat)
  | 0, buf, r, w, _ => if r = 0 then some (buf, w) else none
  | fuel + 1, buf, r, w, consuming =>
    if r = 0 then some (buf, w)                     -- return write_pos+1
    else
      match parentPathP buf r with
      | none => none
      | some true =>
        match readPath buf r with
        | none => none
        | some r' => collapseLoop fuel buf r' w (consuming + 1)
      | some false =>
        if consuming ≠ 0 then
          match readPath buf r with
          | none => none
          | some r' => collapseLoop fuel buf r' w (consuming - 1)
        else
          match movePath buf r w with
          | none => none
          | some (buf', r', w') => collapseLoop fuel buf' r' w' consuming

/-- `Ports::collapsePath(p)`: the block after the call and the offset of the returned
    pointer inside it. -/
def collapse (mem : Bytes) : Option (Bytes × Nat) :=
  match strlen mem with
  | none => none
  | some n => collapseLoop n mem n n 0

/-- The C string the returned pointer designates. -/
def collapseStr (mem : Bytes) : Option (Nat × Bytes) :=
  match collapse mem with
  | none => none
  | some (buf, off) => (cstr (buf.drop off)).map (fun s => (off, s))

/-! ### Specification: stack-based cancellation of `..` -/

def DOTDOT : Bytes := [DOT, DOT]

/-- One step of the left-to-right pass; the stack has its top first. -/
def stackStep (st : List Bytes) (c : Bytes) : List Bytes :=
  if c = DOTDOT then st.drop 1 else c :: st

/-- Components that survive, in their original order. -/
def cancel (comps : List Bytes) : List Bytes :=
  (comps.foldl stackStep []).reverse

/-- An absolute path written out: every component preceded by `/`. -/
def render (comps : List Bytes) : Bytes :=
  (comps.map (fun c => SLASH :: c)).flatten

/-- Components are arbitrary NUL-free, slash-free byte strings (possibly empty: a
    trailing `/` or a doubled `//` gives an empty component, which is an ordinary one). -/
def CompWF (c : Bytes) : Prop := ∀ x ∈ c, x ≠ 0 ∧ x ≠ SLASH

end Rtosc.Path
