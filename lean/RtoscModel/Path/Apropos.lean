/-
  C18 — model of `Ports::operator[]` and `Ports::apropos` (src/cpp/ports.cpp:793-826)
  over a port tree, together with the fragment of `rtosc_match_path`
  (src/dispatch.c:72-111) that applies to literal and enumerated (`#N`) port names.

  A C string is modelled by its contents (the bytes in front of the terminator);
  reading the byte under a pointer whose list is exhausted reads the terminator
  itself (`hd [] = 0`), nothing behind it is ever read.

  A port table (`rtosc::Ports`) is a `List PortT`; a `const Port*` result is the
  *index path* of the port (row in the root table, row in that port's sub-table, …).

  `rtosc_match_path` interprets `{`, `*` and `#` in the pattern.  `#N` (enumerated
  ports, `rtosc_match_number`) is modelled; `{` and `*` belong to C05: here they give the
  explicit result `unsupported` (never a guess), and the C18 generators do not use them.
-/
import RtoscModel.Path.Collapse
namespace Rtosc.Path
open Rtosc

/-- `struct Port` restricted to what the path utilities look at: `name`, `metadata`
    (`none` = NULL pointer, otherwise the exact memory block), `ports` (NULL or the
    sub-table). -/
inductive PortT where
  | mk (name : Bytes) (metadata : Option Bytes) (hasPorts : Bool) (children : List PortT)
deriving Repr

namespace PortT
def name : PortT → Bytes | mk n _ _ _ => n
def metadata : PortT → Option Bytes | mk _ m _ _ => m
def hasPorts : PortT → Bool | mk _ _ h _ => h
def children : PortT → List PortT | mk _ _ _ c => c
end PortT

/-- byte under a C-string pointer (`0` = its terminator) -/
def hd : Bytes → UInt8
  | [] => 0
  | c :: _ => c

inductive MatchRes where
  | null                                   -- returned NULL
  | unsupported                            -- pattern uses `{` or `*` (C05), or a number ≥ 2^31
  | ok (pat : Bytes) (pathEnd : Bytes)     -- returned `pattern`, `*path_end`
deriving Repr, DecidableEq

/-- `isdigit` (for bytes below 128; port names and addresses use 1..126) -/
def isDigit (c : UInt8) : Bool := 48 ≤ c ∧ c ≤ 57

/-- `atoi` on a string that starts with a digit: value of the leading run of digits -/
def atoiAux : Nat → Bytes → Nat
  | acc, [] => acc
  | acc, c :: r => if isDigit c then atoiAux (acc * 10 + (c.toNat - 48)) r else acc

def atoi (s : Bytes) : Nat := atoiAux 0 s

/-- `rtosc_match_path(pattern, msg, &path_end)` for patterns built from literal characters and
    `#N` (src/dispatch.c:72-111 with `rtosc_match_number`, :13-29).  `skip = true`: the
    pattern cursor stands inside the digits behind a `#` whose number has been compared
    already (`while(isdigit(**pattern))++*pattern;`); `msg` is already behind its digits.
    A number of 2^31 or more overflows `atoi` (undefined): `unsupported`, as for `{` and `*`
    (C05's subject). -/
def matchPathM : Bool → Bytes → Bytes → MatchRes
  | _, [], msg =>
    -- *pattern == 0: only the verbatim branch can apply
    if hd msg = 0 then .ok [] msg else .null
  | skip, pc :: pr, msg =>
    if skip = true ∧ isDigit pc = true then matchPathM true pr msg
    else if pc = COLON ∧ hd msg = 0 then .ok (pc :: pr) msg
    else if pc = COLON then .null          -- the pattern's path ended, the message's did not
    else if pc = 123 then .unsupported              -- '{'
    else if pc = 42 then .unsupported               -- '*'
    else if pc = SLASH ∧ hd msg = SLASH then
      let mr := msg.drop 1
      if hd pr = 0 ∨ hd pr = COLON then .ok pr mr else matchPathM false pr mr
    else if pc = 35 then                            -- '#': rtosc_match_number
      if isDigit (hd pr) = true ∧ isDigit (hd msg) = true then
        if atoi pr < 2147483648 ∧ atoi msg < 2147483648 then
          if atoi msg < atoi pr then matchPathM true pr (msg.dropWhile isDigit) else .null
        else .unsupported
      else .null
    else if pc = hd msg then
      if hd msg ≠ 0 then matchPathM false pr (msg.drop 1) else .ok (pc :: pr) msg
    else .null

/-- `rtosc_match_path(pattern, msg, &path_end)` -/
abbrev matchPath (pattern msg : Bytes) : MatchRes := matchPathM false pattern msg

/-- result of a lookup -/
inductive Look where
  | null                          -- NULL
  | port (ix : List Nat)          -- pointer to the port with this index path
  | oob                           -- dereferences NULL / reads outside a string
  | unsupported                   -- a name uses pattern characters (C05)
deriving Repr, DecidableEq

def Look.under (i : Nat) : Look → Look
  | .port ix => .port (i :: ix)
  | r => r

/-- `Ports::operator[](const char *name)`: first row whose name is `name` followed by
    `:` or the terminator. -/
def indexLoop (key : Bytes) : List PortT → Nat → Option Nat
  | [], _ => none
  | p :: rest, i =>
    -- while(*_needle && *_needle==*_haystack)_needle++,_haystack++;
    let rec scan : Bytes → Bytes → Bool
      | [], h => hd h = COLON ∨ hd h = 0
      | n :: nr, h => if n ≠ 0 ∧ n = hd h then scan nr (h.drop 1) else false
    if scan key p.name then some i else indexLoop key rest (i + 1)

def index (ps : List PortT) (key : Bytes) : Option Nat := indexLoop key ps 0

/-- second loop of `apropos`:
    `if(*path && (strstr(port.name, path)==port.name || rtosc_match_path(port.name, path, NULL))) return &port;` -/
def aproposLoop2 (path : Bytes) : List PortT → Nat → Look
  | [], _ => .null
  | p :: rest, i =>
    if hd path = 0 then aproposLoop2 path rest (i + 1)
    else if path.isPrefixOf p.name then .port [i]
    else match matchPath p.name path with
      | .ok _ _ => .port [i]
      | .unsupported => .unsupported
      | .null => aproposLoop2 path rest (i + 1)

/-- `if(path && path[0] == '/') ++path;` -/
def stripSlash (path : Bytes) : Bytes :=
  if hd path = SLASH then path.drop 1 else path

mutual
/-- first loop of `apropos`; `none` = fell through to the second loop -/
def aproposLoop1 (path : Bytes) : List PortT → Nat → Option Look
  | [], _ => none
  | p :: rest, i =>
    if p.name.contains SLASH then
      match matchPath p.name path with
      | .unsupported => some .unsupported
      | .null => aproposLoop1 path rest (i + 1)
      | .ok _ pathEnd =>
        -- (port.ports && strchr(path,'/')[1]) ? port.ports->apropos(path_end) : &port
        if p.hasPorts then
          match path.dropWhile (· ≠ SLASH) with
          | [] => some .oob                          -- strchr(path,'/') == NULL
          | _ :: after =>
            if hd after ≠ 0 then some ((aproposSub p pathEnd).under i)
            else some (.port [i])
        else some (.port [i])
    else aproposLoop1 path rest (i + 1)
/-- `port.ports->apropos(path)` -/
def aproposSub : PortT → Bytes → Look
  | .mk _ _ _ cs, path0 =>
    let path := stripSlash path0
    match aproposLoop1 path cs 0 with
    | some r => r
    | none => aproposLoop2 path cs 0
end

/-- `Ports::apropos(path)` on the table `ps` -/
def apropos (ps : List PortT) (path0 : Bytes) : Look :=
  let path := stripSlash path0
  match aproposLoop1 path ps 0 with
  | some r => r
  | none => aproposLoop2 path ps 0

/-- row `ix` of the tree -/
def portAt : List PortT → List Nat → Option PortT
  | _, [] => none
  | ps, [i] => ps[i]?
  | ps, i :: j :: ix =>
    match ps[i]? with
    | none => none
    | some p => portAt p.children (j :: ix)

/-! ### Specification side: literal names and the addresses a walk reports -/

/-- the part of a port name in front of the first `:` -/
def lit (name : Bytes) : Bytes := name.takeWhile (· ≠ COLON)

/-- prefix contributed by a port that has a sub-table: its name up to `:`, with a `/`
    appended when it does not end in one (`walk_ports_recurse0`) -/
def subPrefix (n : Bytes) : Bytes :=
  if (lit n).getLast? = some SLASH then lit n else lit n ++ [SLASH]

mutual
/-- `walk_ports` on a tree of literal names (no bundles, no runtime object): a port
    with a sub-table contributes `subPrefix` to everything below it; every other port is
    reported with its name up to `:`.  Addresses are relative to the table (the walker
    itself prefixes the root's `/`); each comes with the index path of the reported
    port. -/
def walkL : List PortT → Nat → List (Bytes × List Nat)
  | [], _ => []
  | p :: rest, i => (walkP p).map (fun (a, ix) => (a, i :: ix)) ++ walkL rest (i + 1)
def walkP : PortT → List (Bytes × List Nat)
  | .mk n _ h cs =>
    if h then (walkL cs 0).map (fun (a, ix) => (subPrefix n ++ a, ix)) else [(lit n, [])]
end

def walk (ps : List PortT) : List (Bytes × List Nat) := walkL ps 0

/-- the address under which the walk reports the port with index path `ix`
    (`none`: not a reported port) -/
def addrOf : List PortT → List Nat → Option Bytes
  | _, [] => none
  | ps, [i] =>
    match ps[i]? with
    | none => none
    | some p => if p.hasPorts then none else some (lit p.name)
  | ps, i :: j :: ix =>
    match ps[i]? with
    | none => none
    | some p =>
      if p.hasPorts then (addrOf p.children (j :: ix)).map (subPrefix p.name ++ ·) else none

/-- a literal name: no NUL and none of the pattern characters `{ * #` in front of `:` -/
def LitName (n : Bytes) : Prop := ∀ c ∈ lit n, c ≠ 0 ∧ c ≠ 123 ∧ c ≠ 42 ∧ c ≠ 35

/-- row `i` of the table `ps` is `p`, all names of the table are literal, `p`'s own
    name is non-empty and does not begin with `/`, and no other row's name is a prefix
    of `p`'s or prefixed by it (names compared up to `:`) -/
def Level (ps : List PortT) (i : Nat) (p : PortT) : Prop :=
  ps[i]? = some p ∧ (∀ q ∈ ps, LitName q.name) ∧ lit p.name ≠ [] ∧ hd (lit p.name) ≠ SLASH ∧
  ∀ j q, ps[j]? = some q → j ≠ i → ¬ lit q.name <+: lit p.name ∧ ¬ lit p.name <+: lit q.name

/-- the hypothesis of the lookup theorem along one index path: `Level` at every table
    on the way, and every port that is descended into has a name ending in `/` -/
def Unamb : List PortT → List Nat → Prop
  | _, [] => False
  | ps, [i] => ∃ p, Level ps i p
  | ps, i :: j :: ix =>
    ∃ p, Level ps i p ∧ (lit p.name).getLast? = some SLASH ∧ Unamb p.children (j :: ix)

/-- one table: all names literal, non-empty, not beginning with `/`; a port with a
    sub-table has a name ending in `/`; no row's name is a prefix of another row's
    (names compared up to `:`; in particular no duplicates) -/
def TableOK (ps : List PortT) : Prop :=
  (∀ q ∈ ps, LitName q.name ∧ lit q.name ≠ [] ∧ hd (lit q.name) ≠ SLASH ∧
     (q.hasPorts = true → (lit q.name).getLast? = some SLASH)) ∧
  ∀ (i j : Nat) (p q : PortT), ps[i]? = some p → ps[j]? = some q → i ≠ j → ¬ lit p.name <+: lit q.name

mutual
def SubTablesOK : List PortT → Prop
  | [] => True
  | p :: r => PortOK p ∧ SubTablesOK r
def PortOK : PortT → Prop
  | .mk _ _ _ cs => TableOK cs ∧ SubTablesOK cs
end

/-- "no sibling's name is a prefix of another's", for every table of the tree -/
def TreeOK (ps : List PortT) : Prop := TableOK ps ∧ SubTablesOK ps

end Rtosc.Path
