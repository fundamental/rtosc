/-
  C18 — the hypothesis of the statements of Props/C18Walk.lean on a tree of C09's structured names
  (RtoscModel/Walk/Spec.lean): at most one `#` per name.  A file of its own because it speaks of C09's
  tree type, which Props/C18.lean and its vocabulary (RtoscModel/Path/C18Spec.lean) do not import.
  Definitions only.
-/
import RtoscModel.Walk.Spec
namespace Rtosc.Path
open Rtosc

mutual
/-- every name of the tree has at most one `#` (the names `walkE`/`expandName` are written for) -/
def singleHashTree : Walk.STree → Bool
  | .leaf w _ => decide (w.parts.length ≤ 1)
  | .sub w _ kids => decide (w.parts.length ≤ 1) && singleHashList kids
def singleHashList : List Walk.STree → Bool
  | [] => true
  | t :: r => singleHashTree t && singleHashList r
end

end Rtosc.Path
