/-
  C18 — the vocabulary of the statements of Props/C18.lean that is not part of the models
  (RtoscModel/Path/{Apropos,Enum,EnumNum,Search}.lean): the shape of one row name in
  `apropos_of_walked_enum_partial` (`PlainChar`, `TailOK`, `Digits`), the address of a directory and
  the hypothesis along its index path in `search_location_dir` (`dirAddrOf`, `UnambDir`), the inputs
  a child search is specified for (`SearchHyp`, `Fits`, `NoNul`), and the sorter of the evaluated
  example (`insertionSorter`).  Definitions only.
-/
import RtoscModel.Path.Search
namespace Rtosc.Path
open Rtosc

/-- the characters `rtosc_match_path` compares verbatim -/
def PlainChar (c : UInt8) : Prop := c ≠ 0 ∧ c ≠ 123 ∧ c ≠ 42 ∧ c ≠ 35 ∧ c ≠ COLON

/-- what follows the literal part of a name: nothing or `:…` -/
def TailOK (t : Bytes) : Prop := t = [] ∨ hd t = COLON

/-- a non-empty run of decimal digits -/
def Digits (d : Bytes) : Prop := d ≠ [] ∧ ∀ c ∈ d, isDigit c = true

/-- the address of the directory with index path `ix` (relative to the table) -/
def dirAddrOf : List PortT → List Nat → Option Bytes
  | _, [] => none
  | ps, [i] =>
    match ps[i]? with
    | none => none
    | some p => if p.hasPorts then some (lit p.name) else none
  | ps, i :: j :: ix =>
    match ps[i]? with
    | none => none
    | some p => if p.hasPorts then (dirAddrOf p.children (j :: ix)).map (lit p.name ++ ·) else none

/-- `Level` at every table on the way; every directory name ends in `/`, the last one has
    no other `/` -/
def UnambDir : List PortT → List Nat → Prop
  | _, [] => False
  | ps, [i] => ∃ p, Level ps i p ∧ ∃ l', lit p.name = l' ++ [SLASH] ∧ SLASH ∉ l'
  | ps, i :: j :: ix =>
    ∃ p, Level ps i p ∧ (lit p.name).getLast? = some SLASH ∧ UnambDir p.children (j :: ix)

/-- the documented capacity requirement: room for every found pair (and the query
    strings) in front of the terminator of `types` -/
def Fits (query : Bool) (n maxTypes maxArgs : Nat) : Prop :=
  maxTypes ≠ 0 ∧ (if query then 2 else 0) + 2 * n ≤ min (maxTypes - 1) maxArgs

def NoNul (v : Bytes) : Prop := ∀ c ∈ v, c ≠ 0

/-- the inputs a child search is specified for: the location resolves to the table
    `rows`, the metadata of its rows is well-formed, and the caller's arrays are as large
    as documented -/
structure SearchHyp (root : List PortT) (str : Bytes) (needle : Option Bytes) (maxTypes maxArgs : Nat)
    (query : Bool) (rows : List PortT) : Prop where
  resolves : searchRows root str = .ok rows
  metaOK : ∀ p ∈ rows, MetaOK p
  fits : Fits query (childrenSpec rows (needle.getD [])).length maxTypes maxArgs

/-- a structurally recursive sorter, used to evaluate the model on concrete inputs in the
    non-vacuity examples (`List.mergeSort` does not reduce under `decide`) -/
def insertBy {α : Type} (lt : α → α → Bool) (a : α) : List α → List α
  | [] => [a]
  | b :: r => if lt a b then a :: b :: r else b :: insertBy lt a r

def insertionSorter : Sorter := ⟨fun lt l => l.foldr (insertBy lt) []⟩

end Rtosc.Path
