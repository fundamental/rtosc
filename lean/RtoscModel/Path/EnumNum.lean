/-
  C18 — specification side, continued: the hypothesis the lookup of a walked address needs
  in trees with enumerated rows `pre#N post`, beyond "no expanded name of one row is a prefix
  of an expanded name of another" (`TableOKE`, RtoscModel/Path/Enum.lean).

  `rtosc_match_number` reads the index in an address with `atoi`: it accepts the index written
  with any number of leading zeros (`a007` is element 7 of `a#10`), and a number of 2^31 or more
  overflows (undefined; the model answers `unsupported`).  A port-tree walk prints an index
  without leading zeros, but a *literal* sibling name may contain such a digit string
  (`a00x` next to `a#5x`), and then the enumerated row answers for the sibling's address.
  `TableNumOK` excludes exactly that, reading "a sibling's name" as "a name the sibling's
  pattern accepts" (`AcceptsName`); it also asks for `N ≥ 1` (a row `x#0` stands for no port at
  all, yet `strstr(port.name, path) == port.name` finds it for the address `x`).
  The definitions are hypotheses of theorems; only the finite checks at the end (`canonListB` and
  the `Decidable` instances) are evaluated, by `decide` in Props/C18.lean.
-/
import RtoscModel.Path.Enum
namespace Rtosc.Path
open Rtosc

/-- the names a row (its name up to `:`) answers for, as `rtosc_match_path` reads them: a
    literal name stands for itself; `pre#N post` stands for `pre D post` for every non-empty
    digit string `D` whose `atoi` value is below `N` (leading zeros included). -/
def AcceptsName (l s : Bytes) : Prop :=
  match splitHash l with
  | none => s = l
  | some (pre, d, post) =>
    ∃ D : Bytes, (D ≠ [] ∧ ∀ c ∈ D, isDigit c = true) ∧ atoi D < atoi d ∧ s = pre ++ (D ++ post)

/-- the digits that follow the part `pre` of an enumerated row `pre#N post` in the name `a`
    (what `atoi` reads when that row's pattern is tried on `a`) stay below 2^31 -/
def IndexFits (l a : Bytes) : Prop :=
  match splitHash l with
  | none => True
  | some (pre, _, _) => ∀ r : Bytes, a = pre ++ r → atoi r < 2147483648

/-- an enumerated name stands for at least one port: `N ≥ 1` (nothing is asked of a literal name) -/
def EnumPos (l : Bytes) : Prop :=
  match splitHash l with
  | none => True
  | some (_, d, _) => 0 < atoi d

instance (l : Bytes) : Decidable (EnumPos l) :=
  match h : splitHash l with
  | none => isTrue (by unfold EnumPos; rw [h]; trivial)
  | some (_, d, _) =>
    if h2 : 0 < atoi d then isTrue (by unfold EnumPos; rw [h]; exact h2)
    else isFalse (by unfold EnumPos; rw [h]; exact h2)

instance (n : Bytes) : Decidable (EnumName n) :=
  if h1 : ∀ c ∈ lit n, c ≠ 0 ∧ c ≠ 123 ∧ c ≠ 42 then
    match h : splitHash (lit n) with
    | none => isTrue (by unfold EnumName; rw [h]; exact ⟨h1, trivial⟩)
    | some (_, d, post) =>
      if h2 : d ≠ [] ∧ atoi d < 2147483648 ∧ 35 ∉ post then isTrue (by unfold EnumName; rw [h]; exact ⟨h1, h2⟩)
      else isFalse (by unfold EnumName; rw [h]; exact fun x => h2 x.2)
  else isFalse (fun x => h1 x.1)

/-- one table: every enumerated row has `N ≥ 1`; for two different rows, no expanded name of
    the one is a prefix of, or prefixed by, a name the other accepts, and trying the other's
    pattern on it does not overflow `atoi` -/
def TableNumOK (ps : List PortT) : Prop :=
  (∀ q ∈ ps, EnumPos (lit q.name)) ∧
  ∀ (i j : Nat) (p q : PortT), ps[i]? = some p → ps[j]? = some q → i ≠ j →
    ∀ a ∈ expandName (lit p.name), IndexFits (lit q.name) a ∧
      ∀ b, AcceptsName (lit q.name) b → ¬ a <+: b ∧ ¬ b <+: a

mutual
def SubTablesNumOK : List PortT → Prop
  | [] => True
  | p :: r => PortNumOK p ∧ SubTablesNumOK r
def PortNumOK : PortT → Prop
  | .mk _ _ _ cs => TableNumOK cs ∧ SubTablesNumOK cs
end

/-- `TableNumOK` for every table of the tree -/
def TreeNumOK (ps : List PortT) : Prop := TableNumOK ps ∧ SubTablesNumOK ps

/-- the addresses under which the walk reports the port with index path `ix` (one per
    combination of indices of the enumerated rows on the way) -/
def AddrE : List PortT → List Nat → Bytes → Prop
  | _, [], _ => False
  | ps, [i], a => ∃ p, ps[i]? = some p ∧ p.hasPorts = false ∧ a ∈ expandName (lit p.name)
  | ps, i :: j :: t, a =>
    ∃ p, ps[i]? = some p ∧ p.hasPorts = true ∧
      ∃ e ∈ expandName (lit p.name), ∃ a', a = withSlash e ++ a' ∧ AddrE p.children (j :: t) a'


/-! ### A syntactic condition that implies `TreeNumOK` (proved: Proofs/PathEnumCanon.lean)

  `CanonList`: in every name of the tree the literal digit runs are numbers below 2^31 printed
  without leading zeros, the `#` does not follow a digit, and `N ≥ 1`.  Then the only digit
  strings `rtosc_match_number` can meet in a walked address are printed numbers, and the
  leading-zero readings never apply.  `canonListB` is the same as a finite check. -/

/-- printed without leading zeros -/
def Canon (R : Bytes) : Prop := R = decimal (atoi R)

/-- every digit run of `s` that starts at the beginning of `s` or behind a non-digit is a
    number below 2^31 printed without leading zeros -/
def GoodRuns (s : Bytes) : Prop :=
  ∀ x y : Bytes, s = x ++ y → (∀ c, x.getLast? = some c → isDigit c = false) → isDigit (hd y) = true →
    Canon (y.takeWhile isDigit) ∧ atoi (y.takeWhile isDigit) < 2147483648

/-- a name (up to `:`) whose literal digit runs are printed numbers below 2^31 and whose `#`
    does not follow a digit -/
def CanonName (l : Bytes) : Prop :=
  match splitHash l with
  | none => GoodRuns l
  | some (pre, _, post) =>
    GoodRuns pre ∧ GoodRuns post ∧ ∀ c, pre.getLast? = some c → isDigit c = false

mutual
/-- `EnumPos` and `CanonName` for every name of the tree -/
def CanonPort : PortT → Prop
  | .mk n _ _ cs => (EnumPos (lit n) ∧ CanonName (lit n)) ∧ CanonList cs
def CanonList : List PortT → Prop
  | [] => True
  | p :: r => CanonPort p ∧ CanonList r
end

/-- `x` does not end in a digit -/
def noDigitLast (x : Bytes) : Bool :=
  match x.getLast? with
  | none => true
  | some c => !isDigit c

/-- `GoodRuns` as a finite check over the split points -/
def goodRunsB (s : Bytes) : Bool :=
  (List.range (s.length + 1)).all fun k =>
    !(noDigitLast (s.take k) && isDigit (hd (s.drop k))) ||
      (decide ((s.drop k).takeWhile isDigit = decimal (atoi ((s.drop k).takeWhile isDigit))) &&
       decide (atoi ((s.drop k).takeWhile isDigit) < 2147483648))

def canonNameB (l : Bytes) : Bool :=
  match splitHash l with
  | none => goodRunsB l
  | some (pre, _, post) => goodRunsB pre && goodRunsB post && noDigitLast pre

mutual
def canonPortB : PortT → Bool
  | .mk n _ _ cs => (decide (EnumPos (lit n)) && canonNameB (lit n)) && canonListB cs
def canonListB : List PortT → Bool
  | [] => true
  | p :: r => canonPortB p && canonListB r
end


end Rtosc.Path
