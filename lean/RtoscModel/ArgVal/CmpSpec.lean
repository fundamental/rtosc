/-
  C16 — the words of the statements of Props/C16.lean that are not part of the model: the sign of the
  lexicographic comparison the order clauses speak of (`lexI`), the values the order laws are stated for
  (`Val.ok`, `Val.leaves`), what it means that the pointers an iteration yields denote a list of values
  (`Denotes`, `AllDenote`), and the message `rtosc_avmessage` builds from a denoted list (`msgOf`, `noNullTop`,
  `Val.payload`).  Definitions only.
-/
import RtoscModel.ArgVal.Expand
namespace Rtosc.ArgVal
open Rtosc

/-- sign (-1, 0, 1) of the lexicographic comparison of integer lists, a proper prefix first: the order all
    scalar comparison rules are mapped into (`skey`) -/
def lexI : List Int → List Int → Int
  | [], [] => 0
  | [], _ :: _ => -1
  | _ :: _, [] => 1
  | a :: as, b :: bs => if a = b then lexI as bs else if a > b then 1 else -1

mutual
/-- every scalar leaf is a scalar cell and not a NaN -/
def Val.ok : Val → Bool
  | .sc c => c.isScalar && !c.isNaN
  | .arr _ es => Val.okList es
def Val.okList : List Val → Bool
  | [] => true
  | v :: vs => v.ok && Val.okList vs
end

mutual
/-- every scalar leaf holds a scalar cell (no array / range header used as a value) -/
def Val.leaves : Val → Bool
  | .sc c => c.isScalar
  | .arr _ es => Val.leavesList es
def Val.leavesList : List Val → Bool
  | [] => true
  | v :: vs => v.leaves && Val.leavesList vs
end

/-- the pointer `p` (a suffix of some cell list) points to the value `v` -/
inductive Denotes : List Cell → Val → Prop
  | sc (c : Cell) (rest : List Cell) : c.isScalar = true → Denotes (c :: rest) (.sc c)
  | arr (ety : UInt8) (es : List Item) (vs : List Val) (rest : List Cell) :
      expandList es = some vs →
      Denotes (.arr ety (flatList es).length :: (flatList es ++ rest)) (.arr ety vs)

/-- the yielded pointers denote the values, one by one -/
inductive AllDenote : List (List Cell) → List Val → Prop
  | nil : AllDenote [] []
  | cons {p : List Cell} {v : Val} {ps : List (List Cell)} {vs : List Val} :
      Denotes p v → AllDenote ps vs → AllDenote (p :: ps) (v :: vs)

/-- what `rtosc_avmessage` returns for a list denoting `vs` -/
def msgOf (buffer : Option Bytes) (addr : Bytes) (vs : List Val) : Res (Option Osc.AResult) := do
  let (tags, vals) ← msgArgs vs
  pure (Osc.amessage buffer addr tags vals)

/-- no NULL string among the top-level values (`rtosc_amessage` would call `strlen(NULL)`) -/
def noNullTop : List Val → Bool
  | [] => true
  | .sc (.str _ none) :: _ => false
  | _ :: vs => noNullTop vs

/-- the `rtosc_arg_t` handed to `rtosc_amessage` for one top-level value: one for a payload type, none else -/
def Val.payload (v : Val) : List Osc.CArg :=
  if Osc.hasReserved v.head.type then
    match v.head.toCArg with
    | .ok a => [a]
    | .error _ => []
  else []

end Rtosc.ArgVal
