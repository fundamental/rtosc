/-
  C16 — the argument-value array of rtosc (`rtosc_arg_val_t[]`), exactly as the C code lays it
  out in memory, plus a structured view of it.

  Flat layout (include/rtosc/rtosc.h, arg-ext.c, pretty-format.c:44-53)
  * one `Cell` per `rtosc_arg_val_t`: the type character and the union member that type selects;
  * an array is an `'a'` header cell holding the element type and `len` = the number of
    *cells* that follow and belong to the array (not the number of elements);
  * a range is a `'-'` header cell holding `num` and `has_delta`, followed by
      has_delta = 0 :  the repeated value (one cell, or an array header with its cells)
      has_delta ≠ 0 :  the delta cell, then the start cell;
    `num = 0` is the infinite range.

  A pointer `const rtosc_arg_val_t*` is modelled as the suffix of the cell list it points to;
  reading the cell under a pointer whose suffix is `[]` is a read past the block (`Err.oob`),
  never a default value.

  Structured view: `Item` (what a pretty-printed argument list denotes, ranges kept),
  `flatList : List Item → List Cell` (the memory layout above) and `Val` (values with all ranges
  expanded); `expandList : List Item → Option (List Val)` is in ArgVal/Expand.lean.
  No Mathlib import: linked into the driver.
-/
import RtoscModel.Basic
import RtoscModel.ArgVal.Float
namespace Rtosc.ArgVal
open Rtosc

/-- How a model function can fail to have a defined result. -/
inductive Err where
  | oob          -- read past the end of a block of cells
  | undef        -- the C code uses an indeterminate value (NULL result ignored, wrong union member,
                 -- negative length) or runs into `assert(false)`-only territory
  | exit         -- the code calls `exit(1)`
  | nan          -- float arithmetic on a NaN operand (not modelled)
  | fuel         -- the loop bound given to the model was too small (never a property of the code)
deriving DecidableEq, Repr

abbrev Res := Except Err

instance {α} [DecidableEq α] : DecidableEq (Res α)
  | .ok a, .ok b => if h : a = b then isTrue (congrArg _ h) else isFalse (fun e => h (Except.ok.inj e))
  | .error a, .error b =>
    if h : a = b then isTrue (congrArg _ h) else isFalse (fun e => h (Except.error.inj e))
  | .ok _, .error _ => isFalse (fun e => nomatch e)
  | .error _, .ok _ => isFalse (fun e => nomatch e)

/-- type characters -/
def tyA : UInt8 := 97      -- 'a'
def tyRange : UInt8 := 45  -- '-'
def tyT : UInt8 := 84
def tyF : UInt8 := 70

inductive IntTy where | i | c | r deriving DecidableEq, Repr
inductive StrTy where | s | S deriving DecidableEq, Repr
inductive FlagTy where | T | F | N | I deriving DecidableEq, Repr

def IntTy.char : IntTy → UInt8 | .i => 105 | .c => 99 | .r => 114
def StrTy.char : StrTy → UInt8 | .s => 115 | .S => 83
def FlagTy.char : FlagTy → UInt8 | .T => 84 | .F => 70 | .N => 78 | .I => 73

/-- One `rtosc_arg_val_t`.  Integers are kept as `Int` (values of `int32_t` / `int64_t`),
    floats as bit patterns, a string as the bytes behind the pointer (`none` = NULL), a blob as
    its `len` data bytes. -/
inductive Cell where
  | int (ty : IntTy) (v : Int)            -- 'i' 'c' 'r' : val.i
  | huge (v : Int)                        -- 'h' : val.h
  | time (v : Nat)                        -- 't' : val.t
  | flt (bits : UInt32)                   -- 'f' : val.f
  | dbl (bits : UInt64)                   -- 'd' : val.d
  | midi (a b c d : UInt8)                -- 'm' : val.m[4]
  | str (ty : StrTy) (s : Option Bytes)   -- 's' 'S' : val.s
  | blob (data : Bytes)                   -- 'b' : val.b
  | flag (ty : FlagTy)                    -- 'T' 'F' 'N' 'I'
  | arr (ety : UInt8) (len : Int)         -- 'a' : element type, number of cells
  | rep (num : Int) (hasDelta : Int)      -- '-' : range header
deriving DecidableEq, Repr

/-- `av->type` -/
def Cell.type : Cell → UInt8
  | .int ty _ => ty.char
  | .huge _ => 104
  | .time _ => 116
  | .flt _ => 102
  | .dbl _ => 100
  | .midi .. => 109
  | .str ty _ => ty.char
  | .blob _ => 98
  | .flag ty => ty.char
  | .arr .. => tyA
  | .rep .. => tyRange

/-- neither an array header nor a range header -/
def Cell.isScalar : Cell → Bool
  | .arr .. => false
  | .rep .. => false
  | _ => true

/-- `*p` : the cell under a pointer -/
def deref : List Cell → Res Cell
  | [] => .error .oob
  | c :: _ => .ok c

/-! ### Structured view -/

/-- One printed argument: a plain value, an array, `N x value`, or `start ... end` with a delta. -/
inductive Item where
  | val (c : Cell)
  | arr (ety : UInt8) (es : List Item)
  | rep (n : Nat) (x : Item)
  | range (n : Nat) (delta start : Cell)

mutual
/-- the cells of one item, in memory order -/
def Item.flat : Item → List Cell
  | .val c => [c]
  | .arr ety es => .arr ety (flatList es).length :: flatList es
  | .rep n x => .rep n 0 :: x.flat
  | .range n d s => [.rep n 1, d, s]
/-- the memory layout of an argument list -/
def flatList : List Item → List Cell
  | [] => []
  | x :: xs => x.flat ++ flatList xs
end

/-- A fully expanded value: a scalar cell or an array of values. -/
inductive Val where
  | sc (c : Cell)
  | arr (ety : UInt8) (es : List Val)

end Rtosc.ArgVal
