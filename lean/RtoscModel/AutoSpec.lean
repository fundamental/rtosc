/-
  C19 — specification side: what the property says, stated without the code's control
  structure (it shares with the model the tests `portUsable`, `firstFree`, `nrpnComplete`,
  `Mgr.slotOob` and the register update `setParameterNumber`).

  * the learn queue is an abstract FIFO list of slot ids (`absStep`); the implementation's
    per-slot numbers must be the positions in that list (`QueueRel`, `qpos`);
  * a message emitted for an automation must go to its address, carry its type and a value
    inside the bound range (`MsgOKPort`; `MsgOK` is the same in terms of what the automation
    stores and serves the proofs), and be monotone in the slot value (`MsgLe`);
  * `Laws` collects the order facts about float arithmetic that the range/monotonicity
    theorems assume (they are hypotheses, never axioms).
-/
import RtoscModel.Auto
namespace Rtosc.Auto
open Rtosc
variable {F : Type}

/-! ### abstract learn queue -/

/-- learning number the abstract queue `Q` (slot ids, oldest request first) assigns to slot
    `i`: position + 1 (1 = next to be served), or -1 when `i` is not waiting -/
def qpos : List Nat → Nat → Int
  | [], _ => -1
  | q :: Q, i => if q = i then 1 else (if qpos Q i = -1 then -1 else qpos Q i + 1)

/-- the bookkeeping observables of a slot: (learning, midi_cc, midi_nrpn) -/
abbrev Key := Int × Int × Int
def key (sl : Slot F) : Key := (sl.learning, sl.midiCC, sl.midiNrpn)
def keys (m : Mgr F) : List Key := m.slots.map key

/-- the slot numbering `ks` with queue-length register `len` represents the abstract queue
    `Q`: pending slots hold exactly 1..k in request order, all others hold -1 -/
structure QueueRel (ks : List Key) (len : Int) (Q : List Nat) : Prop where
  nodup : Q.Nodup
  bound : ∀ q ∈ Q, q < ks.length
  len : len = Q.length
  num : ∀ (i : Nat) (k : Key), ks[i]? = some k → k.1 = qpos Q i

def Refines (m : Mgr F) (Q : List Nat) : Prop := QueueRel (keys m) m.learnLen Q

/-- createBinding gets as far as binding the parameter: the port is usable, the slot exists
    and has a free sub-automation -/
def bindSucceeds (m : Mgr F) (s : Int) (port : Option (PortInfo F)) : Bool :=
  (portUsable port).isSome && !m.slotOob s &&
    (match m.slots[s.toNat]? with
     | some sl => (firstFree sl.autos 0).isSome
     | none => false)

def slotCC (m : Mgr F) (s : Int) : Int := ((m.slots[s.toNat]?).map (·.midiCC)).getD (-1)

/-- the controller a MIDI event carries a value for: `(true, id)` for a completed NRPN,
    `(false, channel*128+cc)` for a plain controller, nothing while an (N)RPN sequence is
    incomplete -/
def controllerOf (m : Mgr F) (c t v : Int) : Option (Bool × Int) :=
  if t = C_dataentryhi ∨ t = C_dataentrylo ∨ t = C_nrpnhi ∨ t = C_nrpnlo then
    let m1 := setParameterNumber m t v
    if nrpnComplete m1 then some (true, m1.parhi * 128 + m1.parlo) else none
  else some (false, c * 128 + t)

def bindingOf (isNrpn : Bool) (sl : Slot F) : Int := if isNrpn then sl.midiNrpn else sl.midiCC

def isBoundTo (m : Mgr F) (isNrpn : Bool) (id : Int) : Bool :=
  m.slots.any (fun sl => bindingOf isNrpn sl = id)

/-- the abstract queue operations: a successful learn request of a slot that is neither
    waiting nor bound to a CC is appended; clearing a slot removes it; a value for a
    controller no slot is bound to serves (removes) the head; nothing else touches it -/
def absStep (m : Mgr F) (op : Op F) (Q : List Nat) : List Nat :=
  match op with
  | .bind s _ port learn =>
    if bindSucceeds m s port && learn && decide (s.toNat ∉ Q) && decide (slotCC m s = -1)
    then Q ++ [s.toNat] else Q
  | .clearSlot s => if m.slotOob s then Q else Q.erase s.toNat
  | .midi c t v =>
    match controllerOf m c t v with
    | some (isNrpn, id) => if isBoundTo m isNrpn id then Q else Q.tail
    | none => Q
  | _ => Q

/-- the manager after the (N)RPN register update of the event -/
def regs (m : Mgr F) (t v : Int) : Mgr F :=
  if t = C_dataentryhi ∨ t = C_dataentrylo ∨ t = C_nrpnhi ∨ t = C_nrpnlo then setParameterNumber m t v else m

/-- the slot value a controller event stands for -/
def midiValue (A : Arith F) (m1 : Mgr F) (n : Bool) (v : Int) : F :=
  if n then A.to32 (A.div64 (A.ofInt (m1.valhi * 128 + m1.vallo)) (A.ofInt 16383))
  else A.to32 (A.div64 (A.ofInt v) (A.ofInt 127))

/-- no two slots are bound to the same controller -/
def Uniq (sel : Key → Int) (ks : List Key) : Prop :=
  ∀ (i j : Nat) (a b : Key), ks[i]? = some a → ks[j]? = some b → sel a = sel b → sel a ≠ -1 → i = j

/-! ### well-formed inputs, reachable states -/

/-- the parameter's type as its port declares it: float if the port's name mentions `:f`,
    else a toggle if it mentions `:T`, else integer -/
def portType (p : PortInfo F) : Char := if p.hasF then 'f' else if p.hasT then 'T' else 'i'

/-- the declared range of a port, as `float`s: 0..1 for a toggle, `min`..`max` otherwise; a
    log-scale port that declares `logmin` starts there -/
def portRange (A : Arith F) (p : PortInfo F) : Option (F × F) :=
  if portType p = 'T' then some (A.zero, A.one)
  else match p.min, p.max with
    | some mn, some mx =>
      some (if p.scaleLog then (p.logmin.map A.to32).getD (A.to32 mn) else A.to32 mn, A.to32 mx)
    | _, _ => none

/-- ranges are not empty: min <= max, and logmin <= max when given; a toggle port
    (`:T` and no `:f` in its name) does not declare a logarithmic scale; the lower end of the
    range of a logarithmic-scale port — `logmin` if declared, else `min`, as the `float` the code
    passes to `logf` (`portRange`) — is positive (`logf` of zero or of a negative number is
    -infinity / NaN, which this model does not represent; `log_scale_needs_positive_bound`
    in Props/C19.lean shows what an arithmetic that extends `logf` below zero makes of such a port) -/
def PortWF (A : Arith F) (p : PortInfo F) : Prop :=
  (∀ mn mx, p.min = some mn → p.max = some mx →
    A.le mn mx = true ∧ (∀ l, p.logmin = some l → A.le l mx = true)) ∧
  (p.hasF = false → p.hasT = true → p.scaleLog = false) ∧
  (p.scaleLog = true → ∀ lo hi, portRange A p = some (lo, hi) → A.le lo A.zero = false)

/-- MIDI channel and controller numbers are not negative; bound ports have non-empty ranges;
    an address fits the 128-byte `param_path` buffer (a longer one is cut off by the code) -/
def OpWF (A : Arith F) : Op F → Prop
  | .bind _ path port _ => path.length ≤ 127 ∧ ∀ p, port = some p → PortWF A p
  | .setPath _ _ path port => path.length ≤ 127 ∧ ∀ p, port = some p → PortWF A p
  | .midi c t _ => 0 ≤ c ∧ 0 ≤ t
  | _ => True

/-- states reached from a fresh manager by a history of well-formed operations, none of
    which runs into undefined behaviour -/
inductive Reachable (A : Arith F) (nslots perSlot : Nat) : Mgr F → Prop
  | init : Reachable A nslots perSlot (Mgr.init A nslots perSlot)
  | step {m m' : Mgr F} {op : Op F} {ms : List (Msg F)} :
      Reachable A nslots perSlot m → OpWF A op → step A m op = some (m', ms) →
      Reachable A nslots perSlot m'

/-! ### what may be emitted -/

/-! #### the specification: stated about the PORT that was bound, not about the automation -/

/-- what the property allows to be sent for the parameter `p` bound under the address `path`:
    exactly that address, the parameter's type, and a value inside the declared range
    `[lo,hi] = portRange p` — for integers `(int)roundf` of the bounds (the bounds themselves
    when they are integer-valued); for a log-scale parameter the bounds pass through
    `expf ∘ logf` (libm's rounding: the property's 1e-5 tolerance); true/false for toggles -/
def MsgOKPort (A : Arith F) (path : Bytes) (p : PortInfo F) (msg : Msg F) : Prop :=
  msg.addr = path ∧
  ∃ lo hi, portRange A p = some (lo, hi) ∧
  ((portType p = 'i' ∧ p.scaleLog = false ∧ msg.ty = 'i' ∧
      ∃ n, msg.val = .int n ∧ A.toInt (A.roundf lo) ≤ n ∧ n ≤ A.toInt (A.roundf hi)) ∨
   (portType p = 'i' ∧ p.scaleLog = true ∧ msg.ty = 'i' ∧
      ∃ n, msg.val = .int n ∧ A.toInt (A.roundf (A.expf (A.logf lo))) ≤ n ∧
        n ≤ A.toInt (A.roundf (A.expf (A.logf hi)))) ∨
   (portType p = 'f' ∧ p.scaleLog = false ∧ msg.ty = 'f' ∧
      ∃ x, msg.val = .flt x ∧ A.le lo x = true ∧ A.le x hi = true) ∨
   (portType p = 'f' ∧ p.scaleLog = true ∧ msg.ty = 'f' ∧
      ∃ x, msg.val = .flt x ∧ A.le (A.expf (A.logf lo)) x = true ∧ A.le x (A.expf (A.logf hi)) = true) ∨
   (portType p = 'T' ∧ (msg.ty = 'T' ∨ msg.ty = 'F') ∧ msg.val = .none))

/-! #### the same, in terms of what the automation stores (used inside the proofs) -/

/-- the message is what the stored fields of automation `au` allow: its address, its type, a
    value inside its stored range (`toInt (roundf ·)` of the bounds for integers, `expf` of the
    stored logarithmic bounds for log scale, true/false for toggles) -/
def MsgOK (A : Arith F) (au : Automation F) (msg : Msg F) : Prop :=
  msg.addr = au.path ∧
  ((au.ty = 'i' ∧ au.logScale = false ∧ msg.ty = 'i' ∧
      ∃ n, msg.val = .int n ∧ A.toInt (A.roundf au.pmin) ≤ n ∧ n ≤ A.toInt (A.roundf au.pmax)) ∨
   (au.ty = 'i' ∧ au.logScale = true ∧ msg.ty = 'i' ∧
      ∃ n, msg.val = .int n ∧ A.toInt (A.roundf (A.expf au.pmin)) ≤ n ∧
        n ≤ A.toInt (A.roundf (A.expf au.pmax))) ∨
   (au.ty = 'f' ∧ au.logScale = false ∧ msg.ty = 'f' ∧
      ∃ x, msg.val = .flt x ∧ A.le au.pmin x = true ∧ A.le x au.pmax = true) ∨
   (au.ty = 'f' ∧ au.logScale = true ∧ msg.ty = 'f' ∧
      ∃ x, msg.val = .flt x ∧ A.le (A.expf au.pmin) x = true ∧ A.le x (A.expf au.pmax) = true) ∨
   (au.ty = 'T' ∧ (msg.ty = 'T' ∨ msg.ty = 'F') ∧ msg.val = .none))

/-- `m2` is "not less" than `m1`: same address and type class, value not smaller
    (false <= true for toggles) -/
def MsgLe (A : Arith F) (m1 m2 : Msg F) : Prop :=
  m1.addr = m2.addr ∧
  match m1.val, m2.val with
  | .int a, .int b => m1.ty = m2.ty ∧ a ≤ b
  | .flt a, .flt b => m1.ty = m2.ty ∧ A.le a b = true
  | .none, .none => (m1.ty = 'T' ∨ m1.ty = 'F') ∧ (m2.ty = 'T' ∨ m2.ty = 'F') ∧ (m1.ty = 'T' → m2.ty = 'T')
  | _, _ => False

/-- message lists compared position by position -/
def MsgsLe (A : Arith F) : List (Msg F) → List (Msg F) → Prop
  | [], [] => True
  | a :: l1, b :: l2 => MsgLe A a b ∧ MsgsLe A l1 l2
  | _, _ => False

/-- the automation still holds what createBinding/setSlotSubPath filled in from the
    well-formed port `p` found under the address `path` — the call its ghost field `bound`
    remembers: address, type and range are what `bindInfo` stores for that port -/
def FromPort (A : Arith F) (au : Automation F) : Prop :=
  ∃ (au0 b : Automation F) (path : Bytes) (p : PortInfo F),
    PortWF A p ∧ portUsable (some p) = some p ∧ path.length ≤ 127 ∧ bindInfo A au0 path p = some b ∧
    au.bound = some (path, p) ∧
    au.path = b.path ∧ au.ty = b.ty ∧ au.pmin = b.pmin ∧ au.pmax = b.pmax ∧ au.logScale = b.logScale

/-- invariant of every automation: a `used` one is bound to a port and its control points are
    in sync with min/max/gain/offset; an unused one remembers no port -/
def Good (A : Arith F) (au : Automation F) : Prop :=
  (au.used = true → FromPort A au ∧ (au.cp1, au.cp3) = mapping A au.pmin au.pmax au.gain au.offset) ∧
  (au.used = false → au.bound = none)

def AllAutos (m : Mgr F) (P : Automation F → Prop) : Prop :=
  ∀ sl ∈ m.slots, ∀ au ∈ sl.autos, P au

/-! ### the binding table: which parameter every automation is bound to (ghost observable) -/

/-- per slot, per sub-automation: the address and port it is bound to, if any -/
abbrev BTable (F : Type) := List (List (Option (Bytes × PortInfo F)))
/-- the ghost fields of a manager, as a table -/
def boundsOf (m : Mgr F) : BTable F := m.slots.map (fun sl => sl.autos.map (·.bound))

/-- index of the first empty entry of a row -/
def firstNone {α : Type} : List (Option α) → Nat → Option Nat
  | [], _ => none
  | x :: r, i => if x.isNone then some i else firstNone r (i + 1)

/-- what the operations do to the binding table, as the statement reads them: createBinding on
    a usable port fills the first free sub-automation of the slot with (address, port),
    setSlotSubPath fills the named one, clearSlot empties the slot's row, clearSlotSub the
    named entry (`per` = sub-automations per slot; out-of-range indices address nothing, except a
    negative slot of createBinding and a negative sub index of setSlotSubPath, where `toNat`
    gives 0: there the code is undefined, `step` is `none`, and no theorem speaks of the case);
    no other operation changes what anything is bound to -/
def absBind (per : Nat) (B : BTable F) : Op F → BTable F
  | .bind s path port _ =>
    match portUsable port with
    | none => B
    | some p => B.modify s.toNat (fun row =>
        match firstNone row 0 with
        | some j => row.set j (some (path, p))
        | none => row)
  | .setPath s j path port =>
    if s < 0 then B else
    match portUsable port with
    | none => B
    | some p => B.modify s.toNat (fun row => row.set j.toNat (some (path, p)))
  | .clearSlot s => if s < 0 then B else B.modify s.toNat (fun row => row.map (fun _ => none))
  | .clearSub s j =>
    if s < 0 ∨ j < 0 ∨ j ≥ (per : Int) then B
    else B.modify s.toNat (fun row => row.modify j.toNat (fun _ => none))
  | _ => B

/-! ### order laws assumed of the arithmetic -/

/-- Order facts about the float operations the code uses.  They hold of IEEE-754
    arithmetic on finite values (every operation is the exact one followed by a rounding
    that is monotone and maps 0 to 0) and of exact arithmetic. -/
structure Laws (A : Arith F) : Prop where
  le_total : ∀ x y, A.le x y = true ∨ A.le y x = true
  le_trans : ∀ x y z, A.le x y = true → A.le y z = true → A.le x z = true
  zero_le_one : A.le A.zero A.one = true
  zero_le_two : A.le A.zero A.two = true
  zero_le_hundred : A.le A.zero A.hundred = true
  sub32_nonneg : ∀ x y, A.le x y = true → A.le A.zero (A.sub32 y x) = true
  mul32_nonneg : ∀ x y, A.le A.zero x = true → A.le A.zero y = true → A.le A.zero (A.mul32 x y) = true
  mul32_mono : ∀ x y c, A.le x y = true → A.le A.zero c = true → A.le (A.mul32 x c) (A.mul32 y c) = true
  add32_mono : ∀ x y c, A.le x y = true → A.le (A.add32 x c) (A.add32 y c) = true
  div64_nonneg : ∀ x y, A.le A.zero x = true → A.le A.zero y = true → A.le A.zero (A.div64 x y) = true
  sub64_le_add64 : ∀ c h, A.le A.zero h = true → A.le (A.sub64 c h) (A.add64 c h) = true
  to32_mono : ∀ x y, A.le x y = true → A.le (A.to32 x) (A.to32 y) = true
  to32_zero : A.to32 A.zero = A.zero
  roundf_mono : ∀ x y, A.le x y = true → A.le (A.roundf x) (A.roundf y) = true
  toInt_mono : ∀ x y, A.le x y = true → A.toInt x ≤ A.toInt y
  /-- `logf` is monotone on positive arguments (the only ones `PortWF` lets reach it) -/
  logf_mono : ∀ x y, A.le x A.zero = false → A.le x y = true → A.le (A.logf x) (A.logf y) = true
  expf_mono : ∀ x y, A.le x y = true → A.le (A.expf x) (A.expf y) = true

/-! ### exact arithmetic (no rounding) over `Rat`, for the linear-map claim -/

def roundAway (x : Rat) : Rat :=
  if x < 0 then -(((-x + 1/2).floor : Int) : Rat) else (((x + 1/2).floor : Int) : Rat)

def truncInt (x : Rat) : Int := if x < 0 then -((-x).floor) else x.floor

/-- every operation is the exact rational one; `roundf` rounds halves away from zero,
    `(int)` truncates; `logf`/`expf` are not available exactly and are the identity here
    (log-scale parameters are outside `default_gain_linear`) -/
def exact : Arith Rat :=
  { le := fun x y => decide (x ≤ y)
    zero := 0, one := 1, half := 1/2, two := 2, hundred := 100
    ofInt := fun n => (n : Rat)
    add32 := (· + ·), sub32 := (· - ·), mul32 := (· * ·)
    add64 := (· + ·), sub64 := (· - ·), mul64 := (· * ·), div64 := (· / ·)
    to32 := id
    roundf := roundAway
    toInt := truncInt
    logf := id
    expf := id }

/-- the message the linear map prescribes at slot value `x` -/
def linearMsg (au : Automation Rat) (x : Rat) : Msg Rat :=
  let v := au.pmin + x * (au.pmax - au.pmin)
  if au.ty = 'i' then { addr := au.path, ty := 'i', val := .int (truncInt (roundAway v)) }
  else if au.ty = 'f' then { addr := au.path, ty := 'f', val := .flt v }
  else { addr := au.path, ty := if 1/2 < v then 'T' else 'F', val := .none }

end Rtosc.Auto
