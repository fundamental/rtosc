/-
  C05 — the specification: the documented pattern language and what it means for a
  message to match, written without reference to the code's structure.

  A pattern (`Pat`) is a sequence of segments — literal text, `#N` enumerations,
  `{a,b,…}` alternatives —, an optional trailing '/', and optional ':types'
  alternatives.  `Pat.render` is the string a port table contains.

  `PathSpec p addr` is the sentence of the property statement:
    the address spells the literal text, carries at each enumeration a decimal index
    strictly smaller than N (the index is the whole run of digits found there; leading
    zeros allowed), spells one of the alternatives, and ends where the pattern's path
    ends — or, for a pattern ending in '/', continues arbitrarily after that '/'.
  `TypesExact` / `TypesLoose` are the two sides of the sandwich the statement gives for
  the type string.

  What restricts the patterns is a decidable `Bool` function (`Pat.wf0`, `Pat.prefixFree`) so that it
  can be evaluated by `decide` and by the driver; the restrictions on addresses (`NulFree`,
  `IdxBounded`) are `Prop`s, `IdxBounded` with the decidable form `idxBoundedCheck`.
-/
import RtoscModel.Match.Path
namespace Rtosc.Match
open Rtosc

inductive Seg where
  | lit (s : Bytes)            -- literal text
  | enum (ds : Bytes)          -- `#N`, N written with the decimal digits `ds`
  | alts (as : List Bytes)     -- `{a,b,…}`
deriving DecidableEq, Repr

structure Pat where
  segs : List Seg
  sub : Bool                          -- trailing '/'
  types : Option (List Bytes)         -- `:t1:t2…`
deriving DecidableEq, Repr

/-- alternatives separated by ',' -/
def joinAlts : List Bytes → Bytes
  | [] => []
  | [a] => a
  | a :: b :: r => a ++ 44 :: joinAlts (b :: r)

def Seg.render : Seg → Bytes
  | .lit s => s
  | .enum ds => 35 :: ds
  | .alts as => 123 :: (joinAlts as ++ [125])

def renderSegs : List Seg → Bytes
  | [] => []
  | s :: r => s.render ++ renderSegs r

def renderTypeAlts : List Bytes → Bytes
  | [] => []
  | t :: r => 58 :: t ++ renderTypeAlts r

def renderTypes : Option (List Bytes) → Bytes
  | none => []
  | some ts => renderTypeAlts ts

/-- what follows the segments: the trailing '/' if any, then the type part -/
def Pat.tail (p : Pat) : Bytes := (if p.sub then [47] else []) ++ renderTypes p.types

/-- the pattern string -/
def Pat.render (p : Pat) : Bytes := renderSegs p.segs ++ p.tail

/-- the pattern as the C string handed to `rtosc_match` -/
def Pat.cstr (p : Pat) : Bytes := p.render ++ [0]

/-! ### What the statement says -/

/-- `SpellsAll segs a r`: the byte string `a` spells the segments one after the other
    and `r` is what is left of it afterwards. -/
inductive SpellsAll : List Seg → Bytes → Bytes → Prop where
  | nil (r : Bytes) : SpellsAll [] r r
  | lit {segs a r} (s : Bytes) :
      SpellsAll segs a r → SpellsAll (.lit s :: segs) (s ++ a) r
  | enum {segs a r} (ds idx : Bytes) :
      idx ≠ [] → (∀ c ∈ idx, isDigit c = true) →
      (∀ c t, a = c :: t → isDigit c = false) →        -- `idx` is the whole run of digits
      decVal idx < decVal ds →                          -- strictly smaller than N
      SpellsAll segs a r → SpellsAll (.enum ds :: segs) (idx ++ a) r
  | alts {segs a r} (as : List Bytes) (x : Bytes) :
      x ∈ as → SpellsAll segs a r → SpellsAll (.alts as :: segs) (x ++ a) r

/-- the address part of the statement -/
def PathSpec (p : Pat) (addr : Bytes) : Prop :=
  ∃ rest, SpellsAll p.segs addr rest ∧
    (if p.sub then ∃ t, rest = 47 :: t else rest = [])

/-- "if type alternatives are given, its type tag string equals one of them" -/
def TypesExact (p : Pat) (tags : Bytes) : Prop :=
  ∀ ts, p.types = some ts → tags ∈ ts

/-- "…equal to or an extension of an alternative" -/
def TypesLoose (p : Pat) (tags : Bytes) : Prop :=
  ∀ ts, p.types = some ts → ∃ a ∈ ts, a <+: tags

/-- a message that must match -/
def SpecMatch (p : Pat) (addr tags : Bytes) : Prop := PathSpec p addr ∧ TypesExact p tags

/-- a message that may match (anything outside must not) -/
def SpecMayMatch (p : Pat) (addr tags : Bytes) : Prop := PathSpec p addr ∧ TypesLoose p tags

/-! ### The documented form (decidable) -/

/-- characters of literal text: anything but NUL and the pattern's own syntax `# { * :`
    ('/' is allowed inside literal text, see `segsWf`) -/
def litChar (c : UInt8) : Bool := c != 0 && c != 35 && c != 123 && c != 42 && c != 58

/-- characters of an alternative: anything but NUL `,` `}` -/
def altChar (c : UInt8) : Bool := c != 0 && c != 44 && c != 125

/-- characters of a type alternative: anything but NUL and ':' -/
def tagChar (c : UInt8) : Bool := c != 0 && c != 58

def Seg.wf : Seg → Bool
  | .lit s => !s.isEmpty && s.all litChar
  | .enum ds => !ds.isEmpty && ds.all isDigit && decide (decVal ds < 2 ^ 31)
  | .alts as => !as.isEmpty && as.all (·.all altChar)

def Seg.startsWithDigit : Seg → Bool
  | .lit (c :: _) => isDigit c
  | _ => false

/-- the segments, given whether a trailing '/' follows them:
    * every segment is well formed;
    * literal text directly after `#N` does not begin with a digit (it would read as
      part of N);
    * without a trailing '/', the last segment is not literal text ending in '/'
      (that '/' *is* the trailing '/'). -/
def segsWf (sub : Bool) : List Seg → Bool
  | [] => true
  | [s] => s.wf && (sub || match s with
                            | .lit t => t.getLast? != some 47
                            | _ => true)
  | s :: t :: r =>
    s.wf && (match s with
             | .enum _ => !t.startsWithDigit
             | _ => true) && segsWf sub (t :: r)

def typesWf : Option (List Bytes) → Bool
  | none => true
  | some ts => !ts.isEmpty && ts.all (·.all tagChar)

/-- "a pattern of the documented form" -/
def Pat.wf0 (p : Pat) : Bool := segsWf p.sub p.segs && typesWf p.types

/-- no alternative of a `{}` group is a proper prefix of another one of the same group -/
def Seg.prefixFree : Seg → Bool
  | .alts as => as.all fun a => as.all fun b => !(a.isPrefixOf b) || a == b
  | _ => true

def segsPrefixFree (l : List Seg) : Bool := l.all Seg.prefixFree

def Pat.prefixFree (p : Pat) : Bool := segsPrefixFree p.segs

/-- trigger predicate of known finding C05-K1 (no backtracking in `{}`) -/
def Pat.hasPrefixAlts (p : Pat) : Bool := !p.prefixFree

/-- the patterns for which the full equivalence is proved -/
def Pat.wf (p : Pat) : Bool := p.wf0 && p.prefixFree

def Pat.WF0 (p : Pat) : Prop := p.wf0 = true
def Pat.WF (p : Pat) : Prop := p.wf = true

instance (p : Pat) : Decidable p.WF0 := by unfold Pat.WF0; infer_instance
instance (p : Pat) : Decidable p.WF := by unfold Pat.WF; infer_instance

/-- no NUL inside (addresses and type strings are C strings) -/
def NulFree (b : Bytes) : Prop := ∀ c ∈ b, c ≠ 0

/-- every run of decimal digits in the address denotes a number below 2^31
    (in particular: every index of up to 9 digits, with any number of leading zeros) -/
def IdxBounded (a : Bytes) : Prop :=
  ∀ pre run post, a = pre ++ run ++ post → (∀ c ∈ run, isDigit c = true) → decVal run < 2 ^ 31

/-- decidable form of `IdxBounded` (all sub-strings; `idxBounded_of_check` in
    Proofs/MatchLemmas.lean) -/
def idxBoundedCheck (a : Bytes) : Bool :=
  (List.range (a.length + 1)).all fun i =>
    (List.range (a.length + 1)).all fun j =>
      let run := (a.drop i).take j
      !(run.all isDigit) || decide (decVal run < 2 ^ 31)

/-- The condition under which `rtosc_match_args` without fixes/C05-args-overread.patch stays inside
    the buffer (`arg_str` advances once per pattern character, also behind the end of the type
    string): the buffer behind the type string is long enough for every type alternative.  The
    repaired code reads nothing behind the type string's NUL; no theorem has this hypothesis. -/
def ArgsInBounds (p : Pat) (avail : Nat) : Prop :=
  ∀ ts, p.types = some ts → ∀ a ∈ ts, a.length ≤ avail

end Rtosc.Match
