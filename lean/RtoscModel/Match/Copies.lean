/-
  C05 — the two further copies of the type matcher, in src/cpp/ports.cpp:
  `arg_matcher(pattern, args)` (line 219) and
  `Port_Matcher::rtosc_match_args(pattern, msg)` (line 275, used by `hard_match` on the
  hashed dispatch path).  They are modelled on their own, literally as the C++ text
  reads (a `while` loop function, then the test at ':' and the recursive call, the
  recursion bounded by fuel), and `Props/C05.lean` proves them equal to `Match.args`.
-/
import RtoscModel.Match.Path
namespace Rtosc.Match
open Rtosc

/-- `while(*pattern && *pattern != ':') { arg_match = arg_match && (*pattern==*arg_str++); ++pattern; }`
    (the loop as repaired by fixes/C05-args-overread.patch, which changes all three copies alike)
    returns (pattern, arg_str, arg_match) after the loop -/
def argWhile : Bytes → Bytes → Bool → Option (Bytes × Bytes × Bool)
  | [], _, _ => none
  | c :: r, a, am =>
    if c ≠ 0 ∧ c ≠ 58 then
      if am then
        match a with
        | [] => none
        | x :: ar => argWhile r ar (c == x)
      else argWhile r a false
    else some (c :: r, a, am)

/-- `arg_matcher(pattern, args)`; one unit of fuel per (recursive) call -/
def argMatcherFuel : Nat → Bytes → Bytes → Option Bool
  | 0, _, _ => none
  | f + 1, pattern, args =>
    match pattern with
    | [] => none
    | c :: p =>
      if c ≠ 58 then some true                         -- if(*pattern++ != ':') return true;
      else
        -- bool arg_match = *pattern || *pattern == *arg_str;
        let init : Option Bool :=
          match p with
          | [] => none
          | e :: _ =>
            if e ≠ 0 then some true
            else match args with
              | [] => none
              | x :: _ => some (e == x)
        match init with
        | none => none
        | some am0 =>
          match argWhile p args am0 with
          | none => none
          | some (p', a', am) =>
            match p' with
            | [] => none
            | e :: _ =>
              if e = 58 then                             -- if(*pattern==':')
                if am then
                  match a' with
                  | [] => none
                  | x :: _ => if x = 0 then some true    -- arg_match && !*arg_str
                              else argMatcherFuel f p' args
                else argMatcherFuel f p' args            -- retry
              else some am                               -- return arg_match;

/-- `arg_matcher` (ports.cpp:219) -/
def argMatcher (pattern args : Bytes) : Option Bool :=
  argMatcherFuel (pattern.length + 1) pattern args

/-- `Port_Matcher::rtosc_match_args` (ports.cpp:275): the same text, with
    `arg_str = rtosc_argument_string(msg)` -/
def portMatcherFuel : Nat → Bytes → Bytes → Option Bool
  | 0, _, _ => none
  | f + 1, pattern, msg =>
    match pattern with
    | [] => none
    | c :: p =>
      if c ≠ 58 then some true
      else
        match argString msg with
        | none => none
        | some argStr =>
          let init : Option Bool :=
            match p with
            | [] => none
            | e :: _ =>
              if e ≠ 0 then some true
              else match argStr with
                | [] => none
                | x :: _ => some (e == x)
          match init with
          | none => none
          | some am0 =>
            match argWhile p argStr am0 with
            | none => none
            | some (p', a', am) =>
              match p' with
              | [] => none
              | e :: _ =>
                if e = 58 then
                  if am then
                    match a' with
                    | [] => none
                    | x :: _ => if x = 0 then some true
                                else portMatcherFuel f p' msg
                  else portMatcherFuel f p' msg
                else some am

def portMatcherArgs (pattern msg : Bytes) : Option Bool :=
  portMatcherFuel (pattern.length + 1) pattern msg

/-- `rtosc_match_args(pattern, msg)` of dispatch.c seen from the message:
    what the two copies are compared with -/
def argsOfMsg (pattern msg : Bytes) : Option Bool :=
  match pattern with
  | [] => none
  | c :: _ =>
    if c ≠ 58 then some true
    else match argString msg with
      | none => none
      | some a => args pattern a

end Rtosc.Match
