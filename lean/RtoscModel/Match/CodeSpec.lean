/-
  C05 — what the statements say the code computes on a pattern of the documented form, as functions
  of the structured pattern (`Pat`, Match/Spec.lean): `greedy` for `rtosc_match_path`, `typesCode` for
  `rtosc_match_args`.  Props/C05.lean and the lemmas of Proofs/Match*.lean are stated with them, and
  C04's `matchB` (Ports/DispatchSpec.lean) is built from them.  Definitions only.
-/
import RtoscModel.Match.Spec
namespace Rtosc.Match
open Rtosc

/-- What the type matcher computes: every alternative but the last must equal the type
    string; the last one matches if it is a prefix of it (an empty last alternative
    only matches the empty type string). -/
def typesCode : List Bytes → Bytes → Bool
  | [], _ => true
  | [a], tags => if a = [] then decide (tags = []) else a.isPrefixOf tags
  | a :: b :: r, tags => a == tags || typesCode (b :: r) tags

/-- What the code computes on a rendered pattern: segments are consumed left to right,
    a `{}` group commits to its first alternative that is a prefix of the address.
    Result: what is left of the address behind `*path_end`. -/
def greedy : List Seg → Bool → Bytes → Option Bytes
  | [], false, a => if a = [] then some [] else none
  | [], true, a =>
    match a with
    | [] => none
    | d :: t => if d = 47 then some t else none
  | .lit s :: r, sub, a => if s.isPrefixOf a then greedy r sub (a.drop s.length) else none
  | .enum ds :: r, sub, a =>
    if a.takeWhile isDigit ≠ [] ∧ decVal (a.takeWhile isDigit) < decVal ds
    then greedy r sub (a.dropWhile isDigit) else none
  | .alts as :: r, sub, a =>
    match as.find? (·.isPrefixOf a) with
    | some x => greedy r sub (a.drop x.length)
    | none => none

end Rtosc.Match
