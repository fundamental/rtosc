/-
  C09 — hypotheses and conclusions in which statements of Props/C09.lean and obligations of
  Proofs/Walk*.lean are written and that belong to neither the specification of the walk
  (Walk/Spec.lean) nor to that of the dispatch clause (Walk/DispatchSpec.lean):
  `PathPrefix` / `CompOk` (the table address under which `port_is_enabled` is defined: hypothesis
  of `walk_prunes`, `walkPort_full`) and `EndsAtLeaf` (conclusion of `leaf_tree`).
  Definitions only.
-/
import RtoscModel.Walk.DispatchSpec
namespace Rtosc.Walk
open Rtosc Rtosc.Path Rtosc.Match

/-- an ordinary path component: no NUL, no '/', not ".." (`compOkB`, Walk/Spec.lean, decides it) -/
def CompOk (c : Bytes) : Prop := CompWF c ∧ c ≠ DOTDOT

/-- the address of a table: "/" or "/c1/…/cn/" -/
def PathPrefix (pre : Bytes) : Prop := ∃ cs : List Bytes, (∀ c ∈ cs, CompOk c) ∧ pre = render cs ++ [47]

/-- a reported pair ends at a leaf; without typed sub-tree ports only its type part matters -/
def EndsAtLeaf (tags : Bytes) (ixr : List Nat) (tab : List STree) : Prop :=
  ∃ w, leafAt ixr tab = some w ∧
    (subsUntypedList tab = true → admittedAlong tags ixr tab = tagsAdmitted w.types tags)

end Rtosc.Walk
