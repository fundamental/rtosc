/-
  C09 — a condition on the *names* of a tree under which every digit run of every reported
  address is below 2^31 (C05's `IdxBounded`, the hypothesis of the dispatch theorems).
  `IdxBounded` does not follow from `TreeWF` (literal text may hold digit runs of any length:
  `dispatch_needs_idxBounded`); it does follow when in every name no digit run of the literal text,
  together with the number that may follow it, is longer than nine characters.
  No Mathlib import.
-/
import RtoscModel.Walk.Spec
namespace Rtosc.Walk
open Rtosc Rtosc.Path Rtosc.Match

/-- no digit run longer than `k`, when `acc` digits stand in front of the string -/
def runsLe (k : Nat) : Nat → Bytes → Bool
  | _, [] => true
  | acc, c :: r => if Match.isDigit c then decide (acc + 1 ≤ k) && runsLe k (acc + 1) r else runsLe k 0 r

/-- length of the digit run the string ends in, when `acc` digits stand in front of it -/
def trail : Nat → Bytes → Nat
  | acc, [] => acc
  | acc, c :: r => if Match.isDigit c then trail (acc + 1) r else trail 0 r

/-- the pieces `#N text`: the index written for `#N` has at most as many digits as `N` -/
def partsRuns (k : Nat) : Nat → List (Bytes × Bytes) → Bool
  | _, [] => true
  | acc, (ds, t) :: r => decide (acc + ds.length ≤ k) && runsLe k 0 t && partsRuns k (trail 0 t) r

/-- in the name, a digit run of literal text plus the digits of a following `#N` never exceeds
    nine characters (10^9 < 2^31, the bound of `IdxBounded`) -/
def WName.digitsShort (w : WName) : Bool := runsLe 9 0 w.head && partsRuns 9 (trail 0 w.head) w.parts

mutual
def STree.digitsShort : STree → Bool
  | .leaf w _ => w.digitsShort
  | .sub w _ kids => w.digitsShort && digitsShortList kids
def digitsShortList : List STree → Bool
  | [] => true
  | t :: r => t.digitsShort && digitsShortList r
end

/-- every name of the tree keeps its digit runs short (decidable; implies `IdxBounded` for every
    reported address: `reported_idxBounded`) -/
def DigitsShort (ts : List STree) : Prop := digitsShortList ts = true

instance (ts : List STree) : Decidable (DigitsShort ts) := by unfold DigitsShort; infer_instance

end Rtosc.Walk
