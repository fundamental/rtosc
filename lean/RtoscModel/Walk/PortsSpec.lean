/-
  C09 — the vocabulary of Props/C09Ports.lean (the dispatch clause against C04's model of
  `Ports::dispatch`) and of the obligation `ans_tree` (Proofs/WalkPorts.lean): this property's tree
  type embedded into C04's (`toTable`, `toPTable`), the trees C04's model of the recursion
  callbacks covers (`PortsFlat`), the callbacks on an index path (`OnPath`), and C04's
  specification on a reported address (`ReachesP`).  Definitions only.
-/
import RtoscModel.Walk.DispatchSpec
import RtoscModel.Ports.Spec
namespace Rtosc.Walk
open Rtosc Rtosc.Path Rtosc.Match

mutual
/-- the `Ports` object of C04's dispatch model for a table of this property -/
def toTable : List PortT → Ports.Table
  | [] => .nil
  | p :: r => rowTable p (toTable r)
def rowTable : PortT → Ports.Table → Ports.Table
  | .mk name _ hasPorts cs, rest => if hasPorts then .node name (toTable cs) false rest else .leaf name rest
end

mutual
/-- the same table with C05's structured names -/
def toPTable : List STree → Ports.PTable
  | [] => .nil
  | t :: r => rowPTable t (toPTable r)
def rowPTable : STree → Ports.PTable → Ports.PTable
  | .leaf w _, rest => .leaf w.toPat rest
  | .sub w _ kids, rest => .node w.toPat (toPTable kids) false rest
end

def WName.oneComponent (w : WName) : Bool := !w.head.contains 47 && w.parts.all (fun p => !p.2.contains 47)

def WName.hasText (w : WName) : Bool := !(w.head.isEmpty && w.parts.isEmpty)

mutual
def STree.flat : STree → Bool
  | .leaf w _ => w.hasText
  | .sub w _ kids => w.oneComponent && flatList kids
def flatList : List STree → Bool
  | [] => true
  | t :: r => t.flat && flatList r
end

/-- the trees C04's model of the recursion callbacks covers: sub-tree names of one path
    component (`SNIP` cuts exactly one), no leaf name empty in front of '/' and type part -/
def PortsFlat (ts : List STree) : Prop := flatList ts = true

instance (ts : List STree) : Decidable (PortsFlat ts) := by unfold PortsFlat; infer_instance

/-- the callbacks of the ports on an index path below the table with path `path` -/
def OnPath (path ixr : List Nat) (w : Ports.Who) : Prop :=
  ∃ ix', ix' ≠ [] ∧ ix' <+: ixr ∧ w = .port (path ++ ix')

/-- C04's specification on the address of a reported pair: with the type string admitted along
    the path, the callbacks of the ports on the index path belong to the message, and — `only`:
    rows pairwise apart — no other callback does -/
def ReachesP (only : Bool) (tags : Bytes) (path ixr : List Nat) (tab : List STree) (rel : Bytes) : Prop :=
  admittedAlong tags ixr tab = true →
    (∀ w, OnPath path ixr w → Ports.Answers (toPTable tab) 0 path rel tags w) ∧
    (only = true → ∀ w, Ports.Answers (toPTable tab) 0 path rel tags w → OnPath path ixr w)

end Rtosc.Walk
