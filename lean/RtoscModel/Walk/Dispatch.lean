/-
  C09 — what the correspondence harness observes when it sends a reported address back as
  a message: `Ports::dispatch` without a location buffer ("simple case": the callback of
  every row whose pattern `rtosc_match` accepts is called, src/cpp/ports.cpp) over C05's
  model of `rtosc_match`, together with the harness' own callbacks: a leaf callback
  records its port, the callback of a sub-tree port skips as many '/'-terminated
  components of the message as its name has and dispatches the rest to its sub-table.
  (Props/C09.lean states the dispatch clause about this model — `walked_address_dispatched` and
  its companions — and, level by level, about `rtosc_match_path` directly:
  `walked_address_dispatches`.)  No Mathlib import: linked into drv_walk.
-/
import RtoscModel.Walk.Model
namespace Rtosc.Walk
open Rtosc Rtosc.Path

/-- `while(*msg && *msg!='/') ++msg; msg = *msg ? msg+1 : msg;`, k times: the text of the
    macro `SNIP` (port-sugar.h) in the harness' callback.  (`Ports.snip`, Ports/Dispatch.lean, C04's model of
    `SNIP`, is the same loop: one step, `none` where the scan runs off the buffer.) -/
def snip : Nat → Bytes → Bytes
  | 0, m => m
  | k + 1, m =>
    let m1 := m.dropWhile (fun c => c != 0 && c != 47)
    snip k (match m1 with
      | 47 :: r => r
      | _ => m1)

/-- number of '/' in the name in front of ':' -/
def slashCount (name : Bytes) : Nat := ((lit name).filter (· == 47)).length

mutual
def dispList (path : List Nat) : List PortT → Nat → Bytes → Option (List (List Nat))
  | [], _, _ => some []
  | p :: r, i, m =>
    match dispPort path i p m with
    | none => none
    | some a =>
      match dispList path r (i + 1) m with
      | none => none
      | some b => some (a ++ b)
def dispPort (path : List Nat) (i : Nat) : PortT → Bytes → Option (List (List Nat))
  | .mk name _ hasPorts cs, m =>
    match Match.full (name ++ [0]) m with
    | none => none                                      -- the matcher leaves the message
    | some (false, _) => some []
    | some (true, _) =>
      if hasPorts then dispList (path ++ [i]) cs 0 (snip (slashCount name) m)
      else some [path ++ [i]]
end

/-- the message the harness builds for an address: `tags` with all-zero arguments -/
def zeroMsg (addr tags : Bytes) : Bytes :=
  Match.mkMsg addr tags (List.replicate ((tags.map Match.zeroArgSize).sum) 0)

/-- `ports.dispatch(msg, d, true)`: the leading '/' is skipped -/
def dispatchSim (tab : List PortT) (addr tags : Bytes) : Option (List (List Nat)) :=
  let m := zeroMsg addr tags
  dispList [] tab 0 (match m with
    | 47 :: r => r
    | _ => m)

end Rtosc.Walk
