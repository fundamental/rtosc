/-
  C09 — specification side: the port names the walk is specified for, the tree built
  from them, and `enumerate`, the list of `(leaf, concrete address)` the statement fixes.

  A port name is (Guide.adoc "Path Specifiers", generalised to several components as in
  test/walk-ports.cpp):

      head  #N1 text1  #N2 text2 …  #Nk textk  [ '/' ]  [ ':' types … ]

  `head` and the `text`s are literal text (any characters but NUL `# { * :`; they may
  contain '/'), the `N`s are decimal numbers.  `WName` keeps these pieces; `WName.toPat`
  is the same name as a pattern of C05, so that C05's `PathSpec` says what dispatch accepts.

  `enumerate` expands every `#N` to `0 … N-1`, leftmost enumeration outermost, ports in
  table order, a sub-tree before the next row.
-/
import RtoscModel.Walk.Model
import RtoscModel.Match.Spec
namespace Rtosc.Walk
open Rtosc Rtosc.Path Rtosc.Match

structure WName where
  head : Bytes                       -- text in front of the first '#'
  parts : List (Bytes × Bytes)       -- (digits of N, text behind it)
  slash : Bool                       -- trailing '/'
  types : Option (List Bytes)        -- `:t1:t2…`
deriving Repr, DecidableEq

def renderParts : List (Bytes × Bytes) → Bytes
  | [] => []
  | (ds, t) :: r => 35 :: ds ++ t ++ renderParts r

def slashIf (b : Bool) : Bytes := if b then [47] else []

/-- the name up to the type part -/
def WName.body (w : WName) : Bytes := w.head ++ renderParts w.parts ++ slashIf w.slash

/-- the port name as it stands in the table -/
def WName.render (w : WName) : Bytes := w.body ++ renderTypes w.types

def litSeg (t : Bytes) : List Seg := if t.isEmpty then [] else [.lit t]

def partSegs : List (Bytes × Bytes) → List Seg
  | [] => []
  | (ds, t) :: r => .enum ds :: litSeg t ++ partSegs r

/-- the same name as a pattern of C05 -/
def WName.toPat (w : WName) : Pat :=
  { segs := litSeg w.head ++ partSegs w.parts, sub := w.slash, types := w.types }

/-- all concrete spellings of `#N1 text1 … #Nk textk`, leftmost index most significant -/
def expandParts : List (Bytes × Bytes) → List Bytes
  | [] => [[]]
  | (ds, t) :: r =>
    (List.range (decVal ds)).flatMap fun i => (expandParts r).map fun a => natDigits i ++ t ++ a

/-- what `bundle_foreach` produces: only the first enumeration is expanded, the rest of the
    name is appended as it is (known finding C09-K1, acknowledged in test/walk-ports.cpp) -/
def expandFirst : List (Bytes × Bytes) → List Bytes
  | [] => [[]]
  | (ds, t) :: r => (List.range (decVal ds)).map fun i => natDigits i ++ t ++ renderParts r

/-- the port tree of the specification -/
inductive STree where
  | leaf (w : WName) (md : Option Bytes)
  | sub (w : WName) (md : Option Bytes) (kids : List STree)

mutual
def STree.toPort : STree → PortT
  | .leaf w md => .mk w.render md false []
  | .sub w md kids => .mk w.render md true (toPorts kids)
/-- the `rtosc::Ports` table -/
def toPorts : List STree → List PortT
  | [] => []
  | t :: r => t.toPort :: toPorts r
end

mutual
/-- rows `i, i+1, …` of a table whose address is `pre` and whose index path is `path` -/
def enumList (pre : Bytes) (path : List Nat) : List STree → Nat → List Call
  | [], _ => []
  | t :: r, i => enumTree pre (path ++ [i]) t ++ enumList pre path r (i + 1)
def enumTree (pre : Bytes) (ix : List Nat) : STree → List Call
  | .leaf w _ => (expandParts w.parts).map fun a => (ix, pre ++ w.head ++ a ++ slashIf w.slash)
  | .sub w _ kids =>
    (expandParts w.parts).flatMap fun a => enumList (pre ++ w.head ++ a ++ [47]) ix kids 0
end

/-- **the specification**: every leaf under every concrete address, in the order the
    property fixes; `pre` is the address of the table (ending in '/') -/
def enumerate (ts : List STree) (pre : Bytes) : List Call := enumList pre [] ts 0

mutual
/-- the same with `expandFirst` for leaves: what the code does (differs from `enumList` only
    on leaves with more than one '#') -/
def codeList (pre : Bytes) (path : List Nat) : List STree → Nat → List Call
  | [], _ => []
  | t :: r, i => codeTree pre (path ++ [i]) t ++ codeList pre path r (i + 1)
def codeTree (pre : Bytes) (ix : List Nat) : STree → List Call
  | .leaf w _ => (expandFirst w.parts).map fun a => (ix, pre ++ w.head ++ a ++ slashIf w.slash)
  | .sub w _ kids =>
    (expandParts w.parts).flatMap fun a => codeList (pre ++ w.head ++ a ++ [47]) ix kids 0
end

/-- number of concrete spellings of the enumerations of a name -/
def partsCount : List (Bytes × Bytes) → Nat
  | [] => 1
  | (ds, _) :: r => decVal ds * partsCount r

mutual
/-- number of (leaf, concrete address) pairs of a tree -/
def countList : List STree → Nat
  | [] => 0
  | t :: r => countTree t + countList r
def countTree : STree → Nat
  | .leaf w _ => partsCount w.parts
  | .sub w _ kids => partsCount w.parts * countList kids
end

/-! ### Well-formedness (decidable) -/

def textOk (t : Bytes) : Bool := t.all litChar

def startsWithDigit : Bytes → Bool
  | c :: _ => Match.isDigit c
  | [] => false

/-- `N`: non-empty, decimal, below 2^31 -/
def numOk (ds : Bytes) : Bool := !ds.isEmpty && ds.all Match.isDigit && decide (decVal ds < 2 ^ 31)

/-- the `(N, text)` pieces: numbers well formed, text literal and not beginning with a
    digit (it would read as part of N), and non-empty unless it is the last one (two
    adjacent enumerations cannot be told apart in an address) -/
def partsOk : List (Bytes × Bytes) → Bool
  | [] => true
  | [(ds, t)] => numOk ds && textOk t && !startsWithDigit t
  | (ds, t) :: p :: r => numOk ds && textOk t && !startsWithDigit t && !t.isEmpty && partsOk (p :: r)

/-- the last piece of literal text of the name -/
def WName.lastText (w : WName) : Bytes :=
  match w.parts.getLast? with
  | some (_, t) => t
  | none => w.head

/-- the type part: non-empty list of alternatives without NUL, ':' and '#' -/
def typesOk : Option (List Bytes) → Bool
  | none => true
  | some ts => !ts.isEmpty && ts.all fun t => t.all fun c => tagChar c && c != 35

/-- a name of the form described above; without the trailing '/' the last text does not
    end in '/' (that '/' *is* the trailing '/') -/
def WName.ok (w : WName) : Bool :=
  textOk w.head && partsOk w.parts && typesOk w.types &&
  (w.slash || w.lastText.getLast? != some 47)

/-- a leaf name: nothing beyond `ok` (that it is not empty in front of a type part is `LeavesNamed`,
    Walk/DispatchSpec.lean, a separate hypothesis of the dispatch clause) -/
def WName.leafOk (w : WName) : Bool := w.ok

/-- a sub-tree name: begins with text, ends in '/', every N is at least 1 -/
def WName.subOk (w : WName) : Bool :=
  w.ok && !w.head.isEmpty && w.slash && w.parts.all fun p => decide (1 ≤ decVal p.1)

mutual
def STree.wf : STree → Bool
  | .leaf w _ => w.leafOk
  | .sub w _ kids => w.subOk && wfList kids
def wfList : List STree → Bool
  | [] => true
  | t :: r => t.wf && wfList r
end

/-- "all generated port trees": every name of the documented form -/
def TreeWF (ts : List STree) : Prop := wfList ts = true

instance (ts : List STree) : Decidable (TreeWF ts) := by unfold TreeWF; infer_instance

mutual
/-- trigger predicate of known finding C09-K1: some leaf name has more than one '#' -/
def STree.multiHashLeaf : STree → Bool
  | .leaf w _ => decide (2 ≤ w.parts.length)
  | .sub _ _ kids => multiHashLeafList kids
def multiHashLeafList : List STree → Bool
  | [] => false
  | t :: r => t.multiHashLeaf || multiHashLeafList r
end

/-! ### Dispatch of a reported address (stated with C05's model of `rtosc_match_path`) -/

/-- `rtosc_match_path(name, msg, …) != NULL` where `msg` holds the C string `a` followed by
    whatever else the message contains (`ex`) -/
def Accepts (name a ex : Bytes) : Prop := ∃ r, Match.path (name ++ [0]) (a ++ 0 :: ex) = .ok r

/-- Level by level: the row of the index path accepts what is left of the address, no other
    row of the same table does, and for a sub-tree port `*path_end` is where the sub-table's
    part of the address starts.  (`Ports::dispatch` calls the callback of every row whose
    pattern accepts the message; the callback of a sub-tree port dispatches the rest to its
    sub-table.) -/
def Delivers (only : Bool) (ex : Bytes) : List Nat → List PortT → Bytes → Prop
  | [], _, _ => False
  | [i], ps, a =>
    ∃ p, ps[i]? = some p ∧ p.hasPorts = false ∧ Accepts p.name a ex ∧
      (only = true → ∀ j q, j ≠ i → ps[j]? = some q → ¬ Accepts q.name a ex)
  | i :: j :: ix, ps, a =>
    ∃ p tp rest, ps[i]? = some p ∧ p.hasPorts = true ∧
      Match.path (p.name ++ [0]) (a ++ 0 :: ex) = .ok (tp, rest ++ 0 :: ex) ∧
      (only = true → ∀ j' q, j' ≠ i → ps[j']? = some q → ¬ Accepts q.name a ex) ∧
      Delivers only ex (j :: ix) p.children rest

def STree.name : STree → WName
  | .leaf w _ => w
  | .sub w _ _ => w

/-- no address is spelled by both names -/
def Apart (w v : WName) : Prop := ∀ a, ¬ (PathSpec w.toPat a ∧ PathSpec v.toPat a)

mutual
/-- in every table of the tree, no two rows answer to a common address -/
def SiblingsApart : List STree → Prop
  | ts => (∀ (i j : Nat) (t u : STree), i ≠ j → ts[i]? = some t → ts[j]? = some u → Apart t.name u.name) ∧ kidsApart ts
def kidsApart : List STree → Prop
  | [] => True
  | .leaf _ _ :: r => kidsApart r
  | .sub _ _ kids :: r => SiblingsApart kids ∧ kidsApart r
end

/-- decidable sufficient condition for `Apart`: the texts in front of the first '#' are not
    prefixes of one another -/
def headsApart (w v : WName) : Bool := !(w.head.isPrefixOf v.head) && !(v.head.isPrefixOf w.head)

/-! ### Runtime pruning -/

/-- the value of the port's "enabled by" property (C17's reader); `none`: no such property -/
def guardOf (md : Option Bytes) : Option Bytes :=
  match Meta.portMeta md with
  | none => none
  | some m =>
    match Meta.lookup m ENABLED_BY with
    | some (some ep) => some ep
    | _ => none

/-- the metadata block is readable and has no "enabled by" entry -/
def unguarded (md : Option Bytes) : Bool :=
  match Meta.portMeta md with
  | none => false
  | some m =>
    match Meta.lookup m ENABLED_BY with
    | some none => true
    | _ => false

mutual
def STree.noGuards : STree → Bool
  | .leaf _ md => unguarded md
  | .sub _ md kids => unguarded md && NoGuards kids
/-- no port of the tree carries an "enabled by" property -/
def NoGuards : List STree → Bool
  | [] => true
  | t :: r => t.noGuards && NoGuards r
end

mutual
def definedList (rt : Option Obj) : List STree → Bool
  | [] => true
  | t :: r => definedTree rt t && definedList rt r
def definedTree (rt : Option Obj) : STree → Bool
  | .leaf _ _ => true
  | .sub w _ kids =>
    match rt with
    | none => true
    | some obj =>
      (expandParts w.parts).all fun a =>
        match obj.kid (w.head ++ a ++ [47]) with
        | none => false
        | some none => true
        | some (some c) => definedList (some c) kids
end

/-- the runtime object says, for every sub-tree port the walk asks about, whether its child
    object is NULL or which object it is -/
def RuntimeDefined (ts : List STree) (rt : Option Obj) : Prop := definedList rt ts = true

instance (ts : List STree) (rt : Option Obj) : Decidable (RuntimeDefined ts rt) := by
  unfold RuntimeDefined; infer_instance

mutual
/-- `codeList` without the sub-trees whose object pointer is NULL; below a visited sub-tree
    port the walk goes on with that port's child object -/
def prunedList (pre : Bytes) (path : List Nat) (rt : Option Obj) : List STree → Nat → List Call
  | [], _ => []
  | t :: r, i => prunedTree pre (path ++ [i]) rt t ++ prunedList pre path rt r (i + 1)
def prunedTree (pre : Bytes) (ix : List Nat) (rt : Option Obj) : STree → List Call
  | .leaf w _ => (expandFirst w.parts).map fun a => (ix, pre ++ w.head ++ a ++ slashIf w.slash)
  | .sub w _ kids =>
    (expandParts w.parts).flatMap fun a =>
      match rt with
      | none => prunedList (pre ++ w.head ++ a ++ [47]) ix none kids 0
      | some obj =>
        match obj.kid (w.head ++ a ++ [47]) with
        | some (some c) => prunedList (pre ++ w.head ++ a ++ [47]) ix (some c) kids 0
        | _ => []
end

/-- the test of a table's own `self:` port in front of its rows: if it is switched off, only
    the enabling toggle itself is reported (ports.cpp: "an enabling port must always be
    traversed") -/
def tableGate (tab : List PortT) (path : List Nat) (pre : Bytes) (rt : Option Obj) (body : List Call) : List Call :=
  match rt with
  | none => body
  | some obj =>
    match (index tab SELF).bind (tab[·]?) with
    | none => body
    | some sp =>
      match guardOf sp.metadata with
      | none => body
      | some ep =>
        if obj.toggle ep == some true then body
        else match index tab ep with
          | some k => [(path ++ [k], pre ++ ep)]
          | none => []

mutual
/-- the full pruning clause: NULL pointers and "enabled by" toggles (a sub-tree port's toggle
    is a row of the same table; a table's own toggle is named by its `self:` port) -/
def fullList (pre : Bytes) (path : List Nat) (rt : Option Obj) : List STree → Nat → List Call
  | [], _ => []
  | t :: r, i => fullTree pre (path ++ [i]) rt t ++ fullList pre path rt r (i + 1)
def fullTree (pre : Bytes) (ix : List Nat) (rt : Option Obj) : STree → List Call
  | .leaf w _ => (expandParts w.parts).map fun a => (ix, pre ++ w.head ++ a ++ slashIf w.slash)
  | .sub w md kids =>
    (expandParts w.parts).flatMap fun a =>
      match rt with
      | none => fullList (pre ++ w.head ++ a ++ [47]) ix none kids 0
      | some obj =>
        match obj.kid (w.head ++ a ++ [47]) with
        | some (some c) =>
          let below := tableGate (toPorts kids) ix (pre ++ w.head ++ a ++ [47]) (some c)
            (fullList (pre ++ w.head ++ a ++ [47]) ix (some c) kids 0)
          match guardOf md with
          | none => below
          | some ep =>
            -- the toggle is a row of the sub-tree's own table ("name/toggle") or of this one
            let (sub, e) := subportScan w.render ep
            if sub then
              if c.toggle (e.drop 1) == some true then below
              else match index (toPorts kids) (e.drop 1) with
                | some k => [(ix ++ [k], pre ++ w.head ++ a ++ [47] ++ e.drop 1)]
                | none => []
            else if obj.toggle ep == some true then below else []
        | _ => []
end

def prunedFull (pre : Bytes) (path : List Nat) (tab : List PortT) (ts : List STree) (rt : Option Obj) : List Call :=
  tableGate tab path pre rt (fullList pre path rt ts 0)

/-! ### When `port_is_enabled` is defined (side conditions of the pruning clause, decidable) -/

/-- an ordinary path component: no NUL, no '/', not ".."; the decidable form of `CompOk`
    (Walk/PropsSpec.lean; `compOk_of_B`, Proofs/WalkGuard.lean) -/
def compOkB (c : Bytes) : Bool := c.all (fun x => x != 0 && x != 47) && c != DOTDOT

/-- the metadata block is readable (with or without an "enabled by" entry) -/
def metaOk (md : Option Bytes) : Bool := unguarded md || (guardOf md).isSome

/-- `ep` is one path component and names a row of `tab` (up to the row's ':'); the runtime
    object defines what that port answers -/
def toggleOk (tab : List PortT) (obj : Obj) (ep : Bytes) : Bool :=
  compOkB ep &&
  match index tab ep with
  | none => false
  | some k =>
    match tab[k]? with
    | none => false
    | some ask => lit ask.name == ep && (obj.toggle ep).isSome

/-- the table's own `self:` port, if it has one, is readable and its guard names a row of the table -/
def selfOk (tab : List PortT) (obj : Obj) : Bool :=
  match (index tab SELF).bind (tab[·]?) with
  | none => true
  | some sp =>
    metaOk sp.metadata &&
    match guardOf sp.metadata with
    | none => true
    | some ep => toggleOk tab obj ep

/-- a sub-tree name of one path component (`"../"` in `port_is_enabled` removes one component;
    what the `rRecur*` macros generate) -/
def flatName (w : WName) : Bool :=
  w.head.all (· != 47) && w.parts.all (fun p => p.2.all (· != 47)) && w.head != DOTDOT

/-- the guard of the sub-tree port in row `i` of `base`: a row of `base` (asked on `obj`), or —
    `name/port`, for a name without '#' that is found in its own row — a row of the sub-table
    (asked on the sub-tree's object `child`) -/
def subGuardOk (base : List PortT) (obj : Obj) (i : Nat) (w : WName) (md : Option Bytes) (sub : List PortT)
    (child : Obj) : Bool :=
  match guardOf md with
  | none => true
  | some ep =>
    if ep.contains 47 then
      w.parts.isEmpty && index base w.render == some i &&
      ep.take (w.head.length + 1) == w.head ++ [47] && toggleOk sub child (ep.drop (w.head.length + 1))
    else toggleOk base obj ep

mutual
def guardsList (base : List PortT) (obj : Obj) : List STree → Nat → Bool
  | [], _ => true
  | t :: r, i => guardsTree base obj i t && guardsList base obj r (i + 1)
/-- row `i` of the table `base` walked with the object `obj` -/
def guardsTree (base : List PortT) (obj : Obj) (i : Nat) : STree → Bool
  | .leaf _ _ => true
  | .sub w md kids =>
    flatName w && metaOk md &&
    (expandParts w.parts).all fun a =>
      match obj.kid (w.head ++ a ++ [47]) with
      | none => false
      | some none => true
      | some (some c) =>
        subGuardOk base obj i w md (toPorts kids) c && selfOk (toPorts kids) c && guardsList (toPorts kids) c kids 0
end

/-- the runtime object defines the child object (or NULL) of every sub-tree port and the answer
    of every enabling port; every "enabled by" names a port where `port_is_enabled` looks for it -/
def GuardsOK (ts : List STree) (obj : Obj) : Prop :=
  selfOk (toPorts ts) obj = true ∧ guardsList (toPorts ts) obj ts 0 = true

instance (ts : List STree) (obj : Obj) : Decidable (GuardsOK ts obj) := by unfold GuardsOK; infer_instance

/-! ### Buffer size -/

def maxLen : List Bytes → Nat
  | [] => 0
  | a :: r => max a.length (maxLen r)

mutual
/-- length of the longest string the walk writes behind the table's address -/
def STree.need : STree → Nat
  | .leaf w _ => w.head.length + maxLen (expandFirst w.parts) + (slashIf w.slash).length
  | .sub w _ kids => w.head.length + maxLen (expandParts w.parts) + 1 + needList kids
def needList : List STree → Nat
  | [] => 0
  | t :: r => max t.need (needList r)
end

/-- an address prefix: non-empty and without NUL -/
def PrefixOk (pre : Bytes) : Prop := pre ≠ [] ∧ ∀ c ∈ pre, c ≠ 0

end Rtosc.Walk
