/-
  C09 — specification side of the dispatch clause ("every reported address, sent as a
  message, is dispatched to the very port it was reported with"), stated against the model
  of `Ports::dispatch` that the correspondence driver runs (`dispatchSim`, Walk/Dispatch.lean).

  * `tagsAdmitted ty tags`: the type rule of C05 (`types_exact`) for one port — no type part,
    or the type string is one of the alternatives, or it extends the last alternative (which
    is not empty).
  * `typesAlong ix ts`: the type parts of the ports on the index path `ix`, root first —
    the sub-tree ports on the way (`rtosc_match` checks *their* type part against the same
    message) and the reported leaf.
  * `admittedAlong tags ix ts`: every one of them admits `tags`.
  * `LeavesNamed ts`: no leaf name is empty in front of a type part (`:i` as a whole name).
    Such a leaf below a sub-tree is reported under the sub-tree's own address ("/a/"), and
    `rtosc_argument_string` applied to the empty rest of that address skips its first byte
    unseen: it takes the type string for the address (`dispatch_empty_leaf_counterexample`
    in Props/C09.lean).
  No Mathlib import.
-/
import RtoscModel.Walk.Spec
import RtoscModel.Walk.Dispatch
namespace Rtosc.Walk
open Rtosc Rtosc.Path Rtosc.Match

/-- C05's type rule for one port (`types_exact`): the decidable form of `Match.TypesCode`
    (Match/SpecExt.lean) and of `Ports.TypesAdmit` (Ports/Spec.lean), which say the same of a pattern
    (`tagsAdmitted_iff`, Proofs/WalkSim.lean) -/
def tagsAdmitted (ty : Option (List Bytes)) (tags : Bytes) : Bool :=
  match ty with
  | none => true
  | some ts =>
    ts.contains tags ||
    match ts.getLast? with
    | some l => !l.isEmpty && l.isPrefixOf tags
    | none => false

/-- the type parts of the ports on an index path, root first -/
def typesAlong : List Nat → List STree → List (Option (List Bytes))
  | [], _ => []
  | i :: ix, ts =>
    match ts[i]? with
    | none => []
    | some (.leaf w _) => [w.types]
    | some (.sub w _ kids) => w.types :: typesAlong ix kids

/-- every port on the index path — sub-tree ports included — admits the type string -/
def admittedAlong (tags : Bytes) (ix : List Nat) (ts : List STree) : Bool :=
  (typesAlong ix ts).all (tagsAdmitted · tags)

/-- a leaf name that is not just a type part -/
def WName.named (w : WName) : Bool := !(w.head.isEmpty && w.parts.isEmpty && !w.slash && w.types.isSome)

mutual
def STree.named : STree → Bool
  | .leaf w _ => w.named
  | .sub _ _ kids => namedList kids
def namedList : List STree → Bool
  | [] => true
  | t :: r => t.named && namedList r
end

/-- no leaf name is empty in front of a type part -/
def LeavesNamed (ts : List STree) : Prop := namedList ts = true

instance (ts : List STree) : Decidable (LeavesNamed ts) := by unfold LeavesNamed; infer_instance

mutual
def STree.subsUntyped : STree → Bool
  | .leaf _ _ => true
  | .sub w _ kids => w.types.isNone && subsUntypedList kids
def subsUntypedList : List STree → Bool
  | [] => true
  | t :: r => t.subsUntyped && subsUntypedList r
end

/-- no sub-tree port declares argument types (what `rRecur*` generate) -/
def SubsUntyped (ts : List STree) : Prop := subsUntypedList ts = true

instance (ts : List STree) : Decidable (SubsUntyped ts) := by unfold SubsUntyped; infer_instance

/-- the leaf name at the end of an index path -/
def leafAt : List Nat → List STree → Option WName
  | [], _ => none
  | i :: ix, ts =>
    match ts[i]? with
    | none => none
    | some (.leaf w _) => if ix.isEmpty then some w else none
    | some (.sub _ _ kids) => leafAt ix kids

/-- rows with pairwise prefix-unrelated heads (`headsApart`) -/
def pairwiseHeads : List STree → Bool
  | [] => true
  | t :: r => r.all (fun u => headsApart t.name u.name) && pairwiseHeads r

mutual
def headsOkList : List STree → Bool
  | [] => true
  | t :: r => t.headsOk && headsOkList r
def STree.headsOk : STree → Bool
  | .leaf _ _ => true
  | .sub _ _ kids => pairwiseHeads kids && headsOkList kids
end

/-- decidable sufficient condition for `SiblingsApart`: in every table the texts in front of the
    first '#' are pairwise not prefixes of one another -/
def HeadsApart (ts : List STree) : Prop := (pairwiseHeads ts && headsOkList ts) = true

instance (ts : List STree) : Decidable (HeadsApart ts) := by unfold HeadsApart; infer_instance

/-- what follows the (rest of the) address in a message buffer: `k` further padding NULs, the
    type string behind its ',', its terminator, the rest of the buffer; the same function as
    `Ports.msgTail` (Ports/DispatchSpec.lean, C04's specification, which this file does not import) -/
def tailOf (k : Nat) (tags rest : Bytes) : Bytes := List.replicate k 0 ++ 44 :: (tags ++ 0 :: rest)

end Rtosc.Walk
