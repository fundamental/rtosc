/-
  C01 / C06 / C07 / C08 — model of the length-from-bytes functions of src/rtosc.c:
    deref, bundle_ring_length, rtosc_message_ring_length, rtosc_message_length.

  * A ring is two memory segments; `deref` is the only read primitive and is bounds
    checked *by the code itself* (it yields 0 outside both segments), which the model
    states with proof-carrying indices — no read is defaulted by the model.
  * `unsigned pos` and `uint32_t` arithmetic wrap modulo 2^32 explicitly (`u32`, `usub`).
  * Loops run on fuel; exhaustion (`none`) means the real loop does not stop within
    `fuel` rounds.  `Ring.fuel` (total size + 2) is enough whenever `pos` does not wrap.
  * Mirrors the code after fixes C07-blob-len, C07-bundle-len, C07-empty-string-size,
    C06-bundle-length-wrap.
-/
import RtoscModel.Osc.Read
namespace Rtosc.Osc
open Rtosc

/-- `ring_t ring[2]` -/
structure Ring where
  d0 : Bytes
  d1 : Bytes
deriving DecidableEq, Repr

def Ring.total (r : Ring) : Nat := r.d0.length + r.d1.length

def Ring.fuel (r : Ring) : Nat := r.total + 2

/-- `deref(pos, ring)` (rtosc.c:548) -/
def Ring.deref (r : Ring) (pos : Nat) : UInt8 :=
  if h : pos < r.d0.length then r.d0[pos]
  else if h' : pos - r.d0.length < r.d1.length then r.d1[pos - r.d0.length]
  else 0

/-- `a - b` on `unsigned` -/
def usub (a b : Nat) : Nat := (a + 4294967296 - b % 4294967296) % 4294967296

/-- `while(deref(pos,ring)) ++pos;` : first position `≥ pos` whose byte is 0 -/
def scanNul (r : Ring) : Nat → Nat → Option Nat
  | 0, _ => none
  | f + 1, pos => if r.deref pos = 0 then some pos else scanNul r f (u32 (pos + 1))

/-- `for(int i=0; i<4; ++i) if(deref(++pos, ring)) break;` -/
def nullWord (r : Ring) : Nat → Nat → Nat
  | 0, pos => pos
  | k + 1, pos =>
    let pos := u32 (pos + 1)
    if r.deref pos ≠ 0 then pos else nullWord r k pos

/-- the bytes `deref(p), deref(p+1), …` up to the first 0 (the type tags) -/
def tagsFrom (r : Ring) : Nat → Nat → Option Bytes
  | 0, _ => none
  | f + 1, p =>
    let c := r.deref p
    if c = 0 then some [] else (tagsFrom r f (u32 (p + 1))).map (c :: ·)

def Ring.rd32 (r : Ring) (pos : Nat) : UInt32 :=
  get32 (r.deref pos) (r.deref (u32 (pos + 1))) (r.deref (u32 (pos + 2))) (r.deref (u32 (pos + 3)))

/-- the `while(toparse)` loop of `rtosc_message_ring_length` *and* the final
    `return pos <= total ? pos : 0`; `tags` are the bytes `deref(arguments++)` will deliver.
    After fixes C07-blob-len / C07-empty-string-size: the loop returns 0 as soon as `pos` has
    left the ring or a blob does not fit into the remaining bytes (so `pos` cannot wrap), and a
    string is measured from its first byte (`while(deref(pos,ring)) ++pos;`). -/
def lenLoop (r : Ring) (aligned : Nat) : Nat → Bytes → Nat → Option Nat
  | 0, _, pos => some (if pos ≤ r.total then pos else 0)
  | _ + 1, [], pos => if pos > r.total then some 0 else none
  | tp + 1, t :: ts, pos =>
    if pos > r.total then some 0                            -- if(pos > total) return 0;
    else if t = 104 ∨ t = 116 ∨ t = 100 then lenLoop r aligned tp ts (u32 (pos + 8))
    else if t = 109 ∨ t = 114 ∨ t = 99 ∨ t = 102 ∨ t = 105 then
      lenLoop r aligned tp ts (u32 (pos + 4))
    else if t = 83 ∨ t = 115 then
      match scanNul r r.fuel pos with                        -- while(deref(pos,ring)) ++pos;
      | none => none
      | some p => lenLoop r aligned tp ts (u32 (p + (4 - usub p aligned % 4)))
    else if t = 98 then
      let i := (r.rd32 pos).toNat
      let pos := u32 (pos + 4)
      if pos > r.total ∨ i > r.total - pos then some 0       -- the blob has to fit
      else
        let pos := u32 (pos + i)
        let pos := if usub pos aligned % 4 ≠ 0 then u32 (pos + (4 - usub pos aligned % 4)) else pos
        lenLoop r aligned tp ts pos
    else lenLoop r aligned (tp + 1) ts pos

/-- the `do … while(advance)` loop of `bundle_ring_length` and its final
    `return pos <= total ? pos : 0` (after fix C07-bundle-len: 0 as soon as `pos` has left the
    ring or an element does not fit into the remaining bytes; after fix C06-bundle-length-wrap:
    0 as well when the end of the element, `(uint64_t)pos+4+advance`, is no `unsigned` position,
    so that `pos += 4+advance` never wraps and `pos` strictly increases) -/
def bundleLoop (r : Ring) : Nat → Nat → Option Nat
  | 0, _ => none
  | f + 1, pos =>
    if pos > r.total then some 0
    else
      let advance := (r.rd32 pos).toNat
      if advance > r.total - pos ∨ (advance ≠ 0 ∧ pos + 4 + advance > 4294967295) then some 0
      else if advance ≠ 0 then bundleLoop r f (u32 (pos + u32 (4 + advance)))
      else some (if pos ≤ r.total then pos else 0)

/-- `bundle_ring_length` (rtosc.c:554) -/
def bundleRingLength (r : Ring) : Option Nat := bundleLoop r r.fuel 16

def bundleMagic : Bytes := [35, 98, 117, 110, 100, 108, 101, 0]    -- "#bundle\0"

/-- `rtosc_message_ring_length` (rtosc.c:581).  `none`: a loop ran out of fuel. -/
def ringLength (r : Ring) : Option Nat :=
  if (List.range 8).map r.deref = bundleMagic then bundleRingLength r
  else
    match scanNul r r.fuel 0 with                    -- while(deref(pos++,ring)); pos--;
    | none => none
    | some pos =>
      let pos := nullWord r 4 pos
      if r.deref pos ≠ 44 then some 0
      else
        let aligned := pos
        let arguments := u32 (pos + 1)
        match scanNul r r.fuel (u32 (pos + 1)) with  -- while(deref(++pos,ring));
        | none => none
        | some pos =>
          let pos := u32 (pos + (4 - usub pos aligned % 4))
          match tagsFrom r r.fuel arguments with
          | none => none
          | some tags =>
            lenLoop r aligned (nreserved tags) tags pos

/-- `rtosc_message_length(msg, len)`; `m` is the block of `len` bytes at `msg`. -/
def messageLength (m : Bytes) : Option Nat := ringLength ⟨m, []⟩

end Rtosc.Osc
