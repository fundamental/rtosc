/-
  C01 / C07 — model of the message readers of src/rtosc.c:
    rtosc_argument_string, rtosc_narguments, rtosc_type, arg_start, arg_size, arg_off,
    extract_arg, rtosc_argument, advance_past_dummy_args, rtosc_itr_begin/next/end.

  Conventions
  * The message is the memory block `m : Bytes` (exactly the bytes the caller owns); a
    pointer into it is an offset.  Every byte is read with `m[p]?`; running off the end of
    `m` makes the whole function return `none` ("out-of-bounds read") — a read is never
    defaulted.  `none` is therefore the model's prediction that the real code reads
    outside the block.
  * Values that the C code returns as `unsigned` are reduced modulo 2^32 (`u32`); pointer
    arithmetic is on 64-bit pointers and is not reduced.
  * `rtosc_narguments` is modelled after fix `fixes/C01-narguments.patch`; `arg_start`,
    `arg_off` and the string case of `arg_size` after `fixes/C07-argstart-empty-typestring.patch`
    and `fixes/C07-empty-string-size.patch` (sizes are measured from the first byte).
-/
import RtoscModel.Osc.Encode
namespace Rtosc.Osc
open Rtosc

/-- index of the first NUL byte (`none`: there is none, the scan leaves the block) -/
def nulIdx : Bytes → Option Nat
  | [] => none
  | b :: r => if b = 0 then some 0 else (nulIdx r).map (· + 1)

/-- index of the first non-NUL byte -/
def nonNulIdx : Bytes → Option Nat
  | [] => none
  | b :: r => if b ≠ 0 then some 0 else (nonNulIdx r).map (· + 1)

/-- `while(*++p);` — from offset `p` to the first NUL at an offset `> p` -/
def skipToNul (m : Bytes) (p : Nat) : Option Nat :=
  (nulIdx (m.drop (p + 1))).map (· + (p + 1))

/-- `while(!*++p);` — from offset `p` to the first non-NUL at an offset `> p` -/
def skipNuls (m : Bytes) (p : Nat) : Option Nat :=
  (nonNulIdx (m.drop (p + 1))).map (· + (p + 1))

/-- `while(*p) ++p;` — from offset `p` to the first NUL at an offset `≥ p` -/
def scanToNul (m : Bytes) (p : Nat) : Option Nat :=
  (nulIdx (m.drop p)).map (· + p)

/-- `rtosc_argument_string` (rtosc.c:18): offset of the first type tag. -/
def argString (m : Bytes) : Option Nat :=
  match skipToNul m 0 with                -- while(*++msg);   skip pattern
  | none => none
  | some p =>
    match skipNuls m p with               -- while(!*++msg);  skip null
    | none => none
    | some q => some (q + 1)              -- skip comma

/-- the counting loop of `rtosc_narguments` (repaired: tests the *current* character) -/
def countArgs : Bytes → Option Nat
  | [] => none
  | c :: r =>
    if c = 0 then some 0
    else (countArgs r).map (· + (if c = 93 ∨ c = 91 then 0 else 1))

/-- `rtosc_narguments` (rtosc.c:26) -/
def narguments (m : Bytes) : Option Nat :=
  match argString m with
  | none => none
  | some a => (countArgs (m.drop a)).map u32

/-- the loop of `rtosc_type`, on the memory from `arg` on -/
def typeLoop : Bytes → Nat → Option UInt8
  | [], _ => none
  | c :: r, n =>
    if c = 91 ∨ c = 93 then typeLoop r n
    else if n = 0 ∨ c = 0 then some c
    else typeLoop r (n - 1)

/-- `rtosc_type` (rtosc.c:74) -/
def typeAt (m : Bytes) (n : Nat) : Option UInt8 :=
  match argString m with
  | none => none
  | some a => typeLoop (m.drop a) n

/-- the pointer computed by `arg_start` / the first lines of `arg_off`
    (after fix C07-argstart-empty-typestring):
    `arg_pos = args; while(*arg_pos) ++arg_pos; arg_pos += 4-(arg_pos-aligned_ptr)%4;` -/
def argBase (m : Bytes) (args : Nat) : Option Nat :=
  match scanToNul m args with
  | none => none
  | some p => some (p + (4 - (p - (args - 1)) % 4))

/-- `arg_start` (rtosc.c:88) -/
def argStart (m : Bytes) : Option Nat :=
  match argString m with
  | none => none
  | some a => (argBase m a).map u32

/-- `(b0<<24) | (b1<<16) | (b2<<8) | b3` -/
def get32 (b0 b1 b2 b3 : UInt8) : UInt32 :=
  (b0.toUInt32 <<< 24) ||| (b1.toUInt32 <<< 16) ||| (b2.toUInt32 <<< 8) ||| b3.toUInt32

def get64 (b0 b1 b2 b3 b4 b5 b6 b7 : UInt8) : UInt64 :=
  (b0.toUInt64 <<< 56) ||| (b1.toUInt64 <<< 48) ||| (b2.toUInt64 <<< 40) ||| (b3.toUInt64 <<< 32) |||
  (b4.toUInt64 <<< 24) ||| (b5.toUInt64 <<< 16) ||| (b6.toUInt64 <<< 8) ||| b7.toUInt64

/-- four bytes at offset `p`, big-endian -/
def rd32 (m : Bytes) (p : Nat) : Option UInt32 :=
  match m[p]?, m[p + 1]?, m[p + 2]?, m[p + 3]? with
  | some b0, some b1, some b2, some b3 => some (get32 b0 b1 b2 b3)
  | _, _, _, _ => none

def rd64 (m : Bytes) (p : Nat) : Option UInt64 :=
  match m[p]?, m[p + 1]?, m[p + 2]?, m[p + 3]?, m[p + 4]?, m[p + 5]?, m[p + 6]?, m[p + 7]? with
  | some b0, some b1, some b2, some b3, some b4, some b5, some b6, some b7 =>
    some (get64 b0 b1 b2 b3 b4 b5 b6 b7)
  | _, _, _, _, _, _, _, _ => none

/-- `arg_size(arg_mem, type)` (rtosc.c:102), `arg_mem = m + p`; result as `unsigned`. -/
def argSize (m : Bytes) (p : Nat) (t : UInt8) : Option Nat :=
  if !hasReserved t then some 0
  else if t = 104 ∨ t = 116 ∨ t = 100 then some 8
  else if t = 109 ∨ t = 114 ∨ t = 102 ∨ t = 99 ∨ t = 105 then some 4
  else if t = 83 ∨ t = 115 then
    match scanToNul m p with                       -- while(*arg_pos) ++arg_pos;
    | none => none
    | some q => some (u32 (q - p + (4 - (q - p) % 4)))
  else if t = 98 then
    match rd32 m p with
    | none => none
    | some len =>
      let bl := len.toNat
      let bl := if bl % 4 ≠ 0 then u32 (bl + (4 - bl % 4)) else bl   -- uint32_t blob_length
      some (u32 (4 + bl))
  else some 4294967295                             -- `return -1` (not reachable)

/-- number of leading `[`/`]` bytes (`advance_past_dummy_args`) -/
def bracketRun : Bytes → Option Nat
  | [] => none
  | c :: r => if c = 91 ∨ c = 93 then (bracketRun r).map (· + 1) else some 0

/-- `advance_past_dummy_args(m + p)` as an offset -/
def advancePast (m : Bytes) (p : Nat) : Option Nat :=
  (bracketRun (m.drop p)).map (· + p)

/-- the `while(idx--)` loop of `arg_off`; `tags` is the memory from `args` on,
    `pos` the offset `arg_pos - msg`. -/
def offLoop (m : Bytes) : Bytes → Nat → Nat → Option Nat
  | _, 0, pos => some pos
  | [], _ + 1, _ => none
  | c :: r, idx + 1, pos =>
    if c = 91 ∨ c = 93 then offLoop m r (idx + 1) pos     -- idx++ : not a valid arg idx
    else
      match argSize m pos c with
      | none => none
      | some s => offLoop m r idx (pos + s)

/-- `arg_off` (rtosc.c:140) -/
def argOff (m : Bytes) (idx : Nat) : Option Nat :=
  match typeAt m idx with
  | none => none
  | some t =>
    if !hasReserved t then some 0
    else
      match argString m with
      | none => none
      | some a =>
        match argBase m a, advancePast m a with
        | some pos, some a' => (offLoop m (m.drop a') idx pos).map u32
        | _, _ => none

/-- The `rtosc_arg_t` a reader gets back; pointers are offsets into the message. -/
inductive CVal where
  | zero                                -- the zero-initialised union (N, I, …)
  | tf (b : Bool)                       -- .T
  | w32 (v : UInt32)
  | w64 (v : UInt64)
  | midi (a b c d : UInt8)
  | str (off : Nat)                     -- .s
  | blob (len : UInt32) (off : Nat)     -- .b.len (int32 bit pattern), .b.data
deriving DecidableEq, Repr

/-- `extract_arg(m + p, type)` (rtosc.c:439) -/
def extractArg (m : Bytes) (p : Nat) (t : UInt8) : Option CVal :=
  if !hasReserved t then
    if t = 84 then some (.tf true) else if t = 70 then some (.tf false) else some .zero
  else if t = 104 ∨ t = 116 ∨ t = 100 then (rd64 m p).map .w64
  else if t = 114 ∨ t = 102 ∨ t = 99 ∨ t = 105 then (rd32 m p).map .w32
  else if t = 109 then
    match m[p]?, m[p + 1]?, m[p + 2]?, m[p + 3]? with
    | some a, some b, some c, some d => some (.midi a b c d)
    | _, _, _, _ => none
  else if t = 98 then (rd32 m p).map (fun len => .blob len (p + 4))
  else if t = 83 ∨ t = 115 then some (.str p)
  else some .zero

/-- `rtosc_argument` (rtosc.c:541) -/
def argument (m : Bytes) (idx : Nat) : Option CVal :=
  match typeAt m idx, argOff m idx with
  | some t, some off => extractArg m off t
  | _, _ => none

/-- `rtosc_arg_itr_t` -/
structure Itr where
  typePos : Nat
  valuePos : Nat
deriving DecidableEq, Repr

/-- `rtosc_itr_begin` (rtosc.c:509) -/
def itrBegin (m : Bytes) : Option Itr :=
  match argString m with
  | none => none
  | some a =>
    match advancePast m a, argStart m with
    | some tp, some vp => some ⟨tp, vp⟩
    | _, _ => none

/-- `rtosc_itr_next` (rtosc.c:518): the (type, value) pair and the advanced iterator.
    `int size = arg_size(..)`: a size `≥ 2^31` turns negative and moves `value_pos`
    backwards; if that leaves the block the result is `none`. -/
def itrNext (m : Bytes) (it : Itr) : Option ((UInt8 × CVal) × Itr) :=
  match m[it.typePos]? with
  | none => none
  | some t =>
    match (if t ≠ 0 then extractArg m it.valuePos t else some CVal.zero),
          advancePast m (it.typePos + 1), argSize m it.valuePos t with
    | some v, some tp, some size =>
      if size < 2147483648 then some ((t, v), ⟨tp, it.valuePos + size⟩)
      else if 4294967296 - size ≤ it.valuePos then
        some ((t, v), ⟨tp, it.valuePos - (4294967296 - size)⟩)
      else none
    | _, _, _ => none

/-- `rtosc_itr_end` (rtosc.c:536) -/
def itrEnd (m : Bytes) (it : Itr) : Option Bool :=
  match m[it.typePos]? with
  | none => none
  | some t => some (t = 0)

/-- `itr = begin; while(!end(itr)) out.push(next(&itr));` — fuel bounds the number of
    rounds; each round moves `type_pos` forward, so `m.length + 1` rounds always suffice. -/
def iterLoop (m : Bytes) : Nat → Itr → Option (List (UInt8 × CVal))
  | 0, _ => none
  | fuel + 1, it =>
    match itrEnd m it with
    | none => none
    | some true => some []
    | some false =>
      match itrNext m it with
      | none => none
      | some (x, it') => (iterLoop m fuel it').map (x :: ·)

def iterate (m : Bytes) : Option (List (UInt8 × CVal)) :=
  match itrBegin m with
  | none => none
  | some it => iterLoop m (m.length + 1) it

/-- What the caller can observe of a returned union: pointers are followed
    (string up to its NUL, `len` blob bytes); `none` = that read leaves the block. -/
def CVal.view (m : Bytes) : CVal → Option Val
  | .zero => some .nil
  | .tf b => some (.bool b)
  | .w32 v => some (.arg (.w32 v))
  | .w64 v => some (.arg (.w64 v))
  | .midi a b c d => some (.arg (.midi a b c d))
  | .str off => (cstr (m.drop off)).map (fun s => .arg (.str s))
  | .blob len off =>
    if len.toNat < 2147483648 ∧ off + len.toNat ≤ m.length then
      some (.arg (.blob ((m.drop off).take len.toNat)))
    else none

/-- the iterator's output as the caller observes it: every returned union viewed -/
def iterateView (m : Bytes) : Option (List (UInt8 × Val)) :=
  match iterate m with
  | none => none
  | some l => l.mapM (fun x => (x.2.view m).map (fun v => (x.1, v)))

/-- `rtosc_argument(m, idx)` as the caller observes it -/
def argumentView (m : Bytes) (idx : Nat) : Option Val :=
  match argument m idx with
  | none => none
  | some v => v.view m

/-- the C string at offset `p` (e.g. the type string at `argString`) -/
def cstrAt (m : Bytes) (p : Nat) : Option Bytes := cstr (m.drop p)

end Rtosc.Osc
