/-
  C01 / C02 — model of the message constructors of src/rtosc.c and src/cpp/arg-val.c:
    has_reserved, nreserved, vsosc_null, rtosc_amessage, rtosc_v2args, rtosc_vmessage,
    rtosc_message, rtosc_avmessage.

  Conventions
  * The destination buffer is a `Bytes` of exactly `len` bytes (`len` is not a separate
    parameter: `len = buffer.length`); the NULL buffer is `none`.
  * Every store goes through `W.put`, which records in `oob` whether an index `≥ len`
    was ever written (the store is then dropped).  "Never writes outside" is a theorem
    about this flag (C02), not a convention.
  * `unsigned pos` wraps modulo 2^32 (`u32`).
  * A `const char*` argument (address, type string, string arguments) is the contents
    of the C string, terminator excluded.
  * `rtosc_arg_t` is a union; `CArg` says which member the caller filled.  Reading another
    member than the one the type tag selects, reading the `args` array past its end, or
    reading blob data past its block is an out-of-bounds/undefined read of the *inputs*:
    the model returns `none` for the whole call, it never invents a value.
-/
import RtoscModel.Osc.Spec
namespace Rtosc.Osc
open Rtosc

def u32 (n : Nat) : Nat := n % 4294967296

/-- `has_reserved` (rtosc.c:35): the switch, case by case. -/
def hasReserved (t : UInt8) : Bool :=
  if t = 105 then true        -- 'i'
  else if t = 115 then true   -- 's'
  else if t = 98 then true    -- 'b'
  else if t = 102 then true   -- 'f'
  else if t = 104 then true   -- 'h'
  else if t = 116 then true   -- 't'
  else if t = 100 then true   -- 'd'
  else if t = 83 then true    -- 'S'
  else if t = 114 then true   -- 'r'
  else if t = 109 then true   -- 'm'
  else if t = 99 then true    -- 'c'
  else false                  -- 'T' 'F' 'N' 'I' '[' ']' and "should not happen"

/-- `nreserved` (rtosc.c:65) -/
def nreserved : Bytes → Nat
  | [] => 0
  | t :: ts => (if hasReserved t then 1 else 0) + nreserved ts

/-- The caller-filled `rtosc_arg_t`. -/
inductive CArg where
  | w32 (v : UInt32)                              -- .i (i c r) / .f (bit pattern)
  | w64 (v : UInt64)                              -- .h / .t / .d (bit pattern)
  | midi (a b c d : UInt8)                        -- .m
  | str (s : Bytes)                               -- .s : C string contents
  | blob (len : UInt32) (data : Option Bytes)     -- .b : int32 `len` as its bit pattern,
                                                  --      `data` = none for the NULL pointer
deriving DecidableEq, Repr

/-- big-endian emit of a 32-bit value, as the writer does it:
    `(i>>24)&0xff, (i>>16)&0xff, (i>>8)&0xff, i&0xff` -/
def put32 (v : UInt32) : Bytes :=
  [(v >>> 24).toUInt8, (v >>> 16).toUInt8, (v >>> 8).toUInt8, v.toUInt8]

def put64 (v : UInt64) : Bytes :=
  [(v >>> 56).toUInt8, (v >>> 48).toUInt8, (v >>> 40).toUInt8, (v >>> 32).toUInt8,
   (v >>> 24).toUInt8, (v >>> 16).toUInt8, (v >>> 8).toUInt8, v.toUInt8]

/-! ### `vsosc_null` (rtosc.c:182) -/

/-- `pos += 4 - pos % 4` on `unsigned` -/
def alignUp (pos : Nat) : Nat := u32 (pos + (4 - pos % 4))

/-- The `while(toparse)` loop of `vsosc_null`.  `args` is the not yet consumed part of
    the argument array (`args[arg_pos..]`); the numeric cases only do `++arg_pos`. -/
def sizeLoop : Nat → Bytes → List CArg → Nat → Option Nat
  | 0, _, _, pos => some pos
  | _ + 1, [], _, _ => none                       -- `assert(arg)`: past the terminator
  | tp + 1, t :: ts, args, pos =>
    if t = 104 ∨ t = 116 ∨ t = 100 then           -- h t d
      sizeLoop tp ts args.tail (u32 (pos + 8))
    else if t = 109 ∨ t = 114 ∨ t = 99 ∨ t = 102 ∨ t = 105 then   -- m r c f i
      sizeLoop tp ts args.tail (u32 (pos + 4))
    else if t = 115 ∨ t = 83 then                  -- s S
      match args with
      | .str s :: as => sizeLoop tp ts as (alignUp (u32 (pos + s.length)))
      | _ => none
    else if t = 98 then                            -- b
      match args with
      | .blob len _ :: as =>
        let pos := u32 (pos + u32 (4 + len.toNat))   -- `pos += 4 + i`, int → unsigned
        let pos := if pos % 4 ≠ 0 then alignUp pos else pos
        sizeLoop tp ts as pos
      | _ => none
    else sizeLoop (tp + 1) ts args pos

/-- `vsosc_null`: the size of the message, computed without writing. -/
def sizeNull (addr tags : Bytes) (args : List CArg) : Option Nat :=
  let pos := u32 (0 + addr.length)
  let pos := alignUp pos
  let pos := u32 (pos + (1 + tags.length))
  let pos := alignUp pos
  sizeLoop (nreserved tags) tags args pos

/-! ### the writer -/

/-- Writer state: the destination memory (`len` bytes), `unsigned pos`, and whether a
    store outside the `len` bytes was attempted. -/
structure W where
  buf : Bytes
  pos : Nat
  oob : Bool
deriving DecidableEq, Repr

/-- `buffer[pos++] = b` -/
def W.put (w : W) (b : UInt8) : W :=
  if w.pos < w.buf.length then
    { buf := w.buf.set w.pos b, pos := u32 (w.pos + 1), oob := w.oob }
  else
    { buf := w.buf, pos := u32 (w.pos + 1), oob := true }

/-- `while(*s) buffer[pos++] = *s++;` and the unrolled byte stores -/
def W.puts (w : W) : Bytes → W
  | [] => w
  | b :: r => (w.put b).puts r

/-- `pos += 4 - pos % 4` -/
def W.align (w : W) : W := { w with pos := alignUp w.pos }

/-- `pos += n` (nothing is stored: the bytes keep what `memset` put there) -/
def W.skip (w : W) (n : Nat) : W := { w with pos := u32 (w.pos + n) }

/-- the body of a blob: `u = b.data; if(u) { while(i--) buffer[pos++] = *u++; } else pos += i;`
    (`none`: the copy loop reads past the data block, or `i` is negative) -/
def W.blobData (w : W) (len : UInt32) (data : Option Bytes) : Option W :=
  match data with
  | some d =>
    if len.toNat < 2147483648 ∧ len.toNat ≤ d.length then some (w.puts (d.take len.toNat))
    else none
  | none => some (w.skip len.toNat)

/-- The `while(toparse)` loop of `rtosc_amessage`. -/
def writeLoop : Nat → Bytes → List CArg → W → Option W
  | 0, _, _, w => some w
  | _ + 1, [], _, _ => none
  | tp + 1, t :: ts, args, w =>
    if t = 104 ∨ t = 116 ∨ t = 100 then           -- h t d : args[arg_pos++].t
      match args with
      | .w64 v :: as => writeLoop tp ts as (w.puts (put64 v))
      | _ => none
    else if t = 114 ∨ t = 102 ∨ t = 99 ∨ t = 105 then   -- r f c i : args[arg_pos++].i
      match args with
      | .w32 v :: as => writeLoop tp ts as (w.puts (put32 v))
      | _ => none
    else if t = 109 then                           -- m
      match args with
      | .midi a b c d :: as => writeLoop tp ts as (w.puts [a, b, c, d])
      | _ => none
    else if t = 83 ∨ t = 115 then                  -- S s
      match args with
      | .str s :: as => writeLoop tp ts as (w.puts s).align
      | _ => none
    else if t = 98 then                            -- b
      match args with
      | .blob len data :: as =>
        match (w.puts (put32 len)).blobData len data with
        | none => none
        | some w =>
          let w := if w.pos % 4 ≠ 0 then w.align else w
          writeLoop tp ts as w
      | _ => none
    else writeLoop (tp + 1) ts args w

/-- Result of a constructor call: the destination memory afterwards (`none` for the
    NULL buffer), the return value, the out-of-bounds-store flag. -/
structure AResult where
  buf : Option Bytes
  ret : Nat
  oob : Bool
deriving DecidableEq, Repr

/-- `rtosc_amessage(buffer, len, address, arguments, args)` with `len = buffer.length`. -/
def amessage (buffer : Option Bytes) (addr tags : Bytes) (args : List CArg) : Option AResult :=
  match sizeNull addr tags args with
  | none => none
  | some total =>
    match buffer with
    | none => some ⟨none, total, false⟩                       -- if(!buffer) return total_len;
    | some buf =>
      if total > buf.length then                              -- cannot fit
        some ⟨some (zeros buf.length), 0, false⟩              -- memset(buffer,0,len); return 0;
      else
        let w : W := ⟨zeros total ++ buf.drop total, 0, false⟩ -- memset(buffer,0,total_len)
        let w := w.puts addr
        let w := w.align
        let w := w.put 44
        let w := w.puts tags
        let w := w.align
        match writeLoop (nreserved tags) tags args w with
        | none => none
        | some w => some ⟨some w.buf, w.pos, w.oob⟩

/-! ### varargs: `rtosc_v2args`, `rtosc_vmessage`, `rtosc_message` -/

/-- One promoted C value fetched by `va_arg`. -/
inductive VaArg where
  | int (v : UInt32)                 -- int
  | i64 (v : UInt64)                 -- int64_t / uint64_t
  | dbl (bits : UInt64)              -- double (bit pattern)
  | cstr (s : Bytes)                 -- const char *
  | midi (a b c d : UInt8)           -- uint8_t * to 4 bytes
  | ptr (data : Option Bytes)        -- unsigned char * (blob data), none = NULL
deriving DecidableEq, Repr

/-- `rtosc_v2args` (rtosc.c:242).  `narrow` is the double → float conversion of the
    target (`args[..].f = va_arg(ap, double)`), on bit patterns. -/
def v2args (narrow : UInt64 → UInt32) : Nat → Bytes → List VaArg → Option (List CArg)
  | 0, _, _ => some []
  | _ + 1, [], _ => none
  | n + 1, t :: ts, va =>
    if t = 104 ∨ t = 116 then
      match va with
      | .i64 v :: va' => (v2args narrow n ts va').map (.w64 v :: ·)
      | _ => none
    else if t = 100 then
      match va with
      | .dbl v :: va' => (v2args narrow n ts va').map (.w64 v :: ·)
      | _ => none
    else if t = 99 ∨ t = 105 ∨ t = 114 then
      match va with
      | .int v :: va' => (v2args narrow n ts va').map (.w32 v :: ·)
      | _ => none
    else if t = 109 then
      match va with
      | .midi a b c d :: va' => (v2args narrow n ts va').map (.midi a b c d :: ·)
      | _ => none
    else if t = 83 ∨ t = 115 then
      match va with
      | .cstr s :: va' => (v2args narrow n ts va').map (.str s :: ·)
      | _ => none
    else if t = 98 then
      match va with
      | .int len :: .ptr data :: va' => (v2args narrow n ts va').map (.blob len data :: ·)
      | _ => none
    else if t = 102 then
      match va with
      | .dbl v :: va' => (v2args narrow n ts va').map (.w32 (narrow v) :: ·)
      | _ => none
    else v2args narrow (n + 1) ts va

/-- `rtosc_vmessage` (= `rtosc_message` after `va_start`). -/
def vmessage (narrow : UInt64 → UInt32) (buffer : Option Bytes) (addr tags : Bytes)
    (va : List VaArg) : Option AResult :=
  let nargs := nreserved tags
  if nargs = 0 then amessage buffer addr tags []
  else
    match v2args narrow nargs tags va with
    | none => none
    | some args => amessage buffer addr tags args

/-- IEEE-754 binary64 → binary32, round to nearest even, NaNs quieted with the top
    payload bits kept (what `cvtsd2ss` does); on bit patterns. -/
def narrowF64 (b : UInt64) : UInt32 :=
  let n := b.toNat
  let s := n / 2 ^ 63
  let e := n / 2 ^ 52 % 2048
  let m := n % 2 ^ 52
  let sign := s * 2 ^ 31
  if e = 2047 then
    if m = 0 then UInt32.ofNat (sign + 0x7f800000)
    else UInt32.ofNat (sign + 0x7f800000 + 0x400000 + m / 2 ^ 29 % 2 ^ 22)
  else if e = 0 then UInt32.ofNat sign
  else
    let sig := 2 ^ 52 + m
    let shift := if e ≥ 897 then 29 else 926 - e
    let base := if e ≥ 897 then (e - 897) * 2 ^ 23 else 0
    let q := sig / 2 ^ shift
    let rem := sig % 2 ^ shift
    let half := 2 ^ (shift - 1)
    let q := if rem > half ∨ (rem = half ∧ q % 2 = 1) then q + 1 else q
    let bits := base + q
    if bits ≥ 0x7f800000 then UInt32.ofNat (sign + 0x7f800000) else UInt32.ofNat (sign + bits)

/-- IEEE-754 binary32 → binary64 (exact), the default argument promotion of a `float` at a
    call site of `rtosc_message`; on bit patterns, NaN payload kept in the top bits. -/
def widenF32 (b : UInt32) : UInt64 :=
  let n := b.toNat
  let s := n / 2 ^ 31
  let e := n / 2 ^ 23 % 256
  let m := n % 2 ^ 23
  let sign := s * 2 ^ 63
  if e = 255 then UInt64.ofNat (sign + 2047 * 2 ^ 52 + m * 2 ^ 29)
  else if e = 0 then
    if m = 0 then UInt64.ofNat sign
    else
      let k := Nat.log2 m                                   -- m = 2^k + rest, value = m * 2^-149
      UInt64.ofNat (sign + (k + 874) * 2 ^ 52 + (m - 2 ^ k) * 2 ^ (52 - k))
  else UInt64.ofNat (sign + (e + 896) * 2 ^ 52 + m * 2 ^ 29)

/-! ### `rtosc_avmessage` (arg-val.c:6), for lists without ranges and arrays -/

/-- `rtosc_arg_val_t`: a type character and the union (only looked at for payload types). -/
structure ArgVal where
  type : UInt8
  val : Option CArg
deriving DecidableEq, Repr

/-- The two passes of `rtosc_avmessage` over the arg-val iterator, for lists that
    contain neither ranges (`'-'`, 45) nor arrays (`'a'`, 97) — for those the iterator
    visits every element once (range expansion is C16's model).  Returns the type string
    and the compacted value array handed to `rtosc_amessage`. -/
def avCollect : List ArgVal → Option (Bytes × List CArg)
  | [] => some ([], [])
  | av :: rest =>
    if av.type = 45 ∨ av.type = 97 then none
    else
      match avCollect rest with
      | none => none
      | some (ts, vs) =>
        if hasReserved av.type then
          match av.val with
          | some v => some (av.type :: ts, v :: vs)
          | none => none
        else some (av.type :: ts, vs)

def avmessage (buffer : Option Bytes) (addr : Bytes) (avs : List ArgVal) : Option AResult :=
  match avCollect avs with
  | none => none
  | some (tags, vals) => amessage buffer addr tags vals

/-! ### between abstract arguments and what a caller passes -/

def Arg.toC : Arg → CArg
  | .w32 v => .w32 v
  | .w64 v => .w64 v
  | .midi a b c d => .midi a b c d
  | .str s => .str s
  | .blob d => .blob (UInt32.ofNat d.length) (some d)

/-- The abstract argument a caller-filled union stands for.  A blob with the NULL data
    pointer stands for `len` zero bytes (the writer skips them in the zeroed buffer); a
    data block may be longer than `len` (only `len` bytes are read), not shorter. -/
def CArg.abs : CArg → Option Arg
  | .w32 v => some (.w32 v)
  | .w64 v => some (.w64 v)
  | .midi a b c d => some (.midi a b c d)
  | .str s => some (.str s)
  | .blob len none => some (.blob (zeros len.toNat))
  | .blob len (some blk) => if len.toNat ≤ blk.length then some (.blob (blk.take len.toNat)) else none

/-- `cargs` stand for `args`, element by element -/
def Denote : List CArg → List Arg → Prop
  | [], [] => True
  | c :: cs, a :: as => c.abs = some a ∧ Denote cs as
  | _, _ => False

/-- The promoted values a `rtosc_message(…)` call site passes for the type string `tags`
    and the values `args`; `widen` is the float → double promotion on bit patterns. -/
def promote (widen : UInt32 → UInt64) : Bytes → List CArg → List VaArg
  | [], _ => []
  | t :: ts, args =>
    if !hasReserved t then promote widen ts args
    else
      match args with
      | [] => []
      | a :: as =>
        (match a with
          | .w32 v => if t = 102 then [VaArg.dbl (widen v)] else [VaArg.int v]
          | .w64 v => if t = 100 then [VaArg.dbl v] else [VaArg.i64 v]
          | .midi a b c d => [VaArg.midi a b c d]
          | .str s => [VaArg.cstr s]
          | .blob len data => [VaArg.int len, VaArg.ptr data]) ++ promote widen ts as

/-- The arg-val list a caller of `rtosc_avmessage` builds for `tags` and `args`
    (the union of a payload-free element is not looked at). -/
def ArgVal.listOf : Bytes → List CArg → List ArgVal
  | [], _ => []
  | t :: ts, args =>
    if hasReserved t then
      match args with
      | [] => ⟨t, none⟩ :: ArgVal.listOf ts []
      | a :: as => ⟨t, some a⟩ :: ArgVal.listOf ts as
    else ⟨t, none⟩ :: ArgVal.listOf ts args

end Rtosc.Osc
