/-
  C07 — model of the functions that face untrusted bytes (src/rtosc.c, after the fixes
  fixes/C07-*.patch and fixes/C06-bundle-length-wrap.patch):

    deref, bundle_ring_length, rtosc_message_ring_length, rtosc_message_length,
    rtosc_valid_message_p.
  The readers the validator has to protect (rtosc_argument_string, rtosc_narguments, rtosc_type,
  arg_start, arg_size, arg_off, extract_arg, rtosc_argument, rtosc_itr_*) are those of
  `Osc/Read.lean` (C01), which mirrors the same repaired code (arg_start / arg_off / arg_size
  measure from the first byte).

  Conventions
  * `mem` is the memory block the caller owns (exactly `mem.length` bytes), `len` the length
    argument handed to the C function.  *Every* byte access is `rd mem i`; an index outside the
    block makes the whole function return `Res.oob` — a read is never defaulted.  `deref` is the
    code's own bounds check and is modelled as such (it yields 0 at `pos ≥ len` *without* a read).
  * `unsigned` / `uint32_t` arithmetic wraps modulo 2^32 (`u32`, `usub`).
  * Loops whose termination is not structural run on fuel; `Res.spin` = not finished within the
    fuel (the real loop does not stop / reads on behind the type string).  That `spin` never
    occurs is a theorem (`Props/C07.lean: length_terminates`), not a convention.
  * `rtosc_message_length(msg,len)` builds the ring `{{msg,len},{NULL,0}}`; `deref` is specialised
    to that ring (the second segment is empty, `pos-len < 0` is never true).
  * `for(unsigned i=0; i<len; ++i)` in `rtosc_valid_message_p` is modelled with an unbounded
    counter: exact for `len < 2^32`.
  No Mathlib import: linked into `drv_valid`.
-/
import RtoscModel.Osc.Length
namespace Rtosc.Osc.V
open Rtosc Rtosc.Osc

/-- Result of running a piece of the C code on a memory block. -/
inductive Res (α : Type) where
  | ok (a : α)
  | oob          -- a byte outside the block was read
  | spin         -- a loop did not finish within its fuel
deriving DecidableEq, Repr

def Res.bind {α β : Type} : Res α → (α → Res β) → Res β
  | .ok a, f => f a
  | .oob, _ => .oob
  | .spin, _ => .spin

instance : Monad Res where
  pure := Res.ok
  bind := Res.bind

/-- `msg[i]` -/
def rd (mem : Bytes) (i : Nat) : Res UInt8 :=
  match mem[i]? with
  | some b => .ok b
  | none => .oob

/-- `deref(pos, ring)` (rtosc.c:548) for `ring = {{msg,len},{NULL,0}}` -/
def deref (mem : Bytes) (len pos : Nat) : Res UInt8 :=
  if pos < len then rd mem pos else .ok 0

/-- `while(deref(pos,ring)) ++pos;` -/
def scan (mem : Bytes) (len : Nat) : Nat → Nat → Res Nat
  | 0, _ => .spin
  | f + 1, pos =>
    (deref mem len pos).bind fun c =>
    if c = 0 then .ok pos else scan mem len f (u32 (pos + 1))

def fuel (len : Nat) : Nat := len + 2

/-- `for(int i=0; i<4; ++i) if(deref(++pos, ring)) break;` -/
def nullWord (mem : Bytes) (len : Nat) : Nat → Nat → Res Nat
  | 0, pos => .ok pos
  | k + 1, pos =>
    let pos := u32 (pos + 1)
    (deref mem len pos).bind fun c =>
    if c ≠ 0 then .ok pos else nullWord mem len k pos

/-- the bytes `deref(p), deref(p+1), …` up to the first 0: what `deref(++arg,ring)` /
    `deref(arguments++,ring)` deliver -/
def tagsFrom (mem : Bytes) (len : Nat) : Nat → Nat → Res Bytes
  | 0, _ => .spin
  | f + 1, p =>
    (deref mem len p).bind fun c =>
    if c = 0 then .ok [] else (tagsFrom mem len f (u32 (p + 1))).bind fun r => .ok (c :: r)

/-- four `deref`s, big-endian -/
def rd32 (mem : Bytes) (len pos : Nat) : Res UInt32 :=
  (deref mem len pos).bind fun b0 =>
  (deref mem len (u32 (pos + 1))).bind fun b1 =>
  (deref mem len (u32 (pos + 2))).bind fun b2 =>
  (deref mem len (u32 (pos + 3))).bind fun b3 =>
  .ok (get32 b0 b1 b2 b3)

/-- the `while(toparse)` loop of `rtosc_message_ring_length` (with fix C07-blob-len and
    C07-empty-string-size); `tags` are the bytes `deref(arguments++)` will deliver.
    `none` = `return 0`. -/
def lenLoop (mem : Bytes) (len aligned : Nat) : Nat → Bytes → Nat → Res (Option Nat)
  | 0, _, pos => .ok (some pos)
  | _ + 1, [], _ => .spin      -- would read on behind the type string (never reached)
  | tp + 1, t :: ts, pos =>
    if pos > len then .ok none                               -- if(pos > total) return 0;
    else if t = 104 ∨ t = 116 ∨ t = 100 then lenLoop mem len aligned tp ts (u32 (pos + 8))
    else if t = 109 ∨ t = 114 ∨ t = 99 ∨ t = 102 ∨ t = 105 then
      lenLoop mem len aligned tp ts (u32 (pos + 4))
    else if t = 83 ∨ t = 115 then
      (scan mem len (fuel len) pos).bind fun p =>            -- while(deref(pos,ring)) ++pos;
      lenLoop mem len aligned tp ts (u32 (p + (4 - usub p aligned % 4)))
    else if t = 98 then
      (rd32 mem len pos).bind fun i =>
      let pos := u32 (pos + 4)
      if pos > len ∨ i.toNat > len - pos then .ok none       -- blob does not fit: return 0;
      else
        let pos := u32 (pos + i.toNat)
        let pos := if usub pos aligned % 4 ≠ 0 then u32 (pos + (4 - usub pos aligned % 4)) else pos
        lenLoop mem len aligned tp ts pos
    else lenLoop mem len aligned (tp + 1) ts pos

/-- the `do … while(advance)` loop of `bundle_ring_length` (with fix C07-bundle-len and fix
    C06-bundle-length-wrap: `(uint64_t)pos+4+advance > UINT32_MAX` is rejected, so `pos` never
    wraps); `none` = `return 0` -/
def bundleLoop (mem : Bytes) (len : Nat) : Nat → Nat → Res (Option Nat)
  | 0, _ => .spin
  | f + 1, pos =>
    if pos > len then .ok none
    else
      (rd32 mem len pos).bind fun a =>
      let advance := a.toNat
      if advance > len - pos ∨ (advance ≠ 0 ∧ pos + 4 + advance > 4294967295) then .ok none
      else if advance ≠ 0 then bundleLoop mem len f (u32 (pos + u32 (4 + advance)))
      else .ok (some pos)

/-- `bundle_ring_length` (rtosc.c:554) -/
def bundleRingLength (mem : Bytes) (len : Nat) : Res Nat :=
  (bundleLoop mem len (fuel len) 16).bind fun r =>
  match r with
  | none => .ok 0
  | some pos => .ok (if pos ≤ len then pos else 0)

/-- the `&&` chain `deref(0)=='#' && … && deref(7)=='\0'` (left to right, short-circuit) -/
def isBundle (mem : Bytes) (len : Nat) : Nat → Bytes → Res Bool
  | _, [] => .ok true
  | p, c :: cs =>
    (deref mem len p).bind fun b => if b = c then isBundle mem len (p + 1) cs else .ok false

/-- `rtosc_message_ring_length` (rtosc.c:581) on the ring of `rtosc_message_length` -/
def ringLength (mem : Bytes) (len : Nat) : Res Nat :=
  (isBundle mem len 0 bundleMagic).bind fun b =>
  if b then bundleRingLength mem len
  else
    (scan mem len (fuel len) 0).bind fun pos =>             -- while(deref(pos++,ring)); pos--;
    (nullWord mem len 4 pos).bind fun pos =>
    (deref mem len pos).bind fun c =>
    if c ≠ 44 then .ok 0
    else
      let aligned := pos
      let arguments := u32 (pos + 1)
      (scan mem len (fuel len) (u32 (pos + 1))).bind fun pos =>   -- while(deref(++pos,ring));
      let pos := u32 (pos + (4 - usub pos aligned % 4))
      (tagsFrom mem len (fuel len) arguments).bind fun tags =>
      (lenLoop mem len aligned (nreserved tags) tags pos).bind fun r =>
      match r with
      | none => .ok 0
      | some pos => .ok (if pos ≤ len then pos else 0)

/-- `rtosc_message_length(msg, len)` (rtosc.c:674) -/
def messageLength (mem : Bytes) (len : Nat) : Res Nat := ringLength mem len

/-- `isprint` in the C locale on a (possibly negative) `char` -/
def isprint (c : UInt8) : Bool := decide (32 ≤ c.toNat ∧ c.toNat ≤ 126)

/-- first loop of `rtosc_valid_message_p`: `k` = iterations left, `tmp` as an offset.
    `none` = `return false` -/
def pathLoop (mem : Bytes) : Nat → Nat → Res (Option Nat)
  | 0, tmp => .ok (some tmp)
  | k + 1, tmp =>
    (rd mem tmp).bind fun c =>
    if c = 0 then .ok (some tmp)
    else if !isprint c then .ok none
    else pathLoop mem k (tmp + 1)

/-- second loop: `for(; offset2<len; offset2++) { if(*tmp == ',') break; tmp++; }`
    (`tmp` and `offset2` move together) -/
def commaLoop (mem : Bytes) : Nat → Nat → Res Nat
  | 0, off => .ok off
  | k + 1, off =>
    (rd mem off).bind fun c => if c = 44 then .ok off else commaLoop mem k (off + 1)

/-- `rtosc_valid_message_p(msg, len)` (rtosc.c:680, with fix C07-valid-len0) -/
def validMessageP (mem : Bytes) (len : Nat) : Res Bool :=
  if len = 0 then .ok false
  else
    (rd mem 0).bind fun c0 =>
    if c0 ≠ 47 then .ok false
    else
      (pathLoop mem len 0).bind fun r =>
      match r with
      | none => .ok false
      | some offset1 =>
        (commaLoop mem (len - offset1) offset1).bind fun offset2 =>
        if offset2 - offset1 > 4 then .ok false
        else if offset2 % 4 ≠ 0 then .ok false
        else (messageLength mem len).bind fun observed => .ok (decide (observed = len))

/-! ### what a caller touches when it follows a value the readers of `Osc/Read.lean` return -/

/-- the largest offset (exclusive) a caller touches when it follows the returned union:
    the string's terminator, the blob's last byte -/
def extent (m : Bytes) : CVal → Option Nat
  | .str off => (nulIdx (m.drop off)).map (fun k => off + k + 1)
  | .blob len off => some (off + len.toNat)
  | _ => some 0

end Rtosc.Osc.V
