/-
  C02 / C08 — executable shortcuts for the compiled drivers (no new semantics).

  The models of C01 (`Osc/Encode.lean`) store byte by byte into a `List UInt8`; `W.puts` is
  quadratic in the length of what it stores, which is too slow in the compiled driver for a single
  64 KiB string or blob.  The property C02 has to be exercised with such sizes
  (a length byte of bits 16..23 only shows up from 65 536 bytes on), so this file gives a
  linear version of the constructor — `W.putsFast` splices when all stores stay inside the
  buffer and falls back to the byte-by-byte definition otherwise — and PROVES it equal to the
  model (`amessage_eq_amessageFast`, a `@[csimp]` rule: the compiler replaces `amessage` by
  `amessageFast` in code compiled after this file, i.e. in the drivers).  All theorems of
  C01 / C02 are about `amessage` itself.
-/
import RtoscModel.Osc.Encode
import RtoscModel.Proofs.BasicLemmas
namespace Rtosc.Osc
open Rtosc

theorem put_inside (w : W) (b : UInt8) (h : w.pos < w.buf.length) (h32 : w.pos + 1 < 4294967296) :
    w.put b = ⟨w.buf.set w.pos b, w.pos + 1, w.oob⟩ := by
  simp only [W.put, if_pos h, u32]
  congr 1
  omega

theorem puts_inside : ∀ (l : Bytes) (w : W), w.pos + l.length ≤ w.buf.length →
    w.pos + l.length < 4294967296 →
    w.puts l = ⟨w.buf.take w.pos ++ l ++ w.buf.drop (w.pos + l.length), w.pos + l.length, w.oob⟩ := by
  intro l
  induction l with
  | nil => intro w _ _; simp [W.puts]
  | cons b r ih =>
    intro w h h32
    rw [List.length_cons, ← Nat.add_assoc, Nat.add_right_comm] at h h32
    have hi : w.pos < w.buf.length := by omega
    rw [W.puts, put_inside w b hi (by omega), ih _ (by rwa [List.length_set]) h32,
      set_splice w.buf w.pos b r hi, List.length_cons]
    simp only [Nat.add_assoc, Nat.add_comm 1 r.length]

/-- linear `W.puts` when every store stays inside the buffer -/
def W.putsFast (w : W) (l : Bytes) : W :=
  if w.pos + l.length ≤ w.buf.length ∧ w.pos + l.length < 4294967296 then
    ⟨w.buf.take w.pos ++ l ++ w.buf.drop (w.pos + l.length), w.pos + l.length, w.oob⟩
  else w.puts l

theorem putsFast_eq (w : W) (l : Bytes) : w.putsFast l = w.puts l := by
  unfold W.putsFast
  split
  · next h => exact (puts_inside l w h.1 h.2).symm
  · rfl

/-- `W.blobData` over `putsFast` -/
def W.blobDataFast (w : W) (len : UInt32) (data : Option Bytes) : Option W :=
  match data with
  | some d =>
    if len.toNat < 2147483648 ∧ len.toNat ≤ d.length then some (w.putsFast (d.take len.toNat))
    else none
  | none => some (w.skip len.toNat)

theorem blobDataFast_eq (w : W) (len : UInt32) (data : Option Bytes) :
    w.blobDataFast len data = w.blobData len data := by
  unfold W.blobDataFast W.blobData
  cases data <;> simp only [putsFast_eq]

/-- `writeLoop` over `putsFast` -/
def writeLoopFast : Nat → Bytes → List CArg → W → Option W
  | 0, _, _, w => some w
  | _ + 1, [], _, _ => none
  | tp + 1, t :: ts, args, w =>
    if t = 104 ∨ t = 116 ∨ t = 100 then
      match args with
      | .w64 v :: as => writeLoopFast tp ts as (w.putsFast (put64 v))
      | _ => none
    else if t = 114 ∨ t = 102 ∨ t = 99 ∨ t = 105 then
      match args with
      | .w32 v :: as => writeLoopFast tp ts as (w.putsFast (put32 v))
      | _ => none
    else if t = 109 then
      match args with
      | .midi a b c d :: as => writeLoopFast tp ts as (w.putsFast [a, b, c, d])
      | _ => none
    else if t = 83 ∨ t = 115 then
      match args with
      | .str s :: as => writeLoopFast tp ts as (w.putsFast s).align
      | _ => none
    else if t = 98 then
      match args with
      | .blob len data :: as =>
        match (w.putsFast (put32 len)).blobDataFast len data with
        | none => none
        | some w =>
          let w := if w.pos % 4 ≠ 0 then w.align else w
          writeLoopFast tp ts as w
      | _ => none
    else writeLoopFast (tp + 1) ts args w

theorem writeLoopFast_eq : ∀ (ts : Bytes) (tp : Nat) (args : List CArg) (w : W),
    writeLoopFast tp ts args w = writeLoop tp ts args w := by
  intro ts
  induction ts with
  | nil => intro tp args w; cases tp <;> simp [writeLoopFast, writeLoop]
  | cons t ts ih =>
    intro tp args w
    cases tp with
    | zero => simp [writeLoopFast, writeLoop]
    | succ tp =>
      simp only [writeLoopFast, writeLoop, putsFast_eq, blobDataFast_eq, ih]
      repeat' (first | rfl | split)

/-- `amessage` over `putsFast` -/
def amessageFast (buffer : Option Bytes) (addr tags : Bytes) (args : List CArg) : Option AResult :=
  match sizeNull addr tags args with
  | none => none
  | some total =>
    match buffer with
    | none => some ⟨none, total, false⟩
    | some buf =>
      if total > buf.length then
        some ⟨some (zeros buf.length), 0, false⟩
      else
        let w : W := ⟨zeros total ++ buf.drop total, 0, false⟩
        let w := w.putsFast addr
        let w := w.align
        let w := w.put 44
        let w := w.putsFast tags
        let w := w.align
        match writeLoopFast (nreserved tags) tags args w with
        | none => none
        | some w => some ⟨some w.buf, w.pos, w.oob⟩

@[csimp] theorem amessage_eq_amessageFast : @amessage = @amessageFast := by
  funext buffer addr tags args
  unfold amessage amessageFast
  simp only [putsFast_eq, writeLoopFast_eq]
  repeat' (first | rfl | split)

/-- `vmessage` calls `amessage`: restated so that the compiled code goes through the rule above -/
def vmessageFast (narrow : UInt64 → UInt32) (buffer : Option Bytes) (addr tags : Bytes)
    (va : List VaArg) : Option AResult :=
  let nargs := nreserved tags
  if nargs = 0 then amessage buffer addr tags []
  else
    match v2args narrow nargs tags va with
    | none => none
    | some args => amessage buffer addr tags args

@[csimp] theorem vmessage_eq_vmessageFast : @vmessage = @vmessageFast := by
  funext narrow buffer addr tags va
  rfl

end Rtosc.Osc
