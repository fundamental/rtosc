/-
  C07 — specification side: an OSC 1.0 message decoder that shares nothing with the code under
  verification (no positions, no `unsigned`, no iterator): it peels OSC-strings and arguments off
  the front of the byte list.

    decode    : the strict decoder.  Every OSC-string is NUL-terminated and NUL-padded to a
                multiple of 4, the address starts with '/' and is printable ASCII, the type tag
                string starts with ',' and contains only the 15 value tags and '[' ']', a blob
                has a non-negative length, fits, and is NUL-padded, and the message ends exactly
                where the last argument ends.
    decodeLax : the same decoder, except that it does not look at the *content* of the padding
                bytes behind the terminator of the type tag string / of string arguments / behind
                blob data, and that it passes unknown type tags as tags without payload.
                (Used to state exactly which non-canonical encodings rtosc accepts.)

  `Msg`, `Arg`, `kind` are those of `Osc/Spec.lean` (C01).
  No Mathlib import: linked into `drv_valid` (the driver prints the trigger of finding C07-K1).
-/
import RtoscModel.Osc.Spec
namespace Rtosc.Osc
open Rtosc

/-- big-endian value of a byte string -/
def beVal (bs : Bytes) : Nat := bs.foldl (fun a b => a * 256 + b.toNat) 0

def printable (c : UInt8) : Bool := decide (32 ≤ c.toNat ∧ c.toNat ≤ 126)

def allZero (bs : Bytes) : Bool := bs.all (· = 0)

/-- An OSC-string at the head of `bs`: the bytes before the first NUL; the NUL and the padding
    that brings the length to a multiple of 4 are consumed.  `strict`: the padding is NUL. -/
def takeStr (strict : Bool) (bs : Bytes) : Option (Bytes × Bytes) :=
  let s := bs.takeWhile (· ≠ 0)
  let tot := s.length + (4 - s.length % 4)
  if tot ≤ bs.length ∧ (strict = false ∨ allZero ((bs.take tot).drop s.length) = true) then
    some (s, bs.drop tot)
  else none

/-- One argument of payload kind `k` at the head of `bs`. -/
def takeArg (strict : Bool) : Kind → Bytes → Option (Arg × Bytes)
  | .w32, b0 :: b1 :: b2 :: b3 :: r => some (.w32 (UInt32.ofNat (beVal [b0, b1, b2, b3])), r)
  | .w64, b0 :: b1 :: b2 :: b3 :: b4 :: b5 :: b6 :: b7 :: r =>
    some (.w64 (UInt64.ofNat (beVal [b0, b1, b2, b3, b4, b5, b6, b7])), r)
  | .midi, b0 :: b1 :: b2 :: b3 :: r => some (.midi b0 b1 b2 b3, r)
  | .str, bs => (takeStr strict bs).map fun (s, r) => (.str s, r)
  | .blob, b0 :: b1 :: b2 :: b3 :: r =>
    let n := beVal [b0, b1, b2, b3]
    let tot := n + pad4 n
    if n < 2147483648 ∧ tot ≤ r.length ∧ (strict = false ∨ allZero ((r.take tot).drop n) = true) then
      some (.blob (r.take n), r.drop tot)
    else none
  | _, _ => none

/-- the arguments announced by the type tags, in order -/
def decodeArgs (strict : Bool) : Bytes → Bytes → Option (List Arg × Bytes)
  | [], bs => some ([], bs)
  | t :: ts, bs =>
    match kind t with
    | none => decodeArgs strict ts bs
    | some k =>
      match takeArg strict k bs with
      | none => none
      | some (a, r) =>
        match decodeArgs strict ts r with
        | none => none
        | some (as, r') => some (a :: as, r')

def decodeWith (strict : Bool) (bs : Bytes) : Option Msg :=
  match takeStr true bs with
  | none => none
  | some (addr, r1) =>
    if addr.head? = some 47 ∧ addr.all printable = true then
      match takeStr strict r1 with
      | some (44 :: tags, r2) =>
        if strict = false ∨ tags.all isTag = true then
          match decodeArgs strict tags r2 with
          | some (args, []) => some ⟨addr, tags, args⟩
          | _ => none
        else none
      | _ => none
    else none

/-- The strict OSC 1.0 decoder. -/
def Spec.decode (bs : Bytes) : Option Msg := decodeWith true bs

/-- The decoder that ignores padding content and unknown tags. -/
def Spec.decodeLax (bs : Bytes) : Option Msg := decodeWith false bs

/-- Trigger of known finding C07-K1: the buffer is an OSC message for a decoder that ignores
    the content of padding bytes and the meaning of tags, but not for the strict decoder —
    i.e. some padding byte behind the terminator of the type tag string or of a string argument,
    or behind blob data, is not NUL (the padding of the address is checked by both decoders), or
    some type tag is not one of the 17 known ones. -/
def NonCanonical (bs : Bytes) : Prop :=
  (Spec.decodeLax bs).isSome = true ∧ (Spec.decode bs).isSome = false

instance (bs : Bytes) : Decidable (NonCanonical bs) := by unfold NonCanonical; exact inferInstance

end Rtosc.Osc
