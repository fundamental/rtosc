/-
  C02 — the vocabulary of the property statements about `rtosc_bundle` and `append_bundle`
  (Props/C02.lean; the lemmas of Proofs/BundleWrite.lean on which Props/C08.lean rests are stated in
  it too) that is not part of the model `Osc/Bundle.lean`: definitions only.
  What the theorems ask of the element blocks handed to `rtosc_bundle` (`GoodBlocks`), the guard of
  `append_bundle` (`AppendFails`), and the loop in which `subtree_serialize` calls it (`appendAll`).
-/
import RtoscModel.Osc.Bundle
namespace Rtosc.Osc
open Rtosc

/-- what the theorems about `rtosc_bundle` ask of elements and blocks -/
def GoodBlocks : List Elem → List Bytes → Prop
  | [], [] => True
  | e :: es, blk :: blks => (e.WF ∧ Elem.Holds blk e ∧ Elem.Terminated blk e) ∧ GoodBlocks es blks
  | _, _ => False

/-- the guard of `append_bundle`: `max_len < dst_len + src_len + 4 || dst_len == 0 || src_len == 0` -/
def AppendFails (maxLen dstLen srcLen : Nat) : Prop := maxLen < dstLen + srcLen + 4 ∨ dstLen = 0 ∨ srcLen = 0

instance (maxLen dstLen srcLen : Nat) : Decidable (AppendFails maxLen dstLen srcLen) := by
  unfold AppendFails; exact inferInstance

/-- `subtree_serialize`'s loop: `len = append_bundle(buffer, src_i, buffer_size, len, src_len_i)` for
    every captured message in turn (`srcs` = the source blocks with the lengths passed). -/
def appendAll (dst : Bytes) (maxLen : Nat) : Nat → List (Bytes × Nat) → Rd BResult
  | len, [] => .ok ⟨dst, len, false⟩
  | len, (src, srcLen) :: rest =>
    match appendBundle dst src maxLen len srcLen with
    | .ok r =>
      (match appendAll r.buf maxLen r.ret rest with
        | .ok r' => .ok ⟨r'.buf, r'.ret, r.oob || r'.oob⟩
        | .oob => .oob
        | .hang => .hang)
    | .oob => .oob
    | .hang => .hang
termination_by _ srcs => srcs.length

end Rtosc.Osc
