/-
  C02 / C08 — model of the bundle functions of src/rtosc.c and of `append_bundle`
  (src/cpp/subtree-serialize.cpp):
    rtosc_message_length(msg, -1)  (the way rtosc_bundle finds the size of an element),
    rtosc_bundle  (after fixes/C02-bundle-len.patch; the unrepaired body is `bundleUnfixed`,
                   on which Props/C02.lean shows defect F2),
    rtosc_bundle_elements, rtosc_bundle_fetch, rtosc_bundle_size, rtosc_bundle_p,
    rtosc_bundle_timetag, append_bundle.
  Between them and the specification side (`Elem`, `Spec.encodeElem`, at the end of the file) stand
  the message constructors as an owner of a block calls them (`callAt`, `amessageAt`, `vmessageAt`,
  `rtoscMessage`; `tlinkWriteArray`, `tlinkWrite`, `rtdataReply` for the C++ wrappers: C02) and the
  recursive decomposition of a packet with the readers (`Packet`, `elemsVia`, `decompose`: C08).

  Conventions
  * A `const char*` handed to the library is modelled by the memory block it points into:
    the bytes from the pointer to the end of the allocation.  Every read goes through
    `m[p]?`; a read outside the block is the explicit result `Rd.oob` / `none`, never a
    default value.  `Rd.hang`: a loop of the real code does not terminate (fuel exhausted).
  * `rtosc_message_length(msg, -1)` builds the ring `{{msg, SIZE_MAX},{NULL,0}}`: `deref`
    is then `msg[pos]` for every `unsigned pos`, there is no bound the code itself checks.
    `messageLengthU` is `ringLength` of Length.lean with that `deref`, i.e. with every read
    checked against the block.  It mirrors the code after fixes C07-bundle-len / C07-blob-len /
    C07-empty-string-size: with `total = SIZE_MAX` their guards `pos > total`,
    `advance > total-pos`, `i > total-pos` can never fire (all operands are 32-bit values), so
    they do not appear; the string case scans from the first byte of the string.  The guard of
    fix C06-bundle-length-wrap (`advance && (uint64_t)pos+4+advance > UINT32_MAX`: the end of
    the element is no `unsigned` position) does not depend on `total` and is modelled: it is
    what makes the bundle walk terminate (`bundleLoopU_ne_hang`, Proofs/BundleTerm.lean).
  * A destination buffer is a `Bytes` of exactly `len` bytes; stores go through `BW.store`,
    which records in `oob` whether an index `≥ len` was written (the store is dropped).
  * `unsigned pos` / `uint32_t` arithmetic wraps (`u32`); pointers and `size_t` do not
    (LP64; sums of sizes stay far below 2^64).
-/
import RtoscModel.Osc.Length
import RtoscModel.Osc.BufFast
namespace Rtosc.Osc
open Rtosc

/-- Outcome of code that reads through a pointer it was given without a length. -/
inductive Rd (α : Type) where
  | ok (a : α)
  | oob                      -- a byte outside the block would be read
  | hang                     -- the loop does not terminate
deriving DecidableEq, Repr

/-! ### `rtosc_message_length(msg, -1)` -/

/-- fuel of the loops below: every round either moves forward inside the block or leaves it -/
def fuelU (m : Bytes) : Nat := m.length + 2

/-- `while(deref(pos,ring)) ++pos;` -/
def scanNulU (m : Bytes) : Nat → Nat → Rd Nat
  | 0, _ => .hang
  | f + 1, pos =>
    match m[pos]? with
    | none => .oob
    | some c => if c = 0 then .ok pos else scanNulU m f (u32 (pos + 1))

/-- `for(int i=0; i<4; ++i) if(deref(++pos, ring)) break;` -/
def nullWordU (m : Bytes) : Nat → Nat → Rd Nat
  | 0, pos => .ok pos
  | k + 1, pos =>
    match m[u32 (pos + 1)]? with
    | none => .oob
    | some c => if c ≠ 0 then .ok (u32 (pos + 1)) else nullWordU m k (u32 (pos + 1))

/-- the type tags: `deref(p), deref(p+1), …` up to the first 0 -/
def tagsFromU (m : Bytes) : Nat → Nat → Rd Bytes
  | 0, _ => .hang
  | f + 1, p =>
    match m[p]? with
    | none => .oob
    | some c =>
      if c = 0 then .ok []
      else
        match tagsFromU m f (u32 (p + 1)) with
        | .ok ts => .ok (c :: ts)
        | .oob => .oob
        | .hang => .hang

/-- four `deref`s at `pos, pos+1, pos+2, pos+3` (on `unsigned`), big-endian -/
def rd32U (m : Bytes) (pos : Nat) : Option UInt32 :=
  match m[pos]?, m[u32 (pos + 1)]?, m[u32 (pos + 2)]?, m[u32 (pos + 3)]? with
  | some b0, some b1, some b2, some b3 => some (get32 b0 b1 b2 b3)
  | _, _, _, _ => none

/-- the `while(toparse)` loop of `rtosc_message_ring_length` -/
def lenLoopU (m : Bytes) (aligned : Nat) : Nat → Bytes → Nat → Rd Nat
  | 0, _, pos => .ok pos
  | _ + 1, [], _ => .hang          -- not reachable: `toparse` counts tags of this very list
  | tp + 1, t :: ts, pos =>
    if t = 104 ∨ t = 116 ∨ t = 100 then lenLoopU m aligned tp ts (u32 (pos + 8))
    else if t = 109 ∨ t = 114 ∨ t = 99 ∨ t = 102 ∨ t = 105 then
      lenLoopU m aligned tp ts (u32 (pos + 4))
    else if t = 83 ∨ t = 115 then
      match scanNulU m (fuelU m) pos with                    -- while(deref(pos,ring)) ++pos;
      | .ok p => lenLoopU m aligned tp ts (u32 (p + (4 - usub p aligned % 4)))
      | .oob => .oob
      | .hang => .hang
    else if t = 98 then
      match rd32U m pos with
      | none => .oob
      | some v =>
        let pos := u32 (pos + 4)
        let pos := u32 (pos + v.toNat)
        let pos := if usub pos aligned % 4 ≠ 0 then u32 (pos + (4 - usub pos aligned % 4)) else pos
        lenLoopU m aligned tp ts pos
    else lenLoopU m aligned (tp + 1) ts pos

/-- the `do … while(advance)` loop of `bundle_ring_length` (rtosc.c:554); `return 0` when the
    end of an element is no `unsigned` position (fix C06-bundle-length-wrap) -/
def bundleLoopU (m : Bytes) : Nat → Nat → Rd Nat
  | 0, _ => .hang
  | f + 1, pos =>
    match rd32U m pos with
    | none => .oob
    | some v =>
      if v.toNat ≠ 0 ∧ pos + 4 + v.toNat > 4294967295 then .ok 0
      else if v.toNat ≠ 0 then bundleLoopU m f (u32 (pos + u32 (4 + v.toNat))) else .ok pos

/-- `deref(0)=='#' && deref(1)=='b' && …` with C's short-circuit evaluation -/
def magicU (m : Bytes) : Bytes → Nat → Option Bool
  | [], _ => some true
  | e :: es, p =>
    match m[p]? with
    | none => none
    | some c => if c = e then magicU m es (p + 1) else some false

/-- `rtosc_message_length(msg, (size_t)-1)`; `m` is the block `msg` points into.
    The final `pos <= ring[0].len+ring[1].len ? pos : 0` always yields `pos`. -/
def messageLengthU (m : Bytes) : Rd Nat :=
  match magicU m bundleMagic 0 with
  | none => .oob
  | some true => bundleLoopU m (fuelU m) 16
  | some false =>
    match scanNulU m (fuelU m) 0 with                -- while(deref(pos++,ring)); pos--;
    | .oob => .oob
    | .hang => .hang
    | .ok pos =>
      match nullWordU m 4 pos with
      | .oob => .oob
      | .hang => .hang
      | .ok pos =>
        match m[pos]? with
        | none => .oob
        | some c =>
          if c ≠ 44 then .ok 0
          else
            let aligned := pos
            let arguments := u32 (pos + 1)
            match scanNulU m (fuelU m) (u32 (pos + 1)) with    -- while(deref(++pos,ring));
            | .oob => .oob
            | .hang => .hang
            | .ok pos =>
              let pos := u32 (pos + (4 - usub pos aligned % 4))
              match tagsFromU m (fuelU m) arguments with
              | .oob => .oob
              | .hang => .hang
              | .ok tags => lenLoopU m aligned (nreserved tags) tags pos

/-! ### `rtosc_bundle` -/

/-- destination memory and the out-of-bounds-store flag -/
structure BW where
  buf : Bytes
  oob : Bool
deriving DecidableEq, Repr

/-- `buffer[i] = b` -/
def BW.store (w : BW) (i : Nat) (b : UInt8) : BW :=
  if i < w.buf.length then { w with buf := w.buf.set i b } else { w with oob := true }

/-- consecutive stores from index `i` on (`strcpy`, `emplace_uint32/64`, `memcpy`) -/
def BW.stores (w : BW) : Nat → Bytes → BW
  | _, [] => w
  | i, b :: r => (w.store i b).stores (i + 1) r

/-- inside the buffer, `stores` is a splice -/
theorem stores_eq : ∀ (l : Bytes) (w : BW) (i : Nat), i + l.length ≤ w.buf.length →
    w.stores i l = ⟨w.buf.take i ++ l ++ w.buf.drop (i + l.length), w.oob⟩ := by
  intro l
  induction l with
  | nil => intro w i _; simp [BW.stores]
  | cons b r ih =>
    intro w i h
    simp only [List.length_cons] at h
    have hi : i < w.buf.length := by omega
    simp only [BW.stores, BW.store, if_pos hi]
    rw [ih _ (i + 1) (by simp; omega), set_splice w.buf i b r hi, List.length_cons]

/-- what the compiled driver runs for `BW.stores`: the splice when the stores stay inside the
    buffer (linear instead of quadratic on a `List`), the byte-by-byte definition otherwise.
    Proved equal below; the theorems are all about `BW.stores`. -/
def BW.storesFast (w : BW) (i : Nat) (l : Bytes) : BW :=
  if i + l.length ≤ w.buf.length then ⟨w.buf.take i ++ l ++ w.buf.drop (i + l.length), w.oob⟩
  else w.stores i l

@[csimp] theorem BW.stores_eq_storesFast : @BW.stores = @BW.storesFast := by
  funext w i l
  unfold BW.storesFast
  split
  · next h => exact stores_eq l w i h
  · rfl

/-- the first pass of the repaired `rtosc_bundle`:
    `total_len += 4+rtosc_message_length(va_arg(va, const char*), -1)` -/
def bundleTotal : Nat → List Bytes → Rd Nat
  | acc, [] => .ok acc
  | acc, blk :: rest =>
    match messageLengthU blk with
    | .ok size => bundleTotal (acc + (4 + size)) rest
    | .oob => .oob
    | .hang => .hang

/-- the element loop: `size = rtosc_message_length(msg,-1); emplace_uint32(buffer,size);
    buffer += 4; memcpy(buffer,msg,size); buffer += size;`  (`memcpy` reads `size` bytes of
    the element's block) -/
def bundleWrite : BW → Nat → List Bytes → Rd (BW × Nat)
  | w, pos, [] => .ok (w, pos)
  | w, pos, blk :: rest =>
    match messageLengthU blk with
    | .ok size =>
      if size ≤ blk.length then
        let w := w.stores pos (put32 (UInt32.ofNat size))
        let w := w.stores (pos + 4) (blk.take size)
        bundleWrite w (pos + 4 + size) rest
      else .oob
    | .oob => .oob
    | .hang => .hang

/-- destination afterwards, return value, out-of-bounds-store flag -/
structure BResult where
  buf : Bytes
  ret : Nat
  oob : Bool
deriving DecidableEq, Repr

/-- `strcpy(buffer,"#bundle"); emplace_uint64(buffer+8, tt);` then the element loop -/
def bundleBody (w : BW) (tt : UInt64) (elems : List Bytes) : Rd BResult :=
  let w := w.stores 0 bundleMagic
  let w := w.stores 8 (put64 tt)
  match bundleWrite w 16 elems with
  | .ok (w, pos) => .ok ⟨w.buf, pos, w.oob⟩
  | .oob => .oob
  | .hang => .hang

/-- `rtosc_bundle(buffer, len, tt, elms, e_1, …, e_elms)` with `len = buffer.length`,
    `elems` = the blocks the element pointers point into (after fixes/C02-bundle-len.patch). -/
def bundle (buffer : Bytes) (tt : UInt64) (elems : List Bytes) : Rd BResult :=
  match bundleTotal 16 elems with
  | .oob => .oob
  | .hang => .hang
  | .ok total =>
    if total > buffer.length then .ok ⟨zeros buffer.length, 0, false⟩   -- memset; return 0
    else bundleBody ⟨zeros buffer.length, false⟩ tt elems

/-- the body of `rtosc_bundle` before the repair: `len` is only used by the `memset` -/
def bundleUnfixed (buffer : Bytes) (tt : UInt64) (elems : List Bytes) : Rd BResult :=
  bundleBody ⟨zeros buffer.length, false⟩ tt elems

/-! ### the readers.  `m` is the block `buffer` points into -/

/-- `lengths += extract_uint32(lengths)/4+1` on a `const uint32_t *`, in bytes -/
def wordsAdvance (v : UInt32) : Nat := (v.toNat / 4 + 1) * 4

/-- the loop of `rtosc_bundle_elements` (rtosc.c:794); `p` = POS, `n` = elms -/
def elementsLoop (m : Bytes) (len : Nat) : Nat → Nat → Nat → Rd Nat
  | 0, _, _ => .hang
  | f + 1, p, n =>
    if p < len then
      match rd32 m p with
      | none => .oob
      | some v =>
        if v = 0 then .ok n
        else if p + wordsAdvance v > len then .ok n
        else elementsLoop m len f (p + wordsAdvance v) (n + 1)
    else .ok n

/-- `rtosc_bundle_elements(buffer, len)`; every round moves POS forward by at least 4 and
    needs POS < len, so `len + 1` rounds of fuel are never used up. -/
def bundleElements (m : Bytes) (len : Nat) : Rd Nat := elementsLoop m len (len + 1) 16 0

/-- the loop of `rtosc_bundle_fetch`: `k = elm - elm_pos` rounds to go, `p` = offset of `lengths` -/
def fetchLoop (m : Bytes) : Nat → Nat → Option (Option Nat)
  | 0, p => some (some (p + 4))                       -- elm == elm_pos : lengths+1
  | k + 1, p =>
    match rd32 m p with
    | none => none
    | some v => if v = 0 then some none else fetchLoop m k (p + wordsAdvance v)

/-- `rtosc_bundle_fetch(buffer, elm)`: offset of the element (`some none` = NULL;
    `none` = a size field outside the block is read) -/
def bundleFetch (m : Bytes) (elm : Nat) : Option (Option Nat) := fetchLoop m elm 16

/-- the loop of `rtosc_bundle_size`; `k = (elm+1) - elm_pos` -/
def bsizeLoop (m : Bytes) : Nat → Nat → Nat → Option Nat
  | 0, _, last => some last
  | k + 1, p, last =>
    match rd32 m p with
    | none => none
    | some v => if v = 0 then some last else bsizeLoop m k (p + wordsAdvance v) v.toNat

/-- `rtosc_bundle_size(buffer, elm)`; `elm+1` is computed on `unsigned` -/
def bundleSize (m : Bytes) (elm : Nat) : Option Nat := bsizeLoop m (u32 (elm + 1)) 16 0

/-- `rtosc_bundle_p(msg)` = `!strcmp(msg,"#bundle")`: bytes are compared up to the first
    difference or the common terminator -/
def bundleP (m : Bytes) : Option Bool := magicU m bundleMagic 0

/-- `rtosc_bundle_timetag(msg)` -/
def bundleTimetag (m : Bytes) : Option UInt64 := rd64 m 8

/-! ### `append_bundle` (subtree-serialize.cpp:25) -/

/-- `append_bundle(dst, src, max_len, dst_len, src_len)`; `dst`, `src` are the blocks. -/
def appendBundle (dst src : Bytes) (maxLen dstLen srcLen : Nat) : Rd BResult :=
  if maxLen < dstLen + srcLen + 4 ∨ dstLen = 0 ∨ srcLen = 0 then .ok ⟨dst, 0, false⟩
  else if srcLen ≤ src.length then
    let w : BW := ⟨dst, false⟩
    let w := w.stores dstLen (put32 (UInt32.ofNat srcLen))
    let w := w.stores (dstLen + 4) (src.take srcLen)
    .ok ⟨w.buf, dstLen + srcLen + 4, w.oob⟩
  else .oob

/-! ### callers that own a block and *claim* a capacity (C02)

  In `amessage` / `vmessage` the capacity is the length of the buffer (`len = buffer.length`), so a
  caller that passes a wrong `len` cannot be expressed.  `callAt` separates the two: the caller
  owns the block `blk` and tells the constructor `len`.  The constructor behaves as on a buffer of
  `len` bytes; a store at an index `≥ blk.length` is outside the caller's block (flag `oob`).
  With the NULL pointer the constructors return the size before they look at `len`. -/

/-- `call` is a constructor with `len = buffer.length`; the bytes it may touch are
    `[0, len)` when it fails closed (`memset(buffer,0,len)`) and `[0, size)` when it fits. -/
def callAt (call : Option Bytes → Option AResult) (blk : Option Bytes) (len : Nat) : Option AResult :=
  match blk with
  | none => call none                                   -- `if(!buffer) return total_len;`
  | some b =>
    match call (some (b.take len ++ zeros (len - b.length))), call none with
    | some r, some z =>
      let touched := if z.ret > len then len else z.ret
      some ⟨r.buf.map (fun x => x.take b.length ++ b.drop len), r.ret,
            r.oob || decide (b.length < touched)⟩
    | _, _ => none

/-- `rtosc_amessage(buffer, len, address, arguments, args)` as a C caller sees it: the block the
    pointer points into and the `len` it passes are independent. -/
def amessageAt (blk : Option Bytes) (len : Nat) (addr tags : Bytes) (args : List CArg) : Option AResult :=
  callAt (fun buf => amessage buf addr tags args) blk len

/-- `rtosc_vmessage(buffer, len, address, arguments, va)` likewise -/
def vmessageAt (narrow : UInt64 → UInt32) (blk : Option Bytes) (len : Nat) (addr tags : Bytes)
    (va : List VaArg) : Option AResult :=
  callAt (fun buf => vmessage narrow buf addr tags va) blk len

/-- `rtosc_message(buffer, len, address, arguments, ...)` (rtosc.c:168):
    `va_start; result = rtosc_vmessage(buffer,len,address,arguments,va); va_end; return result;`
    — nothing is stored by `rtosc_message` itself.  `va` = the promoted values of the call site. -/
def rtoscMessage (narrow : UInt64 → UInt32) (blk : Option Bytes) (len : Nat) (addr tags : Bytes)
    (va : List VaArg) : Option AResult :=
  vmessageAt narrow blk len addr tags va

/-! ### the C++ wrappers that build into fixed buffers (C02) -/

/-- `ThreadLink::writeArray` up to the hand-off to the ring:
    `rtosc_amessage(write_buffer, MaxMsg, dest, args, aargs)`; `wbuf` is the block behind
    `write_buffer` (`new char[MaxMsg]` in the constructor), `maxMsg` the member `MaxMsg`. -/
def tlinkWriteArray (wbuf : Bytes) (maxMsg : Nat) (addr tags : Bytes) (args : List CArg) : Option AResult :=
  amessageAt (some wbuf) maxMsg addr tags args

/-- `ThreadLink::write(dest, args, ...)`: `rtosc_vmessage(write_buffer, MaxMsg, dest, args, va)`;
    `va` are the promoted values of the call site. -/
def tlinkWrite (narrow : UInt64 → UInt32) (wbuf : Bytes) (maxMsg : Nat) (addr tags : Bytes)
    (va : List VaArg) : Option AResult :=
  vmessageAt narrow (some wbuf) maxMsg addr tags va

/-- `RtData::reply(path,args,...)` / `RtData::broadcast(path,args,...)`:
    `char buffer[N]; rtosc_vmessage(buffer,C,path,args,va);` — `stack` is what the `N` bytes hold
    before the call, `cap` is the `C` the wrapper passes (N = C = 8192 in the unchanged source;
    the check reads both numbers from src/cpp/ports.cpp of the tree it runs on). -/
def rtdataReply (narrow : UInt64 → UInt32) (stack : Bytes) (cap : Nat) (addr tags : Bytes)
    (va : List VaArg) : Option AResult :=
  vmessageAt narrow (some stack) cap addr tags va

/-! ### taking a packet apart completely (what a receiver does with the readers) -/

/-- a packet taken apart: the bytes of a message, or the time tag and the packets of a bundle -/
inductive Packet where
  | msg (b : Bytes)
  | bundle (tt : UInt64) (es : List Packet)

/-- `for i in idx: decomp(rtosc_bundle_fetch(p,i), rtosc_bundle_size(p,i))` -/
def elemsVia (f : Bytes → Nat → Rd Packet) (p : Bytes) : List Nat → Rd (List Packet)
  | [] => .ok []
  | i :: is =>
    match bundleFetch p i, bundleSize p i with
    | some (some off), some sz =>
      match f (p.drop off) sz with
      | .ok x =>
        match elemsVia f p is with
        | .ok xs => .ok (x :: xs)
        | .oob => .oob
        | .hang => .hang
      | .oob => .oob
      | .hang => .hang
    | _, _ => .oob

/-- The recursive decomposition of the packet of `size` bytes at the head of block `p`, the way
    `harness/bundle.cpp` (and any receiver) does it: `rtosc_bundle_p`; for a bundle the time tag,
    `rtosc_bundle_elements(p,size)` and for every index `rtosc_bundle_fetch/size`, recursively.
    The first argument bounds the nesting depth followed. -/
def decompose : Nat → Bytes → Nat → Rd Packet
  | 0, _, _ => .hang
  | d + 1, p, size =>
    match bundleP p with
    | none => .oob
    | some false => if size ≤ p.length then .ok (.msg (p.take size)) else .oob
    | some true =>
      match bundleTimetag p with
      | none => .oob
      | some tt =>
        match bundleElements p size with
        | .oob => .oob
        | .hang => .hang
        | .ok n =>
          match elemsVia (decompose d) p (List.range' 0 n) with
          | .ok xs => .ok (.bundle tt xs)
          | .oob => .oob
          | .hang => .hang

/-! ### Specification: what a bundle *is* -/

/-- An OSC packet: a message, or a bundle of packets with a time tag. -/
inductive Elem where
  | msg (m : Msg)
  | bundle (tt : UInt64) (es : List Elem)

mutual
/-- OSC 1.0: `"#bundle\0"`, the 64-bit time tag, then every element preceded by its size. -/
def Spec.encodeElem : Elem → Bytes
  | .msg m => Spec.encode m
  | .bundle tt es => bundleMagic ++ be64 tt ++ Spec.encodeElems es
def Spec.encodeElems : List Elem → Bytes
  | [] => []
  | e :: es => be32 (UInt32.ofNat (Spec.encodeElem e).length) ++ Spec.encodeElem e ++ Spec.encodeElems es
end

mutual
/-- The packets the property quantifies over: every message well-formed with an address that
    does not start with '#' (OSC addresses start with '/'), every bundle shorter than 2^32. -/
def Elem.WF : Elem → Prop
  | .msg m => m.WF ∧ m.addr.head? ≠ some 35
  | .bundle tt es => Elems.WF es ∧ (Spec.encodeElem (.bundle tt es)).length < 4294967296
def Elems.WF : List Elem → Prop
  | [] => True
  | e :: es => Elem.WF e ∧ Elems.WF es
end

mutual
/-- what a packet has to decompose into: its own structure, every message as its encoding -/
def Elem.packet : Elem → Packet
  | .msg m => .msg (Spec.encode m)
  | .bundle tt es => .bundle tt (Elems.packets es)
def Elems.packets : List Elem → List Packet
  | [] => []
  | e :: es => Elem.packet e :: Elems.packets es
end

mutual
/-- nesting depth: 0 for a message, 1 for a bundle of messages, … -/
def Elem.depth : Elem → Nat
  | .msg _ => 0
  | .bundle _ es => Elems.depth es + 1
def Elems.depth : List Elem → Nat
  | [] => 0
  | e :: es => max (Elem.depth e) (Elems.depth es)
end

def Elem.isBundle : Elem → Bool
  | .msg _ => false
  | .bundle _ _ => true

/-- distance of the size field of element `i` from the first size field -/
def Spec.elemRel : List Elem → Nat → Nat
  | [], _ => 0
  | _ :: _, 0 => 0
  | e :: es, i + 1 => 4 + (Spec.encodeElem e).length + Spec.elemRel es i

/-- offset of element `i` inside `Spec.encodeElem (.bundle tt es)` -/
def Spec.elemOffset (es : List Elem) (i : Nat) : Nat := 20 + Spec.elemRel es i

/-- the block `blk` an element pointer points into starts with the encoding of `e` -/
def Elem.Holds (blk : Bytes) (e : Elem) : Prop := Spec.encodeElem e <+: blk

/-- behind a bundle the block goes on with a zero word (a message needs nothing behind it) -/
def Elem.Terminated (blk : Bytes) (e : Elem) : Prop :=
  e.isBundle = true → (blk.drop (Spec.encodeElem e).length).take 4 = [0, 0, 0, 0]

instance (blk : Bytes) (e : Elem) : Decidable (Elem.Terminated blk e) := by
  unfold Elem.Terminated; exact inferInstance

/-- **Trigger of known finding C08-K4**: some element is a bundle whose block does not go on
    with a zero word — `rtosc_bundle` asks `rtosc_message_length(msg,-1)` for its size, and
    `bundle_ring_length` reads the word behind the last element (rtosc.c:781 / 554). -/
def NestedUnterminated : List Elem → List Bytes → Prop
  | e :: es, blk :: blks => ¬ Elem.Terminated blk e ∨ NestedUnterminated es blks
  | _, _ => False

instance : ∀ (es : List Elem) (blks : List Bytes), Decidable (NestedUnterminated es blks)
  | [], _ => isFalse (by simp [NestedUnterminated])
  | _ :: _, [] => isFalse (by simp [NestedUnterminated])
  | e :: es, blk :: blks =>
    have := instDecidableNestedUnterminated es blks
    decidable_of_iff (¬ Elem.Terminated blk e ∨ NestedUnterminated es blks) (by simp [NestedUnterminated])

/-- element by element, the blocks start with the encodings -/
def BlocksHold : List Elem → List Bytes → Prop
  | [], [] => True
  | e :: es, blk :: blks => Elem.Holds blk e ∧ BlocksHold es blks
  | _, _ => False

end Rtosc.Osc
