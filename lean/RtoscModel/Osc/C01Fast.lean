/-
  C01 — executable shortcut for the compiled driver `drv_osc` (no new semantics).

  `Osc/BufFast.lean` (C02/C08) replaces the quadratic byte-by-byte writer `amessage` by a proved
  equal linear one through a `@[csimp]` rule, which only affects code compiled *after* that file.
  `avmessage` (Osc/Encode.lean) is compiled before it, so it is restated here — definitionally
  the same function — for the compiler to route it through the fast writer as well.
  All theorems of C01 are about `avmessage` / `amessage` themselves.
-/
import RtoscModel.Osc.BufFast
namespace Rtosc.Osc
open Rtosc

def avmessageFast (buffer : Option Bytes) (addr : Bytes) (avs : List ArgVal) : Option AResult :=
  match avCollect avs with
  | none => none
  | some (tags, vals) => amessage buffer addr tags vals

@[csimp] theorem avmessage_eq_avmessageFast : @avmessage = @avmessageFast := by
  funext buffer addr avs
  rfl

end Rtosc.Osc
