/-
  C01 / C02 / C07 — the vocabulary of the property statements about single messages that is not part
  of the model or of the OSC 1.0 specification (`Osc/Spec.lean`): definitions only.

  * C01, C02 (Props/C01.lean, Props/C02.lean): the message a variadic call site sends, i.e. the
    caller's with the values under an `'f'` tag sent through a function (`viaDoubleA`,
    `Msg.viaDouble`, `Msg.sent`), the address `"#bundle"` (`bundleAddr`).  (`fArgs`, the values
    under an `'f'` tag, stands with its lemmas in Proofs/OscEncode.lean.)
  * C07 (Props/C07.lean): the messages the reference decoders of `Osc/Decode.lean` can return
    (`LaxCanon`, `Canon`) and equality of two byte strings up to padding (`PadEq`).
-/
import RtoscModel.Osc.Encode
import RtoscModel.Osc.Decode
namespace Rtosc.Osc
open Rtosc

/-- `viaDoubleC` (Proofs/OscEncode.lean) on abstract arguments -/
def viaDoubleA (g : UInt32 → UInt32) : Bytes → List Arg → List Arg
  | [], args => args
  | t :: ts, args =>
    if !hasReserved t then viaDoubleA g ts args
    else
      match args with
      | [] => []
      | a :: as =>
        (match a with
          | .w32 v => if t = 102 then Arg.w32 (g v) else a
          | _ => a) :: viaDoubleA g ts as

/-- the message a variadic call site really builds: every `float` argument went through `g`
    (`g v = narrow (widen v)`), everything else is as the caller wrote it -/
def Msg.viaDouble (g : UInt32 → UInt32) (m : Msg) : Msg := ⟨m.addr, m.tags, viaDoubleA g m.tags m.args⟩

/-- what a variadic call site sends for `m` on a target whose `float → double` promotion is `widen`
    and whose `double → float` conversion is `narrow` (both on bit patterns, both arbitrary) -/
def Msg.sent (narrow : UInt64 → UInt32) (widen : UInt32 → UInt64) (m : Msg) : Msg :=
  m.viaDouble (fun v => narrow (widen v))

/-- the address `"#bundle"`: the only address whose encoding starts with the 8 bytes
    `"#bundle\0"` that `rtosc_message_ring_length` takes for the start of a bundle -/
def bundleAddr : Bytes := [35, 98, 117, 110, 100, 108, 101]

end Rtosc.Osc

namespace Rtosc.Osc.V
open Rtosc Rtosc.Osc

/-- `e` has the length of the canonical bytes `c` and differs from them at most where `c` is NUL -/
inductive PadEq : Bytes → Bytes → Prop
  | nil : PadEq [] []
  | cons {x y : UInt8} {xs ys : Bytes} : (x = y ∨ y = 0) → PadEq xs ys → PadEq (x :: xs) (y :: ys)

/-- The messages a padding-blind decoder can return: the address starts with '/' and is printable
    ASCII, the tag bytes are not NUL, one well-formed argument per payload tag. -/
structure LaxCanon (m : Msg) : Prop where
  addr_slash : m.addr.head? = some 47
  addr_print : m.addr.all printable = true
  tags_nn : NoNul m.tags
  matches_ : Matches m.tags m.args
  args_ok : ∀ a ∈ m.args, a.WF

/-- The messages the strict OSC 1.0 decoder can return: moreover every tag is one of the 17. -/
structure Canon (m : Msg) : Prop extends LaxCanon m where
  tags_ok : m.tags.all isTag = true

end Rtosc.Osc.V
