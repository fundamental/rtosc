/-
  C20 — the vocabulary in which the statements of Props/C20.lean (and the obligations `half_survives_bind`, `lastVals_lt`,
  `f32Round_value`, `half_lt` in Proofs/Midi*) are written, beyond what the model file RtoscModel/Midi.lean itself
  defines (`binding`, `Table`, `hazard`, the trigger predicates): histories and reachable states, the hypotheses on
  ports and snapshots, the last value of a controller, the reading of an emitted argument and of a binary32 bit
  pattern, rounding to 24 significant bits, and `PendingQueue` as the code has it.  Definitions only; the lemmas about
  them are in the Proofs/Midi* modules.  Core Lean only (the model is linked into `drv_midi`).
-/
import RtoscModel.Midi
namespace Rtosc.Midi

/-! ## Histories -/

/-- the inputs the property quantifies over: existing addresses, 7-bit values -/
def Op.wf (P : List PortSpec) : Op → Prop
  | .map a _ => a < P.length
  | .unmap a _ => a < P.length
  | .cc _ val => val ≤ 127
  | _ => True

instance (P : List PortSpec) (op : Op) : Decidable (op.wf P) := by
  cases op <;> simp only [Op.wf] <;> infer_instance

/-- A history: the (state before, op) pairs, most recent first, leading from the initial
    state to the current one. -/
inductive Trace (P : List PortSpec) : List (Sys × Op) → Sys → Prop
  | init : Trace P [] Sys.init
  | step {h s s' op out} : Trace P h s → op.wf P → step P s op = some (s', out) →
      Trace P ((s, op) :: h) s'

def HazardFree (h : List (Sys × Op)) : Prop := ∀ x ∈ h, hazard x.1 x.2 = false

/-- reachable states (any delivery order, hazards allowed) -/
inductive Reach (P : List PortSpec) : Sys → Prop
  | init : Reach P Sys.init
  | step {s s' op out} : Reach P s → op.wf P → step P s op = some (s', out) → Reach P s'

/-- the history contains a learn step for `id`: its `/midi-use-CC` request reached
    `useFreeID` while an address was queued -/
def Assigned (h : List (Sys × Op)) (id : Nat) : Prop :=
  ∃ x ∈ h, x.2 = .deliverNRT ∧ x.1.toNRT.head? = some id ∧ x.1.nrt.learnQ ≠ []

instance (h : List (Sys × Op)) (id : Nat) : Decidable (Assigned h id) := by
  unfold Assigned; infer_instance

/-- the non-realtime states of a history: the current one and all earlier ones -/
def pastNrts (h : List (Sys × Op)) (s : Sys) : List NRT := s.nrt :: h.map (·.1.nrt)

/-- the (state before, op) pairs of a run, most recent first -/
def histOf (P : List PortSpec) : Sys → List Op → List (Sys × Op)
  | _, [] => []
  | s, op :: ops =>
    match step P s op with
    | none => []
    | some (s', _) => histOf P s' ops ++ [(s, op)]

/-- port table of the witnesses: `p0:i` 0..127, `p1:f` -1..1, `p2:f` 0..1 -/
def exPorts : List PortSpec := [⟨true, 0, 1016⟩, ⟨false, -8, 8⟩, ⟨false, 0, 8⟩]

/-! ## Snapshots -/

def ids (m : List MapEnt) : List Nat := m.map (·.id)

/-- A snapshot is well-formed: slots inside the vectors, distinct controller IDs. -/
structure StOk (st : Storage) : Prop where
  slots : ∀ e ∈ st.mapping, e.slot < st.callbacks.length
  vals : st.values.length = st.callbacks.length
  nodup : (ids st.mapping).Nodup

/-- the answered controllers of the binds in flight -/
def answers (fl : List (Storage × Option Nat)) : List Nat := fl.filterMap (·.2)

/-- no two entries own the same half of the same slot -/
def PairInj (m : List MapEnt) : Prop :=
  ∀ e1 ∈ m, ∀ e2 ∈ m, e1.slot = e2.slot → e1.coarse = e2.coarse → e1 = e2

/-- the callback `generateNewBijection` builds for port `p` at address `a` -/
def portCb (a : Nat) (p : PortSpec) : Cb := ⟨a, p.isInt, p.min8, p.max8⟩

/-! ## Values: the halves of a 14-bit cell, the last value of a controller -/

/-- the 7-bit half of a 14-bit slot value: coarse = upper, fine = lower (what `cloneValues` extracts) -/
def half (c : Bool) (v : Nat) : Nat := if c then v >>> 7 else v &&& 0x7f

/-- the half `(slot, c)` as seen in a value vector -/
def halfAt (slot : Nat) (c : Bool) (vals : List Nat) : Option Nat := (vals[slot]?).map (half c)

/-- The last value controller `x` sent while the realtime half had it bound, 0 if there is none;
    a controller that a delivered snapshot no longer binds forgets its value.  (History: most recent
    step first; every entry is the state BEFORE the step and the step.) -/
def lastVals : List (Sys × Op) → Nat → Nat
  | [] => fun _ => 0
  | (s, op) :: h =>
    match op with
    | .cc id v => fun x => if x = id ∧ (s.rt.binding id).isSome then v else lastVals h x
    | .deliverRT =>
      match s.toRT with
      | .bind ns _ :: _ => fun x => if (ns.binding x).isSome then lastVals h x else 0
      | _ => lastVals h
    | _ => lastVals h

/-! ## What is emitted: rounding to `float`, the bits of a `float`, the argument of a message -/

/-- round `n` to a multiple of `2^sh`, nearest, ties to even (the `else` branch of `f32Round`) -/
def rq (n sh : Nat) : Nat :=
  if n % 2 ^ sh > 2 ^ (sh - 1) ∨ (n % 2 ^ sh = 2 ^ (sh - 1) ∧ (n >>> sh) % 2 = 1) then (n >>> sh) + 1 else n >>> sh

def rndTo (n sh : Nat) : Nat := rq n sh * 2 ^ sh

/-- the numerator of the `float` nearest to `n / 2^e` over the same denominator -/
def rnd (n : Nat) : Nat := if bitLen n ≤ 24 then n else rndTo n (bitLen n - 24)

/-- the numerator (over `2^e`) of the `float` that `f32OfDyadic num e` encodes: `f32Round` is applied to
    `|num|` (`f32Round_value`: its significand/exponent pair denotes `rnd |num| / 2^e`), the sign is kept -/
def rndZ (num : Int) : Int := if num < 0 then -(rnd num.natAbs : Int) else (rnd num.natAbs : Int)

/-- IEEE-754 binary32, read from the bit pattern: `value * 2^149` (an integer for every finite pattern;
    exponent field 0 = subnormal: `frac * 2^-149`; otherwise `(2^23 + frac) * 2^(ex-150)`) -/
def f32Scaled (bits : Nat) : Int :=
  let ex := bits / 2 ^ 23 % 256
  let frac := bits % 2 ^ 23
  let mag : Nat := if ex = 0 then frac else (2 ^ 23 + frac) * 2 ^ (ex - 1)
  if bits / 2 ^ 31 % 2 = 1 then -(mag : Int) else (mag : Int)

/-- a 32-bit pattern that is neither an infinity nor a NaN -/
def f32Finite (bits : Nat) : Prop := bits < 2 ^ 32 ∧ bits / 2 ^ 23 % 256 ≠ 255

/-- the exact value of a message argument, times `2^149` (`float`: decoded from its bit pattern) -/
def Val.scaled : Val → Int
  | .int v => v * 2 ^ 149
  | .flt bits => f32Scaled bits

def Val.isInt : Val → Bool
  | .int _ => true
  | .flt _ => false

/-- an `int` always is a number; a `float` is one when its pattern is neither infinity nor NaN -/
def Val.finite : Val → Prop
  | .int _ => True
  | .flt bits => f32Finite bits

/-- the ports the property quantifies over: `min ≤ max`, both multiples of 1/8 with `|·| ≤ 2^20`; an
    `i` port has integral bounds -/
def PortOk (p : PortSpec) : Prop :=
  p.min8 ≤ p.max8 ∧ -8388608 ≤ p.min8 ∧ p.max8 ≤ 8388608 ∧ (p.isInt = true → 8 ∣ p.min8 ∧ 8 ∣ p.max8)

instance (p : PortSpec) : Decidable (PortOk p) := by unfold PortOk; infer_instance

/-- **What the statement says about one incoming controller value**, as a predicate of the history `h`
    (most recent step first) that led to the state `s` in which controller `id` says `val`, and of the
    messages `out` that reach the backend:
    * a controller bound to nothing produces no message;
    * a controller bound to `(a, k)` (address, coarse/fine) produces EXACTLY ONE message, the one the port
      at `a` writes for the 14-bit value with `val` in the controller's half and `o` in the other half,
      where `o` is the LAST value (`lastVals`) of the controller bound to the other half of `a`, 0 when
      there is none;
    * for this `o` the message written for ANY 7-bit value `v` goes to `a`, has the port's type, is a
      finite number within `[min, max]`, and does not decrease when `v` grows. -/
def EmitsComposed (P : List PortSpec) (h : List (Sys × Op)) (s : Sys) (id val : Nat) (out : List Msg) : Prop :=
  (s.rt.binding id = none → out = []) ∧
  ∀ a k, s.rt.binding id = some (a, k) →
    ∃ p o, P[a]? = some p ∧ o < 128 ∧
      (∀ id', s.rt.binding id' = some (a, !k) → o = lastVals h id') ∧
      ((∀ id', s.rt.binding id' ≠ some (a, !k)) → o = 0) ∧
      out = [(portCb a p).fire (compose14 k val o)] ∧
      ∀ v v', v ≤ v' → v' ≤ 127 →
        ((portCb a p).fire (compose14 k v o)).addr = a ∧
        ((portCb a p).fire (compose14 k v o)).val.isInt = p.isInt ∧
        ((portCb a p).fire (compose14 k v o)).val.finite ∧
        p.min8 * 2 ^ 146 ≤ ((portCb a p).fire (compose14 k v o)).val.scaled ∧
        ((portCb a p).fire (compose14 k v o)).val.scaled ≤ p.max8 * 2 ^ 146 ∧
        ((portCb a p).fire (compose14 k v o)).val.scaled ≤ ((portCb a p).fire (compose14 k v' o)).val.scaled

/-- what a step of a run has to put out: a controller value what `EmitsComposed` says, any other step
    nothing -/
def StepEmits (P : List PortSpec) (h : List (Sys × Op)) (s : Sys) (op : Op) (out : List Msg) : Prop :=
  match op with
  | .cc id val => EmitsComposed P h s id val out
  | _ => out = []

/-! ## `MidiMapperRT::PendingQueue` (include/rtosc/miditable.h) as the code has it

  a ring of 32 `int` cells (`-1` = free), a read cursor, a write cursor and a size; the model uses the FIFO list of
  the occupied cells (`pendInsert`, `List.drop 1`, `List.contains`) -/

/-- `PendingQueue`: `vals[32]` (`none` = `-1`), `pos_r`, `pos_w`, `size` -/
structure Ring where
  vals : Nat → Option Nat
  posR : Nat
  posW : Nat
  size : Nat

def Ring.init : Ring := ⟨fun _ => none, 0, 0, 0⟩

/-- `has`: `for(i<32) if(vals[i]==x) return true` -/
def Ring.has (r : Ring) (x : Nat) : Bool := (List.range 32).any (fun j => r.vals j == some x)

/-- `insert` -/
def Ring.insert (r : Ring) (x : Nat) : Ring :=
  if r.has x ∨ r.size > 31 then r
  else ⟨fun j => if j = r.posW then some x else r.vals j, r.posR, (r.posW + 1) % 32, r.size + 1⟩

/-- `pop` -/
def Ring.pop (r : Ring) : Ring :=
  if r.size = 0 then r
  else ⟨fun j => if j = r.posR then none else r.vals j, (1 + r.posR) % 32, r.posW, r.size - 1⟩

/-- the ring `r` holds exactly the list `l`, oldest first -/
structure RingOk (r : Ring) (l : List Nat) : Prop where
  posR : r.posR < 32
  len : l.length = r.size
  size : r.size ≤ 32
  posW : r.posW = (r.posR + r.size) % 32
  cells : ∀ i, i < r.size → r.vals ((r.posR + i) % 32) = l[i]?
  free : ∀ j, j < 32 → (∀ i, i < r.size → j ≠ (r.posR + i) % 32) → r.vals j = none

/-- the two operations that change the queue (`has` only reads) -/
inductive QOp where
  | insert (x : Nat)
  | pop

def Ring.apply (r : Ring) : QOp → Ring
  | .insert x => r.insert x
  | .pop => r.pop

def pendApply (l : List Nat) : QOp → List Nat
  | .insert x => pendInsert l x
  | .pop => l.drop 1

end Rtosc.Midi
