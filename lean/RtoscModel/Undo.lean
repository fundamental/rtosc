/-
  C15 — model of `rtosc::UndoHistory` (src/cpp/undo-history.cpp), no Mathlib.

  State of the real object: `std::deque<pair<time_t,const char*>> history` and
  `long history_pos`.  An event message `/undo_change s<t><t> path old new` is kept as the
  record `Event` (path bytes, the type tag `<t>`, the 4 payload bytes of argument 1 and of
  argument 2 as a `UInt32`; the tags the library emits — `rCAPPLY` in port-sugar.h — are
  `i`, `f`, `c`, all with a 4-byte payload that `rtosc_argument`/`rtosc_amessage` move
  through the `rtosc_arg_t` union bit for bit).  `time(NULL)` is the parameter `now`
  (seconds, `Int`); `difftime(a,b) > w` on `time_t` values below 2^53 is `a - b > w`.

  The model mirrors the code with fixes/C15-merge-scan.patch applied (see `mergeRev`).
-/
import RtoscModel.Basic
import RtoscModel.Generated.UndoConst
namespace Rtosc.Undo
open Rtosc

structure Event where
  addr : Bytes
  tag  : UInt8
  old  : UInt32
  new  : UInt32
deriving DecidableEq, Repr, Inhabited

/-- A message handed to the callback: `<addr> ,<tag> <val>`. -/
structure Msg where
  addr : Bytes
  tag  : UInt8
  val  : UInt32
deriving DecidableEq, Repr

/-- What one callback invocation receives: a set-message, or (`none`) the zeroed
    256-byte buffer when `rtosc_amessage` refused to build the message in `rewind`. -/
abbrev Emit := Option Msg

abbrev Entry := Int × Event

structure State where
  hist : List Entry
  pos  : Nat
deriving DecidableEq, Repr

/-- `UndoHistory::UndoHistory()` -/
def init : State := ⟨[], 0⟩

/-- `UndoHistory::size()` -/
def size (s : State) : Nat := s.hist.length
/-- `UndoHistory::getPos()` -/
def getPos (s : State) : Nat := s.pos

/-! ### rewind / replay: the set-message built into `static char tmp[256]` -/

/-- `pos += 4 - pos%4` -/
def pad4 (n : Nat) : Nat := n + (4 - n % 4)

/-- `vsosc_null(addr, "<t>", arg)` for a 4-byte tag: padded address, `,<t>\0\0`, payload. -/
def setMsgLen (addr : Bytes) : Nat := pad4 addr.length + 4 + 4

/-- `rtosc_amessage(tmp, 256, …)` succeeds iff `total_len <= len`. -/
def fits (addr : Bytes) : Bool := setMsgLen addr ≤ Generated.tmpSize

/-- `UndoHistoryImpl::rewind`: `memset(tmp,0)`, build `<path> ,<t> <arg 1>`, `cb(tmp)`
    unconditionally (a refused message leaves the zeroed buffer). -/
def rewindMsg (e : Event) : Emit :=
  if fits e.addr then some ⟨e.addr, e.tag, e.old⟩ else none

/-- `UndoHistoryImpl::replay`: build `<path> ,<t> <arg 2>`; `if(len) cb(tmp)`. -/
def replayMsg (e : Event) : List Emit :=
  if fits e.addr then [some ⟨e.addr, e.tag, e.new⟩] else []

/-! ### mergeEvent -/

/-- The spliced event: `args[0] = msg.arg0` (path), `args[1] = history[i].arg1` (first
    old value), `args[2] = msg.arg2` (last new value), type string of `msg`. -/
def splice (e ev : Event) : Event := { addr := ev.addr, tag := ev.tag, old := e.old, new := ev.new }

/-- The loop `for(i = history_pos-1; i >= 0; --i)` of `mergeEvent` over the applied
    entries *newest first* (`l = (history[0..pos)).reverse`): entries of other addresses
    are skipped (`continue`); the first entry with the same address decides: older than
    the window → `break` (no merge), otherwise it is replaced by the spliced event stamped
    `now`.  `none` = `return false`. -/
def mergeRev (now : Int) (ev : Event) : List Entry → Option (List Entry)
  | [] => none
  | (t, e) :: rest =>
    if e.addr ≠ ev.addr then (mergeRev now ev rest).map ((t, e) :: ·)
    else if now - t > Generated.mergeWindow then none
    else some ((now, splice e ev) :: rest)

/-- `UndoHistoryImpl::mergeEvent` on a history that has just been resized to
    `history_pos` entries (so `history[0..pos)` is all of `h`). -/
def mergeEvent (now : Int) (ev : Event) (h : List Entry) (pos : Nat) : Option (List Entry) :=
  if pos = 0 then none else (mergeRev now ev h.reverse).map List.reverse

/-! ### recordEvent -/

/-- `UndoHistory::recordEvent`.  `history.resize(history_pos)` is `take`: growing would
    need `pos > size`, which never happens in a reachable state (`reachable_wf`, Props/C15.lean). -/
def recordEvent (now : Int) (ev : Event) (s : State) : State :=
  let h := if s.hist.length ≠ s.pos then s.hist.take s.pos else s.hist
  match mergeEvent now ev h s.pos with
  | some h' => ⟨h', s.pos⟩
  | none =>
    let h1 := h ++ [(now, ev)]
    let p1 := s.pos + 1
    if h1.length > Generated.maxHistory then ⟨h1.drop 1, p1 - 1⟩ else ⟨h1, p1⟩

/-! ### seekHistory -/

/-- `while(distance++) rewind(history[--history_pos])`, `n` iterations.  `none`: an index
    outside the deque would be read. -/
def rewindN : Nat → State → Option (State × List Emit)
  | 0, s => some (s, [])
  | n + 1, s =>
    match s.pos with
    | 0 => none
    | p + 1 =>
      match s.hist[p]? with
      | none => none
      | some (_, e) => (rewindN n ⟨s.hist, p⟩).map fun (s', ms) => (s', rewindMsg e :: ms)

/-- `while(distance--) replay(history[history_pos++])`, `n` iterations. -/
def replayN : Nat → State → Option (State × List Emit)
  | 0, s => some (s, [])
  | n + 1, s =>
    match s.hist[s.pos]? with
    | none => none
    | some (_, e) => (replayN n ⟨s.hist, s.pos + 1⟩).map fun (s', ms) => (s', replayMsg e ++ ms)

/-- `UndoHistory::seekHistory(int distance)`: returns the new state and the messages the
    callback received, in order. -/
def seekHistory (s : State) (distance : Int) : Option (State × List Emit) :=
  let dest : Int := (s.pos : Int) + distance
  let d1 : Int := if dest < 0 then distance - dest else distance
  let d2 : Int := if dest > (s.hist.length : Int) then (s.hist.length : Int) - (s.pos : Int) else d1
  if d2 = 0 then some (s, [])
  else if d2 < 0 then rewindN d2.natAbs s
  else replayN d2.toNat s

/-! ### Application store (observable "application state after dispatching them") -/

abbrev Store := Bytes → UInt32

def Store.set (σ : Store) (a : Bytes) (v : UInt32) : Store := fun b => if b = a then v else σ b

/-- Dispatching one callback message into the application: a set-message stores its
    value at its address; the zeroed buffer addresses nothing. -/
def applyEmit (σ : Store) : Emit → Store
  | none => σ
  | some m => σ.set m.addr m.val

def applyEmits (σ : Store) (ms : List Emit) : Store := ms.foldl applyEmit σ

/-- An application with undo support, as in test/undo-test.cpp: parameters live in `σ`;
    a parameter port that changes a value reports `/undo_change path old new` with the true
    old value (`rCAPPLY`), which is recorded; undo/redo messages are dispatched back into
    the ports with recording disabled. -/
structure App where
  u     : State
  σ     : Store
  clock : Int

inductive Op where
  | set  (a : Bytes) (tag : UInt8) (v : UInt32)
  | seek (k : Int)
  | tick (d : Int)
deriving Repr

def App.init (σ0 : Store) (t0 : Int) : App := ⟨Undo.init, σ0, t0⟩

/-- One application step; also returns what the undo callback received. -/
def App.step (A : App) : Op → Option (App × List Emit)
  | .set a tag v =>
    if A.σ a = v then some (A, [])
    else some ({ A with u := recordEvent A.clock ⟨a, tag, A.σ a, v⟩ A.u, σ := A.σ.set a v }, [])
  | .seek k =>
    (seekHistory A.u k).map fun (u', ms) => ({ A with u := u', σ := applyEmits A.σ ms }, ms)
  | .tick d => some ({ A with clock := A.clock + d }, [])

def App.run (A : App) : List Op → Option App
  | [] => some A
  | o :: os => (A.step o).bind fun (A', _) => A'.run os

end Rtosc.Undo
