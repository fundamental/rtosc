/-
  C12 / C13 — Bool versions of the two clauses of `App.WF` the driver's `wf` report does not print
  (`kind_ok`, `walk_tiles`); soundness is proved in Proofs/SaveWfBool.lean.  No Mathlib import.
-/
import RtoscModel.Save.Spec
namespace Rtosc.Save

def nodupB : List Path → Bool
  | [] => true
  | a :: r => !r.contains a && nodupB r

def inCharB (o : Option Int) : Bool :=
  match o with
  | some a => decide (-128 ≤ a) && decide (a ≤ 127)
  | none => true

def notNaNB (o : Option UInt32) : Bool :=
  match o with
  | some a => !fltIsNaN a
  | none => true

/-- `KindOK` -/
def kindOkB : Kind → Bool
  | .opt names => nodupB names
  | .flt mn mx =>
    notNaNB mn && notNaNB mx &&
    (match mn, mx with
     | some a, some b => !fltLt b a
     | _, _ => true)
  | .ichar mn mx => inCharB mn && inCharB mx
  | _ => true

/-- `Tiling` -/
def tilingB : Nat → List Item → Nat → Bool
  | a, [], b => a == b
  | a, it :: r, b => it.lo == a && decide (it.lo < it.hi) && tilingB it.hi r b

/-- insertion of an item into a list ordered by `lo` -/
def insertLo (it : Item) : List Item → List Item
  | [] => [it]
  | x :: r => if it.lo ≤ x.lo then it :: x :: r else x :: insertLo it r

def sortLo : List Item → List Item
  | [] => []
  | it :: r => insertLo it (sortLo r)

namespace App

/-- `WF.kind_ok` -/
def kindOkB (app : App) : Bool := app.params.all fun p => Rtosc.Save.kindOkB p.kind

/-- `WF.walk_tiles`: the walk, ordered by first index, tiles `[0, size)` -/
def walkTilesB (app : App) : Bool := tilingB 0 (sortLo app.walk) app.size

end App
end Rtosc.Save
