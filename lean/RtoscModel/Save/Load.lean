/-
  C12 / C13 — model of `dispatch_printed_messages` (after scanning) and `load_from_file`
  (src/cpp/savefile.cpp:579-886, 916-966) at the level of abstract lines: a line is a port name
  plus its scanned argument values.  Scanning the text (C10/C11), rebuilding the OSC
  message (C01) and finding the port (C04) are the lower stages; here a message is
  handed to `App.dispatch`.
-/
import RtoscModel.Save.Deps
namespace Rtosc.Save

/-- the scanned arguments of one message: plain values, or one array `[…]`
    (ranges already expanded, as `rtosc_arg_val_itr` does while dispatching) -/
inductive Args where
  | plain (vs : List Val)
  | arr (vs : List Val)
deriving Repr, Inhabited, DecidableEq

structure Line where
  addr : Path
  args : Args
deriving Repr, Inhabited, DecidableEq

/-- `snprintf(portname_end, 8, "%d", arr_idx)` -/
def natDigits (n : Nat) : Path := (toString n).toList

namespace App
variable (app : App)

/-- "for bundles, send each element separately": element `i` goes to `<addr><i>` -/
def dispatchArr (addr : Path) : List Val → Nat → State → Option State
  | [], _, s => some s
  | v :: vs, i, s =>
    match app.dispatch (addr ++ natDigits i) [v] s with
    | none => none
    | some s' => dispatchArr addr vs (i + 1) s'

/-- the body of the final `for(order_id : order)` loop for one message with the default
    dispatcher: `none` = `ok` became false. -/
def applyLine (l : Line) (s : State) : Option State :=
  match l.args with
  | .plain vs => app.dispatch l.addr vs s
  | .arr [] => app.dispatch (l.addr ++ natDigits 0) [] s   -- `nargs ? itr.i < nargs : !arr_idx`: a message without arguments is sent once
  | .arr vs => app.dispatchArr l.addr vs 0 s

/-- dispatch the messages in the given order, stopping at the first failure -/
def applyOrder (ls : List Line) : List Nat → State → Option State
  | [], s => some s
  | i :: r, s =>
    match ls[i]? with
    | none => none
    | some l => match app.applyLine l s with
      | none => none
      | some s' => applyOrder ls r s'

end App

inductive LoadRes where
  /-- `ok`: return value = number of messages read -/
  | ok (s : State) (count : Nat)
  /-- negative return value -/
  | fail
  /-- the model is undefined: the dependency scan does not end within `scanFuel` (cyclic metadata), or Kahn's loop
      does not end within its fuel (excluded for acyclic graphs whose edges point to messages: `kahn_fuel_suffices`) -/
  | undefined

/-- recursion budget of the dependency scan; the code has none (it recurses until the
    stack is exhausted), the model reports `undefined` beyond it -/
def scanFuel : Nat := 64

/-- `dispatch_printed_messages` after the scan phase: dependency edges, Kahn's
    algorithm, dispatch in that order. -/
def App.load (app : App) (ls : List Line) (s : State) : LoadRes :=
  match dependees app.apropos scanFuel (ls.map (·.addr)) with
  | none => .undefined
  | some deps =>
    match kahn deps with
    | none => .undefined
    | some order =>
      match app.applyOrder ls order s with
      | none => .fail
      | some s' => .ok s' ls.length

/-- What `load_from_file` sees of a file, after the text stages:
    first line `% RT OSC v<a>.<b>.<c> savefile`, second line `% <app> v<a>.<b>.<c>`
    (`magic`: the two lines have this shape — the `sscanf` formats of `load_from_file` match them to
    the end; the numbers and the name they carry are the next three fields), then the messages;
    a message the scanner rejects is `none`. -/
structure File where
  magic : Bool
  rtoscVer : Nat × Nat × Nat
  appName : Path
  appVer : Nat × Nat × Nat
  body : List (Option Line)

def verOk (v : Nat × Nat × Nat) : Bool := v.1 ≤ 255 && v.2.1 ≤ 255 && v.2.2 ≤ 255

/-- the messages scanned before the first unparsable one, and whether all parsed
    (`while(*msg_ptr && ok)`) -/
def scanBody : List (Option Line) → List Line × Bool
  | [] => ([], true)
  | none :: _ => ([], false)
  | some l :: r => let (ls, ok) := scanBody r; (l :: ls, ok)

/-- `load_from_file` -/
def App.loadFile (app : App) (f : File) (s : State) : LoadRes :=
  if !f.magic || !verOk f.rtoscVer then .fail
  else if f.appName ≠ app.name || !verOk f.appVer then .fail
  else
    let (ls, ok) := scanBody f.body
    -- a scan error leaves `ok == false`: the dispatch loop sends nothing and breaks
    if !ok then .fail else app.load ls s

end Rtosc.Save
