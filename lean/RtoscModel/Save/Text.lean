/-
  C12 — the text stage of the savefile code: what `save_to_file` writes and what
  `load_from_file` / `dispatch_printed_messages` read, composed from the C10 models of the pretty
  printer (`Pretty.printMessage`), the syntax checker (`Pretty.countPrintedArgValsOfMsg`) and the
  scanner (`Pretty.scanMessage`).

  save (src/cpp/savefile.cpp, `write_msg` in `get_changed_values`, `save_to_file`):
      *res += port_buffer;                                   -- the address
      char cur_value_pretty[buffersize] = " ";
      rtosc_print_arg_vals(args, n, cur_value_pretty + 1, buffersize - 1,
                           NULL /* default options */, strlen(port_buffer) + 1);
      *res += cur_value_pretty; *res += "\n";                 (the last "\n" is removed)
    i.e. one line = address, a blank, the printed argument list, the printer starting in column
    `strlen(address) + 1` with the blank as the character in front of its buffer: exactly
    `Pretty.printMessage defaultOpt address args 0`.  The options are `default_print_options`
    = { lossless, precision 2, " ", line length 80, compress ranges } (`Pretty.defaultOpt`).
    The file is "% RT OSC v<a>.<b>.<c> savefile\n% <app> v<a>.<b>.<c>\n" followed by the lines.

  load (`load_from_file`, the first loop of `dispatch_printed_messages`):
      sscanf(" %% RT OSC v%u.%u.%u savefile%n "), sscanf(" %% %127s v%u.%u.%u%n "),
      while(*msg_ptr && ok) { nargs = rtosc_count_printed_arg_vals_of_msg(msg_ptr);
                              if(nargs >= 0) { rd = rtosc_scan_message(msg_ptr, name, 8192, …, nargs, …);
                                               msg_ptr += rd; }
                              else if(nargs == INT_MIN) skip to the end  else ok = false; }

  The two header `sscanf`s are transcribed by hand below (`parseHeader`; C10's `sscanf` model has
  neither `%u` nor `%s`): white space in the format matches any amount of white space, `%u` skips
  white space, takes an optional sign as `strtoul` does and reads decimal digits (`scanU`, `wrapU`), `%127s` reads
  up to 127 non-blank characters.

  Of this file the compiled driver `drv_save` runs the header part only (`header1`, `header2`, `parseHeader`,
  `bytesPath`; Driver/SaveEngine.lean); it compares
  abstract lines, and the rest defines the composition the theorems of Props/C12Text.lean are about.
  No Mathlib import.
-/
import RtoscModel.Save.Save
import RtoscModel.Pretty.Check
import RtoscModel.ArgVal.Itr
namespace Rtosc.Save.Text
open Rtosc Rtosc.Libc Rtosc.Pretty
open Rtosc.ArgVal (Cell)

/-! ### values and addresses as the text stages see them -/

def byteOfChar (c : Char) : UInt8 := c.toNat.toUInt8
def charOfByte (b : UInt8) : Char := Char.ofNat b.toNat

/-- a port name / symbol as a C string -/
def pathBytes (p : Path) : Bytes := p.map byteOfChar
def bytesPath (b : Bytes) : Path := b.map charOfByte

/-- the `rtosc_arg_val_t` of a parameter value: `i`, `c`, `f`, `T`/`F`, `S`, `s` -/
def cellOfVal : Val → Cell
  | .int i => .int .i i
  | .chr c => .int .c c
  | .flt b => .flt b
  | .bool true => .flag .T
  | .bool false => .flag .F
  | .sym s => .str .S (some (pathBytes s))
  | .str bs => .str .s (some bs)

/-- a scanned cell as a parameter value; `none`: a type no parameter kind of the model carries -/
def valOfCell : Cell → Option Val
  | .int .i v => some (.int v)
  | .int .c v => some (.chr v)
  | .flt b => some (.flt b)
  | .flag .T => some (.bool true)
  | .flag .F => some (.bool false)
  | .str .S (some s) => some (.sym (bytesPath s))
  | .str .s (some s) => some (.str s)
  | _ => none

/-- the element type in an array header; it is not written to the text, the scanner reconstructs
    the type of the last element (' ' for an empty array) -/
def arrTy (cs : List Cell) : UInt8 :=
  match cs.getLast? with
  | some e => e.type
  | none => 32

/-- the argument values `write_msg` hands to `rtosc_print_arg_vals`: the value of a scalar port,
    or the `'a'` header and the (trimmed) elements of an array port -/
def cellsOfArgs : Args → List Cell
  | .plain vs => vs.map cellOfVal
  | .arr vs => Cell.arr (arrTy (vs.map cellOfVal)) (vs.length : Nat) :: vs.map cellOfVal

/-- bound on the iterations of `rtosc_arg_val_itr` over `cs`: one per cell plus the repetitions of
    every range header (an infinite range, `num = 0`, never ends in the code: `Err.fuel` here) -/
def iterFuel : List Cell → Nat
  | [] => 1
  | .rep n _ :: r => n.toNat + 1 + iterFuel r
  | _ :: r => 1 + iterFuel r

/-- `*cur` for a pointer the iterator returned -/
def headCell (p : List Cell) : Res Cell :=
  match p with
  | c :: _ => pure c
  | [] => throw .oob

/-- the values `dispatch_printed_messages` takes out of scanned argument values:
    `for(rtosc_arg_val_itr_init; itr.i < nargs; rtosc_arg_val_itr_next) cur = rtosc_arg_val_itr_get`
    (C16's model of the range-aware iterator): repetitions `5x7` and ranges `1 ... 6` are expanded -/
def expandCells (cs : List Cell) : Res (List Cell) := do
  let ps ← liftAV (ArgVal.iterate (iterFuel cs) (ArgVal.Itr.init cs) cs.length)
  ps.mapM headCell

/-- the scanned cells of one message as the arguments of an abstract line: plain values, or one
    array `[…]` of plain values, ranges and repetitions expanded the way the dispatch loop expands
    them.  `Err.unmodelled`: anything else (a nested array, a value of a type no parameter kind of
    the model carries, an array header whose length does not cover the rest of the message) — the
    abstract `Line` cannot express it -/
def argsOfCells (cells : List Cell) : Res Args :=
  match cells with
  | Cell.arr _ len :: es =>
    if len = (es.length : Nat) then do
      let xs ← expandCells es
      match xs.mapM valOfCell with
      | some vs => pure (.arr vs)
      | none => throw .unmodelled
    else throw .unmodelled
  | cs => do
    let xs ← expandCells cs
    match xs.mapM valOfCell with
    | some vs => pure (.plain vs)
    | none => throw .unmodelled

/-! ### save -/

/-- one line of `get_changed_values`: address, blank, `rtosc_print_arg_vals` with the default
    options and `cols_used = strlen(address) + 1` -/
def lineText (l : Line) : Res Bytes := do
  let (st, _) ← printMessage defaultOpt (pathBytes l.addr) (cellsOfArgs l.args) 0
  pure st.out

/-- `rtosc_version_print_to_12byte_str`: "%u.%u.%u" -/
def verText (v : Nat × Nat × Nat) : Bytes := fmtNat v.1 ++ 46 :: fmtNat v.2.1 ++ 46 :: fmtNat v.2.2

/-- the words of the first header line (as bytes: "RT", "OSC", "savefile") -/
def hdrRtosc : Bytes := [82, 84]
def hdrOsc : Bytes := [79, 83, 67]
def hdrSavefile : Bytes := [115, 97, 118, 101, 102, 105, 108, 101]

/-- "% RT OSC v<a>.<b>.<c> savefile" -/
def header1 (v : Nat × Nat × Nat) : Bytes :=
  37 :: 32 :: hdrRtosc ++ 32 :: hdrOsc ++ 32 :: 118 :: verText v ++ 32 :: hdrSavefile

/-- "% <app> v<a>.<b>.<c>" -/
def header2 (name : Path) (v : Nat × Nat × Nat) : Bytes :=
  37 :: 32 :: pathBytes name ++ 32 :: 118 :: verText v

/-- the messages, each ended by a newline, the last newline removed (`res.resize(length - 1)`) -/
def joinLines : List Bytes → Bytes
  | [] => []
  | [t] => t
  | t :: r => t ++ 10 :: joinLines r

/-- the text of a file given the text of its lines: `save_to_file` with an empty `file_str` -/
def fileTextOf (rtoscVer : Nat × Nat × Nat) (name : Path) (appVer : Nat × Nat × Nat) (lines : List Bytes) : Bytes :=
  header1 rtoscVer ++ 10 :: header2 name appVer ++ 10 :: joinLines lines

/-- `save_to_file` on the abstract lines of a file (all of them present) -/
def fileText (f : File) : Res Bytes := do
  let ts ← (f.body.filterMap id).mapM lineText
  pure (fileTextOf f.rtoscVer f.appName f.appVer ts)

/-- `save_to_file(ports, runtime, appname, appver)` as text -/
def _root_.Rtosc.Save.App.saveText (app : App) (rtoscVer appVer : Nat × Nat × Nat) (s : State) : Res Bytes :=
  fileText (app.saveFile rtoscVer appVer s)

/-! ### load: the two header lines -/

/-- a literal word of a `sscanf` format -/
def expect (w s : Bytes) : Option Bytes := if w.isPrefixOf s then some (s.drop w.length) else none

/-- what `%u` stores for a number with a minus sign: `strtoul` negates, the store keeps 32 bits (a non-zero
    value becomes a number far above 255) -/
def wrapU (neg : Bool) (v : Nat) : Nat :=
  if neg && v != 0 then 4294967296 - v % 4294967296 else v

/-- `%u`: white space, an optional sign (`+` or `-`, as `strtoul` takes it), then decimal digits (at least one).
    (A number of 2^32 or more wraps in the code; the model keeps it as it is: above 255 either way unless the
    wrapped value is small.) -/
def scanU (s : Bytes) : Option (Nat × Bytes) :=
  let s1 := skipSpace s
  let s2 := if (hd s1 == 43 || hd s1 == 45) then s1.drop 1 else s1
  let ds := s2.takeWhile isdigit
  if ds.isEmpty then none else some (wrapU (hd s1 == 45) (digitsVal 10 ds), s2.drop ds.length)

/-- `%u.%u.%u` -/
def scanVer (s : Bytes) : Option ((Nat × Nat × Nat) × Bytes) := do
  let (a, s) ← scanU s
  let s ← expect [46] s
  let (b, s) ← scanU s
  let s ← expect [46] s
  let (c, s) ← scanU s
  pure ((a, b, c), s)

/-- `sscanf(s, " %% RT OSC v%u.%u.%u savefile%n ")`: the version and the text behind `%n` -/
def parseHeader1 (s : Bytes) : Option ((Nat × Nat × Nat) × Bytes) := do
  let s ← expect [37] (skipSpace s)
  let s ← expect hdrRtosc (skipSpace s)
  let s ← expect hdrOsc (skipSpace s)
  let s ← expect [118] (skipSpace s)
  let (v, s) ← scanVer s
  let s ← expect hdrSavefile (skipSpace s)
  pure (v, s)

/-- `sscanf(s, " %% %127s v%u.%u.%u%n ")` -/
def parseHeader2 (s : Bytes) : Option (Bytes × (Nat × Nat × Nat) × Bytes) := do
  let s ← expect [37] (skipSpace s)
  let s1 := skipSpace s
  let name := (s1.takeWhile fun c => !isspace c && c ≠ 0).take 127
  if name.isEmpty then none
  let s ← expect [118] (skipSpace (s1.drop name.length))
  let (v, s) ← scanVer s
  pure (name, v, s)

/-! ### load: the messages -/

/-- `buffersize` of `dispatch_printed_messages`: the size of the port name buffer -/
def nameBufSize : Nat := 8192

/-- the first loop of `dispatch_printed_messages`: the scanned messages; `none` stands for a message
    the checker rejects (`ok = false`, nothing behind it is read).  Errors: `.unmodelled` — the
    scanned argument values are outside the abstract `Line` (see `argsOfCells`); `.hang` — the scanner
    consumed nothing. -/
def scanBodyText : Nat → Bytes → Res (List (Option Line))
  | 0, _ => .error .fuel
  | fuel + 1, src =>
    if src.isEmpty then .ok []                                   -- `*msg_ptr == 0`
    else do
      let nargs ← countPrintedArgValsOfMsg src
      if 0 ≤ nargs then do
        let (rd, addr, cells) ← scanMessage src nameBufSize nargs.toNat
        if rd = 0 then throw .hang
        let args ← argsOfCells cells
        let rest ← scanBodyText fuel (src.drop rd)
        pure (some ⟨bytesPath addr, args⟩ :: rest)
      else if nargs = intMin then pure []                        -- white space only: `while(*++msg_ptr);`
      else pure [none]

/-- the two header lines: versions, application name, and the text behind them -/
def parseHeader (text : Bytes) : Option ((Nat × Nat × Nat) × Bytes × (Nat × Nat × Nat) × Bytes) := do
  let (rv, s1) ← parseHeader1 text
  let (name, av, s2) ← parseHeader2 s1
  pure (rv, name, av, s2)

/-- `load_from_file(text, ports, runtime, appname, appver)`: the header checks (a header that does not
    match, a version component above 255 or another application's name give a negative result before
    any message is read), then `dispatch_printed_messages` on the rest of the text -/
def _root_.Rtosc.Save.App.loadText (app : App) (text : Bytes) (s : State) : Res LoadRes :=
  match parseHeader text with
  | none => pure .fail
  | some (rv, name, av, rest) =>
    if !verOk rv || bytesPath name ≠ app.name || !verOk av then pure .fail
    else do
      let body ← scanBodyText (rest.length + 1) rest
      pure (app.loadFile { magic := true, rtoscVer := rv, appName := bytesPath name, appVer := av, body := body } s)

end Rtosc.Save.Text
