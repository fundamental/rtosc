/-
  C13 — model of the dependency scan and the topological sort of
  `dispatch_printed_messages` (src/cpp/savefile.cpp:501-577 `scan_deps`, 579-886).

  Mirrors the code's data structures:
    message_v      : the scanned messages, in file order               (`List Path` of port names)
    message_map    : std::map<std::string, message_t*>, filled with `emplace`
                     (a second message with the same port name is not entered)  (`MsgMap`)
    dependees      : per message, the indices of the messages that must come later
    n_input_edges  : per message, number of incoming edges
    no_incoming_edge : the FIFO queue of Kahn's algorithm
  and its loops: `scan_deps` walks the port and all its parents, reads the three
  metadata keys "enabled by" / "depends" / "default depends", splits them at commas,
  makes the paths absolute by string surgery (`rel2abs`) and recurses through ports
  that have no message.

  The model follows the code *with* fixes/C13-scan-deps-subtree-lookup applied (parent
  levels are looked up with a trailing '/', see that patch's message), with
  fixes/C13-scan-deps-self-edge (an entry that resolves to the scanned path itself is skipped),
  fixes/C13-scan-deps-self-port (the `self:` port of every level's table is read as well),
  fixes/C13-scan-deps-empty-entry (the empty entry behind a trailing ',' ends the loop, `depPtrs`) and
  fixes/C13-scan-deps-exact-port (the scanned path itself is looked up through `port_of_path`; Save/App.lean, `App.apropos`).
  No Mathlib import.
-/
import RtoscModel.Save.App
namespace Rtosc.Save

/-- `std::string::find_last_of('/')` -/
def lastSlash : Path → Option Nat
  | [] => none
  | c :: r => match lastSlash r with
    | some k => some (k + 1)
    | none => if c = '/' then some 0 else none

/-- `abs.find(',')`, `abs.resize(…)` -/
def cutComma (p : Path) : Path := p.takeWhile (· ≠ ',')

/-- the lambda `rel2abs` of `scan_deps`: directory of `base` + the relative path, cut at
    the first comma.  (`find_last_of` returning npos makes `resize(npos+1)` = `resize(0)`.) -/
def rel2abs (rel : Path) (base : Path) : Path :=
  let dir := match lastSlash base with
    | some k => base.take (k + 1)
    | none => []
  cutComma (dir ++ rel)

/-- The entries of a metadata value: the pointers `enabled_by` takes in
    `for(enabled_by = meta[k]; enabled_by; enabled_by = strchr(enabled_by+1, ','))`
    after `if(*enabled_by==',') ++enabled_by;` — each as the rest of the string from there.
    When the pointer then stands on the terminator (the value ends in ',', as `rDepends`
    writes it) the loop ends (`if(!*enabled_by) break;`, fixes/C13-scan-deps-empty-entry). -/
def depPtrs : Nat → Path → List Path
  | 0, _ => []
  | fuel + 1, p =>
    let q := match p with | ',' :: r => r | _ => p          -- if(*enabled_by==',') ++enabled_by
    match q with
    | [] => []                                              -- if(!*enabled_by) break
    | _ :: r =>
      -- strchr(enabled_by+1, ',')
      let nxt := r.dropWhile (· ≠ ',')
      match nxt with
      | [] => [q]
      | _ => q :: depPtrs fuel nxt

def depItems (v : Path) : List Path := depPtrs (v.length + 1) v

/-- the values `cur_portname` takes in the `for` loop of `scan_deps` (non-empty and
    containing a '/'), each `resize(last_slash)` of the previous one -/
def levels : Nat → Path → List Path
  | 0, _ => []
  | fuel + 1, cur =>
    if cur.isEmpty then [] else
    match lastSlash cur with
    | none => []
    | some k => cur :: levels fuel (cur.take k)

/-- the three keys in the order of `dep_types` -/
def DepMeta.keys (m : DepMeta) : List (Option Path) := [m.enabledBy, m.depends, m.defaultDepends]

abbrev MsgMap := List (Path × Nat)

/-- `std::string::operator<` (bytes; the model's paths are ASCII) -/
def pathLt : Path → Path → Bool
  | [], [] => false
  | [], _ :: _ => true
  | _ :: _, [] => false
  | a :: as, b :: bs =>
    if a.toNat < b.toNat then true else if b.toNat < a.toNat then false else pathLt as bs

/-- `message_map.emplace(name, &msg)`: keeps an existing entry -/
def MsgMap.emplace : MsgMap → Path → Nat → MsgMap
  | [], k, v => [(k, v)]
  | (k', v') :: r, k, v =>
    if k' = k then (k', v') :: r
    else if pathLt k k' then (k, v) :: (k', v') :: r
    else (k', v') :: MsgMap.emplace r k v

def MsgMap.find (m : MsgMap) (k : Path) : Option Nat := (List.find? (fun e => e.1 = k) m).map (·.2)

def buildMap : List Path → Nat → MsgMap → MsgMap
  | [], _, m => m
  | n :: r, i, m => buildMap r (i + 1) (m.emplace n i)

/-- `cur_portname.substr(0, last_slash+1)`: the directory of a level -/
def dirOf (p : Path) : Path :=
  match lastSlash p with
  | some k => p.take (k + 1)
  | none => []

/-- `cur_portname.c_str() + last_slash + 1`: the last component of a level -/
def leafOf (p : Path) : Path :=
  match lastSlash p with
  | some k => p.drop (k + 1)
  | none => p

def selfName : Path := ['s', 'e', 'l', 'f', ':']

/-- fixes/C13-scan-deps-self-port: the `self:` port of the table the level `lvl` stands in
    (`(*table)["self:"]`, `table` = the root table or `apropos(dir)->ports`; asked from `App.apropos` as
    `<dir>self:`), when it carries "enabled by" (`rSelf(T, rEnabledBy(x))`) and `lvl` is not that
    enabling port `x` itself. -/
def selfMeta (ap : Path → Option DepMeta) (lvl : Path) : Option DepMeta :=
  match ap (dirOf lvl ++ selfName) with
  | none => none
  | some m =>
    match m.enabledBy with
    | none => none
    | some en => if leafOf lvl = en then none else some m

/-- both parts defined: their concatenation -/
def optCat : Option (List Nat) → Option (List Nat) → Option (List Nat)
  | some a, some b => some (a ++ b)
  | _, _ => none

mutual
/-- `scan_deps(orig, cur, …)`: the messages (indices) that get `orig` appended to their
    `dependees`, in the order of the `push_back`s.  `none`: the recursion through ports
    without message does not end within `fuel` (cyclic metadata: the code recurses
    until the stack is exhausted). -/
def scanDeps (ap : Path → Option DepMeta) (mp : MsgMap) (fuel : Nat) (cur : Path) : Option (List Nat) :=
  match fuel with
  | 0 => none
  | fuel + 1 => scanLevels ap mp fuel cur (levels (cur.length + 1) cur) false
termination_by (fuel, 0, 0)

/-- the `for` loop over `cur_portname`; `parent` = not the first iteration; `start` = `scanned_portname`,
    the path the call was entered with.  At every level first the port's own metadata, then that of the
    `self:` port of its table (`for(meta_port : {port, self})`). -/
def scanLevels (ap : Path → Option DepMeta) (mp : MsgMap) (fuel : Nat) (start : Path)
    (lvls : List Path) (parent : Bool) : Option (List Nat) :=
  match lvls with
  | [] => some []
  | lvl :: rest =>
    let own :=
      match ap (if parent then lvl ++ ['/'] else lvl) with
      | none => some []
      | some m => scanKeys ap mp fuel start lvl m.keys
    let slf :=
      match selfMeta ap lvl with
      | none => some []
      | some m => scanKeys ap mp fuel start lvl m.keys
    optCat (optCat own slf) (scanLevels ap mp fuel start rest true)
termination_by (fuel, 4, lvls.length)

/-- `for(const char* dep_type : dep_types)` -/
def scanKeys (ap : Path → Option DepMeta) (mp : MsgMap) (fuel : Nat) (start lvl : Path)
    (keys : List (Option Path)) : Option (List Nat) :=
  match keys with
  | [] => some []
  | none :: ks => scanKeys ap mp fuel start lvl ks
  | some v :: ks =>
    match scanItems ap mp fuel start lvl (depItems v), scanKeys ap mp fuel start lvl ks with
    | some a, some b => some (a ++ b)
    | _, _ => none
termination_by (fuel, 3, keys.length)

/-- the inner `for` over the comma separated entries -/
def scanItems (ap : Path → Option DepMeta) (mp : MsgMap) (fuel : Nat) (start lvl : Path)
    (items : List Path) : Option (List Nat) :=
  match items with
  | [] => some []
  | it :: its =>
    let abs := rel2abs it lvl
    let here :=
      -- fixes/C13-scan-deps-self-edge: `if(abs == scanned_portname) continue;` — a sub-tree enabled by a
      -- port of its own (`rRecur(sub, rEnabledBy(sub/enabled))`): that port does not wait for itself
      if abs = start then some []
      else match mp.find abs with
      | some src => some [src]                       -- port is in the savefile
      | none => scanDeps ap mp fuel abs              -- transitive dependencies
    match here, scanItems ap mp fuel start lvl its with
    | some a, some b => some (a ++ b)
    | _, _ => none
termination_by (fuel, 2, items.length)
end

/-- `dependees[src].push_back(tgt)` -/
def pushDep (deps : List (List Nat)) (src tgt : Nat) : List (List Nat) :=
  deps.modify src (· ++ [tgt])

/-- the loop `for(pr : message_map) scan_deps(pr.first, pr.first, …)` -/
def addEdges (ap : Path → Option DepMeta) (mp : MsgMap) (fuel : Nat) :
    List (Path × Nat) → List (List Nat) → Option (List (List Nat))
  | [], deps => some deps
  | (name, idx) :: r, deps =>
    match scanDeps ap mp fuel name with
    | none => none
    | some srcs => addEdges ap mp fuel r (srcs.foldl (fun d s => pushDep d s idx) deps)

/-- all `dependees` vectors for a file with the given port names -/
def dependees (ap : Path → Option DepMeta) (fuel : Nat) (names : List Path) : Option (List (List Nat)) :=
  let mp := buildMap names 0 []
  addEdges ap mp fuel mp (List.replicate names.length [])

/-! ### Kahn's algorithm, as written -/

/-- `++n_input_edges[dep]` for every entry of every `dependees` vector -/
def countInputs (deps : List (List Nat)) : List Nat :=
  deps.foldl (fun cnt l => l.foldl (fun cnt d => cnt.modify d (· + 1)) cnt)
    (List.replicate deps.length 0)

/-- `--x` on `std::size_t` -/
def decSize (c : Nat) : Nat := if c = 0 then 18446744073709551615 else c - 1

/-- the indices with no incoming edge, ascending -/
def initialQueue (cnt : List Nat) : List Nat :=
  (List.range cnt.length).filter fun i => cnt.getD i 1 = 0

/-- `for(dependee : message_v[m_id].dependees) if(--n_input_edges[dependee] == 0) push` -/
def relax : List Nat → List Nat × List Nat → List Nat × List Nat
  | [], st => st
  | d :: ds, (cnt, q) =>
    let c := decSize (cnt.getD d 0)
    relax ds (cnt.set d c, if c = 0 then q ++ [d] else q)

/-- `while(!no_incoming_edge.empty())`; returns `order` and the final counters.
    `none`: the loop does not end within the fuel (it does when the fuel is at least the number of
    messages, every edge points to a message and the edges are acyclic: `kahn_fuel_suffices`). -/
def kahnLoop (deps : List (List Nat)) : Nat → List Nat → List Nat → List Nat → Option (List Nat × List Nat)
  | _, [], cnt, order => some (order, cnt)
  | 0, _ :: _, _, _ => none
  | fuel + 1, m :: q, cnt, order =>
    let (cnt', q') := relax (deps.getD m []) (cnt, q)
    kahnLoop deps fuel q' cnt' (order ++ [m])

def kahn (deps : List (List Nat)) : Option (List Nat) :=
  let cnt := countInputs deps
  (kahnLoop deps (deps.length + 1) (initialQueue cnt) cnt []).map (·.1)

end Rtosc.Save
