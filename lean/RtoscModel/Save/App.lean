/-
  C12 / C13 — the abstract application the savefile code works on.

  The savefile functions (`save_to_file`, `load_from_file`, `dispatch_printed_messages`,
  src/cpp/savefile.cpp) are generic in the application: they see it through its port
  tree (names, metadata, callbacks).  The theorems of C12/C13 therefore quantify over an
  `App`: a finite list of parameter instances (one per concrete address; an `arr#N`
  port contributes N instances) with

  * a kind (what argument the port's callback accepts and how it stores it: the sugar
    macros `rParamI`, `rParam`, `rParamF`, `rToggle`, `rOption`, `rString` of
    include/rtosc/port-sugar.h),
  * a default: constant (`rDefault`) or selected by the value of another port
    (`rDefaultDepends` + `rPreset(s)` + `rDefault` as fall-back),
  * the ports that enable the sub-trees it lives in (toggles, or int/option ports: enabled = non-zero) (`rEnabledBy` on `rRecurp` —
    pointer sub-tree, a message into a disabled one matches nothing — or on `rRecur` —
    embedded sub-tree, skipped by the walk when disabled; the toggle is a port of the parent
    table, or a port of the sub-tree itself: `rRecur(sub, rEnabledBy(sub/t))`, or
    `rSelf(T, rEnabledBy(t))` in the sub-tree's own table — then it guards every parameter of
    the sub-tree except itself),
  * its transitive ancestors in the dependency order (ports whose change re-applies this
    parameter's default: preset port, `rDepends` ports, enabling toggles, and theirs).

  Behaviour of the application (the part that belongs to the *meaning* of the property,
  DESIGN.md C12 "precondition"): changing a port re-applies the defaults of everything
  that depends on it (`setParam` / `cascade`); a disabled sub-tree holds its defaults
  (doc/Guide.adoc: sub-trees are disabled "if you know that the subtree has not yet
  been changed").

  No Mathlib import: linked into the drivers.
-/
import RtoscModel.Basic
namespace Rtosc.Save

abbrev Path := List Char

/-- An argument value as it occurs in messages and savefile lines.
    `flt` is the IEEE binary32 bit pattern; `chr` the int32 payload of a `c` argument;
    `sym` an `S` argument (enumeration symbol); `str` an `s` argument (bytes). -/
inductive Val where
  | int (i : Int)
  | chr (c : Int)
  | flt (bits : UInt32)
  | bool (b : Bool)
  | sym (s : Path)
  | str (s : List UInt8)
deriving DecidableEq, Repr, Inhabited

/-- monotone key of a non-NaN binary32 pattern (`a < b` iff `key a < key b`) -/
def fltKey (b : UInt32) : Int :=
  let n := b.toNat
  if n ≥ 2147483648 then - ((n - 2147483648 : Nat) : Int) else (n : Int)

def fltIsNaN (b : UInt32) : Bool := b.toNat % 2147483648 > 2139095040

/-- C `a < b` on floats -/
def fltLt (a b : UInt32) : Bool := !fltIsNaN a && !fltIsNaN b && decide (fltKey a < fltKey b)

/-- The callback macro of a port, with the metadata it reads. -/
inductive Kind where
  | int (min max : Option Int)          -- rParamI  "::i", rLIMIT(var, atoi)
  | chr                                 -- rParam   "::c", char storage, min 0 max 127
  | ichar (min max : Option Int)        -- rArrayI  "#N::i", `char var = arg.i`, rLIMIT(var, atoi)
  | flt (min max : Option UInt32)       -- rParamF  "::f", rLIMIT(var, atof)
  | tog                                 -- rToggle  "::T:F"
  | opt (names : List Path)             -- rOption  "::i:c:S", rOptions(names…)
  | str (len : Nat)                     -- rString  "::s", strncpy(len-1)
deriving DecidableEq, Repr, Inhabited

/-- `rLIMIT` on ints -/
def clampInt (min max : Option Int) (v : Int) : Int :=
  let v := match min with | some m => if v < m then m else v | none => v
  match max with | some m => if v > m then m else v | none => v

/-- `rLIMIT` on floats (comparisons as in C; a NaN passes unchanged) -/
def clampFlt (min max : Option UInt32) (v : UInt32) : UInt32 :=
  let v := match min with | some m => if fltLt v m then m else v | none => v
  match max with | some m => if fltLt m v then m else v | none => v

/-- int32 → `char` (two's complement narrowing of the low byte) -/
def narrowChar (i : Int) : Int := (i + 128) % 256 - 128

/-- `enum_key(meta, symbol)`: the index whose `map N` entry equals the symbol -/
def enumKey (names : List Path) (s : Path) : Option Nat :=
  let i := names.idxOf s
  if i < names.length then some i else none

/-- What the port's callback stores for one argument; `none`: the argument type does not
    match the port's argument specification (the message matches nothing).  For an option,
    a symbol that is not one of the port's is stored as `INT_MIN` (`enum_key` returns it and
    `rOptionCb` applies it unchecked). -/
def store : Kind → Val → Option Val
  | .int mn mx, .int i => some (.int (clampInt mn mx i))
  | .chr, .chr c => some (.chr (clampInt (some 0) (some 127) (narrowChar c)))
  | .ichar mn mx, .int i => some (.int (clampInt mn mx (narrowChar i)))
  | .flt mn mx, .flt b => some (.flt (clampFlt mn mx b))
  | .tog, .bool b => some (.bool b)
  | .opt _, .int i => some (.int i)
  | .opt _, .chr c => some (.int c)
  | .opt names, .sym s => some (match enumKey names s with | some k => .int k | none => .int (-2147483648))
  | .str len, .str bs => some (.str (bs.take (len - 1)))
  | _, _ => none

/-- Default as written in the metadata. -/
inductive Dflt where
  | const (v : Val)
  /-- `rDefaultDepends(parent)`, `rPreset(n, v)…`, `rDefault(fb)` -/
  | preset (parent : Nat) (tbl : List (Int × Val)) (fb : Val)
deriving Repr, Inhabited

structure Param where
  addr : Path
  kind : Kind
  dflt : Dflt
  /-- enabling ports of the sub-trees this parameter lives in, outermost first;
      `true`: pointer sub-tree (`rRecurp`), `false`: embedded (`rRecur`) -/
  guards : List (Nat × Bool)
  /-- transitive ancestors in the dependency order -/
  anc : List Nat
  /-- value in a freshly constructed instance -/
  canon : Val
deriving Repr, Inhabited

/-- The runtime object: the value of every parameter instance.  (A structure around the
    function, so that the compiled model builds states strictly instead of re-running
    the updates on every look-up.) -/
structure State where
  get : Nat → Val

instance : CoeFun State (fun _ => Nat → Val) := ⟨State.get⟩

@[ext] theorem State.ext {s t : State} (h : ∀ i, s i = t i) : s = t := by
  cases s; cases t; congr; funext i; exact h i

def upd (s : State) (i : Nat) (v : Val) : State := ⟨fun j => if j = i then v else s j⟩

/-- `canonicalize_arg_vals` on a default value: a symbol becomes the option's index;
    (with fixes/C12-canonicalize-char-default) an int literal becomes a char for a `c` port. -/
def canonicalize (k : Kind) (v : Val) : Val :=
  match k, v with
  | .opt names, .sym s => match enumKey names s with | some i => .int i | none => .sym s
  | .chr, .int i => .chr i
  | _, v => v

/-- value of the preset port as the key of `default N` -/
def presetKey : Val → Option Int
  | .int i => some i
  | .chr c => some c
  | _ => none

def lookupPreset (tbl : List (Int × Val)) (k : Int) : Option Val :=
  (tbl.find? (fun e => e.1 = k)).map (·.2)

/-- `get_default_value` with a runtime: `default <value of the depended port>`, else `default`;
    canonicalised for the port. -/
def evalDflt (p : Param) (s : State) : Val :=
  canonicalize p.kind <|
    match p.dflt with
    | .const v => v
    | .preset parent tbl fb =>
      match presetKey (s parent) with
      | some k => (lookupPreset tbl k).getD fb
      | none => fb

/-- `port_is_enabled` on the reply of the enabling port (src/cpp/ports.cpp):
    `rval.type == 'T' || (rval.type == 'i' && rval.val.i != 0)` — an rToggle that is on, or an int-replying
    port (rParamI, rOption) holding a non-zero value; an rParam replies `c` and never enables. -/
def enabledVal : Val → Bool
  | .bool b => b
  | .int i => i != 0
  | _ => false

def guardsOn (p : Param) (s : State) : Bool :=
  p.guards.all fun g => enabledVal (s g.1)

/-- The value a parameter has when nothing set it since its dependencies last changed. -/
def expected (p : Param) (s : State) : Val :=
  if guardsOn p s then evalDflt p s else p.canon

/-- abstract port-tree lookup result used by the dependency scan: the three metadata
    values of `Ports::apropos(path)` (raw strings; `none` = key absent) -/
structure DepMeta where
  enabledBy : Option Path
  depends : Option Path
  defaultDepends : Option Path
deriving Repr, Inhabited, DecidableEq

/-- one port of the walk: a scalar parameter or an `name#N` array port -/
inductive Item where
  | scalar (i : Nat)
  | array (base : Path) (first len : Nat)
deriving Repr, Inhabited

structure App where
  name : Path
  /-- parameter instances; the index order is a dependency order (ancestors first) -/
  params : List Param
  /-- `walk_ports` order of the ports that `get_changed_values` considers -/
  walk : List Item
  /-- the port lookup of `scan_deps` followed by `meta()[…]` for the three dependency keys; the
      argument is the path exactly as `scan_deps` passes it: `<parent>/` for a parent level
      (looked up with `Ports::apropos`), the path of a line or of a dependency otherwise
      (`port_of_path`, fixes/C13-scan-deps-exact-port); `<dir>self:` stands for the `self:` port of the
      table a level stands in (`(*table)["self:"]` with `table` = the root table for `dir = "/"`, else
      `apropos(dir)->ports`; fixes/C13-scan-deps-self-port) -/
  apropos : Path → Option DepMeta

namespace App
variable (app : App)

def param (i : Nat) : Param := app.params.getD i default
def size : Nat := app.params.length

/-- fresh instance -/
def init : State := ⟨fun i => (app.param i).canon⟩

def findAddr (a : Path) : Option Nat :=
  let i := app.params.findIdx (fun p => p.addr == a)
  if i < app.params.length then some i else none

/-- strict descendants of `q`, in index (= dependency) order -/
def desc (q : Nat) : List Nat :=
  (List.range app.size).filter fun p => (app.param p).anc.contains q

/-- re-apply the defaults of the listed parameters, in order -/
def cascade : List Nat → State → State
  | [], s => s
  | d :: ds, s => cascade ds (upd s d (expected (app.param d) s))

/-- the application's reaction to a stored value: the change hook (`rChangeCb`) re-applies
    the defaults of all dependants.  `rToggleCb` invokes the hook only when the value
    changes; the other callbacks always. -/
def setParam (i : Nat) (v : Val) (s : State) : State :=
  if (app.param i).kind = .tog ∧ s i = v then s
  else app.cascade (app.desc i) (upd s i v)

/-- some pointer sub-tree on the way is not allocated -/
def ptrOff (p : Param) (s : State) : Bool :=
  p.guards.any fun g => g.2 && !enabledVal (s g.1)

/-- the argument is of the LAST alternative of the port's argument specification (`::i`, `::c`, `::f`, `::T:F`,
    `::i:c:S`, `::s`).  `rtosc_match_args` (src/dispatch.c) demands of every alternative but the last that the
    message's type string ends where the alternative ends; the last one only has to be a prefix of it: a message
    with more arguments is accepted when its first argument is of that alternative, and the callback reads
    argument 0 only. -/
def lastAlt : Kind → Val → Bool
  | .int _ _, .int _ => true
  | .chr, .chr _ => true
  | .ichar _ _, .int _ => true
  | .flt _ _, .flt _ => true
  | .tog, .bool false => true
  | .opt _, .sym _ => true
  | .str _, .str _ => true
  | _, _ => false

/-- `Ports::dispatch` of one message `addr args` on the application: `none` = no port
    matched (`d.matches == 0`).  Arguments behind the first are ignored when the port accepts the message
    (`lastAlt`). -/
def dispatch (addr : Path) (args : List Val) (s : State) : Option State :=
  match app.findAddr addr with
  | none => none
  | some i =>
    let p := app.param i
    if ptrOff p s then none
    else match args with
      | [] => some s                                  -- query: matched, replies
      | v :: rest =>
        if !rest.isEmpty && !lastAlt p.kind v then none
        else match store p.kind v with
        | none => none
        | some v' => if guardsOn p s then some (app.setParam i v' s) else some s

/-- a sequence of parameter messages (history); unmatched messages have no effect -/
def run (msgs : List (Path × List Val)) (s : State) : State :=
  msgs.foldl (fun s m => (app.dispatch m.1 m.2 s).getD s) s

end App
end Rtosc.Save
