/-
  C12 / C13 — the port tree as the dependency scan sees it: `Ports::apropos`
  (src/cpp/ports.cpp:807-826) with the part of `rtosc_match_path` (src/dispatch.c:72-111)
  that port names made of letters, `#N`, `/` and the `:args` suffix exercise.
  Used by the drivers to instantiate `App.apropos`; the theorems of C12/C13 take
  `App.apropos` abstractly (hypothesis `MetaCovers`), the lookup itself is C18's subject.
  A name containing `{` or `*` gives `none` for that port (never generated).
-/
import RtoscModel.Save.App
namespace Rtosc.Save

inductive PNode where
  | mk (name : Path) (deps : DepMeta) (children : List PNode)
deriving Repr, Inhabited

namespace PNode
def name : PNode → Path | mk n _ _ => n
def deps : PNode → DepMeta | mk _ m _ => m
def children : PNode → List PNode | mk _ _ c => c
/-- `port.ports != NULL`: the sub-tree ports of the sugar macros are named `name/` or `name#N/`;
    a port with the enumeration inside its name (`v#3/en::T:F`) has a '/' but no table -/
def hasPorts (p : PNode) : Bool := p.name.getLast? == some '/'
end PNode

def isDigit (c : Char) : Bool := '0' ≤ c && c ≤ '9'

def atoiPrefix (s : Path) : Nat :=
  (s.takeWhile isDigit).foldl (fun n c => n * 10 + (c.toNat - 48)) 0

/-- `rtosc_match_path(pattern, msg, &path_end)`: `some path_end` on a match, for messages without ':'
    (the branch "pattern at ':', message not at its end", dispatch.c:80-81, is not modelled; `scanLookup`
    takes the `self:` paths off before it matches).  `fuel` bounds the loop by the pattern length. -/
def matchPath : Nat → Path → Path → Option Path
  | 0, _, _ => none
  | fuel + 1, pat, msg =>
    match pat, msg with
    | ':' :: _, [] => some []
    | '{' :: _, _ => none
    | '*' :: _, _ => none
    | '/' :: pr, '/' :: mr =>
      match pr with
      | [] => some mr
      | ':' :: _ => some mr
      | _ => matchPath fuel pr mr
    | '#' :: pr, _ =>
      -- rtosc_match_number
      match pr, msg with
      | p0 :: _, m0 :: _ =>
        if isDigit p0 && isDigit m0 then
          if atoiPrefix msg < atoiPrefix pr then
            matchPath fuel (pr.dropWhile isDigit) (msg.dropWhile isDigit)
          else none
        else none
      | _, _ => none
    | [], [] => some []
    | p :: pr, m :: mr => if p = m then matchPath fuel pr mr else none
    | _, _ => none

def matchP (pat msg : Path) : Option Path := matchPath (pat.length + 2) pat msg

/-- `Ports::apropos(path)` on a table; `fuel` bounds the tree depth. -/
def aproposIn : Nat → List PNode → Path → Option PNode
  | 0, _, _ => none
  | fuel + 1, ports, path0 =>
    let path := match path0 with | '/' :: r => r | p => p
    -- first loop: ports with a '/' in their name
    let first := ports.findSome? fun p =>
      if p.name.contains '/' then
        match matchP p.name path with
        | some pathEnd =>
          -- (port.ports && strchr(path,'/')[1]) ? port.ports->apropos(path_end) : &port
          match p.hasPorts, path.dropWhile (· ≠ '/') with
          | true, _ :: _ :: _ => some (aproposIn fuel p.children pathEnd)
          | _, _ => some (some p)
        | none => none
      else none
    match first with
    | some r => r
    | none =>
      -- "This is the lowest level, now find the best port"
      if path.isEmpty then none else
      ports.find? fun p => path.isPrefixOf p.name || (matchP p.name path).isSome

def aproposTree (root : List PNode) (path : Path) : Option DepMeta :=
  (aproposIn 16 root path).map (·.deps)

/-- `std::string::find_last_of('/')`: the same function as `lastSlash` of Save/Deps.lean, which this file does not import -/
def lastSlashA : Path → Option Nat
  | [] => none
  | c :: r => match lastSlashA r with
    | some k => some (k + 1)
    | none => if c = '/' then some 0 else none

/-- the lambda `whole` of `port_of_path`: the port's name matches the whole last path component, or is
    the `name#N` array port whose base name the component is -/
def wholeMatch (leaf : Path) (p : PNode) : Bool :=
  (matchP p.name leaf).isSome || (leaf.isPrefixOf p.name && (p.name.drop leaf.length).head? == some '#')

/-- `port_of_path` (savefile.cpp, fixes/C13-scan-deps-exact-port): `apropos`' hit, replaced by the sibling
    that matches the whole last component when the hit only starts like it -/
def portOfPathIn (root : List PNode) (path : Path) : Option PNode :=
  match aproposIn 16 root path with
  | none => none
  | some port =>
    match lastSlashA path with
    | none => some port                  -- `scan_deps` only passes paths that contain a '/'
    | some ls =>
      let leaf := path.drop (ls + 1)
      if leaf.isEmpty || wholeMatch leaf port then some port else
      let table : Option (List PNode) :=
        if ls > 0 then
          match aproposIn 16 root (path.take (ls + 1)) with
          | some par => if par.hasPorts then some par.children else none
          | none => none
        else some root
      match table with
      | none => some port
      | some t => match t.find? (wholeMatch leaf) with
        | some q => some q
        | none => some port

/-- `(*table)["self:"]` for the table the directory `dir` (ending in '/') names: the root table for "/",
    else `apropos(dir)->ports` (fixes/C13-scan-deps-self-port) -/
def selfPortIn (root : List PNode) (dir : Path) : Option PNode :=
  let table : Option (List PNode) :=
    if dir = ['/'] then some root
    else match aproposIn 16 root dir with
      | some par => if par.hasPorts then some par.children else none
      | none => none
  match table with
  | none => none
  | some t => t.find? fun p => p.name = ['s', 'e', 'l', 'f', ':']

/-- what `scan_deps` reads for the path it passes: parent levels (`…/`) through `Ports::apropos`, the
    path of a line or of a dependency through `port_of_path`, `<dir>self:` = the `self:` port of a table -/
def scanLookup (root : List PNode) (path : Path) : Option DepMeta :=
  if path.getLast? == some '/' then aproposTree root path
  else if path.length ≥ 6 ∧ path.drop (path.length - 6) = ['/', 's', 'e', 'l', 'f', ':'] then
    (selfPortIn root (path.take (path.length - 5))).map (·.deps)
  else (portOfPathIn root path).map (·.deps)

end Rtosc.Save
