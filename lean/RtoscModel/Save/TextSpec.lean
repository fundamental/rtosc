/-
  C12, text level — the definitions in which the theorems of Props/C12Text.lean are stated, beside the model of the
  text stage (RtoscModel/Save/Text.lean): the values, addresses, application names and lines the text stages are
  proved for (`ValTextOK`, `AddrTextOK`, `NameTextOK`, `LineTextOK`), what may follow a message inside a file
  (`MsgTail`, `wsLen`), and how the printer cuts the elements of an array line into C10's segments
  (Pretty/RunsSpec.lean: `RSeg`, `cellsAll`): the condition `CutOK` / `ArrCutOK` on the answers of the model of
  `rtosc_convert_to_range`, and a sound test for it, `cutOf` / `arrCutB`.  Definitions only; the lemmas about
  them are in Proofs/SaveText.lean, SaveTextMsg.lean, SaveTextCut.lean, SaveTextCrit.lean, SaveTextTotal.lean.
  No Mathlib import.
-/
import RtoscModel.Save.Text
import RtoscModel.Pretty.RunsSpec
namespace Rtosc.Save.Text
open Rtosc Rtosc.Libc Rtosc.Pretty Rtosc.Save
open Rtosc.ArgVal (Cell)

/-- a character of a port name or symbol that is one byte of text -/
def CharByte (c : Char) : Prop := c.toNat < 256

instance (c : Char) : Decidable (CharByte c) := inferInstanceAs (Decidable (c.toNat < 256))

/-- **the parameter values covered**: every `int32_t`; the chars NUL, 7..13 and 32..126 (C10's `CharOK`:
    what the printer writes as a character literal or escape); every finite float (printed lossless,
    `0.50 (0x1p-1)`; not ±infinity, not NaN); both toggles; option symbols and strings of printable
    characters and C escapes (bytes 7..13, 32..126: C10's `StrByteOK`; quotes, backslashes, '%',
    newlines — which start a continuation line — included). -/
def ValTextOK : Val → Prop
  | .int i => -2147483648 ≤ i ∧ i ≤ 2147483647
  | .chr c => CharOK c
  | .flt b => f32.expField b.toNat ≠ 255
  | .bool _ => True
  | .sym s => ∀ c ∈ s, CharByte c ∧ StrByteOK (byteOfChar c)
  | .str bs => ∀ b ∈ bs, StrByteOK b

instance : (v : Val) → Decidable (ValTextOK v)
  | .int i => inferInstanceAs (Decidable (-2147483648 ≤ i ∧ i ≤ 2147483647))
  | .chr c => inferInstanceAs (Decidable (c = 0 ∨ (7 ≤ c ∧ c ≤ 13) ∨ (32 ≤ c ∧ c ≤ 126)))
  | .flt b => inferInstanceAs (Decidable (f32.expField b.toNat ≠ 255))
  | .bool _ => isTrue trivial
  | .sym s => inferInstanceAs (Decidable (∀ c ∈ s, CharByte c ∧
      ((7 ≤ byteOfChar c ∧ byteOfChar c ≤ 13) ∨ (32 ≤ byteOfChar c ∧ byteOfChar c ≤ 126))))
  | .str bs => inferInstanceAs (Decidable (∀ b ∈ bs, (7 ≤ b ∧ b ≤ 13) ∨ (32 ≤ b ∧ b ≤ 126)))

/-- an address the text stages handle: starts with '/', one-byte characters, no white space, shorter
    than the port name buffer of `dispatch_printed_messages` (the newline in front of the first
    message counts) -/
def AddrTextOK (a : Path) : Prop :=
  a.head? = some '/' ∧ (∀ c ∈ a, CharByte c ∧ isspace (byteOfChar c) = false) ∧ a.length + 2 ≤ nameBufSize

/-- the application name in the second header line: what `%127s` reads back -/
def NameTextOK (n : Path) : Prop :=
  n ≠ [] ∧ n.length ≤ 127 ∧ ∀ c ∈ n, CharByte c ∧ isspace (byteOfChar c) = false ∧ byteOfChar c ≠ 0

/-- what follows a message in a savefile: nothing, or a newline and the '/' of the next address -/
def MsgTail (tl : Bytes) : Prop := tl = [] ∨ ∃ r, tl = 10 :: 47 :: r

/-- the white space the scanner consumes behind the last argument -/
def wsLen (tl : Bytes) : Nat := if tl.isEmpty then 0 else 1

/-- the int32 values `a, a+d, …, a+(n-1)d` -/
def arithVals (a d : Int) (n : Nat) : List Val := (List.range n).map fun (k : Nat) => Val.int (a + (k : Int) * d)

/-- **the printer's decision at the head of `s.cells ++ rest`** (the cells left in the array) is the
    segment `s`: `rtosc_convert_to_range` returns nothing (`tok`), the whole constant run of `n ≥ 5`
    cells (`crun`), or the whole int32 arithmetic run, which satisfies the overflow guards of C10's
    `RunHyp` (`irun`) -/
def SegStep (s : RSeg) (rest : List Cell) : Prop :=
  match s with
  | .tok c => convertToRange defaultOpt (c :: rest) (rest.length + 1) = .ok none
  | .crun n c => 5 ≤ n ∧ n ≤ 2147483647 ∧
      convertToRange defaultOpt (List.replicate n c ++ rest) (n + rest.length) = .ok (some (n, [Cell.rep n 0, c]))
  | .irun a d n => RunHyp a d n ∧
      convertToRange defaultOpt (arithRun a d n ++ rest) (n + rest.length) =
        .ok (some (n, [Cell.rep n 1, Cell.int .i d, Cell.int .i a]))

/-- **the printer cuts the cells `cellsAll body` into the segments `body`** -/
inductive CutOK : List RSeg → Prop
  | nil : CutOK []
  | cons (s : RSeg) (segs : List RSeg) : SegStep s (cellsAll segs) → CutOK segs → CutOK (s :: segs)

/-- **the printer cuts the elements `vs` of an array line into the segments `body`**: plain values,
    constant runs of five or more equal values (printed `nxT`) and int32 arithmetic runs of five or
    more values (printed `a ... z` or `a b ... z`), in any number and order; `CutOK`: at the start of
    every segment `rtosc_convert_to_range`, called on the elements left in the array, gives exactly
    that segment (and an arithmetic run satisfies C10's overflow guards `RunHyp`).
    `cutOf` below computes such a cut (sound: `cutOf_sound` in Proofs/SaveTextCut.lean, which also has criteria on the
    values: `SegStep.tok_of_short`, `SegStep.crun_of_next`, `SegStep.irun_of_next`,
    `cutOK_of_noLongRun`). -/
def ArrCutOK (vs : List Val) (body : List RSeg) : Prop :=
  cellsAll body = vs.map cellOfVal ∧ CutOK body

/-- **the savefile lines covered**: a scalar port's line `addr value`; an array port's line
    `addr [v0 v1 …]` with at least one element, all covered values of one type (true/false count as
    one), of any length, whose elements the printer cuts into plain values, constant runs and int32
    arithmetic runs (`ArrCutOK`) — `rtosc_print_arg_vals` compresses five or more equal or
    equidistant values (`[5x7]`, `[1 ... 6]`).  Not covered: the other answers of
    `rtosc_convert_to_range` — an arithmetic run of chars (`['a' ... 'f']`) — and nested arrays
    (no savefile has them). -/
def LineTextOK (l : Line) : Prop :=
  AddrTextOK l.addr ∧
  match l.args with
  | .plain vs => ∃ v, vs = [v] ∧ ValTextOK v
  | .arr vs => vs ≠ [] ∧ (∀ v ∈ vs, ValTextOK v) ∧
      (∀ v ∈ vs, typesMatch ((vs.map cellOfVal).headD (Cell.flag .N)).type (cellOfVal v).type = true) ∧
      ∃ body, ArrCutOK vs body

/-- the guards of `RunHyp`, on the end points -/
def runGuards (a d : Int) (n : Nat) : Bool :=
  decide (5 ≤ n) && decide (d ≠ 0) &&
  decide (-2147483648 ≤ a) && decide (a ≤ 2147483647) &&
  decide (-2147483648 ≤ a + (n : Int) * d) && decide (a + (n : Int) * d ≤ 2147483647) &&
  decide (((n : Int) - 1) * d.natAbs ≤ 2147483647) && decide ((n : Int) ≤ 2147483647)

/-- the first two cells when both are int32 values -/
def intPair (c : Cell) (r : List Cell) : Option (Int × Int) :=
  match c, r with
  | Cell.int .i a, Cell.int .i b :: _ => some (a, b)
  | _, _ => none

/-- the segment at the head of `c :: r` and the number of cells it takes, as the model of
    `rtosc_convert_to_range` decides it; `none`: a kind of run outside C10's theorems (an arithmetic
    run of chars, a run that fails a guard of `RunHyp`) or an error of the model -/
def segOfCons (c : Cell) (r : List Cell) : Option (RSeg × Nat) :=
  match convertToRange defaultOpt (c :: r) (r.length + 1) with
  | .ok none => some (.tok c, 1)
  | .ok (some (n, block)) =>
    if block = [Cell.rep n 0, c] ∧ 5 ≤ n ∧ n ≤ 2147483647 ∧ n ≤ r.length + 1 ∧
        (c :: r).take n = List.replicate n c then some (.crun n c, n)
    else
      match intPair c r with
      | some (a, b) =>
        if block = [Cell.rep n 1, Cell.int .i (b - a), Cell.int .i a] ∧ runGuards a (b - a) n = true ∧
            n ≤ r.length + 1 ∧ (c :: r).take n = arithRun a (b - a) n then some (.irun a (b - a) n, n)
        else none
      | none => none
  | .error _ => none

def segOf (cells : List Cell) : Option (RSeg × Nat) :=
  match cells with
  | [] => none
  | c :: r => segOfCons c r

/-- the segments of `cells`, decided by the model of the printer (`fuel`: at least `cells.length + 1`) -/
def cutOf : Nat → List Cell → Option (List RSeg)
  | 0, _ => none
  | fuel + 1, cells =>
    if cells.isEmpty then some []
    else
      match segOf cells with
      | some (s, k) => (cutOf fuel (cells.drop k)).map (s :: ·)
      | none => none

/-- the test as a `Bool`: `cutOf` finds a cut, that is the printer's decisions on the elements are all of the covered
    kinds (sound: `arrCutOK_of_arrCutB`, Proofs/SaveText.lean) -/
def arrCutB (vs : List Val) : Bool := (cutOf (vs.length + 1) (vs.map cellOfVal)).isSome

end Rtosc.Save.Text
