/-
  C12 — model of `get_changed_values` / `save_to_file` (src/cpp/savefile.cpp:63-438,
  888-914) at the level of abstract lines.

  For every port the walk reaches (`walk_ports` with a runtime object skips sub-trees
  whose pointer is NULL or whose "enabled by" toggle is off):
    default   = get_default_value (preset-dependent, canonicalised)
    runtime   = the port's own reply to a query
    different → one line: address + runtime value(s) (`map_arg_vals`: option index →
                symbol; arrays: the common equal suffix is not printed).
  The filters of `on_reach_port` on the port's name and metadata (`::`/trailing `:`,
  "parameter", no "alias", not excluded) hold for every port the sugar macros
  rParam*/rToggle/rOption/rString/rArray* produce; they are not modelled.
-/
import RtoscModel.Save.Load
namespace Rtosc.Save

/-- `map_arg_vals`: an int that has a `map N` entry is printed as that symbol -/
def mapArgVal (k : Kind) (v : Val) : Val :=
  match k, v with
  | .opt names, .int i =>
    if 0 ≤ i ∧ i.toNat < names.length then .sym (names.getD i.toNat []) else .int i
  | _, v => v

/-- `first_equal_index`: number of leading runtime elements that are printed — up to
    and including the last one that differs from the default (the runtime elements as `map_arg_vals` left them). -/
def firstEqualIndex : List Val → List Val → Nat → Nat → Nat
  | d :: ds, r :: rs, i, acc => firstEqualIndex ds rs (i + 1) (if d = r then acc else i + 1)
  | _, _, _, acc => acc

namespace App
variable (app : App)

/-- the line `on_reach_port` writes for one port, if any -/
def saveItem (s : State) : Item → Option Line
  | .scalar i =>
    let p := app.param i
    if !guardsOn p s then none else
    let d := evalDflt p s
    let r := s i
    if d = r then none else some ⟨p.addr, .plain [mapArgVal p.kind r]⟩
  | .array base first len =>
    let idx := (List.range len).map (· + first)
    if !guardsOn (app.param first) s then none else
    let ds := idx.map fun i => evalDflt (app.param i) s
    let rs := idx.map fun i => s i
    if ds = rs then none else
    -- `map_arg_vals` runs BEFORE `first_equal_index` (write_msg in get_changed_values): the suffix that is cut off is
    -- compared with the option indices already replaced by their symbols — an rArrayOption element holding an option's
    -- index never equals its (canonicalised, int) default there and is always written
    let ms := idx.map fun i => mapArgVal (app.param i).kind (s i)
    let n := firstEqualIndex ds ms 0 0
    some ⟨base, .arr ((idx.take n).map fun i => mapArgVal (app.param i).kind (s i))⟩

/-- address under which the walk reports the port -/
def itemAddr : Item → Path
  | .scalar i => (app.param i).addr
  | .array base _ _ => base

/-- the walk reaches the port (its sub-tree is allocated and enabled) -/
def itemReached (s : State) : Item → Bool
  | .scalar i => guardsOn (app.param i) s
  | .array _ first _ => guardsOn (app.param first) s

/-- `get_changed_values`: the address of every reached port enters `written`; a second
    port with the same address is skipped -/
def saveFrom (s : State) : List Item → List Path → List Line
  | [], _ => []
  | it :: r, written =>
    if !app.itemReached s it then saveFrom s r written
    else if written.contains (app.itemAddr it) then saveFrom s r written
    else match app.saveItem s it with
      | none => saveFrom s r (app.itemAddr it :: written)
      | some l => l :: saveFrom s r (app.itemAddr it :: written)

def save (s : State) : List Line := app.saveFrom s app.walk []

/-- `save_to_file` with an empty `file_str` -/
def saveFile (rtoscVer appVer : Nat × Nat × Nat) (s : State) : File :=
  { magic := true, rtoscVer := rtoscVer, appName := app.name, appVer := appVer,
    body := (app.save s).map some }

end App
end Rtosc.Save
