/-
  C12 / C13 — specification-side definitions: which applications, states and files the
  theorems quantify over, and what "dependence" means independently of the scanning
  code.  No Mathlib import.
-/
import RtoscModel.Save.Save
namespace Rtosc.Save

/-- a value the port's callback can hold: sending it (as the savefile prints it) stores
    exactly it -/
def Storable (k : Kind) (v : Val) : Prop := store k (mapArgVal k v) = some v

/-- metadata of a kind is sensible: option names are distinct, float bounds are ordered
    numbers, the bounds of a `char`-stored array element fit a `char` -/
def KindOK : Kind → Prop
  | .opt names => names.Nodup
  | .flt mn mx =>
    (∀ a, mn = some a → fltIsNaN a = false) ∧ (∀ b, mx = some b → fltIsNaN b = false) ∧
    (∀ a b, mn = some a → mx = some b → fltLt b a = false)
  | .ichar mn mx => (∀ a, mn = some a → -128 ≤ a ∧ a ≤ 127) ∧ (∀ b, mx = some b → -128 ≤ b ∧ b ≤ 127)
  | _ => True

def Dflt.vals : Dflt → List Val
  | .const v => [v]
  | .preset _ tbl fb => fb :: tbl.map (·.2)

def Item.lo : Item → Nat
  | .scalar i => i
  | .array _ first _ => first

def Item.hi : Item → Nat
  | .scalar i => i + 1
  | .array _ first len => first + len

/-- the items tile the index range `[a, b)` in order -/
def Tiling : Nat → List Item → Nat → Prop
  | a, [], b => a = b
  | a, it :: r, b => it.lo = a ∧ it.lo < it.hi ∧ Tiling it.hi r b

/-- the paths `scan_deps` looks up for the start path `X`: each level of `X` paired with the
    argument handed to `apropos` (parents with a trailing '/') -/
def lvlArgs (X : Path) : List (Path × Path) :=
  match levels (X.length + 1) X with
  | [] => []
  | l :: r => (l, l) :: r.map fun p => (p, p ++ ['/'])

/-- the absolute paths one port's metadata refers to, seen from the level `lvl` -/
def metaRefs (m : DepMeta) (lvl : Path) : List Path :=
  (m.keys.filterMap id).flatMap fun v => (depItems v).map fun it => rel2abs it lvl

/-- the references found at one level: the port's own metadata, then that of the `self:` port of its table -/
def refsAt (ap : Path → Option DepMeta) (la : Path × Path) : List Path :=
  (match ap la.2 with
   | none => []
   | some m => metaRefs m la.1) ++
  (match selfMeta ap la.1 with
   | none => []
   | some m => metaRefs m la.1)

/-- everything the metadata found along `X` resolves to, in scan order -/
def rawRefs (ap : Path → Option DepMeta) (X : Path) : List Path :=
  (lvlArgs X).flatMap (refsAt ap)

/-- the absolute paths the metadata found along `X` refers to, in scan order: a path does not refer to itself
    (the toggle inside the sub-tree it enables: `rRecur(sub, rEnabledBy(sub/enabled))`) -/
def refsOf (ap : Path → Option DepMeta) (X : Path) : List Path :=
  (rawRefs ap X).filter fun Y => decide (Y ≠ X)

/-- the dependency metadata is acyclic, and not deeper than the model's recursion budget -/
def MetaRanked (ap : Path → Option DepMeta) : Prop :=
  ∃ rank : Path → Nat, (∀ X, ∀ Y ∈ refsOf ap X, rank Y < rank X) ∧ ∀ X, rank X < scanFuel

namespace App
variable (app : App)

/-- every ancestor of a parameter (and of an array port, under its base address) is either
    referred to directly by the metadata found along its address, or is an ancestor of one
    that is: what `rDefaultDepends` / `rDepends` / `rEnabledBy` are there to declare -/
def MetaCovers : Prop :=
  (∀ d, d < app.size → ∀ a ∈ (app.param d).anc,
      (app.param a).addr ∈ refsOf app.apropos (app.param d).addr ∨
      ∃ m ∈ (app.param d).anc, a ∈ (app.param m).anc ∧ (app.param m).addr ∈ refsOf app.apropos (app.param d).addr) ∧
  (∀ base first len, Item.array base first len ∈ app.walk → ∀ a ∈ (app.param first).anc,
      (app.param a).addr ∈ refsOf app.apropos base ∨
      ∃ m ∈ (app.param first).anc, a ∈ (app.param m).anc ∧ (app.param m).addr ∈ refsOf app.apropos base)

/-- the ancestors of every parameter form a chain: two ports of which neither depends on the other never
    share a dependant.  NOT a hypothesis of any theorem (`App.setParam_commute` needs no chain); used only to
    state, in the non-vacuity examples, that applications violating it are covered (`d_not_chain`). -/
def AncChain : Prop :=
  ∀ i, i < app.size → ∀ a ∈ (app.param i).anc, ∀ b ∈ (app.param i).anc,
      a = b ∨ a ∈ (app.param b).anc ∨ b ∈ (app.param a).anc

/-- well-formed application descriptions (every clause can be checked by evaluation for a concrete `App`,
    Proofs/SaveWfBool.lean; the conditions on `apropos` are `MetaCovers` and `MetaRanked`).  The dependency order may be any finite strict partial order
    (`anc_lt`, `anc_closed`): in particular two independent ports may share dependants. -/
structure WF : Prop where
  addr_nodup : (app.params.map (·.addr)).Nodup
  anc_lt : ∀ i, i < app.size → ∀ a ∈ (app.param i).anc, a < i
  anc_closed : ∀ i, i < app.size → ∀ a ∈ (app.param i).anc, ∀ b ∈ (app.param a).anc, b ∈ (app.param i).anc
  guards_anc : ∀ i, i < app.size → ∀ g ∈ (app.param i).guards, g.1 ∈ (app.param i).anc
  preset_anc : ∀ i, i < app.size → ∀ par tbl fb, (app.param i).dflt = .preset par tbl fb → par ∈ (app.param i).anc
  kind_ok : ∀ i, i < app.size → KindOK (app.param i).kind
  dflt_storable : ∀ i, i < app.size → ∀ v ∈ (app.param i).dflt.vals,
      Storable (app.param i).kind (canonicalize (app.param i).kind v)
  /-- a fresh instance holds the defaults -/
  canon_ok : ∀ i, i < app.size → (app.param i).canon = evalDflt (app.param i) app.init
  /-- the walk visits every parameter instance exactly once -/
  walk_tiles : ∃ rw : List Item, rw.Perm app.walk ∧ Tiling 0 rw app.size
  item_addr_nodup : (app.walk.map app.itemAddr).Nodup
  /-- an array port: element `k` has address `base<k>`, the elements share their guards and their
      ancestors (one port, one set of metadata) and nothing depends on them; the base address is not a
      parameter's.  The defaults of the elements are arbitrary: constant or selected by a preset port
      (`rDefaultDepends` on an `rArray…`), one value per element. -/
  array_ok : ∀ base first len, Item.array base first len ∈ app.walk →
      app.findAddr base = none ∧
      ∀ k, k < len →
        (app.param (first + k)).addr = base ++ natDigits k ∧
        (app.param (first + k)).guards = (app.param first).guards ∧
        (app.param (first + k)).anc = (app.param first).anc ∧
        ∀ j, j < app.size → first + k ∉ (app.param j).anc

/-- invariant of reachable states: every value is one the callback stores, and a
    disabled sub-tree holds its defaults -/
structure Inv (s : State) : Prop where
  storable : ∀ i, i < app.size → Storable (app.param i).kind (s i)
  hidden_canon : ∀ i, i < app.size → guardsOn (app.param i) s = false → s i = (app.param i).canon
  outside : ∀ i, app.size ≤ i → s i = app.init i

/-- states reachable through the parameter ports -/
def Reachable (s : State) : Prop := ∃ msgs, s = app.run msgs app.init

/-- the parameter instances a line addresses -/
def lineParams (l : Line) : List Nat :=
  match l.args with
  | .plain _ => (app.findAddr l.addr).toList
  | .arr vs => (List.range (max vs.length 1)).filterMap fun k => app.findAddr (l.addr ++ natDigits k)

/-- `a` must be applied before `b`: some parameter of `a` is an ancestor of one of `b` -/
def lineLt (a b : Line) : Prop :=
  ∃ pa ∈ app.lineParams a, ∃ pb ∈ app.lineParams b, pa ∈ (app.param pb).anc

/-- an array line stands under the base address of an array port and has at most its
    length elements (the shape `save_to_file` writes) -/
def LineOK (l : Line) : Prop :=
  match l.args with
  | .plain _ => True
  | .arr vs => ∃ first len, Item.array l.addr first len ∈ app.walk ∧ vs.length ≤ len

/-- files the order-independence theorem quantifies over -/
structure FileOK (ls : List Line) : Prop where
  addr_nodup : (ls.map (·.addr)).Nodup
  line_ok : ∀ l ∈ ls, app.LineOK l
  disjoint : ls.Pairwise fun a b => ∀ p ∈ app.lineParams a, p ∉ app.lineParams b

end App
end Rtosc.Save
