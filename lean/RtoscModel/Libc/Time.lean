/-
  C10 — `localtime`, `mktime` and `strftime("%Y-%m-%d %H:%M:%S")` under TZ=UTC
  (the check sets TZ=UTC): proleptic Gregorian calendar arithmetic, no leap seconds,
  no daylight saving.  `mktime` normalises out-of-range fields like glibc does
  (month carries into the year, day/hour/minute/second are added linearly).
  `daysFromCivil` / `civilFromDays` are the era-based civil-date algorithms (eras of 400 years = 146097 days, years
  starting in March); they rely on `/` and `%` of `Int` being floor division and non-negative remainder.
  Modelled, validated by the `X tm` correspondence stream.
  No Mathlib import: linked into the driver.
-/
import RtoscModel.Libc.Printf
namespace Rtosc.Libc
open Rtosc

/-- the fields of `struct tm` the code uses (`year` = tm_year + 1900, `mon` = tm_mon + 1) -/
structure Tm where
  year : Int
  mon : Int
  mday : Int
  hour : Int
  min : Int
  sec : Int
deriving DecidableEq, Repr

/-- days since 1970-01-01 of the civil date y-m-d (`m` in 1..12; `d` may be out of range) -/
def daysFromCivil (y m d : Int) : Int :=
  let y' := if m ≤ 2 then y - 1 else y
  let era := y' / 400
  let yoe := y' - era * 400
  let doy := (153 * (if m > 2 then m - 3 else m + 9) + 2) / 5 + d - 1
  let doe := yoe * 365 + yoe / 4 - yoe / 100 + doy
  era * 146097 + doe - 719468

/-- civil date of the day `z` days after 1970-01-01 -/
def civilFromDays (z : Int) : Int × Int × Int :=
  let z' := z + 719468
  let era := z' / 146097
  let doe := z' - era * 146097
  let yoe := (doe - doe / 1460 + doe / 36524 - doe / 146096) / 365
  let doy := doe - (365 * yoe + yoe / 4 - yoe / 100)
  let mp := (5 * doy + 2) / 153
  let d := doy - (153 * mp + 2) / 5 + 1
  let m := if mp < 10 then mp + 3 else mp - 9
  let y := yoe + era * 400 + (if m ≤ 2 then 1 else 0)
  (y, m, d)

/-- `localtime(&t)` under UTC -/
def localtime (t : Int) : Tm :=
  let days := t / 86400
  let rem := t % 86400
  let (y, m, d) := civilFromDays days
  { year := y, mon := m, mday := d, hour := rem / 3600, min := rem % 3600 / 60, sec := rem % 60 }

/-- `mktime(&tm)` under UTC (`tm_isdst` is irrelevant) -/
def mktime (tm : Tm) : Int :=
  let m0 := tm.mon - 1
  let y := tm.year + m0 / 12
  let m := m0 % 12 + 1
  (daysFromCivil y m 1 + (tm.mday - 1)) * 86400 + tm.hour * 3600 + tm.min * 60 + tm.sec

/-- `%Y` (no padding beyond what the number needs; years here are 1970..2106) -/
def fmtYear (y : Int) : Bytes := fmtDec y

def fmtDate (tm : Tm) : Bytes := fmtYear tm.year ++ 45 :: pad2 tm.mon.toNat ++ 45 :: pad2 tm.mday.toNat
def fmtHM (tm : Tm) : Bytes := pad2 tm.hour.toNat ++ 58 :: pad2 tm.min.toNat
def fmtS (tm : Tm) : Bytes := pad2 tm.sec.toNat

end Rtosc.Libc
