/-
  C10 — the integer conversions of printf the pretty printer uses:
  `%d` / `%ld` (`fmtDec`), `%x` (`fmtHex`), `%02x` (`fmtHex2`), zero-padded decimal fields
  of strftime (`pad2`).  Modelled after glibc; the correspondence check reaches them only through the printing
  operations (its `X` stream has no entry for `%d` / `%x` / `%02x` alone).
  No Mathlib import: linked into the driver.
-/
import RtoscModel.Libc.Ctype
namespace Rtosc.Libc
open Rtosc

def digitChar (d : Nat) : UInt8 := (48 + d).toUInt8
def hexDigitChar (d : Nat) : UInt8 := if d < 10 then (48 + d).toUInt8 else (87 + d).toUInt8

/-- decimal digits of `n`, most significant first, prepended to `acc`; `0 ↦ acc`.
    The first argument bounds the number of digits (structural recursion, so that the kernel
    can evaluate it); `n` itself is always enough. -/
def decDigitsFuel : Nat → Nat → Bytes → Bytes
  | 0, _, acc => acc
  | fuel + 1, n, acc => if n = 0 then acc else decDigitsFuel fuel (n / 10) (digitChar (n % 10) :: acc)

def decDigitsAux (n : Nat) (acc : Bytes) : Bytes := decDigitsFuel n n acc

/-- `%u` -/
def fmtNat (n : Nat) : Bytes := if n = 0 then [48] else decDigitsAux n []

/-- `%d`, `%ld`: optional '-', then the decimal digits -/
def fmtDec (v : Int) : Bytes :=
  if v < 0 then 45 :: fmtNat v.natAbs else fmtNat v.natAbs

def hexDigitsFuel : Nat → Nat → Bytes → Bytes
  | 0, _, acc => acc
  | fuel + 1, n, acc => if n = 0 then acc else hexDigitsFuel fuel (n / 16) (hexDigitChar (n % 16) :: acc)

def hexDigitsAux (n : Nat) (acc : Bytes) : Bytes := hexDigitsFuel n n acc

/-- `%x` -/
def fmtHex (n : Nat) : Bytes := if n = 0 then [48] else hexDigitsAux n []

/-- `%02x` of a value below 256 -/
def fmtHex2 (n : Nat) : Bytes := [hexDigitChar (n / 16 % 16), hexDigitChar (n % 16)]

/-- `%02d` (strftime %m %d %H %M %S) -/
def pad2 (n : Nat) : Bytes := if n < 10 then 48 :: fmtNat n else fmtNat n

/-- left-pad with '0' to at least `w` characters -/
def padZero (w : Nat) (s : Bytes) : Bytes := List.replicate (w - s.length) 48 ++ s

end Rtosc.Libc
