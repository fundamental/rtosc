/-
  C10/C11 — exact models of the floating-point conversions of glibc that the pretty
  printer / scanner rely on, on bit patterns, with `Nat`/`Int` arithmetic only:

  * `fmtA`     : printf `%a` / `%la` of a double (a `float` argument is promoted first),
  * `fmtF`     : printf `%#.Nf` / `%.Nf` of a double,
  * `promote`  : `(double)f` (exact),
  * `strtodMag`/`roundPos` : strtof / strtod on the characters sscanf has collected
                 (decimal or hexadecimal notation), correctly rounded to nearest, ties to even.

  Values are `± m · 2^e` with natural `m` and integer `e`; nothing is approximated.
  Modelled, not verified against glibc's source; validated by the `X …` correspondence
  stream of the `pretty` engine (tools/props/c10.py).
  No Mathlib import: linked into the driver.
-/
import RtoscModel.Libc.Printf
namespace Rtosc.Libc
open Rtosc

/-- binary interchange format: stored significand bits, exponent bits (`Rtosc.ArgVal.FFmt` of ArgVal/Float.lean has the same
    fields; `libcFmt` of Pretty/C11Float.lean goes from that one to this one) -/
structure FFmt where
  mbits : Nat
  ebits : Nat
deriving DecidableEq, Repr

def f32 : FFmt := ⟨23, 8⟩
def f64 : FFmt := ⟨52, 11⟩

namespace FFmt
variable (F : FFmt)
def bias : Nat := 2 ^ (F.ebits - 1) - 1
def expMax : Nat := 2 ^ F.ebits - 1
def signBit : Nat := 2 ^ (F.mbits + F.ebits)
def infBits : Nat := F.expMax * 2 ^ F.mbits
def nanBits : Nat := F.infBits + 2 ^ (F.mbits - 1)
/-- exponent of one unit in the last place of the subnormal range -/
def qmin : Int := 1 - (F.bias : Int) - (F.mbits : Int)
def sign (b : Nat) : Bool := b / F.signBit % 2 = 1
def mag (b : Nat) : Nat := b % F.signBit
def expField (b : Nat) : Nat := F.mag b / 2 ^ F.mbits
def frac (b : Nat) : Nat := b % 2 ^ F.mbits
end FFmt

/-- magnitude of a floating-point datum -/
inductive FMag where
  | zero
  | fin (m : Nat) (e : Int)      -- m · 2^e, m ≠ 0
  | inf
  | nan
deriving DecidableEq, Repr

def FFmt.classify (F : FFmt) (b : Nat) : FMag :=
  if F.expField b = F.expMax then (if F.frac b = 0 then .inf else .nan)
  else if F.expField b = 0 then (if F.frac b = 0 then .zero else .fin (F.frac b) F.qmin)
  else .fin (2 ^ F.mbits + F.frac b) ((F.expField b : Int) - (F.bias : Int) - (F.mbits : Int))

/-- `⌊log2 (num/den)⌋` for positive `num`, `den` -/
def ratLog2 (num den : Nat) : Int :=
  let l : Int := (Nat.log2 num : Int) - (Nat.log2 den : Int)
  let ge : Bool := if l ≥ 0 then decide (num ≥ den * 2 ^ l.toNat) else decide (num * 2 ^ (-l).toNat ≥ den)
  if ge then l else l - 1

/-- The magnitude bits (exponent and significand field) of the value of format `F` nearest to
    `num/den` (`den > 0`), ties to even; overflow gives infinity. -/
def roundPos (F : FFmt) (num den : Nat) : Nat :=
  if num = 0 then 0 else
  let l := ratLog2 num den
  let e : Int := max F.qmin (l - (F.mbits : Int))
  let n2 := if e ≥ 0 then num else num * 2 ^ (-e).toNat
  let d2 := if e ≥ 0 then den * 2 ^ e.toNat else den
  let q := n2 / d2
  let r := n2 % d2
  let q1 := if 2 * r > d2 ∨ (2 * r = d2 ∧ q % 2 = 1) then q + 1 else q
  let q2 := if q1 = 2 ^ (F.mbits + 1) then 2 ^ F.mbits else q1
  let e2 : Int := if q1 = 2 ^ (F.mbits + 1) then e + 1 else e
  if q2 < 2 ^ F.mbits then q2
  else
    let ef := (e2 - F.qmin + 1).toNat
    if ef ≥ F.expMax then F.infBits else ef * 2 ^ F.mbits + (q2 - 2 ^ F.mbits)

/-- bits of `± m · 2^e` rounded to format `F` -/
def FFmt.ofScaled (F : FFmt) (neg : Bool) (m : Nat) (e : Int) : Nat :=
  (if neg then F.signBit else 0) +
    (if e ≥ 0 then roundPos F (m * 2 ^ e.toNat) 1 else roundPos F m (2 ^ (-e).toNat))

def FFmt.ofMag (F : FFmt) (neg : Bool) : FMag → Nat
  | .zero => if neg then F.signBit else 0
  | .fin m e => F.ofScaled neg m e
  | .inf => (if neg then F.signBit else 0) + F.infBits
  | .nan => (if neg then F.signBit else 0) + F.nanBits

/-- `(double)f` for a binary32 pattern (exact; a NaN keeps its sign, payload not modelled) -/
def promote (b32 : Nat) : Nat := f64.ofMag (f32.sign b32) (f32.classify b32)

/-! ### printf `%a` -/

/-- drop trailing '0' characters -/
def stripZeros (s : Bytes) : Bytes := (s.reverse.dropWhile (· = 48)).reverse

/-- exactly `w` hexadecimal digits of `n` (`n < 16^w`) -/
def hexFixed (w n : Nat) : Bytes := padZero w (if n = 0 then [] else hexDigitsAux n [])

/-- `%a` / `%la` of the double with bit pattern `b` (glibc: no precision → shortest exact) -/
def fmtA (b : Nat) : Bytes :=
  let sgn : Bytes := if f64.sign b then [45] else []
  match f64.classify b with
  | .inf => sgn ++ lit "inf"
  | .nan => sgn ++ lit "nan"
  | .zero => sgn ++ lit "0x0p+0"
  | .fin _ _ =>
    let fr := stripZeros (hexFixed 13 (f64.frac b))
    let lead : UInt8 := if f64.expField b = 0 then 48 else 49
    let ex : Int := if f64.expField b = 0 then -1022 else (f64.expField b : Int) - 1023
    sgn ++ [48, 120, lead] ++ (if fr.isEmpty then [] else 46 :: fr) ++ [112] ++
      (if ex < 0 then 45 :: fmtNat ex.natAbs else 43 :: fmtNat ex.natAbs)

/-! ### printf `%.Nf` / `%#.Nf` -/

/-- `⌊m · 2^e · 10^prec⌉` (ties to even), for `m · 2^e ≥ 0` -/
def scaledRound (m : Nat) (e : Int) (prec : Nat) : Nat :=
  if e ≥ 0 then m * 2 ^ e.toNat * 10 ^ prec
  else
    let n := m * 10 ^ prec
    let d := 2 ^ (-e).toNat
    let q := n / d
    let r := n % d
    if 2 * r > d ∨ (2 * r = d ∧ q % 2 = 1) then q + 1 else q

/-- `%.{prec}f` (`alt = false`) or `%#.{prec}f` (`alt = true`) of the double `b` -/
def fmtF (alt : Bool) (prec : Nat) (b : Nat) : Bytes :=
  let sgn : Bytes := if f64.sign b then [45] else []
  let body (q : Nat) : Bytes :=
    let ip := fmtNat (q / 10 ^ prec)
    if prec = 0 then (if alt then ip ++ [46] else ip)
    else ip ++ 46 :: padZero prec (if q % 10 ^ prec = 0 then [] else decDigitsAux (q % 10 ^ prec) [])
  match f64.classify b with
  | .inf => sgn ++ lit "inf"
  | .nan => sgn ++ lit "nan"
  | .zero => sgn ++ body 0
  | .fin m e => sgn ++ body (scaledRound m e prec)

/-! ### strtof / strtod on a collected character buffer (sign already removed) -/

/-- leading decimal digits: (value, number of digits, rest) -/
def takeDec : Bytes → Nat → Nat → Nat × Nat × Bytes
  | [], v, k => (v, k, [])
  | c :: r, v, k => if isdigit c then takeDec r (v * 10 + dval c) (k + 1) else (v, k, c :: r)

def takeHex : Bytes → Nat → Nat → Nat × Nat × Bytes
  | [], v, k => (v, k, [])
  | c :: r, v, k => if isxdigit c then takeHex r (v * 16 + xval c) (k + 1) else (v, k, c :: r)

/-- optional exponent `<marker>[+-]digits+`; (exponent, rest). Without digits nothing is consumed. -/
def takeExp (marker : UInt8) (s : Bytes) : Int × Bytes :=
  match s with
  | c :: r =>
    if tolower c = marker then
      let (neg, r1) := match r with
        | 45 :: r' => (true, r')
        | 43 :: r' => (false, r')
        | _ => (false, r)
      let (v, k, r2) := takeDec r1 0 0
      if k = 0 then (0, s) else ((if neg then -(v : Int) else (v : Int)), r2)
    else (0, s)
  | [] => (0, s)

/-- number of decimal digits of `n` (0 for 0) -/
def numDigits (n : Nat) : Nat := if n = 0 then 0 else (decDigitsAux n []).length

/-- `m · 10^x` rounded to `F`; the clamps only cut off exponents whose result is certainly
    infinite / zero (they keep the arithmetic small) -/
def decToBits (F : FFmt) (m : Nat) (x : Int) : Nat :=
  if m = 0 then 0
  else if (numDigits m : Int) + x > 400 then F.infBits
  else if (numDigits m : Int) + x < -400 then 0
  else if x ≥ 0 then roundPos F (m * 10 ^ x.toNat) 1 else roundPos F m (10 ^ (-x).toNat)

/-- `m · 2^x` rounded to `F`; the clamps 1100 / -1200 only cut off exponents whose result is certainly infinite / zero
    for formats up to binary64 -/
def hexToBits (F : FFmt) (m : Nat) (x : Int) : Nat :=
  if m = 0 then 0
  else if (Nat.log2 m : Int) + x > 1100 then F.infBits
  else if (Nat.log2 m : Int) + x < -1200 then 0
  else if x ≥ 0 then roundPos F (m * 2 ^ x.toNat) 1 else roundPos F m (2 ^ (-x).toNat)

/-- `strtof`/`strtod` (result format `F`) of an unsigned buffer: magnitude bits and the number of
    characters converted; `none`: no conversion.  (`inf`, `nan` are handled by the caller.) -/
def strtodMag (F : FFmt) (buf : Bytes) : Option (Nat × Nat) :=
  let hexBody : Option (Nat × Nat) :=
    match buf with
    | 48 :: x :: r =>
      if tolower x = 120 then
        let (ip, ik, r1) := takeHex r 0 0
        let (m, fk, r2) := match r1 with
          | 46 :: r' => let (v, k, r'') := takeHex r' ip 0; (v, k, r'')
          | _ => (ip, 0, r1)
        if ik + fk = 0 then none
        else
          let (ex, r3) := takeExp 112 r2
          some (hexToBits F m (ex - 4 * (fk : Int)), buf.length - r3.length)
      else none
    | _ => none
  match hexBody with
  | some res => some res
  | none =>
    let (ip, ik, r1) := takeDec buf 0 0
    let (m, fk, r2) := match r1 with
      | 46 :: r' => let (v, k, r'') := takeDec r' ip 0; (v, k, r'')
      | _ => (ip, 0, r1)
    if ik + fk = 0 then none
    else
      let (ex, r3) := takeExp 101 r2
      some (decToBits F m (ex - (fk : Int)), buf.length - r3.length)

end Rtosc.Libc
