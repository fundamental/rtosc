/-
  C04 — the vocabulary of the statements of Props/C04.lean (and of the lemmas of Proofs/Ports*.lean that
  C09 and C14 build on) that is not part of the model or of the specification `Answers` (Ports/Spec.lean).
  Definitions only, in this order:
    * the inputs: the message buffer behind the address (`msgTail`, `msgBuf`), the messages and trees in
      scope (`InScope`), the `RtData` (`RtData.Usable`), what `dispatch` at the root does to address and
      `loc` (`rootAddr`, `rootLoc`);
    * the lookup tables: what the proofs ask of a `Port_Matcher` (`HashOK`) and of the function that
      builds it (`MkOK`);
    * what `Ports::dispatch` computes: `rtosc_match` on a structured name (`matchB`) and the pass over a
      table with a location buffer as a pure function (`semLoc`, `finLoc`);
    * what a callback is handed: apart from `loc` (`View`), in `loc` (`LocExact`), as object
      through the recursion macros (`SugarObj`);
    * the MUST / MAY / MUSTNOT form of the specification (`AnswersBy`, `MustAnswer`, `MayAnswer`,
      `Sandwiched`);
    * `MergePorts` said without its loops (`keepNew`).
  The type rule `TypesAdmit` of the specification (Ports/Spec.lean, which imports Match/Spec.lean only) is the
  same term as C05's `TypesCode` (Match/SpecExt.lean); C09's `Walk.tagsAdmitted` (Walk/DispatchSpec.lean) is
  its `Bool` form (`tagsAdmitted_iff`, Proofs/WalkSim.lean).
-/
import RtoscModel.Match.CodeSpec
import RtoscModel.Ports.Spec
import RtoscModel.Ports.Sugar
import RtoscModel.Ports.Build
namespace Rtosc.Ports
open Rtosc Rtosc.Match Rtosc.Ports.Hash

/-- what follows the (remaining) address in the message buffer: `k` padding NULs, the
    type string behind its ',', and the rest of the buffer (padding, payload, …); C09's `Walk.tailOf`
    (Walk/DispatchSpec.lean) is the same function -/
def msgTail (k : Nat) (tags rest : Bytes) : Bytes :=
  List.replicate k 0 ++ 44 :: (tags ++ 0 :: rest)

abbrev msgBuf (addr tags : Bytes) (k : Nat) (rest : Bytes) : Bytes := addr ++ 0 :: msgTail k tags rest

/-- the inputs the property quantifies over -/
structure InScope (P : PPorts) (addr tags rest : Bytes) : Prop where
  wf : P.tab.WF
  addr_nul : NulFree addr
  addr_idx : IdxBounded addr
  tags_nul : NulFree tags

/-- an `RtData` the dispatch theorems speak about: no location buffer, or one of non-zero size -/
def RtData.Usable (d : RtData) : Prop := d.loc = none ∨ ∃ L0, d.loc = some L0 ∧ d.locSize ≠ 0

/-- `if(m && *m == '/') m++;` on the address -/
def stripSlash : Bytes → Bytes
  | 47 :: r => r
  | a => a

/-- the address the root table is searched with -/
def rootAddr (base : Bool) (addr : Bytes) : Bytes := if base then stripSlash addr else addr

/-- the content of `loc` while the root table is searched -/
def rootLoc (base : Bool) (L0 : Bytes) : Bytes := if base || L0.isEmpty then [47] else L0

/-- `fixed[i]` and `arg_spec[i]` as `generate_minimal_hash` computes them from the names -/
def keysOf (names : List Bytes) : List Bytes := names.map (fun n => (splitName n).1)
def specsOf (names : List Bytes) : List (Option Bytes) := names.map (fun n => (splitName n).2)

/-- What the dispatch proofs ask of the `Port_Matcher` of a hashed table (`pos` non-empty), and all they
    ask.  `noHash`, `noInner`: guards of `generate_minimal_hash` (`if(enump) return;`, C04-03), so every
    name is one literal component.  `fixed`, `argSpec`, `enump`: what it stores per port (the name in
    front of ':', the type specification, `strchr(name,'#')`).  `remap`: the guard of C04-02 (`count_dups`
    of the hash values is 0), `remap` inverts the hash on the keys; pairwise different keys follow.
    `remapRange`: every entry of `remap` is a port number, so whatever a message hashes to inside `remap`,
    `hard_match(remap[h], m)` reads `fixed`, `arg_spec` and `ports` inside the vectors.
    Nothing is asked of `pos` and `assoc`. -/
structure HashOK (names : List Bytes) (pm : Matcher) : Prop where
  noHash : ∀ n ∈ names, hasChar 35 n = false
  noInner : ∀ n ∈ names, innerSlash n = false
  fixed : pm.fixed = keysOf names
  argSpec : pm.argSpec = specsOf names
  enump : pm.enump = names.map (hasChar 35)
  remap : ∀ (i : Nat) (h : i < (keysOf names).length),
    pm.remap[hashStr pm.pos pm.assoc ((keysOf names)[i])]? = some i
  remapRange : ∀ x ∈ pm.remap, x < names.length

/-- what the proofs need of the table-construction function -/
structure MkOK (mk : List Bytes → Option Matcher) : Prop where
  total : ∀ names, ∃ pm, mk names = some pm
  ok : ∀ names pm, mk names = some pm → pm.pos ≠ [] → HashOK names pm

def Seg.isLit : Seg → Bool
  | .lit _ => true
  | _ => false

def allLit (segs : List Seg) : Bool := segs.all Seg.isLit

/-- what `rtosc_match` computes for a structured name: the rest of the address behind
    `*path_end` if the message matches -/
def matchB (p : Pat) (a tags : Bytes) : Option Bytes :=
  match greedy p.segs p.sub a with
  | none => none
  | some t =>
    match p.types with
    | none => some t
    | some ts => if typesCode ts tags then some t else none

/-- the part of the address a matching name accounts for (`t` = what is left behind
    `*path_end`) -/
def consumed (a t : Bytes) : Bytes := a.take (a.length - t.length)

/-- `finishLoc` of the model (what follows the `for` loop of a table with a location buffer: the default
    handler when no port matched) on a scan that stayed inside its buffers (no `Option`) -/
def finLoc (dflt : Bool) (tp obj : List Nat) (m : Bytes) (r : List Call × RtData × Bool) : List Call × RtData :=
  if !r.2.2 && dflt then
    (r.1 ++ [dfltCallOf tp m { r.2.1 with nmatches := r.2.1.nmatches + 1 }],
     { r.2.1 with nmatches := r.2.1.nmatches + 1, obj := obj })
  else (r.1, r.2.1)

/-- `semLoc t tp i obj L a tags ex d mt`: the pass of `Ports::dispatch` with a location buffer over the
    ports of `t` from index `i` on, in table order, with `matchB` for `rtosc_match` (no lookup strategy, no
    read that can leave a buffer).  `tp` = index path of the table; `obj` = the `d.obj` saved on entry
    (`void *obj = d.obj`), put back after every callback; `L` = the content of `loc` when the table was
    entered (`loc` up to `old_end`), to which `loc` is cut back after every callback; `a`, `tags` = the
    remaining address and the type string; `ex` = the buffer behind the address's terminator, so the
    message pointer is `a ++ 0 :: ex`; `d` = the `RtData` in front of port `i`; `mt` = `matched` so far.
    Result: log, `RtData` and `matched` behind the last port; `finLoc` adds the default handler. -/
def semLoc : PTable → List Nat → Nat → List Nat → Bytes → Bytes → Bytes → Bytes → RtData → Bool →
    List Call × RtData × Bool
  | .nil, _, _, _, _, _, _, _, d, mt => ([], d, mt)
  | .leaf p rest, tp, i, obj, L, a, tags, ex, d, mt =>
    match matchB p a tags with
    | none => semLoc rest tp (i + 1) obj L a tags ex d mt
    | some t =>
      let d3 := { (RtData.setLoc { d with nmatches := d.nmatches + 1 } (L ++ consumed a t)) with
                  port := some (tp ++ [i]) }
      let r := semLoc rest tp (i + 1) obj L a tags ex { d3 with obj := obj, loc := some L } true
      (callOf (tp ++ [i]) true (a ++ 0 :: ex) d3 :: r.1, r.2.1, r.2.2)
  | .node p child cd rest, tp, i, obj, L, a, tags, ex, d, mt =>
    match matchB p a tags with
    | none => semLoc rest tp (i + 1) obj L a tags ex d mt
    | some t =>
      let d3 := { (RtData.setLoc d (L ++ consumed a t)) with port := some (tp ++ [i]) }
      let cobj := tp ++ [i]
      let a' := levelTail a
      let rc := finLoc cd cobj cobj (a' ++ 0 :: ex)
        (semLoc child cobj 0 cobj (L ++ consumed a t) a' tags ex { d3 with obj := cobj } false)
      let r := semLoc rest tp (i + 1) obj L a tags ex { rc.2 with obj := obj, loc := some L } true
      (callOf (tp ++ [i]) false (a ++ 0 :: ex) d3 :: (rc.1 ++ r.1), r.2.1, r.2.2)

/-- what a callback is handed, apart from `loc` -/
structure View where
  who : Who
  isLeaf : Bool
  m : Bytes
  obj : List Nat
  dport : Option (List Nat)
deriving DecidableEq, Repr

def Call.view (c : Call) : View :=
  { who := c.who, isLeaf := c.isLeaf, m := c.m, obj := c.obj, dport := c.dport }

def views (l : List Call) : List View := l.map Call.view

def leafCount (l : List Call) : Nat := (l.filter (·.isLeaf)).length

/-- the port with index path `j :: s` in a table whose first port has index `i` -/
def PTable.patFrom : PTable → Nat → List Nat → Option Pat
  | .nil, _, _ => none
  | _, _, [] => none
  | .leaf p r, i, j :: s => if j = i then (if s = [] then some p else none) else r.patFrom (i + 1) (j :: s)
  | .node p c _ r, i, j :: s =>
    if j = i then (if s = [] then some p else c.patFrom 0 s) else r.patFrom (i + 1) (j :: s)

/-- the (structured name of the) port with the given path of table indices -/
def PPorts.portAt (P : PPorts) (q : List Nat) : Option Pat := P.tab.patFrom 0 q

/-- `mid` is the part of the remaining address `mid ++ rest` the name `p` accounts for -/
def Accounts (p : Pat) (mid rest : Bytes) : Prop :=
  ∃ r0, SpellsAll p.segs (mid ++ rest) r0 ∧ (if p.sub then r0 = 47 :: rest else r0 = [] ∧ rest = [])

/-- what the callback of a port named `p` sees -/
def LocSees (full ex : Bytes) (c : Call) (p : Pat) : Prop :=
  ∃ pre mid rest, c.loc = some (pre ++ mid) ∧ pre ++ mid ++ rest = full ∧
    c.m = mid ++ rest ++ 0 :: ex ∧ Accounts p mid rest

/-- what a default handler sees -/
def LocSeesDflt (full ex : Bytes) (c : Call) : Prop :=
  ∃ l rest, c.loc = some l ∧ l ++ rest = full ∧ c.m = rest ++ 0 :: ex

/-- the invariant of ports.h ("d.loc + m make the port's full path") for one log entry, with the
    port's name in it -/
def LocExact (P : PPorts) (full ex : Bytes) (c : Call) : Prop :=
  match c.who with
  | .port q => ∃ p, P.portAt q = some p ∧ LocSees full ex c p
  | .dflt _ => LocSeesDflt full ex c

/-- the element (and the array length N) the address names for the first `#N` of a name; `none`
    for a name without `#N` -/
def spelledElem : List Seg → Bytes → Option (Nat × Nat)
  | [], _ => none
  | .lit s :: r, a => spelledElem r (a.drop s.length)
  | .enum ds :: _, a => some (decVal (a.takeWhile isDigit), decVal ds)
  | .alts _ :: _, _ => none

/-- for the table reached from `t` (whose first port has index `i`) by the path `j :: s` of table
    indices while the remaining address is `a`: per sub-tree port of the path its index and, for a
    port `name#N/`, the element the address names and N -/
def PTable.elemsFrom : PTable → Nat → Bytes → List Nat → Option (List (Nat × Option (Nat × Nat)))
  | .nil, _, _, [] => some []
  | .nil, _, _, _ :: _ => none
  | .leaf _ _, _, _, [] => some []
  | .leaf _ r, i, a, j :: s => if j = i then none else r.elemsFrom (i + 1) a (j :: s)
  | .node _ _ _ _, _, _, [] => some []
  | .node p c _ r, i, a, j :: s =>
    if j = i then (c.elemsFrom 0 (levelTail a) s).map ((i, spelledElem p.segs a) :: ·)
    else r.elemsFrom (i + 1) a (j :: s)

/-- the object of a table of the tree, as the sugar tree's callbacks identify it -/
def PPorts.elems (P : PPorts) (addr : Bytes) (q : List Nat) : Option (List (Nat × Option (Nat × Nat))) :=
  P.tab.elemsFrom 0 addr q

/-- what `Sugar.objIdx` prints of it: the element without N -/
def stripN (es : List (Nat × Option (Nat × Nat))) : List (Nat × Option Nat) :=
  es.map (fun e => (e.1, e.2.map (·.1)))

/-- every selected element exists: index below N -/
def ElemsInRange (es : List (Nat × Option (Nat × Nat))) : Prop :=
  ∀ e ∈ es, ∀ v n, e.2 = some (v, n) → v < n

/-- the names the recursion macros generate (`name/`, `name#N/`) carry no type specification -/
def PTable.sugarNodes : PTable → Bool
  | .nil => true
  | .leaf _ r => r.sugarNodes
  | .node p c _ r => p.types.isNone && c.sugarNodes && r.sugarNodes

/-- **the object a callback is handed, seen through the recursion macros**: for the object `c.obj` (in
    the model of `dispatch`: the path of the table the callback belongs to) the elements that
    `rRecursCb` / `rRecurspCb` select level by level on the message the root table sees
    (`Sugar.objIdx`, i.e. `rBOILS_BEGIN` and `SNIP` at every level) are the elements the address `a`
    names (`PPorts.elems`), and every one of them exists (index below the port's N) -/
def SugarObj (P : PPorts) (a ex : Bytes) (c : Call) : Prop :=
  ∃ es, P.elems a c.obj = some es ∧ Sugar.objIdx P.render.tab (a ++ 0 :: ex) c.obj = some (stripN es) ∧
    ElemsInRange es

/-- the verdict of a matcher on one name: (name, remaining address, type string) -/
abbrev Verdict := Pat → Bytes → Bytes → Prop

/-- some port of the table gets a positive verdict -/
def PTable.anyBy (v : Verdict) : PTable → Bytes → Bytes → Prop
  | .nil, _, _ => False
  | .leaf p r, a, t => v p a t ∨ r.anyBy v a t
  | .node p _ _ r, a, t => v p a t ∨ r.anyBy v a t

/-- `Answers` (Ports/Spec.lean) with the verdict on one name as a parameter: `pos` where a positive verdict
    invokes something (the port's callback, the descent into its sub-table), `neg` where a positive
    verdict suppresses something (the default handler of the table) -/
def AnswersBy (pos neg : Verdict) : PTable → Nat → List Nat → Bytes → Bytes → Who → Prop
  | .nil, _, _, _, _, _ => False
  | .leaf p r, i, tp, a, t, w =>
    (pos p a t ∧ w = .port (tp ++ [i])) ∨ AnswersBy pos neg r (i + 1) tp a t w
  | .node p c cd r, i, tp, a, t, w =>
    (pos p a t ∧
      (w = .port (tp ++ [i]) ∨ AnswersBy pos neg c 0 (tp ++ [i]) (levelTail a) t w ∨
       (cd = true ∧ ¬ c.anyBy neg (levelTail a) t ∧ w = .dflt (tp ++ [i]))))
    ∨ AnswersBy pos neg r (i + 1) tp a t w

def AnswersRootBy (pos neg : Verdict) (P : PPorts) (addr tags : Bytes) (w : Who) : Prop :=
  AnswersBy pos neg P.tab 0 [] addr tags w ∨ (P.dflt = true ∧ ¬ P.tab.anyBy neg addr tags ∧ w = .dflt [])

/-- the callbacks a message MUST invoke -/
def MustAnswer (P : PPorts) (addr tags : Bytes) (w : Who) : Prop :=
  AnswersRootBy SpecMatch SpecMayMatch P addr tags w

/-- the callbacks a message MAY invoke; every other callback it MUST NOT invoke -/
def MayAnswer (P : PPorts) (addr tags : Bytes) (w : Who) : Prop :=
  AnswersRootBy SpecMayMatch SpecMatch P addr tags w

/-- a verdict function inside the sandwich of C05: every MUST message gets a positive verdict, and
    only MAY messages do -/
def Sandwiched (v : Verdict) : Prop :=
  ∀ p a t, (SpecMatch p a t → v p a t) ∧ (v p a t → SpecMayMatch p a t)

/-- what `MergePorts` is documented to do, said without its loops: go through the ports of all the merged
    tables in order and keep a port iff no port with its name was met before (`seen`: the names met so far) -/
def keepNew (seen : List Bytes) : List Entry → List Entry
  | [] => []
  | e :: r => if e.name ∈ seen then keepNew seen r else e :: keepNew (seen ++ [e.name]) r

end Rtosc.Ports
