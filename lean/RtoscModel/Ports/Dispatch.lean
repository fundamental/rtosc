/-
  C04 — `Ports::dispatch` (src/cpp/ports.cpp) and the recursion contract of
  include/rtosc/port-sugar.h (`SNIP`, `rRecurCb`).

  `dispatch mk P msg d base` is `P.dispatch(msg, d, base)`.
    * `mk` is the table-construction function (`refreshMagic` for the table with the given
      names): `Hash.matcherOf Hash.realSearch` for the real code; the theorems quantify
      over it.
    * `msg` is the message buffer from the pointer handed in to the end of the allocation
      (as in the C05 model: reading past it is `none`).
    * the result is the log of the callbacks that were invoked — in order, each with what
      it was handed — and the final `RtData`; `none` = some read left a buffer.
  The three lookup strategies are separate functions: `scanNoLoc` (no location buffer:
  `for(const Port &port: ports) if(rtosc_match(...))`), `scanLoc` (location buffer, no
  hash: the `for(unsigned i=0; i<elms; ++i)` loop) and `hashedAt` (location buffer,
  hashed: the code behind `hard_match`, acting on `ports[port_num]`).

  The model mirrors the code with the repairs C04-01..06 applied (the list is in
  Ports/Hash.lean); C04-05: the default handler of a table is called by all three strategies
  when no port matched (it was only called by the hashed one).
  No Mathlib import: linked into drv_dispatch.
-/
import RtoscModel.Ports.Hash
import RtoscModel.Match.Path
namespace Rtosc.Ports
open Rtosc Rtosc.Ports.Hash

/-- `SNIP`: `while(*msg && *msg!='/') ++msg; msg = *msg ? msg+1 : msg;` -/
def snip : Bytes → Option Bytes
  | [] => none
  | c :: r => if c = 0 then some (c :: r) else if c = 47 then some r else snip r

/-- a write of the C string `s` (and its terminator) into `loc` from its start -/
def RtData.setLoc (d : RtData) (s : Bytes) : RtData :=
  { d with loc := some s, locHigh := max d.locHigh (s.length + 1) }

/-- the C string in `d.loc` (`dispatch` only calls this when `d.loc` is not NULL) -/
def RtData.locStr (d : RtData) : Bytes := d.loc.getD []

/-- zeroing everything from `old_end` on: `while(*tmp) *tmp++=0;` / `old_end[0] = '\0';` -/
def RtData.cutLoc (d : RtData) (oldEnd : Nat) : RtData :=
  { d with loc := some (d.locStr.take oldEnd) }

/-- the log entry of a callback of the port `p` that is handed `m` and `d` -/
def callOf (p : List Nat) (leaf : Bool) (m : Bytes) (d : RtData) : Call :=
  { who := .port p, isLeaf := leaf, m := m, loc := d.loc, obj := d.obj, dport := d.port }

def dfltCallOf (t : List Nat) (m : Bytes) (d : RtData) : Call :=
  { who := .dflt t, isLeaf := true, m := m, loc := d.loc, obj := d.obj, dport := d.port }

abbrev Out := Option (List Call × RtData)
abbrev ScanOut := Option (List Call × RtData × Bool)

def prepend (c : Call) : ScanOut → ScanOut
  | none => none
  | some (l, d, b) => some (c :: l, d, b)

/-- what follows a callback that called `child.dispatch(...)`: `cont` is the rest of the
    caller's work on the `RtData` the callee left behind -/
def andThen (r : Out) (cont : RtData → ScanOut) : ScanOut :=
  match r with
  | none => none
  | some (l, d) =>
    match cont d with
    | none => none
    | some (l', d', b) => some (l ++ l', d', b)

/-! ### without location buffer -/

/-- after the `for` loop of the simple case (C04-05):
    `if(!matched && default_handler) default_handler(m,d), d.obj = obj;` -/
def finishNoLoc (dflt : Bool) (tpath : List Nat) (obj : List Nat) (m : Bytes) : ScanOut → Out
  | none => none
  | some (l, d, matched) =>
    if !matched && dflt then some (l ++ [dfltCallOf tpath m d], { d with obj := obj })
    else some (l, d)

/-- the `for(const Port &port: ports)` loop of the simple case, from port `i` on;
    `tpath` is the path of the table, `obj` the `d.obj` saved on entry, the `Bool` is
    `matched`.  A `node` callback is
    `data.obj = <child object>; SNIP; <child>.dispatch(msg, data);` — inlined, because
    without location buffer the child again takes the simple case. -/
def scanNoLoc : Table → List Nat → Nat → List Nat → Bytes → RtData → Bool → ScanOut
  | .nil, _, _, _, _, d, mt => some ([], d, mt)
  | .leaf name rest, tpath, i, obj, m, d, mt =>
    match Match.full (name ++ [0]) m with
    | none => none
    | some (false, _) => scanNoLoc rest tpath (i + 1) obj m d mt
    | some (true, _) =>
      let d1 := { d with port := some (tpath ++ [i]) }
      prepend (callOf (tpath ++ [i]) true m d1)
        (scanNoLoc rest tpath (i + 1) obj m { d1 with obj := obj } true)
  | .node name child cdflt rest, tpath, i, obj, m, d, mt =>
    match Match.full (name ++ [0]) m with
    | none => none
    | some (false, _) => scanNoLoc rest tpath (i + 1) obj m d mt
    | some (true, _) =>
      let d1 := { d with port := some (tpath ++ [i]) }
      match snip m with
      | none => none
      | some m' =>
        let cobj := tpath ++ [i]
        prepend (callOf (tpath ++ [i]) false m d1)
          (andThen
            (finishNoLoc cdflt (tpath ++ [i]) cobj m'
              (scanNoLoc child (tpath ++ [i]) 0 cobj m' { d1 with obj := cobj } false))
            (fun d2 => scanNoLoc rest tpath (i + 1) obj m { d2 with obj := obj } true))

/-! ### with location buffer -/

/-- `while(*msg && msg != m_end) *pos++ = *msg++;` — the bytes of `m` in front of
    `m_end` (a suffix of `m`), at most up to the terminator -/
def copyTo (m mEnd : Bytes) : Bytes := (m.take (m.length - mEnd.length)).takeWhile (· != 0)

/-- `while(*msg && *msg != '/') *pos++ = *msg++;` -/
def copyComp (m : Bytes) : Bytes := m.takeWhile (fun c => c != 0 && c != 47)

/-- after the `for` loop of the linear search (C04-05):
    `if(!matched && default_handler) { d.nmatches++; default_handler(m,d), d.obj = obj; }` -/
def finishLoc (dflt : Bool) (tpath : List Nat) (obj : List Nat) (m : Bytes) : ScanOut → Out
  | none => none
  | some (l, d, matched) =>
    if !matched && dflt then
      let d1 := { d with nmatches := d.nmatches + 1 }
      some (l ++ [dfltCallOf tpath m d1], { d1 with obj := obj })
    else some (l, d)

/-- the hashed branch when no port is selected: hash outside `remap`, or `hard_match`
    failed -/
def missLoc (dflt : Bool) (tpath : List Nat) (obj : List Nat) (m : Bytes) (d : RtData) : Out :=
  if dflt then
    let d1 := { d with nmatches := d.nmatches + 1 }
    some ([dfltCallOf tpath m d1], { d1 with obj := obj })
  else some ([], d)

/-- `Ports::dispatch(m, d, false)` for a table with a location buffer (`d.loc`, `d.loc_size`
    both non-zero), given its names, and the two loops as functions of `old_end` and `d`:
    `lin oldEnd d` = the linear loop, `hsh oldEnd k key en d` = the code behind a
    successful `hard_match` for `ports[k]` (`key = fixed[k]`, `en = enump[k]`). -/
def enterLoc (mk : List Bytes → Option Matcher) (names : List Bytes) (dflt : Bool)
    (tpath : List Nat) (m : Bytes) (d : RtData)
    (lin : Nat → RtData → ScanOut)
    (hsh : Nat → Nat → Bytes → Bool → RtData → Out) : Out :=
  let obj := d.obj
  -- if(d.loc[0] == 0) { memset(d.loc, 0, d.loc_size); d.loc[0] = '/'; }
  let d0 := if d.locStr.isEmpty then { d with loc := some [47], locHigh := max d.locHigh d.locSize } else d
  let oldEnd := d0.locStr.length
  match mk names with
  | none => none
  | some pm =>
    if pm.pos.isEmpty then finishLoc dflt tpath obj m (lin oldEnd d0)
    else
      match lookup pm m with
      | none => none
      | some .outside => missLoc dflt tpath obj m d0
      | some (.slot _ false) => missLoc dflt tpath obj m d0
      | some (.slot k true) =>
        match pm.fixed[k]?, pm.enump[k]? with
        | some key, some en => hsh oldEnd k key en d0
        | _, _ => none

mutual
/-- the loop `for(unsigned i=0; i<elms; ++i)` of the branch without hash, from port `i` on -/
def scanLoc (mk : List Bytes → Option Matcher) :
    Table → List Nat → Nat → List Nat → Nat → Bytes → RtData → Bool → ScanOut
  | .nil, _, _, _, _, _, d, mt => some ([], d, mt)
  | .leaf name rest, tpath, i, obj, oldEnd, m, d, mt =>
    match Match.full (name ++ [0]) m with
    | none => none
    | some (false, _) => scanLoc mk rest tpath (i + 1) obj oldEnd m d mt
    | some (true, none) => none                  -- rtosc_match always writes *path_end when it returns true
    | some (true, some mEnd) =>
      let d1 := { d with nmatches := d.nmatches + 1 }
      -- append the path
      let d2 := if hasChar 35 name then d1.setLoc (d1.locStr.take oldEnd ++ copyTo m mEnd)
                else d1.setLoc (d1.locStr ++ upToColon name)
      let d3 := { d2 with port := some (tpath ++ [i]) }
      prepend (callOf (tpath ++ [i]) true m d3)
        (scanLoc mk rest tpath (i + 1) obj oldEnd m (RtData.cutLoc { d3 with obj := obj } oldEnd) true)
  | .node name child cdflt rest, tpath, i, obj, oldEnd, m, d, mt =>
    match Match.full (name ++ [0]) m with
    | none => none
    | some (false, _) => scanLoc mk rest tpath (i + 1) obj oldEnd m d mt
    | some (true, none) => none
    | some (true, some mEnd) =>
      let d2 := if hasChar 35 name then d.setLoc (d.locStr.take oldEnd ++ copyTo m mEnd)
                else d.setLoc (d.locStr ++ upToColon name)
      let d3 := { d2 with port := some (tpath ++ [i]) }
      match snip m with
      | none => none
      | some m' =>
        let cobj := tpath ++ [i]
        prepend (callOf (tpath ++ [i]) false m d3)
          (andThen
            (enterLoc mk child.names cdflt (tpath ++ [i]) m' { d3 with obj := cobj }
              (fun oe dd => scanLoc mk child (tpath ++ [i]) 0 cobj oe m' dd false)
              (fun oe k key en dd => hashedAt mk child (tpath ++ [i]) 0 k cobj oe key en m' dd))
            (fun d4 => scanLoc mk rest tpath (i + 1) obj oldEnd m (RtData.cutLoc { d4 with obj := obj } oldEnd) true))

/-- the code behind a successful `hard_match(port_num, m)`, acting on `ports[k]`
    (found by walking to index `k`; `none`: `k` is no index of the vector) -/
def hashedAt (mk : List Bytes → Option Matcher) :
    Table → List Nat → Nat → Nat → List Nat → Nat → Bytes → Bool → Bytes → RtData → Out
  | .nil, _, _, _, _, _, _, _, _, _ => none
  | .leaf name rest, tpath, i, k, obj, oldEnd, key, en, m, d =>
    if i = k then
      let d1 := { d with nmatches := d.nmatches + 1 }
      let d2 := if en then
                  d1.setLoc (d1.locStr.take oldEnd ++ copyComp m ++ (if hasChar 47 name then [47] else []))
                else d1.setLoc (d1.locStr.take oldEnd ++ key)
      let d3 := { d2 with port := some (tpath ++ [i]) }
      some ([callOf (tpath ++ [i]) true m d3], RtData.cutLoc { d3 with obj := obj } oldEnd)
    else hashedAt mk rest tpath (i + 1) k obj oldEnd key en m d
  | .node name child cdflt rest, tpath, i, k, obj, oldEnd, key, en, m, d =>
    if i = k then
      let d2 := if en then
                  d.setLoc (d.locStr.take oldEnd ++ copyComp m ++ (if hasChar 47 name then [47] else []))
                else d.setLoc (d.locStr.take oldEnd ++ key)
      let d3 := { d2 with port := some (tpath ++ [i]) }
      match snip m with
      | none => none
      | some m' =>
        let cobj := tpath ++ [i]
        match enterLoc mk child.names cdflt (tpath ++ [i]) m' { d3 with obj := cobj }
            (fun oe dd => scanLoc mk child (tpath ++ [i]) 0 cobj oe m' dd false)
            (fun oe k' key' en' dd => hashedAt mk child (tpath ++ [i]) 0 k' cobj oe key' en' m' dd) with
        | none => none
        | some (l, d4) => some (callOf (tpath ++ [i]) false m d3 :: l, RtData.cutLoc { d4 with obj := obj } oldEnd)
    else hashedAt mk rest tpath (i + 1) k obj oldEnd key en m d
end

/-- `P.dispatch(msg, d, base)` -/
def dispatch (mk : List Bytes → Option Matcher) (P : Ports) (msg : Bytes) (d : RtData) (base : Bool) : Out :=
  let obj := d.obj
  -- if(base_dispatch) { d.nmatches = 0; d.message = m; if(m && *m == '/') m++; if(d.loc) d.loc[0] = 0; }
  let start : Option (Bytes × RtData) :=
    if base then
      match msg with
      | [] => none
      | c :: r =>
        let m := if c = 47 then r else c :: r
        let d1 := { d with nmatches := 0 }
        some (m, match d1.loc with
                 | none => d1
                 | some _ => { d1 with loc := some [], locHigh := max d1.locHigh 1 })
    else some (msg, d)
  match start with
  | none => none
  | some (m, d) =>
    if d.loc.isNone || d.locSize == 0 then
      finishNoLoc P.dflt [] obj m (scanNoLoc P.tab [] 0 obj m d false)
    else
      enterLoc mk P.tab.names P.dflt [] m d
        (fun oe dd => scanLoc mk P.tab [] 0 obj oe m dd false)
        (fun oe k key en dd => hashedAt mk P.tab [] 0 k obj oe key en m dd)

/-- the real code: tables as `refreshMagic` builds them -/
def dispatchReal (P : Ports) (msg : Bytes) (d : RtData) (base : Bool) : Out :=
  dispatch (matcherOf realSearch) P msg d base

end Rtosc.Ports
