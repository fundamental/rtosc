/-
  C19 — model of rtosc::AutomationMgr (src/cpp/automations.cpp, include/rtosc/automations.h)
  as repaired by fixes/C19-clearslot.patch, fixes/C19-nrpn-init.patch,
  fixes/C19-nrpn-partial.patch and fixes/C19-int-log-scale.patch.

  Two layers:
  * the bookkeeping (learn queue numbering, controller bindings, which automation emits to
    which address with which type) is modelled exactly over `Int`/`Bool`/`List`;
  * the numeric part (updateMapping, the map + clamp in setSlotSub, the controller value
    scaling in handleMidi) is written over an abstract carrier `F` with a record `Arith F`
    of the operations the code performs (`float` operations `…32`, `double` operations
    `…64`, the `double → float` conversion, `roundf`, `(int)`, `logf`, `expf`).  The driver
    instantiates it with IEEE-754 binary32/binary64 arithmetic over `Rat`
    (RtoscModel/AutoFloat.lean); the theorems assume only order laws (`Laws`, RtoscModel/AutoSpec.lean)
    or use exact rational arithmetic (`default_gain_linear`).

  Undefined behaviour of the C++ code (slot index not range-checked by createBinding, sub
  index not range-checked by setSlotSubPath, `atof(NULL)`) is an explicit `none`.
  Not modelled because nothing the property observes depends on it: `name`, `active`,
  `relative`, `param_base_value`, `param_step`, `damaged`, `active_slot`, control points 0
  and 2 (constants 0 and 1, never read).  The control points 1 and 3 are only read for a
  `used` automation and every path that sets `used` runs updateMapping first.

  Ghost state (nothing in the code, nothing reads it in the model): `Automation.bound`
  remembers the arguments of the createBinding / setSlotSubPath call that filled the
  automation — the address that was passed and what `apropos` found for it — so that the
  theorems can speak about "the bound parameter".  It is set where the code sets
  `used = true` and dropped where the code sets `used = false`.
-/
import RtoscModel.Basic
namespace Rtosc.Auto
open Rtosc

/-- The arithmetic the code performs.  All values live in one carrier (every `float` is a
    `double`); `le` is `<=` on non-NaN values, so the C test `x > y` is `!le x y`. -/
structure Arith (F : Type) where
  le : F → F → Bool
  zero : F
  one : F
  half : F
  two : F
  hundred : F
  ofInt : Int → F
  add32 : F → F → F
  sub32 : F → F → F
  mul32 : F → F → F
  add64 : F → F → F
  sub64 : F → F → F
  mul64 : F → F → F
  div64 : F → F → F
  to32 : F → F
  roundf : F → F
  toInt : F → Int
  logf : F → F
  expf : F → F

/-- `x > y` in C on non-NaN values -/
@[inline] def Arith.gt {F} (A : Arith F) (x y : F) : Bool := !A.le x y

/-- What createBinding / setSlotSubPath read from the port `apropos(path)` returned:
    `strstr(name, ":f")`, `strstr(name, ":T")`, `atof` of the metadata values (`none`: key
    absent), `meta["scale"] && strstr(meta["scale"], "log")`, the two flags. -/
structure PortInfo (F : Type) where
  hasF : Bool
  hasT : Bool
  min : Option F
  max : Option F
  logmin : Option F
  scaleLog : Bool
  internal : Bool
  noLearn : Bool

structure Automation (F : Type) where
  used : Bool
  path : Bytes
  ty : Char
  pmin : F
  pmax : F
  logScale : Bool
  cp1 : F
  cp3 : F
  gain : F
  offset : F
  /-- ghost: address and port of the call that bound this automation (see the header) -/
  bound : Option (Bytes × PortInfo F) := none

structure Slot (F : Type) where
  used : Bool
  learning : Int
  midiCC : Int
  midiNrpn : Int
  current : F
  autos : List (Automation F)

structure Mgr (F : Type) where
  slots : List (Slot F)
  perSlot : Nat
  learnLen : Int
  parhi : Int
  parlo : Int
  valhi : Int
  vallo : Int

/-- value of a message argument -/
inductive Val (F : Type) where
  | none
  | int (n : Int)
  | flt (x : F)

/-- a message handed to `backend`: address, type tag (the whole type string is this one
    character), value; `expArg` is the argument of `expf` when the value is the result of
    `expf` (log-scale parameter) — an observation aid for the driver, not part of the message -/
structure Msg (F : Type) where
  addr : Bytes
  ty : Char
  val : Val F
  expArg : Option F := none

variable {F : Type}

def Automation.init (A : Arith F) : Automation F :=
  { used := false, path := [], ty := Char.ofNat 0, pmin := A.zero, pmax := A.zero, logScale := false,
    cp1 := A.zero, cp3 := A.zero, gain := A.hundred, offset := A.zero, bound := none }

def Slot.init (A : Arith F) (perSlot : Nat) : Slot F :=
  { used := false, learning := -1, midiCC := -1, midiNrpn := -1, current := A.zero,
    autos := List.replicate perSlot (Automation.init A) }

/-- `AutomationMgr::AutomationMgr(slots, per_slot, control_points)` (with the NRPN registers
    initialised, fixes/C19-nrpn-init.patch) -/
def Mgr.init (A : Arith F) (nslots perSlot : Nat) : Mgr F :=
  { slots := List.replicate nslots (Slot.init A perSlot), perSlot := perSlot, learnLen := 0,
    parhi := -1, parlo := -1, valhi := -1, vallo := -1 }

/-- `slot_id >= nslots || slot_id < 0` -/
def Mgr.slotOob (m : Mgr F) (s : Int) : Bool := decide (s ≥ m.slots.length) || decide (s < 0)
/-- `sub >= per_slot || sub < 0` -/
def Mgr.subOob (m : Mgr F) (j : Int) : Bool := decide (j ≥ m.perSlot) || decide (j < 0)

/-- the control points updateMapping computes from min/max/gain/offset:
    `center = (mn+mx)*(0.5 + offset/100.0); range = (mx-mn)*gain/100.0;
     cp[1] = center-range/2.0; cp[3] = center+range/2.0` -/
def mapping (A : Arith F) (mn mx gain offset : F) : F × F :=
  let center := A.to32 (A.mul64 (A.add32 mn mx) (A.add64 A.half (A.div64 offset A.hundred)))
  let range := A.to32 (A.div64 (A.mul32 (A.sub32 mx mn) gain) A.hundred)
  (A.to32 (A.sub64 center (A.div64 range A.two)), A.to32 (A.add64 center (A.div64 range A.two)))

def Automation.remap (A : Arith F) (au : Automation F) : Automation F :=
  let cp := mapping A au.pmin au.pmax au.gain au.offset
  { au with cp1 := cp.1, cp3 := cp.2 }

def modifyAuto (m : Mgr F) (s j : Nat) (f : Automation F → Automation F) : Mgr F :=
  { m with slots := m.slots.modify s (fun sl => { sl with autos := sl.autos.modify j f }) }

/-- `AutomationMgr::updateMapping(slot_id, sub)` -/
def updateMapping (A : Arith F) (m : Mgr F) (s j : Int) : Mgr F :=
  if m.slotOob s || m.subOob j then m
  else modifyAuto m s.toNat j.toNat (Automation.remap A)

/-- `v > mx ? mx : (v < mn ? mn : v)` -/
def clamp (A : Arith F) (mn mx v : F) : F :=
  if A.gt v mx then mx else if A.gt mn v then mn else v

/-- the body of `setSlotSub` for one automation: what is passed to `backend` -/
def emit (A : Arith F) (au : Automation F) (value : F) : List (Msg F) :=
  if !au.used then []
  else
    let v := A.add32 (A.mul32 value (A.sub32 au.cp3 au.cp1)) au.cp1
    if au.ty = 'i' then
      let c := clamp A au.pmin au.pmax v
      -- repaired (fixes/C19-int-log-scale.patch): a log-scale integer goes back through expf
      if au.logScale then
        [{ addr := au.path, ty := 'i', val := .int (A.toInt (A.roundf (A.expf c))), expArg := some c }]
      else [{ addr := au.path, ty := 'i', val := .int (A.toInt (A.roundf c)) }]
    else if au.ty = 'f' then
      let c := clamp A au.pmin au.pmax v
      if au.logScale then [{ addr := au.path, ty := 'f', val := .flt (A.expf c), expArg := some c }]
      else [{ addr := au.path, ty := 'f', val := .flt c }]
    else if au.ty = 'T' || au.ty = 'F' then
      [{ addr := au.path, ty := if A.gt v A.half then 'T' else 'F', val := .none }]
    else []

/-- `AutomationMgr::setSlotSub(slot_id, par, value)`: emits, changes nothing -/
def setSlotSub (A : Arith F) (m : Mgr F) (s j : Int) (value : F) : List (Msg F) :=
  if m.slotOob s || m.subOob j then []
  else match m.slots[s.toNat]? with
    | none => []
    | some sl => match sl.autos[j.toNat]? with
      | none => []
      | some au => emit A au value

/-- the messages of `for(i<per_slot) setSlotSub(slot_id, i, value)` -/
def slotMsgs (A : Arith F) (sl : Slot F) (value : F) : List (Msg F) :=
  sl.autos.flatMap (fun au => emit A au value)

/-- `AutomationMgr::setSlot(slot_id, value)` -/
def setSlot (A : Arith F) (m : Mgr F) (s : Int) (value : F) : Mgr F × List (Msg F) :=
  if m.slotOob s then (m, [])
  else match m.slots[s.toNat]? with
    | none => (m, [])
    | some sl =>
      ({ m with slots := m.slots.set s.toNat { sl with current := value } }, slotMsgs A sl value)

/-- `AutomationMgr::clearSlotSub` on one automation -/
def Automation.clear (A : Arith F) (au : Automation F) : Automation F :=
  { au with used := false, path := [], ty := Char.ofNat 0, pmin := A.zero, pmax := A.zero,
            gain := A.hundred, offset := A.zero, bound := none }

/-- `AutomationMgr::clearSlotSub(slot_id, sub)` -/
def clearSlotSub (A : Arith F) (m : Mgr F) (s j : Int) : Mgr F :=
  if m.slotOob s || m.subOob j then m
  else modifyAuto m s.toNat j.toNat (Automation.clear A)

/-- renumbering loop of clearSlot: `if(slots[i].learning > L) slots[i].learning--` -/
def decAbove (L : Int) (sl : Slot F) : Slot F :=
  if sl.learning > L then { sl with learning := sl.learning - 1 } else sl

/-- `AutomationMgr::clearSlot(slot_id)` (repaired: the queue is only renumbered when the
    cleared slot was waiting, fixes/C19-clearslot.patch) -/
def clearSlot (A : Arith F) (m : Mgr F) (s : Int) : Mgr F :=
  if m.slotOob s then m
  else match m.slots[s.toNat]? with
    | none => m
    | some sl =>
      let waiting := decide (sl.learning > 0)
      let slots1 := if waiting then m.slots.map (decAbove sl.learning) else m.slots
      let len1 := if waiting then m.learnLen - 1 else m.learnLen
      let slots2 := slots1.modify s.toNat (fun x =>
        { x with used := false, learning := -1, midiCC := -1, midiNrpn := -1, current := A.zero,
                 autos := x.autos.map (Automation.clear A) })
      { m with slots := slots2, learnLen := len1 }

/-- the part of createBinding / setSlotSubPath that fills the automation from the port -/
def bindInfo (A : Arith F) (au : Automation F) (path : Bytes) (p : PortInfo F) : Option (Automation F) :=
  let ty : Char := if p.hasF then 'f' else if p.hasT then 'T' else 'i'
  let mm : Option (F × F) :=
    if ty = 'T' then some (A.zero, A.one)
    else match p.min, p.max with
      | some mn, some mx => some (A.to32 mn, A.to32 mx)
      | _, _ => none                                             -- atof(NULL)
  match mm with
  | none => none
  | some (mn, mx) =>
    let au1 := { au with used := true, ty := ty, path := path.take 127, bound := some (path, p) }
    if p.scaleLog then
      let lo := match p.logmin with
        | some l => A.to32 l                                      -- logf(double): converted to float
        | none => mn
      some { au1 with logScale := true, pmin := A.logf lo, pmax := A.logf mx }
    else
      some { au1 with logScale := false, pmin := mn, pmax := mx }

/-- the three early returns shared by createBinding and setSlotSubPath -/
def portUsable (port : Option (PortInfo F)) : Option (PortInfo F) :=
  match port with
  | none => none                                                 -- port does not exist
  | some p =>
    if !(p.min.isSome && p.max.isSome) && !p.hasT then none      -- no bounds known
    else if p.internal || p.noLearn then none                    -- unlearnable
    else some p

/-- index of the first automation with `used == false` -/
def firstFree : List (Automation F) → Nat → Option Nat
  | [], _ => none
  | au :: r, i => if au.used = false then some i else firstFree r (i + 1)

/-- `AutomationMgr::createBinding(slot, path, start_midi_learn)`; `port` is what
    `p->apropos(path)` finds.  `none` = undefined behaviour (slot out of range, atof(NULL)). -/
def createBinding (A : Arith F) (m : Mgr F) (slot : Int) (path : Bytes) (port : Option (PortInfo F))
    (learn : Bool) : Option (Mgr F) :=
  match portUsable port with
  | none => some m
  | some p =>
    if m.slotOob slot then none
    else match m.slots[slot.toNat]? with
      | none => none
      | some sl =>
        match firstFree sl.autos 0 with
        | none => some m
        | some ind =>
          match sl.autos[ind]? with
          | none => none
          | some au =>
            match bindInfo A au path p with
            | none => none
            | some au1 =>
              let au2 := Automation.remap A { au1 with gain := A.hundred, offset := A.zero }
              let startLearn := learn && decide (sl.learning = -1) && decide (sl.midiCC = -1)
              let sl1 := { sl with used := true, autos := sl.autos.set ind au2,
                                   learning := if startLearn then m.learnLen + 1 else sl.learning }
              some { m with slots := m.slots.set slot.toNat sl1,
                            learnLen := if startLearn then m.learnLen + 1 else m.learnLen }

/-- `AutomationMgr::setSlotSubPath(slot, ind, path)` (`ind` is not range-checked) -/
def setSlotSubPath (A : Arith F) (m : Mgr F) (slot ind : Int) (path : Bytes) (port : Option (PortInfo F)) :
    Option (Mgr F) :=
  if m.slotOob slot then some m
  else match portUsable port with
    | none => some m
    | some p =>
      if m.subOob ind then none
      else match m.slots[slot.toNat]? with
        | none => none
        | some sl =>
          match sl.autos[ind.toNat]? with
          | none => none
          | some au =>
            match bindInfo A au path p with
            | none => none
            | some au1 =>
              let sl1 := { sl with used := true, autos := sl.autos.set ind.toNat (Automation.remap A au1) }
              some { m with slots := m.slots.set slot.toNat sl1 }

/-- `setSlotSubGain(slot, sub, f)` -/
def setSlotSubGain (m : Mgr F) (s j : Int) (x : F) : Mgr F :=
  if m.slotOob s || m.subOob j then m
  else modifyAuto m s.toNat j.toNat (fun au => { au with gain := x })

/-- `setSlotSubOffset(slot, sub, f)` -/
def setSlotSubOffset (m : Mgr F) (s j : Int) (x : F) : Mgr F :=
  if m.slotOob s || m.subOob j then m
  else modifyAuto m s.toNat j.toNat (fun au => { au with offset := x })

/-! ### handleMidi -/

def C_dataentryhi : Int := 6
def C_dataentrylo : Int := 38
def C_nrpnhi : Int := 99
def C_nrpnlo : Int := 98

/-- `AutomationMgr::setparameternumber(type, value)` -/
def setParameterNumber (m : Mgr F) (type val : Int) : Mgr F :=
  if type = C_nrpnhi then { m with parhi := val, valhi := -1, vallo := -1 }
  else if type = C_nrpnlo then { m with parlo := val, valhi := -1, vallo := -1 }
  else if type = C_dataentryhi then
    if m.parhi ≥ 0 ∧ m.parlo ≥ 0 then { m with valhi := val } else m
  else if type = C_dataentrylo then
    if m.parhi ≥ 0 ∧ m.parlo ≥ 0 then { m with vallo := val } else m
  else m

/-- `getnrpn(...) == 0` -/
def nrpnComplete (m : Mgr F) : Bool :=
  !(decide (m.parhi < 0) || decide (m.parlo < 0) || decide (m.valhi < 0) || decide (m.vallo < 0))

/-- `for(i<nslots) if(sel(slots[i]) == par_id) setSlot(i, value)`: all slots bound to the
    controller are driven, in index order.  (setSlot only changes `current_state`.) -/
def driveBound (A : Arith F) (sel : Slot F → Int) (parId : Int) (value : F) :
    List (Slot F) → List (Slot F) × List (Msg F)
  | [] => ([], [])
  | sl :: r =>
    let (r', ms) := driveBound A sel parId value r
    if sel sl = parId then ({ sl with current := value } :: r', slotMsgs A sl value ++ ms)
    else (sl :: r', ms)

def anyBound (sel : Slot F → Int) (parId : Int) (slots : List (Slot F)) : Bool :=
  slots.any (fun sl => sel sl = parId)

/-- index of the first slot with `learning == 1` -/
def findHead : List (Slot F) → Nat → Option Nat
  | [], _ => none
  | sl :: r, i => if sl.learning = 1 then some i else findHead r (i + 1)

/-- the loop after "No bound CC, now to see if there's something to learn" -/
def serveLearn (A : Arith F) (m : Mgr F) (isNrpn : Bool) (parId : Int) (val : Int) : Mgr F × List (Msg F) :=
  match findHead m.slots 0 with
  | none => (m, [])
  | some i =>
    let slots1 := m.slots.modify i (fun sl =>
      if isNrpn then { sl with learning := -1, midiNrpn := parId }
      else { sl with learning := -1, midiCC := parId })
    let slots2 := slots1.map (fun sl => if sl.learning > 1 then { sl with learning := sl.learning - 1 } else sl)
    let m1 := { m with slots := slots2, learnLen := m.learnLen - 1 }
    setSlot A m1 i (A.to32 (A.div64 (A.ofInt val) (A.ofInt 127)))

/-- `AutomationMgr::handleMidi(channel, type, val)` (repaired: an incomplete (N)RPN sequence
    neither drives nor teaches anything, fixes/C19-nrpn-partial.patch) -/
def handleMidi (A : Arith F) (m : Mgr F) (channel type val : Int) : Mgr F × List (Msg F) :=
  if type = C_dataentryhi ∨ type = C_dataentrylo ∨ type = C_nrpnhi ∨ type = C_nrpnlo then
    let m1 := setParameterNumber m type val
    if nrpnComplete m1 then
      let parId := m1.parhi * 128 + m1.parlo
      let value := m1.valhi * 128 + m1.vallo
      if anyBound (·.midiNrpn) parId m1.slots then
        let (sl', ms) := driveBound A (·.midiNrpn) parId (A.to32 (A.div64 (A.ofInt value) (A.ofInt 16383))) m1.slots
        ({ m1 with slots := sl' }, ms)
      else serveLearn A m1 true parId val
    else (m1, [])
  else
    let parId := channel * 128 + type
    if anyBound (·.midiCC) parId m.slots then
      let (sl', ms) := driveBound A (·.midiCC) parId (A.to32 (A.div64 (A.ofInt val) (A.ofInt 127))) m.slots
      ({ m with slots := sl' }, ms)
    else serveLearn A m false parId val

/-! ### operation histories -/

/-- the operations of the property's quantifier -/
inductive Op (F : Type) where
  | bind (slot : Int) (path : Bytes) (port : Option (PortInfo F)) (learn : Bool)
  | setPath (slot sub : Int) (path : Bytes) (port : Option (PortInfo F))
  | clearSlot (slot : Int)
  | clearSub (slot sub : Int)
  | gain (slot sub : Int) (x : F)        -- setSlotSubGain; updateMapping
  | offset (slot sub : Int) (x : F)      -- setSlotSubOffset; updateMapping
  | setSlot (slot : Int) (x : F)
  | setSub (slot sub : Int) (x : F)
  | midi (channel type val : Int)

/-- one operation: new state and the messages handed to `backend`; `none` = undefined behaviour -/
def step (A : Arith F) (m : Mgr F) : Op F → Option (Mgr F × List (Msg F))
  | .bind s path port learn => (createBinding A m s path port learn).map (·, [])
  | .setPath s j path port => (setSlotSubPath A m s j path port).map (·, [])
  | .clearSlot s => some (clearSlot A m s, [])
  | .clearSub s j => some (clearSlotSub A m s j, [])
  | .gain s j x => some (updateMapping A (setSlotSubGain m s j x) s j, [])
  | .offset s j x => some (updateMapping A (setSlotSubOffset m s j x) s j, [])
  | .setSlot s x => some (setSlot A m s x)
  | .setSub s j x => some (m, setSlotSub A m s j x)
  | .midi c t v => some (handleMidi A m c t v)

/-- a whole history: final state and the messages of every step -/
def run (A : Arith F) (m : Mgr F) : List (Op F) → Option (Mgr F × List (List (Msg F)))
  | [] => some (m, [])
  | op :: ops =>
    match step A m op with
    | none => none
    | some (m1, ms) =>
      match run A m1 ops with
      | none => none
      | some (m2, mss) => some (m2, ms :: mss)

end Rtosc.Auto
