/-
C03 — generic part of the call-graph argument (proved once, independent of the generated data).

A call graph is a list of edges `(caller, callee)` over node numbers.  `PathN E k a b` says
that there is a call path of exactly `k` edges from `a` to `b`; `Reach E a b` that there is one
of some length.  `closed_contains_pathN` / `closed_contains_reachable`: a set that contains the
entries and is closed under the edge relation contains the end point of every path of any length
that starts at an entry.  `Graph.safe_of_cert`, on which Props/C03.lean rests, says the same along
any "calls" relation of executions that the edge list over-approximates (`PathR`, `ReachR`); it
goes through the path-length form `closed_contains_pathN`.  The set is given as a bit mask
(`Nat.testBit`), and closedness is a decidable linear pass over the (chunked) edge list, so the
per-run obligations over the generated graph are discharged by kernel evaluation.
-/
namespace Rtosc.CallGraph

abbrev Edge := Nat × Nat

/-- a call path of exactly `k` edges from `a` to `b` -/
def PathN (E : List Edge) : Nat → Nat → Nat → Prop
  | 0,     a, b => a = b
  | k + 1, a, c => ∃ b, PathN E k a b ∧ (b, c) ∈ E

/-- a call path of some length from `a` to `b` -/
def Reach (E : List Edge) (a b : Nat) : Prop := ∃ k, PathN E k a b

/-- membership in the set coded by the bit mask `S` -/
abbrev inMask (S : Nat) (n : Nat) : Prop := S.testBit n = true

/-- `S` is closed under the edge relation -/
def Closed (S : Nat) (E : List Edge) : Prop := ∀ p ∈ E, inMask S p.1 → inMask S p.2

/-- `S` contains every node of `ns` -/
def ContainsAll (S : Nat) (ns : List Nat) : Prop := ∀ n ∈ ns, inMask S n

/-- `S` contains no node of `ns` -/
def Avoids (S : Nat) (ns : List Nat) : Prop := ∀ n ∈ ns, ¬ inMask S n

/-- every node of `xs` that is in `S` is in `ws` -/
def OnlyListed (S : Nat) (xs ws : List Nat) : Prop := ∀ n ∈ xs, inMask S n → n ∈ ws

theorem closed_contains_pathN {S : Nat} {E : List Edge} {entries : List Nat}
    (hE : ContainsAll S entries) (hC : Closed S E) :
    ∀ (k : Nat) (e n : Nat), e ∈ entries → PathN E k e n → inMask S n := by
  intro k
  induction k with
  | zero =>
    intro e n he hp
    have : e = n := hp
    exact this ▸ hE e he
  | succ k ih =>
    intro e n he hp
    obtain ⟨b, hb, hbn⟩ := hp
    exact hC (b, n) hbn (ih e b he hb)

theorem closed_contains_reachable {S : Nat} {E : List Edge} {entries : List Nat}
    (hE : ContainsAll S entries) (hC : Closed S E) :
    ∀ e ∈ entries, ∀ n, Reach E e n → inMask S n := by
  intro e he n ⟨k, hp⟩
  exact closed_contains_pathN hE hC k e n he hp

/-- bit `n` of the mask, as a number, with the operations the kernel evaluates natively -/
def maskBit (S n : Nat) : Nat := Nat.mod (Nat.shiftRight S n) 2

theorem inMask_iff (S n : Nat) : inMask S n ↔ maskBit S n = 1 := by
  show S.testBit n = true ↔ (S >>> n) % 2 = 1
  rw [Nat.testBit_eq_decide_div_mod_eq, Nat.shiftRight_eq_div_pow, decide_eq_true_iff]

/-- membership of the caller implies membership of the callee: bit ≤ bit.  The edge list is the one long list
    of a graph; one `Nat.ble` of two `maskBit`s per edge is half the kernel's work of two `testBit`s and an
    implication on `Bool`, which is why only this checker goes through `maskBit`. -/
def closedB (S : Nat) (E : List Edge) : Bool := E.all fun p => Nat.ble (maskBit S p.1) (maskBit S p.2)

def closedChunksB (S : Nat) (Cs : List (List Edge)) : Bool := Cs.all (closedB S)

def containsAllB (S : Nat) (ns : List Nat) : Bool := ns.all fun n => S.testBit n

def avoidsB (S : Nat) (ns : List Nat) : Bool := ns.all fun n => !S.testBit n

def onlyListedB (S : Nat) (xs ws : List Nat) : Bool := xs.all fun n => !S.testBit n || ws.contains n

theorem closedB_sound {S : Nat} {E : List Edge} (h : closedB S E = true) : Closed S E := by
  intro p hp hin
  have hle := Nat.le_of_ble_eq_true (List.all_eq_true.mp h p hp)
  have hlt : maskBit S p.2 < 2 := Nat.mod_lt _ (by decide)
  rw [inMask_iff] at hin ⊢
  omega

theorem closedChunksB_sound {S : Nat} {Cs : List (List Edge)} (h : closedChunksB S Cs = true) :
    Closed S Cs.flatten := by
  intro p hp
  obtain ⟨c, hc, hpc⟩ := List.mem_flatten.mp hp
  exact closedB_sound (List.all_eq_true.mp h c hc) p hpc

theorem containsAllB_sound {S : Nat} {ns : List Nat} (h : containsAllB S ns = true) : ContainsAll S ns := by
  intro n hn
  exact List.all_eq_true.mp h n hn

theorem avoidsB_sound {S : Nat} {ns : List Nat} (h : avoidsB S ns = true) : Avoids S ns := by
  intro n hn hin
  have := List.all_eq_true.mp h n hn
  simp only [inMask] at hin
  simp [hin] at this

theorem onlyListedB_sound {S : Nat} {xs ws : List Nat} (h : onlyListedB S xs ws = true) : OnlyListed S xs ws := by
  intro n hn hin
  have := List.all_eq_true.mp h n hn
  simp only [inMask] at hin
  simpa [hin] using this

/-- a concrete node list is a path in `E` (consecutive nodes are joined by an edge) -/
def isPathB (E : List Edge) : List Nat → Bool
  | a :: b :: rest => E.contains (a, b) && isPathB E (b :: rest)
  | _ => true

theorem isPathB_reach {E : List Edge} : ∀ (p : List Nat) (a : Nat), isPathB E (a :: p) = true →
    Reach E a ((a :: p).getLast (List.cons_ne_nil a p)) := by
  intro p
  induction p with
  | nil => intro a _; exact ⟨0, rfl⟩
  | cons b rest ih =>
    intro a h
    simp only [isPathB, Bool.and_eq_true] at h
    obtain ⟨hab, hrest⟩ := h
    obtain ⟨k, hk⟩ := ih b hrest
    have hab' : (a, b) ∈ E := by simpa using hab
    -- prepend the edge (a,b) to a path b ⟶ last
    have pre : ∀ (k : Nat) (c : Nat), PathN E k b c → PathN E (k + 1) a c := by
      intro k
      induction k with
      | zero => intro c hc; exact ⟨a, rfl, by have : b = c := hc; exact this ▸ hab'⟩
      | succ k ihk =>
        intro c hc
        obtain ⟨m, hm, hmc⟩ := hc
        exact ⟨m, ihk m hm, hmc⟩
    have hl : (a :: b :: rest).getLast (List.cons_ne_nil a (b :: rest)) = (b :: rest).getLast (List.cons_ne_nil b rest) := by
      simp [List.getLast_cons]
    rw [hl]
    exact ⟨k + 1, pre k _ hk⟩

def isPathChunksB (Cs : List (List Edge)) : List Nat → Bool
  | a :: b :: rest =>
    (Cs.any fun C => C.any fun e => Nat.beq e.1 a && Nat.beq e.2 b) && isPathChunksB Cs (b :: rest)
  | _ => true

theorem isPathChunksB_sound {Cs : List (List Edge)} : ∀ (p : List Nat), isPathChunksB Cs p = true →
    isPathB Cs.flatten p = true
  | [], _ | [_], _ => rfl
  | a :: b :: rest, h => by
    simp only [isPathChunksB, Bool.and_eq_true, List.any_eq_true] at h
    obtain ⟨⟨C, hC, e, he, h1, h2⟩, hrest⟩ := h
    have hab : (a, b) ∈ Cs.flatten :=
      List.mem_flatten.mpr ⟨C, hC, by rw [← Nat.eq_of_beq_eq_true h1, ← Nat.eq_of_beq_eq_true h2]; exact he⟩
    simp only [isPathB, Bool.and_eq_true]
    exact ⟨List.contains_iff_mem.mpr hab, isPathChunksB_sound (b :: rest) hrest⟩

/-- what `tools/callgraph.py` emits for one build configuration of the working tree -/
structure Graph where
  /-- nodes are numbered `0 … numNodes - 1` -/
  numNodes : Nat
  /-- mangled name of node `i`, coded as one number (`name! "malloc"`) -/
  nodeNames : List Nat
  /-- call edges (caller, callee) in chunks -/
  edgeChunks : List (List Edge)
  /-- the realtime entry points -/
  entries : List Nat
  /-- allocators, deallocators, locks, exception primitives, and the extractor's pseudo nodes -/
  forbidden : List Nat
  /-- functions without a body in the extracted IR -/
  externals : List Nat
  /-- the externals assumed neither to allocate nor to lock -/
  whitelist : List Nat
  /-- call edges the extractor left out of `edgeChunks` (stated preconditions) -/
  excludedEdges : List Edge
  /-- a call path from an entry, for the non-vacuity example of Props/C03.lean -/
  samplePath : List Nat
  /-- bit mask of the set claimed to contain everything reachable from the entries -/
  cert : Nat

/-- the edge list of the generated call graph -/
def Graph.edges (g : Graph) : List Edge := g.edgeChunks.flatten

/-- a call path of exactly `k` steps along a relation `R` ("`a` calls `b` in some execution") -/
def PathR (R : Nat → Nat → Prop) : Nat → Nat → Nat → Prop
  | 0,     a, b => a = b
  | k + 1, a, c => ∃ b, PathR R k a b ∧ R b c

/-- a call path of some length along `R` -/
def ReachR (R : Nat → Nat → Prop) (a b : Nat) : Prop := ∃ k, PathR R k a b

theorem pathR_sub {R : Nat → Nat → Prop} {E : List Edge} (h : ∀ a b, R a b → (a, b) ∈ E) :
    ∀ (k a b : Nat), PathR R k a b → PathN E k a b := by
  intro k
  induction k with
  | zero => intro a b hp; exact hp
  | succ k ih =>
    intro a c hp
    obtain ⟨b, hb, hbc⟩ := hp
    exact ⟨b, ih a b hb, h b c hbc⟩

/-- the four per-run obligations on the certificate of a generated graph -/
structure Graph.CertOK (g : Graph) : Prop where
  entries : ContainsAll g.cert g.entries
  closed : Closed g.cert g.edges
  avoids : Avoids g.cert g.forbidden
  listed : OnlyListed g.cert g.externals g.whitelist

/-- **What C03 says about one generated graph.**  `Calls a b` = "some execution of the library calls `b` from
`a`".  Hypotheses, both explicit:
* the first — the extraction is an over-approximation: every call that can happen is an edge of the graph or one of
  the edges the extractor left out (`excludedEdges`);  this is the trusted part (tools/callgraph.py, clang);
* the second — the stated preconditions: an excluded edge that is not also a normal edge is never executed (no empty
  `std::function` is invoked, assertions are compiled out, no exception unwinds).
Conclusion: no call path of any length from a realtime entry reaches a forbidden function (allocator, deallocator,
lock, exception allocation, stdio, unresolvable call, atomic read-modify-write in a loop), and every function without a body
on such a path is a whitelisted leaf. -/
def Graph.Safe (g : Graph) : Prop :=
  ∀ Calls : Nat → Nat → Prop,
    (∀ a b, Calls a b → (a, b) ∈ g.edges ∨ (a, b) ∈ g.excludedEdges) →
    (∀ a b, (a, b) ∈ g.excludedEdges → (a, b) ∉ g.edges → ¬ Calls a b) →
    ∀ e ∈ g.entries, ∀ n, ReachR Calls e n → n ∉ g.forbidden ∧ (n ∈ g.externals → n ∈ g.whitelist)

theorem Graph.safe_of_cert (g : Graph) (h : g.CertOK) : g.Safe := by
  intro Calls hgraph hpre e he n ⟨k, hp⟩
  have hsub : ∀ a b, Calls a b → (a, b) ∈ g.edges := by
    intro a b hc
    cases hgraph a b hc with
    | inl h1 => exact h1
    | inr h2 =>
      apply Classical.byContradiction
      intro hne
      exact hpre a b h2 hne hc
  have hin : inMask g.cert n := closed_contains_pathN h.entries h.closed k e n he (pathR_sub hsub k e n hp)
  exact ⟨fun hf => h.avoids n hf hin, fun hx => h.listed n hx hin⟩

/-! ### names: tying the node numbers to symbols

String operations are very slow in the kernel, so a name is ONE natural number: the digit 1 followed by the bytes
of the (mangled) name, read as a number in base 256 — an injective coding.  `name! "malloc"` is notation for that
number, `0x016d616c6c6f63` (computed when the file is elaborated). -/

/-- `name! "abc"` = `0x01616263`: a 1 followed by the bytes of the string literal, base 256 -/
syntax "name! " str : term
macro_rules
  | `(name! $s) => do
    let k := s.getString.toUTF8.foldl (fun a b => a * 256 + b.toNat) 1
    `(($(Lean.Syntax.mkNumLit (toString k)) : Nat))

example : name! "malloc" = 0x016d616c6c6f63 := rfl
example : name! "" = 1 := rfl

abbrev Name := Nat

/-- membership test by `Nat.beq` (evaluated natively by the kernel) -/
def memB (xs : List Nat) (n : Nat) : Bool := xs.any (Nat.beq n)

theorem memB_sound {xs : List Nat} {n : Nat} (h : memB xs n = true) : n ∈ xs := by
  obtain ⟨x, hx, hb⟩ := List.any_eq_true.mp h
  have : n = x := Nat.eq_of_beq_eq_true hb
  exact this ▸ hx

theorem memB_complete {xs : List Nat} {n : Nat} (h : n ∈ xs) : memB xs n = true :=
  List.any_eq_true.mpr ⟨n, h, Nat.beq_refl n⟩

/-- what is left of `req` when the names of those nodes of the list (numbered from `i`) that lie in `set`
are struck off, in one pass over the nodes.  A node is looked at only if its name divides `p`; with `p` the
product of `req` this skips no node named in `req`, and skipping a node can only leave more names over. -/
def missingIn (p : Nat) (set : List Nat) : List Name → Nat → List Name → List Name
  | [], _, req => req
  | k :: ks, i, req =>
    missingIn p set ks (i + 1) (if Nat.beq (p % k) 0 && memB set i then req.filter (!Nat.beq · k) else req)

theorem mod_prod_of_mem {req : List Name} {s : Name} (h : s ∈ req) : req.prod % s = 0 := by
  induction req with
  | nil => cases h
  | cons r rs ih =>
    rw [List.prod_cons]
    cases h with
    | head => exact Nat.mul_mod_right ..
    | tail _ h => exact Nat.mod_eq_zero_of_dvd (Nat.dvd_mul_left_of_dvd (Nat.dvd_of_mod_eq_zero (ih h)) r)

/-- every node of the list (numbered from the `Nat` argument) whose name is in `req` lies in `set`.  Most nodes carry none
of the names: a name that occurs in `req` divides the product of `req`, so one division (which the kernel
evaluates natively) dismisses a node, and only a node whose name divides the product is looked up in `req`. -/
def onlyNamedIn (req : List Name) (set : List Nat) : List Name → Nat → Bool
  | [], _ => true
  | k :: ks, i => (!Nat.beq (req.prod % k) 0 || !memB req k || memB set i) && onlyNamedIn req set ks (i + 1)

/-- every name of `req` is the name of a node that is in `set` -/
def namedAllInB (names : List Name) (req : List Name) (set : List Nat) : Bool :=
  (missingIn req.prod set names 0 req).isEmpty

/-- every node whose name is in `req` is in `set` -/
def namedOnlyInB (names : List Name) (req : List Name) (set : List Nat) : Bool :=
  onlyNamedIn req set names 0

theorem missingIn_sound {p : Nat} {set : List Nat} {s : Name} : ∀ (names : List Name) (off : Nat)
    (req : List Name), s ∈ req → s ∉ missingIn p set names off req →
    ∃ j, names[j]? = some s ∧ off + j ∈ set := by
  intro names
  induction names with
  | nil => intro off req hs hn; exact absurd hs hn
  | cons k ks ih =>
    intro off req hs hn
    unfold missingIn at hn
    split at hn
    · rename_i hc
      cases hb : Nat.beq s k with
      | true => exact ⟨0, by rw [Nat.eq_of_beq_eq_true hb]; rfl, memB_sound (Bool.and_eq_true _ _ |>.mp hc).2⟩
      | false =>
        obtain ⟨j, hj, hm⟩ := ih (off + 1) _ (List.mem_filter.mpr ⟨hs, by rw [hb]; rfl⟩) hn
        exact ⟨j + 1, hj, by rw [← Nat.add_assoc, Nat.add_right_comm]; exact hm⟩
    · obtain ⟨j, hj, hm⟩ := ih (off + 1) _ hs hn
      exact ⟨j + 1, hj, by rw [← Nat.add_assoc, Nat.add_right_comm]; exact hm⟩

theorem onlyNamedIn_sound {req : List Name} {set : List Nat} : ∀ (names : List Name) (off : Nat),
    onlyNamedIn req set names off = true → ∀ j s, names[j]? = some s → s ∈ req → off + j ∈ set := by
  intro names
  induction names with
  | nil => intro off _ j s hj; simp at hj
  | cons k ks ih =>
    intro off h j s hj hs
    simp only [onlyNamedIn, Bool.and_eq_true, Bool.or_eq_true, Bool.not_eq_true'] at h
    cases j with
    | zero =>
      have hk : k = s := by simpa using hj
      rcases h.1 with (h1 | h1) | h1
      · rw [hk, mod_prod_of_mem hs] at h1; cases h1
      · rw [hk, memB_complete hs] at h1; cases h1
      · simpa using memB_sound h1
    | succ j =>
      have hj' : ks[j]? = some s := by simpa using hj
      have := ih (off + 1) h.2 j s hj' hs
      have e : off + (j + 1) = off + 1 + j := by omega
      rw [e]; exact this

theorem namedAllInB_sound {names req : List Name} {set : List Nat} (h : namedAllInB names req set = true) :
    ∀ s ∈ req, ∃ i, names[i]? = some s ∧ i ∈ set := by
  intro s hs
  obtain ⟨j, hj, hm⟩ := missingIn_sound names 0 req hs (by rw [List.isEmpty_iff.mp h]; exact List.not_mem_nil)
  exact ⟨j, hj, by simpa using hm⟩

theorem namedOnlyInB_sound {names req : List Name} {set : List Nat} (h : namedOnlyInB names req set = true) :
    ∀ i s, names[i]? = some s → s ∈ req → i ∈ set := by
  intro i s hi hs
  simpa using onlyNamedIn_sound names 0 h i s hi hs

end Rtosc.CallGraph
