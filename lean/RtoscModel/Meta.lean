/-
  C17 — model of the port-metadata reader in src/cpp/ports.cpp
  (metaiterator_advance, MetaIterator::operator++, MetaContainer::begin / find /
  length / operator[], Port::meta()).

  A `const char*` is modelled as the suffix of the metadata block it points to
  (`Bytes`); the NULL pointer is `none` (`Ptr`).  Reading the byte under a pointer
  whose suffix is `[]` is a read past the block: every function returns `none`
  in the outer `Option` in that case ("oob"), it is never defaulted.
-/
import RtoscModel.Basic
namespace Rtosc.Meta
open Rtosc

abbrev Ptr := Option Bytes

/-- `metaiterator_advance(title, value)`: computes `value` from `title`. -/
def advance (title : Ptr) : Option Ptr :=
  match title with
  | none => some none
  | some [] => none                                  -- `*title` past the block
  | some (c :: r) =>
    if c = 0 then some none
    else match toNul (c :: r) with                   -- while(*value) ++value;
      | none => none
      | some [] => none
      | some (_ :: r1) =>                            -- *++value
        match r1 with
        | [] => none
        | d :: r2 => if d = 61 then some (some r2) else some none

/-- The scan loop of `operator++`:
    `prev = 0; while(prev || (*title && *title != ':')) prev = *title++;`
    Returns the suffix at which the loop stops. -/
def scanNext : UInt8 → Bytes → Option Bytes
  | _, [] => none
  | prev, c :: r =>
    if prev ≠ 0 ∨ (c ≠ 0 ∧ c ≠ 58) then scanNext c r else some (c :: r)

structure Iter where
  title : Ptr
  value : Ptr
deriving Repr, DecidableEq

/-- `MetaIterator::MetaIterator(str)` -/
def Iter.mk' (p : Ptr) : Option Iter := do
  let v ← advance p
  pure ⟨p, v⟩

/-- `MetaIterator::operator++` -/
def Iter.next (it : Iter) : Option Iter :=
  match it.title with
  | none => some { it with title := none }
  | some [] => none
  | some (c :: r) =>
    if c = 0 then some { it with title := none }
    else match scanNext 0 (c :: r) with
      | none => none
      | some [] => none
      | some (d :: r') =>
        let t : Ptr := if d = 0 then none else some r'
        Iter.mk' t

/-- `Port::meta()`: strip one leading ':' -/
def portMeta (metadata : Ptr) : Option Ptr :=
  match metadata with
  | none => some none
  | some [] => none
  | some (c :: r) => if c = 58 then some (some r) else some (some (c :: r))

/-- the container `Port::meta()` builds for a metadata block -/
def container (block : Bytes) : Option Ptr := portMeta (some block)

/-- `MetaContainer::begin()` -/
def begin (strPtr : Ptr) : Option Iter :=
  match strPtr with
  | none => Iter.mk' none
  | some [] => none
  | some (c :: r) => if c = 58 then Iter.mk' (some r) else Iter.mk' (some (c :: r))

/-- One observed pair: the title C string and the value C string (or NULL). -/
abbrev Pair := Bytes × Option Bytes

def Iter.deref (it : Iter) : Option Pair :=
  match it.title with
  | none => none
  | some t => do
    let k ← cstr t
    match it.value with
    | none => pure (k, none)
    | some v => do
      let vv ← cstr v
      pure (k, some vv)

/-- Range-for over the container: `for(auto x : meta)`; the loop ends when
    `title == NULL`.  `fuel` bounds the number of iterations (each iteration
    strictly shortens the title suffix; `pairs` gives it `block.length + 2`, which
    `iterate_serialize`, Props/C17.lean, shows enough on every serialized block). -/
def iterate : Nat → Iter → Option (List Pair)
  | 0, _ => none
  | fuel + 1, it =>
    match it.title with
    | none => some []
    | some _ => do
      let p ← it.deref
      let it' ← it.next
      let rest ← iterate fuel it'
      pure (p :: rest)

def pairs (strPtr : Ptr) : Option (List Pair) := do
  let it ← begin strPtr
  iterate ((strPtr.getD []).length + 2) it

/-- `MetaContainer::operator[]` : value of the first entry whose title equals `key`
    (NULL if absent or valueless).  Outer option = oob. -/
def lookupFuel : Nat → Iter → Bytes → Option (Option Bytes)
  | 0, _, _ => none
  | fuel + 1, it, key =>
    match it.title with
    | none => some none
    | some _ => do
      let p ← it.deref
      if p.1 = key then pure p.2
      else do
        let it' ← it.next
        lookupFuel fuel it' key

def lookup (strPtr : Ptr) (key : Bytes) : Option (Option Bytes) := do
  let it ← begin strPtr
  lookupFuel ((strPtr.getD []).length + 2) it key

/-- `MetaContainer::find`: is there an entry with this title? -/
def findFuel : Nat → Iter → Bytes → Option Bool
  | 0, _, _ => none
  | fuel + 1, it, key =>
    match it.title with
    | none => some false
    | some _ => do
      let p ← it.deref
      if p.1 = key then pure true
      else do
        let it' ← it.next
        findFuel fuel it' key

def find (strPtr : Ptr) (key : Bytes) : Option Bool := do
  let it ← begin strPtr
  findFuel ((strPtr.getD []).length + 2) it key

/-- the loop of `length()`: `prev=0; while(prev || *itr) prev = *itr++;`
    returns the number of bytes consumed. -/
def lenScan : UInt8 → Bytes → Option Nat
  | _, [] => none
  | prev, c :: r => if prev ≠ 0 ∨ c ≠ 0 then (lenScan c r).map (· + 1) else some 0

/-- `MetaContainer::length()` -/
def length (strPtr : Ptr) : Option Nat :=
  match strPtr with
  | none => some 0
  | some [] => none
  | some (c :: r) => if c = 0 then some 0 else (lenScan 0 (c :: r)).map (· + 2)

/-! ### Specification side: how the macros serialise metadata -/

/-- One entry `:key` or `:key\0=value`, each followed by NUL
    (rProp(k) = ":k\0", rMap(k,v) = ":k\0=v\0"). -/
def serEntry (e : Bytes × Option Bytes) : Bytes :=
  match e.2 with
  | none => 58 :: e.1 ++ [0]
  | some v => 58 :: e.1 ++ [0, 61] ++ v ++ [0]

/-- The metadata block: concatenated entries plus the string literal's own NUL. -/
def serialize (es : List (Bytes × Option Bytes)) : Bytes :=
  (es.map serEntry).flatten ++ [0]

def NoNul (b : Bytes) : Prop := ∀ x ∈ b, x ≠ 0

/-- Well-formed entry: key non-empty, NUL-free, not starting with ':';
    value NUL-free. -/
def EntryWF (e : Bytes × Option Bytes) : Prop :=
  NoNul e.1 ∧ (∃ c r, e.1 = c :: r ∧ c ≠ 58) ∧ (∀ v, e.2 = some v → NoNul v)

end Rtosc.Meta
