/-
  C06 — M-seq: sequential model of `rtosc::ThreadLink` (src/cpp/thread-link.cpp), with
  fixes/C06-rawwrite-maxmsg.patch (`raw_write` tests `len <= MaxMsg`; finding F6).

  * `ring->buffer`, `read_buffer` are byte lists; `write`, `read`, `read_lookahead` are
    offsets `< size` exactly as in the code.
  * every `memcpy` goes through `blit`/`slice`, which report whether the copy stayed
    inside its block; a copy that does not sets the sticky `fault` flag (nothing is
    defaulted: the theorems prove `fault = false`).
  * `size_t` expressions `(w-r+size) % size` are written `(w + size - r) % size`; both
    agree for `r ≤ w + size` (offsets are `< size`), no other wrap can occur.
  * message framing is a parameter `frame : Bytes → Nat` applied to the two-segment ring
    view `r[0] ++ r[1]` of `ring_read_vector` (the driver plugs in `Ring.frameExec`).
  * compiled with `NDEBUG` (the default build): the `assert`s are no code.
-/
import RtoscModel.Basic
namespace Rtosc.Ring
open Rtosc

/-- `memcpy(dst+off, src, |src|)`; `false` = the copy would leave the block. -/
def blit (dst : Bytes) (off : Nat) (src : Bytes) : Bytes × Bool :=
  if off + src.length ≤ dst.length then
    (dst.take off ++ src ++ dst.drop (off + src.length), true)
  else (dst, false)

/-- the `n` bytes at `b+off`; `false` = they are not all inside the block. -/
def slice (b : Bytes) (off n : Nat) : Bytes × Bool :=
  if off + n ≤ b.length then ((b.drop off).take n, true) else ([], false)

/-- `ring_read_size` given the loaded index values (thread-link.cpp:26) -/
def readSize (w x size : Nat) : Nat := (w + size - x) % size

/-- `ring_write_size` (thread-link.cpp:33): one byte stays free -/
def writeSize (w r size : Nat) : Nat :=
  if r = w then size - 1 else (r + size - w) % size - 1

/-- `ring_read_vector` (thread-link.cpp:83): the two segments `r[0]`, `r[1]` -/
def readVector (buf : Bytes) (size w x : Nat) : Bytes × Bytes × Bool :=
  let rs := readSize w x size
  if rs + x > size then
    let r2 := (rs + x) % size
    let r1 := rs - r2
    let (d0, ok0) := slice buf x r1
    let (d1, ok1) := slice buf 0 r2
    (d0, d1, ok0 && ok1)
  else
    let (d0, ok0) := slice buf x rs
    (d0, [], ok0)

structure Seq where
  buf : Bytes          -- ring->buffer
  w : Nat              -- ring->write
  r : Nat              -- ring->read
  la : Nat             -- ring->read_lookahead
  size : Nat           -- ring->size = BufferSize
  maxMsg : Nat         -- MaxMsg
  rbuf : Bytes         -- read_buffer
  fault : Bool         -- some memcpy left its block
deriving DecidableEq, Repr

/-- `ThreadLink(max_message_length, max_messages)` -/
def Seq.init (maxMsg nmsgs : Nat) : Seq :=
  { buf := List.replicate (maxMsg * nmsgs) 0, w := 0, r := 0, la := 0,
    size := maxMsg * nmsgs, maxMsg := maxMsg, rbuf := List.replicate maxMsg 0, fault := false }

/-- the copies of `ring_write` (thread-link.cpp:47-55): one `memcpy`, or two when the
    message wraps around the end of the buffer -/
def copyIn (buf : Bytes) (size w : Nat) (data : Bytes) : Bytes × Bool :=
  let next := (w + data.length) % size
  if next < w then                         -- discontinuous write
    let w1 := size - w
    let (b1, ok1) := blit buf w (data.take w1)
    let (b2, ok2) := blit b1 0 (data.drop w1)
    (b2, ok1 && ok2)
  else blit buf w data

/-- `ring_write` (thread-link.cpp:42) -/
def Seq.ringWrite (s : Seq) (data : Bytes) : Seq :=
  let (b, ok) := copyIn s.buf s.size s.w data
  { s with buf := b, w := (s.w + data.length) % s.size, fault := s.fault || !ok }

/-- `ThreadLink::write` / `writeArray` once the arguments are encoded: `m` is the
    encoding; `rtosc_vmessage(write_buffer, MaxMsg, …)` yields 0 when it does not fit. -/
def Seq.write (s : Seq) (m : Bytes) : Seq :=
  let data := if m.length ≤ s.maxMsg then m else []
  if writeSize s.w s.r s.size ≥ data.length then s.ringWrite data else s

/-- `ThreadLink::raw_write` (with fixes/C06-rawwrite-maxmsg.patch): `blk` is the memory block at `msg`. -/
def Seq.rawWrite (frame : Bytes → Nat) (s : Seq) (blk : Bytes) : Seq :=
  let len := frame blk                     -- rtosc_message_length(msg, -1)
  if len ≤ s.maxMsg ∧ writeSize s.w s.r s.size ≥ len then s.ringWrite (blk.take len) else s

/-- `ThreadLink::hasNext(lookahead)` -/
def Seq.hasNext (s : Seq) (lookahead : Bool) : Bool :=
  readSize s.w (if lookahead then s.la else s.r) s.size ≠ 0

/-- the copies of `ring_read` (thread-link.cpp:64-72) into `read_buffer` -/
def copyOut (buf rbuf : Bytes) (size read len : Nat) : Bytes × Bool :=
  let next := (read + len) % size
  if next < read then                      -- discontinuous read
    let r1 := size - read
    let r2 := len - r1
    let (c1, ok1) := slice buf read r1
    let (c2, ok2) := slice buf 0 r2
    let (rb1, ok3) := blit rbuf 0 c1
    let (rb2, ok4) := blit rb1 r1 c2
    (rb2, ok1 && ok2 && ok3 && ok4)
  else
    let (c, ok1) := slice buf read len
    let (rb, ok2) := blit rbuf 0 c
    (rb, ok1 && ok2)

/-- `ring_read` (thread-link.cpp:58) -/
def Seq.ringRead (s : Seq) (len : Nat) (lookahead : Bool) : Seq :=
  let read := if lookahead then s.la else s.r
  let next := (read + len) % s.size
  let (rb, ok) := copyOut s.buf s.rbuf s.size read len
  if lookahead then { s with rbuf := rb, la := next, fault := s.fault || !ok }
  else { s with rbuf := rb, r := next, la := next, fault := s.fault || !ok }

/-- `ThreadLink::read(lookahead)`: the new state and the length of the message now at
    the start of `read_buffer` (0: nothing was read, the buffer keeps its old contents). -/
def Seq.read (frame : Bytes → Nat) (s : Seq) (lookahead : Bool) : Seq × Nat :=
  let x := if lookahead then s.la else s.r
  let (d0, d1, ok) := readVector s.buf s.size s.w x
  let len := frame (d0 ++ d1)              -- rtosc_message_ring_length(r)
  let s' := s.ringRead len lookahead
  ({ s' with fault := s'.fault || !ok }, len)

/-! ### operation histories -/

inductive Op where
  | write (m : Bytes)
  | rawWrite (blk : Bytes)
  | read
  | readLookahead
  | hasNext
  | hasNextLookahead
deriving DecidableEq, Repr

/-- what the caller sees: nothing, a truth value, or the message returned by a read
    (`none`: the read found nothing; `read_buffer` is stale) -/
inductive Out where
  | unit
  | bool (b : Bool)
  | msg (m : Option Bytes)
deriving DecidableEq, Repr

def msgOut (rbuf : Bytes) (len : Nat) : Out :=
  .msg (if len = 0 then none else some (rbuf.take len))

def Seq.step (frame : Bytes → Nat) (s : Seq) : Op → Seq × Out
  | .write m => (s.write m, .unit)
  | .rawWrite b => (s.rawWrite frame b, .unit)
  | .read => let (s', len) := s.read frame false; (s', msgOut s'.rbuf len)
  | .readLookahead => let (s', len) := s.read frame true; (s', msgOut s'.rbuf len)
  | .hasNext => (s, .bool (s.hasNext false))
  | .hasNextLookahead => (s, .bool (s.hasNext true))

def Seq.run (frame : Bytes → Nat) : Seq → List Op → Seq × List Out
  | s, [] => (s, [])
  | s, op :: ops =>
    let (s1, o) := s.step frame op
    let (s2, os) := Seq.run frame s1 ops
    (s2, o :: os)

end Rtosc.Ring
