/-
  C06 — M-conc: the writer thread and the reader thread of a `ThreadLink` as two small
  pc-machines over the shared ring.  One step = one *shared access* of the real code, in
  the real order:

    writer  write/writeArray/raw_write:
              load ring->read            (ring_write_size; ring->write is the writer's own)
              memcpy chunk into the ring (plain writes; first [w,size) then [0,w2))
              store ring->write          (publish)
    reader  hasNext(l):  load ring->write
            read(l):     load ring->write          (ring_read_vector → ring_read_size)
                         frame the view            (rtosc_message_ring_length: plain reads of
                                                    the view bytes; taken as one access that
                                                    touches the *whole* view)
                         memcpy chunk out of the ring (plain reads)
                         store ring->read          (gives the space back; not for lookahead reads)

  Loads of a thread's *own* index (`write` for the writer, `read`/`read_lookahead` for the
  reader) and every access to `read_lookahead`, `read_buffer`, `write_buffer` are thread
  local (no other thread touches them) and are folded into the neighbouring step.  A
  `memcpy` of n bytes is `⌈n/chunk⌉` steps (`chunk = 0`: one step); the theorems hold for
  every `chunk`, in particular for byte granularity.  An operation without any shared
  access (`raw_write` of a message longer than `MaxMsg`, with fixes/C06-rawwrite-maxmsg.patch) is skipped
  when the previous operation completes.

  Global step = either thread takes one step (`step`); a run is a list of thread choices.
  Everything a thread has observed is in its pc (loaded values) or in the logs `wlog`
  (messages in publication order, with the accept flag) and `rlog` (results returned to
  the reader's caller); the logs are history variables: no step reads them.
-/
import RtoscModel.Ring.Seq
namespace Rtosc.Ring
open Rtosc

inductive Tid where
  | writer | reader
deriving DecidableEq, Repr

inductive WOp where
  | write (m : Bytes)          -- write()/writeArray(); `m` = the encoded message
  | rawWrite (blk : Bytes)     -- raw_write(); `blk` = the block at `msg`
deriving DecidableEq, Repr

inductive ROp where
  | hasNext (lookahead : Bool)
  | read (lookahead : Bool)
deriving DecidableEq, Repr

/-- results handed to the reader's caller -/
inductive ROut where
  | hasNext (lookahead : Bool) (b : Bool)
  | read (lookahead : Bool) (msg : Bytes)      -- `[]`: nothing read
deriving DecidableEq, Repr

/-- canonical access trace -/
inductive Ev where
  | loadR (v : Nat)                 -- writer: load ring->read
  | copyIn (off n : Nat)            -- writer: plain write of ring[off, off+n)
  | storeW (v : Nat)                -- writer: store ring->write
  | loadW (v : Nat)                 -- reader: load ring->write
  | frame (off n len : Nat)         -- reader: plain reads of the n view bytes from off (wrapping)
  | copyOut (off n : Nat)           -- reader: plain read of ring[off, off+n)
  | storeR (v : Nat)                -- reader: store ring->read
deriving DecidableEq, Repr

inductive WPc where
  | idle
  | copying (m data : Bytes) (k : Nat)     -- accepted; `k` bytes of `data` are in the ring
deriving DecidableEq, Repr

inductive RPc where
  | idle
  | framing (lookahead : Bool) (wv : Nat)        -- `wv`: loaded value of ring->write
  | copying (lookahead : Bool) (len k : Nat)     -- `k` of `len` bytes are in read_buffer
deriving DecidableEq, Repr

structure Conc where
  N : Nat                -- ring->size
  maxMsg : Nat
  chunk : Nat            -- bytes per memcpy step (0: whole memcpy)
  buf : Bytes            -- ring->buffer            (shared, plain)
  w : Nat                -- ring->write             (shared, atomic)
  r : Nat                -- ring->read              (shared, atomic)
  wops : List WOp
  wpc : WPc
  wlog : List (Bytes × Bool)
  rops : List ROp
  rpc : RPc
  la : Nat               -- ring->read_lookahead    (reader only)
  rbuf : Bytes           -- read_buffer             (reader only)
  rlog : List ROut
  fault : Bool
deriving DecidableEq, Repr

/-- the bytes a writer operation wants to put into the ring -/
def wData (frame : Bytes → Nat) (maxMsg : Nat) : WOp → Bytes × Bytes
  | .write m => (m, if m.length ≤ maxMsg then m else [])     -- rtosc_vmessage → 0 if too long
  | .rawWrite b => (b, b.take (frame b))                     -- rtosc_message_length(msg,-1)

/-- drop leading operations that perform no shared access at all -/
def wSkip (frame : Bytes → Nat) (maxMsg : Nat) :
    List WOp → List (Bytes × Bool) → List WOp × List (Bytes × Bool)
  | .rawWrite b :: ops, log =>
    if frame b ≤ maxMsg then (.rawWrite b :: ops, log)
    else wSkip frame maxMsg ops (log ++ [(b, false)])
  | ops, log => (ops, log)

def chunkLen (chunk rem : Nat) : Nat := if chunk = 0 then rem else min chunk rem

/-- ring offset and size of the memcpy step that continues after `k` of `len` bytes, for a
    transfer that starts at ring offset `x` (the split of `ring_write`/`ring_read`). -/
def chunkAt (N x len chunk k : Nat) : Nat × Nat :=
  if (x + len) % N < x then
    let x1 := N - x
    if k < x1 then (x + k, chunkLen chunk (x1 - k)) else (k - x1, chunkLen chunk (len - k))
  else (x + k, chunkLen chunk (len - k))

def Conc.init (frame : Bytes → Nat) (maxMsg nmsgs chunk : Nat) (wops : List WOp)
    (rops : List ROp) : Conc :=
  let (ops, log) := wSkip frame maxMsg wops []
  { N := maxMsg * nmsgs, maxMsg := maxMsg, chunk := chunk,
    buf := List.replicate (maxMsg * nmsgs) 0, w := 0, r := 0,
    wops := ops, wpc := .idle, wlog := log,
    rops := rops, rpc := .idle, la := 0, rbuf := List.replicate maxMsg 0, rlog := [],
    fault := false }

def Conc.wStep (frame : Bytes → Nat) (s : Conc) : Option (Conc × Ev) :=
  match s.wpc with
  | .idle =>
    match s.wops with
    | [] => none
    | op :: rest =>
      let (m, data) := wData frame s.maxMsg op
      if writeSize s.w s.r s.N ≥ data.length then
        some ({ s with wops := rest, wpc := .copying m data 0 }, .loadR s.r)
      else
        let (ops, log) := wSkip frame s.maxMsg rest (s.wlog ++ [(m, false)])
        some ({ s with wops := ops, wlog := log }, .loadR s.r)
  | .copying m data k =>
    if k < data.length then
      let (off, c) := chunkAt s.N s.w data.length s.chunk k
      let (b, ok) := blit s.buf off ((data.drop k).take c)
      some ({ s with buf := b, wpc := .copying m data (k + c), fault := s.fault || !ok },
            .copyIn off c)
    else
      let next := (s.w + data.length) % s.N
      let entry := if data = [] then (m, false) else (data, true)
      let (ops, log) := wSkip frame s.maxMsg s.wops (s.wlog ++ [entry])
      some ({ s with w := next, wpc := .idle, wops := ops, wlog := log }, .storeW next)

def Conc.rStep (frame : Bytes → Nat) (s : Conc) : Option (Conc × Ev) :=
  match s.rpc with
  | .idle =>
    match s.rops with
    | [] => none
    | .hasNext l :: rest =>
      let b : Bool := readSize s.w (if l then s.la else s.r) s.N ≠ 0
      some ({ s with rops := rest, rlog := s.rlog ++ [.hasNext l b] }, .loadW s.w)
    | .read l :: rest =>
      some ({ s with rops := rest, rpc := .framing l s.w }, .loadW s.w)
  | .framing l wv =>
    let x := if l then s.la else s.r
    let (d0, d1, ok) := readVector s.buf s.N wv x
    let len := frame (d0 ++ d1)
    let ev := Ev.frame x (d0.length + d1.length) len
    if l ∧ len = 0 then            -- ring_read(len = 0, lookahead): only read_lookahead = next
      some ({ s with rpc := .idle, la := (x + 0) % s.N, rlog := s.rlog ++ [.read l []],
                     fault := s.fault || !ok }, ev)
    else
      some ({ s with rpc := .copying l len 0, fault := s.fault || !ok }, ev)
  | .copying l len k =>
    let x := if l then s.la else s.r
    if k < len then
      let (off, c) := chunkAt s.N x len s.chunk k
      let (bytes, ok1) := slice s.buf off c
      let (rb, ok2) := blit s.rbuf k bytes
      let s1 := { s with rbuf := rb, fault := s.fault || !(ok1 && ok2) }
      if l ∧ k + c ≥ len then      -- last chunk of a lookahead read: read_lookahead = next
        some ({ s1 with rpc := .idle, la := (x + len) % s.N,
                        rlog := s.rlog ++ [.read l (rb.take len)] }, .copyOut off c)
      else
        some ({ s1 with rpc := .copying l len (k + c) }, .copyOut off c)
    else if l then none            -- unreachable: a lookahead read ends with its last chunk
    else
      let next := (x + len) % s.N
      some ({ s with r := next, la := next, rpc := .idle,
                     rlog := s.rlog ++ [.read l (s.rbuf.take len)] }, .storeR next)

def Conc.step (frame : Bytes → Nat) (t : Tid) (s : Conc) : Option (Conc × Ev) :=
  match t with
  | .writer => s.wStep frame
  | .reader => s.rStep frame

/-- run a schedule; a choice naming a thread that cannot move is skipped -/
def Conc.run (frame : Bytes → Nat) : List Tid → Conc → Conc × List Ev
  | [], s => (s, [])
  | t :: ts, s =>
    match s.step frame t with
    | none => Conc.run frame ts s
    | some (s1, e) => let (s2, es) := Conc.run frame ts s1; (s2, e :: es)

/-- reachability: any number of steps, any choice of thread each time -/
inductive Conc.Reach (frame : Bytes → Nat) (s0 : Conc) : Conc → Prop where
  | refl : Reach frame s0 s0
  | step {s s' : Conc} {e : Ev} (t : Tid) : Reach frame s0 s → s.step frame t = some (s', e) →
      Reach frame s0 s'

/-! ### the plain (non-atomic) accesses to ring bytes that are enabled in a state -/

/-- offsets `(x + i) % N`, `i < n` -/
def ringOffsets (N x n : Nat) : List Nat := (List.range n).map fun i => (x + i) % N

/-- ring offsets the writer's next step writes (plain) -/
def Conc.writerWrites (s : Conc) : List Nat :=
  match s.wpc with
  | .copying _ data k =>
    if k < data.length then
      let (off, c) := chunkAt s.N s.w data.length s.chunk k
      (List.range c).map (off + ·)
    else []
  | .idle => []

/-- ring offsets the reader's next step reads (plain) -/
def Conc.readerReads (s : Conc) : List Nat :=
  match s.rpc with
  | .idle => []
  | .framing l wv =>
    let x := if l then s.la else s.r
    ringOffsets s.N x (readSize wv x s.N)
  | .copying l len k =>
    if k < len then
      let (off, c) := chunkAt s.N (if l then s.la else s.r) len s.chunk k
      (List.range c).map (off + ·)
    else []

/-! ### observables -/

def pubOf (wlog : List (Bytes × Bool)) : List Bytes := (wlog.filter (·.2)).map (·.1)

def retSel : ROut → Option Bytes
  | .read false m => if m = [] then none else some m
  | _ => none

def retOf (rlog : List ROut) : List Bytes := rlog.filterMap retSel

/-- messages published so far, in publication order -/
def Conc.published (s : Conc) : List Bytes := pubOf s.wlog

/-- messages returned by completed (consuming) reads, in order -/
def Conc.returned (s : Conc) : List Bytes := retOf s.rlog

/-- the message a writer operation is given -/
def WOp.msg : WOp → Bytes
  | .write m => m
  | .rawWrite b => b

def Conc.wDone (s : Conc) : Bool := s.wpc = .idle && s.wops.isEmpty
def Conc.rDone (s : Conc) : Bool := s.rpc = .idle && s.rops.isEmpty

/-- the shared part as a sequential ThreadLink (used when both threads are idle) -/
def Conc.toSeq (s : Conc) : Seq :=
  { buf := s.buf, w := s.w, r := s.r, la := s.la, size := s.N, maxMsg := s.maxMsg,
    rbuf := s.rbuf, fault := s.fault }

end Rtosc.Ring
