/-
  C06 — the message framing used by `ThreadLink`, taken from the models of src/rtosc.c
  (`RtoscModel/Osc/Length.lean`, `RtoscModel/Osc/Bundle.lean`; both mirror rtosc.c at HEAD,
  i.e. with the guards of the fixes C07-blob-len / C07-bundle-len / C07-empty-string-size /
  C06-bundle-length-wrap):

  * `frameOsc v`   = `rtosc_message_ring_length(r)` on the ring view `v = r[0] ++ r[1]`
                     (`Osc.ringLength`; the code's own `deref` yields 0 outside both segments and
                     the guards compare with `total = |v|`).  This is the `frame` the driver
                     runs and the function the `…_osc` theorems of Props/C06.lean are about;
                     `Proofs/RingOsc.lean` proves `Framing frameOsc IsOscMsg` from C01's
                     `ringLength_spec` (Proofs/OscLength.lean).
  * `rawLen blk`   = `rtosc_message_length(msg, -1)` as called by `ThreadLink::raw_write`
                     (`Osc.messageLengthU`): the ring is `{{msg, SIZE_MAX}, {NULL, 0}}`, so no
                     guard of the code that compares with `total` can fire and every read is
                     checked against the block `blk` at `msg` instead: `.oob` = a byte outside
                     the block would be read, `.hang` = the loop does not terminate.  With the guard
                     of fixes/C06-bundle-length-wrap.patch (finding C06-K6) `.hang` is not a value of
                     `rawLen` on any block shorter than 2^32 bytes, nor on any bundle
                     (`rawLen_terminates`, `rawLen_bundle_terminates` in Props/C06.lean).

  (The length functions are those two models, not a transcription of their own.)
-/
import RtoscModel.Ring.Seq
import RtoscModel.Osc.Bundle
namespace Rtosc.Ring
open Rtosc

/-- `rtosc_message_ring_length` on the concatenated ring view; fuel exhaustion is shown as 0
    (not expected for a view shorter than 2^32 bytes, where `pos` cannot wrap; no theorem states or
    needs that) -/
def frameOsc (v : Bytes) : Nat := (Osc.ringLength ⟨v, []⟩).getD 0

/-- the framing function the driver runs -/
abbrev frameExec : Bytes → Nat := frameOsc

def bundleMagic : Bytes := Osc.bundleMagic    -- "#bundle\0"

/-- `rtosc_message_length(msg, -1)` on the block at `msg` -/
def rawLen (blk : Bytes) : Osc.Rd Nat := Osc.messageLengthU blk

/-- the encodings of well-formed OSC messages whose address does not start with '#'
    (the inputs C01's `ringLength_spec` is about) -/
def IsOscMsg (b : Bytes) : Prop :=
  ∃ m : Osc.Msg, m.WF ∧ m.addr.head? ≠ some 35 ∧ b = Osc.Spec.encode m

/-- One operation of the sequential ThreadLink with the real length functions:
    `raw_write` computes its length with `rtosc_message_length(msg,-1)` (`rawLen`), the reads
    frame with `rtosc_message_ring_length` (`frameOsc`).  `none`: `raw_write` reads outside the
    block it was given (`.oob`); or does not return (`.hang`: impossible for a block shorter than
    2^32 bytes and for a bundle, `raw_write_returns` in Props/C06.lean).  A length of 0 (no message recognised, e.g. a bundle
    whose element sizes would wrap `unsigned pos`) passes `len <= MaxMsg && ring_write_size() >=
    len` and `ring_write` copies no byte: the block is dropped. -/
def Seq.stepOsc (s : Seq) : Op → Option (Seq × Out)
  | .rawWrite b =>
    match rawLen b with
    | .ok len => some (s.rawWrite (fun _ => len) b, .unit)
    | _ => none
  | op => some (s.step frameOsc op)

/-- a history; stops at the first operation that does not return -/
def Seq.runOsc : Seq → List Op → Option (Seq × List Out)
  | s, [] => some (s, [])
  | s, op :: ops =>
    match s.stepOsc op with
    | none => none
    | some (s1, o) =>
      match Seq.runOsc s1 ops with
      | none => none
      | some (s2, os) => some (s2, o :: os)

end Rtosc.Ring
