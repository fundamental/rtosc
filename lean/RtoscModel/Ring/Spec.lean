/-
  C06 — S: what a ThreadLink is supposed to be.  A bounded FIFO of whole messages with a
  lookahead cursor (`Q`: independent of rings and offsets), and what the theorems ask of the
  framing function (`Framing`).
-/
import RtoscModel.Ring.Seq
namespace Rtosc.Ring
open Rtosc

/-- What the ThreadLink theorems need to know about message framing
    (`rtosc_message_ring_length` applied to the ring view): the result never exceeds the
    view (`le`), an accepted message is recognised with its own length whatever follows it
    (`msg`), and a message is not empty (`ne`).  For the real function and encoded OSC messages:
    `oscFraming` (Proofs/RingOsc.lean); its `msg` is C01's `ringLength_spec` (Proofs/OscLength.lean). -/
structure Framing (frame : Bytes → Nat) (IsMsg : Bytes → Prop) : Prop where
  le : ∀ v, frame v ≤ v.length
  msg : ∀ m rest, IsMsg m → frame (m ++ rest) = m.length
  ne : ∀ m, IsMsg m → m ≠ []

structure Q where
  cap : Nat               -- bytes that may be queued at once (ring size - 1)
  maxMsg : Nat
  items : List Bytes      -- accepted and not yet consumed, oldest first
  la : Nat                -- `items[0..la)` have been returned by lookahead reads
deriving DecidableEq, Repr

def Q.init (maxMsg nmsgs : Nat) : Q :=
  { cap := maxMsg * nmsgs - 1, maxMsg := maxMsg, items := [], la := 0 }

def Q.used (q : Q) : Nat := q.items.flatten.length

/-- a message is accepted iff it respects the maximum size and fits into the free space -/
def Q.fits (q : Q) (m : Bytes) : Bool := m.length ≤ q.maxMsg && q.used + m.length ≤ q.cap

def Q.write (q : Q) (m : Bytes) : Q :=
  if q.fits m then { q with items := q.items ++ [m] } else q

def Q.step (q : Q) : Op → Q × Out
  | .write m => (q.write m, .unit)
  | .rawWrite m => (q.write m, .unit)
  | .read =>
    match q.items with
    | [] => ({ q with la := 0 }, .msg none)
    | m :: t => ({ q with items := t, la := 0 }, .msg (some m))
  | .readLookahead =>
    match q.items[q.la]? with
    | none => (q, .msg none)
    | some m => ({ q with la := q.la + 1 }, .msg (some m))
  | .hasNext => (q, .bool (!q.items.isEmpty))
  | .hasNextLookahead => (q, .bool (q.la < q.items.length))

def Q.run : Q → List Op → Q × List Out
  | q, [] => (q, [])
  | q, op :: ops =>
    let (q1, o) := q.step op
    let (q2, os) := Q.run q1 ops
    (q2, o :: os)

end Rtosc.Ring
