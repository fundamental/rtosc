/-
  C06 — what the concurrent theorems of Props/C06.lean (and the lemmas of Proofs/Ring*.lean behind them) are
  stated in: absolute positions in the byte stream of the published messages (`offs`) and what the ring
  holds of it (`Holds`); the invariant of the two-thread model (`Inv` = `InvC` over the components of a
  state, `RInv` for the reader's pc); the cursors of the bounded FIFO computed from the reader's log
  (`curStep`, `curOf`, `laOf`, `curAt`, `Conc.lookahead`, `Conc.cursor`) and the queue at a pair of cursors
  (`qAt`, `ropOp`); the bytes queued (`Conc.queuedBytes`); the histories the sequential theorems quantify
  over (`Op.Ok`).  Definitions only.
-/
import RtoscModel.Ring.Conc
import RtoscModel.Ring.Spec
namespace Rtosc.Ring
open Rtosc

/-- absolute position at which message number `n` of `P` starts -/
def offs (P : List Bytes) (n : Nat) : Nat := (P.take n).flatten.length

/-- the ring holds the stream bytes of the absolute positions `[lo, hi)` -/
def Holds (b : Bytes) (N : Nat) (strm : Bytes) (lo hi : Nat) : Prop :=
  ∀ i, lo ≤ i → i < hi → b.getD (i % N) 0 = strm.getD i 0

/-- operations whose payload is a message (the property's precondition) -/
def Op.Ok (IsMsg : Bytes → Prop) : Op → Prop
  | .write m => IsMsg m
  | .rawWrite b => IsMsg b
  | _ => True

/-- cursor arithmetic of the bounded FIFO (`Q.step`), on absolute message numbers:
    `(C, L)` = (messages consumed, position of the lookahead cursor) -/
def curStep : Nat × Nat → ROut → Nat × Nat
  | (C, L), .hasNext _ _ => (C, L)
  | (C, _), .read false m => if m = [] then (C, C) else (C + 1, C + 1)
  | (C, L), .read true m => if m = [] then (C, L) else (C, L + 1)

/-- the bounded FIFO that holds the messages `P`, of which `c.1` are consumed, cursor at `c.2` -/
def qAt (cap maxMsg : Nat) (P : List Bytes) (c : Nat × Nat) : Q :=
  { cap := cap, maxMsg := maxMsg, items := P.drop c.1, la := c.2 - c.1 }

def ropOp (l : Bool) : Op := if l then .readLookahead else .read

def WPc.inflight : WPc → Bytes
  | .copying _ d _ => d
  | .idle => []

def WPc.prog : WPc → Nat
  | .copying _ _ k => k
  | .idle => 0

/-- what the reader's pc knows, `L` = number of published messages before the lookahead cursor -/
def RInv (P : List Bytes) (C L N : Nat) (rbuf : Bytes) : RPc → Prop
  | .idle => True
  | .framing l wv => ∃ j, (if l then L else C) ≤ j ∧ j ≤ P.length ∧ wv = offs P j % N
  | .copying l len k =>
    k ≤ len ∧ (len = 0 ∨ ∃ h : (if l then L else C) < P.length,
      len = P[if l then L else C].length ∧ rbuf.take k = P[if l then L else C].take k)

/-- The invariant, over the components of a state.  `P` = published messages, `Rt` = messages
    returned by consuming reads.  Absolute positions: the writer is at `P.flatten.length`,
    the reader at `offs P Rt.length`; the ring offsets are these modulo `N`. -/
structure InvC (frame : Bytes → Nat) (IsMsg : Bytes → Prop) (N maxMsg : Nat) (buf : Bytes) (w r : Nat)
    (wops : List WOp) (wpc : WPc) (P : List Bytes) (rpc : RPc) (la : Nat) (rbuf : Bytes)
    (Rt : List Bytes) (fault : Bool) : Prop where
  hN : 0 < N
  hbuf : buf.length = N
  hrbuf : rbuf.length = maxMsg
  hfault : fault = false
  hops : ∀ op, op ∈ wops → IsMsg op.msg
  /-- the operation an idle writer takes up next has a shared access (`wSkip` has passed over the others) -/
  hnorm : wpc = .idle → ∀ b rest, wops = .rawWrite b :: rest → frame b ≤ maxMsg
  hP : ∀ m, m ∈ P → IsMsg m ∧ m.length ≤ maxMsg
  hret : Rt = P.take Rt.length
  hw : w = P.flatten.length % N
  hr : r = offs P Rt.length % N
  /-- the unconsumed published bytes and the bytes in flight fit, and one byte stays free -/
  hspace : P.flatten.length + wpc.inflight.length + 1 ≤ offs P Rt.length + N
  /-- the ring holds the unconsumed published bytes and what has been copied of the transfer in flight -/
  hcontent : Holds buf N (P.flatten ++ wpc.inflight) (offs P Rt.length) (P.flatten.length + wpc.prog)
  /-- a transfer in flight: `k` bytes copied of `d`, which is a message within `MaxMsg` or empty -/
  hwpc : ∀ m d k, wpc = .copying m d k → k ≤ d.length ∧ (d = [] ∨ (IsMsg d ∧ d.length ≤ maxMsg))
  /-- some lookahead cursor `L` fits the `read_lookahead` offset and the reader's pc (`InvL` says which) -/
  hreader : ∃ L, Rt.length ≤ L ∧ L ≤ P.length ∧ la = offs P L % N ∧ RInv P Rt.length L N rbuf rpc

def Inv (frame : Bytes → Nat) (IsMsg : Bytes → Prop) (s : Conc) : Prop :=
  InvC frame IsMsg s.N s.maxMsg s.buf s.w s.r s.wops s.wpc (pubOf s.wlog) s.rpc s.la s.rbuf
    (retOf s.rlog) s.fault

def curOf (rlog : List ROut) : Nat × Nat := rlog.foldl curStep (0, 0)

/-- position of the lookahead cursor after the log: number of messages in front of it -/
def laOf (rlog : List ROut) : Nat := (curOf rlog).2

/-- the message number a read issued after `rlog` looks at -/
def curAt (l : Bool) (rlog : List ROut) : Nat := if l then laOf rlog else (retOf rlog).length

/-- position of the lookahead cursor (number of published messages in front of it) -/
def Conc.lookahead (s : Conc) : Nat := laOf s.rlog

/-- the published message a `read(l)` issued now looks at -/
def Conc.cursor (s : Conc) (l : Bool) : Nat := curAt l s.rlog

/-- bytes of the messages that are published and not yet returned by a consuming read
    (what the bounded FIFO calls `used`) -/
def Conc.queuedBytes (s : Conc) : Nat :=
  s.published.flatten.length - (s.published.take s.returned.length).flatten.length

end Rtosc.Ring
