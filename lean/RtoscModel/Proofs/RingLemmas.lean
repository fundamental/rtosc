/-
  C06 — arithmetic and list lemmas shared by the sequential and the concurrent proofs.
  Ring offsets are `A % N` for a monotone absolute position `A` (ghost); `omega` cannot
  reason about `% N` for a variable `N`, so the handful of facts needed is proved here
  once, by case distinction on "wraps / does not wrap".
-/
import RtoscModel.Ring.ConcSpec
namespace Rtosc.Ring
open Rtosc

theorem add_mod_cases {a d N : Nat} (ha : a < N) (hd : d ≤ N) :
    (a + d) % N = if a + d < N then a + d else a + d - N := by
  split
  · exact Nat.mod_eq_of_lt ‹_›
  · rw [Nat.mod_eq_sub_mod (by omega)]
    exact Nat.mod_eq_of_lt (by omega)

theorem mod_ne_of_lt_of_lt {i j N : Nat} (h1 : i < j) (h2 : j < i + N) : i % N ≠ j % N := by
  intro h
  have h3 : (j - i) % N = 0 := Nat.sub_mod_eq_zero_of_mod_eq h.symm
  rw [Nat.mod_eq_of_lt (by omega)] at h3
  omega

theorem readSize_eq {A D N : Nat} (hN : 0 < N) (hD : D + 1 ≤ N) :
    readSize ((A + D) % N) (A % N) N = D := by
  have hx : A % N < N := Nat.mod_lt _ hN
  rw [← Nat.mod_add_mod A N D, add_mod_cases hx (by omega)]
  generalize A % N = x at *
  unfold readSize
  split
  · have : x + D + N - x = D + N := by omega
    rw [this, Nat.add_mod_right, Nat.mod_eq_of_lt (by omega)]
  · have : x + D - N + N - x = D := by omega
    rw [this, Nat.mod_eq_of_lt (by omega)]

/-- the free space is what a reader at the write index would see up to the read index, less the byte
    that stays free -/
theorem writeSize_eq {A D N : Nat} (hN : 0 < N) (hD : D + 1 ≤ N) :
    writeSize ((A + D) % N) (A % N) N = N - 1 - D := by
  unfold writeSize
  rcases Nat.eq_zero_or_pos D with rfl | hpos
  · exact if_pos rfl
  · rw [if_neg (mod_ne_of_lt_of_lt (by omega) (by omega))]
    have := readSize_eq (A := A + D) (D := N - D) hN (by omega)
    rw [show A + D + (N - D) = A + N by omega, Nat.add_mod_right] at this
    unfold readSize at this
    rw [this]; omega

theorem readSize_of_le {a b N : Nat} (hN : 0 < N) (hab : a ≤ b) (hwin : b + 1 ≤ a + N) :
    readSize (b % N) (a % N) N = b - a := by
  have := readSize_eq (A := a) (D := b - a) hN (by omega)
  rwa [Nat.add_sub_of_le hab] at this

theorem writeSize_of_le {a b N : Nat} (hN : 0 < N) (hab : a ≤ b) (hwin : b + 1 ≤ a + N) :
    writeSize (b % N) (a % N) N + b = N - 1 + a := by
  have := writeSize_eq (A := a) (D := b - a) hN (by omega)
  rw [Nat.add_sub_of_le hab] at this
  omega

theorem chunkLen_le (chunk rem : Nat) : chunkLen chunk rem ≤ rem := by
  unfold chunkLen; split <;> omega

theorem chunkLen_pos {chunk rem : Nat} (h : 0 < rem) : 0 < chunkLen chunk rem := by
  unfold chunkLen; split <;> omega

/-- A transfer of `len` bytes (less than a ring) from stream position `A`, at ring offset `A % N`: it lies in the
    block in one piece, or wraps: `a` bytes up to the end of the block, then `c` bytes from its start.  The test is
    the one `ring_write` / `ring_read` make (`next < index`). -/
theorem transfer_cases {A len N : Nat} (hN : 0 < N) (hlen : len + 1 ≤ N) :
    (¬(A % N + len) % N < A % N ∧ A % N + len < N ∧ ∀ i, i < len → (A + i) % N = A % N + i) ∨
    ∃ a c, (A % N + len) % N < A % N ∧ N - A % N = a ∧ len = a + c ∧ A % N + a = N ∧
      (∀ i, i < a → (A + i) % N = A % N + i) ∧ ∀ i, i < c → (A + a + i) % N = 0 + i := by
  have hx : A % N < N := Nat.mod_lt _ hN
  have hpos : ∀ i, (A + i) % N = (A % N + i) % N := fun i => (Nat.mod_add_mod A N i).symm
  rw [add_mod_cases hx (by omega)]
  generalize A % N = x at *
  by_cases hc : x + len < N
  · rw [if_pos hc]
    exact Or.inl ⟨by omega, hc, fun i hi => by rw [hpos, Nat.mod_eq_of_lt (by omega)]⟩
  · obtain ⟨a, rfl⟩ : ∃ a, N = x + a := ⟨N - x, by omega⟩
    obtain ⟨c, rfl⟩ : ∃ c, len = a + c := ⟨len - a, by omega⟩
    rw [if_neg hc]
    refine Or.inr ⟨a, c, by omega, by omega, rfl, rfl,
      fun i hi => by rw [hpos, Nat.mod_eq_of_lt (by omega)], fun i hi => ?_⟩
    rw [Nat.add_assoc, hpos, ← Nat.add_assoc, Nat.add_mod_left, Nat.mod_eq_of_lt (by omega), Nat.zero_add]

theorem chunkAt_spec {A len N chunk k off c : Nat} (hN : 0 < N) (hlen : len + 1 ≤ N) (hk : k < len)
    (hoc : chunkAt N (A % N) len chunk k = (off, c)) :
    k + c ≤ len ∧ off + c ≤ N ∧ ∀ i, i < c → (A + (k + i)) % N = off + i := by
  -- the step takes `chunkLen chunk rem` of the `rem` bytes left in its segment, which lie from offset `off` on
  have seg : ∀ off rem, k + rem ≤ len → off + rem ≤ N →
      (∀ i, i < rem → (A + (k + i)) % N = off + i) →
      k + chunkLen chunk rem ≤ len ∧ off + chunkLen chunk rem ≤ N ∧
        ∀ i, i < chunkLen chunk rem → (A + (k + i)) % N = off + i := by
    intro off rem h1 h2 h3
    have hle := chunkLen_le chunk rem
    exact ⟨by omega, by omega, fun i hi => h3 i (by omega)⟩
  unfold chunkAt at hoc
  rcases transfer_cases (A := A) hN hlen with ⟨hnw, hfit, hpos⟩ | ⟨a, c', hw, ha, rfl, hNa, hpos1, hpos2⟩
  · rw [if_neg hnw] at hoc
    cases hoc
    exact seg _ _ (by omega) (by omega) fun i hi => by rw [hpos _ (by omega), Nat.add_assoc]
  · rw [if_pos hw, ha] at hoc
    by_cases h2 : k < a
    · rw [if_pos h2] at hoc
      cases hoc
      exact seg _ _ (by omega) (by omega) fun i hi => by rw [hpos1 _ (by omega), Nat.add_assoc]
    · rw [if_neg h2] at hoc
      cases hoc
      exact seg _ _ (by omega) (by omega) fun i hi => by
        rw [show A + (k + i) = A + a + (k - a + i) by omega, hpos2 _ (by omega)]; omega

/-- `ho` is written like the bodies of `Conc.writerWrites` and `Conc.readerReads`, so that both are instances -/
theorem mem_chunk_pos {A len N chunk k o : Nat} (hN : 0 < N) (hlen : len + 1 ≤ N)
    (ho : o ∈ (if k < len then
        let (off, c) := chunkAt N (A % N) len chunk k
        (List.range c).map (off + ·)
      else [])) :
    ∃ p, A + k ≤ p ∧ p < A + len ∧ p % N = o := by
  split at ho
  · rename_i hk
    rcases hoc : chunkAt N (A % N) len chunk k with ⟨off, c⟩
    obtain ⟨hc1, -, hc3⟩ := chunkAt_spec hN hlen hk hoc
    simp only [hoc] at ho
    obtain ⟨i, hi, rfl⟩ := List.mem_map.mp ho
    have hi : i < c := List.mem_range.mp hi
    exact ⟨A + (k + i), by omega, by omega, hc3 i hi⟩
  · cases ho

theorem getD_ext {l1 l2 : Bytes} (hl : l1.length = l2.length)
    (h : ∀ i, i < l1.length → l1.getD i 0 = l2.getD i 0) : l1 = l2 := by
  apply List.ext_getElem hl
  intro i h1 h2
  have := h i h1
  simpa [List.getD_eq_getElem?_getD, List.getElem?_eq_getElem h1, List.getElem?_eq_getElem h2] using this

theorem getD_append_left' {l1 l2 : Bytes} {i : Nat} (h : i < l1.length) :
    (l1 ++ l2).getD i 0 = l1.getD i 0 := by
  simp [List.getD_eq_getElem?_getD, List.getElem?_append_left h]

theorem getD_append_right' {l1 l2 : Bytes} {i : Nat} (h : l1.length ≤ i) :
    (l1 ++ l2).getD i 0 = l2.getD (i - l1.length) 0 := by
  simp [List.getD_eq_getElem?_getD, List.getElem?_append_right h]

theorem getD_drop' (l : Bytes) (n i : Nat) : (l.drop n).getD i 0 = l.getD (n + i) 0 := by
  simp [List.getD_eq_getElem?_getD, List.getElem?_drop]

theorem getD_take' {l : Bytes} {n i : Nat} (h : i < n) : (l.take n).getD i 0 = l.getD i 0 := by
  simp [List.getD_eq_getElem?_getD, h]

theorem blit_ok {dst src : Bytes} {off : Nat} (h : off + src.length ≤ dst.length) :
    blit dst off src = (dst.take off ++ src ++ dst.drop (off + src.length), true) := by
  unfold blit; rw [if_pos h]

theorem blit_snd {dst src : Bytes} {off : Nat} (h : off + src.length ≤ dst.length) :
    (blit dst off src).2 = true := by
  rw [blit_ok h]

theorem blit_length {dst src : Bytes} {off : Nat} (h : off + src.length ≤ dst.length) :
    (blit dst off src).1.length = dst.length := by
  rw [blit_ok h]; simp; omega

theorem blit_getD_in {dst src : Bytes} {off j : Nat} (h : off + src.length ≤ dst.length)
    (h1 : off ≤ j) (h2 : j < off + src.length) :
    (blit dst off src).1.getD j 0 = src.getD (j - off) 0 := by
  have hl : (dst.take off).length = off := by simp; omega
  rw [blit_ok h]
  simp only
  rw [getD_append_left' (by rw [List.length_append, hl]; omega),
      getD_append_right' (by rw [hl]; exact h1), hl]

theorem blit_getD_out {dst src : Bytes} {off j : Nat} (h : off + src.length ≤ dst.length)
    (h1 : j < off ∨ off + src.length ≤ j) :
    (blit dst off src).1.getD j 0 = dst.getD j 0 := by
  have hl : (dst.take off).length = off := by simp; omega
  rw [blit_ok h]
  simp only
  rcases h1 with h1 | h1
  · rw [List.append_assoc, getD_append_left' (by rw [hl]; exact h1), getD_take' h1]
  · have hl2 : (dst.take off ++ src).length = off + src.length := by rw [List.length_append, hl]
    rw [getD_append_right' (by rw [hl2]; exact h1), getD_drop', hl2]
    congr 1; omega

theorem blit_take {dst src : Bytes} {off : Nat} (h : off + src.length ≤ dst.length) :
    (blit dst off src).1.take (off + src.length) = dst.take off ++ src := by
  rw [blit_ok h]
  exact List.take_left' (by rw [List.length_append, List.length_take]; omega)

theorem blit_nil {dst : Bytes} {off : Nat} (h : off ≤ dst.length) : blit dst off [] = (dst, true) := by
  rw [blit_ok (by simpa using h)]; simp

theorem slice_ok {b : Bytes} {off n : Nat} (h : off + n ≤ b.length) :
    slice b off n = ((b.drop off).take n, true) := by
  unfold slice; rw [if_pos h]

theorem slice_length {b : Bytes} {off n : Nat} (h : off + n ≤ b.length) :
    (slice b off n).1.length = n := by
  rw [slice_ok h]; simp; omega

theorem slice_getD {b : Bytes} {off n i : Nat} (h : off + n ≤ b.length) (hi : i < n) :
    (slice b off n).1.getD i 0 = b.getD (off + i) 0 := by
  rw [slice_ok h]; simp only
  rw [getD_take' hi, getD_drop']

theorem offs_zero (P : List Bytes) : offs P 0 = 0 := by simp [offs]

theorem offs_length (P : List Bytes) : offs P P.length = P.flatten.length := by simp [offs]

theorem offs_succ {P : List Bytes} {n : Nat} (h : n < P.length) :
    offs P (n + 1) = offs P n + P[n].length := by
  unfold offs
  rw [List.take_succ_eq_append_getElem h, List.flatten_append, List.length_append]
  simp

theorem offs_mono {P : List Bytes} {a b : Nat} (h : a ≤ b) : offs P a ≤ offs P b := by
  induction b with
  | zero => have : a = 0 := by omega
            subst this; exact Nat.le_refl _
  | succ n ih =>
    by_cases hab : a = n + 1
    · subst hab; exact Nat.le_refl _
    · by_cases hn : n < P.length
      · rw [offs_succ hn]; omega
      · have : offs P (n + 1) = offs P n := by
          unfold offs; rw [List.take_of_length_le (by omega), List.take_of_length_le (by omega)]
        omega

theorem offs_le_total (P : List Bytes) (n : Nat) : offs P n ≤ P.flatten.length := by
  by_cases h : n ≤ P.length
  · rw [← offs_length]; exact offs_mono h
  · unfold offs; rw [List.take_of_length_le (by omega)]; exact Nat.le_refl _

theorem offs_append {P : List Bytes} {n : Nat} (ext : List Bytes) (h : n ≤ P.length) :
    offs (P ++ ext) n = offs P n := by
  unfold offs; rw [List.take_append_of_le_length h]

theorem flatten_drop_offs {P : List Bytes} {n : Nat} (h : n < P.length) :
    P.flatten.drop (offs P n) = P[n] ++ (P.drop (n + 1)).flatten := by
  have h1 : P.flatten = (P.take n).flatten ++ (P[n] ++ (P.drop (n + 1)).flatten) := by
    conv => lhs; rw [← List.take_append_drop n P]
    rw [List.flatten_append, List.drop_eq_getElem_cons h, List.flatten_cons]
  rw [h1]
  exact List.drop_left' rfl

theorem getElem_length_le_total {P : List Bytes} {n : Nat} (h : n < P.length) :
    offs P n + P[n].length ≤ P.flatten.length := by
  rw [← offs_succ h]; exact offs_le_total P (n + 1)

theorem flatten_getD_msg {P : List Bytes} {n i : Nat} (h : n < P.length) (hi : i < P[n].length) :
    P.flatten.getD (offs P n + i) 0 = P[n].getD i 0 := by
  rw [← getD_drop', flatten_drop_offs h, getD_append_left' hi]

theorem offs_lt_of_lt {P : List Bytes} {a b : Nat} (hne : ∀ m ∈ P, m ≠ []) (h : a < b)
    (hb : b ≤ P.length) : offs P a < offs P b := by
  have h1 : offs P (a + 1) ≤ offs P b := offs_mono (by omega)
  have ha : a < P.length := by omega
  rw [offs_succ ha] at h1
  have : P[a] ≠ [] := hne _ (List.getElem_mem ha)
  have : 0 < P[a].length := List.length_pos_iff.mpr this
  omega

theorem readSize_ne_zero_iff {P : List Bytes} {N X : Nat} (hne : ∀ m ∈ P, m ≠ []) (hN : 0 < N)
    (hXP : X ≤ P.length) (hwin : P.flatten.length + 1 ≤ offs P X + N) :
    readSize (P.flatten.length % N) (offs P X % N) N ≠ 0 ↔ X < P.length := by
  rw [readSize_of_le hN (offs_le_total P X) hwin]
  constructor
  · intro h
    rcases Nat.lt_or_ge X P.length with hlt | hge
    · exact hlt
    · rw [Nat.le_antisymm hXP hge, offs_length, Nat.sub_self] at h
      exact absurd rfl h
  · intro h
    have := offs_lt_of_lt hne h (Nat.le_refl _)
    rw [offs_length] at this
    omega

theorem Holds.mono {b : Bytes} {N : Nat} {strm : Bytes} {lo hi lo' hi' : Nat}
    (h : Holds b N strm lo hi) (h1 : lo ≤ lo') (h2 : hi' ≤ hi) : Holds b N strm lo' hi' :=
  fun i hi1 hi2 => h i (by omega) (by omega)

theorem Holds.blit {b : Bytes} {N : Nat} {strm src : Bytes} {lo hi off : Nat}
    (h : Holds b N strm lo hi) (hb : b.length = N) (hsp : hi + src.length ≤ lo + N)
    (hoff : off + src.length ≤ N) (hpos : ∀ i, i < src.length → (hi + i) % N = off + i)
    (hsrc : ∀ i, i < src.length → src.getD i 0 = strm.getD (hi + i) 0) :
    Holds (Ring.blit b off src).1 N strm lo (hi + src.length) := by
  intro i h1 h2
  have hok : off + src.length ≤ b.length := by omega
  by_cases hi' : i < hi
  · rw [blit_getD_out hok]
    · exact h i h1 hi'
    · by_cases hc : off ≤ i % N ∧ i % N < off + src.length
      · exfalso
        have ht := hpos (i % N - off) (by omega)
        have : off + (i % N - off) = i % N := by omega
        rw [this] at ht
        exact mod_ne_of_lt_of_lt (i := i) (j := hi + (i % N - off)) (by omega) (by omega) ht.symm
      · omega
  · have ht := hpos (i - hi) (by omega)
    have e : hi + (i - hi) = i := by omega
    rw [e] at ht
    rw [ht, blit_getD_in hok (by omega) (by omega)]
    have := hsrc (i - hi) (by omega)
    rw [e] at this
    rw [← this]; congr 1; omega

theorem slice_holds {b : Bytes} {N lo hi p off c : Nat} {strm : Bytes} (hb : b.length = N)
    (h : Holds b N strm lo hi) (hlo : lo ≤ p) (hhi : p + c ≤ hi) (hs : hi ≤ strm.length)
    (hoff : off + c ≤ N) (hpos : ∀ i, i < c → (p + i) % N = off + i) :
    slice b off c = ((strm.drop p).take c, true) := by
  rw [slice_ok (by omega)]
  congr 1
  apply getD_ext
  · rw [List.length_take, List.length_take, List.length_drop, List.length_drop]; omega
  · intro i hi'
    have hi' : i < c := by rw [List.length_take] at hi'; omega
    rw [getD_take' hi', getD_take' hi', getD_drop', getD_drop', ← hpos i hi',
        h (p + i) (by omega) (by omega)]

theorem take_drop_append (s : Bytes) (A a c : Nat) :
    (s.drop A).take a ++ (s.drop (A + a)).take c = (s.drop A).take (a + c) := by
  rw [List.take_add, List.drop_drop]

theorem readVector_holds {b : Bytes} {N A V : Nat} {strm : Bytes} (hN : 0 < N) (hb : b.length = N)
    (hV : V + 1 ≤ N) (h : Holds b N strm A (A + V)) (hs : A + V ≤ strm.length) :
    (readVector b N ((A + V) % N) (A % N)).2.2 = true ∧
    (readVector b N ((A + V) % N) (A % N)).1 ++ (readVector b N ((A + V) % N) (A % N)).2.1
      = (strm.drop A).take V := by
  have hx : A % N < N := Nat.mod_lt _ hN
  have hpos : ∀ i, (A + i) % N = (A % N + i) % N := fun i => (Nat.mod_add_mod A N i).symm
  unfold readVector
  rw [readSize_eq hN hV]
  generalize A % N = x at *
  simp only
  by_cases hw : V + x > N
  · -- the view wraps: `a` bytes up to the end of the block, then `c` bytes from its start
    obtain ⟨a, rfl⟩ : ∃ a, N = x + a := ⟨N - x, by omega⟩
    obtain ⟨c, rfl⟩ : ∃ c, V = a + c := ⟨V - a, by omega⟩
    have e2 : (a + c + x) % (x + a) = c := by
      rw [show a + c + x = x + a + c by omega, Nat.add_mod_left, Nat.mod_eq_of_lt (by omega)]
    rw [if_pos hw, e2, Nat.add_sub_cancel,
      slice_holds (p := A) hb h (Nat.le_refl _) (by omega) hs (Nat.le_refl _)
        (fun i hi => by rw [hpos, Nat.mod_eq_of_lt (by omega)]),
      slice_holds (p := A + a) hb h (by omega) (by omega) hs (by omega)
        (fun i hi => by
          rw [Nat.add_assoc, hpos, ← Nat.add_assoc, Nat.add_mod_left, Nat.mod_eq_of_lt (by omega),
            Nat.zero_add])]
    exact ⟨rfl, take_drop_append ..⟩
  · rw [if_neg hw, slice_holds (p := A) hb h (Nat.le_refl _) (Nat.le_refl _) hs (by omega)
      (fun i hi => by rw [hpos, Nat.mod_eq_of_lt (by omega)])]
    exact ⟨rfl, List.append_nil _⟩

theorem stream_msg {P : List Bytes} {X k c : Nat} (infl : Bytes) (h : X < P.length)
    (hk : k + c ≤ P[X].length) :
    ((P.flatten ++ infl).drop (offs P X + k)).take c = (P[X].drop k).take c := by
  rw [← List.drop_drop, List.drop_append_of_le_length (offs_le_total P X), flatten_drop_offs h,
      List.append_assoc, List.drop_append_of_le_length (by omega),
      List.take_append_of_le_length (by simp; omega)]

theorem stream_view {P : List Bytes} {X j : Nat} (infl : Bytes) (hX : X ≤ j) :
    ((P.flatten ++ infl).drop (offs P X)).take (offs P j - offs P X)
      = ((P.take j).drop X).flatten := by
  have e1 : (P.take j).flatten = (P.take X).flatten ++ ((P.take j).drop X).flatten := by
    conv => lhs; rw [← List.take_append_drop X (P.take j)]
    rw [List.flatten_append, List.take_take, Nat.min_eq_left hX]
  have e2 : P.flatten = (P.take j).flatten ++ (P.drop j).flatten := by
    conv => lhs; rw [← List.take_append_drop j P]
    rw [List.flatten_append]
  have e3 : offs P j - offs P X = ((P.take j).drop X).flatten.length := by
    unfold offs; rw [e1]; simp
  rw [e3, e2, e1, List.append_assoc, List.append_assoc]
  unfold offs
  rw [List.drop_left' rfl, List.take_left' rfl]

theorem view_head {P : List Bytes} {X j : Nat} (hX : X < j) (hj : j ≤ P.length) :
    ((P.take j).drop X).flatten = P[X]'(by omega) ++ ((P.take j).drop (X + 1)).flatten := by
  have h : X < (P.take j).length := by simp; omega
  rw [List.drop_eq_getElem_cons h, List.flatten_cons]
  simp

end Rtosc.Ring
