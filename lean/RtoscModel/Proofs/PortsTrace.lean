/-
  C04 helper lemmas: the run over a well-formed tree in closed form.  The log of `semLoc` does not
  depend on the `RtData` it is started with, apart from the object the first callback sees (`trace`),
  and what the run leaves of the `RtData` is a function of the log (`frame`): `matches` grows by the leaf
  callbacks, the high-water mark by the longest `loc` handed out, `port` is the last one handed out; `loc`,
  `loc_size` and `obj` are back where they were.  Without location buffer the same callbacks are invoked
  and `loc` stays what it was (`semNoLoc`), so that everything about callbacks, message pointers, objects
  and port pointers is said once, about `trace`.
-/
import RtoscModel.Proofs.PortsSem
namespace Rtosc.Ports
open Rtosc Rtosc.Match Rtosc.Ports.Hash

def PTable.hits (t : PTable) (a tags : Bytes) : Bool := t.pats.any (fun q => (matchB q a tags).isSome)

theorem PTable.hits_leaf (p : Pat) (r : PTable) (a tags : Bytes) :
    (PTable.leaf p r).hits a tags = ((matchB p a tags).isSome || r.hits a tags) := rfl

theorem PTable.hits_node (p : Pat) (c : PTable) (cd : Bool) (r : PTable) (a tags : Bytes) :
    (PTable.node p c cd r).hits a tags = ((matchB p a tags).isSome || r.hits a tags) := rfl

theorem PTable.hits_of_get {t : PTable} {j : Nat} {p : Pat} {a tags t' : Bytes} (hj : t.pats[j]? = some p)
    (hm : matchB p a tags = some t') : t.hits a tags = true := by
  simp only [PTable.hits, List.any_eq_true]
  exact ⟨p, List.mem_of_getElem? hj, by simp [hm]⟩

theorem PTable.hits_false {t : PTable} {a tags : Bytes} (h : ∀ q ∈ t.pats, matchB q a tags = none) :
    t.hits a tags = false := by
  simp only [PTable.hits, List.any_eq_false]
  intro q hq; simp [h q hq]

/-- the callbacks invoked for the address `a` in table `t` (path `tp`, first index `i`) while `loc` holds
    `L`; `obj` is the object of the table, `o` what `d.obj` holds on entry (the same, whenever a table is
    entered by `dispatch`) -/
def trace : PTable → List Nat → Nat → List Nat → List Nat → Bytes → Bytes → Bytes → Bytes → List Call
  | .nil, _, _, _, _, _, _, _, _ => []
  | .leaf p rest, tp, i, o, obj, L, a, tags, ex =>
    match matchB p a tags with
    | none => trace rest tp (i + 1) o obj L a tags ex
    | some t =>
      { who := .port (tp ++ [i]), isLeaf := true, m := a ++ 0 :: ex, loc := some (L ++ consumed a t), obj := o,
        dport := some (tp ++ [i]) } :: trace rest tp (i + 1) obj obj L a tags ex
  | .node p child cd rest, tp, i, o, obj, L, a, tags, ex =>
    match matchB p a tags with
    | none => trace rest tp (i + 1) o obj L a tags ex
    | some t =>
      let x := tp ++ [i]
      { who := .port x, isLeaf := false, m := a ++ 0 :: ex, loc := some (L ++ consumed a t), obj := o,
        dport := some x } ::
        (trace child x 0 x x (L ++ consumed a t) (levelTail a) tags ex ++
          (if !child.hits (levelTail a) tags && cd then
            [{ who := .dflt x, isLeaf := true, m := levelTail a ++ 0 :: ex, loc := some (L ++ consumed a t), obj := x,
               dport := some x }] else []) ++
          trace rest tp (i + 1) obj obj L a tags ex)

theorem trace_none : ∀ (t : PTable) (tp : List Nat) (i : Nat) (o obj : List Nat) (L a tags ex : Bytes),
    t.hits a tags = false → trace t tp i o obj L a tags ex = [] := by
  intro t
  induction t with
  | nil => intros; rfl
  | leaf p rest ih | node p child cd rest _ ih =>
    intro tp i o obj L a tags ex h
    simp only [PTable.hits_leaf, PTable.hits_node, Bool.or_eq_false_iff] at h
    have h1 : matchB p a tags = none := by cases hm : matchB p a tags <;> simp_all
    simp only [trace, h1]
    exact ih _ _ _ _ _ _ _ _ h.2

/-- what a run with the log `l` leaves of `d` -/
def frame (d : RtData) (l : List Call) : RtData :=
  { d with nmatches := d.nmatches + leafCount l,
           locHigh := l.foldl (fun h c => max h ((c.loc.getD []).length + 1)) d.locHigh,
           port := l.foldl (fun _ c => c.dport) d.port }

theorem frame_nil (d : RtData) : frame d [] = d := by simp [frame, leafCount]

theorem frame_append (d : RtData) (l1 l2 : List Call) : frame (frame d l1) l2 = frame d (l1 ++ l2) := by
  simp [frame, leafCount, List.foldl_append, Nat.add_assoc]

theorem frame_cons (d : RtData) (c : Call) (l : List Call) : frame d (c :: l) = frame (frame d [c]) l :=
  (frame_append d [c] l).symm

/-- log and flag for every `RtData`; the `RtData` left behind for one that holds `L` and `obj`, as it does
    whenever a table is entered -/
def SemLocEq (t : PTable) : Prop :=
  ∀ (tp : List Nat) (i : Nat) (obj : List Nat) (L a tags ex : Bytes) (d : RtData) (mt : Bool),
    (semLoc t tp i obj L a tags ex d mt).1 = trace t tp i d.obj obj L a tags ex ∧
    (semLoc t tp i obj L a tags ex d mt).2.2 = (mt || t.hits a tags) ∧
    (d.loc = some L → d.obj = obj →
      (semLoc t tp i obj L a tags ex d mt).2.1 = frame d (trace t tp i obj obj L a tags ex)) ∧
    (t.hits a tags = false → (semLoc t tp i obj L a tags ex d mt).2.1 = d)

theorem SemLocEq.eq {t : PTable} (h : SemLocEq t) (tp : List Nat) (i : Nat) (obj : List Nat) (L a tags ex : Bytes)
    (d : RtData) (mt : Bool) (hL : d.loc = some L) (ho : d.obj = obj) :
    semLoc t tp i obj L a tags ex d mt =
      (trace t tp i obj obj L a tags ex, frame d (trace t tp i obj obj L a tags ex), mt || t.hits a tags) := by
  obtain ⟨e1, e2, e3, _⟩ := h tp i obj L a tags ex d mt
  exact Prod.ext (ho ▸ e1) (Prod.ext (e3 hL ho) e2)

/-- **the run with location buffer, in closed form** -/
theorem semLoc_closed : ∀ (t : PTable), SemLocEq t := by
  intro t
  induction t with
  | nil => intro tp i obj L a tags ex d mt; simp [semLoc, trace, frame_nil, PTable.hits, PTable.pats]
  | leaf p rest ih =>
    intro tp i obj L a tags ex d mt
    simp only [semLoc, trace, PTable.hits_leaf]
    cases hm : matchB p a tags with
    | none => simpa using ih tp (i + 1) obj L a tags ex d mt
    | some t =>
      -- after a match the rest of the loop runs on an `RtData` that holds `L` and `obj` again
      simp only [Option.isSome_some, Bool.true_or, Bool.or_true]
      rw [ih.eq tp (i + 1) obj L a tags ex _ true rfl rfl]
      refine ⟨by simp [callOf, RtData.setLoc], rfl, fun hL ho => ?_, nofun⟩
      rw [frame_cons]
      clear ih
      cases d
      subst hL ho
      simp [frame, leafCount, RtData.setLoc]
  | node p child cd rest ihc ihr =>
    intro tp i obj L a tags ex d mt
    simp only [semLoc, trace, PTable.hits_node]
    cases hm : matchB p a tags with
    | none => simpa using ihr tp (i + 1) obj L a tags ex d mt
    | some t =>
      simp only [Option.isSome_some, Bool.true_or, Bool.or_true]
      rw [ihc.eq (tp ++ [i]) 0 (tp ++ [i]) (L ++ consumed a t) (levelTail a) tags ex _ false rfl rfl]
      simp only [Bool.false_or, finLoc]
      by_cases hd : (!child.hits (levelTail a) tags && cd) = true
      · -- the sub-table's default handler is called: nothing in the sub-table matched
        have hh : child.hits (levelTail a) tags = false := by simpa using (Bool.and_eq_true_iff.mp hd).1
        simp only [hd, ↓reduceIte, trace_none _ _ _ _ _ _ _ _ _ hh, List.nil_append, frame_nil]
        rw [ihr.eq tp (i + 1) obj L a tags ex _ true rfl rfl]
        refine ⟨by simp [callOf, dfltCallOf, RtData.setLoc], rfl, fun hL ho => ?_, nofun⟩
        rw [frame_cons d, ← frame_append]
        clear ihc ihr
        cases d
        subst hL ho
        simp [frame, leafCount, RtData.setLoc]
      · simp only [hd, Bool.false_eq_true, ↓reduceIte, List.append_nil]
        rw [ihr.eq tp (i + 1) obj L a tags ex _ true rfl rfl]
        refine ⟨by simp [callOf, RtData.setLoc], rfl, fun hL ho => ?_, nofun⟩
        rw [frame_cons d, ← frame_append]
        clear ihc ihr
        cases d
        subst hL ho
        simp [frame, leafCount, RtData.setLoc]

section
variable (t : PTable) (tp : List Nat) (i : Nat) (obj : List Nat) (L a tags ex : Bytes) (d : RtData) (mt : Bool)

theorem semLoc_trace : (semLoc t tp i obj L a tags ex d mt).1 = trace t tp i d.obj obj L a tags ex :=
  (semLoc_closed t tp i obj L a tags ex d mt).1

theorem semLoc_flag : (semLoc t tp i obj L a tags ex d mt).2.2 = (mt || t.hits a tags) :=
  (semLoc_closed t tp i obj L a tags ex d mt).2.1

theorem semLoc_none (h : t.hits a tags = false) : semLoc t tp i obj L a tags ex d mt = ([], d, mt) := by
  obtain ⟨e1, e2, _, e4⟩ := semLoc_closed t tp i obj L a tags ex d mt
  refine Prod.ext ?_ (Prod.ext (e4 h) ?_)
  · rw [e1, trace_none _ _ _ _ _ _ _ _ _ h]
  · rw [e2, h, Bool.or_false]

variable {L obj d} (hL : d.loc = some L) (ho : d.obj = obj)
include hL ho

theorem semLoc_eq : semLoc t tp i obj L a tags ex d mt =
    (trace t tp i obj obj L a tags ex, frame d (trace t tp i obj obj L a tags ex), mt || t.hits a tags) :=
  (semLoc_closed t).eq tp i obj L a tags ex d mt hL ho

theorem semLoc_loc : (semLoc t tp i obj L a tags ex d mt).2.1.loc = some L := by
  rw [semLoc_eq t tp i a tags ex mt hL ho]; exact hL

theorem semLoc_obj : (semLoc t tp i obj L a tags ex d mt).2.1.obj = obj := by
  rw [semLoc_eq t tp i a tags ex mt hL ho]; exact ho

theorem semLoc_locSize : (semLoc t tp i obj L a tags ex d mt).2.1.locSize = d.locSize := by
  rw [semLoc_eq t tp i a tags ex mt hL ho]; rfl

/-- **matches_eq_leaf_callbacks, on `semLoc`** -/
theorem semLoc_count : (semLoc t tp i obj L a tags ex d mt).2.1.nmatches =
    d.nmatches + leafCount (semLoc t tp i obj L a tags ex d mt).1 := by
  rw [semLoc_eq t tp i a tags ex mt hL ho]; rfl

end

/-- what the simple case computes; `L` plays no role (`loc` is overwritten): the caller takes the `L` of the
    run it compares with -/
def semNoLoc (L : Bytes) (t : PTable) (tp : List Nat) (i : Nat) (obj : List Nat) (a tags ex : Bytes) (d : RtData)
    (mt : Bool) : List Call × RtData × Bool :=
  ((trace t tp i obj obj L a tags ex).map (fun c => { c with loc := d.loc }),
   { d with port := (trace t tp i obj obj L a tags ex).foldl (fun _ c => c.dport) d.port },
   mt || t.hits a tags)

/-- **the simple case of `dispatch` computes `semNoLoc`** -/
theorem scanNoLoc_sem (k : Nat) (tags rst : Bytes) :
    ∀ (t : PTable), t.WF →
    ∀ (L : Bytes) (tp : List Nat) (i : Nat) (obj : List Nat) (a : Bytes) (d : RtData) (mt : Bool),
    MsgOK a tags → d.obj = obj →
    scanNoLoc t.render tp i obj (msgBuf a tags k rst) d mt =
      some (semNoLoc L t tp i obj a tags (msgTail k tags rst) d mt) := by
  intro t
  induction t with
  | nil => intro _ L tp i obj a d mt _ _; simp [PTable.render, scanNoLoc, semNoLoc, trace, PTable.hits, PTable.pats]
  | leaf p rest ih =>
    intro hwf L tp i obj a d mt hm ho
    obtain ⟨e, hfull, _⟩ := full_render hwf.leaf_name k rst hm.a_nul hm.a_idx hm.t_nul
    simp only [PTable.render, scanNoLoc, hfull]
    cases hmb : matchB p a tags with
    | none =>
      simp only [Option.isSome_none]
      rw [ih hwf.leaf_rest L tp (i + 1) obj a d mt hm ho]
      simp [semNoLoc, trace, hmb, PTable.hits_leaf]
    | some t =>
      simp only [Option.isSome_some]
      rw [ih hwf.leaf_rest L tp (i + 1) obj a _ true hm rfl, prepend_some]
      clear ih
      cases d
      subst ho
      simp [semNoLoc, trace, hmb, PTable.hits_leaf, callOf]
  | node p child cd rest ihc ihr =>
    intro hwf L tp i obj a d mt hm ho
    have hnw := nodeNameWf_name hwf.node_name
    obtain ⟨e, hfull, _⟩ := full_render hnw k rst hm.a_nul hm.a_idx hm.t_nul
    simp only [PTable.render, scanNoLoc, hfull]
    cases hmb : matchB p a tags with
    | none =>
      simp only [Option.isSome_none]
      rw [ihr hwf.node_rest L tp (i + 1) obj a d mt hm ho]
      simp [semNoLoc, trace, hmb, PTable.hits_node]
    | some t =>
      simp only [Option.isSome_some, snip_addr a _ hm.a_nul]
      rw [ihc hwf.node_child (L ++ consumed a t) (tp ++ [i]) 0 (tp ++ [i]) (levelTail a) _ false hm.next rfl,
        finishNoLoc_some]
      rw [andThen_some _ _ _ (ihr hwf.node_rest L tp (i + 1) obj a _ true hm rfl), prepend_some]
      by_cases hd : (!child.hits (levelTail a) tags && cd) = true
      · have hh : child.hits (levelTail a) tags = false := by simpa using (Bool.and_eq_true_iff.mp hd).1
        simp only [semNoLoc, finNo, trace, hmb, Bool.false_or, hd, ↓reduceIte, trace_none _ _ _ _ _ _ _ _ _ hh]
        clear ihc ihr
        cases d
        subst ho
        simp [PTable.hits_node, hmb, callOf, dfltCallOf]
      · simp only [semNoLoc, finNo, trace, hmb, Bool.false_or, hd, Bool.false_eq_true, ↓reduceIte, List.append_nil]
        clear ihc ihr
        cases d
        subst ho
        simp [PTable.hits_node, hmb, callOf, List.foldl_append]

end Rtosc.Ports
