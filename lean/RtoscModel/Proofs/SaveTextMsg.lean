/-
  C12, text level — one message *inside a file*: the text of a message is followed by the newline
  and the next message (whose address starts with '/'), or by nothing, and it may be preceded by
  white space (the newline that ends the header).  C10's message theorems are about a text that is
  scanned to its end; the loops of the scanner and the checker (Proofs/PrettyLoops.lean) are stated
  in front of any gap, and the tail of a message is one more kind of gap (`MsgTail.gap`).
  `ScansAs`: what the readers make of such a text; `scansAs_of_body`: the envelope (white space,
  address, separator), the same whatever the arguments are.
  The arguments: a list the printer cuts into pieces (`ASegmented`: values, compressed runs `5x7` /
  `1 ... 6`, arrays of such).  The cells the readers return (`scannedAllA none xs`: repetition and range
  blocks) differ from the cells the printer was given (`cellsAllA xs`); `printMessage_scansAs` states both
  sides: the printer writes a text, and wherever that text stands in a file the readers return the scanned
  cells.  C10's cell-level results are used as they are: `ASegmented.allPrint` / `printMessage_pieces`
  (the printer on a list of pieces), `scanLoop_asegs` / `countLoop_asegs` (the readers' loops on a text of
  pieces in front of any gap).
-/
import RtoscModel.Save.TextSpec
import RtoscModel.Proofs.PrettyMsg
import RtoscModel.Proofs.PrettyRunsArrMsg
namespace Rtosc.Save.Text
open Rtosc Rtosc.Libc Rtosc.Pretty
open Rtosc.ArgVal (Cell)

theorem MsgTail.sep {tl : Bytes} (h : MsgTail tl) : Sep tl := by
  rcases h with rfl | ⟨r, rfl⟩
  · exact sep_nil
  · refine ⟨Or.inr (Or.inl (by rw [hd_cons]; decide)), ?_, ?_⟩
    · simp [skipSpace, show isspace 10 = true from by decide, show isspace 47 = false from by decide]
    · simp [skipSpace, show isspace 10 = true from by decide, show isspace 47 = false from by decide, startsWith,
        List.isPrefixOf]

theorem MsgTail.space_or_nil {tl : Bytes} (h : MsgTail tl) : tl = [] ∨ isspace (hd tl) = true := by
  rcases h with rfl | ⟨r, rfl⟩
  · left; rfl
  · right; rw [hd_cons]; decide

/-- the tail of a message as a gap of the readers' loops: the newline, if there is one, in front of
    the next address or of the end of the text, where both loops stop -/
theorem MsgTail.gap {tl : Bytes} (h : MsgTail tl) :
    ∃ gap next, tl = gap ++ next ∧ GapK gap next ∧ (hd next = 0 ∨ hd next = 47) ∧ gap.length = wsLen tl := by
  have hsep := h.sep
  rcases h with rfl | ⟨r, rfl⟩
  · exact ⟨[], [], rfl, .nil, Or.inl rfl, rfl⟩
  · have h1 : skipSpace (10 :: 47 :: r) = 47 :: r := by
      simp [skipSpace, show isspace 10 = true from by decide, show isspace 47 = false from by decide]
    refine ⟨[10], 47 :: r, rfl, ⟨⟨hsep, ?_, ?_⟩, fun hs => absurd rfl hs.notSlash⟩, Or.inr rfl, rfl⟩
    · show skipSpaceComments ((10 :: 47 :: r).length + 1) (10 :: 47 :: r) = .ok 1
      unfold skipSpaceComments
      simp only [skipFmt_space, h1, List.length_cons, List.drop_succ_cons, List.drop_zero,
        hd_cons, show (47 : UInt8) ≠ 37 from by decide, ↓reduceIte, show r.length + 1 + 1 - (r.length + 1) = 1 by omega]
      rfl
    · show checkSkip (10 :: 47 :: r) = .ok (47 :: r)
      rw [checkSkip, h1, if_pos (by simp)]
      exact skipCommentLines_none _ _ (by simp)

/-- **what the readers make of the text of one message standing in a file**: preceded by white
    space `lead`, followed by `tl` (nothing, or the newline and the '/' of the next address), the
    checker counts `cells.length` argument values and the scanner returns the address and `cells`,
    consuming the white space in front, the text and the newline behind it. -/
def ScansAs (addr : Bytes) (cells : List Cell) (text : Bytes) : Prop :=
  hd text = 47 ∧
  ∀ (lead : Bytes), (∀ c ∈ lead, isspace c = true) → ∀ (tl : Bytes), MsgTail tl →
    ∀ (adrsize : Nat), lead.length + addr.length < adrsize →
      countPrintedArgValsOfMsg (lead ++ (text ++ tl)) = .ok (cells.length : Int) ∧
      scanMessage (lead ++ (text ++ tl)) adrsize cells.length =
        .ok (lead.length + text.length + wsLen tl, addr, cells)

/-- **a message inside a file**: address, separator and the text `body` of its arguments, given what
    the argument loops of the checker and of the scanner do with `body` in front of the tail of a
    message.  The envelope — white space in front, the address up to the first blank, the separator —
    is the same whatever the arguments are. -/
theorem scansAs_of_body {addr : Bytes} (ha : AddrOK addr) {sep : Bytes} (hsep : IsSepTxt sep) {cells : List Cell}
    {body : Bytes} (hT : TokStart body)
    (hcount : ∀ tl, MsgTail tl →
      countLoop ((body ++ tl).length + 1) (some (body ++ tl)) none 0 = .ok (cells.length : Int))
    (hscan : ∀ tl, MsgTail tl → scanArgVals (body ++ tl) cells.length = .ok (body.length + wsLen tl, cells)) :
    ScansAs addr cells (addr ++ (sep ++ body)) := by
  refine ⟨hd_addr ha _, ?_⟩
  intro lead hl tl htl adrsize hal
  have hstart := hT.append tl
  have hrest : sep ++ (body ++ tl) = [] ∨ isspace (hd (sep ++ (body ++ tl))) = true := by
    right; rcases hsep with rfl | rfl <;> rfl
  have hskip : skipSpace (sep ++ (body ++ tl)) = body ++ tl := skipSpace_sep sep _ hsep hstart
  rw [show addr ++ (sep ++ body) ++ tl = addr ++ (sep ++ (body ++ tl)) by simp]
  constructor
  · rw [countPrintedArgValsOfMsg_addr ha lead hl _ hrest, countPrintedArgVals_start hskip (Or.inr hstart), ← countLoop_eq]
    exact hcount tl htl
  · rw [scanMessage_addr ha lead hl _ hrest hal (by rw [hskip]; exact hscan tl htl), hskip]
    congr 2
    simp only [List.length_append]
    omega

theorem asegs_scansAs {addr : Bytes} (ha : AddrOK addr) {sep : Bytes} (hsep : IsSepTxt sep) {xs : List ASeg} {text : Bytes}
    (h : ASegsText none xs text) (hne : xs ≠ []) : ScansAs addr (scannedAllA none xs) (addr ++ (sep ++ text)) := by
  refine scansAs_of_body ha hsep (h.start hne) (fun tl htl => ?_) (fun tl htl => ?_)
  · obtain ⟨gap, next, rfl, hgk, hnext, _⟩ := htl.gap
    rw [countLoop_asegs h hne hgk hnext _ none 0 none (rdCtx_refl none) rfl
      (by have := h.nargs_le; simp only [List.length_append]; omega), Int.zero_add]
  · obtain ⟨gap, next, rfl, hgk, _, hlen⟩ := htl.gap
    have := scanLoop_asegs h hne hgk.1 ((scannedAllA none xs).length + 1) (scannedAllA none xs).length [] true 0 none
      (rdCtx_refl none) scanInv_start (by simp) (by have := scannedAllA_nargs_le none xs; omega)
    rw [scanArgVals_start (Or.inr ((h.start hne).append _)), ← scanArgValsLoop_eq]
    simpa [hlen] using this

/-- **a message of pieces is printed and read back wherever it stands in a file**: for an argument list
    the printer cuts into the pieces `xs` (`ASegmented`), `rtosc_print_arg_vals` behind the address gives a
    text from which the readers return the scanned cells of the pieces -/
theorem printMessage_scansAs (opt : POpt) (hc : opt.compress = true) (addr : Bytes) (ha : AddrOK addr)
    {xs : List ASeg} (hA : ASegmented opt xs) (hne : xs ≠ []) :
    ∃ (st : PSt) (ret : Nat), printMessage opt addr (cellsAllA xs) 0 = .ok (st, ret) ∧
      ScansAs addr (scannedAllA none xs) st.out := by
  obtain ⟨hall, hl⟩ := hA.allPrint opt hc
  obtain ⟨st, sep, body, hprint, hout, hsep, htt⟩ := printMessage_pieces opt ASeg.cells _ _ hall addr
  rw [cellsOf_aseg] at hprint
  exact ⟨st, _, hprint, hout ▸ asegs_scansAs ha hsep (htt.asegsText hl) hne⟩

end Rtosc.Save.Text
