/-
  C04 helper lemmas: the specification of "which callbacks belong to a
  message" in MUST / MAY / MUSTNOT form, built from C05's two-sided statement about type strings
  only (`SpecMatch`: the type string is one of the listed alternatives — such a message MUST match;
  `SpecMayMatch`: it equals or extends a listed alternative — it MAY match; anything else MUST
  NOT), and without the rule `TypesAdmit` ("extends the LAST alternative"), which is what the
  code's `rtosc_match_args` happens to do inside the MAY region.

  `AnswersBy pos neg` (Ports/DispatchSpec.lean) is `Answers` (Ports/Spec.lean) with the verdict on one name as a parameter:
  `pos` where a positive verdict invokes something (the port's callback, the descent into its
  sub-table), `neg` where a positive verdict suppresses something (the default handler of the
  table).  It is monotone in `pos` and antitone in `neg`, so
      MUST  set = `AnswersBy SpecMatch SpecMayMatch`   (every level certainly matches; for a
                   default handler: certainly no port of its table matches)
      MAY   set = `AnswersBy SpecMayMatch SpecMatch`   (every level possibly matches; …: possibly
                   no port of its table matches);   MUSTNOT = outside the MAY set.
-/
import RtoscModel.Props.C05
import RtoscModel.Ports.DispatchSpec
namespace Rtosc.Ports
open Rtosc Rtosc.Match

theorem anyBy_mono {v v' : Verdict} (h : ∀ p a t, v p a t → v' p a t) :
    ∀ (T : PTable) (a t : Bytes), T.anyBy v a t → T.anyBy v' a t := by
  intro T
  induction T with
  | nil => intro a t h'; exact h'
  | leaf p r ih | node p c cd r _ ih =>
    intro a t h'
    rcases h' with h' | h'
    · exact Or.inl (h _ _ _ h')
    · exact Or.inr (ih a t h')

theorem answersBy_mono {pos pos' neg neg' : Verdict} (hp : ∀ p a t, pos p a t → pos' p a t)
    (hn : ∀ p a t, neg' p a t → neg p a t) :
    ∀ (T : PTable) (i : Nat) (tp : List Nat) (a t : Bytes) (w : Who),
      AnswersBy pos neg T i tp a t w → AnswersBy pos' neg' T i tp a t w := by
  intro T
  induction T with
  | nil => intro i tp a t w h; exact h
  | leaf p r ih =>
    intro i tp a t w h
    rcases h with ⟨h1, h2⟩ | h
    · exact Or.inl ⟨hp _ _ _ h1, h2⟩
    · exact Or.inr (ih _ _ _ _ _ h)
  | node p c cd r ihc ihr =>
    intro i tp a t w h
    rcases h with ⟨h1, h2⟩ | h
    · refine Or.inl ⟨hp _ _ _ h1, ?_⟩
      rcases h2 with h2 | h2 | ⟨h2, h3, h4⟩
      · exact Or.inl h2
      · exact Or.inr (Or.inl (ihc _ _ _ _ _ h2))
      · exact Or.inr (Or.inr ⟨h2, fun hh => h3 (anyBy_mono hn c _ _ hh), h4⟩)
    · exact Or.inr (ihr _ _ _ _ _ h)

theorem answersRootBy_mono {pos pos' neg neg' : Verdict} (hp : ∀ p a t, pos p a t → pos' p a t)
    (hn : ∀ p a t, neg' p a t → neg p a t) (P : PPorts) (a t : Bytes) (w : Who)
    (h : AnswersRootBy pos neg P a t w) : AnswersRootBy pos' neg' P a t w := by
  rcases h with h | ⟨h1, h2, h3⟩
  · exact Or.inl (answersBy_mono hp hn _ _ _ _ _ _ h)
  · exact Or.inr ⟨h1, fun hh => h2 (anyBy_mono hn P.tab _ _ hh), h3⟩

theorem anyAdmits_eq : ∀ (T : PTable) (a t : Bytes), T.anyAdmits a t ↔ T.anyBy Admits a t := by
  intro T
  induction T with
  | nil => intro a t; exact Iff.rfl
  | leaf p r ih | node p c cd r _ ih => intro a t; simp only [PTable.anyAdmits, PTable.anyBy, ih]

theorem answers_eq : ∀ (T : PTable) (i : Nat) (tp : List Nat) (a t : Bytes) (w : Who),
    Answers T i tp a t w ↔ AnswersBy Admits Admits T i tp a t w := by
  intro T
  induction T with
  | nil => intro i tp a t w; exact Iff.rfl
  | leaf p r ih => intro i tp a t w; simp only [Answers, AnswersBy, ih]
  | node p c cd r ihc ihr =>
    intro i tp a t w
    simp only [Answers, AnswersBy, ihc, ihr, anyAdmits_eq]

theorem answersRoot_eq (P : PPorts) (a t : Bytes) (w : Who) :
    AnswersRoot P a t w ↔ AnswersRootBy Admits Admits P a t w := by
  simp only [AnswersRoot, AnswersRootBy, answers_eq, anyAdmits_eq]

/-- **the rule the code follows lies inside the sandwich** (`TypesAdmit` is C05's `TypesCode`) -/
theorem admits_sandwiched : Sandwiched Admits :=
  fun _ _ _ => ⟨fun h => ⟨h.1, TypesExact.code h.2⟩, fun h => ⟨h.1, TypesCode.loose h.2⟩⟩

theorem sandwiched_must_le {v : Verdict} (hv : Sandwiched v) (P : PPorts) (a t : Bytes) (w : Who)
    (h : MustAnswer P a t w) : AnswersRootBy v v P a t w :=
  answersRootBy_mono (fun p a t => (hv p a t).1) (fun p a t => (hv p a t).2) P a t w h

theorem sandwiched_le_may {v : Verdict} (hv : Sandwiched v) (P : PPorts) (a t : Bytes) (w : Who)
    (h : AnswersRootBy v v P a t w) : MayAnswer P a t w :=
  answersRootBy_mono (fun p a t => (hv p a t).2) (fun p a t => (hv p a t).1) P a t w h

end Rtosc.Ports
