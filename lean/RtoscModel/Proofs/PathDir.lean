/-
  C18 — the location of a child search: the address of a directory (a port with a
  sub-table) resolves to that port, so the rows offered to the search are the direct
  children of the addressed port (`search_location_dir`, Props/C18.lean; here: the address gives a
  `Route`, `route_of_unambDir`).  The last directory name must have
  its only `/` at its end: `Ports::apropos` tests `strchr(path,'/')[1]`, so a row named
  `a/b/` is not found by the address `a/b/` (it descends with an empty rest and returns
  NULL) — see `dir_multi_slash_counterexample`.
-/
import RtoscModel.Proofs.PathEnumExt
namespace Rtosc.Path
open Rtosc

theorem route_of_unambDir : ∀ (ix : List Nat) (ps : List PortT) (a : Bytes),
    dirAddrOf ps ix = some a → UnambDir ps ix → Route ps ix a := by
  intro ix
  induction ix with
  | nil => intro ps a h _; simp [dirAddrOf] at h
  | cons i t ih =>
    intro ps a haddr hun
    cases t with
    | nil =>
      obtain ⟨p, hlev, l', hl', hns⟩ := hun
      simp only [dirAddrOf, hlev.1] at haddr
      split at haddr
      · rename_i hports
        obtain rfl : lit p.name = a := by simpa using haddr
        have := hlev.answers fun _ => hl' ▸ List.getLast?_concat
        rw [hl'] at this ⊢
        exact .dir this hports hns
      · simp at haddr
    | cons j ix' =>
      obtain ⟨p, hlev, hlast, hun'⟩ := hun
      simp only [dirAddrOf, hlev.1] at haddr
      split at haddr
      · rename_i hports
        obtain ⟨a', ha', rfl⟩ := Option.map_eq_some_iff.mp haddr
        exact .enter (hlev.answers fun _ => hlast) hports (ih p.children a' ha' hun')
      · simp at haddr

theorem portAt_dir : ∀ (ix : List Nat) (ps : List PortT) (a : Bytes), dirAddrOf ps ix = some a →
    ∃ p, portAt ps ix = some p ∧ p.hasPorts = true := by
  intro ix
  induction ix with
  | nil => intro ps a h; simp [dirAddrOf] at h
  | cons i t ih =>
    intro ps a h
    cases t with
    | nil =>
      cases hp : ps[i]? with
      | none => simp [dirAddrOf, hp] at h
      | some p =>
        simp only [dirAddrOf, hp] at h
        split at h
        · rename_i hh; exact ⟨p, by simp [portAt, hp], hh⟩
        · simp at h
    | cons j ix' =>
      cases hp : ps[i]? with
      | none => simp [dirAddrOf, hp] at h
      | some p =>
        simp only [dirAddrOf, hp] at h
        split at h
        · obtain ⟨a', ha', _⟩ := Option.map_eq_some_iff.mp h
          obtain ⟨q, hq, hh⟩ := ih p.children a' ha'
          exact ⟨q, by simp [portAt, hp, hq], hh⟩
        · simp at h

/-- why the last directory name may have only its final `/`: the row `a/b/` (with a
    sub-table) is not found by its own address -/
theorem dir_multi_slash_counterexample :
    apropos [.mk [97, 47, 98, 47] none true [.mk [120] none false []]] [97, 47, 98, 47] = .null := by
  decide +kernel

end Rtosc.Path
