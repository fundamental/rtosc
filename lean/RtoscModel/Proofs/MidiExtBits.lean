/-
  C20 — the last step of the float path: `f32OfDyadic` packs sign, exponent and
  significand into the 32 bits of an IEEE-754 binary32.  `f32Scaled` reads a bit pattern back
  (independent of the packing code: sign = bit 31, biased exponent = bits 30..23, fraction = bits
  22..0) as the exact integer `value * 2^149`; the pattern `f32OfDyadic num e` is finite and denotes
  exactly `rndZ num / 2^e`.  Hence range and monotonicity of `rndZ` (`Proofs/MidiRound.lean`) are range
  and monotonicity of the EMITTED bit pattern.
-/
import RtoscModel.Proofs.MidiRound
import RtoscModel.Proofs.MidiLemmas
namespace Rtosc.Midi

theorem f32Scaled_fields {s E F : Nat} (hs : s < 2) (hE0 : E ≠ 0) (hE : E < 255) (hF : F < 2 ^ 23) :
    f32Scaled ((s * 2 ^ 8 + E) * 2 ^ 23 + F) =
      (if s = 1 then -(((2 ^ 23 + F) * 2 ^ (E - 1) : Nat) : Int) else (((2 ^ 23 + F) * 2 ^ (E - 1) : Nat) : Int)) ∧
    f32Finite ((s * 2 ^ 8 + E) * 2 ^ 23 + F) := by
  have hE8 : E < 2 ^ 8 := Nat.lt_trans hE (by decide)
  obtain ⟨d1, d2⟩ := digits_of_lt (s * 2 ^ 8 + E) hF
  obtain ⟨d3, d4⟩ := digits_of_lt s hE8
  have hlt : (s * 2 ^ 8 + E) * 2 ^ 23 + F < 2 * 2 ^ 8 * 2 ^ 23 := by
    apply Nat.lt_mul_of_div_lt _ (Nat.two_pow_pos 23)
    rw [d1]
    apply Nat.lt_mul_of_div_lt _ (Nat.two_pow_pos 8)
    rw [d3]
    exact hs
  unfold f32Scaled f32Finite
  rw [show (2 : Nat) ^ 31 = 2 ^ 23 * 2 ^ 8 from rfl, ← Nat.div_div_eq_div_mul, d1, d2, d3,
    show (256 : Nat) = 2 ^ 8 from rfl, d4, Nat.mod_eq_of_lt hs]
  exact ⟨by simp only [if_neg hE0], hlt, Nat.ne_of_lt hE⟩

theorem f32OfDyadic_fields {num : Int} (e : Nat) (h : num ≠ 0) :
    f32OfDyadic num e = ((if num < 0 then 1 else 0) * 2 ^ 8 + ((f32Round num.natAbs e).2 + 23 + 127).toNat) * 2 ^ 23 +
      ((f32Round num.natAbs e).1 - 2 ^ 23) := by
  unfold f32OfDyadic
  rw [if_neg h]
  by_cases hn : num < 0 <;> simp [hn, Nat.shiftLeft_eq, Nat.add_mul]

/-- **The emitted bit pattern denotes the rounded value**: for `num / 2^e` of moderate size the pattern
    `f32OfDyadic num e` is a finite binary32 whose exact value is `rndZ num / 2^e`.  The bounds keep the exponent
    field `t + (125 - e) + 1` (`t` the bit length of `num`, or one more) between 1 and 254: a normal number. -/
theorem f32OfDyadic_scaled {num : Int} {e : Nat} (he : e ≤ 125) (hl : bitLen num.natAbs ≤ 100) :
    f32Scaled (f32OfDyadic num e) = rndZ num * 2 ^ (149 - e) ∧ f32Finite (f32OfDyadic num e) := by
  by_cases h0 : num = 0
  · subst h0
    refine ⟨?_, ?_⟩
    · simp [f32OfDyadic, f32Scaled, rndZ, rnd_zero]
    · simp [f32OfDyadic, f32Finite]
  · obtain ⟨m, t, hmt, m1, m2, v, t2⟩ := f32Round_spec e (n := num.natAbs) (by omega)
    rw [f32OfDyadic_fields e h0, hmt]
    -- exponent field `t - 24 - e + 150 = t + (125 - e) + 1`, fraction `m - 2^23`;
    -- the value is `m * 2^(t + (125 - e)) = rnd |num| * 2^(149-e)`
    have hE : (t : Int) - 24 - e + 23 + 127 = ((t + (125 - e) + 1 : Nat) : Int) ∧ t + (125 - e) + 1 < 255 := by
      clear v m1 m2 hmt; omega
    simp only [hE.1, Int.toNat_natCast]
    obtain ⟨hs, hfin⟩ := f32Scaled_fields (s := if num < 0 then 1 else 0) (E := t + (125 - e) + 1)
      (by split <;> decide) (Nat.succ_ne_zero _) hE.2 (Nat.sub_lt_left_of_lt_add m1 m2)
    refine ⟨?_, hfin⟩
    rw [hs, Nat.add_sub_of_le m1, Nat.add_sub_cancel, Nat.pow_add, ← Nat.mul_assoc, v, Nat.mul_assoc, ← Nat.pow_add,
      show 24 + (125 - e) = 149 - e by omega]
    unfold rndZ
    by_cases hneg : num < 0 <;> simp [hneg, Int.neg_mul]

end Rtosc.Midi
