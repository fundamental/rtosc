/-
  C10 — tier 3, compressed runs in context: when `rtosc_convert_to_range` finds a run that is
  followed by further arguments — the `some` hypotheses of `Segmented` and `ASegmented`, from
  conditions on the values: the cell behind a constant run is not identical to it, the cell behind
  an arithmetic run does not continue it.  The general statements (any well-formed cells behind the
  run, arrays included; any integer kind) are `convertToRange_crun_of_nextW` in PrettyRunConst and
  `IntKind.convertToRange_run_next` in PrettyRunArith; here: the constant-run lemma (any scalar value)
  with scalars behind the run, and the arithmetic-run lemma at int32 (`RunHyp`) with well-formed cells
  (`…W`) and with scalars behind it.
  With arrays among the arguments: the cells of a list of pieces are well-formed
  (`wfCells_cellsAllA`), and at an array header nothing is converted (`convertToRange_arr_next`: the
  `none` hypothesis of `ASegmented.arr`).
  The hypotheses `SelfIdentical`, `WFCells`, `RunHyp` are defined in Pretty/RunSpec.lean.
-/
import RtoscModel.Pretty.RunsSpec
import RtoscModel.Proofs.PrettyRunInt
namespace Rtosc.Pretty
open Rtosc Rtosc.Libc
open Rtosc.ArgVal (Cell)

/-- **a constant run followed by further values**: `rtosc_convert_to_range` converts exactly the
    run when the value behind it is not identical to the run's value -/
theorem convertToRange_crun_of_next (opt : POpt) (hc : opt.compress = true) (c : Cell) (hsc : c.isScalar = true)
    (hid : SelfIdentical c) (n : Nat) (hn5 : 5 ≤ n) (R : List Cell) (hR : ∀ x ∈ R, x.isScalar = true)
    (hnext : R = [] ∨ ∀ more, rangeArgsIdentical (c :: more) R = .ok false) :
    convertToRange opt (List.replicate n c ++ R) (n + R.length) = .ok (some (n, [Cell.rep n 0, c])) :=
  convertToRange_crun_of_nextW opt hc c hsc hid n hn5 R (WFCells.of_scalars hR) hnext

/-- **an arithmetic run followed by further arguments, arrays included**: `rtosc_convert_to_range`
    converts exactly the run when the cell behind it does not continue it -/
theorem convertToRange_irun_of_nextW (opt : POpt) (hc : opt.compress = true) {a d : Int} {n : Nat} (h : RunHyp a d n)
    (R : List Cell) (hR : WFCells R)
    (hnext : R = [] ∨ eqSingle [Cell.int .i (a + (n : Int) * d)] R = .ok false) :
    convertToRange opt (arithRun a d n ++ R) (n + R.length) =
      .ok (some (n, [Cell.rep n 1, Cell.int .i d, Cell.int .i a])) :=
  IntKind.convertToRange_run_next opt hc h.toKind R hR hnext

/-- **an arithmetic run followed by further values**: `rtosc_convert_to_range` converts exactly the
    run when the value behind it does not continue it -/
theorem convertToRange_irun_of_next (opt : POpt) (hc : opt.compress = true) {a d : Int} {n : Nat} (h : RunHyp a d n)
    (R : List Cell) (hR : ∀ x ∈ R, x.isScalar = true)
    (hnext : R = [] ∨ eqSingle [Cell.int .i (a + (n : Int) * d)] R = .ok false) :
    convertToRange opt (arithRun a d n ++ R) (n + R.length) =
      .ok (some (n, [Cell.rep n 1, Cell.int .i d, Cell.int .i a])) :=
  convertToRange_irun_of_nextW opt hc h R (WFCells.of_scalars hR) hnext

/-! ### arrays among the arguments -/

theorem wfCells_replicate_arr (n : Nat) (ety : UInt8) (es : List Cell) {r : List Cell} (h : WFCells r) :
    WFCells ((List.replicate n (Cell.arr ety es.length :: es)).flatten ++ r) := by
  induction n with
  | zero => simpa using h
  | succ k ihk =>
    simp only [List.replicate_succ, List.flatten_cons, List.cons_append, List.append_assoc]
    exact .arr _ _ _ ihk

/-- the cells of a list of pieces are well-formed: what `convertToRange_crun_of_nextW` /
    `convertToRange_irun_of_nextW` ask of the arguments behind a run -/
theorem wfCells_cellsAllA {opt : POpt} {xs : List ASeg} (h : ASegmented opt xs) : WFCells (cellsAllA xs) := by
  induction h with
  | nil => exact .nil
  | tok c xs hsc _ _ _ ih => exact .scalar c _ hsc ih
  | crun n c xs hsc _ _ _ _ _ ih =>
    show WFCells (List.replicate n c ++ cellsAllA xs)
    exact WFCells.append_scalars (by intro x hx; rw [(List.mem_replicate.mp hx).2]; exact hsc) ih
  | irun a d n xs _ _ _ ih =>
    show WFCells (arithRun a d n ++ cellsAllA xs)
    exact WFCells.append_scalars (by
      intro x hx; simp only [arithRun, List.mem_map] at hx; obtain ⟨k, _, rfl⟩ := hx; rfl) ih
  | arr body xs _ _ _ _ ih =>
    simp only [cellsAllA, ASeg.cells, arrHdr, List.cons_append]
    exact .arr _ _ _ ih
  | arun n body xs _ _ _ _ _ _ ih =>
    simp only [cellsAllA, ASeg.cells, arrHdr]
    exact wfCells_replicate_arr n _ _ ih

/-- `rtosc_convert_to_range` at an array header: nothing is converted when the array is the last
    argument or the next argument is no array (fewer than five arrays in a row) -/
theorem convertToRange_arr_next (opt : POpt) (ety : UInt8) (es R : List Cell) (size : Nat)
    (hnext : (∃ c more, R = c :: more ∧ c.isScalar = true) ∨ size ≤ es.length + 1) :
    convertToRange opt (Cell.arr ety es.length :: (es ++ R)) size = .ok none := by
  by_cases hs : size < rangeMin
  · exact convertToRange_small opt _ size hs
  · unfold convertToRange
    simp only [hs, ↓reduceIte, deref, bind, Except.bind]
    by_cases hcr : (Cell.arr ety es.length).type = ArgVal.tyRange ∨ (!opt.compress) = true
    · rcases hcr with hcr | hcr <;> simp [hcr, pure, Except.pure]
    · simp only [hcr, ↓reduceIte]
      have hne : ¬ ((es.length : Int) < 0) := by omega
      have hta : (Cell.arr ety (es.length : Int)).type = ArgVal.tyA := rfl
      have hcc : countCommon (size + 1) (Cell.arr ety es.length).type (Cell.arr ety es.length :: (es ++ R)) size 0 0 =
          .ok 1 := by
        have hpos : 0 < size := by unfold rangeMin at hs; omega
        obtain ⟨g, hg⟩ : ∃ g, size = g + 1 := ⟨size - 1, by omega⟩
        rw [hg, countCommon]
        simp only [Nat.zero_lt_succ, ↓reduceIte, List.drop_zero, deref, bind, Except.bind, ne_eq, not_true_eq_false,
          incsize, hne, pure, Except.pure, Int.toNat_natCast, Nat.zero_add]
        rw [countCommon]
        by_cases hlt : es.length + 1 < g + 1
        · rcases hnext with ⟨c, more, rfl, hsc⟩ | hle
          · have hcty : c.type ≠ ArgVal.tyA := ArgVal.scalar_type_ne_a c hsc
            have hd : (Cell.arr ety es.length :: (es ++ c :: more)).drop (es.length + 1) = c :: more := by
              simp
            simp only [hlt, ↓reduceIte, hd, deref, bind, Except.bind, hta, pure, Except.pure, ne_eq, hcty,
              not_false_eq_true]
          · omega
        · simp [hlt, pure, Except.pure]
      rw [hcc]
      simp [rangeMin, pure, Except.pure]

end Rtosc.Pretty
