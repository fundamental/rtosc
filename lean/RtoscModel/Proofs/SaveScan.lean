/-
  C13 — the dependency scan (`scan_deps`) and the `dependees` vectors against their
  specification (`refsOf`, `Src`), and the order Kahn's algorithm outputs for a file.
-/
import RtoscModel.Save.Spec
import RtoscModel.Proofs.SaveKahn
import RtoscModel.Proofs.SaveShape
namespace Rtosc.Save

def cat2 : Option (List Nat) → Option (List Nat) → Option (List Nat)
  | some a, some b => some (a ++ b)
  | _, _ => none

/-- concatenation of the optional lists `f a`, `a ∈ l`, in order -/
def seqCat {α : Type} (f : α → Option (List Nat)) : List α → Option (List Nat)
  | [] => some []
  | a :: r => cat2 (f a) (seqCat f r)

theorem cat2_assoc (a b c : Option (List Nat)) : cat2 (cat2 a b) c = cat2 a (cat2 b c) := by
  cases a <;> cases b <;> cases c <;> simp [cat2]

theorem cat2_nil_left (a : Option (List Nat)) : cat2 (some []) a = a := by
  cases a <;> simp [cat2]

theorem seqCat_append {α : Type} (f : α → Option (List Nat)) (l₁ l₂ : List α) :
    seqCat f (l₁ ++ l₂) = cat2 (seqCat f l₁) (seqCat f l₂) := by
  induction l₁ with
  | nil => simp [seqCat, cat2_nil_left]
  | cons a r ih => simp only [List.cons_append, seqCat, ih, cat2_assoc]

theorem seqCat_flatMap {α β : Type} (f : β → Option (List Nat)) (g : α → List β) (l : List α) :
    seqCat f (l.flatMap g) = seqCat (fun a => seqCat f (g a)) l := by
  induction l with
  | nil => simp [seqCat]
  | cons a r ih => simp only [List.flatMap_cons, seqCat_append, seqCat, ih]

/-- what the scan does with one absolute path -/
def itemStep (ap : Path → Option DepMeta) (mp : MsgMap) (fuel : Nat) (Y : Path) : Option (List Nat) :=
  match mp.find Y with
  | some src => some [src]
  | none => scanDeps ap mp fuel Y

/-- … in the loop of `scan_deps`: an entry that resolves to the scanned path itself is skipped -/
def itemStepS (ap : Path → Option DepMeta) (mp : MsgMap) (fuel : Nat) (start Y : Path) : Option (List Nat) :=
  if Y = start then some [] else itemStep ap mp fuel Y

theorem seqCat_skip {α : Type} [DecidableEq α] (f : α → Option (List Nat)) (x : α) (l : List α) :
    seqCat (fun a => if a = x then some [] else f a) l = seqCat f (l.filter fun a => decide (a ≠ x)) := by
  induction l with
  | nil => rfl
  | cons a r ih =>
    by_cases h : a = x
    · simp only [seqCat, ih, h, if_true, cat2_nil_left, List.filter_cons, ne_eq, not_true_eq_false,
        decide_false, Bool.false_eq_true, if_false]
    · simp only [seqCat, ih, h, if_false, List.filter_cons, ne_eq, not_false_eq_true, decide_true, if_true]

theorem scanItems_eq (ap : Path → Option DepMeta) (mp : MsgMap) (fuel : Nat) (start lvl : Path) (its : List Path) :
    scanItems ap mp fuel start lvl its = seqCat (itemStepS ap mp fuel start) (its.map fun it => rel2abs it lvl) := by
  induction its with
  | nil => simp [scanItems, seqCat]
  | cons it its ih =>
    rw [scanItems, ih]
    simp only [List.map_cons, seqCat, itemStepS, itemStep]
    rfl

theorem scanKeys_eq (ap : Path → Option DepMeta) (mp : MsgMap) (fuel : Nat) (start lvl : Path) (ks : List (Option Path)) :
    scanKeys ap mp fuel start lvl ks = seqCat (itemStepS ap mp fuel start)
      ((ks.filterMap id).flatMap fun v => (depItems v).map fun it => rel2abs it lvl) := by
  induction ks with
  | nil => simp [scanKeys, seqCat]
  | cons k ks ih =>
    cases k with
    | none => rw [scanKeys, ih]; rfl
    | some v =>
      rw [scanKeys, ih, scanItems_eq]
      simp only [List.filterMap_cons, id_eq, List.flatMap_cons, seqCat_append]
      rfl

/-- levels paired with the argument of `apropos` -/
def lvlPairs : List Path → Bool → List (Path × Path)
  | [], _ => []
  | l :: r, parent => (l, if parent then l ++ ['/'] else l) :: lvlPairs r true

theorem lvlPairs_true (r : List Path) : lvlPairs r true = r.map fun p => (p, p ++ ['/']) := by
  induction r with
  | nil => rfl
  | cons a r ih => simp [lvlPairs, ih]

theorem lvlArgs_eq (X : Path) : lvlArgs X = lvlPairs (levels (X.length + 1) X) false := by
  unfold lvlArgs
  cases levels (X.length + 1) X with
  | nil => rfl
  | cons l r => simp [lvlPairs, lvlPairs_true]

theorem optCat_eq (a b : Option (List Nat)) : optCat a b = cat2 a b := by
  cases a <;> cases b <;> rfl

theorem scanLevels_eq (ap : Path → Option DepMeta) (mp : MsgMap) (fuel : Nat) (start : Path) (lvls : List Path)
    (parent : Bool) :
    scanLevels ap mp fuel start lvls parent =
      seqCat (itemStepS ap mp fuel start) ((lvlPairs lvls parent).flatMap (refsAt ap)) := by
  induction lvls generalizing parent with
  | nil => simp [scanLevels, lvlPairs, seqCat]
  | cons l r ih =>
    rw [scanLevels, ih, optCat_eq, optCat_eq]
    simp only [lvlPairs, List.flatMap_cons, seqCat_append, refsAt, metaRefs]
    congr 1
    congr 1
    · cases ap (if parent = true then l ++ ['/'] else l) with
      | none => simp [seqCat]
      | some m => simp only [scanKeys_eq]
    · cases selfMeta ap l with
      | none => simp [seqCat]
      | some m => simp only [scanKeys_eq]

/-- one step of the scan: the references of `X`, each a source or scanned in turn -/
theorem scanDeps_succ (ap : Path → Option DepMeta) (mp : MsgMap) (fuel : Nat) (X : Path) :
    scanDeps ap mp (fuel + 1) X = seqCat (itemStep ap mp fuel) (refsOf ap X) := by
  rw [scanDeps, scanLevels_eq, ← lvlArgs_eq]
  unfold refsOf itemStepS
  exact seqCat_skip (itemStep ap mp fuel) X (rawRefs ap X)

/-- the sources found when scanning from `X`: referred to directly, or through ports without a message -/
inductive Src (ap : Path → Option DepMeta) (mp : MsgMap) : Path → Nat → Prop
  | direct {X Y : Path} {i : Nat} : Y ∈ refsOf ap X → mp.find Y = some i → Src ap mp X i
  | through {X Y : Path} {i : Nat} : Y ∈ refsOf ap X → mp.find Y = none → Src ap mp Y i → Src ap mp X i

theorem seqCat_spec {α : Type} (f : α → Option (List Nat)) (P : α → Nat → Prop) (l : List α)
    (h : ∀ a ∈ l, ∃ r, f a = some r ∧ ∀ i, i ∈ r ↔ P a i) :
    ∃ r, seqCat f l = some r ∧ ∀ i, i ∈ r ↔ ∃ a ∈ l, P a i := by
  induction l with
  | nil => exact ⟨[], rfl, by simp⟩
  | cons a l ih =>
    obtain ⟨ra, hfa, hra⟩ := h a (by simp)
    obtain ⟨rl, hfl, hrl⟩ := ih (fun b hb => h b (by simp [hb]))
    refine ⟨ra ++ rl, by simp [seqCat, hfa, hfl, cat2], ?_⟩
    intro i
    simp only [List.mem_append, hra, hrl, List.mem_cons, exists_eq_or_imp]

theorem Src_iff (ap : Path → Option DepMeta) (mp : MsgMap) (X : Path) (i : Nat) :
    Src ap mp X i ↔ ∃ Y ∈ refsOf ap X, mp.find Y = some i ∨ (mp.find Y = none ∧ Src ap mp Y i) := by
  constructor
  · intro h
    cases h with
    | direct hY hf => exact ⟨_, hY, Or.inl hf⟩
    | through hY hf hs => exact ⟨_, hY, Or.inr ⟨hf, hs⟩⟩
  · rintro ⟨Y, hY, hf | ⟨hf, hs⟩⟩
    · exact Src.direct hY hf
    · exact Src.through hY hf hs

theorem scanDeps_spec (ap : Path → Option DepMeta) (mp : MsgMap) (rank : Path → Nat)
    (hrank : ∀ X, ∀ Y ∈ refsOf ap X, rank Y < rank X) (fuel : Nat) (X : Path) (hf : rank X < fuel) :
    ∃ l, scanDeps ap mp fuel X = some l ∧ ∀ i, i ∈ l ↔ Src ap mp X i := by
  induction fuel generalizing X with
  | zero => omega
  | succ fuel ih =>
    rw [scanDeps_succ]
    have := seqCat_spec (itemStep ap mp fuel)
      (fun Y i => mp.find Y = some i ∨ (mp.find Y = none ∧ Src ap mp Y i)) (refsOf ap X) (by
        intro Y hY
        unfold itemStep
        cases hfind : mp.find Y with
        | some s => exact ⟨[s], rfl, by intro i; simp [eq_comm]⟩
        | none =>
          obtain ⟨l, hl, hm⟩ := ih Y (by have := hrank X Y hY; omega)
          exact ⟨l, hl, by intro i; simp [hm]⟩)
    obtain ⟨r, hr, hm⟩ := this
    exact ⟨r, hr, fun i => by rw [hm, Src_iff]⟩

theorem mem_emplace (m : MsgMap) (k : Path) (v : Nat) (hk : ∀ v', (k, v') ∉ m) (e : Path × Nat) :
    e ∈ m.emplace k v ↔ e = (k, v) ∨ e ∈ m := by
  induction m with
  | nil => simp [MsgMap.emplace]
  | cons x r ih =>
    obtain ⟨k', v'⟩ := x
    have hne : k' ≠ k := by
      intro h; subst h; exact hk v' (by simp)
    have ih := ih (fun v'' hm => hk v'' (by simp [hm]))
    simp only [MsgMap.emplace, if_neg hne]
    split
    · simp
    · simp only [List.mem_cons, ih]; exact or_left_comm

theorem find_eq_some_iff (m : MsgMap) (huniq : ∀ Y i i', (Y, i) ∈ m → (Y, i') ∈ m → i = i')
    (Y : Path) (i : Nat) : m.find Y = some i ↔ (Y, i) ∈ m := by
  unfold MsgMap.find
  constructor
  · intro h
    simp only [Option.map_eq_some_iff] at h
    obtain ⟨e, he, rfl⟩ := h
    have h1 := List.find?_some he
    have hm := List.mem_of_find?_eq_some he
    simp only [decide_eq_true_eq] at h1
    subst h1; exact hm
  · intro h
    cases hf : List.find? (fun e => e.1 = Y) m with
    | none =>
      rw [List.find?_eq_none] at hf
      have := hf _ h
      simp at this
    | some e =>
      have h1 := List.find?_some hf
      have hm := List.mem_of_find?_eq_some hf
      obtain ⟨k, w⟩ := e
      simp only [decide_eq_true_eq] at h1
      subst h1
      simp only [Option.map_some, Option.some.injEq]
      exact huniq _ _ _ hm h

theorem find_eq_none_iff (m : MsgMap) (Y : Path) : m.find Y = none ↔ ∀ i, (Y, i) ∉ m := by
  unfold MsgMap.find
  simp only [Option.map_eq_none_iff, List.find?_eq_none, decide_eq_true_eq]
  constructor
  · intro h i hm; exact h _ hm rfl
  · intro h e he hY; exact h e.2 (by rw [← hY]; exact he)

theorem mem_buildMap (names pre : List Path) (m : MsgMap)
    (hm : ∀ Y i, (Y, i) ∈ m ↔ pre[i]? = some Y) (hnd : (pre ++ names).Nodup) (Y : Path) (i : Nat) :
    (Y, i) ∈ buildMap names pre.length m ↔ (pre ++ names)[i]? = some Y := by
  induction names generalizing pre m with
  | nil => simp [buildMap, hm]
  | cons n r ih =>
    rw [buildMap]
    have hn : n ∉ pre := by
      intro h
      have := (List.nodup_append.1 hnd).2.2 n h n (by simp)
      exact this rfl
    have hk : ∀ v', (n, v') ∉ m := by
      intro v' hv
      exact hn (List.mem_of_getElem? ((hm _ _).1 hv))
    have := ih (pre ++ [n]) (m.emplace n pre.length) (by
      intro Y i
      rw [mem_emplace m n pre.length hk, hm, List.getElem?_append]
      by_cases hi : i < pre.length
      · simp only [hi, if_true, Prod.mk.injEq]
        constructor
        · rintro (⟨_, h⟩ | h)
          · omega
          · exact h
        · exact Or.inr
      · simp only [hi, if_false, Prod.mk.injEq]
        rw [List.getElem?_eq_none (by omega)]
        by_cases hi2 : i = pre.length
        · subst hi2; simp [eq_comm]
        · rw [List.getElem?_eq_none (by simp; omega)]; simp [hi2]) (by simpa using hnd)
    simpa using this

theorem mem_buildMap_zero (names : List Path) (hnd : names.Nodup) (Y : Path) (i : Nat) :
    (Y, i) ∈ buildMap names 0 [] ↔ names[i]? = some Y := by
  simpa using mem_buildMap names [] [] (by simp) (by simpa using hnd) Y i

theorem buildMap_find (names : List Path) (hnd : names.Nodup) (Y : Path) (i : Nat) :
    (buildMap names 0 []).find Y = some i ↔ names[i]? = some Y := by
  rw [find_eq_some_iff, mem_buildMap_zero names hnd]
  intro Y i i' h h'
  rw [mem_buildMap_zero names hnd] at h h'
  exact (List.getElem?_inj (List.getElem?_eq_some_iff.1 h).1 hnd).1 (h.trans h'.symm)

theorem buildMap_find_none (names : List Path) (hnd : names.Nodup) (Y : Path) :
    (buildMap names 0 []).find Y = none ↔ Y ∉ names := by
  rw [find_eq_none_iff]
  constructor
  · intro h hY
    obtain ⟨i, hi⟩ := List.getElem?_of_mem hY
    exact h i ((mem_buildMap_zero names hnd Y i).2 hi)
  · intro h i hm
    exact h (List.mem_of_getElem? ((mem_buildMap_zero names hnd Y i).1 hm))

theorem pushDep_length (deps : List (List Nat)) (s t : Nat) : (pushDep deps s t).length = deps.length := by
  simp [pushDep]

theorem mem_pushDep (deps : List (List Nat)) (s t i j : Nat) :
    j ∈ (pushDep deps s t).getD i [] ↔ j ∈ deps.getD i [] ∨ (i = s ∧ j = t ∧ i < deps.length) := by
  unfold pushDep
  simp only [List.getD_eq_getElem?_getD, List.getElem?_modify]
  by_cases his : s = i
  · subst his
    by_cases hl : s < deps.length
    · simp [hl]
    · simp [hl]
  · have : ¬ i = s := fun h => his h.symm
    simp [his, this]

theorem foldl_pushDep_spec (srcs : List Nat) (deps : List (List Nat)) (idx : Nat) :
    (srcs.foldl (fun d s => pushDep d s idx) deps).length = deps.length ∧
    ∀ i j, j ∈ (srcs.foldl (fun d s => pushDep d s idx) deps).getD i [] ↔
      j ∈ deps.getD i [] ∨ (i ∈ srcs ∧ j = idx ∧ i < deps.length) := by
  induction srcs generalizing deps with
  | nil => simp
  | cons s r ih =>
    obtain ⟨hl, hm⟩ := ih (pushDep deps s idx)
    refine ⟨by simpa [pushDep_length] using hl, ?_⟩
    intro i j
    simp only [List.foldl_cons, hm, mem_pushDep, pushDep_length, List.mem_cons]
    constructor
    · rintro ((h | ⟨h1, h2, h3⟩) | ⟨h1, h2, h3⟩)
      · exact Or.inl h
      · exact Or.inr ⟨Or.inl h1, h2, h3⟩
      · exact Or.inr ⟨Or.inr h1, h2, h3⟩
    · rintro (h | ⟨h1 | h1, h2, h3⟩)
      · exact Or.inl (Or.inl h)
      · exact Or.inl (Or.inr ⟨h1, h2, h3⟩)
      · exact Or.inr ⟨h1, h2, h3⟩

theorem addEdges_spec (ap : Path → Option DepMeta) (mp : MsgMap) (fuel : Nat) (S : Path → Nat → Prop)
    (es : List (Path × Nat))
    (hs : ∀ e ∈ es, ∃ l, scanDeps ap mp fuel e.1 = some l ∧ ∀ i, i ∈ l ↔ S e.1 i)
    (deps : List (List Nat)) :
    ∃ deps', addEdges ap mp fuel es deps = some deps' ∧ deps'.length = deps.length ∧
      ∀ i j, j ∈ deps'.getD i [] ↔
        j ∈ deps.getD i [] ∨ (i < deps.length ∧ ∃ X, (X, j) ∈ es ∧ S X i) := by
  induction es generalizing deps with
  | nil => exact ⟨deps, rfl, rfl, by simp⟩
  | cons e r ih =>
    obtain ⟨name, idx⟩ := e
    obtain ⟨l, hl, hm⟩ := hs (name, idx) (by simp)
    obtain ⟨hfl, hfm⟩ := foldl_pushDep_spec l deps idx
    obtain ⟨deps', hd, hlen, hmem⟩ := ih (fun e he => hs e (by simp [he]))
      (l.foldl (fun d s => pushDep d s idx) deps)
    refine ⟨deps', by simp only [addEdges, hl, hd], by omega, ?_⟩
    intro i j
    simp only [hmem, hfm, hfl, hm, List.mem_cons, Prod.mk.injEq]
    constructor
    · rintro ((h | ⟨h1, h2, h3⟩) | ⟨h1, X, h2, h3⟩)
      · exact Or.inl h
      · exact Or.inr ⟨h3, name, Or.inl ⟨rfl, h2⟩, h1⟩
      · exact Or.inr ⟨h1, X, Or.inr h2, h3⟩
    · rintro (h | ⟨h1, X, ⟨rfl, rfl⟩ | h2, h3⟩)
      · exact Or.inl (Or.inl h)
      · exact Or.inl (Or.inr ⟨h3, rfl, h1⟩)
      · exact Or.inr ⟨h1, X, h2, h3⟩

/-- the dependees vectors: j ∈ deps[i]  iff  i is a source of the scan from names[j] -/
theorem dependees_spec (ap : Path → Option DepMeta) (hr : MetaRanked ap) (names : List Path) (hnd : names.Nodup) :
    ∃ deps, dependees ap scanFuel names = some deps ∧ deps.length = names.length ∧
      ∀ i j, j ∈ deps.getD i [] ↔ (i < names.length ∧ ∃ Xj, names[j]? = some Xj ∧ Src ap (buildMap names 0 []) Xj i) := by
  obtain ⟨rank, hrank, hfuel⟩ := hr
  obtain ⟨deps, hd, hlen, hmem⟩ := addEdges_spec ap (buildMap names 0 []) scanFuel
    (Src ap (buildMap names 0 [])) (buildMap names 0 [])
    (fun e _ => scanDeps_spec ap _ rank hrank scanFuel e.1 (hfuel e.1)) (List.replicate names.length [])
  refine ⟨deps, hd, by simpa using hlen, ?_⟩
  intro i j
  rw [hmem]
  have h0 : ¬ j ∈ (List.replicate names.length ([] : List Nat)).getD i [] := by
    simp only [List.getD_eq_getElem?_getD, List.getElem?_replicate]
    split <;> simp
  simp only [h0, false_or, List.length_replicate, mem_buildMap_zero names hnd]

theorem Src_rank (ap : Path → Option DepMeta) (mp : MsgMap) (rank : Path → Nat)
    (hrank : ∀ X, ∀ Y ∈ refsOf ap X, rank Y < rank X) {X : Path} {i : Nat} (h : Src ap mp X i) :
    ∃ Y, mp.find Y = some i ∧ rank Y < rank X := by
  induction h with
  | direct hY hf => exact ⟨_, hf, hrank _ _ hY⟩
  | through hY _ _ ih =>
    obtain ⟨Z, hZ, hlt⟩ := ih
    exact ⟨Z, hZ, Nat.lt_trans hlt (hrank _ _ hY)⟩

theorem order_transGen (deps : List (List Nat)) (n : Nat) (order : List Nat)
    (hperm : order.Perm (List.range n))
    (hsrc : ∀ i j, j ∈ deps.getD i [] → i < n)
    (hedge : ∀ i j, j ∈ deps.getD i [] → ∀ a b : Nat, order[a]? = some i → order[b]? = some j → a < b)
    (i j : Nat) (h : Relation.TransGen (fun i j => j ∈ deps.getD i []) i j) :
    ∀ a b : Nat, order[a]? = some i → order[b]? = some j → a < b := by
  induction h with
  | single h => exact hedge _ _ h
  | @tail m k _ hmk ih =>
    intro a b ha hb
    have hm : m ∈ order := hperm.mem_iff.2 (List.mem_range.2 (hsrc _ _ hmk))
    obtain ⟨c, hc⟩ := List.getElem?_of_mem hm
    exact Nat.lt_trans (ih a c ha hc) (hedge _ _ hmk c b hc hb)

theorem kahn_scan (ap : Path → Option DepMeta) (hr : MetaRanked ap) (names : List Path) (hnd : names.Nodup) :
    ∃ deps order, dependees ap scanFuel names = some deps ∧ kahn deps = some order ∧
      order.Perm (List.range names.length) ∧
      ∀ i j, Relation.TransGen (fun i j => j ∈ deps.getD i []) i j →
        ∀ a b : Nat, order[a]? = some i → order[b]? = some j → a < b := by
  obtain ⟨deps, hd, hlen, hmem⟩ := dependees_spec ap hr names hnd
  obtain ⟨rank, hrank, _⟩ := hr
  have hrange : ∀ l ∈ deps, ∀ j ∈ l, j < deps.length := by
    intro l hl j hj
    obtain ⟨i, hi⟩ := List.getElem?_of_mem hl
    have : j ∈ deps.getD i [] := by
      rw [List.getD_eq_getElem?_getD, hi]; exact hj
    obtain ⟨_, Xj, hXj, _⟩ := (hmem i j).1 this
    rw [hlen]; exact (List.getElem?_eq_some_iff.1 hXj).1
  have hacyc : ∀ i, ∀ j ∈ deps.getD i [],
      (fun i => rank (names.getD i [])) i < (fun i => rank (names.getD i [])) j := by
    intro i j hj
    obtain ⟨_, Xj, hXj, hs⟩ := (hmem i j).1 hj
    obtain ⟨Y, hY, hlt⟩ := Src_rank ap _ rank hrank hs
    have hYi := (buildMap_find names hnd Y i).1 hY
    simp only [List.getD_eq_getElem?_getD, hXj, hYi, Option.getD_some]
    exact hlt
  obtain ⟨order, hk, hperm, hord⟩ := kahn_spec deps hrange _ hacyc
  rw [hlen] at hperm
  refine ⟨deps, order, hd, hk, hperm, ?_⟩
  intro i j h
  exact order_transGen deps names.length order hperm (fun i j hj => ((hmem i j).1 hj).1) hord i j h

theorem lineParams_lt (app : App) (l : Line) (p : Nat) (hp : p ∈ app.lineParams l) : p < app.size := by
  unfold App.lineParams at hp
  split at hp
  · simp only [Option.mem_toList] at hp
    exact (App.findAddr_some app hp).1
  · simp only [List.mem_filterMap] at hp
    obtain ⟨k, _, hk⟩ := hp
    exact (App.findAddr_some app hk).1

theorem array_lineParams (app : App) (hwf : app.WF) (l : Line) (hok : app.LineOK l) (vs : List Val)
    (hargs : l.args = .arr vs) (p : Nat) (hp : p ∈ app.lineParams l) :
    ∃ first len k, Item.array l.addr first len ∈ app.walk ∧ k < len ∧ p = first + k := by
  simp only [App.LineOK, hargs] at hok
  obtain ⟨first, len, hw, hlen⟩ := hok
  simp only [App.lineParams, hargs, List.mem_filterMap, List.mem_range] at hp
  obtain ⟨k, hk, hf⟩ := hp
  have hb := array_bounds app hwf hw
  have hkl : k < len := by omega
  rw [array_findAddr app hwf hw k hkl] at hf
  exact ⟨first, len, k, hw, hkl, (Option.some.inj hf).symm⟩

theorem plain_lineParams (app : App) (l : Line) (vs : List Val)
    (hargs : l.args = .plain vs) (p : Nat) (hp : p ∈ app.lineParams l) :
    (app.param p).addr = l.addr := by
  simp only [App.lineParams, hargs, Option.mem_toList] at hp
  exact (App.findAddr_some app hp).2

/-- one node of the cover argument.  `E` is any relation that holds of every scanned source and the message it was
    scanned for (the edges); `X` is the address the scan starts from and `A` the ancestors its metadata has to
    account for (`hcl`: each is referred to along `X`, or is an ancestor of one in `A` that is); `IH` is the statement
    for the parameters below `D`, which bounds `A`.  An ancestor whose address has the message `ia` is then a source
    of the scan from `X` itself, or `ia` reaches such a source along edges. -/
theorem cover_core (app : App) (names : List Path) (hnd : names.Nodup) (E : Nat → Nat → Prop)
    (hE : ∀ i j Xj, names[j]? = some Xj → Src app.apropos (buildMap names 0 []) Xj i → E i j)
    (ia : Nat) (Xa : Path) (hia : names[ia]? = some Xa)
    (D : Nat)
    (IH : ∀ m, m < D → m < app.size → ∀ a' ∈ (app.param m).anc, (app.param a').addr = Xa →
      ∃ src, Src app.apropos (buildMap names 0 []) (app.param m).addr src ∧
        (src = ia ∨ Relation.TransGen E ia src))
    (X : Path) (A : List Nat) (hA : ∀ m ∈ A, m < D ∧ m < app.size)
    (hcl : ∀ a ∈ A, (app.param a).addr ∈ refsOf app.apropos X ∨
      ∃ m ∈ A, a ∈ (app.param m).anc ∧ (app.param m).addr ∈ refsOf app.apropos X) :
    ∀ a' ∈ A, (app.param a').addr = Xa →
      ∃ src, Src app.apropos (buildMap names 0 []) X src ∧ (src = ia ∨ Relation.TransGen E ia src) := by
  intro a' ha' haddr
  rcases hcl a' ha' with hd | ⟨m, hm, ham, hmr⟩
  · have hf : (buildMap names 0 []).find (app.param a').addr = some ia :=
      (buildMap_find names hnd _ _).2 (haddr ▸ hia)
    exact ⟨ia, Src.direct hd hf, Or.inl rfl⟩
  · obtain ⟨src', hs', hor⟩ := IH m (hA m hm).1 (hA m hm).2 a' ham haddr
    cases hfm : (buildMap names 0 []).find (app.param m).addr with
    | some im =>
      have hedge : E src' im := hE _ _ _ ((buildMap_find names hnd _ _).1 hfm) hs'
      refine ⟨im, Src.direct hmr hfm, Or.inr ?_⟩
      rcases hor with rfl | h
      · exact .single hedge
      · exact .tail h hedge
    | none => exact ⟨src', Src.through hmr hfm hs', hor⟩

/-- every ancestor of `d` whose address has the message `ia` is found by the scan from `d`'s
    address: as a source itself or behind a path of edges -/
theorem cover_param (app : App) (hwf : app.WF) (hcov : app.MetaCovers)
    (names : List Path) (hnd : names.Nodup) (E : Nat → Nat → Prop)
    (hE : ∀ i j Xj, names[j]? = some Xj → Src app.apropos (buildMap names 0 []) Xj i → E i j)
    (ia : Nat) (Xa : Path) (hia : names[ia]? = some Xa) (d : Nat) :
    d < app.size → ∀ a' ∈ (app.param d).anc, (app.param a').addr = Xa →
      ∃ src, Src app.apropos (buildMap names 0 []) (app.param d).addr src ∧
        (src = ia ∨ Relation.TransGen E ia src) := by
  induction d using Nat.strongRecOn with
  | ind d ih =>
    intro hd
    exact cover_core app names hnd E hE ia Xa hia d (fun m hm hms => ih m hm hms)
      (app.param d).addr (app.param d).anc
      (fun m hm => by have := hwf.anc_lt d hd m hm; omega) (hcov.1 d hd)

/-- every dependence the application declares between two present lines is a path of edges found by
    the scan, also through absent intermediate ports: `ia` reaches `ib` in the dependees graph -/
theorem edges_cover_dependencies (app : App) (hwf : app.WF) (hcov : app.MetaCovers) (hrank : MetaRanked app.apropos)
    (ls : List Line) (hnd : (ls.map (·.addr)).Nodup) (hok : ∀ l ∈ ls, app.LineOK l)
    (deps : List (List Nat)) (hdeps : dependees app.apropos scanFuel (ls.map (·.addr)) = some deps)
    (ia ib : Nat) (a b : Line) (ha : ls[ia]? = some a) (hb : ls[ib]? = some b) (hlt : app.lineLt a b) :
    Relation.TransGen (fun i j => j ∈ deps.getD i []) ia ib := by
  obtain ⟨deps', hd', _, hmem⟩ := dependees_spec app.apropos hrank (ls.map (·.addr)) hnd
  rw [hdeps] at hd'
  obtain rfl : deps = deps' := Option.some.inj hd'
  obtain ⟨rank, hrk, _⟩ := hrank
  have hE : ∀ i j Xj, (ls.map (·.addr))[j]? = some Xj →
      Src app.apropos (buildMap (ls.map (·.addr)) 0 []) Xj i → (fun i j => j ∈ deps.getD i []) i j := by
    intro i j Xj hXj hs
    obtain ⟨Y, hY, _⟩ := Src_rank app.apropos _ rank hrk hs
    exact (hmem i j).2 ⟨(List.getElem?_eq_some_iff.1 ((buildMap_find _ hnd Y i).1 hY)).1, Xj, hXj, hs⟩
  have hia : (ls.map (·.addr))[ia]? = some a.addr := by simp [ha]
  have hib : (ls.map (·.addr))[ib]? = some b.addr := by simp [hb]
  obtain ⟨pa, hpa, pb, hpb, hanc⟩ := hlt
  have hpbs : pb < app.size := lineParams_lt app b pb hpb
  -- `a` is not an array line: array elements are nobody's ancestor
  have haplain : (app.param pa).addr = a.addr := by
    cases hargs : a.args with
    | plain vs => exact plain_lineParams app a vs hargs pa hpa
    | arr vs =>
      obtain ⟨first, len, k, hw, hk, rfl⟩ :=
        array_lineParams app hwf a (hok a (List.mem_of_getElem? ha)) vs hargs pa hpa
      exact absurd hanc (((hwf.array_ok _ first len hw).2 k hk).2.2.2 pb hpbs)
  have hfin : ∃ src, Src app.apropos (buildMap (ls.map (·.addr)) 0 []) b.addr src ∧
      (src = ia ∨ Relation.TransGen (fun i j => j ∈ deps.getD i []) ia src) := by
    cases hargs : b.args with
    | plain vs =>
      have haddr := plain_lineParams app b vs hargs pb hpb
      rw [← haddr]
      exact cover_param app hwf hcov _ hnd _ hE ia a.addr hia pb hpbs pa hanc haplain
    | arr vs =>
      obtain ⟨first, len, k, hw, hk, rfl⟩ :=
        array_lineParams app hwf b (hok b (List.mem_of_getElem? hb)) vs hargs pb hpb
      have hanceq := ((hwf.array_ok _ first len hw).2 k hk).2.2.1
      rw [hanceq] at hanc
      have hb0 := array_bounds app hwf hw
      have hfs : first < app.size := by omega
      exact cover_core app _ hnd _ hE ia a.addr hia app.size
        (fun m _ hm => cover_param app hwf hcov _ hnd _ hE ia a.addr hia m hm)
        b.addr (app.param first).anc
        (fun m hm => by have := hwf.anc_lt first hfs m hm; omega)
        (hcov.2 b.addr first len hw) pa hanc haplain
  obtain ⟨src, hs, hor⟩ := hfin
  have hedge := hE src ib b.addr hib hs
  rcases hor with rfl | h
  · exact .single hedge
  · exact .tail h hedge

/-- The property's `edges_cover_dependencies` + `kahn_is_topological` combined for lines:
    whenever a line `a` must precede a line `b` (some parameter of `a` is an ancestor of one of `b`),
    `a` stands before `b` in the order Kahn's algorithm outputs — wherever the two lines stand in the
    file, and also when intermediate ports have no line. -/
theorem kahn_order_respects (app : App) (hwf : app.WF) (hcov : app.MetaCovers) (hrank : MetaRanked app.apropos)
    (ls : List Line) (hnd : (ls.map (·.addr)).Nodup) (hok : ∀ l ∈ ls, app.LineOK l) :
    ∃ deps order, dependees app.apropos scanFuel (ls.map (·.addr)) = some deps ∧ kahn deps = some order ∧
      order.Perm (List.range ls.length) ∧
      ∀ (ia ib : Nat) (a b : Line), ls[ia]? = some a → ls[ib]? = some b → app.lineLt a b →
        ∀ pa pb : Nat, order[pa]? = some ia → order[pb]? = some ib → pa < pb := by
  obtain ⟨deps, order, hd, hk, hperm, hord⟩ := kahn_scan app.apropos hrank (ls.map (·.addr)) hnd
  refine ⟨deps, order, hd, hk, by simpa using hperm, ?_⟩
  intro ia ib a b ha hb hlt
  exact hord ia ib (edges_cover_dependencies app hwf hcov hrank ls hnd hok deps hd ia ib a b ha hb hlt)

end Rtosc.Save
