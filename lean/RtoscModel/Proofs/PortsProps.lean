/-
  C04 helper lemmas: properties of `trace`, i.e. of what every lookup strategy computes:
    * the callbacks are exactly those the specification `Answers` names;
    * what a matching name accounts for of the address;
    * `LocOK`: `loc` is a prefix of the full address (proved from `LocExact` in Proofs/PortsExtLoc.lean).
-/
import RtoscModel.Proofs.PortsTrace
namespace Rtosc.Ports
open Rtosc Rtosc.Match Rtosc.Ports.Hash

theorem noAlts_prefixFree {segs : List Seg} (h : noAlts segs = true) : segsPrefixFree segs = true := by
  simp only [noAlts, List.all_eq_true] at h
  simp only [segsPrefixFree, List.all_eq_true]
  intro s hs
  have := h s hs
  cases s <;> simp_all [Seg.isAlts, Seg.prefixFree]

theorem greedy_iff_pathSpec {p : Pat} (hna : noAlts p.segs = true) (a : Bytes) :
    (greedy p.segs p.sub a).isSome = true ↔ PathSpec p a := by
  have hpf : p.hasPrefixAlts = false := by simp [Pat.hasPrefixAlts, Pat.prefixFree, noAlts_prefixFree hna]
  rw [Option.isSome_iff_exists, greedy_iff_leftmost, leftmost_iff_spec hpf]

/-- **what `rtosc_match` accepts is what the specification admits** -/
theorem matchB_iff_admits {p : Pat} (hnw : nameWf p = true) (a tags : Bytes) :
    (matchB p a tags).isSome = true ↔ Admits p a tags := by
  obtain ⟨hp0, _, hpna⟩ := nameWf_unpack hnw
  have hg := greedy_iff_pathSpec hpna a
  unfold matchB Admits TypesAdmit
  cases hgr : greedy p.segs p.sub a with
  | none =>
    rw [hgr] at hg
    simp only [Option.isSome_none, Bool.false_eq_true, false_iff] at hg ⊢
    exact fun h => hg h.1
  | some t =>
    rw [hgr] at hg
    have hps : PathSpec p a := hg.mp rfl
    cases hty : p.types with
    | none => simp [hps]
    | some ts =>
      have htw := wf0_types hp0
      simp only [hty, typesWf, Bool.and_eq_true, Bool.not_eq_eq_eq_not, Bool.not_true,
        List.isEmpty_eq_false_iff] at htw
      have hex := typesCode_exact (tags := tags) htw.1
      by_cases hc : typesCode ts tags = true
      · simp only [hc, ↓reduceIte, Option.isSome_some, hps, true_and, Option.some.injEq, forall_eq', true_iff]
        exact hex.mp hc
      · simp only [hc, Bool.false_eq_true, ↓reduceIte, Option.isSome_none, hps, true_and,
          Option.some.injEq, forall_eq', false_iff]
        exact fun h => hc (hex.mpr h)

theorem matchB_none_iff {p : Pat} (hnw : nameWf p = true) (a tags : Bytes) :
    matchB p a tags = none ↔ ¬ Admits p a tags := by
  rw [← matchB_iff_admits hnw]
  cases matchB p a tags <;> simp

theorem hits_iff_anyAdmits : ∀ {t : PTable}, t.WF → ∀ (a tags : Bytes),
    t.hits a tags = true ↔ t.anyAdmits a tags := by
  intro t
  induction t with
  | nil => intro _ a tags; simp [PTable.hits, PTable.pats, PTable.anyAdmits]
  | leaf p r ih =>
    intro h a tags
    simp only [PTable.hits_leaf, Bool.or_eq_true, PTable.anyAdmits, matchB_iff_admits h.leaf_name, ih h.leaf_rest]
  | node p c cd r _ ih =>
    intro h a tags
    simp only [PTable.hits_node, Bool.or_eq_true, PTable.anyAdmits,
      matchB_iff_admits (nodeNameWf_name h.node_name), ih h.node_rest]

theorem hits_false_iff {t : PTable} (hwf : t.WF) (a tags : Bytes) :
    t.hits a tags = false ↔ ¬ t.anyAdmits a tags := by
  rw [← hits_iff_anyAdmits hwf, Bool.not_eq_true]

/-- **the callbacks are those of the specification** (`Answers t i tp …` takes the first index in front of
    the path of the table, `trace t tp i …` behind it) -/
theorem trace_answers : ∀ (t : PTable), t.WF →
    ∀ (tp : List Nat) (i : Nat) (o obj : List Nat) (L a tags ex : Bytes) (w : Who),
    w ∈ List.map (·.who) (trace t tp i o obj L a tags ex) ↔ Answers t i tp a tags w := by
  intro t
  induction t with
  | nil => intro _ tp i o obj L a tags ex w; simp [trace, Answers]
  | leaf p rest ih =>
    intro hwf tp i o obj L a tags ex w
    simp only [trace, Answers]
    cases hm : matchB p a tags with
    | none => simp [(matchB_none_iff hwf.leaf_name a tags).mp hm, ih hwf.leaf_rest]
    | some t =>
      simp [(matchB_iff_admits hwf.leaf_name a tags).mp (by simp [hm]), List.map_cons, ih hwf.leaf_rest]
  | node p child cd rest ihc ihr =>
    intro hwf tp i o obj L a tags ex w
    have hnw := nodeNameWf_name hwf.node_name
    simp only [trace, Answers]
    cases hm : matchB p a tags with
    | none => simp [(matchB_none_iff hnw a tags).mp hm, ihr hwf.node_rest]
    | some t =>
      simp only [(matchB_iff_admits hnw a tags).mp (by simp [hm]), true_and, List.map_cons, List.map_append, List.mem_cons,
        List.mem_append, ihc hwf.node_child, ihr hwf.node_rest, ← hits_false_iff hwf.node_child]
      cases cd <;> cases child.hits (levelTail a) tags <;> simp [or_assoc]

theorem mem_finLoc {cd : Bool} {tp obj : List Nat} {m : Bytes} {r : List Call × RtData × Bool} {c : Call}
    (h : c ∈ (finLoc cd tp obj m r).1) :
    c ∈ r.1 ∨ (cd = true ∧ r.2.2 = false ∧ c = dfltCallOf tp m { r.2.1 with nmatches := r.2.1.nmatches + 1 }) := by
  simp only [finLoc] at h
  split at h
  · next hc =>
    simp only [Bool.and_eq_true, Bool.not_eq_eq_eq_not, Bool.not_true] at hc
    rcases List.mem_append.mp h with h | h
    · exact Or.inl h
    · exact Or.inr ⟨hc.2, hc.1, by simpa using h⟩
  · exact Or.inl h

theorem levelTail_append_noslash (x y : Bytes) (hx : (47 : UInt8) ∉ x) : levelTail (x ++ y) = levelTail y := by
  induction x with
  | nil => rfl
  | cons c r ih =>
    simp only [List.mem_cons, not_or] at hx
    have : (c != 47) = true := by
      have : c ≠ 47 := fun h => hx.1 h.symm
      simp [this]
    simp only [levelTail, List.cons_append, List.dropWhile_cons, this, ↓reduceIte]
    exact ih hx.2

/-- the name of a sub-tree port accounts for exactly the first component -/
theorem spellsAll_levelTail {segs : List Seg} {a t : Bytes} (h : SpellsAll segs a (47 :: t))
    (hns : segs.all Seg.noSlash = true) (hna : noAlts segs = true) : levelTail a = t := by
  generalize hr : (47 :: t : Bytes) = r at h
  induction h with
  | nil r => subst hr; simp [levelTail]
  | lit s _ ih =>
    simp only [List.all_cons, Bool.and_eq_true, noAlts] at hns hna
    have hs : (47 : UInt8) ∉ s := by
      have := hns.1
      simp only [Seg.noSlash, Bool.not_eq_eq_eq_not, Bool.not_true] at this
      intro hm
      rw [List.contains_iff_mem.mpr hm] at this
      cases this
    rw [levelTail_append_noslash _ _ hs]
    exact ih hns.2 (by simpa [noAlts] using hna.2) hr
  | enum ds idx _ hd _ _ _ ih =>
    simp only [List.all_cons, Bool.and_eq_true, noAlts] at hns hna
    have hs : (47 : UInt8) ∉ idx := fun hm => digit_ne (hd _ hm) (by decide) rfl
    rw [levelTail_append_noslash _ _ hs]
    exact ih hns.2 (by simpa [noAlts] using hna.2) hr
  | alts as x _ _ _ =>
    simp [noAlts, Seg.isAlts] at hna

theorem accounts_shape {p : Pat} {mid rest : Bytes} (h : Accounts p mid rest) :
    if p.sub then mid.getLast? = some 47 else rest = [] := by
  obtain ⟨r0, h1, h2⟩ := h
  cases hs : p.sub with
  | false => simp only [hs, Bool.false_eq_true, ↓reduceIte] at h2 ⊢; exact h2.2
  | true =>
    simp only [hs, ↓reduceIte] at h2 ⊢
    subst h2
    exact spellsAll_slash_last h1

theorem accounts_of_match {p : Pat} {a tags t : Bytes} (hm : matchB p a tags = some t) :
    Accounts p (consumed a t) t := by
  have hg := matchB_greedy hm
  obtain ⟨pre, rfl⟩ := greedy_suffix _ hg
  obtain ⟨r0, h1, h2⟩ := greedy_sound p.sub p.segs _ t hg
  rw [consumed_append]
  exact ⟨r0, h1, h2⟩

theorem matchB_shape {p : Pat} {a tags t : Bytes} (hm : matchB p a tags = some t) :
    a = consumed a t ++ t ∧ (if p.sub then (consumed a t).getLast? = some 47 else t = []) := by
  refine ⟨?_, accounts_shape (accounts_of_match hm)⟩
  obtain ⟨pre, rfl⟩ := greedy_suffix _ (matchB_greedy hm)
  rw [consumed_append]

theorem node_tail {p : Pat} (hnw : nodeNameWf p = true) {a tags t : Bytes} (hm : matchB p a tags = some t) :
    levelTail a = t := by
  simp only [nodeNameWf, Bool.and_eq_true] at hnw
  obtain ⟨_, _, hna⟩ := nameWf_unpack hnw.1.1
  have hg := matchB_greedy hm
  obtain ⟨rest, h1, h2⟩ := greedy_sound p.sub p.segs _ t hg
  simp only [hnw.1.2, ↓reduceIte] at h2
  subst h2
  exact spellsAll_levelTail h1 hnw.2 hna

/-- the invariant of ports.h ("d.loc + m make the full path") for one log entry, in the form that does not
    mention the port's name: `loc` is a prefix `pre ++ mid` of the full address, the message pointer
    begins with `mid`, and `loc` is the whole address or ends in '/'.  That `mid` is exactly what the
    callback's own name accounts for is `LocExact` (Ports/DispatchSpec.lean). -/
def LocOK (full ex : Bytes) (c : Call) : Prop :=
  ∃ l rest, c.loc = some l ∧ l ++ rest = full ∧
    match c.who with
    | .port _ => ∃ pre mid, l = pre ++ mid ∧ c.m = mid ++ rest ++ 0 :: ex ∧ (rest = [] ∨ mid.getLast? = some 47)
    | .dflt _ => c.m = rest ++ 0 :: ex

end Rtosc.Ports
