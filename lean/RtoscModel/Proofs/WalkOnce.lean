/-
  C09 helper lemmas: "exactly once" — the list `enumerate` has no repetition
  (`enum_nodup`): two different index tuples of the enumerations on the way to a leaf
  spell different addresses (`expand_cancel`), two different rows have different index paths.
-/
import RtoscModel.Proofs.WalkDispatch
namespace Rtosc.Walk
open Rtosc Rtosc.Path Rtosc.Match

theorem natDigits_inj {i j : Nat} (h : natDigits i = natDigits j) : i = j := by
  have := congrArg decVal h
  simpa [decVal_natDigits] using this

/-- two index tuples of the same enumerations, each followed by something that does not start
    with a digit, spell the same string only if they are the same tuple -/
theorem expand_cancel : ∀ (ps : List (Bytes × Bytes)), partsOk ps = true →
    ∀ (a a' s s' : Bytes), a ∈ expandParts ps → a' ∈ expandParts ps →
      startsWithDigit s = false → startsWithDigit s' = false → a ++ s = a' ++ s' → a = a' ∧ s = s'
  | [], _, a, a', s, s', ha, ha', _, _, h => by
    rw [expandParts_nil_mem] at ha ha'
    subst ha ha'
    exact ⟨rfl, by simpa using h⟩
  | (ds, t) :: r, hok, a, a', s, s', ha, ha', hs, hs', h => by
    obtain ⟨i, _, b, hb, rfl⟩ := mem_expandParts_cons.mp ha
    obtain ⟨i', _, b', hb', rfl⟩ := mem_expandParts_cons.mp ha'
    have e1 : natDigits i ++ t ++ b ++ s = natDigits i ++ (t ++ b ++ s) := by simp
    have e2 : natDigits i' ++ t ++ b' ++ s' = natDigits i' ++ (t ++ b' ++ s') := by simp
    rw [e1, e2] at h
    have t1 := takeWhile_digits_append (natDigits i) (t ++ b ++ s) (natDigits_digits i) (startsWithDigit_tail hok hb hs)
    have t2 := takeWhile_digits_append (natDigits i') (t ++ b' ++ s') (natDigits_digits i') (startsWithDigit_tail hok hb' hs')
    have hd : natDigits i = natDigits i' := by rw [← t1, ← t2, h]
    have hi := natDigits_inj hd
    subst hi
    have h2 := List.append_cancel_left h
    have h3 : b ++ s = b' ++ s' := by
      have : t ++ (b ++ s) = t ++ (b' ++ s') := by simpa using h2
      exact List.append_cancel_left this
    obtain ⟨hbb, hss⟩ := expand_cancel r (partsOk_cons hok).rest b b' s s' hb hb' hs hs' h3
    subst hbb
    exact ⟨rfl, hss⟩

theorem startsWithDigit_nil : startsWithDigit ([] : Bytes) = false := rfl

theorem nodup_flatMap_of {α β : Type} {l : List α} {f : α → List β} (hl : l.Nodup)
    (hf : ∀ x ∈ l, (f x).Nodup) (hd : ∀ x ∈ l, ∀ y ∈ l, x ≠ y → ∀ c, c ∈ f x → c ∈ f y → False) :
    (l.flatMap f).Nodup := by
  induction l with
  | nil => simp
  | cons x r ih =>
    rw [List.nodup_cons] at hl
    simp only [List.flatMap_cons, List.nodup_append]
    refine ⟨hf x List.mem_cons_self, ih hl.2 (fun y hy => hf y (List.mem_cons_of_mem _ hy))
      (fun y hy z hz => hd y (List.mem_cons_of_mem _ hy) z (List.mem_cons_of_mem _ hz)), ?_⟩
    intro a ha b hb hab
    subst hab
    obtain ⟨y, hy, hay⟩ := List.mem_flatMap.mp hb
    exact hd x List.mem_cons_self y (List.mem_cons_of_mem _ hy) (by rintro rfl; exact hl.1 hy) a ha hay

theorem nodup_map_of {α β : Type} {l : List α} {f : α → β} (hl : l.Nodup)
    (hf : ∀ x ∈ l, ∀ y ∈ l, f x = f y → x = y) : (l.map f).Nodup := by
  induction l with
  | nil => simp
  | cons x r ih =>
    rw [List.nodup_cons] at hl
    simp only [List.map_cons, List.nodup_cons, List.mem_map, not_exists, not_and]
    refine ⟨?_, ih hl.2 (fun y hy z hz => hf y (List.mem_cons_of_mem _ hy) z (List.mem_cons_of_mem _ hz))⟩
    intro y hy he
    have := hf y (List.mem_cons_of_mem _ hy) x List.mem_cons_self he
    subst this
    exact hl.1 hy

theorem expandParts_nodup : ∀ (ps : List (Bytes × Bytes)), partsOk ps = true → (expandParts ps).Nodup
  | [], _ => by simp [expandParts]
  | (ds, t) :: r, hok => by
    have ih := expandParts_nodup r (partsOk_cons hok).rest
    simp only [expandParts]
    refine nodup_flatMap_of List.nodup_range ?_ ?_
    · intro i _
      refine nodup_map_of ih ?_
      intro b _ b' _ h
      exact List.append_cancel_left h
    · intro i _ j _ hij c hc hc'
      obtain ⟨b, hb, rfl⟩ := List.mem_map.mp hc
      obtain ⟨b', hb', e⟩ := List.mem_map.mp hc'
      have h2 : natDigits j ++ (t ++ b') = natDigits i ++ (t ++ b) := by simpa using e
      have t1 := takeWhile_digits_append (natDigits i) (t ++ b ++ []) (natDigits_digits i) (startsWithDigit_tail hok hb rfl)
      have t2 := takeWhile_digits_append (natDigits j) (t ++ b' ++ []) (natDigits_digits j) (startsWithDigit_tail hok hb' rfl)
      simp only [List.append_nil] at t1 t2
      have : natDigits j = natDigits i := by rw [← t1, ← t2, h2]
      exact hij (natDigits_inj this).symm

theorem enum_shape_tree {t : STree} {pre : Bytes} {ix : List Nat} {c : Call} (h : c ∈ enumTree pre ix t) :
    ix <+: c.1 ∧ pre <+: c.2 := by
  obtain ⟨ixr, rel, h1, h2, _⟩ := reported_tree t [t] 0 pre ix c.1 c.2 rfl h
  exact ⟨h1 ▸ List.prefix_append _ _, h2 ▸ List.prefix_append _ _⟩

theorem enum_shape_list {ts : List STree} {pre : Bytes} {path : List Nat} {i : Nat} {c : Call}
    (h : c ∈ enumList pre path ts i) : (∃ n, i ≤ n ∧ (path ++ [n]) <+: c.1) ∧ pre <+: c.2 := by
  obtain ⟨n, t, _, h⟩ := (mem_enumList pre path c ts i).mp h
  exact ⟨⟨i + n, Nat.le_add_right _ _, (enum_shape_tree h).1⟩, (enum_shape_tree h).2⟩

theorem prefix_snoc_inj {path c : List Nat} {i n : Nat} (h1 : (path ++ [i]) <+: c) (h2 : (path ++ [n]) <+: c) : i = n := by
  obtain ⟨x, rfl⟩ := h1
  obtain ⟨y, hy⟩ := h2
  have h3 : path ++ ([n] ++ y) = path ++ ([i] ++ x) := by simpa [List.append_assoc] using hy
  have := List.append_cancel_left h3
  simp at this
  exact this.1.symm

/-- **exactly once**: no `(leaf, address)` pair occurs twice in the enumeration of a well-formed table -/
theorem enum_nodup :
    (∀ (t : STree) (pre : Bytes) (ix : List Nat), t.wf = true → (enumTree pre ix t).Nodup) ∧
    (∀ (ts : List STree) (pre : Bytes) (path : List Nat) (i : Nat),
      wfList ts = true → (enumList pre path ts i).Nodup) := by
  apply STree.induction
  · intro w _ pre ix hwf
    have hok : w.ok = true := STree.wf_leaf.mp hwf
    obtain ⟨_, hparts, _⟩ := WName.ok_spec hok
    simp only [enumTree]
    refine nodup_map_of (expandParts_nodup w.parts hparts) ?_
    intro a ha a' ha' h
    have h2 : pre ++ w.head ++ a ++ slashIf w.slash = pre ++ w.head ++ a' ++ slashIf w.slash := by
      simpa using congrArg Prod.snd h
    have h3 : a ++ slashIf w.slash = a' ++ slashIf w.slash := by
      have : (pre ++ w.head) ++ (a ++ slashIf w.slash) = (pre ++ w.head) ++ (a' ++ slashIf w.slash) := by
        simpa [List.append_assoc] using h2
      exact List.append_cancel_left this
    exact (expand_cancel w.parts hparts a a' _ _ ha ha' (startsWithDigit_slashIf _) (startsWithDigit_slashIf _) h3).1
  · intro w _ kids ih pre ix hwf
    rw [STree.wf_sub] at hwf
    obtain ⟨hok, _, _, _⟩ := WName.subOk_spec hwf.1
    obtain ⟨_, hparts, _⟩ := WName.ok_spec hok
    simp only [enumTree]
    refine nodup_flatMap_of (expandParts_nodup w.parts hparts) ?_ ?_
    · intro a _
      exact ih _ ix 0 hwf.2
    · intro a ha a' ha' hne c hc hc'
      obtain ⟨s, hs⟩ := (enum_shape_list hc).2
      obtain ⟨s', hs'⟩ := (enum_shape_list hc').2
      have h : (pre ++ w.head) ++ (a ++ (47 :: s)) = (pre ++ w.head) ++ (a' ++ (47 :: s')) := by
        have := hs.trans hs'.symm
        simpa [List.append_assoc] using this
      have h2 := List.append_cancel_left h
      exact hne (expand_cancel w.parts hparts a a' _ _ ha ha' (startsWithDigit_slash s) (startsWithDigit_slash s') h2).1
  · intro _ _ _ _
    simp [enumList]
  · intro t r iht ihr pre path i hwf
    simp only [wfList, Bool.and_eq_true] at hwf
    simp only [enumList, List.nodup_append]
    refine ⟨iht pre (path ++ [i]) hwf.1, ihr pre path (i + 1) hwf.2, ?_⟩
    intro a ha b hb hab
    subst hab
    have h1 := (enum_shape_tree ha).1
    obtain ⟨⟨n, hn, h2⟩, _⟩ := enum_shape_list hb
    have := prefix_snoc_inj h1 h2
    omega

theorem enumTree_nodup : ∀ (t : STree) (pre : Bytes) (ix : List Nat), t.wf = true → (enumTree pre ix t).Nodup :=
  enum_nodup.1

end Rtosc.Walk
