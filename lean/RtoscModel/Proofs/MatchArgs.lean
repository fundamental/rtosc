/-
  C05, the type matcher: `rtosc_match_args` on rendered type alternatives is `typesCode`
  (`argsStart_types_eq`), `rtosc_argument_string` on a buffer that begins with a C string
  (`argString_cstr`; on a laid-out message: `argString_mkMsg`), and the two copies of the matcher
  in ports.cpp against `rtosc_match_args` (`argMatcherFuel_colon`, `portMatcherFuel_colon`).
  Nothing here depends on the path matcher.
-/
import RtoscModel.Match.Copies
import RtoscModel.Proofs.BasicLemmas
import RtoscModel.Match.CodeSpec
namespace Rtosc.Match
open Rtosc

theorem NulFree.head {c : UInt8} {a : Bytes} (h : NulFree (c :: a)) : c ≠ 0 := h c List.mem_cons_self
theorem NulFree.tail {c : UInt8} {a : Bytes} (h : NulFree (c :: a)) : NulFree a :=
  fun x hx => h x (List.mem_cons_of_mem _ hx)

/-- the start of `rtosc_match_args` behind the ':' (first call and every retry) -/
def argsStart (args0 r : Bytes) : Option Bool :=
  match r with
  | [] => none
  | e :: _ =>
    if e ≠ 0 then argsGo args0 r args0 true
    else match args0 with
      | [] => none
      | x :: _ => argsGo args0 r args0 (x = 0)

theorem args_colon (r a0 : Bytes) : args (58 :: r) a0 = argsStart a0 r := rfl

theorem tagChar_ne {c : UInt8} (h : tagChar c = true) : c ≠ 0 ∧ c ≠ 58 := by
  simpa [tagChar] using h

theorem argsGo_colon (args0 r a : Bytes) (am : Bool) :
    argsGo args0 (58 :: r) a am =
      if am then
        match a with
        | [] => none
        | x :: _ => if x = 0 then some true else argsStart args0 r
      else argsStart args0 r := by
  cases am <;> rfl

/-- once `arg_match` is false the running `arg_str` is not looked at any more -/
theorem argsGo_false (args0 : Bytes) : ∀ (p cur : Bytes),
    argsGo args0 p cur false = argsGo args0 p [] false := by
  intro p
  induction p with
  | nil => intro cur; simp [argsGo]
  | cons c r ih =>
    intro cur
    by_cases h0 : c = 0
    · simp [argsGo, h0]
    · by_cases h58 : c = 58
      · subst h58; simp [argsGo]
      · simp only [argsGo, h0, h58, ↓reduceIte, Bool.false_eq_true]
        rw [ih cur, ih []]

/-- the `while` loop over one type alternative after a mismatch -/
theorem argsGo_alt_false (args0 q : Bytes) (a : Bytes) (ha : ∀ c ∈ a, tagChar c = true) (cur : Bytes) :
    argsGo args0 (a ++ q) cur false = argsGo args0 q [] false := by
  induction a with
  | nil => simpa using argsGo_false args0 q cur
  | cons c a' ih =>
    obtain ⟨c0, c58⟩ := tagChar_ne (ha c List.mem_cons_self)
    have ha' : ∀ c ∈ a', tagChar c = true := fun x hx => ha x (List.mem_cons_of_mem _ hx)
    simp only [List.cons_append, argsGo, c0, c58, ↓reduceIte, Bool.false_eq_true]
    exact ih ha'

/-- the `while` loop over one type alternative, `arg_str` inside a C string: no read
    leaves the string (the comparison stops at the first mismatch, at the latest at the
    terminating NUL) -/
theorem argsGo_alt (args0 q : Bytes) (a : Bytes) (ha : ∀ c ∈ a, tagChar c = true) :
    ∀ (tags rest : Bytes),
    argsGo args0 (a ++ q) (tags ++ 0 :: rest) true =
      if a.isPrefixOf tags then argsGo args0 q ((tags ++ 0 :: rest).drop a.length) true
      else argsGo args0 q [] false := by
  induction a with
  | nil => intro tags rest; simp
  | cons c a' ih =>
    intro tags rest
    obtain ⟨c0, c58⟩ := tagChar_ne (ha c List.mem_cons_self)
    have ha' : ∀ c ∈ a', tagChar c = true := fun x hx => ha x (List.mem_cons_of_mem _ hx)
    cases tags with
    | nil =>
      simp only [List.cons_append, List.nil_append, argsGo, c0, c58, ↓reduceIte, List.isPrefixOf,
        Bool.false_eq_true]
      have : (c == (0:UInt8)) = false := by simp [c0]
      rw [this]
      exact argsGo_alt_false args0 q a' ha' rest
    | cons d t =>
      simp only [List.cons_append, argsGo, c0, c58, ↓reduceIte, List.isPrefixOf, List.length_cons,
        List.drop_succ_cons]
      by_cases hcd : c = d
      · subst hcd
        simp only [beq_self_eq_true, Bool.true_and]
        exact ih ha' t rest
      · have : (c == d) = false := by simp [hcd]
        simp only [this, Bool.false_and, Bool.false_eq_true, ↓reduceIte]
        exact argsGo_alt_false args0 q a' ha' _

theorem isPrefixOf_nulfree (a tags rest : Bytes) (ha : ∀ c ∈ a, tagChar c = true) :
    a.isPrefixOf (tags ++ 0 :: rest) = a.isPrefixOf tags := by
  induction a generalizing tags with
  | nil => simp
  | cons c a' ih =>
    obtain ⟨c0, _⟩ := tagChar_ne (ha c List.mem_cons_self)
    cases tags with
    | nil => simp [List.isPrefixOf, c0]
    | cons d t =>
      simp only [List.cons_append, List.isPrefixOf]
      rw [ih _ (fun x hx => ha x (List.mem_cons_of_mem _ hx))]

/-- after a matching alternative `arg_str` stands on the NUL exactly when the alternative
    is the whole type string -/
theorem drop_head_zero (a tags rest : Bytes) (htags : NulFree tags) (hp : a <+: tags) :
    ∃ x t, (tags ++ 0 :: rest).drop a.length = x :: t ∧ (x = 0 ↔ a = tags) := by
  obtain ⟨s, rfl⟩ := hp
  cases s with
  | nil => exact ⟨0, rest, by simp, by simp⟩
  | cons d s' =>
    refine ⟨d, s' ++ 0 :: rest, by simp, ?_⟩
    have : d ≠ 0 := htags d (by simp)
    simp [this]

/-- **the type matcher on rendered alternatives** (repaired code): the documented value,
    whatever follows the type string's NUL in the buffer — nothing behind the NUL is read. -/
theorem argsStart_types_eq (tags rest : Bytes) (htags : NulFree tags) :
    ∀ (ts : List Bytes), ts ≠ [] → (∀ a ∈ ts, ∀ c ∈ a, tagChar c = true) →
    (match ts with
     | [] => none
     | a :: ts' => argsStart (tags ++ 0 :: rest) (a ++ (renderTypeAlts ts' ++ [0])))
      = some (typesCode ts tags) := by
  intro ts
  induction ts with
  | nil => intro h; exact absurd rfl h
  | cons a ts' ih =>
    intro _ hts
    have ha := hts a List.mem_cons_self
    cases ts' with
    | nil =>
      simp only [renderTypeAlts, List.nil_append]
      cases a with
      | nil =>
        cases tags with
        | nil => simp [argsStart, argsGo, typesCode]
        | cons d t =>
          have : d ≠ 0 := htags.head
          simp [argsStart, argsGo, typesCode, this]
      | cons e a' =>
        obtain ⟨e0, _⟩ := tagChar_ne (ha e List.mem_cons_self)
        have hst : argsStart (tags ++ 0 :: rest) ((e :: a') ++ [0]) =
            argsGo (tags ++ 0 :: rest) ((e :: a') ++ [0]) (tags ++ 0 :: rest) true := by
          simp [argsStart, e0]
        rw [hst, argsGo_alt _ _ _ ha]
        by_cases hp : (e :: a').isPrefixOf tags = true
        · simp [hp, argsGo, typesCode]
        · simp [hp, argsGo, typesCode]
    | cons b ts'' =>
      have hts' : ∀ a ∈ b :: ts'', ∀ c ∈ a, tagChar c = true := fun z hz => hts z (List.mem_cons_of_mem _ hz)
      have ih' := ih (by simp) hts'
      simp only [renderTypeAlts, List.cons_append] at ih' ⊢
      -- the first pattern character is not NUL: arg_match starts as true
      have hst : argsStart (tags ++ 0 :: rest) (a ++ 58 :: (b ++ renderTypeAlts ts'' ++ [0])) =
          argsGo (tags ++ 0 :: rest) (a ++ 58 :: (b ++ renderTypeAlts ts'' ++ [0])) (tags ++ 0 :: rest) true := by
        cases a with
        | nil => simp [argsStart]
        | cons e a' =>
          obtain ⟨e0, _⟩ := tagChar_ne (ha e List.mem_cons_self)
          simp [argsStart, e0]
      have hassoc : (b ++ renderTypeAlts ts'') ++ [0] = b ++ (renderTypeAlts ts'' ++ [0]) := by simp
      rw [hst, argsGo_alt _ _ _ ha]
      by_cases hp : a.isPrefixOf tags = true
      · obtain ⟨x, t, hx, hxz⟩ := drop_head_zero a tags rest htags (List.isPrefixOf_iff_prefix.mp hp)
        simp only [hp, ↓reduceIte, hx, argsGo_colon, hassoc]
        by_cases hx0 : x = 0
        · have : a = tags := hxz.mp hx0
          simp [hx0, typesCode, this]
        · have hne : ¬ a = tags := fun h => hx0 (hxz.mpr h)
          have hbeq : (a == tags) = false := by simp [hne]
          simp only [hx0, ↓reduceIte, typesCode, hbeq, Bool.false_or]
          exact ih'
      · have hne : ¬ a = tags := fun h => by
          subst h
          exact hp (List.isPrefixOf_iff_prefix.mpr (List.prefix_refl _))
        have hbeq : (a == tags) = false := by simp [hne]
        simp only [hp, Bool.false_eq_true, ↓reduceIte, argsGo_colon, hassoc, typesCode, hbeq, Bool.false_or]
        exact ih'

/-- `argsStart` on rendered type alternatives in the disjunctive form that also holds of the loop without
    fixes/C05-args-overread.patch: the value, or a read past the buffer when an alternative is longer
    than what is left of it.  On the model's loop the first disjunct always holds
    (`argsStart_types_eq`). -/
theorem argsStart_types (tags rest : Bytes) (htags : NulFree tags) :
    ∀ (ts : List Bytes), ts ≠ [] → (∀ a ∈ ts, ∀ c ∈ a, tagChar c = true) →
    (match ts with
     | [] => none
     | a :: ts' => argsStart (tags ++ 0 :: rest) (a ++ (renderTypeAlts ts' ++ [0])))
      = some (typesCode ts tags) ∨
    ((match ts with
      | [] => none
      | a :: ts' => argsStart (tags ++ 0 :: rest) (a ++ (renderTypeAlts ts' ++ [0]))) = none ∧
      ∃ a ∈ ts, (tags ++ 0 :: rest).length < a.length) :=
  fun ts hne hch => Or.inl (argsStart_types_eq tags rest htags ts hne hch)

theorem typesCode_exact {ts : List Bytes} {tags : Bytes} (hne : ts ≠ []) :
    typesCode ts tags = true ↔
      tags ∈ ts ∨ ∃ l, ts.getLast? = some l ∧ l ≠ [] ∧ l <+: tags := by
  induction ts with
  | nil => exact absurd rfl hne
  | cons a r ih =>
    cases r with
    | nil =>
      simp only [typesCode, List.mem_cons, List.not_mem_nil, or_false, List.getLast?_singleton,
        Option.some.injEq, ne_eq, exists_eq_left']
      by_cases ha : a = []
      · subst ha; simp
      · simp only [ha, ↓reduceIte, not_false_eq_true, true_and]
        constructor
        · intro h; exact Or.inr (List.isPrefixOf_iff_prefix.mp h)
        · rintro (h | h)
          · subst h; exact List.isPrefixOf_iff_prefix.mpr (List.prefix_refl _)
          · exact List.isPrefixOf_iff_prefix.mpr h
    | cons b r' =>
      have := ih (by simp)
      simp only [typesCode, Bool.or_eq_true, beq_iff_eq, this, List.mem_cons, List.getLast?_cons_cons]
      constructor
      · rintro (h | h | h)
        · exact Or.inl (Or.inl h.symm)
        · exact Or.inl (Or.inr h)
        · exact Or.inr h
      · rintro ((h | h) | h)
        · exact Or.inl h.symm
        · exact Or.inr (Or.inl h)
        · exact Or.inr (Or.inr h)

theorem skipZeros_replicate (n : Nat) (c : UInt8) (x : Bytes) (hc : c ≠ 0) :
    skipZeros (List.replicate n 0 ++ c :: x) = some (c :: x) := by
  induction n with
  | zero => simp [skipZeros, hc]
  | succ n ih => simp [List.replicate_succ, skipZeros, ih]

theorem pad4_eq (s : Bytes) : ∃ k, pad4 s = s ++ 0 :: List.replicate k 0 := by
  refine ⟨3 - s.length % 4, ?_⟩
  unfold pad4
  have : 4 - s.length % 4 = (3 - s.length % 4) + 1 := by omega
  rw [this, List.replicate_succ]

/-- `rtosc_argument_string` on a buffer that begins with a C string `a`, `k` further NULs and a ','
    (the first byte is skipped unseen, so an empty `a` needs one of the `k`) -/
theorem argString_cstr (a : Bytes) (ha : NulFree a) (k : Nat) (y : Bytes) (h : a ≠ [] ∨ 1 ≤ k) :
    argString (a ++ 0 :: (List.replicate k 0 ++ 44 :: y)) = some y := by
  cases a with
  | cons c a' =>
    have hn := toNul_append_nul a' (List.replicate k 0 ++ 44 :: y) ha.tail
    simp only [List.cons_append, argString, hn, skipZeros_replicate k 44 y (by decide)]
  | nil =>
    obtain ⟨j, rfl⟩ : ∃ j, k = j + 1 := ⟨k - 1, by
      rcases h with h | h
      · exact absurd rfl h
      · omega⟩
    simp only [List.nil_append, argString, List.replicate_succ, List.cons_append, toNul, ↓reduceIte,
      skipZeros_replicate j 44 y (by decide)]

/-- the layout of `mkMsg`: behind the address its terminator and `k` padding NULs (at least one if the
    address is empty), ',' and the type string, its terminator and `j` padding NULs, the rest -/
theorem mkMsg_layout (addr tags rest : Bytes) : ∃ k j, (addr ≠ [] ∨ 1 ≤ k) ∧ mkMsg addr tags rest =
    addr ++ 0 :: (List.replicate k 0 ++ 44 :: (tags ++ 0 :: (List.replicate j 0 ++ rest))) := by
  obtain ⟨k1, h1⟩ := pad4_eq addr
  obtain ⟨k2, h2⟩ := pad4_eq (44 :: tags)
  refine ⟨k1, k2, ?_, by simp [mkMsg, h1, h2]⟩
  cases addr with
  | cons _ _ => exact .inl (by simp)
  | nil =>
    have := congrArg List.length h1
    simp [pad4] at this
    exact .inr (by omega)

theorem mkMsg_shape (addr tags rest : Bytes) : ∃ ex, mkMsg addr tags rest = addr ++ 0 :: ex :=
  let ⟨_, _, _, h⟩ := mkMsg_layout addr tags rest; ⟨_, h⟩

/-- `rtosc_argument_string` finds the type string of a message laid out by `mkMsg`;
    behind it come the padding NULs (at least one) and the rest of the buffer. -/
theorem argString_mkMsg (addr tags rest : Bytes) (ha : NulFree addr) :
    ∃ k, argString (mkMsg addr tags rest) = some (tags ++ 0 :: (List.replicate k 0 ++ rest)) := by
  obtain ⟨k, j, hk, h⟩ := mkMsg_layout addr tags rest
  exact ⟨j, by rw [h]; exact argString_cstr addr ha k _ hk⟩

theorem argWhile_argsGo (args0 : Bytes) : ∀ (p a : Bytes) (am : Bool),
    match argWhile p a am with
    | none => argsGo args0 p a am = none
    | some (p', a', am') =>
      argsGo args0 p a am = argsGo args0 p' a' am' ∧ p'.length ≤ p.length ∧
      ∃ e r, p' = e :: r ∧ (e = 0 ∨ e = 58) := by
  intro p
  induction p with
  | nil => intro a am; simp [argWhile, argsGo]
  | cons c r ih =>
    intro a am
    by_cases hc : c ≠ 0 ∧ c ≠ 58
    · cases am with
      | false =>
        have := ih a false
        simp only [argWhile, hc, ne_eq, not_false_eq_true, and_self, ↓reduceIte, argsGo,
          Bool.false_eq_true]
        split
        · next h => simpa [h] using this
        · next p' a' am' h =>
          simp only [h] at this
          exact ⟨this.1, by simp only [List.length_cons]; omega, this.2.2⟩
      | true =>
        cases a with
        | nil => simp [argWhile, argsGo, hc]
        | cons x ar =>
          have := ih ar (c == x)
          simp only [argWhile, hc, ne_eq, not_false_eq_true, and_self, ↓reduceIte, argsGo]
          split
          · next h => simpa [h] using this
          · next p' a' am' h =>
            simp only [h] at this
            exact ⟨this.1, by simp only [List.length_cons]; omega, this.2.2⟩
    · have hc' : c = 0 ∨ c = 58 := by
        by_cases h0 : c = 0
        · exact Or.inl h0
        · by_cases h58 : c = 58
          · exact Or.inr h58
          · exact absurd ⟨h0, h58⟩ hc
      simp only [argWhile, hc, ↓reduceIte]
      exact ⟨trivial, Nat.le_refl _, c, r, rfl, hc'⟩

theorem argMatcherFuel_colon : ∀ (f : Nat) (p a0 : Bytes), p.length + 1 < f →
    argMatcherFuel f (58 :: p) a0 = argsStart a0 p
  | 0, _, _, h => by omega
  | f + 1, [], _, _ => rfl
  | f + 1, e :: p', a0, hf => by
    by_cases he : e = 0
    · -- an empty alternative: the loop does not run
      subst he
      cases a0 with
      | nil => rfl
      | cons x ar =>
        by_cases hx : x = 0
        · subst hx; rfl
        · have : ((0 : UInt8) == x) = false := by simpa using Ne.symm hx
          simp [argMatcherFuel, argWhile, argsStart, argsGo, this, hx]
    · have hw := argWhile_argsGo a0 (e :: p') a0 true
      simp only [argMatcherFuel, argsStart, ne_eq, not_true_eq_false, he, not_false_eq_true, ↓reduceIte]
      cases h : argWhile (e :: p') a0 true with
      | none => rw [h] at hw; exact hw.symm
      | some t =>
        obtain ⟨p'', a', am⟩ := t
        rw [h] at hw
        obtain ⟨h1, h2, e', r', rfl, he'⟩ := hw
        rw [h1]
        rcases he' with rfl | rfl
        · simp [argsGo]
        · have ih := argMatcherFuel_colon f r' a0 (by simp only [List.length_cons] at hf h2; omega)
          simp only [↓reduceIte, argsGo_colon, ih]
          rfl

theorem portMatcherFuel_colon {msg a : Bytes} (hs : argString msg = some a) :
    ∀ (f : Nat) (p : Bytes), portMatcherFuel f (58 :: p) msg = argMatcherFuel f (58 :: p) a
  | 0, _ => rfl
  | f + 1, p => by
    simp only [portMatcherFuel, argMatcherFuel, hs, ne_eq, not_true_eq_false, ↓reduceIte]
    cases p with
    | nil => rfl
    | cons e p' =>
      simp only
      split
      · rfl
      · next am0 _ =>
        cases argWhile (e :: p') a am0 with
        | none => rfl
        | some t =>
          obtain ⟨p'', a', am⟩ := t
          cases p'' with
          | nil => rfl
          | cons e' r' =>
            by_cases he' : e' = 58
            · subst he'
              simp only [↓reduceIte, portMatcherFuel_colon hs f r']
            · simp only [he', ↓reduceIte]

end Rtosc.Match
