/-
  C15 — the undo-history model (core Lean only).  A well-formed state is a zipper around the
  cursor, `zip d u` (`d`: the applied entries newest first, `u`: the undone entries oldest
  first); on it `seekHistory` moves `d.take k` or `u.take k` across the cursor (`take`/`drop` do
  the clamping of the C code), `recordEvent` returns `zip d' []` with the event merged into `d` or
  put in front of it, and the chain invariant is `RChain σ d ∧ Chain σ u`.  Last the invariant
  `Good` of reachable states, with totality of `step`.
-/
import RtoscModel.UndoSpec
namespace Rtosc.Undo
open Rtosc

theorem seekHistory_back (s : State) (hwf : WF s) (k : Nat) :
    seekHistory s (-(k : Int)) = rewindN (min k s.pos) s := by
  have hwf' : s.pos ≤ s.hist.length := hwf
  have e : (if (s.pos : Int) + -(k : Int) < 0 then -(k : Int) - ((s.pos : Int) + -(k : Int)) else -(k : Int)) =
      -((min k s.pos : Nat) : Int) := by split <;> omega
  simp only [seekHistory, if_neg (show ¬ (s.pos : Int) + -(k : Int) > (s.hist.length : Int) by omega), e]
  -- on distance 0 the loop does nothing either, so the sign of the clamped distance alone selects the loop
  cases min k s.pos with
  | zero => rfl
  | succ n => rw [if_neg (by omega), if_pos (by omega), Int.natAbs_neg, Int.natAbs_natCast]

theorem seekHistory_fwd (s : State) (hwf : WF s) (k : Nat) :
    seekHistory s (k : Int) = replayN (min k (s.hist.length - s.pos)) s := by
  have hwf' : s.pos ≤ s.hist.length := hwf
  have e : (if (s.pos : Int) + (k : Int) > (s.hist.length : Int) then (s.hist.length : Int) - (s.pos : Int)
      else (k : Int)) = ((min k (s.hist.length - s.pos) : Nat) : Int) := by split <;> omega
  simp only [seekHistory, if_neg (show ¬ (s.pos : Int) + (k : Int) < 0 by omega), e]
  cases min k (s.hist.length - s.pos) with
  | zero => rfl
  | succ n => rw [if_neg (by omega), if_neg (by omega), Int.toNat_natCast]

/-- The state with applied entries `d`, newest first, and undone entries `u`, oldest first. -/
def zip (d u : List Entry) : State := ⟨d.reverse ++ u, d.length⟩

theorem applied_zip (d u : List Entry) : applied (zip d u) = d.reverse := by
  simp [applied, zip]

theorem undone_zip (d u : List Entry) : undone (zip d u) = u := by
  simp [undone, zip]

theorem wf_zip (d u : List Entry) : WF (zip d u) := by
  simp [WF, zip]

theorem zip_of_wf {s : State} (h : WF s) : s = zip (applied s).reverse (undone s) := by
  obtain ⟨hist, pos⟩ := s
  have h' : pos ≤ hist.length := h
  simp [zip, applied, undone, Nat.min_eq_left h']

/-- To prove something of a well-formed state, prove it of every zipper:
    `induction s, hw using WF.rec_zip with | _ d u`. -/
theorem WF.rec_zip {motive : (s : State) → WF s → Prop} (h : ∀ d u, motive (zip d u) (wf_zip d u))
    (s : State) (hw : WF s) : motive s hw := by
  have e := zip_of_wf hw
  generalize (applied s).reverse = d at e
  generalize undone s = u at e
  subst e
  exact h d u

theorem inv_zip (d u : List Entry) (σ : Store) : Inv (zip d u) σ ↔ RChain σ d ∧ Chain σ u := by
  rw [Inv, applied_zip, undone_zip, List.reverse_reverse]

theorem fit_zip (d u : List Entry) : AddrsFit (zip d u) ↔ ∀ x, (x ∈ d ∨ x ∈ u) → fits x.2.addr = true := by
  simp [AddrsFit, zip]

theorem mem_zip {d u : List Entry} {x : Entry} : x ∈ (zip d u).hist ↔ x ∈ d ∨ x ∈ u := by
  simp [zip]

theorem zip_shift (a d u : List Entry) : (zip (a ++ d) u).hist = (zip d (a.reverse ++ u)).hist := by
  simp [zip]

theorem zip_cons (x : Entry) (d u : List Entry) : zip (x :: d) u = ⟨(zip d (x :: u)).hist, d.length + 1⟩ := by
  simp [zip]

theorem zip_get (x : Entry) (d u : List Entry) : (zip d (x :: u)).hist[d.length]? = some x := by
  simp [zip]

theorem rewindN_succ_zip (n : Nat) (x : Entry) (d u : List Entry) :
    rewindN (n + 1) (zip (x :: d) u) =
      (rewindN n (zip d (x :: u))).map fun (s', ms) => (s', rewindMsg x.2 :: ms) := by
  rw [zip_cons]
  simp only [rewindN, zip_get]
  rfl

theorem replayN_succ_zip (n : Nat) (x : Entry) (d u : List Entry) :
    replayN (n + 1) (zip d (x :: u)) =
      (replayN n (zip (x :: d) u)).map fun (s', ms) => (s', replayMsg x.2 ++ ms) := by
  rw [zip_cons]
  simp only [replayN, show (zip d (x :: u)).pos = d.length from rfl, zip_get]

theorem rewindN_zip : ∀ (a d u : List Entry),
    rewindN a.length (zip (a ++ d) u) = some (zip d (a.reverse ++ u), a.map fun x => rewindMsg x.2) := by
  intro a
  induction a with
  | nil => intro d u; rfl
  | cons x a ih =>
    intro d u
    rw [List.length_cons, List.cons_append, rewindN_succ_zip, ih, List.reverse_cons, List.append_assoc]
    rfl

theorem replayN_zip : ∀ (a d u : List Entry),
    replayN a.length (zip d (a ++ u)) = some (zip (a.reverse ++ d) u, a.flatMap fun x => replayMsg x.2) := by
  intro a
  induction a with
  | nil => intro d u; rfl
  | cons x a ih =>
    intro d u
    rw [List.length_cons, List.cons_append, replayN_succ_zip, ih, List.reverse_cons, List.append_assoc]
    rfl

/-- `seekHistory` back by `k`: the `k` newest applied entries (all of them if there are fewer)
    cross the cursor, each emitting its rewind message. -/
theorem seek_back_zip (d u : List Entry) (k : Nat) :
    seekHistory (zip d u) (-(k : Int)) =
      some (zip (d.drop k) ((d.take k).reverse ++ u), (d.take k).map fun x => rewindMsg x.2) := by
  rw [seekHistory_back _ (wf_zip d u), show (zip d u).pos = d.length from rfl, ← List.length_take]
  have h := rewindN_zip (d.take k) (d.drop k) u
  rwa [List.take_append_drop] at h

theorem seek_fwd_zip (d u : List Entry) (k : Nat) :
    seekHistory (zip d u) (k : Int) =
      some (zip ((u.take k).reverse ++ d) (u.drop k), (u.take k).flatMap fun x => replayMsg x.2) := by
  have : (zip d u).hist.length - (zip d u).pos = u.length := by simp [zip]
  rw [seekHistory_fwd _ (wf_zip d u), this, ← List.length_take]
  have h := replayN_zip (u.take k) d (u.drop k)
  rwa [List.take_append_drop] at h

theorem zip_drop_take (d u : List Entry) (k : Nat) :
    zip (d.drop k) ((d.take k).reverse ++ u) = ⟨(zip d u).hist, d.length - k⟩ := by
  have h := zip_shift (d.take k) (d.drop k) u
  rw [List.take_append_drop] at h
  simp only [zip, List.length_drop] at h ⊢
  rw [h]

theorem zip_take_drop (d u : List Entry) (k : Nat) :
    zip ((u.take k).reverse ++ d) (u.drop k) = ⟨(zip d u).hist, min (d.length + k) (zip d u).hist.length⟩ := by
  have h := zip_shift (u.take k).reverse d (u.drop k)
  rw [List.reverse_reverse, List.take_append_drop] at h
  simp only [zip, List.length_append, List.length_reverse, List.length_take] at h ⊢
  rw [h]
  congr 1
  omega

theorem seek_hist (s s' : State) (d : Int) (ms : List Emit) (hw : WF s)
    (h : seekHistory s d = some (s', ms)) : s'.hist = s.hist ∧ WF s' := by
  induction s, hw using WF.rec_zip with | _ a u
  rcases Int.eq_nat_or_neg d with ⟨k, rfl | rfl⟩
  · rw [seek_fwd_zip] at h; cases h
    exact ⟨by rw [zip_take_drop], wf_zip _ _⟩
  · rw [seek_back_zip] at h; cases h
    exact ⟨by rw [zip_drop_take], wf_zip _ _⟩

theorem seek_total (s : State) (hw : WF s) (d : Int) : ∃ r, seekHistory s d = some r := by
  induction s, hw using WF.rec_zip with | _ a u
  rcases Int.eq_nat_or_neg d with ⟨k, rfl | rfl⟩
  · exact ⟨_, seek_fwd_zip a u k⟩
  · exact ⟨_, seek_back_zip a u k⟩

theorem take_len {s : State} (hwf : WF s) : (s.hist.take s.pos).length = s.pos := by
  rw [List.length_take]; exact Nat.min_eq_left hwf

theorem mergeRev_skip (now : Int) (ev : Event) (a b : List Entry)
    (ha : ∀ x ∈ a, x.2.addr ≠ ev.addr) :
    mergeRev now ev (a ++ b) = (mergeRev now ev b).map (a ++ ·) := by
  induction a with
  | nil => simp
  | cons x a ih =>
    obtain ⟨t, e⟩ := x
    have hx : e.addr ≠ ev.addr := ha (t, e) (by simp)
    have ih' := ih (fun y hy => ha y (by simp [hy]))
    simp only [List.cons_append, mergeRev, hx, ne_eq, not_false_eq_true, if_true, ih']
    cases mergeRev now ev b <;> simp

theorem mergeRev_absent (now : Int) (ev : Event) (l : List Entry)
    (hl : ∀ x ∈ l, x.2.addr ≠ ev.addr) : mergeRev now ev l = none := by
  have := mergeRev_skip now ev l [] hl
  simpa [mergeRev] using this

theorem mergeRev_length (now : Int) (ev : Event) : ∀ (l l' : List Entry),
    mergeRev now ev l = some l' → l'.length = l.length := by
  intro l
  induction l with
  | nil => intro l' h; simp [mergeRev] at h
  | cons x l ih =>
    obtain ⟨t, e⟩ := x
    intro l' h
    simp only [mergeRev] at h
    split at h
    · cases hm : mergeRev now ev l with
      | none => simp [hm] at h
      | some r => simp [hm] at h; subst h; simp [ih r hm]
    · split at h
      · simp at h
      · simp at h; subst h; simp

theorem mergeEvent_eq (now : Int) (ev : Event) (h : List Entry) (pos : Nat) (hp : h.length = pos) :
    mergeEvent now ev h pos = (mergeRev now ev h.reverse).map List.reverse := by
  unfold mergeEvent
  by_cases h0 : pos = 0
  · subst h0
    have : h = [] := List.length_eq_zero_iff.mp hp
    subst this; simp [mergeRev]
  · simp [h0]

theorem recordEvent_eq (now : Int) (ev : Event) (s : State) (hwf : WF s) :
    recordEvent now ev s =
      match (mergeRev now ev (s.hist.take s.pos).reverse).map List.reverse with
      | some h' => ⟨h', s.pos⟩
      | none =>
        if (s.hist.take s.pos ++ [(now, ev)]).length > Generated.maxHistory
        then ⟨(s.hist.take s.pos ++ [(now, ev)]).drop 1, s.pos + 1 - 1⟩
        else ⟨s.hist.take s.pos ++ [(now, ev)], s.pos + 1⟩ := by
  -- `history.resize(history_pos)` keeps the applied prefix, whether or not it cuts anything
  have hres : (if s.hist.length ≠ s.pos then s.hist.take s.pos else s.hist) = s.hist.take s.pos := by
    by_cases h : s.hist.length = s.pos
    · simp only [h, ne_eq, not_true_eq_false, if_false]
      rw [← h, List.take_length]
    · simp [h]
  unfold recordEvent
  simp only [hres]
  rw [mergeEvent_eq now ev _ s.pos (take_len hwf)]
  cases mergeRev now ev (List.take s.pos s.hist).reverse <;> rfl

theorem mergeRev_split (now : Int) (ev : Event) (pre post : List Entry) (t : Int) (e : Event)
    (he : e.addr = ev.addr) (hpost : ∀ x ∈ post, x.2.addr ≠ ev.addr) :
    mergeRev now ev (pre ++ (t, e) :: post).reverse =
      if now - t > Generated.mergeWindow then none
      else some (pre ++ (now, splice e ev) :: post).reverse := by
  have hr : ∀ x : Entry, (pre ++ x :: post).reverse = post.reverse ++ (x :: pre.reverse) := by simp
  rw [hr, hr, mergeRev_skip now ev _ _ (by simpa using hpost), mergeRev, if_neg (by simpa using he)]
  split <;> rfl

theorem record_merge (now : Int) (ev : Event) (s : State) (hwf : WF s)
    (pre post : List Entry) (t : Int) (e : Event)
    (hd : s.hist.take s.pos = pre ++ (t, e) :: post) (he : e.addr = ev.addr)
    (hpost : ∀ x ∈ post, x.2.addr ≠ ev.addr) (hw : now - t ≤ Generated.mergeWindow) :
    recordEvent now ev s = ⟨pre ++ (now, splice e ev) :: post, s.pos⟩ := by
  rw [recordEvent_eq now ev s hwf, hd, mergeRev_split now ev pre post t e he hpost, if_neg (by omega)]
  simp

theorem record_append (now : Int) (ev : Event) (s : State) (hwf : WF s)
    (hno : (∀ x ∈ s.hist.take s.pos, x.2.addr ≠ ev.addr) ∨
           ∃ pre post t e, s.hist.take s.pos = pre ++ (t, e) :: post ∧ e.addr = ev.addr ∧
             (∀ x ∈ post, x.2.addr ≠ ev.addr) ∧ now - t > Generated.mergeWindow) :
    recordEvent now ev s =
      if s.pos + 1 > Generated.maxHistory
      then ⟨(s.hist.take s.pos ++ [(now, ev)]).drop 1, s.pos⟩
      else ⟨s.hist.take s.pos ++ [(now, ev)], s.pos + 1⟩ := by
  rw [recordEvent_eq now ev s hwf]
  have hnone : mergeRev now ev (s.hist.take s.pos).reverse = none := by
    rcases hno with h | ⟨pre, post, t, e, hd, he, hpost, hw⟩
    · exact mergeRev_absent now ev _ (by simpa using h)
    · rw [hd, mergeRev_split now ev pre post t e he hpost, if_pos hw]
  have hl : (s.hist.take s.pos ++ [(now, ev)]).length = s.pos + 1 := by
    rw [List.length_append, take_len hwf]; rfl
  simp only [hnone, Option.map_none, hl, Nat.add_sub_cancel]

theorem record_zip (now : Int) (ev : Event) (d u : List Entry) :
    recordEvent now ev (zip d u) =
      match mergeRev now ev d with
      | some d' => zip d' []
      | none =>
        if d.length + 1 > Generated.maxHistory then zip ((now, ev) :: d).dropLast []
        else zip ((now, ev) :: d) [] := by
  have ht : (zip d u).hist.take (zip d u).pos = d.reverse := applied_zip d u
  rw [recordEvent_eq now ev _ (wf_zip d u), ht, List.reverse_reverse]
  cases hm : mergeRev now ev d with
  | some d' => simp [zip, mergeRev_length now ev d d' hm]
  | none =>
    have hr : d.reverse ++ [(now, ev)] = ((now, ev) :: d).reverse := by simp
    simp only [Option.map_none, hr, List.length_reverse, List.length_cons]
    split
    · simp [zip, ← List.tail_reverse]
    · simp [zip]

/-- What `recordEvent` leaves: nothing to redo, and applied entries `d'` that are the old ones
    with the event merged in, or the event put in front, the oldest dropped when over the cap. -/
theorem record_shape (now : Int) (ev : Event) (d u : List Entry) :
    ∃ d', recordEvent now ev (zip d u) = zip d' [] ∧
      (mergeRev now ev d = some d' ∨
       mergeRev now ev d = none ∧ (d' = (now, ev) :: d ∧ d.length + 1 ≤ Generated.maxHistory ∨
         d' = ((now, ev) :: d).dropLast ∧ Generated.maxHistory < d.length + 1)) := by
  rw [record_zip]
  cases hm : mergeRev now ev d with
  | some d' => exact ⟨d', rfl, .inl rfl⟩
  | none =>
    dsimp only
    split
    · exact ⟨_, rfl, .inr ⟨rfl, .inr ⟨rfl, by omega⟩⟩⟩
    · exact ⟨_, rfl, .inr ⟨rfl, .inl ⟨rfl, by omega⟩⟩⟩

theorem mergeRev_all (now : Int) (ev : Event) (Q : Event → Prop)
    (hs : ∀ e, Q e → e.addr = ev.addr → Q (splice e ev)) :
    ∀ (l l' : List Entry), mergeRev now ev l = some l' → (∀ x ∈ l, Q x.2) → ∀ x ∈ l', Q x.2 := by
  intro l
  induction l with
  | nil => intro l' h; simp [mergeRev] at h
  | cons y l ih =>
    obtain ⟨t, e⟩ := y
    intro l' h hq x hx
    simp only [mergeRev] at h
    split at h
    · cases hm : mergeRev now ev l with
      | none => simp [hm] at h
      | some r =>
        simp [hm] at h; subst h
        rcases List.mem_cons.mp hx with rfl | hx
        · exact hq _ (by simp)
        · exact ih r hm (fun z hz => hq z (by simp [hz])) x hx
    · rename_i hne
      split at h
      · simp at h
      · simp at h; subst h
        rcases List.mem_cons.mp hx with rfl | hx
        · exact hs e (hq (t, e) (by simp)) (by simpa using hne)
        · exact hq x (by simp [hx])

theorem record_all (now : Int) (ev : Event) (s : State) (hwf : WF s) (Q : Event → Prop)
    (hq : ∀ x ∈ s.hist, Q x.2) (he : Q ev)
    (hs : ∀ e, Q e → e.addr = ev.addr → Q (splice e ev)) :
    ∀ x ∈ (recordEvent now ev s).hist, Q x.2 := by
  induction s, hwf using WF.rec_zip with | _ d u
  have hcons : ∀ x ∈ (now, ev) :: d, Q x.2 := by
    intro x hx
    rcases List.mem_cons.mp hx with rfl | hx
    · exact he
    · exact hq x (mem_zip.mpr (.inl hx))
  obtain ⟨d', he', hd⟩ := record_shape now ev d u
  rw [he']
  intro x hx
  have hx' : x ∈ d' := (mem_zip.mp hx).resolve_right (by simp)
  rcases hd with hm | ⟨_, ⟨rfl, _⟩ | ⟨rfl, _⟩⟩
  · exact mergeRev_all now ev Q hs d d' hm (fun y hy => hq y (mem_zip.mpr (.inl hy))) x hx'
  · exact hcons x hx'
  · exact hcons x (List.dropLast_subset _ hx')

theorem fit_record (now : Int) (ev : Event) (s : State) (hwf : WF s) (hf : AddrsFit s)
    (he : fits ev.addr = true) : AddrsFit (recordEvent now ev s) :=
  record_all now ev s hwf (fun e => fits e.addr = true) hf he (fun _ _ _ => he)

theorem wf_record (now : Int) (ev : Event) (s : State) (hwf : WF s) : WF (recordEvent now ev s) := by
  induction s, hwf using WF.rec_zip with | _ d u
  obtain ⟨d', he, _⟩ := record_shape now ev d u
  rw [he]; exact wf_zip _ _

theorem size_record (now : Int) (ev : Event) (s : State) (hwf : WF s)
    (hs : s.hist.length ≤ Generated.maxHistory) :
    (recordEvent now ev s).hist.length ≤ Generated.maxHistory := by
  induction s, hwf using WF.rec_zip with | _ d u
  have hl : d.length ≤ Generated.maxHistory := by simp [zip] at hs; omega
  obtain ⟨d', he, hd⟩ := record_shape now ev d u
  rw [he]
  show (d'.reverse ++ []).length ≤ _
  rw [List.append_nil, List.length_reverse]
  rcases hd with hm | ⟨_, ⟨rfl, h⟩ | ⟨rfl, _⟩⟩
  · rw [mergeRev_length now ev d d' hm]; exact hl
  · exact h
  · rw [List.length_dropLast]; exact hl

theorem set_same (σ : Store) (a : Bytes) (v : UInt32) : (σ.set a v) a = v := by simp [Store.set]
theorem set_other (σ : Store) (a b : Bytes) (v : UInt32) (h : b ≠ a) : (σ.set a v) b = σ b := by
  simp [Store.set, h]
theorem set_set (σ : Store) (a : Bytes) (v w : UInt32) : (σ.set a v).set a w = σ.set a w := by
  funext b; by_cases h : b = a <;> simp [Store.set, h]
theorem set_comm (σ : Store) (a b : Bytes) (v w : UInt32) (h : a ≠ b) :
    (σ.set a v).set b w = (σ.set b w).set a v := by
  funext c
  by_cases h1 : c = a
  · simp [Store.set, h1, h]
  · by_cases h2 : c = b
    · have : ¬ b = a := fun hba => h hba.symm
      simp [Store.set, h2, this]
    · simp [Store.set, h1, h2]
theorem set_self (σ : Store) (a : Bytes) (v : UInt32) (h : σ a = v) : σ.set a v = σ := by
  funext b; by_cases hb : b = a <;> simp [Store.set, hb, h]

theorem applyEmits_cons (σ : Store) (m : Emit) (ms : List Emit) :
    applyEmits σ (m :: ms) = applyEmits (applyEmit σ m) ms := rfl

theorem applyEmits_append (σ : Store) (a b : List Emit) :
    applyEmits σ (a ++ b) = applyEmits (applyEmits σ a) b := by
  simp [applyEmits, List.foldl_append]

/-- after dispatching one set-message per entry, in order, an address holds the value of the last message
    for it -/
theorem applyEmits_last (val : Event → UInt32) (l : List Entry) : ∀ (σ : Store) (a : Bytes),
    applyEmits σ (l.map fun x => some ⟨x.2.addr, x.2.tag, val x.2⟩) a =
      match l.reverse.find? (fun x => x.2.addr = a) with
      | some x => val x.2
      | none => σ a := by
  induction l with
  | nil => intro σ a; rfl
  | cons x r ih =>
    intro σ a
    rw [List.map_cons, applyEmits_cons, ih, List.reverse_cons, List.find?_append]
    cases List.find? (fun x => decide (x.2.addr = a)) r.reverse with
    | some y => rfl
    | none =>
      by_cases hx : x.2.addr = a
      · simp [hx, applyEmit, Store.set]
      · have : ¬ a = x.2.addr := fun h => hx h.symm
        simp [hx, applyEmit, Store.set, this]

/-- Undoing the events `r` (oldest first) newest-first: every touched address ends at the
    old value of its oldest event. -/
theorem applyEmits_undo (r : List Entry) (σ : Store) (a : Bytes) :
    applyEmits σ (r.reverse.map fun x => undoMsg x.2) a =
      match r.find? (fun x => x.2.addr = a) with
      | some x => x.2.old
      | none => σ a := by
  have := applyEmits_last (·.old) r.reverse σ a
  rwa [List.reverse_reverse] at this

/-- Redoing the events `r` oldest-first: every touched address ends at the new value of
    its newest event. -/
theorem applyEmits_redo (r : List Entry) (σ : Store) (a : Bytes) :
    applyEmits σ (r.map fun x => redoMsg x.2) a =
      match r.reverse.find? (fun x => x.2.addr = a) with
      | some x => x.2.new
      | none => σ a :=
  applyEmits_last (·.new) r σ a

theorem RChain_dropLast : ∀ (l : List Entry) (σ : Store), RChain σ l → RChain σ l.dropLast := by
  intro l
  induction l with
  | nil => intro σ h; exact h
  | cons x l ih =>
    intro σ h
    cases l with
    | nil => simp [List.dropLast, RChain]
    | cons y l =>
      simp only [List.dropLast]
      exact ⟨h.1, ih _ h.2⟩

theorem RChain_merge (now : Int) (ev : Event) : ∀ (l l' : List Entry) (σ : Store),
    RChain σ l → mergeRev now ev l = some l' → RChain (σ.set ev.addr ev.new) l' := by
  intro l
  induction l with
  | nil => intro l' σ _ h; simp [mergeRev] at h
  | cons x l ih =>
    obtain ⟨t, e⟩ := x
    intro l' σ hc hm
    obtain ⟨h1, h2⟩ := hc
    simp only [mergeRev] at hm
    split at hm
    · rename_i hne
      cases hr : mergeRev now ev l with
      | none => simp [hr] at hm
      | some r =>
        simp [hr] at hm; subst hm
        have hne' : e.addr ≠ ev.addr := by simpa using hne
        refine ⟨?_, ?_⟩
        · show (σ.set ev.addr ev.new) e.addr = e.new
          rw [set_other _ _ _ _ hne']; exact h1
        · show RChain ((σ.set ev.addr ev.new).set e.addr e.old) r
          rw [set_comm _ _ _ _ _ (fun h => hne' h.symm)]
          exact ih r _ h2 hr
    · rename_i heq
      have heq' : e.addr = ev.addr := by simpa using heq
      split at hm
      · simp at hm
      · simp at hm; subst hm
        refine ⟨?_, ?_⟩
        · show (σ.set ev.addr ev.new) (splice e ev).addr = (splice e ev).new
          simp [splice, set_same]
        · show RChain ((σ.set ev.addr ev.new).set (splice e ev).addr (splice e ev).old) l
          simp only [splice, set_set]
          have : σ.set ev.addr e.old = σ.set e.addr e.old := by rw [heq']
          rw [this]; exact h2

/-- Undoing the entries `a` (newest first) in front of `d`: they arrive, reversed, in front of the
    undone ones, and both chains hold of the store the undo messages leave. -/
theorem chain_undo (u : List Entry) : ∀ (a d : List Entry) (σ : Store), RChain σ (a ++ d) → Chain σ u →
    RChain (applyEmits σ (a.map fun x => undoMsg x.2)) d ∧
      Chain (applyEmits σ (a.map fun x => undoMsg x.2)) (a.reverse ++ u) := by
  intro a
  induction a generalizing u with
  | nil => intro d σ h1 h2; exact ⟨h1, h2⟩
  | cons x a ih =>
    intro d σ h1 h2
    rw [List.map_cons, applyEmits_cons, List.reverse_cons, List.append_assoc]
    refine ih (x :: u) d _ h1.2 ⟨set_same _ _ _, ?_⟩
    show Chain ((σ.set x.2.addr x.2.old).set x.2.addr x.2.new) u
    rw [set_set, set_self σ _ _ h1.1]; exact h2

theorem chain_redo (d : List Entry) : ∀ (a u : List Entry) (σ : Store), RChain σ d → Chain σ (a ++ u) →
    RChain (applyEmits σ (a.map fun x => redoMsg x.2)) (a.reverse ++ d) ∧
      Chain (applyEmits σ (a.map fun x => redoMsg x.2)) u := by
  intro a
  induction a generalizing d with
  | nil => intro u σ h1 h2; exact ⟨h1, h2⟩
  | cons x a ih =>
    intro u σ h1 h2
    rw [List.map_cons, applyEmits_cons, List.reverse_cons, List.append_assoc]
    refine ih (x :: d) u _ ⟨set_same _ _ _, ?_⟩ h2.2
    show RChain ((σ.set x.2.addr x.2.new).set x.2.addr x.2.old) d
    rw [set_set, set_self σ _ _ h2.1]; exact h1

theorem undo_redo_store : ∀ (a d : List Entry) (σ : Store), RChain σ (a ++ d) →
    applyEmits (applyEmits σ (a.map fun x => undoMsg x.2)) (a.reverse.map fun x => redoMsg x.2) = σ := by
  intro a
  induction a with
  | nil => intro d σ _; rfl
  | cons x a ih =>
    intro d σ h
    rw [List.map_cons, applyEmits_cons, List.reverse_cons, List.map_append, applyEmits_append,
      ih d (applyEmit σ (undoMsg x.2)) h.2]
    show (σ.set x.2.addr x.2.old).set x.2.addr x.2.new = σ
    rw [set_set, set_self σ _ _ h.1]

theorem rewindMsg_fit (e : Event) (h : fits e.addr = true) : rewindMsg e = undoMsg e := by
  simp [rewindMsg, undoMsg, h]
theorem replayMsg_fit (e : Event) (h : fits e.addr = true) : replayMsg e = [redoMsg e] := by
  simp [replayMsg, redoMsg, h]

theorem flatMap_replay_fit (l : List Entry) (hf : ∀ x ∈ l, fits x.2.addr = true) :
    l.flatMap (fun x => replayMsg x.2) = l.map (fun x => redoMsg x.2) := by
  induction l with
  | nil => rfl
  | cons x l ih =>
    simp only [List.flatMap_cons, List.map_cons]
    rw [replayMsg_fit _ (hf x (by simp)), ih (fun y hy => hf y (by simp [hy]))]; rfl

theorem map_rewind_fit (l : List Entry) (hf : ∀ x ∈ l, fits x.2.addr = true) :
    l.map (fun x => rewindMsg x.2) = l.map (fun x => undoMsg x.2) := by
  apply List.map_congr_left
  intro x hx; exact rewindMsg_fit _ (hf x hx)

theorem inv_seek (s s' : State) (d : Int) (ms : List Emit) (σ : Store) (hw : WF s)
    (hf : AddrsFit s) (hi : Inv s σ) (h : seekHistory s d = some (s', ms)) :
    Inv s' (applyEmits σ ms) := by
  induction s, hw using WF.rec_zip with | _ a u
  rw [inv_zip] at hi
  rw [fit_zip] at hf
  rcases Int.eq_nat_or_neg d with ⟨k, rfl | rfl⟩
  · rw [seek_fwd_zip, flatMap_replay_fit _ (fun x hx => hf x (.inr (List.mem_of_mem_take hx)))] at h
    cases h
    rw [inv_zip]
    exact chain_redo a _ _ σ hi.1 (by rw [List.take_append_drop]; exact hi.2)
  · rw [seek_back_zip, map_rewind_fit _ (fun x hx => hf x (.inl (List.mem_of_mem_take hx)))] at h
    cases h
    rw [inv_zip]
    exact chain_undo u _ _ σ (by rw [List.take_append_drop]; exact hi.1) hi.2

theorem inv_record (now : Int) (a : Bytes) (tag : UInt8) (v : UInt32) (s : State) (σ : Store)
    (hwf : WF s) (hi : Inv s σ) :
    Inv (recordEvent now ⟨a, tag, σ a, v⟩ s) (σ.set a v) := by
  induction s, hwf using WF.rec_zip with | _ d u
  rw [inv_zip] at hi
  have hcons : RChain (σ.set a v) ((now, (⟨a, tag, σ a, v⟩ : Event)) :: d) := by
    refine ⟨set_same _ _ _, ?_⟩
    show RChain ((σ.set a v).set a (σ a)) d
    rw [set_set, set_self σ a _ rfl]; exact hi.1
  obtain ⟨d', he, hd⟩ := record_shape now ⟨a, tag, σ a, v⟩ d u
  rw [he, inv_zip]
  refine ⟨?_, trivial⟩
  rcases hd with hm | ⟨_, ⟨rfl, _⟩ | ⟨rfl, _⟩⟩
  · exact RChain_merge now _ d d' σ hi.1 hm
  · exact hcons
  · exact RChain_dropLast _ _ hcons

/-- The run-time facts the application-level theorems need. -/
structure Good (A : App) : Prop where
  wf   : WF A.u
  size : A.u.hist.length ≤ Generated.maxHistory
  fit  : AddrsFit A.u
  inv  : Inv A.u A.σ

theorem good_init (σ0 : Store) (t0 : Int) : Good (App.init σ0 t0) :=
  ⟨by simp [App.init, Undo.init, WF], by simp [App.init, Undo.init],
   by intro x hx; simp [App.init, Undo.init] at hx,
   by simp [App.init, Undo.init, Inv, applied, undone, RChain, Chain]⟩

theorem good_step (A A' : App) (o : Op) (ms : List Emit) (hg : Good A)
    (hfit : OpFit o)
    (h : A.step o = some (A', ms)) : Good A' := by
  cases o with
  | set a tag v =>
    simp only [App.step] at h
    split at h
    · simp at h; obtain ⟨rfl, _⟩ := h; exact hg
    · simp at h; obtain ⟨rfl, _⟩ := h
      exact ⟨wf_record _ _ _ hg.wf, size_record _ _ _ hg.wf hg.size,
             fit_record _ _ _ hg.wf hg.fit hfit, inv_record _ a tag v _ _ hg.wf hg.inv⟩
  | seek k =>
    simp only [App.step] at h
    cases hs : seekHistory A.u k with
    | none => simp [hs] at h
    | some r =>
      obtain ⟨u', ms'⟩ := r
      simp [hs] at h; obtain ⟨rfl, rfl⟩ := h
      have hh := seek_hist A.u u' k ms' hg.wf hs
      refine ⟨hh.2, by show u'.hist.length ≤ _; rw [hh.1]; exact hg.size,
              by intro x hx; exact hg.fit x (by rw [← hh.1]; exact hx), ?_⟩
      exact inv_seek A.u u' k ms' A.σ hg.wf hg.fit hg.inv hs
  | tick d =>
    simp only [App.step] at h
    simp at h; obtain ⟨rfl, _⟩ := h
    exact ⟨hg.wf, hg.size, hg.fit, hg.inv⟩

theorem step_total (A : App) (o : Op) (hw : WF A.u) : ∃ r, A.step o = some r := by
  cases o with
  | set a tag v => simp only [App.step]; split <;> exact ⟨_, rfl⟩
  | seek k =>
    obtain ⟨r, hr⟩ := seek_total A.u hw k
    exact ⟨_, by simp only [App.step, hr, Option.map_some]; rfl⟩
  | tick d => exact ⟨_, rfl⟩

theorem run_good : ∀ (ops : List Op) (A : App), OpsFit ops → Good A →
    ∃ A', A.run ops = some A' ∧ Good A' := by
  intro ops
  induction ops with
  | nil => intro A _ hg; exact ⟨A, rfl, hg⟩
  | cons o ops ih =>
    intro A hf hg
    obtain ⟨⟨A1, ms⟩, hr⟩ := step_total A o hg.wf
    have hfo : OpFit o ∧ OpsFit ops :=
      ⟨hf o (by simp), fun x hx => hf x (by simp [hx])⟩
    have hg1 := good_step A A1 o ms hg hfo.1 hr
    obtain ⟨A', hr', hg'⟩ := ih A1 hfo.2 hg1
    exact ⟨A', by simp [App.run, hr, hr'], hg'⟩

theorem reachable_wf_size (s : State) (h : Reachable s) :
    WF s ∧ s.hist.length ≤ Generated.maxHistory := by
  induction h with
  | init => simp [WF, Undo.init]
  | record now ev _ ih => exact ⟨wf_record _ _ _ ih.1, size_record _ _ _ ih.1 ih.2⟩
  | seek d ms _ hs ih =>
    have := seek_hist _ _ d ms ih.1 hs
    exact ⟨this.2, by rw [this.1]; exact ih.2⟩
end Rtosc.Undo
