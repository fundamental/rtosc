/-
  C10 — tier 3, compressed runs in context: the printer.

  The side conditions under which `rtosc_convert_to_range` cuts an argument list into given segments
  (`Segmented`, Pretty/RunsSpec.lean), and the printer on one such segment (`printArgVal_seg`), which
  `printsPiece_seg` (PrettyRunsArrPrint) makes a piece of the top-level loop (`printLoop_pieces`,
  PrettyLoops) and which the array loop uses directly (`arrLoop_step`).  The loops over a
  segmented list are in PrettyRunsArrPrint (the array loop and the top-level loop, where a piece may
  also be an array), the round trip in PrettyRunsArrMsg.  `rtosc_print_range` on the block of a run
  behind any left neighbour is `IntKind.printRange_run` (PrettyRunArith).
-/
import RtoscModel.Proofs.PrettyRunsExtScan
namespace Rtosc.Pretty
open Rtosc Rtosc.Libc
open Rtosc.ArgVal (Cell)

/-- `confusing` and `shortForm` of the statements about int32 runs (Pretty/RunSpec.lean) are those of `IntKind` at 'i' -/
theorem confusing_eq (L : Option Cell) (a : Int) : confusing L a = IntKind.i.confusing L a := by
  cases L with
  | none => rfl
  | some c =>
    cases c with
    | int t v => cases t <;> simp [confusing, IntKind.confusing, IntKind.ty, IntKind.cell, ArgVal.Cell.type, ArgVal.IntTy.char]
    | str t x => cases t <;> simp [confusing, IntKind.confusing, IntKind.ty, ArgVal.Cell.type, ArgVal.StrTy.char]
    | flag t => cases t <;> simp [confusing, IntKind.confusing, IntKind.ty, ArgVal.Cell.type, ArgVal.FlagTy.char]
    | _ => simp [confusing, IntKind.confusing, IntKind.ty, ArgVal.Cell.type, ArgVal.tyA, ArgVal.tyRange]

theorem shortForm_eq (L : Option Cell) (a d : Int) : shortForm L a d = IntKind.i.shortForm L a d := by
  rw [shortForm, IntKind.shortForm, confusing_eq]

theorem getLast?_append_replicate (done : List Cell) (n : Nat) (c : Cell) (hn : 1 ≤ n) :
    (done ++ List.replicate n c).getLast? = some c := by
  obtain ⟨m, rfl⟩ : ∃ m, n = m + 1 := ⟨n - 1, by omega⟩
  rw [List.replicate_succ', ← List.append_assoc, List.getLast?_append]
  simp

theorem getLast?_append_arithRun (done : List Cell) (a d : Int) (n : Nat) (hn : 1 ≤ n) :
    (done ++ arithRun a d n).getLast? = some (Cell.int .i (zOf a d n)) := by
  obtain ⟨m, rfl⟩ : ∃ m, n = m + 1 := ⟨n - 1, by omega⟩
  have : arithRun a d (m + 1) = arithRun a d m ++ [Cell.int .i (a + (m : Int) * d)] := by
    simp [arithRun, List.range_succ]
  rw [this, ← List.append_assoc, List.getLast?_append]
  simp [zOf]

/-- the side conditions of `Segmented` on one segment, apart from the conversion -/
def RSeg.Printable (opt : POpt) : RSeg → Prop
  | .tok c => c.isScalar = true ∧ PrintsTok opt c
  | .crun n c => c.isScalar = true ∧ PrintsTok opt c ∧ 5 ≤ n ∧ n ≤ 2147483647
  | .irun a d n => RunHyp a d n

/-- what `rtosc_convert_to_range` returns at the start of the segment -/
def RSeg.conv : RSeg → Option (Nat × List Cell)
  | .tok _ => none
  | .crun n c => some (n, [Cell.rep n 0, c])
  | .irun a d n => some (n, [Cell.rep n 1, Cell.int .i d, Cell.int .i a])

/-- `Segmented` at a non-empty list, the three constructors read as one: the side conditions of the
    first segment, what `rtosc_convert_to_range` returns at its start, and the rest -/
theorem Segmented.head {opt : POpt} {s : RSeg} {segs : List RSeg} (h : Segmented opt (s :: segs)) :
    s.Printable opt ∧ convertToRange opt (cellsAll (s :: segs)) (cellsAll (s :: segs)).length = .ok s.conv ∧
    Segmented opt segs := by
  cases h with
  | tok c _ hsc hpt hconv hrest =>
    exact ⟨⟨hsc, hpt⟩, by simpa [cellsAll, RSeg.cells, RSeg.conv] using hconv, hrest⟩
  | crun n c _ hsc hpt hn5 hn2 hconv hrest =>
    exact ⟨⟨hsc, hpt, hn5, hn2⟩, by simpa [cellsAll, RSeg.cells, RSeg.conv] using hconv, hrest⟩
  | irun a d n _ hr hconv hrest =>
    exact ⟨hr, by simpa [cellsAll, RSeg.cells, RSeg.conv, arithRun_length] using hconv, hrest⟩

theorem Segmented.scalars {opt : POpt} {segs : List RSeg} (h : Segmented opt segs) :
    ∀ c ∈ cellsAll segs, c.isScalar = true := by
  induction h with
  | nil => simp [cellsAll]
  | tok c segs hsc _ _ _ ih =>
    intro x hx
    simp only [cellsAll, RSeg.cells, List.singleton_append, List.mem_cons] at hx
    rcases hx with rfl | hx
    · exact hsc
    · exact ih x hx
  | crun n c segs hsc _ _ _ _ _ ih =>
    intro x hx
    simp only [cellsAll, RSeg.cells, List.mem_append, List.mem_replicate] at hx
    rcases hx with ⟨_, rfl⟩ | hx
    · exact hsc
    · exact ih x hx
  | irun a d n segs _ _ _ ih =>
    intro x hx
    simp only [cellsAll, RSeg.cells, List.mem_append, arithRun, List.mem_map] at hx
    rcases hx with ⟨k, _, rfl⟩ | hx
    · rfl
    · exact ih x hx

theorem RSeg.Printable.cells_pos {opt : POpt} {s : RSeg} (hp : s.Printable opt) : 0 < s.cells.length := by
  cases s with
  | tok c => simp [RSeg.cells]
  | crun n c => have := hp.2.2.1; simp only [RSeg.cells, List.length_replicate]; omega
  | irun a d n => have := RunHyp.hn hp; simp only [RSeg.cells, arithRun_length]; omega

theorem Segmented.cells_pos {opt : POpt} {segs : List RSeg} (h : Segmented opt segs) (hne : segs ≠ []) :
    0 < (cellsAll segs).length := by
  cases segs with
  | nil => exact absurd rfl hne
  | cons s r =>
    have := h.head.1.cells_pos
    simp only [cellsAll, List.length_append]
    omega

theorem Segmented.length_le {opt : POpt} {segs : List RSeg} (h : Segmented opt segs) :
    segs.length ≤ (cellsAll segs).length := by
  induction segs with
  | nil => exact Nat.le_refl _
  | cons s r ih =>
    obtain ⟨hp, _, hr⟩ := h.head
    have := hp.cells_pos
    have := ih hr
    simp only [cellsAll, List.length_append, List.length_cons]
    omega

theorem RSeg.Printable.getLast? {opt : POpt} {s : RSeg} (hp : s.Printable opt) (done : List Cell) :
    (done ++ s.cells).getLast? = some s.last := by
  cases s with
  | tok c => simp [RSeg.cells, RSeg.last]
  | crun n c => exact getLast?_append_replicate done n c (by have := hp.2.2.1; omega)
  | irun a d n => exact getLast?_append_arithRun done a d n (by have := RunHyp.hn hp; omega)

theorem RSeg.Printable.step {opt : POpt} {s : RSeg} (hp : s.Printable opt) (R : List Cell) :
    convStep s.conv (s.cells ++ R) = .ok s.cells.length := by
  cases s with
  | tok c => exact nextArgOffset_scalar _ c R hp.1
  | crun n c => simp [convStep, RSeg.conv, RSeg.cells, pure, Except.pure]
  | irun a d n => simp [convStep, RSeg.conv, RSeg.cells, arithRun_length, pure, Except.pure]

/-- **the printer on one segment** (on the block `rtosc_convert_to_range` made of it, or on the
    value itself): the text is a `SegText` behind the left neighbour the printer is given -/
theorem printArgVal_seg (opt : POpt) (hc : opt.compress = true) {s : RSeg} (hp : s.Printable opt) (fuel : Nat)
    (R : List Cell) (prev : Option Cell) (st : PSt) :
    ∃ (T : Bytes) (cols' : Int),
      printArgVal (fuel + 2) opt (convInput s.conv (s.cells ++ R)) prev st =
        .ok (⟨st.out ++ T, cols'⟩, T.length) ∧ SegText prev s T := by
  cases s with
  | tok c =>
    obtain ⟨t, cols', hprint, htok⟩ := hp.2 (fuel + 1) R prev st
    exact ⟨t, cols', hprint, SegText.tok t c htok hp.1⟩
  | crun n c =>
    obtain ⟨hsc, hpt, hn5, hn2⟩ := hp
    obtain ⟨t, cols', hprint, htok⟩ := printArgVal_constRun opt hc c hpt n (by omega) fuel prev st
    exact ⟨runText n t, cols', hprint, SegText.crun n t c htok hsc (by omega) hn2⟩
  | irun a d n =>
    have h : RunHyp a d n := hp
    obtain ⟨sep, cols', hsep, hpr⟩ := IntKind.printRange_run (C := intCodec) opt hc h.toKind fuel prev st
    refine ⟨intCodec.runTextL prev a d n sep, cols', by rw [← hpr]; exact printArgVal_rep _ _ _ _ _ _ _, ?_⟩
    unfold IntKind.Codec.runTextL
    rw [← shortForm_eq]
    cases hsf : shortForm prev a d
    · exact SegText.long a d n sep h hsf hsep
    · exact SegText.short a d n sep h hsf hsep

end Rtosc.Pretty
