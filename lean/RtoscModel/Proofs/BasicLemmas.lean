/-
  Facts about the common definitions of `RtoscModel/Basic.lean` and about lists and rounding to 4 that
  several property stacks need: the C string in front of a NUL; what `takeWhile` keeps, what `drop`
  says about one position, `Nodup` of a mapped list, `Option.mapM`, consecutive stores as a splice; the
  two OSC paddings (`4 - n % 4` bytes behind a string, `(4 - n % 4) % 4` behind a blob).
-/
import RtoscModel.Basic
namespace Rtosc

theorem cstr_append_nul (s t : Bytes) (h : ∀ c ∈ s, c ≠ 0) : cstr (s ++ 0 :: t) = some s := by
  induction s with
  | nil => simp [cstr]
  | cons c s ih =>
    simp [cstr, h c List.mem_cons_self, ih fun x hx => h x (List.mem_cons_of_mem _ hx)]

theorem toNul_append_nul (s t : Bytes) (h : ∀ c ∈ s, c ≠ 0) : toNul (s ++ 0 :: t) = some (0 :: t) := by
  induction s with
  | nil => simp [toNul]
  | cons c s ih =>
    simp [toNul, h c List.mem_cons_self, ih fun x hx => h x (List.mem_cons_of_mem _ hx)]

theorem mem_takeWhile {α : Type} (p : α → Bool) : ∀ (l : List α), ∀ x ∈ l.takeWhile p, p x = true := by
  intro l
  induction l with
  | nil => intro x hx; simp at hx
  | cons a l ih =>
    intro x hx
    rw [List.takeWhile_cons] at hx
    split at hx
    · rename_i hp
      rcases List.mem_cons.mp hx with rfl | h
      · exact hp
      · exact ih x h
    · simp at hx

theorem mapM_cons_some {α β : Type} {f : α → Option β} {x : α} {xs : List α} {r : List β}
    (h : (x :: xs).mapM f = some r) : ∃ y ys, f x = some y ∧ xs.mapM f = some ys ∧ r = y :: ys := by
  rw [List.mapM_cons] at h
  cases hx : f x with
  | none => simp [hx] at h
  | some y =>
    cases hxs : xs.mapM f with
    | none => simp [hx, hxs] at h
    | some ys => exact ⟨y, ys, rfl, rfl, by simpa [hx, hxs] using h.symm⟩

theorem mapM_length {α β : Type} (f : α → Option β) : ∀ (l : List α) (l' : List β),
    l.mapM f = some l' → l'.length = l.length
  | [], l', h => by simp at h; simp [h]
  | _ :: xs, _, h => by
    obtain ⟨y, ys, _, hys, rfl⟩ := mapM_cons_some h
    rw [List.length_cons, List.length_cons, mapM_length f xs ys hys]

theorem mapM_mem {α β : Type} {f : α → Option β} : ∀ {l : List α} {l' : List β},
    l.mapM f = some l' → ∀ x ∈ l, ∃ y, f x = some y
  | [], _, _, _, hx => by cases hx
  | _ :: _, _, h, x, hx => by
    obtain ⟨y, ys, hy, hys, _⟩ := mapM_cons_some h
    rcases List.mem_cons.mp hx with rfl | hx'
    · exact ⟨y, hy⟩
    · exact mapM_mem hys x hx'

/-- a store at `i` followed by the splice of `r` behind it is the splice of `b :: r` at `i`: the step of
    every "consecutive stores inside the buffer are a splice" induction -/
theorem set_splice {α : Type} (buf : List α) (i : Nat) (b : α) (r : List α) (hi : i < buf.length) :
    (buf.set i b).take (i + 1) ++ r ++ (buf.set i b).drop (i + 1 + r.length) =
      buf.take i ++ b :: r ++ buf.drop (i + (r.length + 1)) := by
  rw [List.take_add_one, List.take_set_of_le (Nat.le_refl _), List.getElem?_set_self hi,
    List.drop_set_of_lt (by omega), Nat.add_assoc, Nat.add_comm 1]
  simp

theorem getElem?_of_drop {α : Type} {l : List α} {i : Nat} {x : α} {r : List α} (h : l.drop i = x :: r) :
    l[i]? = some x := by
  have := congrArg List.head? h
  simpa [List.head?_drop] using this

theorem drop_succ_of_drop_cons {α : Type} {l : List α} {i : Nat} {x : α} {r : List α}
    (h : l.drop i = x :: r) : l.drop (i + 1) = r := by
  have := congrArg List.tail h
  simpa [List.tail_drop] using this

theorem getElem?_some_lt {α} {l : List α} {i : Nat} {x : α} (h : l[i]? = some x) : i < l.length :=
  (List.getElem?_eq_some_iff.mp h).1

theorem nodup_of_map {α β : Type} (f : α → β) {l : List α} (h : (l.map f).Nodup) : l.Nodup :=
  (List.pairwise_map.mp h).imp fun {a b} hne (e : a = b) => hne (congrArg f e)

theorem inj_of_nodup_map {α β : Type} {f : α → β} {l : List α} (h : (l.map f).Nodup) {x y : α}
    (hx : x ∈ l) (hy : y ∈ l) (e : f x = f y) : x = y := by
  have hp := List.pairwise_map.mp h
  induction l with
  | nil => cases hx
  | cons a r ih =>
    rw [List.pairwise_cons] at hp
    rcases List.mem_cons.mp hx with rfl | hx' <;> rcases List.mem_cons.mp hy with rfl | hy'
    · rfl
    · exact absurd e (hp.1 _ hy')
    · exact absurd e.symm (hp.1 _ hx')
    · exact ih (List.pairwise_map.mpr hp.2) hx' hy' hp.2

theorem add_mod4 {a b : Nat} (ha : a % 4 = 0) (hb : b % 4 = 0) : (a + b) % 4 = 0 := by
  rw [Nat.add_mod, ha, hb]

theorem add_mod4_left {a : Nat} (ha : a % 4 = 0) (n : Nat) : (a + n) % 4 = n % 4 := by
  rw [Nat.add_mod, ha, Nat.zero_add, Nat.mod_mod]

theorem pad_mod4 (n : Nat) : (n + (4 - n % 4)) % 4 = 0 := by omega

theorem pad_mod4' (n : Nat) : (n + (4 - n % 4) % 4) % 4 = 0 := by omega

end Rtosc
