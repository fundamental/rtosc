/-
  C10 / C11 — the two copies of the readers.  Pretty/C11Model.lean repeats `rtosc_scan_arg_val` and
  the ellipsis tail of `rtosc_skip_next_printed_arg` of Pretty/Scan.lean, Pretty/Check.lean.  The
  scanners differ in `delta_from_arg_vals` alone, where C11's signals the overflow of the count
  that C10's wraps (`delta_c11_le`, PrettyRunArith): every answer of C11's copy is the answer of
  C10's (`scanArgVal_c11_le`, `scanOne_c11_le`), not the other way round ("0 ... 2147483647").  The
  checkers do not compare as wholes (C11 rejects `nx… ...`), but their ellipsis tails do for one and
  the same skipper when the left-hand side is no multiplier (`ellipsisTail_c11_le`).  What is
  proved about C11's copy therefore holds of C10's.  Each proof walks the two `do` blocks along
  their join points.  Last: a good scalar token of C10 is read by C11's scanner too
  (`TokOK.scan11_noell`), because a scalar answer of the `switch` never comes from the cases that
  call the scanner again (`scanValue_scalar`).
-/
import RtoscModel.Proofs.PrettyRunArith
namespace Rtosc.Pretty
open Rtosc Rtosc.Libc
open Rtosc.ArgVal (Cell)

/-- every answer of `se` is an answer of `se'` -/
def SeLe (se se' : ElemScanner) : Prop := ∀ a b c d, RLe (se a b c d) (se' a b c d)

theorem scanArrayElems_seLe {se se' : ElemScanner} (h : SeLe se se') :
    ∀ lf s prev i pok acc ty, RLe (scanArrayElems se lf s prev i pok acc ty) (scanArrayElems se' lf s prev i pok acc ty)
  | 0, _, _, _, _, _, _ => .refl _
  | lf + 1, s, prev, i, pok, acc, ty => by
    unfold scanArrayElems
    refine .ite (fun _ => .bind (h ..) fun x => ?_) fun _ => .refl _
    dsimp (config := {zeta := false, zetaHave := false}) only
    -- `J`: the turn behind the element, `K`: behind its type, `L`: the rest of the loop
    extract_lets J J'
    have hJ : ∀ u, RLe (J u) (J' u) := by
      intro u
      jp_unfold J; jp_unfold J'
      refine .bind (.refl _) fun s1 => .bind (.refl _) fun ok' => .bind (.refl _) fun c0 => ?_
      extract_lets K K'
      have hK : ∀ t, RLe (K t) (K' t) := by
        intro t
        jp_unfold K; jp_unfold K'
        refine .bind (.refl _) fun n => ?_
        extract_lets L L'
        have hL : ∀ u, RLe (L u) (L' u) := fun _ => scanArrayElems_seLe h lf ..
        clear_value L L'
        exact .ite (fun _ => .bind (.refl _) hL) fun _ => hL ()
      clear_value K K'
      cases c0 <;> exact .bind (.refl _) hK
    clear_value J J'
    exact .ite (fun _ => .bind (.refl _) hJ) fun _ => hJ ()

theorem scanArray_seLe {se se' : ElemScanner} (h : SeLe se se') (src : Bytes) (prev : List Cell) :
    RLe (scanArray se src prev) (scanArray se' src prev) := by
  unfold scanArray
  exact .bind (scanArrayElems_seLe h ..) fun _ => .refl _

theorem scanMultiplier_seLe {se se' : ElemScanner} (h : SeLe se se') (src : Bytes) :
    RLe (scanMultiplier se src) (scanMultiplier se' src) := by
  unfold scanMultiplier
  extract_lets J J'
  have hJ : ∀ x, RLe (J x) (J' x) := fun _ => .bind (h ..) fun _ => .refl _
  clear_value J J'
  split <;> exact .bind (.refl _) hJ

/-- only the cases `[` and `nx…` of the `switch` call the scanner -/
theorem scanValue_seLe {se se' : ElemScanner} (h : SeLe se se') (src : Bytes) (prev : List Cell) :
    RLe (scanValue se src prev) (scanValue se' src prev) := by
  unfold scanValue
  exact .ite (fun _ => .refl _) fun _ => .ite (fun _ => .refl _) fun _ => .ite (fun _ => .refl _) fun _ =>
  .ite (fun _ => .refl _) fun _ => .ite (fun _ => .refl _) fun _ => .ite (fun _ => scanArray_seLe h src prev) fun _ =>
  .ite (fun _ => .refl _) fun _ => .ite (fun _ => scanMultiplier_seLe h src) fun _ => .refl _

theorem finishArg_c11_le {se se' : ElemScanner} (h : SeLe se se') (src : Bytes) (v : ValRes) (prev : List Cell) (ab : Nat)
    (fe : Bool) : RLe (C11.finishArg se src v prev ab fe) (finishArg se' src v prev ab fe) := by
  unfold C11.finishArg finishArg
  extract_lets rest cells src2 s1 infinite p3 block A A'
  clear_value block p3
  refine .ite (fun _ => ?_) fun _ => .refl _
  have hA : ∀ u, RLe (A u) (A' u) := by
    intro u
    jp_unfold A; jp_unfold A'
    refine .bind (.refl _) fun lhsarg => ?_
    -- `R`: what the block does with the right-hand side, `D`: with the delta (the same on both sides),
    -- `Q`: with the left neighbour, `U`: with `useless`
    extract_lets numericRange R R'
    have hR : ∀ x, RLe (R x) (R' x) := by
      rintro ⟨s2, rhs⟩
      jp_unfold R; jp_unfold R'
      extract_lets D Q D' Q'
      have hD : ∀ y, RLe (D y) (D' y) := fun y => .refl _
      clear_value D D'
      have hQ : ∀ llhs, RLe (Q llhs) (Q' llhs) := by
        intro llhs
        jp_unfold Q; jp_unfold Q'
        extract_lets U U'
        have hU : ∀ us, RLe (U us) (U' us) := by
          intro us
          jp_unfold U; jp_unfold U'
          exact .ite (fun _ => .bind (.refl _) hD) fun _ => .bind (delta_c11_le ..) fun y =>
            .ite (fun _ => .bind (.refl _) hD) fun _ => .bind (.refl _) hD
        clear_value U U'
        refine .ite (fun _ => .bind (.refl _) hU) fun _ => .ite (fun _ => .bind (.refl _) hU) fun _ => ?_
        cases llhs with
        | none => exact .bind (.refl _) hU
        | some ll => exact .ite (fun _ => .bind (.refl _) hU) fun _ => .bind (.refl _) fun r => .bind (.refl _) hU
      clear_value Q Q'
      refine .ite (fun _ => ?_) fun _ => .bind (.refl _) hQ
      rcases p3 with _ | ⟨c, t⟩
      · exact .bind (.refl _) hQ
      · cases c with
        | rep num hd => exact .bind (.refl _) fun o => by cases o <;> exact .bind (.refl _) hQ
        | _ => exact .bind (.refl _) hQ
    clear_value R R'
    exact .ite (fun _ => .bind (.refl _) hR) fun _ =>
      .bind (h ..) fun y => .bind (.refl _) fun r => .bind (.refl _) fun rc => .bind (.refl _) hR
  clear_value A A'
  exact .ite (fun _ => .bind (.refl _) hA) fun _ => hA ()

/-- **every answer of C11's copy of `rtosc_scan_arg_val` is the answer of C10's** -/
theorem scanArgVal_c11_le : ∀ f, SeLe (C11.scanArgVal f) (scanArgVal f)
  | 0 => fun _ _ _ _ => .refl _
  | f + 1 => fun s prev ab fe => by
    unfold C11.scanArgVal scanArgVal
    rw [c11_scanValue_eq]
    exact .bind (scanValue_seLe (scanArgVal_c11_le f) s prev) fun v => finishArg_c11_le (scanArgVal_c11_le f) ..

theorem scanOne_c11_le (s : Bytes) : RLe (C11.scanOne s) (scanOne s) := by
  unfold C11.scanOne scanOne
  exact .bind (scanArgVal_c11_le ..) fun _ => .refl _

theorem ellipsisTail_c11_le (sk : ArgSkipper) (oldSrc : Bytes) (sw : SwRes) (src2 : Bytes) (ll : Option Bytes) (ib : Bool)
    (hnm : isRangeMultiplier oldSrc = false) :
    RLe (C11.ellipsisTail sk oldSrc sw src2 ll ib) (ellipsisTail sk oldSrc sw src2 ll ib) := by
  unfold C11.ellipsisTail ellipsisTail
  simp (config := {zeta := false, zetaHave := false}) only [hnm, Bool.false_eq_true, ↓reduceIte]
  -- `J`, `J'`: what the two blocks do with the right-hand side
  extract_lets skipped ellipsis rhssrc lhssrc lhstype numericRange fail J J'
  have hJ : ∀ x, RLe (J x) (J' x) := by
    rintro (_ | ⟨endsrc, rhstype, rhsarg, infinite⟩)
    · exact .refl _
    · jp_unfold J; jp_unfold J'
      refine .ite (fun _ => .refl _) fun _ => ?_
      -- `N`: what is returned for `has_delta`; `K`: what the block does with the left-hand side
      extract_lets N K N' K'
      have hN : ∀ h, RLe (N h) (N' h) := fun h => .refl _
      clear_value N N'
      have hK : ∀ lhsarg, RLe (K lhsarg) (K' lhsarg) := by
        intro lhsarg
        jp_unfold K; jp_unfold K'
        extract_lets M M'
        have hM : ∀ x, RLe (M x) (M' x) := by
          intro x
          jp_unfold M; jp_unfold M'
          refine .ite (fun _ => .bind (.refl _) hN) fun _ => ?_
          extract_lets L'
          cases lhsarg with
          | none => exact .error _ _
          | some l =>
            refine .bind (.refl _) fun l1 => ?_
            jp_unfold L'
            exact .bind (delta_c11_le ..) fun y => .ite (fun _ => .bind (.refl _) hN) fun _ => .bind (.refl _) hN
        clear_value M M'
        cases ll with
        | none => exact .bind (.refl _) hM
        | some ll0 =>
          refine .bind (.refl _) fun ra => ?_
          extract_lets after ll1
          refine .bind (.refl _) fun rl => .ite (fun _ => .bind (scanOne_c11_le _) fun llc => ?_) fun _ => .bind (.refl _) hM
          extract_lets C'
          cases lhsarg with
          | none => exact .error _ _
          | some l =>
            refine .bind (.refl _) fun l1 => ?_
            jp_unfold C'
            exact .bind (.refl _) fun r => .ite (fun _ => .bind (.refl _) hM) fun _ => .bind (.refl _) hM
      clear_value K K'
      exact .ite (fun _ => .bind (.bind (scanOne_c11_le _) fun _ => .refl _) hK) fun _ => .bind (.refl _) hK
  clear_value J J'
  have h1 : ¬ (isRangeMultiplier oldSrc = true) := by simp [hnm]
  rw [if_neg h1]
  refine .ite (fun _ => .bind (.refl _) hJ) fun _ => .ite (fun _ => .bind (.refl _) hJ) fun _ => .bind (.refl _) fun r => ?_
  cases r.src with
  | none => exact .bind (.refl _) hJ
  | some endsrc => exact .bind (scanOne_c11_le _) fun rc => .bind (.refl _) hJ

theorem scanArray_cells (se : ElemScanner) (s : Bytes) (prev : List Cell) :
    AllOk (fun v : ValRes => ∃ ty n more, v.cells = Cell.arr ty n :: more) (scanArray se s prev) := by
  unfold scanArray
  exact .bind fun ⟨s2, elems, ty⟩ => .bind fun r => AllOk.ok _ ⟨_, _, _, rfl⟩

theorem scanMultiplier_cells (se : ElemScanner) (s : Bytes) :
    AllOk (fun v : ValRes => ∃ m more, v.cells = Cell.rep m 0 :: more) (scanMultiplier se s) := by
  unfold scanMultiplier
  extract_lets J
  have hJ : ∀ x, AllOk (fun v : ValRes => ∃ m more, v.cells = Cell.rep m 0 :: more) (J x) := fun x =>
    .bind fun y => .bind fun r => AllOk.ok _ ⟨_, _, rfl⟩
  clear_value J
  split <;> exact .bind hJ

/-- a scalar answer of the `switch` of `rtosc_scan_arg_val` does not come from one of the two cases
    (`[`, `nx…`) that call the scanner again -/
theorem scanValue_scalar {se se' : ElemScanner} {s : Bytes} {prev : List Cell} {r : Bytes} {c : Cell} {av : Bool}
    (h : scanValue se s prev = .ok ⟨r, [c], av⟩) (hsc : c.isScalar = true) :
    scanValue se' s prev = .ok ⟨r, [c], av⟩ := by
  unfold scanValue at h ⊢
  simp only at h ⊢
  by_cases h1 : hd s = 116 ∨ hd s = 102 ∨ hd s = 110 ∨ hd s = 105
  · rwa [if_pos h1] at h ⊢
  rw [if_neg h1] at h ⊢
  by_cases h2 : hd s = 35
  · rwa [if_pos h2] at h ⊢
  rw [if_neg h2] at h ⊢
  by_cases h3 : hd s = 39
  · rwa [if_pos h3] at h ⊢
  rw [if_neg h3] at h ⊢
  by_cases h4 : hd s = 34
  · rwa [if_pos h4] at h ⊢
  rw [if_neg h4] at h ⊢
  by_cases h5 : hd s = 77
  · rwa [if_pos h5] at h ⊢
  rw [if_neg h5] at h ⊢
  by_cases h6 : hd s = 91
  · rw [if_pos h6] at h
    obtain ⟨ty, n, more, hc⟩ := scanArray_cells se s prev _ h
    cases hc
    cases hsc
  rw [if_neg h6] at h ⊢
  by_cases h7 : hd s = 66
  · rwa [if_pos h7] at h ⊢
  rw [if_neg h7] at h ⊢
  by_cases h8 : isRangeMultiplier s = true
  · rw [if_pos h8] at h
    obtain ⟨m, more, hc⟩ := scanMultiplier_cells se s _ h
    cases hc
    cases hsc
  rw [if_neg h8] at h ⊢
  exact h

theorem TokOK.scan11_noell {t : Bytes} {c : Cell} (h : TokOK t c) (hsc : c.isScalar = true) (rest : Bytes) (fuel : Nat)
    (prev : List Cell) (ab : Nat) (hs : Sep rest) :
    C11.scanArgVal (fuel + 1) (t ++ rest) prev ab false = .ok (t.length, [c]) := by
  have h0 := h.scan_noell rest fuel prev ab hs
  obtain ⟨v, hv⟩ := scanArgVal_ok_value h0
  rw [scanArgVal_value _ _ hv, finishArg_noEllipsis _ _ _ _ _ false (fun hc => Bool.noConfusion hc.1)] at h0
  obtain ⟨r, cells, av⟩ := v
  simp only [Except.ok.injEq, Prod.mk.injEq] at h0
  obtain ⟨hlen, rfl⟩ := h0
  rw [C11.scanArgVal_value _ _ (scanValue_scalar hv hsc)]
  unfold C11.finishArg
  simp only [List.length_append] at hlen
  simp [pure, Except.pure, hlen]

end Rtosc.Pretty
