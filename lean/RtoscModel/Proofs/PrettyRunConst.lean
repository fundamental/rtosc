/-
  C10 — tier 3: constant runs.  With range compression on, `n ≥ 5` copies of one scalar value are
  printed as `nxT` (multiplier, 'x', the token of the value) and read back by the checker and the
  scanner as the range block `[rep n 0, c]`.

  Here: scanner and checker called without `follow_ellipsis`; the exits of the printer's run
  detection `rtosc_convert_to_range` at a scalar head, and the function on a constant run followed
  by any well-formed cells; `rtosc_print_range` in the "nx" branch; the token `nx` in front of a
  value for scanner and checker.  The round trip of a constant run is that of a list of one
  segment (PrettyRunsArrMsg).
-/
import RtoscModel.Proofs.PrettyMsg
import RtoscModel.Proofs.PrettyTokNum
import RtoscModel.Proofs.ArgValBridge
namespace Rtosc.Pretty
open Rtosc Rtosc.Libc
open Rtosc.ArgVal (Cell)

def AllOk {α} (P : α → Prop) (x : Res α) : Prop := ∀ y, x = .ok y → P y

theorem AllOk.bind {α β} {P : β → Prop} {x : Res α} {f : α → Res β} (h : ∀ a, AllOk P (f a)) : AllOk P (x >>= f) := by
  intro y hy
  cases x with
  | error e => cases hy
  | ok a => exact h a y hy

theorem AllOk.bind' {α β} {P : β → Prop} {x : Res α} {f : α → Res β} (h : ∀ a, x = .ok a → AllOk P (f a)) :
    AllOk P (x >>= f) := by
  intro y hy
  cases x with
  | error e => cases hy
  | ok a => exact h a rfl y hy

theorem AllOk.ite {α} {P : α → Prop} {c : Prop} [Decidable c] {a b : Res α} (h1 : c → AllOk P a) (h2 : ¬ c → AllOk P b) :
    AllOk P (if c then a else b) := by
  by_cases hc : c
  · rw [if_pos hc]; exact h1 hc
  · rw [if_neg hc]; exact h2 hc

theorem AllOk.ok {α} {P : α → Prop} (a : α) (h : P a) : AllOk P (.ok a : Res α) := by
  intro y hy; cases hy; exact h

theorem AllOk.error {α} {P : α → Prop} (e : Err) : AllOk P (.error e : Res α) := by
  intro y hy; cases hy

theorem AllOk.throw' {α} {P : α → Prop} (e : Err) : AllOk P (throw e : Res α) := by
  intro y hy; cases hy

/-- a join point of a `do` block, unfolded without inlining the join points inside it -/
macro "jp_unfold " h:ident : tactic =>
  `(tactic| simp (config := {zeta := false, zetaHave := false}) only [$h:ident])

/-- the skip failed, or it skipped a range (type '-') -/
def P45 (r : SkipRes) : Prop := r.src = none ∨ r.type = 45

/-- every exit of the ellipsis tail of `rtosc_skip_next_printed_arg` fails or has the type '-':
    the `do` block is walked along its join points (`extract_lets` names the next one, it is proved
    for every argument, then the text in front of it is a chain of `>>=` and `if`) -/
theorem ellipsisTail_type (sk : ArgSkipper) (oldSrc : Bytes) (sw : SwRes) (src2 : Bytes) (llhs : Option Bytes)
    (ib : Bool) : AllOk P45 (ellipsisTail sk oldSrc sw src2 llhs ib) := by
  unfold ellipsisTail
  extract_lets skipped ellipsis rhssrc lhssrc lhstype numericRange fail J
  have hfail : AllOk P45 (pure fail) := AllOk.ok _ (Or.inl rfl)
  have hJ : ∀ x, AllOk P45 (J x) := by
    rintro (_ | ⟨endsrc, rhstype, rhsarg, infinite⟩)
    · exact hfail
    · jp_unfold J
      refine .ite (fun _ => hfail) fun _ => ?_
      -- `N`: what is returned for `has_delta`; `K`: what the block does with the left-hand side
      extract_lets N K
      have hN : ∀ h, AllOk P45 (N h) := by
        rintro (_ | hdl)
        · exact hfail
        · exact AllOk.ok _ (Or.inr rfl)
      clear_value N
      have hK : ∀ lhsarg, AllOk P45 (K lhsarg) := by
        intro lhsarg
        jp_unfold K
        -- `M`: … with `useless` and the left neighbour
        extract_lets M
        have hM : ∀ x, AllOk P45 (M x) := by
          intro x
          jp_unfold M
          refine .ite (fun _ => .bind hN) fun _ => ?_
          extract_lets L
          have hL : ∀ l, AllOk P45 (L l) := fun l =>
            .bind fun y => .ite (fun _ => .bind hN) fun _ => .bind hN
          clear_value L
          cases lhsarg <;> exact .bind hL
        clear_value M
        cases llhs with
        | none => exact .bind hM
        | some ll0 =>
          refine .bind fun ra => ?_
          extract_lets after ll1
          refine .bind fun rl => .ite (fun _ => .bind fun llc => ?_) fun _ => .bind hM
          extract_lets C
          have hC : ∀ l, AllOk P45 (C l) := fun l =>
            .bind fun r => .ite (fun _ => .bind hM) fun _ => .bind hM
          clear_value C
          cases lhsarg <;> exact .bind hC
      clear_value K
      exact .ite (fun _ => .bind hK) fun _ => .bind hK
  clear_value J
  refine .ite (fun _ => .bind hJ) fun _ => .ite (fun _ => .bind hJ) fun _ => .bind fun r => ?_
  cases r.src with
  | none => exact .bind hJ
  | some endsrc => exact .bind fun rc => .bind hJ

/-- a successful `rtosc_skip_next_printed_arg` that did not end the text: its `switch` skipped a value -/
theorem skipNext_ok_value {f : Nat} {s : Bytes} {ty : UInt8} {llhs : Option Bytes} {fe ib : Bool} {r : SkipRes}
    (h : skipNextPrintedArg (f + 1) s ty llhs fe ib = .ok r) (hsrc : r.src ≠ none) :
    ∃ sw src, skipValue (skipNextPrintedArg f) s ty ib = .ok (some sw) ∧ sw.src = some src := by
  unfold skipNextPrintedArg at h
  cases hv : skipValue (skipNextPrintedArg f) s ty ib with
  | error e => rw [hv] at h; cases h
  | ok o =>
    rw [hv] at h
    cases o with
    | none => cases h; exact absurd rfl hsrc
    | some sw =>
      cases hsw : sw.src with
      | none =>
        simp only [bind, Except.bind, hsw] at h
        cases h; exact absurd rfl hsrc
      | some src => exact ⟨sw, src, rfl, hsw⟩

theorem skipNext_noEllipsis (f : Nat) (s : Bytes) (ty : UInt8) (llhs llhs' : Option Bytes) (ib : Bool) (r : SkipRes)
    (h : skipNextPrintedArg (f + 1) s ty llhs true ib = .ok r) (hsrc : r.src ≠ none) (hty : r.type ≠ 45) :
    skipNextPrintedArg (f + 1) s ty llhs' false ib = .ok r := by
  obtain ⟨sw, src, hv, hsw⟩ := skipNext_ok_value h hsrc
  rw [skipNext_value _ _ hv hsw] at h ⊢
  rw [if_neg (fun hc => Bool.noConfusion hc.1)]
  by_cases hst : startsWith (skipSpace src) [46, 46, 46] = true
  · rw [if_pos ⟨rfl, hst⟩] at h
    rcases ellipsisTail_type _ _ _ _ _ _ r h with h1 | h1
    · exact absurd h1 hsrc
    · exact absurd h1 hty
  · rwa [if_neg (fun hc => hst hc.2)] at h

/-- the scanner wrote at least two cells -/
abbrev P2 (p : Nat × List Cell) : Prop := 2 ≤ p.2.length

/-- behind an ellipsis `rtosc_scan_arg_val` writes at least two cells (the range header in front of
    the value's own) -/
theorem finishArg_ellipsis (se : ElemScanner) (src : Bytes) (v : ValRes) (prev : List Cell) (ab : Nat)
    (hst : startsWith (skipSpace v.rest) [46, 46, 46] = true) :
    AllOk P2 (finishArg se src v prev ab true) := by
  unfold finishArg
  extract_lets rest cells src2 s1 infinite p3 block A
  clear_value block p3
  have hA : ∀ u, AllOk P2 (A u) := by
    intro u
    jp_unfold A
    refine AllOk.bind' fun lhsarg hl => ?_
    have hne : 1 ≤ cells.length := by
      cases hc : cells with
      | nil => rw [hc] at hl; cases hl
      | cons c cs => simp
    -- `R`: what the block does with the right-hand side, `Q`: with the left neighbour, `U`: with `useless`,
    -- `D`: with the delta, `E`: with the delta cell, `F`: the result
    extract_lets numericRange R
    have hR : ∀ x, AllOk P2 (R x) := by
      rintro ⟨s2, rhs⟩
      jp_unfold R
      extract_lets D Q
      have hD : ∀ y, AllOk P2 (D y) := by
        rintro ⟨hasDelta, num, delta⟩
        jp_unfold D
        extract_lets hdr E
        have hE : ∀ dcell, AllOk P2 (E dcell) := by
          intro dcell
          jp_unfold E
          extract_lets F
          have hF : ∀ u, AllOk P2 (F u) := fun _ => AllOk.ok _ (by
            show 2 ≤ (hdr :: dcell ++ cells).length
            simp only [List.length_cons, List.length_append]; omega)
          clear_value F
          exact .ite (fun _ => .bind hF) fun _ => hF ()
        clear_value E
        exact .ite (fun _ => .bind hE) fun _ => .bind hE
      clear_value D
      have hQ : ∀ llhs, AllOk P2 (Q llhs) := by
        intro llhs
        jp_unfold Q
        extract_lets U
        have hU : ∀ us, AllOk P2 (U us) := by
          intro us
          jp_unfold U
          exact .ite (fun _ => .bind hD) fun _ => .bind fun z => .ite (fun _ => .bind hD) fun _ => .bind hD
        clear_value U
        refine .ite (fun _ => .bind hU) fun _ => .ite (fun _ => .bind hU) fun _ => ?_
        cases llhs with
        | none => exact .bind hU
        | some ll => exact .ite (fun _ => .bind hU) fun _ => .bind fun r => .bind hU
      clear_value Q
      refine .ite (fun _ => ?_) fun _ => .bind hQ
      split
      · exact .bind fun o => by cases o <;> exact .bind hQ
      · exact .bind hQ
    clear_value R
    exact .ite (fun _ => .bind hR) fun _ => .bind fun y => .bind fun r => .bind fun rc => .bind hR
  clear_value A
  rw [if_pos ⟨rfl, hst⟩]
  exact .ite (fun _ => .bind hA) fun _ => hA ()

theorem finishArg_noEllipsis (se : ElemScanner) (src : Bytes) (v : ValRes) (prev : List Cell) (ab : Nat) (fe : Bool)
    (h : ¬ (fe = true ∧ startsWith (skipSpace v.rest) [46, 46, 46] = true)) :
    finishArg se src v prev ab fe = .ok (src.length - v.rest.length, v.cells) := by
  unfold finishArg
  exact if_neg h

/-- a successful `rtosc_scan_arg_val` had a value from its `switch` -/
theorem scanArgVal_ok_value {f : Nat} {s : Bytes} {prev : List Cell} {ab : Nat} {fe : Bool} {r : Nat × List Cell}
    (h : scanArgVal (f + 1) s prev ab fe = .ok r) : ∃ v, scanValue (scanArgVal f) s prev = .ok v := by
  unfold scanArgVal at h
  cases hv : scanValue (scanArgVal f) s prev with
  | error e => rw [hv] at h; cases h
  | ok v => exact ⟨v, rfl⟩

theorem scanArgVal_noEllipsis (f : Nat) (s : Bytes) (prev : List Cell) (ab k : Nat) (c : Cell)
    (h : scanArgVal (f + 1) s prev ab true = .ok (k, [c])) :
    scanArgVal (f + 1) s prev ab false = .ok (k, [c]) := by
  obtain ⟨v, hv⟩ := scanArgVal_ok_value h
  rw [scanArgVal_value _ _ hv] at h ⊢
  rw [finishArg_noEllipsis _ _ _ _ _ false (fun hc => Bool.noConfusion hc.1)]
  by_cases hst : startsWith (skipSpace v.rest) [46, 46, 46] = true
  · have := finishArg_ellipsis _ _ _ _ _ hst _ h
    simp [P2] at this
  · rwa [finishArg_noEllipsis _ _ _ _ _ true (fun hc => hst hc.2)] at h

theorem scalar_type_ne_range (c : Cell) (hsc : c.isScalar = true) : c.type ≠ ArgVal.tyRange := fun e => by
  cases ArgVal.SameType.of_type_eq (b := .rep 0 0) e
  cases hsc

theorem TokOK.scan_noell {t : Bytes} {c : Cell} (h : TokOK t c) (rest : Bytes) (fuel : Nat) (prev : List Cell) (ab : Nat)
    (hs : Sep rest) : scanArgVal (fuel + 1) (t ++ rest) prev ab false = .ok (t.length, [c]) :=
  scanArgVal_noEllipsis fuel _ prev ab _ c (h.scan rest fuel prev ab hs)

theorem TokOK.skip_noell {t : Bytes} {c : Cell} (h : TokOK t c) (hsc : c.isScalar = true) (rest : Bytes) (fuel : Nat)
    (ty : UInt8) (llhs : Option Bytes) (ib : Bool) (hs : Sep rest) :
    skipNextPrintedArg (fuel + 1) (t ++ rest) ty llhs false ib = .ok ⟨some rest, 1, c.type⟩ := by
  obtain ⟨r, hr, hsrc, hsk, hty⟩ := h.skip rest fuel ty llhs ib hs
  rw [skipNext_noEllipsis fuel (t ++ rest) ty llhs llhs ib r hr (by rw [hsrc]; simp)
    (by rw [hty]; exact scalar_type_ne_range c hsc)]
  cases r
  simp_all

theorem WFCells.append_scalars {l r : List Cell} (hl : ∀ c ∈ l, c.isScalar = true) (hr : WFCells r) : WFCells (l ++ r) := by
  induction l with
  | nil => exact hr
  | cons c l ih => exact .scalar c _ (hl c (by simp)) (ih (fun x hx => hl x (by simp [hx])))

theorem WFCells.of_scalars {l : List Cell} (hl : ∀ c ∈ l, c.isScalar = true) : WFCells l := by
  simpa using WFCells.append_scalars hl .nil

theorem countCommon_total (ty : UInt8) {R : List Cell} (hR : WFCells R) :
    ∀ (pre : List Cell) (fuel n0 : Nat), R.length < fuel →
      ∃ m, n0 ≤ m ∧ countCommon fuel ty (pre ++ R) (pre ++ R).length pre.length n0 = .ok m := by
  induction hR with
  | nil =>
    intro pre fuel n0 hf
    obtain ⟨f, rfl⟩ : ∃ f, fuel = f + 1 := ⟨fuel - 1, by omega⟩
    refine ⟨n0, Nat.le_refl _, ?_⟩
    rw [countCommon]
    simp [pure, Except.pure]
  | scalar c r hsc _ ih =>
    intro pre fuel n0 hf
    obtain ⟨f, rfl⟩ : ∃ f, fuel = f + 1 := ⟨fuel - 1, by omega⟩
    rw [countCommon]
    have hlt : pre.length < (pre ++ c :: r).length := by simp
    simp only [hlt, ↓reduceIte, List.drop_left', deref, bind, Except.bind, incsize_scalar c r hsc]
    split
    · exact ⟨n0, Nat.le_refl _, rfl⟩
    · obtain ⟨m, hm, hcc⟩ := ih (pre ++ [c]) f (n0 + 1) (by simp only [List.length_cons] at hf; omega)
      refine ⟨m, by omega, ?_⟩
      simpa [List.append_assoc] using hcc
  | arr ety es r _ ih =>
    intro pre fuel n0 hf
    obtain ⟨f, rfl⟩ : ∃ f, fuel = f + 1 := ⟨fuel - 1, by omega⟩
    rw [countCommon]
    have hlt : pre.length < (pre ++ Cell.arr ety es.length :: (es ++ r)).length := by simp
    have hne : ¬ ((es.length : Int) < 0) := by omega
    simp only [hlt, ↓reduceIte, List.drop_left', deref, bind, Except.bind, incsize, hne, pure, Except.pure,
      Int.toNat_natCast]
    split
    · exact ⟨n0, Nat.le_refl _, rfl⟩
    · obtain ⟨m, hm, hcc⟩ := ih (pre ++ Cell.arr ety es.length :: es) f (n0 + 1) (by
        simp only [List.length_cons, List.length_append] at hf; omega)
      refine ⟨m, by omega, ?_⟩
      have e : pre ++ Cell.arr ety es.length :: es ++ r = pre ++ Cell.arr ety es.length :: (es ++ r) := by simp
      have e2 : (pre ++ Cell.arr ety es.length :: es).length = pre.length + (es.length + 1) := by simp
      rw [e, e2] at hcc
      exact hcc

theorem countCommon_prefix (ty : UInt8) {R : List Cell} (hR : WFCells R) :
    ∀ (P pre : List Cell) (fuel n0 : Nat), (∀ c ∈ P, c.isScalar = true ∧ c.type = ty) → P.length + R.length < fuel →
      ∃ m, n0 + P.length ≤ m ∧ countCommon fuel ty (pre ++ (P ++ R)) (pre ++ (P ++ R)).length pre.length n0 = .ok m := by
  intro P
  induction P with
  | nil =>
    intro pre fuel n0 _ hf
    obtain ⟨m, hm, hcc⟩ := countCommon_total ty hR pre fuel n0 (by simpa using hf)
    exact ⟨m, by simpa using hm, by simpa using hcc⟩
  | cons c P ih =>
    intro pre fuel n0 hP hf
    obtain ⟨f, rfl⟩ : ∃ f, fuel = f + 1 := ⟨fuel - 1, by omega⟩
    obtain ⟨hsc, hty⟩ := hP c (by simp)
    rw [countCommon]
    simp only [↓reduceIte, List.drop_left', List.cons_append, deref, bind, Except.bind, incsize_scalar c _ hsc,
      hty, ne_eq, not_true_eq_false]
    obtain ⟨m, hm, hcc⟩ := ih (pre ++ [c]) f (n0 + 1) (fun x hx => hP x (by simp [hx])) (by
      simp only [List.length_cons] at hf; omega)
    refine ⟨m, by simp only [List.length_cons]; omega, ?_⟩
    simpa [List.append_assoc] using hcc

theorem drop_replicate_append (n s : Nat) (c : Cell) (R : List Cell) (hs : s < n) :
    (List.replicate n c ++ R).drop s = c :: (List.replicate (n - s - 1) c ++ R) := by
  obtain ⟨m, hm⟩ : ∃ m, n - s = m + 1 := ⟨n - s - 1, by omega⟩
  rw [List.drop_append_of_le_length (by simp; omega), List.drop_replicate, hm, List.replicate_succ]
  simp

theorem extendRun_replicate_next (c : Cell) (hsc : c.isScalar = true) (hid : SelfIdentical c) (n : Nat) (R : List Cell)
    (hnext : R = [] ∨ ∀ more, rangeArgsIdentical (c :: more) R = .ok false) :
    ∀ (fuel s k : Nat), s < n → n - s ≤ fuel →
      extendRun fuel (List.replicate n c ++ R) (n + R.length) none s k = .ok (n, k + (n - s)) := by
  intro fuel
  induction fuel with
  | zero => intro s k h1 h2; omega
  | succ f ih =>
    intro s k hs hf
    unfold extendRun
    simp only [drop_replicate_append n s c R hs, incsize_scalar c _ hsc, bind, Except.bind]
    have h0 : List.replicate n c ++ R = c :: (List.replicate (n - 0 - 1) c ++ R) := by
      simpa using drop_replicate_append n 0 c R (by omega)
    by_cases hlt : s + 1 < n
    · have hge : ¬ (s + 1 ≥ n + R.length) := by omega
      simp only [hge, ↓reduceIte]
      rw [drop_replicate_append n (s + 1) c R hlt]
      rw [h0, hid]
      simp only [Bool.not_true, Bool.false_eq_true, ↓reduceIte]
      rw [← h0, ih (s + 1) (k + 1) hlt (by omega)]
      congr 2; omega
    · have hsn : s + 1 = n := by omega
      by_cases hR : R = []
      · subst hR
        have hge : s + 1 ≥ n + ([] : List Cell).length := by simp; omega
        simp only [hge, ↓reduceIte, pure, Except.pure]
        congr 2 <;> omega
      · have hpos : 0 < R.length := List.length_pos_iff.mpr hR
        have hge : ¬ (s + 1 ≥ n + R.length) := by omega
        simp only [hge, ↓reduceIte]
        rw [hsn, List.drop_left' List.length_replicate, h0, hnext.resolve_left hR]
        simp only [Bool.not_false, ↓reduceIte, pure, Except.pure]
        congr 2 <;> omega

/-- The exits of `rtosc_convert_to_range` at a scalar head.  What its two loops return (`countCommon`,
    `extendRun`) are hypotheses, so the rest of the list stays a variable.  Here the early exit: fewer
    than `rangeMin` values are left or have the head's type. -/
theorem convertToRange_few (opt : POpt) (c0 : Cell) (rest : List Cell) (size : Nat) (hsc : c0.isScalar = true) {m : Nat}
    (hcc : countCommon (size + 1) c0.type (c0 :: rest) size 0 0 = .ok m) (h : size < rangeMin ∨ m < rangeMin) :
    convertToRange opt (c0 :: rest) size = .ok none := by
  by_cases hs : size < rangeMin
  · exact convertToRange_small opt _ size hs
  · unfold convertToRange
    by_cases hc : opt.compress = true
    · simp [hs, h.resolve_left hs, bind, Except.bind, deref, scalar_type_ne_range c0 hsc, hc, hcc, pure, Except.pure]
    · simp [hs, bind, Except.bind, deref, hc, pure, Except.pure]

/-! lists without five values of one type in a row: the printer makes no range -/

/-- the type-counting loop stops at a cell of another type -/
theorem countCommon_le (ty : UInt8) (arg : List Cell) (hsc : ∀ c ∈ arg, c.isScalar = true) (size : Nat) (j : Nat)
    (hj : j < arg.length) (hjs : j < size) (hty : (arg.getD j (.flag .N)).type ≠ ty) :
    ∀ (fuel i n : Nat), i ≤ j → ∀ m, countCommon fuel ty arg size i n = .ok m → m ≤ n + (j - i) := by
  intro fuel
  induction fuel with
  | zero => intro i n _ m h; simp [countCommon] at h
  | succ f ih =>
    intro i n hij m h
    unfold countCommon at h
    have hlt : i < size := by omega
    simp only [hlt, ↓reduceIte] at h
    have hil : i < arg.length := by omega
    obtain ⟨c, more, hd⟩ : ∃ c more, arg.drop i = c :: more := ⟨_, _, List.drop_eq_getElem_cons hil⟩
    have hc : arg.getD i (.flag .N) = c := by
      have : (arg.drop i).head? = some c := by rw [hd]; rfl
      rw [List.head?_drop] at this
      simp [List.getD, this]
    have hcs : c.isScalar = true := hsc c (List.mem_of_mem_drop (by rw [hd]; simp))
    simp only [hd, deref, bind, Except.bind, incsize_scalar c more hcs] at h
    split at h
    · simp only [pure, Except.pure, Except.ok.injEq] at h
      omega
    · next hne =>
      have hij' : i ≠ j := by
        intro e; subst e; rw [hc] at hty; exact hne hty
      have := ih (i + 1) (n + 1) (by omega) m h
      omega

theorem countCommon_ok (ty : UInt8) (arg : List Cell) (hsc : ∀ c ∈ arg, c.isScalar = true) (size : Nat)
    (hsize : size = arg.length) (fuel n : Nat) (hf : size < fuel) :
    ∃ m, countCommon fuel ty arg size 0 n = .ok m := by
  subst hsize
  obtain ⟨m, _, h⟩ := countCommon_total ty (WFCells.of_scalars hsc) [] fuel n hf
  exact ⟨m, by simpa using h⟩

theorem convertToRange_shortRun (opt : POpt) (c : Cell) (more : List Cell) (size : Nat)
    (hsize : size = (c :: more).length)
    (hsc : ∀ x ∈ c :: more, x.isScalar = true) (h : shortRun (c :: more) = true) :
    convertToRange opt (c :: more) size = .ok none := by
  obtain ⟨m, hcc⟩ := countCommon_ok c.type (c :: more) hsc size hsize (size + 1) 0 (by omega)
  refine convertToRange_few opt c more size (hsc c (by simp)) hcc ?_
  simp only [shortRun, Bool.or_eq_true, decide_eq_true_eq, List.any_eq_true] at h
  rcases h with h | ⟨x, hx, hxt⟩
  · left; rw [hsize]; exact h
  · right
    obtain ⟨j, hj, hjx⟩ := List.getElem_of_mem hx
    have hj5 : j < 5 := by
      have := hj; simp only [List.length_take] at this; omega
    have hjl : j < (c :: more).length := by
      have := hj; simp only [List.length_take] at this; omega
    have hget : (c :: more).getD j (.flag .N) = x := by
      rw [List.getElem_take] at hjx
      simp [List.getD, List.getElem?_eq_getElem hjl, hjx]
    have hxt' : ((c :: more).getD j (.flag .N)).type ≠ c.type := by
      rw [hget]; simpa using hxt
    by_cases hjs : j < size
    · have := countCommon_le c.type (c :: more) hsc size j hjl hjs hxt' _ 0 0 (Nat.zero_le _) m hcc
      unfold rangeMin; omega
    · omega

theorem noConversion (opt : POpt) (args : List Cell) (hsc : ∀ c ∈ args, c.isScalar = true)
    (h : opt.compress = false ∨ NoLongRun args) :
    ∀ i, i < args.length → convertToRange opt (args.drop i) (args.length - i) = .ok none := by
  intro i hi
  obtain ⟨c, r, hd⟩ : ∃ c r, args.drop i = c :: r := ⟨_, _, List.drop_eq_getElem_cons hi⟩
  have hl : args.length - i = (c :: r).length := by rw [← hd, List.length_drop]
  rw [hd, hl]
  rcases h with h | h
  · exact convertToRange_nocompress opt h c _ _
  · refine convertToRange_shortRun opt c r _ rfl ?_ ?_
    · intro x hx; exact hsc x (List.mem_of_mem_drop (by rw [hd]; exact hx))
    · rw [← hd]; exact h i hi

/-! the other exits of `rtosc_convert_to_range` at a scalar head (the early one is `convertToRange_few`) -/

theorem convertToRange_ident (opt : POpt) (hc : opt.compress = true) (c0 : Cell) (rest : List Cell) (size : Nat)
    (hsc : c0.isScalar = true) (hsz : rangeMin ≤ size) {m : Nat}
    (hcc : countCommon (size + 1) c0.type (c0 :: rest) size 0 0 = .ok m) (hm : rangeMin ≤ m)
    (hid : rangeArgsIdentical (c0 :: rest) rest = .ok true) {sk n : Nat}
    (her : extendRun (size + 1) (c0 :: rest) size none 1 1 = .ok (sk, n)) :
    convertToRange opt (c0 :: rest) size = .ok (if rangeMin ≤ n then some (sk, [Cell.rep n 0, c0]) else none) := by
  unfold convertToRange
  simp only [show ¬ (size < rangeMin) by omega, show ¬ (m < rangeMin) by omega, ↓reduceIte, bind, Except.bind, deref,
    scalar_type_ne_range c0 hsc, hc, Bool.not_true, Bool.false_eq_true, or_self, hcc, incsize_scalar c0 _ hsc,
    List.drop_succ_cons, List.drop_zero, hid, pure, Except.pure, her]
  by_cases hn : rangeMin ≤ n <;> simp [hn]

theorem convertToRange_other (opt : POpt) (c0 : Cell) (rest : List Cell) (size : Nat) (hsc : c0.isScalar = true) {m : Nat}
    (hcc : countCommon (size + 1) c0.type (c0 :: rest) size 0 0 = .ok m)
    (hid : rangeArgsIdentical (c0 :: rest) rest = .ok false) (hty : (lit "cihTF").contains c0.type = false) :
    convertToRange opt (c0 :: rest) size = .ok none := by
  by_cases h : size < rangeMin ∨ m < rangeMin
  · exact convertToRange_few opt c0 rest size hsc hcc h
  · rw [not_or] at h
    unfold convertToRange
    by_cases hc : opt.compress = true
    · simp only [h.1, h.2, ↓reduceIte, bind, Except.bind, deref, scalar_type_ne_range c0 hsc, hc, Bool.not_true,
        Bool.false_eq_true, or_self, hcc, incsize_scalar c0 _ hsc, List.drop_succ_cons, List.drop_zero, hid, hty, pure,
        Except.pure]
    · simp [h.1, bind, Except.bind, deref, hc, pure, Except.pure]

theorem convertToRange_const (opt : POpt) (hc : opt.compress = true) (c0 : Cell) (rest : List Cell) (size : Nat)
    (hsc : c0.isScalar = true) (hsz : rangeMin ≤ size) {m : Nat}
    (hcc : countCommon (size + 1) c0.type (c0 :: rest) size 0 0 = .ok m) (hm : rangeMin ≤ m)
    (hid : rangeArgsIdentical (c0 :: rest) rest = .ok true) {sk n : Nat}
    (her : extendRun (size + 1) (c0 :: rest) size none 1 1 = .ok (sk, n)) (hn : rangeMin ≤ n) :
    convertToRange opt (c0 :: rest) size = .ok (some (sk, [Cell.rep n 0, c0])) := by
  rw [convertToRange_ident opt hc c0 rest size hsc hsz hcc hm hid her, if_pos hn]

theorem convertToRange_arith (opt : POpt) (hc : opt.compress = true) (c0 c1 : Cell) (rest : List Cell) (size : Nat)
    (hsc : c0.isScalar = true) (hsz : rangeMin ≤ size) {m : Nat}
    (hcc : countCommon (size + 1) c0.type (c0 :: c1 :: rest) size 0 0 = .ok m) (hm : rangeMin ≤ m)
    (hid : rangeArgsIdentical (c0 :: c1 :: rest) (c1 :: rest) = .ok false)
    (hty : (lit "cihTF").contains c0.type = true) {d : Cell} (hsub : subAV c1 c0 = .ok (some d))
    (hso : rangeStepOverflows c0 d = false) {sk n : Nat}
    (her : extendRun (size + 1) (c0 :: c1 :: rest) size (some d) 1 1 = .ok (sk, n)) (hn : rangeMin ≤ n) :
    convertToRange opt (c0 :: c1 :: rest) size = .ok (some (sk, [Cell.rep n 1, d, c0])) := by
  unfold convertToRange
  simp only [show ¬ (size < rangeMin) by omega, show ¬ (m < rangeMin) by omega, ↓reduceIte, bind, Except.bind, deref,
    scalar_type_ne_range c0 hsc, hc, Bool.not_true, Bool.false_eq_true, or_self, hcc, incsize_scalar c0 _ hsc,
    List.drop_succ_cons, List.drop_zero, hid, hty, hsub, must, hso, pure, Except.pure, her]
  simp [hn]

/-- **a constant run followed by further arguments, arrays included**: `rtosc_convert_to_range`
    converts exactly the run when the cell behind it is not identical to the run's value
    (`W`: any `WFCells` behind the run; `convertToRange_crun_of_next`, PrettyRunsExtConv, has scalars) -/
theorem convertToRange_crun_of_nextW (opt : POpt) (hc : opt.compress = true) (c : Cell) (hsc : c.isScalar = true)
    (hid : SelfIdentical c) (n : Nat) (hn5 : 5 ≤ n) (R : List Cell) (hR : WFCells R)
    (hnext : R = [] ∨ ∀ more, rangeArgsIdentical (c :: more) R = .ok false) :
    convertToRange opt (List.replicate n c ++ R) (n + R.length) = .ok (some (n, [Cell.rep n 0, c])) := by
  have h0 : List.replicate n c ++ R = c :: (List.replicate (n - 0 - 1) c ++ R) := by
    simpa using drop_replicate_append n 0 c R (by omega)
  have hlenA : (List.replicate n c ++ R).length = n + R.length := by simp
  obtain ⟨m, hm, hcc⟩ := countCommon_prefix c.type hR (List.replicate n c) [] (n + R.length + 1) 0 (by
    intro x hx; rw [(List.mem_replicate.mp hx).2]; exact ⟨hsc, rfl⟩) (by simp)
  simp only [List.nil_append, List.length_nil, List.length_replicate, Nat.zero_add, hlenA] at hm hcc
  have her := extendRun_replicate_next c hsc hid n R hnext (n + R.length + 1) 1 1 (by omega) (by omega)
  rw [show 1 + (n - 1) = n by omega] at her
  rw [h0] at hcc her ⊢
  refine convertToRange_const opt hc c _ _ hsc (by unfold rangeMin; omega) hcc (by unfold rangeMin; omega) ?_ her
    (by unfold rangeMin; omega)
  obtain ⟨k, hk⟩ : ∃ k, n - 0 - 1 = k + 1 := ⟨n - 2, by omega⟩
  rw [hk, List.replicate_succ]
  exact hid _ _

theorem initArgsWritten_ok (st : PSt) (h : st.out ≠ []) : ∃ a, initArgsWritten st = .ok a := by
  unfold initArgsWritten
  by_cases hc : st.cols ≠ 0
  · rw [if_pos hc]
    cases hl : st.out.getLast? with
    | none => exact absurd (List.getLast?_eq_none_iff.mp hl) h
    | some x => exact ⟨_, rfl⟩
  · rw [if_neg hc]; exact ⟨_, rfl⟩

theorem printArgValsLoop_done (fuel : Nat) (hf : 0 < fuel) (opt : POpt) (args : List Cell) (n i : Nat) (st : PSt)
    (wrt : Nat) (ls : Int) (awl : Nat) (h : ¬ i < n) :
    printArgValsLoop fuel opt args n i st wrt ls awl = .ok (st, wrt) := by
  cases fuel with
  | zero => omega
  | succ f => unfold printArgValsLoop; simp only [h, ↓reduceIte]; rfl

theorem printArgVal_constRun (opt : POpt) (hc : opt.compress = true) (c : Cell) (hp : PrintsTok opt c)
    (n : Nat) (hn : 1 ≤ n) (fuel : Nat) (prev : Option Cell) (st : PSt) :
    ∃ (t : Bytes) (cols' : Int),
      printArgVal (fuel + 2) opt [Cell.rep n 0, c] prev st =
        .ok (⟨st.out ++ runText n t, cols'⟩, (runText n t).length) ∧ TokOK t c := by
  obtain ⟨t, cols', hprint, htok⟩ := hp fuel [] none
    ⟨st.out ++ (fmtDec n ++ [120]), st.cols + ((fmtDec n ++ [120]).length : Nat)⟩
  refine ⟨t, cols', ?_, htok⟩
  have hn0 : ¬ ((n : Int) = 0) := by omega
  unfold printArgVal
  simp only [deref, bind, Except.bind]
  unfold printRange
  simp only [deref, bind, Except.bind, hc, true_or, ↓reduceIte, ne_eq, not_true_eq_false, hn0, or_self,
    List.drop_succ_cons, List.drop_zero, hprint, pure, Except.pure]
  obtain ⟨a, ha⟩ := initArgsWritten_ok ⟨st.out ++ (fmtDec n ++ [120]) ++ t, cols'⟩ (by simp)
  simp only [ha, Int.sub_self, Int.toNat_zero, printRangeElems, Int.lt_irrefl, ↓reduceIte]
  simp only [runText, List.length_append, List.append_assoc, Nat.add_assoc]

/-! the multiplier text `nx`.  `n ≤ 2147483647`: `%d` of `"%dx%n"` (`fmtMult`) stores the multiplier into an
`int32_t` (`toI32` in `scanMultiplier`), so a larger one would not be read back. -/

theorem fmtDec_pos_shape (n : Nat) (hn : 1 ≤ n) :
    ∃ d ds, isdigit d = true ∧ d ≠ 48 ∧ (∀ c ∈ ds, isdigit c = true) ∧ fmtDec (n : Int) = d :: ds ∧
      digitsVal 10 (d :: ds) = n := by
  rcases fmtDec_shape (n : Int) with ⟨hv, _⟩ | ⟨d, ds, hd0, hnz, hds, ht, hval⟩
  · omega
  · have : ¬ ((n : Int) < 0) := by omega
    simp only [this, ↓reduceIte, List.nil_append] at ht
    exact ⟨d, ds, hd0, hnz, hds, ht, by simpa using hval⟩

theorem isdigit_hd_x (r : Bytes) : isdigit (hd (120 :: r)) = false := by
  rw [hd_cons]; decide

theorem isdigit_ne_x (c : UInt8) (h : isdigit c = true) : c ≠ 120 := by
  revert h; revert c; apply UInt8.forall_of_fin; decide +kernel

theorem scanInt_mult (n : Nat) (hn : 1 ≤ n) (hn2 : n ≤ 2147483647) (r : Bytes) :
    scanInt .d none (fmtDec (n : Int) ++ 120 :: r) = some ((n : Int), 120 :: r) := by
  obtain ⟨d, ds, hd0, hnz, hds, ht, hval⟩ := fmtDec_pos_shape n hn
  rw [ht, scanInt_digits_pos .d (by decide) d ds (120 :: r) hd0 hnz hds (isdigit_hd_x r), hval,
    clampI64_id _ (by omega) (by omega)]

theorem sscanf_fmtMult (n : Nat) (hn : 1 ≤ n) (hn2 : n ≤ 2147483647) (r : Bytes) :
    sscanf fmtMult (fmtDec (n : Int) ++ 120 :: r) = [.int n, .pos ((fmtDec (n : Int)).length + 1)] := by
  unfold sscanf fmtMult
  rw [sscanfGo_int_some _ _ _ _ _ _ _ _ _ (scanInt_mult n hn hn2 r)]
  simp [sscanfGo]

theorem isRangeMultiplier_mult (n : Nat) (hn : 1 ≤ n) (r : Bytes) :
    isRangeMultiplier (fmtDec (n : Int) ++ 120 :: r) = true := by
  obtain ⟨d, ds, hd0, hnz, hds, ht, _⟩ := fmtDec_pos_shape n hn
  rw [ht]
  simp only [isRangeMultiplier, List.cons_append, hd_cons, List.drop_succ_cons, List.drop_zero,
    skipDigits_digits ds (120 :: r) hds (isdigit_hd_x r)]
  simp [hd0, hnz]

theorem afterX_mult (n : Nat) (hn : 1 ≤ n) (r : Bytes) : afterX (fmtDec (n : Int) ++ 120 :: r) = r := by
  obtain ⟨d, ds, hd0, hnz, hds, ht, _⟩ := fmtDec_pos_shape n hn
  have hall : ∀ c ∈ d :: ds, isdigit c = true := by
    intro c hc; simp at hc; rcases hc with rfl | hc; exact hd0; exact hds c hc
  rw [ht]
  generalize d :: ds = l at hall
  induction l with
  | nil => simp [afterX]
  | cons c l ih =>
    simp only [List.cons_append, afterX, isdigit_ne_x c (hall c (by simp)), ↓reduceIte]
    exact ih (fun x hx => hall x (by simp [hx]))

theorem hd_mult (n : Nat) (hn : 1 ≤ n) (r : Bytes) :
    isdigit (hd (fmtDec (n : Int) ++ 120 :: r)) = true := by
  obtain ⟨d, ds, hd0, _, _, ht, _⟩ := fmtDec_pos_shape n hn
  rw [ht]; exact hd0

theorem drop_mult (n : Nat) (t : Bytes) :
    (fmtDec (n : Int) ++ 120 :: t).drop ((fmtDec (n : Int)).length + 1) = t := by
  rw [show fmtDec (n : Int) ++ 120 :: t = (fmtDec (n : Int) ++ [120]) ++ t from by simp,
    show (fmtDec (n : Int)).length + 1 = (fmtDec (n : Int) ++ [120]).length from by simp]
  exact List.drop_left

/-- the checker's `case` of `nx…`, given what the skipper makes of the operand -/
theorem skipValue_run (sk : ArgSkipper) (n : Nat) (hn : 1 ≤ n) (t rest : Bytes) (ty : UInt8) (ib : Bool)
    {k : Int} {rty : UInt8} (hsk : sk (t ++ rest) 0 none false ib = .ok ⟨some rest, k, rty⟩) :
    skipValue sk (fmtDec (n : Int) ++ 120 :: (t ++ rest)) ty ib = .ok (some ⟨some rest, 1 + k, 45, rty⟩) := by
  rw [skipValue_mult _ _ _ _ (hd_mult n hn _) (isRangeMultiplier_mult n hn _)]
  unfold skipMultiplier
  simp only [afterX_mult n hn _, hsk, bind, Except.bind, pure, Except.pure]

/-- the scanner's `nx` case in front of a text `t` for which the element scanner answers any cells `vcells`
    (`G`: not only one token) -/
theorem scanMultiplier_runG (se : ElemScanner) (n : Nat) (hn : 1 ≤ n) (hn2 : n ≤ 2147483647) (t rest : Bytes)
    (vcells : List Cell) (hse : se (t ++ rest) [] 0 false = .ok (t.length, vcells)) :
    scanMultiplier se (fmtDec (n : Int) ++ 120 :: (t ++ rest)) = .ok ⟨rest, Cell.rep n 0 :: vcells, false⟩ := by
  unfold scanMultiplier
  simp only [sscanf_fmtMult n hn hn2 (t ++ rest), bind, Except.bind, pure, Except.pure, drop_mult, hse, advance,
    List.length_append, Nat.le_add_right, ↓reduceIte, List.drop_left', toI32_id (n : Int) (by omega) (by omega)]

theorem runText_eq (n : Nat) (t : Bytes) : runText n t = fmtDec (n : Int) ++ 120 :: t := by
  simp [runText]

theorem tokStart_run (n : Nat) (hn : 1 ≤ n) (t : Bytes) : TokStart (runText n t) := by
  rw [runText_eq]
  exact (tokStart_num _ (by simp) (Or.inr (hd_mult n hn t))).1

theorem canPrecedeRange_rep_scalar (n : Int) (c : Cell) (more : List Cell) (hsc : c.isScalar = true) :
    canPrecedeRange (Cell.rep n 0 :: c :: more) = .ok true := by
  rw [canPrecedeRange_rep0, decide_eq_true (ArgVal.scalar_type_ne_a c hsc)]

theorem selfIdentical_of_eqScalar (c : Cell) (hsc : c.isScalar = true)
    (h : ArgVal.eqScalar c c = .ok true) : SelfIdentical c := by
  intro more more'
  unfold rangeArgsIdentical
  have heq : eqSingle (c :: more) (c :: more') = .ok true := by
    unfold eqSingle
    rw [show (c :: more).length + (c :: more').length + 2 = ((c :: more).length + (c :: more').length + 1) + 1 from rfl]
    unfold ArgVal.eqSingle
    simp only [ArgVal.deref, bind, Except.bind, ArgVal.asArr_scalar hsc, h]
    rfl
  simp only [heq, bind, Except.bind, Bool.not_true, Bool.false_eq_true, ↓reduceIte, incsize_scalar c _ hsc,
    ne_eq, not_true_eq_false, List.take_succ_cons, List.take_zero, List.length_singleton, or_self, pure, Except.pure,
    List.zip_cons_cons, List.zip_nil_right, List.all_cons, List.all_nil, Bool.and_true, decide_true, Bool.true_and]
  cases c <;> simp

theorem selfIdentical_int (ty : ArgVal.IntTy) (v : Int) : SelfIdentical (Cell.int ty v) :=
  selfIdentical_of_eqScalar _ rfl (by simp [ArgVal.eqScalar, pure, Except.pure])

theorem selfIdentical_huge (v : Int) : SelfIdentical (Cell.huge v) :=
  selfIdentical_of_eqScalar _ rfl (by simp [ArgVal.eqScalar, pure, Except.pure])

theorem selfIdentical_time (v : Nat) : SelfIdentical (Cell.time v) :=
  selfIdentical_of_eqScalar _ rfl (by simp [ArgVal.eqScalar, pure, Except.pure])

theorem selfIdentical_flag (ty : ArgVal.FlagTy) : SelfIdentical (Cell.flag ty) :=
  selfIdentical_of_eqScalar _ rfl (by simp [ArgVal.eqScalar, pure, Except.pure])

theorem selfIdentical_midi (a b c d : UInt8) : SelfIdentical (Cell.midi a b c d) :=
  selfIdentical_of_eqScalar _ rfl (by simp [ArgVal.eqScalar, ArgVal.memcmpS, ArgVal.lexCmp_eq_zero_iff, pure, Except.pure])

theorem selfIdentical_blob (data : Bytes) : SelfIdentical (Cell.blob data) :=
  selfIdentical_of_eqScalar _ rfl (by simp [ArgVal.eqScalar, ArgVal.memcmpS, ArgVal.lexCmp_eq_zero_iff, pure, Except.pure])

theorem selfIdentical_str (ty : ArgVal.StrTy) (s : Bytes) : SelfIdentical (Cell.str ty (some s)) :=
  selfIdentical_of_eqScalar _ rfl (by simp [ArgVal.eqScalar, ArgVal.strcmpS, ArgVal.lexCmp_eq_zero_iff, pure, Except.pure])

/-- a float that is no NaN compares equal to itself (`rtosc_arg_vals_eq_single` on 'f' / 'd' is numeric) -/
theorem feq_self_f32 (b : UInt32) (h : f32.expField b.toNat ≠ 255) : ArgVal.f32.feq b.toNat b.toNat = true := by
  simp only [FFmt.expField, FFmt.mag, FFmt.signBit, f32] at h
  simp only [ArgVal.FFmt.feq, ArgVal.FFmt.isNaN, ArgVal.FFmt.mag, ArgVal.FFmt.signBit, ArgVal.FFmt.infBits,
    ArgVal.FFmt.expMax, ArgVal.f32, Bool.and_eq_true, Bool.not_eq_true', beq_self_eq_true,
    and_true, and_self]
  refine decide_eq_false ?_
  omega

theorem feq_self_f64 (b : UInt64) (h : f64.expField b.toNat ≠ 2047) : ArgVal.f64.feq b.toNat b.toNat = true := by
  simp only [FFmt.expField, FFmt.mag, FFmt.signBit, f64] at h
  simp only [ArgVal.FFmt.feq, ArgVal.FFmt.isNaN, ArgVal.FFmt.mag, ArgVal.FFmt.signBit, ArgVal.FFmt.infBits,
    ArgVal.FFmt.expMax, ArgVal.f64, Bool.and_eq_true, Bool.not_eq_true', beq_self_eq_true,
    and_true, and_self]
  refine decide_eq_false ?_
  omega

theorem selfIdentical_flt (b : UInt32) (h : ArgVal.f32.feq b.toNat b.toNat = true) : SelfIdentical (Cell.flt b) :=
  selfIdentical_of_eqScalar _ rfl (by simp [ArgVal.eqScalar, h, pure, Except.pure])

theorem selfIdentical_dbl (b : UInt64) (h : ArgVal.f64.feq b.toNat b.toNat = true) : SelfIdentical (Cell.dbl b) :=
  selfIdentical_of_eqScalar _ rfl (by simp [ArgVal.eqScalar, h, pure, Except.pure])

end Rtosc.Pretty
