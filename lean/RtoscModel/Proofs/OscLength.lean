/-
  `rtosc_message_ring_length` run on a ring that holds `Spec.encode m ++ rest` (C01).
-/
import RtoscModel.Proofs.OscRead
import RtoscModel.Osc.Length
import RtoscModel.Osc.MsgSpec
namespace Rtosc.Osc
open Rtosc

theorem deref_eq (r : Ring) (pos : Nat) : r.deref pos = (r.d0 ++ r.d1)[pos]?.getD 0 := by
  unfold Ring.deref
  split
  · next h => simp [List.getElem?_append_left h, List.getElem?_eq_getElem h]
  · next h =>
    have h' : r.d0.length ≤ pos := Nat.le_of_not_lt h
    split
    · next h2 => simp [List.getElem?_append_right h', List.getElem?_eq_getElem h2]
    · next h2 =>
      have : (r.d0 ++ r.d1)[pos]? = none := by
        apply List.getElem?_eq_none; simp only [List.length_append]; omega
      simp [this]

theorem deref_of_drop {r : Ring} {msg : Bytes} {p : Nat} {c : UInt8} {x : Bytes}
    (h : r.d0 ++ r.d1 = msg) (hd : msg.drop p = c :: x) : r.deref p = c := by
  rw [deref_eq, h, getElem?_of_drop hd]; rfl

theorem scanNul_of_drop {r : Ring} {msg : Bytes} (h : r.d0 ++ r.d1 = msg) (s : Bytes) :
    ∀ (p fuel : Nat) (x : Bytes), msg.drop p = s ++ 0 :: x → NoNul s → s.length < fuel →
      p + s.length < 4294967296 → scanNul r fuel p = some (p + s.length) := by
  induction s with
  | nil =>
    intro p fuel x hd _ hf _
    obtain ⟨f, rfl⟩ : ∃ f, fuel = f + 1 := ⟨fuel - 1, by simp at hf; omega⟩
    simp [scanNul, deref_of_drop h (by simpa using hd)]
  | cons c s ih =>
    intro p fuel x hd hs hf hlt
    obtain ⟨f, rfl⟩ : ∃ f, fuel = f + 1 := ⟨fuel - 1, by simp at hf; omega⟩
    simp only [List.length_cons] at hf hlt
    have hd' : msg.drop (p + 1) = s ++ 0 :: x := drop_succ_of_drop_cons hd
    simp only [scanNul, deref_of_drop h (by simpa using hd), hs.head, if_false]
    rw [u32_id (by omega), ih (p + 1) f x hd' hs.tail (by omega) (by omega)]
    simp only [List.length_cons]; congr 1; omega

theorem nullWord_of_drop {r : Ring} {msg : Bytes} (h : r.d0 ++ r.d1 = msg) (j : Nat) :
    ∀ (k p : Nat) (c : UInt8) (x : Bytes), msg.drop (p + 1) = zeros j ++ c :: x → c ≠ 0 → j < k →
      p + 1 + j < 4294967296 → nullWord r k p = p + 1 + j := by
  induction j with
  | zero =>
    intro k p c x hd hc hk hlt
    obtain ⟨k', rfl⟩ : ∃ k', k = k' + 1 := ⟨k - 1, by omega⟩
    simp only [nullWord]
    rw [u32_id (by omega), deref_of_drop h (by simpa [zeros] using hd)]
    simp [hc]
  | succ j ih =>
    intro k p c x hd hc hk hlt
    obtain ⟨k', rfl⟩ : ∃ k', k = k' + 1 := ⟨k - 1, by omega⟩
    have hd0 : msg.drop (p + 1) = 0 :: (zeros j ++ c :: x) := by rw [hd, zeros_succ]; simp
    have hd' : msg.drop (p + 1 + 1) = zeros j ++ c :: x := drop_succ_of_drop_cons hd0
    simp only [nullWord]
    rw [u32_id (by omega), deref_of_drop h hd0]
    simp only [ne_eq, not_true_eq_false, if_false]
    rw [ih k' (p + 1) c x hd' hc (by omega) (by omega)]; omega

theorem tagsFrom_of_drop {r : Ring} {msg : Bytes} (h : r.d0 ++ r.d1 = msg) (s : Bytes) :
    ∀ (p fuel : Nat) (x : Bytes), msg.drop p = s ++ 0 :: x → NoNul s → s.length < fuel →
      p + s.length < 4294967296 → tagsFrom r fuel p = some s := by
  induction s with
  | nil =>
    intro p fuel x hd _ hf _
    obtain ⟨f, rfl⟩ : ∃ f, fuel = f + 1 := ⟨fuel - 1, by simp at hf; omega⟩
    simp [tagsFrom, deref_of_drop h (by simpa using hd)]
  | cons c s ih =>
    intro p fuel x hd hs hf hlt
    obtain ⟨f, rfl⟩ : ∃ f, fuel = f + 1 := ⟨fuel - 1, by simp at hf; omega⟩
    simp only [List.length_cons] at hf hlt
    have hd' : msg.drop (p + 1) = s ++ 0 :: x := drop_succ_of_drop_cons hd
    simp only [tagsFrom, deref_of_drop h (by simpa using hd), hs.head, if_false]
    rw [u32_id (by omega), ih (p + 1) f x hd' hs.tail (by omega) (by omega)]
    simp

theorem ring_rd32_of_drop {r : Ring} {msg : Bytes} (h : r.d0 ++ r.d1 = msg) {p : Nat} {v : UInt32}
    {x : Bytes} (hd : msg.drop p = be32 v ++ x) (hlt : p + 3 < 4294967296) : r.rd32 p = v := by
  obtain ⟨b0, b1, b2, b3, hb, hg⟩ := get32_be32 v
  rw [hb] at hd
  have d1 : msg.drop (p + 1) = b1 :: b2 :: b3 :: x := drop_succ_of_drop_cons hd
  have d2 : msg.drop (p + 2) = b2 :: b3 :: x := drop_succ_of_drop_cons d1
  have d3 : msg.drop (p + 3) = b3 :: x := drop_succ_of_drop_cons d2
  simp only [Ring.rd32]
  rw [u32_id (n := p + 1) (by omega), u32_id (n := p + 2) (by omega), u32_id (n := p + 3) (by omega),
    deref_of_drop h (by simpa using hd), deref_of_drop h d1, deref_of_drop h d2, deref_of_drop h d3, hg]

theorem usub_eq {a b : Nat} (hb : b ≤ a) (ha : a < 4294967296) : usub a b = a - b := by
  rw [usub, Nat.mod_eq_of_lt (Nat.lt_of_le_of_lt hb ha), Nat.add_comm a, Nat.add_sub_assoc hb,
    Nat.add_mod_left, Nat.mod_eq_of_lt (Nat.lt_of_le_of_lt (Nat.sub_le ..) ha)]

theorem usub_mod4 {p al : Nat} (hal : al % 4 = 0) (hle : al ≤ p) (hp : p < 4294967296) :
    usub p al % 4 = p % 4 := by
  rw [usub_eq hle hp]
  conv => rhs; rw [← Nat.sub_add_cancel hle, Nat.add_mod, hal, Nat.add_zero, Nat.mod_mod]

/-- `pos += 4 - (pos - aligned) % 4` behind the `n` bytes of a string that began at an aligned `pos` -/
theorem usub_align {al pos n : Nat} (hal : al % 4 = 0) (hle : al ≤ pos) (hp : pos % 4 = 0)
    (h : pos + (n + (4 - n % 4)) < 4294967296) :
    u32 (pos + n + (4 - usub (pos + n) al % 4)) = pos + (n + (4 - n % 4)) := by
  rw [usub_mod4 hal (Nat.le_trans hle (Nat.le_add_right ..))
      (Nat.lt_of_le_of_lt (Nat.add_le_add_left (Nat.le_add_right ..) _) h),
    add_mod4_left hp, Nat.add_assoc, u32_id h]

/-- `if((pos - aligned) % 4) pos += 4 - (pos - aligned) % 4` behind a blob of `n` bytes -/
theorem usub_align_blob {al pos n : Nat} (hal : al % 4 = 0) (hle : al ≤ pos) (hp : pos % 4 = 0)
    (h : pos + (4 + n + pad4 n) < 4294967296) :
    (if usub (pos + 4 + n) al % 4 ≠ 0 then u32 (pos + 4 + n + (4 - usub (pos + 4 + n) al % 4))
      else pos + 4 + n) = pos + (4 + n + pad4 n) := by
  have h4 : usub (pos + 4 + n) al % 4 = n % 4 := by
    rw [usub_mod4 hal (by omega) (by omega), Nat.add_assoc, add_mod4_left hp, Nat.add_mod_left]
  rw [padTo_eq _ (by rw [pad4_congr h4]; omega), pad4_congr h4]; omega

theorem lenLoop_zero (r : Ring) (al : Nat) (ts : Bytes) (pos : Nat) :
    lenLoop r al 0 ts pos = some (if pos ≤ r.total then pos else 0) := by simp [lenLoop]

/-- one round of the length loop, inside the ring, by the kind of the tag -/
theorem lenLoop_cons (r : Ring) (al n : Nat) (t : UInt8) (ts : Bytes) {pos : Nat}
    (hin : ¬ pos > r.total) :
    lenLoop r al (n + 1) (t :: ts) pos =
      match kind t with
      | some .w64 => lenLoop r al n ts (u32 (pos + 8))
      | some .w32 | some .midi => lenLoop r al n ts (u32 (pos + 4))
      | some .str =>
        match scanNul r r.fuel pos with
        | none => none
        | some p => lenLoop r al n ts (u32 (p + (4 - usub p al % 4)))
      | some .blob =>
        let i := (r.rd32 pos).toNat
        let pos := u32 (pos + 4)
        if pos > r.total ∨ i > r.total - pos then some 0
        else
          let pos := u32 (pos + i)
          lenLoop r al n ts
            (if usub pos al % 4 ≠ 0 then u32 (pos + (4 - usub pos al % 4)) else pos)
      | none => lenLoop r al (n + 1) ts pos := by
  conv => lhs; unfold lenLoop
  rw [if_neg hin, lenSwitch]
  rfl

theorem lenLoop_skip {t : UInt8} (hk : kind t = none) (r : Ring) (al n : Nat) (ts : Bytes) {pos : Nat}
    (hin : ¬ pos > r.total) : lenLoop r al n (t :: ts) pos = lenLoop r al n ts pos := by
  cases n with
  | zero => rw [lenLoop_zero, lenLoop_zero]
  | succ n => rw [lenLoop_cons r al n t ts hin, hk]

theorem lenLoop_spec {r : Ring} {msg : Bytes} (h : r.d0 ++ r.d1 = msg) {al : Nat} (hal : al % 4 = 0)
    {tags : Bytes} {args : List Arg} (hm : Matches tags args) :
    ∀ (pos : Nat) (R : Bytes), (∀ a ∈ args, a.WF) → msg.drop pos = args.flatMap encArg ++ R →
    al ≤ pos → pos % 4 = 0 → pos + (args.flatMap encArg).length < 4294967296 →
    pos + (args.flatMap encArg).length ≤ r.total →
    lenLoop r al (nreserved tags) tags pos = some (pos + (args.flatMap encArg).length) := by
  induction tags, args, hm using Matches.walk with
  | nil => intro pos R _ _ _ _ _ hfu; exact congrArg some (if_pos hfu)
  | skip hk _ ih =>
    intro pos R hwf hd hle hp hlt hfu
    rw [nreserved_skip hk, lenLoop_skip hk r al _ _ (Nat.not_lt.mpr (Nat.le_trans (Nat.le_add_right ..) hfu))]
    exact ih pos R hwf hd hle hp hlt hfu
  | @take t ts a as hk _ _ ih =>
    intro pos R hwf hd hle hp hlt hfu
    rw [List.flatMap_cons, List.length_append, ← Nat.add_assoc] at hlt hfu ⊢
    rw [List.flatMap_cons, List.append_assoc] at hd
    have hlt' : pos + (encArg a).length < 4294967296 := Nat.lt_of_le_of_lt (Nat.le_add_right ..) hlt
    have hfu' : pos + (encArg a).length ≤ r.total := Nat.le_trans (Nat.le_add_right ..) hfu
    -- every kind of argument moves `pos` by the length of its encoding
    suffices hs : lenLoop r al (nreserved ts + 1) (t :: ts) pos =
        lenLoop r al (nreserved ts) ts (pos + (encArg a).length) by
      rw [nreserved_take hk, hs, ih _ R (fun x hx => hwf x (List.mem_cons_of_mem _ hx))
        (drop_add_of_drop hd) (Nat.le_trans hle (Nat.le_add_right ..))
        (add_mod4 hp (encArg_length_mod a)) hlt hfu]
    rw [lenLoop_cons r al _ t ts (Nat.not_lt.mpr (Nat.le_trans (Nat.le_add_right ..) hfu')), hk]
    cases a with
    | w32 v => exact congrArg _ (u32_id hlt')
    | w64 v => exact congrArg _ (u32_id hlt')
    | midi x y z w => exact congrArg _ (u32_id hlt')
    | str s =>
      simp only [encArg, padStr_length] at hlt' hfu' ⊢
      have hd0 : msg.drop pos = s ++ 0 :: (zeros (3 - s.length % 4) ++ (as.flatMap encArg ++ R)) := by
        rw [hd, encArg, padStr_eq]; simp
      simp only [Arg.kind]
      rw [scanNul_of_drop h s pos r.fuel _ hd0 (hwf (.str s) List.mem_cons_self)
        (by rw [Ring.fuel]; omega) (by omega)]
      simp only
      rw [usub_align hal hle hp hlt']
    | blob d =>
      have hb : d.length < 2147483648 := hwf (.blob d) List.mem_cons_self
      simp only [encArg, List.length_append, be32_length, zeros_length] at hlt' hfu' ⊢
      have hrd : r.rd32 pos = UInt32.ofNat d.length :=
        ring_rd32_of_drop h (x := d ++ (zeros (pad4 d.length) ++ (as.flatMap encArg ++ R)))
          (by rw [hd]; simp [encArg]) (by omega)
      simp only [Arg.kind, hrd, ofNat_toNat_of_lt (Nat.lt_trans hb (by decide))]
      rw [u32_id (n := pos + 4) (by omega), if_neg (by omega), u32_id (by omega),
        usub_align_blob hal hle hp hlt']

theorem nonul_prefix_eq (s t x y : Bytes) (hs : NoNul s) (ht : NoNul t) (h : s ++ 0 :: x = t ++ 0 :: y) :
    s = t :=
  Option.some.inj ((cstr_append_nul s x hs).symm.trans (h ▸ cstr_append_nul t y ht))

theorem map_deref_take (r : Ring) (n : Nat) (hn : n ≤ (r.d0 ++ r.d1).length) :
    (List.range n).map r.deref = (r.d0 ++ r.d1).take n := by
  apply List.ext_getElem
  · simp only [List.length_map, List.length_range, List.length_take]; omega
  · intro i h1 h2
    simp only [List.length_map, List.length_range] at h1
    have hi : i < (r.d0 ++ r.d1).length := by omega
    simp only [List.getElem_map, List.getElem_range, List.getElem_take, deref_eq,
      List.getElem?_eq_getElem hi, Option.getD_some]

/-- the bundle test of `rtosc_message_ring_length` fails on every encoded message whose
    address is not exactly `"#bundle"` -/
theorem not_magic_of_encode (m : Msg) (rest : Bytes) (r : Ring) (hwf : m.WF)
    (hnb : m.addr ≠ bundleAddr) (h : r.d0 ++ r.d1 = Spec.encode m ++ rest) :
    ¬ ((List.range 8).map r.deref = bundleMagic) := by
  intro hx
  have h8 : 8 ≤ (r.d0 ++ r.d1).length := by
    have hA := Aoff_eq m
    have hB := Boff_eq m
    rw [h, List.length_append, encode_length_off]; omega
  rw [map_deref_take r 8 h8, h] at hx
  have hsplit : Spec.encode m ++ rest = bundleAddr ++ 0 :: (Spec.encode m ++ rest).drop 8 := by
    conv => lhs; rw [← List.take_append_drop 8 (Spec.encode m ++ rest), hx]
    rfl
  rw [encode_layout m rest] at hsplit
  exact hnb (nonul_prefix_eq _ _ _ _ hwf.addr_nonul (by decide) hsplit)

theorem drop_succ_of_drop {m : Bytes} {p : Nat} {s y : Bytes} {c : UInt8}
    (h : m.drop p = s ++ c :: y) : m.drop (p + s.length + 1) = y := by
  have := drop_add_of_drop (x := s ++ [c]) (y := y) (by rw [h, List.append_assoc]; rfl)
  rwa [List.length_append, ← Nat.add_assoc] at this

/-- `rtosc_message_ring_length` up to its loop, on memory that holds an address, its padding, the
    `','`, the type tags and their NUL: `aligned_pos` is at the `','`, and the loop starts at the
    NUL behind the tags, rounded up. -/
theorem ringLength_header {r : Ring} {msg addr tags X : Bytes} {j : Nat} (h : r.d0 ++ r.d1 = msg)
    (hmsg : msg = addr ++ 0 :: (zeros j ++ 44 :: (tags ++ 0 :: X)))
    (hmagic : ¬ (List.range 8).map r.deref = bundleMagic) (ha : NoNul addr) (ht : NoNul tags)
    (hj : j < 4)  -- `for(int i=0;i<4;++i)` over the NULs behind the address (rtosc.c:601)
    (hlt : addr.length + 1 + j + (tags.length + 1) < 4294967296) :
    ringLength r = lenLoop r (addr.length + 1 + j) (nreserved tags) tags
      (u32 (addr.length + 1 + j + (tags.length + 1) +
        (4 - usub (addr.length + 1 + j + (tags.length + 1)) (addr.length + 1 + j) % 4))) := by
  have hfuel : r.fuel = msg.length + 2 := by rw [← h, Ring.fuel, Ring.total, List.length_append]
  have hlen : msg.length = addr.length + 1 + j + 1 + tags.length + 1 + X.length := by
    rw [hmsg]; simp only [List.length_append, List.length_cons, zeros_length]; omega
  have d0 : msg.drop 0 = addr ++ 0 :: (zeros j ++ 44 :: (tags ++ 0 :: X)) := hmsg
  have d1 := drop_succ_of_drop d0
  have d2 := drop_succ_of_drop d1
  rw [Nat.zero_add] at d1 d2
  rw [zeros_length] at d2
  rw [ringLength, if_neg hmagic,
    scanNul_of_drop h addr 0 r.fuel _ d0 ha (by omega) (by omega), Nat.zero_add]
  simp only
  have dc : msg.drop (addr.length + 1 + j) = 44 :: (tags ++ 0 :: X) := by
    have := drop_add_of_drop d1; rwa [zeros_length] at this
  rw [nullWord_of_drop h j 4 addr.length 44 _ d1 (by decide) hj (by omega), deref_of_drop h dc]
  simp only [ne_eq, not_true_eq_false, if_false]
  rw [u32_id (n := addr.length + 1 + j + 1) (by omega),
    scanNul_of_drop h tags _ r.fuel _ d2 ht (by omega) (by omega)]
  simp only
  rw [tagsFrom_of_drop h tags _ r.fuel _ d2 ht (by omega) (by omega), Nat.add_assoc _ 1 tags.length,
    Nat.add_comm 1 tags.length]

theorem ringLength_spec (m : Msg) (rest : Bytes) (r : Ring) (hwf : m.WF)
    (hnb : m.addr ≠ bundleAddr) (h : r.d0 ++ r.d1 = Spec.encode m ++ rest) :
    ringLength r = some (Spec.encode m).length := by
  have hlen := encode_length_off m
  have hsz : Aoff m + Boff m + (m.args.flatMap encArg).length < 4294967296 := hlen ▸ hwf.size
  have hfit : Aoff m + Boff m + (m.args.flatMap encArg).length ≤ r.total := by
    rw [Ring.total, ← List.length_append, h, List.length_append, hlen]; exact Nat.le_add_right ..
  have hA := Aoff_eq m
  have hB := Boff_eq m
  have hAmod := Aoff_mod4 m
  have hAB : Aoff m + Boff m < 4294967296 := Nat.lt_of_le_of_lt (Nat.le_add_right ..) hsz
  rw [ringLength_header h (encode_layout m rest) (not_magic_of_encode m rest r hwf hnb h)
      hwf.addr_nonul (fun x hx => (isTag_ne_zero x (hwf.tags_ok x hx)).1)
      (Nat.lt_succ_of_le (Nat.sub_le ..)) (by omega),
    ← hA, usub_align hAmod (Nat.le_refl _) hAmod (hB ▸ hAB), ← hB,
    lenLoop_spec h hAmod hwf.matches_ _ rest hwf.args_ok (drop_vals m rest) (Nat.le_add_right ..)
      (add_mod4 hAmod (padStr_length_mod _)) hsz hfit, hlen]

end Rtosc.Osc
