/-
  C12 — the shape of `save`: the walk's items lie inside the parameter range (`item_bounds`); what `save` writes for
  a scalar port (`saveItem_scalar`) and for an array port (`saveItem_array_spec`: the elements up to the last one
  that differs from its default, `firstEqualIndex_spec`); `save` is `walk.filterMap saveItem` (`save_eq`,
  `mem_save_iff`); a fresh instance saves nothing; the saved lines are a `FileOK` file and stand in dependence order
  when the walk is taken in index order (`save_fileOK`, `saveFrom_topo`).
-/
import RtoscModel.Proofs.SaveFrame

namespace Rtosc.Save

theorem tiling_facts {a b : Nat} {l : List Item} (h : Tiling a l b) :
    a ≤ b ∧ (∀ it ∈ l, a ≤ it.lo ∧ it.lo < it.hi ∧ it.hi ≤ b) ∧ l.Pairwise (fun x y => x.hi ≤ y.lo) := by
  induction l generalizing a with
  | nil =>
    have : a = b := h
    subst this
    exact ⟨Nat.le_refl _, fun _ h => (by cases h), List.Pairwise.nil⟩
  | cons it r ih =>
    obtain ⟨h1, h2, h3⟩ := h
    obtain ⟨i1, i2, i3⟩ := ih h3
    refine ⟨by omega, ?_, List.pairwise_cons.mpr ⟨fun y hy => (i2 y hy).1, i3⟩⟩
    intro x hx
    rcases List.mem_cons.mp hx with rfl | hx
    · exact ⟨by omega, h2, i1⟩
    · have := i2 x hx
      exact ⟨by omega, this.2.1, this.2.2⟩

theorem item_bounds (app : App) (hwf : app.WF) {it : Item} (h : it ∈ app.walk) : it.lo < it.hi ∧ it.hi ≤ app.size := by
  obtain ⟨rw, hperm, ht⟩ := hwf.walk_tiles
  exact ((tiling_facts ht).2.1 it (hperm.mem_iff.2 h)).2

theorem array_bounds (app : App) (hwf : app.WF) {base : Path} {first len : Nat}
    (h : Item.array base first len ∈ app.walk) : 0 < len ∧ first + len ≤ app.size := by
  have := item_bounds app hwf h
  simp only [Item.lo, Item.hi] at this
  omega

theorem array_findAddr (app : App) (hwf : app.WF) {base : Path} {first len : Nat}
    (h : Item.array base first len ∈ app.walk) (k : Nat) (hk : k < len) :
    app.findAddr (base ++ natDigits k) = some (first + k) := by
  have hb := array_bounds app hwf h
  rw [← ((hwf.array_ok base first len h).2 k hk).1]
  exact App.findAddr_param app hwf.addr_nodup (by omega)

/-- **what `first_equal_index` returns**: its accumulator when the lists agree everywhere, else one past
    the last position where they differ -/
theorem firstEqualIndex_spec (ds rs : List Val) (i acc : Nat) :
    (firstEqualIndex ds rs i acc = acc ∧ ∀ j (h1 : j < ds.length) (h2 : j < rs.length), ds[j] = rs[j]) ∨
    ∃ j, ∃ (h1 : j < ds.length) (h2 : j < rs.length), firstEqualIndex ds rs i acc = i + j + 1 ∧ ds[j] ≠ rs[j] ∧
      ∀ k (h1 : k < ds.length) (h2 : k < rs.length), j < k → ds[k] = rs[k] := by
  induction ds generalizing rs i acc with
  | nil => exact Or.inl ⟨by unfold firstEqualIndex; rfl, fun j h1 => by cases h1⟩
  | cons d ds ih =>
    cases rs with
    | nil => exact Or.inl ⟨by unfold firstEqualIndex; rfl, fun j _ h2 => by cases h2⟩
    | cons r rs =>
      -- a position behind the head, in the tails
      have tail : ∀ j, (∃ (h1 : j < ds.length) (h2 : j < rs.length), ds[j] ≠ rs[j] ∧
            ∀ k (h1 : k < ds.length) (h2 : k < rs.length), j < k → ds[k] = rs[k]) →
          ∃ (h1 : j + 1 < (d :: ds).length) (h2 : j + 1 < (r :: rs).length), (d :: ds)[j + 1] ≠ (r :: rs)[j + 1] ∧
            ∀ k (h1 : k < (d :: ds).length) (h2 : k < (r :: rs).length), j + 1 < k → (d :: ds)[k] = (r :: rs)[k] := by
        rintro j ⟨h1, h2, hne, hsuf⟩
        refine ⟨Nat.succ_lt_succ h1, Nat.succ_lt_succ h2, hne, fun k k1 k2 hk => ?_⟩
        cases k with
        | zero => omega
        | succ k => exact hsuf k (Nat.lt_of_succ_lt_succ k1) (Nat.lt_of_succ_lt_succ k2) (by omega)
      unfold firstEqualIndex
      by_cases hdr : d = r
      · rw [if_pos hdr]
        rcases ih rs (i + 1) acc with ⟨h, hall⟩ | ⟨j, h1, h2, h, hne, hsuf⟩
        · refine Or.inl ⟨h, fun j j1 j2 => ?_⟩
          cases j with
          | zero => exact hdr
          | succ j => exact hall j (Nat.lt_of_succ_lt_succ j1) (Nat.lt_of_succ_lt_succ j2)
        · obtain ⟨k1, k2, hne', hsuf'⟩ := tail j ⟨h1, h2, hne, hsuf⟩
          exact Or.inr ⟨j + 1, k1, k2, by rw [h]; omega, hne', hsuf'⟩
      · rw [if_neg hdr]
        rcases ih rs (i + 1) (i + 1) with ⟨h, hall⟩ | ⟨j, h1, h2, h, hne, hsuf⟩
        · refine Or.inr ⟨0, Nat.zero_lt_succ _, Nat.zero_lt_succ _, h, hdr, fun k k1 k2 hk => ?_⟩
          cases k with
          | zero => omega
          | succ k => exact hall k (Nat.lt_of_succ_lt_succ k1) (Nat.lt_of_succ_lt_succ k2)
        · obtain ⟨k1, k2, hne', hsuf'⟩ := tail j ⟨h1, h2, hne, hsuf⟩
          exact Or.inr ⟨j + 1, k1, k2, by rw [h]; omega, hne', hsuf'⟩

/-- an element that equals its (canonicalised) default after `map_arg_vals` equalled it before: an option's index
    becomes a symbol, which no canonicalised default of that port is -/
theorem mapArgVal_eq_canonicalize (k : Kind) (v x : Val) (h : mapArgVal k v = canonicalize k x) :
    v = canonicalize k x := by
  revert h
  fun_cases mapArgVal k v
  · rename_i names i hin
    intro h
    exfalso
    have hmem : names.getD i.toNat [] ∈ names := by
      rw [List.getD_eq_getElem?_getD, List.getElem?_eq_getElem hin.2]; exact List.getElem_mem _
    cases x with
    | sym t =>
      simp only [canonicalize] at h
      cases hk : enumKey names t with
      | some j => rw [hk] at h; cases h
      | none =>
        rw [hk] at h
        cases h
        unfold enumKey at hk
        simp only at hk
        split at hk
        · cases hk
        · next hnl => exact hnl (List.idxOf_lt_length_of_mem hmem)
    | _ => simp [canonicalize] at h
  · exact id
  · exact id

theorem mapArgVal_eq_evalDflt (p : Param) (s : State) (v : Val) (h : evalDflt p s = mapArgVal p.kind v) :
    evalDflt p s = v := by
  unfold evalDflt at h ⊢
  exact (mapArgVal_eq_canonicalize _ _ _ h.symm).symm

/-- the parameter indices of an array port, as `saveItem` enumerates them -/
abbrev arrIdx (first len : Nat) : List Nat := (List.range len).map (· + first)

theorem arr_prefix (f g : Nat → Val) (first len : Nat)
    (hne : ((arrIdx first len).map f) ≠ ((arrIdx first len).map g)) :
    ∃ n, firstEqualIndex ((arrIdx first len).map f) ((arrIdx first len).map g) 0 0 = n ∧
      0 < n ∧ n ≤ len ∧ f (first + (n - 1)) ≠ g (first + (n - 1)) ∧
      ∀ k, n ≤ k → k < len → f (first + k) = g (first + k) := by
  rcases firstEqualIndex_spec ((arrIdx first len).map f)
      ((arrIdx first len).map g) 0 0 with ⟨_, hall⟩ | ⟨j, h1, h2, hj, hd, hsuf⟩
  · exact absurd (List.ext_getElem (by simp) fun k k1 k2 => hall k k1 k2) hne
  · have hjl : j < len := by simpa using h1
    refine ⟨j + 1, by rw [hj]; omega, by omega, by omega, ?_, ?_⟩
    · simp only [List.getElem_map, List.getElem_range] at hd
      rw [Nat.add_sub_cancel, Nat.add_comm]
      exact hd
    · intro k hk hkl
      have := hsuf k (by simpa using hkl) (by simpa using hkl) (by omega)
      simpa [Nat.add_comm] using this

theorem arr_vals_eq (g : Nat → Val) (first len n : Nat) :
    ((arrIdx first len).take n).map g
      = (List.range' 0 (min n len)).map (fun k => g (first + k)) := by
  rw [← List.map_take, List.take_range, List.map_map, List.range_eq_range']
  apply List.map_congr_left
  intro k _
  simp [Nat.add_comm]

namespace App
variable {app : App}

theorem saveItem_scalar (app : App) (s : State) (i : Nat) :
    app.saveItem s (.scalar i) =
      if guardsOn (app.param i) s = true then
        if evalDflt (app.param i) s = s i then none
        else some ⟨(app.param i).addr, .plain [mapArgVal (app.param i).kind (s i)]⟩
      else none := by
  by_cases h : guardsOn (app.param i) s = true <;> simp [saveItem, h]

theorem saveItem_array (app : App) (s : State) (base : Path) (first len : Nat) :
    app.saveItem s (.array base first len) =
      if guardsOn (app.param first) s = true then
        if (arrIdx first len).map (fun i => evalDflt (app.param i) s)
            = (arrIdx first len).map (fun i => s i) then none
        else some ⟨base, .arr (((arrIdx first len).take
          (firstEqualIndex ((arrIdx first len).map (fun i => evalDflt (app.param i) s))
            ((arrIdx first len).map (fun i => mapArgVal (app.param i).kind (s i))) 0 0)).map
            fun i => mapArgVal (app.param i).kind (s i))⟩
      else none := by
  by_cases h : guardsOn (app.param first) s = true <;> simp [saveItem, h]

/-- **what `save` writes for an array port**: nothing when the port is not reached or every element holds its
    default; else the current values of the elements `0 … n-1`, where element `n-1` is the last one that — as the
    line spells it, option indices as symbols — differs from its default -/
theorem saveItem_array_spec (app : App) (s : State) (base : Path) (first len : Nat) :
    (app.saveItem s (.array base first len) = none ∧
      (guardsOn (app.param first) s = false ∨ ∀ k, k < len → s (first + k) = evalDflt (app.param (first + k)) s)) ∨
    ∃ n, 0 < n ∧ n ≤ len ∧ guardsOn (app.param first) s = true ∧
      (¬ ∀ k, k < len → s (first + k) = evalDflt (app.param (first + k)) s) ∧
      app.saveItem s (.array base first len) =
        some ⟨base, .arr ((List.range n).map fun k => mapArgVal (app.param (first + k)).kind (s (first + k)))⟩ ∧
      mapArgVal (app.param (first + (n - 1))).kind (s (first + (n - 1))) ≠ evalDflt (app.param (first + (n - 1))) s ∧
      ∀ k, n ≤ k → k < len → s (first + k) = evalDflt (app.param (first + k)) s := by
  rw [saveItem_array]
  split
  · next hg =>
    split
    · next heq =>
      refine Or.inl ⟨rfl, Or.inr fun k hk => ?_⟩
      have := (List.map_inj_left.mp heq) (k + first) (by simp; exact hk)
      rw [Nat.add_comm]; exact this.symm
    · next hne =>
      -- `map_arg_vals` has run: an element that equals its default as the line spells it equalled it before
      obtain ⟨n, hn, hpos, hle, hlast, hsuf⟩ :=
        arr_prefix (fun i => evalDflt (app.param i) s) (fun i => mapArgVal (app.param i).kind (s i)) first len
          fun heq => hne <| List.map_congr_left fun i hi =>
            mapArgVal_eq_evalDflt _ s _ ((List.map_inj_left.mp heq) i hi)
      rw [hn, arr_vals_eq (fun i => mapArgVal (app.param i).kind (s i)), Nat.min_eq_left hle,
        ← List.range_eq_range']
      refine Or.inr ⟨n, hpos, hle, hg, fun hall => hne (List.map_congr_left fun i hi => ?_), rfl, fun h => hlast h.symm,
        fun k h1 h2 => (mapArgVal_eq_evalDflt _ s _ (hsuf k h1 h2)).symm⟩
      obtain ⟨k, hk, rfl⟩ := List.mem_map.1 hi
      rw [Nat.add_comm]; exact (hall k (List.mem_range.1 hk)).symm
  · next hg => exact Or.inl ⟨rfl, Or.inl (by simpa using hg)⟩

theorem saveItem_some {s : State} {it : Item} {l : Line} (h : app.saveItem s it = some l) :
    app.itemReached s it = true ∧ l.addr = app.itemAddr it ∧
    match it with
    | .scalar _ => ∃ v, l.args = .plain [v]
    | .array _ _ len => ∃ vs, l.args = .arr vs ∧ vs.length ≤ len := by
  cases it with
  | scalar i =>
    rw [saveItem_scalar] at h
    split at h
    · next hg =>
      split at h
      · cases h
      · cases h; exact ⟨hg, rfl, _, rfl⟩
    · cases h
  | array base first len =>
    rcases saveItem_array_spec app s base first len with ⟨h0, _⟩ | ⟨n, _, hle, hg, _, hn, _, _⟩
    · rw [h0] at h; cases h
    · rw [hn] at h; cases h
      exact ⟨hg, rfl, _, rfl, by simpa using hle⟩

theorem saveItem_addr {s : State} {it : Item} {l : Line} (h : app.saveItem s it = some l) :
    l.addr = app.itemAddr it :=
  (saveItem_some h).2.1

/-- with distinct item addresses the `written` test never fires -/
theorem saveFrom_eq (app : App) (s : State) (l : List Item) (w : List Path)
    (hnd : (l.map app.itemAddr).Nodup) (hw : ∀ it ∈ l, app.itemAddr it ∉ w) :
    app.saveFrom s l w = l.filterMap (app.saveItem s) := by
  induction l generalizing w with
  | nil => rfl
  | cons it r ih =>
    have hnd' := List.nodup_cons.mp (show (app.itemAddr it :: r.map app.itemAddr).Nodup from hnd)
    have hr : ∀ w', (∀ x ∈ w', x = app.itemAddr it ∨ x ∈ w) →
        app.saveFrom s r w' = r.filterMap (app.saveItem s) := by
      intro w' hw'
      apply ih w' hnd'.2
      intro it' hit' hmem
      rcases hw' _ hmem with h | h
      · exact hnd'.1 (h ▸ List.mem_map_of_mem hit')
      · exact hw it' (List.mem_cons_of_mem _ hit') h
    unfold saveFrom
    by_cases hre : app.itemReached s it = true
    · have hc : w.contains (app.itemAddr it) = false := by
        simpa using hw it List.mem_cons_self
      simp only [hre, Bool.not_true, Bool.false_eq_true, if_false, hc]
      cases hsi : app.saveItem s it with
      | none =>
        simp only [List.filterMap_cons, hsi]
        exact hr _ (fun x hx => by simpa using hx)
      | some ln =>
        simp only [List.filterMap_cons, hsi]
        congr 1
        exact hr _ (fun x hx => by simpa using hx)
    · have hsi : app.saveItem s it = none := by
        cases hsi : app.saveItem s it with
        | none => rfl
        | some ln => exact absurd (saveItem_some hsi).1 hre
      simp only [Bool.not_eq_true] at hre
      simp only [hre, Bool.not_false, if_true, List.filterMap_cons, hsi]
      exact hr w (fun x hx => Or.inr hx)

theorem saveFrom_perm_eq (hwf : app.WF) (s : State) (rw : List Item) (hperm : rw.Perm app.walk) :
    app.saveFrom s rw [] = rw.filterMap (app.saveItem s) := by
  apply saveFrom_eq
  · exact ((hperm.map app.itemAddr).nodup_iff).mpr hwf.item_addr_nodup
  · intro _ _ h; cases h

theorem save_eq (hwf : app.WF) (s : State) : app.save s = app.walk.filterMap (app.saveItem s) :=
  saveFrom_perm_eq hwf s app.walk (List.Perm.refl _)

end App

theorem saveFrom_perm (app : App) (hwf : app.WF) (s : State) (rw : List Item)
    (hperm : rw.Perm app.walk) : (app.saveFrom s rw []).Perm (app.save s) := by
  rw [App.saveFrom_perm_eq hwf s rw hperm, App.save_eq hwf]
  exact hperm.filterMap _

theorem mem_save_iff (app : App) (hwf : app.WF) (s : State) (l : Line) :
    l ∈ app.save s ↔ ∃ it ∈ app.walk, app.saveItem s it = some l := by
  rw [App.save_eq hwf, List.mem_filterMap]

namespace App
variable {app : App}

theorem param_default (app : App) {i : Nat} (h : app.size ≤ i) : app.param i = default := by
  unfold param
  rw [List.getD_eq_getElem?_getD, List.getElem?_eq_none h]
  rfl

/-- a fresh instance holds the defaults, also at indices that are no parameters -/
theorem evalDflt_init (hwf : app.WF) (i : Nat) : evalDflt (app.param i) app.init = app.init i := by
  by_cases hi : i < app.size
  · exact (hwf.canon_ok i hi).symm
  · show evalDflt (app.param i) app.init = (app.param i).canon
    rw [param_default app (Nat.le_of_not_lt hi)]
    rfl

theorem saveItem_init (hwf : app.WF) (it : Item) : app.saveItem app.init it = none := by
  cases it with
  | scalar i =>
    rw [saveItem_scalar]
    split
    · rw [if_pos (evalDflt_init hwf i)]
    · rfl
  | array base first len =>
    rcases saveItem_array_spec app app.init base first len with ⟨h, _⟩ | ⟨_, _, _, _, hdiff, _⟩
    · exact h
    · exact absurd (fun k _ => (evalDflt_init hwf (first + k)).symm) hdiff

theorem saveItem_lineParams (hwf : app.WF) (s : State) {it : Item} (hw : it ∈ app.walk) {l : Line}
    (h : app.saveItem s it = some l) : ∀ p ∈ app.lineParams l, it.lo ≤ p ∧ p < it.hi := by
  obtain ⟨hlt, hsz⟩ := item_bounds app hwf hw
  obtain ⟨_, haddr, hargs⟩ := saveItem_some h
  intro p hp
  cases it with
  | scalar i =>
    obtain ⟨v, hv⟩ := hargs
    simp only [Item.lo, Item.hi] at hlt hsz ⊢
    simp only [lineParams, hv, haddr, itemAddr, findAddr_param app hwf.addr_nodup (show i < app.size by omega),
      Option.toList_some, List.mem_singleton] at hp
    omega
  | array base first len =>
    obtain ⟨vs, hvs, hlen⟩ := hargs
    simp only [Item.lo, Item.hi] at hlt hsz ⊢
    simp only [lineParams, hvs, haddr, itemAddr, List.mem_filterMap, List.mem_range] at hp
    obtain ⟨k, hk, hf⟩ := hp
    rw [array_findAddr app hwf hw k (by omega)] at hf
    cases hf
    omega

theorem saveItem_lineOK (s : State) {it : Item} (hw : it ∈ app.walk) {l : Line}
    (h : app.saveItem s it = some l) : app.LineOK l := by
  obtain ⟨_, haddr, hargs⟩ := saveItem_some h
  unfold LineOK
  cases it with
  | scalar i =>
    obtain ⟨v, hv⟩ := hargs
    rw [hv]
    trivial
  | array base first len =>
    obtain ⟨vs, hvs, hlen⟩ := hargs
    rw [hvs]
    exact ⟨first, len, by rw [haddr]; exact hw, hlen⟩

end App

theorem save_init (app : App) (hwf : app.WF) : app.save app.init = [] := by
  rw [App.save_eq hwf, List.filterMap_eq_nil_iff]
  intro it _
  exact App.saveItem_init hwf it

theorem saveFrom_topo (app : App) (hwf : app.WF) (s : State) (rw : List Item)
    (hperm : rw.Perm app.walk) (htile : Tiling 0 rw app.size) :
    (app.saveFrom s rw []).Pairwise (fun a b => ¬ app.lineLt b a) := by
  rw [App.saveFrom_perm_eq hwf s rw hperm]
  have hp : rw.Pairwise (fun x y => x ∈ app.walk ∧ y ∈ app.walk ∧ x.hi ≤ y.lo) :=
    List.Pairwise.imp_of_mem (fun hx hy h => ⟨hperm.subset hx, hperm.subset hy, h⟩) (tiling_facts htile).2.2
  refine List.Pairwise.filterMap _ ?_ hp
  rintro x y ⟨gx, gy, hxy⟩ a ha b hb ⟨pb, hpb, pa, hpa, hanc⟩
  have h1 := App.saveItem_lineParams hwf s gx ha pa hpa
  have h2 := App.saveItem_lineParams hwf s gy hb pb hpb
  have := hwf.anc_lt pa (by have := (item_bounds app hwf gx).2; omega) pb hanc
  omega

theorem save_fileOK (app : App) (hwf : app.WF) (s : State) : app.FileOK (app.save s) := by
  obtain ⟨rw, hperm, htile⟩ := hwf.walk_tiles
  rw [App.save_eq hwf]
  refine ⟨?_, ?_, ?_⟩
  · have hsub : ((app.walk.filterMap (app.saveItem s)).map (·.addr)).Sublist (app.walk.map app.itemAddr) := by
      generalize app.walk = l
      induction l with
      | nil => exact List.Sublist.refl _
      | cons it r ih =>
        rw [List.filterMap_cons]
        cases hsi : app.saveItem s it with
        | none => exact ih.cons _
        | some ln =>
          simp only [List.map_cons]
          rw [App.saveItem_addr hsi]
          exact ih.cons_cons _
    exact hsub.nodup hwf.item_addr_nodup
  · intro l hl
    obtain ⟨it, hit, hsi⟩ := List.mem_filterMap.mp hl
    exact App.saveItem_lineOK s hit hsi
  · have hp : rw.Pairwise (fun x y => x ∈ app.walk ∧ y ∈ app.walk ∧ (x.hi ≤ y.lo ∨ y.hi ≤ x.lo)) :=
      List.Pairwise.imp_of_mem (fun hx hy h => ⟨hperm.subset hx, hperm.subset hy, Or.inl h⟩)
        (tiling_facts htile).2.2
    have hp' : app.walk.Pairwise (fun x y => x ∈ app.walk ∧ y ∈ app.walk ∧ (x.hi ≤ y.lo ∨ y.hi ≤ x.lo)) :=
      (hperm.pairwise_iff (fun ⟨a, b, c⟩ => ⟨b, a, c.symm⟩)).mp hp
    refine List.Pairwise.filterMap _ ?_ hp'
    rintro x y ⟨gx, gy, hxy⟩ a ha b hb p hpa hpb
    have h1 := App.saveItem_lineParams hwf s gx ha p hpa
    have h2 := App.saveItem_lineParams hwf s gy hb p hpb
    omega

end Rtosc.Save
