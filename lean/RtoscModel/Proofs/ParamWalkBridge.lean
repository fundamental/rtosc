/-
  C14 — the bridge between the restricted matcher of RtoscModel/Param/Port.lean (what the
  `param` engine runs for one port) and C05's matcher as C04's `Ports::dispatch` model uses
  it (`Ports.matchB` on structured names): on the names the parameter macros generate,
  `name:t1:t2…` and `name#N:t1:t2…`, the two agree.
-/
import RtoscModel.Proofs.ParamDeliveryArr
import RtoscModel.Proofs.PortsMatch
namespace Rtosc.Param
open Rtosc Rtosc.Match

theorem matchArgs_last (f : Nat) (a tags : Bytes) (ha : ∀ c ∈ a, c ≠ 58) :
    matchArgs (f + 1) (58 :: a) tags = ((!a.isEmpty || tags.isEmpty) && (a == tags.take a.length)) := by
  have ha' : ∀ c ∈ a, (decide (c ≠ 58)) = true := fun c hc => by simpa using ha c hc
  have htw := List.takeWhile_append_of_pos (l₂ := []) ha'
  have hdw := List.dropWhile_append_of_pos (l₂ := []) ha'
  rw [List.append_nil] at htw hdw
  rw [matchArgs]
  simp only [htw, hdw, List.takeWhile_nil, List.dropWhile_nil, List.append_nil]

theorem matchArgs_more (f : Nat) (a Y tags : Bytes) (ha : ∀ c ∈ a, c ≠ 58) :
    matchArgs (f + 1) (58 :: (a ++ 58 :: Y)) tags =
      if (a == tags.take a.length) && (tags.drop a.length).isEmpty then true
      else matchArgs f (58 :: Y) tags := by
  have ha' : ∀ c ∈ a, (decide (c ≠ 58)) = true := fun c hc => by simpa using ha c hc
  have hne : (a ++ 58 :: Y).isEmpty = false := by cases a <;> rfl
  rw [matchArgs]
  simp only [List.takeWhile_append_of_pos ha', List.dropWhile_append_of_pos ha', hne,
    List.takeWhile_cons, List.dropWhile_cons, ne_eq, not_true_eq_false, decide_false,
    Bool.false_eq_true, ↓reduceIte, List.append_nil, Bool.not_false, Bool.true_or, Bool.true_and]

theorem beq_take_and_drop (a tags : Bytes) :
    ((a == tags.take a.length) && (tags.drop a.length).isEmpty) = (a == tags) := by
  rw [Bool.eq_iff_iff]
  simp only [Bool.and_eq_true, beq_iff_eq, List.isEmpty_iff]
  constructor
  · rintro ⟨h1, h2⟩
    have := List.take_append_drop a.length tags
    rw [h2, List.append_nil] at this
    rw [← this]; exact h1
  · rintro rfl
    simp

theorem beq_take_isPrefixOf (a tags : Bytes) : (a == tags.take a.length) = a.isPrefixOf tags := by
  rw [Bool.eq_iff_iff]
  simp only [beq_iff_eq, List.isPrefixOf_iff_prefix]
  exact ⟨fun h => h ▸ List.take_prefix _ _, fun h => List.prefix_iff_eq_take.mp h⟩

/-- `rtosc_match_args` of Param/Port.lean on a rendered list of type alternatives is C05's `typesCode` -/
theorem matchArgs_typesCode : ∀ (ts : List Bytes) (tags : Bytes) (fuel : Nat),
    ts ≠ [] → (∀ t ∈ ts, ∀ c ∈ t, c ≠ 58) → ts.length ≤ fuel →
    matchArgs fuel (renderTypeAlts ts) tags = typesCode ts tags := by
  intro ts
  induction ts with
  | nil => intro _ _ h; exact absurd rfl h
  | cons a r ih =>
    intro tags fuel _ hch hf
    have ha := hch a List.mem_cons_self
    cases fuel with
    | zero => exact absurd hf (by simp)
    | succ f =>
      cases r with
      | nil =>
        rw [renderTypeAlts, renderTypeAlts, List.append_nil, matchArgs_last f a tags ha, typesCode,
          beq_take_isPrefixOf]
        cases a with
        | nil => cases tags <;> rfl
        | cons c r => simp
      | cons b r =>
        have ih' := ih tags f (List.cons_ne_nil _ _) (fun t ht => hch t (List.mem_cons_of_mem _ ht))
          (Nat.le_of_succ_le_succ hf)
        rw [renderTypeAlts] at ih'
        rw [renderTypeAlts, renderTypeAlts, List.cons_append, List.cons_append,
          matchArgs_more f a _ tags ha, ← List.cons_append, ih', typesCode, beq_take_and_drop]
        cases a == tags <;> rfl

/-- the type specification behind the first ':' -/
def specOf : List Bytes → Bytes
  | [] => []
  | t :: r => t ++ renderTypeAlts r

theorem renderTypeAlts_spec (ts : List Bytes) (h : ts ≠ []) : renderTypeAlts ts = 58 :: specOf ts := by
  cases ts with
  | nil => exact absurd rfl h
  | cons t r => simp [renderTypeAlts, specOf]

theorem scalarPat_render (name : Bytes) (ts : List Bytes) (h : ts ≠ []) :
    (scalarPat name ts).render = name ++ 58 :: specOf ts := by
  simp [scalarPat, Pat.render, renderSegs, Seg.render, Pat.tail, renderTypes, renderTypeAlts_spec ts h]

theorem arrayPat_render (name nd : Bytes) (ts : List Bytes) (h : ts ≠ []) :
    (arrayPat name nd ts).render = arrPattern name nd (specOf ts) := by
  simp [arrayPat, arrPattern, Pat.render, renderSegs, Seg.render, Pat.tail, renderTypes, renderTypeAlts_spec ts h]

theorem length_le_renderTypeAlts (ts : List Bytes) : ts.length ≤ (renderTypeAlts ts).length := by
  induction ts with
  | nil => simp
  | cons t r ih => simp [renderTypeAlts]; omega

theorem isDigit_eq (c : UInt8) : Match.isDigit c = Param.isDigit c := rfl
theorem decVal_eq (ds : Bytes) : Match.decVal ds = digitsVal ds := rfl

/-- the type part: `matchArgs` with the fuel `portMatches` gives it -/
theorem matchArgs_spec (ts : List Bytes) (tags : Bytes) (h : ts ≠ []) (hch : ∀ t ∈ ts, ∀ c ∈ t, c ≠ 58) :
    matchArgs ((58 :: specOf ts).length + 2) (58 :: specOf ts) tags = typesCode ts tags := by
  rw [← renderTypeAlts_spec ts h]
  exact matchArgs_typesCode ts tags _ h hch (by have := length_le_renderTypeAlts ts; omega)

/-- **the restricted matcher of Param/Port.lean is C05's matcher on a scalar macro name** -/
theorem matchB_scalar (name : Bytes) (ts : List Bytes) (path tags : Bytes) (hn : PlainName name)
    (h : ts ≠ []) (hch : ∀ t ∈ ts, ∀ c ∈ t, c ≠ 58) :
    portMatches (scalarPat name ts).render path tags = .ok (Ports.matchB (scalarPat name ts) path tags).isSome ∧
    ∀ t', Ports.matchB (scalarPat name ts) path tags = some t' → path = name := by
  rw [scalarPat_render name ts h, portMatches_scalar name _ path tags hn, matchArgs_spec ts tags h hch]
  simp only [Ports.matchB, scalarPat, greedy]
  by_cases hp : path = name
  · subst hp
    simp
    cases typesCode ts tags <;> simp
  · have : ¬ (name.isPrefixOf path = true ∧ path.drop name.length = []) := by
      rintro ⟨h1, h2⟩
      obtain ⟨t, rfl⟩ := List.isPrefixOf_iff_prefix.mp h1
      simp at h2
      subst h2
      simp at hp
    by_cases h1 : name.isPrefixOf path = true
    · have h2 : path.drop name.length ≠ [] := fun h2 => this ⟨h1, h2⟩
      simp [h1, h2, hp]
    · simp [h1, hp]

theorem greedy_arr (name nd path t : Bytes) :
    greedy [.lit name, .enum nd] false path = some t ↔
      t = [] ∧ ∃ ds, path = name ++ ds ∧ ds ≠ [] ∧ AllDigits ds ∧ digitsVal ds < digitsVal nd := by
  constructor
  · intro h
    obtain ⟨rest, hsp, rfl, rfl⟩ := greedy_sound false _ path t h
    cases hsp with
    | lit _ h1 =>
      cases h1 with
      | enum _ idx hne hd _ hlt h2 =>
        cases h2
        exact ⟨rfl, idx, by rw [List.append_nil], hne, hd, hlt⟩
  · rintro ⟨rfl, ds, rfl, hne, hd, hlt⟩
    have := greedy_complete false [] (.lit name (.enum nd ds hne hd (by intro c t h; cases h) hlt (.nil [])))
      (by simp [segsPrefixFree, Seg.prefixFree])
    rw [List.append_nil, List.append_nil] at this
    rw [this]; rfl

/-- **… and on an array macro name**: what C05's matcher accepts is `name<digits>` with an
    index below `N`, and the restricted matcher accepts it too -/
theorem matchB_array (name nd : Bytes) (ts : List Bytes) (path tags t' : Bytes) (hn : PlainName name)
    (hnd : AllDigits nd) (hnne : nd ≠ []) (hnv : digitsVal nd ≤ 2147483647)
    (h : ts ≠ []) (hch : ∀ t ∈ ts, ∀ c ∈ t, c ≠ 58)
    (hm : Ports.matchB (arrayPat name nd ts) path tags = some t') :
    portMatches (arrayPat name nd ts).render path tags = .ok true ∧
    ∃ ds, path = name ++ ds ∧ ds ≠ [] ∧ AllDigits ds ∧ digitsVal ds < digitsVal nd := by
  unfold Ports.matchB arrayPat at hm
  split at hm
  · cases hm
  · rename_i t hg
    have hty : typesCode ts tags = true := by
      by_cases hc : typesCode ts tags = true
      · exact hc
      · simp [hc] at hm
    obtain ⟨_, ds, rfl, hdne, hds, hlt⟩ := (greedy_arr name nd path t).mp hg
    refine ⟨?_, ds, rfl, hdne, hds, hlt⟩
    rw [arrayPat_render name nd ts h, portMatches_array name nd _ ds tags hn hnd hnne hnv hds hdne (by omega),
      matchArgs_spec ts tags h hch, hty]
    simp [hlt]

theorem matchB_array_conv (name nd : Bytes) (ts : List Bytes) (path tags : Bytes) (hn : PlainName name)
    (hnd : AllDigits nd) (hnne : nd ≠ []) (hnv : digitsVal nd ≤ 2147483647)
    (h : ts ≠ []) (hch : ∀ t ∈ ts, ∀ c ∈ t, c ≠ 58)
    (hm : portMatches (arrayPat name nd ts).render path tags = .ok true) :
    Ports.matchB (arrayPat name nd ts) path tags = some [] := by
  rw [arrayPat_render name nd ts h] at hm
  obtain ⟨ds, rfl, hdne, hds, hlt⟩ := portMatches_array_only name nd _ path tags hn hnd hnne hnv hm
  rw [portMatches_array name nd _ ds tags hn hnd hnne hnv hds hdne (by omega), matchArgs_spec ts tags h hch] at hm
  simp only [hlt, decide_true, Bool.true_and, Except.ok.injEq] at hm
  simp only [Ports.matchB, arrayPat, (greedy_arr name nd _ []).mpr ⟨rfl, ds, rfl, hdne, hds, hlt⟩, hm, if_true]

theorem tagChar_all {ts : List Bytes} (h : ts.all (·.all tagChar) = true) : ∀ t ∈ ts, ∀ c ∈ t, c ≠ 58 := by
  intro t ht c hc
  simp only [List.all_eq_true] at h
  exact (tagChar_ne (h t ht c hc)).2

theorem scalarPat_facts {name : Bytes} {ts : List Bytes} (h : Ports.nameWf (scalarPat name ts) = true) :
    ts ≠ [] ∧ ∀ t ∈ ts, ∀ c ∈ t, c ≠ 58 := by
  simp only [Ports.nameWf, Pat.wf0, scalarPat, typesWf, Bool.and_eq_true, Bool.not_eq_eq_eq_not, Bool.not_true,
    List.isEmpty_eq_false_iff] at h
  exact ⟨h.1.1.2.1, tagChar_all h.1.1.2.2⟩

theorem arrayPat_facts {name nd : Bytes} {ts : List Bytes} (h : Ports.nameWf (arrayPat name nd ts) = true) :
    (ts ≠ [] ∧ ∀ t ∈ ts, ∀ c ∈ t, c ≠ 58) ∧ AllDigits nd ∧ nd ≠ [] ∧ digitsVal nd ≤ 2147483647 := by
  simp only [Ports.nameWf, Pat.wf0, arrayPat, typesWf, segsWf, Seg.wf, Bool.and_eq_true, Bool.not_eq_eq_eq_not,
    Bool.not_true, List.isEmpty_eq_false_iff, decide_eq_true_eq, List.all_eq_true] at h
  obtain ⟨⟨⟨⟨_, ⟨⟨h1, h2⟩, h3⟩, _⟩, h4, h5⟩, _⟩, _⟩ := h
  refine ⟨⟨h4, tagChar_all (by simpa using h5)⟩, h2, h1, ?_⟩
  have := decVal_eq nd
  omega

end Rtosc.Param
