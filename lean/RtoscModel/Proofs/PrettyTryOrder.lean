/-
  C10 — `scanf_fmtstr` tries its numeric formats in a fixed order and takes the first one that
  consumes exactly the numeric word.  Two neighbouring tries that can never both do so may be
  swapped without changing any answer.  Proved here for the one such pair of neighbours,
  "%*lfd%n" / "%*ff%n" (a word that ends in 'd' resp. in 'f'), so that `tryOrder_agrees`
  (Props/C10Tables.lean) accepts both orders of the source.
-/
import RtoscModel.Pretty.Lex
namespace Rtosc.Pretty
open Rtosc Rtosc.Libc

/-- whether `strtod` converts anything does not depend on the target format: the format enters
    only in the bits of a successful conversion.  (The two sides are split in step: after a
    `split` both carry the same discriminants.) -/
theorem strtodMag_isSome (F G : FFmt) (buf : Bytes) : (strtodMag F buf).isSome = (strtodMag G buf).isSome := by
  unfold strtodMag
  extract_lets hexF hexG
  have hex : hexF.isSome = hexG.isSome := by
    simp only [hexF, hexG]
    repeat' split
    all_goals simp only [Option.isSome_some, Option.isSome_none]
  clear_value hexF hexG
  cases hexF <;> cases hexG <;> first | cases hex | skip
  · simp only []
    repeat' split
    all_goals simp only [Option.isSome_some, Option.isSome_none]
  · rfl

/-- behind the tests on the collected characters, `scanFloat` depends on the format only through
    the bits `strtodMag` delivers -/
theorem strtod_tail_rest (F G : FFmt) (buf rest : Bytes) (a b : Nat) (c : Bool) :
    (if c = true then none else match strtodMag F buf with
      | none => none
      | some (bits, _) => some (a + bits, rest)).map Prod.snd =
    (if c = true then none else match strtodMag G buf with
      | none => none
      | some (bits, _) => some (b + bits, rest)).map Prod.snd := by
  have h := strtodMag_isSome F G buf
  cases c
  · cases hF : strtodMag F buf <;> cases hG : strtodMag G buf <;> simp_all
  · simp only [if_true]

/-- the text a float conversion leaves is the same for `%f` and `%lf`.  The `let`s of `scanFloat`
    are kept as local definitions, so that each `split` works on both sides at once and on a
    small term. -/
theorem scanFloat_rest (F G : FFmt) (s : Bytes) :
    (scanFloat F s).map Prod.snd = (scanFloat G s).map Prod.snd := by
  unfold scanFloat
  extract_lets s0
  clear_value s0
  split
  · rfl
  extract_lets hasSign neg s1 sgn sgn'
  clear_value s1
  split
  · rfl
  split
  · split <;> simp only [Option.map_some, Option.map_none]
  split
  · repeat' split
    all_goals simp only [Option.map_some, Option.map_none]
  extract_lets zero hexa pre s2 st b rest buf
  exact strtod_tail_rest ..

/-- on every text one of "%*lih%n", "%*ii%n" consumes nothing (they ask for different letters behind the same `%i`):
    with an empty numeric word the search ends at `h`, `d` or `ii`, before the swapped pair -/
theorem tryH_or_tryII_zero (s : Bytes) :
    scanRd NumFmt.h.tryDirs s = 0 ∨ scanRd NumFmt.ii.tryDirs s = 0 := by
  simp only [NumFmt.tryDirs, scanRd, sscanf, sscanfGo]
  cases scanInt .i none s with
  | none => left; rfl
  | some p =>
    obtain ⟨v, r⟩ := p
    cases r with
    | nil => left; rfl
    | cons x r' =>
      by_cases hx : x = 104
      · right; subst hx; simp
      · left; simp [hx]

/-- "%*lfd%n" and "%*ff%n" never both consume the same non-empty word: it ends in 'd' resp. 'f' -/
theorem tryLfd_tryFf_exclusive (s : Bytes) (n : Nat) (hn : n ≠ 0)
    (h1 : scanRd NumFmt.lfd.tryDirs s = n) (h2 : scanRd NumFmt.ff.tryDirs s = n) : False := by
  have hr := scanFloat_rest f32 f64 s
  simp only [NumFmt.tryDirs, scanRd, sscanf, sscanfGo, Bool.false_eq_true, ↓reduceIte] at h1 h2
  cases hf : scanFloat f32 s with
  | none => rw [hf] at h2; simp at h2; omega
  | some p =>
    cases hd : scanFloat f64 s with
    | none => rw [hd] at h1; simp at h1; omega
    | some q =>
      obtain ⟨b, r⟩ := p
      obtain ⟨b', r'⟩ := q
      rw [hf, hd] at hr
      simp only [Option.map_some, Option.some.injEq] at hr
      subst hr
      rw [hf] at h2; rw [hd] at h1
      cases r with
      | nil => simp at h1; omega
      | cons x t =>
        simp only at h1 h2
        by_cases hx : x = 100
        · subst hx; simp at h2; omega
        · simp [hx] at h1; omega

/-- **the two mutually exclusive tries may be swapped**: `scanf_fmtstr` gives the same answer when
    "%*ff%n" is tried before "%*lfd%n" -/
theorem scanfFmtstr_swap_lfd_ff (s : Bytes) :
    scanfFmtstr s =
      [NumFmt.h, .d, .ii, .x, .ff, .lfd, .f].find? (fun nf => scanRd nf.tryDirs s = numWordLen s) := by
  unfold scanfFmtstr
  have hA := tryH_or_tryII_zero s
  have hB := tryLfd_tryFf_exclusive s (numWordLen s)
  simp only [List.find?_cons]
  by_cases h0 : numWordLen s = 0
  · rcases hA with h | h
    · simp [h, h0]
    · by_cases hh : scanRd NumFmt.h.tryDirs s = 0
      · simp [hh, h0]
      · by_cases hd : scanRd NumFmt.d.tryDirs s = 0
        · simp [hh, hd, h0]
        · simp [hh, hd, h, h0]
  · by_cases p1 : scanRd NumFmt.lfd.tryDirs s = numWordLen s
    · by_cases p2 : scanRd NumFmt.ff.tryDirs s = numWordLen s
      · exact (hB h0 p1 p2).elim
      · simp [p1, p2]
    · simp [p1]
end Rtosc.Pretty
