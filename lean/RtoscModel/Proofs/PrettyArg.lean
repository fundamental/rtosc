/-
  C10/C11 — one argument: a scalar, or an array header followed by its scalar elements.

  `ArgOK t cs` generalises `TokOK`: scanner and checker read the text `t` back as the cells `cs`
  of ONE argument.  `PrintsArg opt cs` generalises `PrintsTok`: the printer appends such a text; an
  array may turn the separator in front of it into a line break (it "computes its newlines itself").
  Both are defined in Pretty/RunsSpec.lean; here are the first lemmas about them.
-/
import RtoscModel.Pretty.RunsSpec
namespace Rtosc.Pretty
open Rtosc Rtosc.Libc
open Rtosc.ArgVal (Cell)

theorem nextArgOffset_scalar (fuel : Nat) (c : Cell) (more : List Cell) (h : c.isScalar = true) :
    nextArgOffset (fuel + 1) (c :: more) = .ok 1 := by
  unfold nextArgOffset
  cases c <;> simp_all [deref, ArgVal.Cell.isScalar, bind, Except.bind, pure, Except.pure]

theorem canPrecedeRange_scalar (c : Cell) (more : List Cell) (h : c.isScalar = true) :
    canPrecedeRange (c :: more) = .ok true := by
  unfold canPrecedeRange
  cases c <;> simp_all [deref, ArgVal.Cell.isScalar, bind, Except.bind, pure, Except.pure]

theorem ArgCells.ne_nil {cs : List Cell} (h : ArgCells cs) : cs ≠ [] := by
  cases h <;> simp

theorem ArgCells.length_pos {cs : List Cell} (h : ArgCells cs) : 0 < cs.length :=
  List.length_pos_iff.mpr h.ne_nil

theorem argOK_of_tokOK {t : Bytes} {c : Cell} (h : TokOK t c) (hsc : c.isScalar = true) : ArgOK t [c] := by
  refine ⟨h.start, ArgCells.scalar c hsc, ?_, ?_⟩
  · intro rest fuel prev ab hs
    exact h.scan rest (fuel + 1) prev ab hs
  · intro rest fuel ty llhs ib hs
    obtain ⟨r, h1, h2, h3, h4⟩ := h.skip rest (fuel + 1) ty llhs ib hs
    exact ⟨r, h1, h2, by simpa using h3, by simpa using h4⟩

theorem printsArg_of_printsTok {opt : POpt} {c : Cell} (h : PrintsTok opt c) (hsc : c.isScalar = true) :
    PrintsArg opt [c] := by
  intro fuel more prev st _
  obtain ⟨t, cols', hp, htok⟩ := h (fuel + 1) more prev st
  refine ⟨st.out, t, cols', ?_, Or.inl rfl, argOK_of_tokOK htok hsc⟩
  simpa using hp

theorem nextArgOffset_argCells (fuel : Nat) {cs : List Cell} (more : List Cell) (h : ArgCells cs) :
    nextArgOffset (fuel + 1) (cs ++ more) = .ok cs.length := by
  cases h with
  | scalar c hsc => simpa using nextArgOffset_scalar fuel c more hsc
  | array ety es _ =>
    unfold nextArgOffset
    have : ¬ ((es.length : Int) < 0) := by omega
    simp [deref, bind, Except.bind, pure, Except.pure, this]

theorem canPrecedeRange_argCells {cs : List Cell} (h : ArgCells cs) : ∃ b, canPrecedeRange cs = .ok b := by
  cases h with
  | scalar c hsc => exact ⟨true, canPrecedeRange_scalar c [] hsc⟩
  | array ety es _ => exact ⟨false, by simp [canPrecedeRange, deref, bind, Except.bind, pure, Except.pure]⟩

theorem argCells_of_printsArg {opt : POpt} {cs : List Cell} (h : PrintsArg opt cs) : ArgCells cs := by
  obtain ⟨_, _, _, _, _, hok⟩ := h 0 [] none ⟨[], 0⟩ (Or.inl rfl)
  exact hok.cells

end Rtosc.Pretty
