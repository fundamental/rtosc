/-
  C10 — tier 3, compressed runs AND arrays: the structured view.  The cells the scanner returns
  for a list of pieces are the flat form of the items `itemsAllA` (values, repetitions, ranges,
  arrays of them), the original cells are the flat form of `origItemsA` (values and arrays of
  values), and both expand to the same value list `valsA`.
-/
import RtoscModel.Proofs.PrettyRunsExtItems
namespace Rtosc.Pretty
open Rtosc Rtosc.Libc
open Rtosc.ArgVal (Cell Item flatList expandList Val)

def ASeg.items (pL : Option Cell) : ASeg → List Item
  | .seg s => s.items pL
  | .arr body => [Item.arr (lastTyS body 32) (itemsAll none body)]
  | .arun n body => [Item.rep n (Item.arr (lastTyS body 32) (itemsAll none body))]

def itemsAllA : Option Cell → List ASeg → List Item
  | _, [] => []
  | L, x :: r => x.items L ++ itemsAllA (some x.plast) r

/-- the piece in the original argument list as items: plain values, or an array of plain values
    tagged with the type of its last value -/
def ASeg.origItems : ASeg → List Item
  | .seg s => s.cells.map Item.val
  | .arr body => [Item.arr (lastTyS body 32) ((cellsAll body).map Item.val)]
  | .arun n body => List.replicate n (Item.arr (lastTyS body 32) ((cellsAll body).map Item.val))

def origItemsA : List ASeg → List Item
  | [] => []
  | x :: r => x.origItems ++ origItemsA r

def ASeg.vals : ASeg → List Val
  | .seg s => s.cells.map Val.sc
  | .arr body => [Val.arr (lastTyS body 32) ((cellsAll body).map Val.sc)]
  | .arun n body => List.replicate n (Val.arr (lastTyS body 32) ((cellsAll body).map Val.sc))

def valsA : List ASeg → List Val
  | [] => []
  | x :: r => x.vals ++ valsA r

theorem flatList_replicate (n : Nat) (x : Item) : flatList (List.replicate n x) = (List.replicate n x.flat).flatten := by
  rw [flatList_eq_flatten, List.map_replicate]

theorem expandList_replicate (n : Nat) (x : Item) (v : Val) (h : x.expand = some [v]) :
    expandList (List.replicate n x) = some (List.replicate n v) := by
  induction n with
  | zero => simp [expandList]
  | succ k ih => simp [List.replicate_succ, expandList, h, ih]

theorem flatList_origItemsA (xs : List ASeg) : flatList (origItemsA xs) = cellsAllA xs := by
  induction xs with
  | nil => simp [origItemsA, cellsAllA, flatList]
  | cons x r ih =>
    simp only [origItemsA, cellsAllA, ArgVal.flatList_append, ih]
    congr 1
    cases x with
    | seg s => simp [ASeg.origItems, ASeg.cells, flatList_vals]
    | arr body => simp [ASeg.origItems, ASeg.cells, flatList, Item.flat, flatList_vals, arrHdr]
    | arun n body => simp [ASeg.origItems, ASeg.cells, flatList_replicate, Item.flat, flatList_vals, arrHdr]

theorem lastTyS_eq_lastTy {opt : POpt} {segs : List RSeg} (h : Segmented opt segs) (d : UInt8) :
    lastTyS segs d = lastTy (cellsAll segs) d := by
  induction segs generalizing d with
  | nil => rfl
  | cons s r ih =>
    obtain ⟨hp, _, hr⟩ := h.head
    have hl := hp.getLast? []
    rw [List.nil_append] at hl
    simp only [lastTyS, cellsAll, ih hr]
    unfold lastTy
    rw [List.getLast?_append, hl]
    cases (cellsAll r).getLast? <;> rfl

theorem expandList_origItemsA {opt : POpt} {xs : List ASeg} (h : ASegmented opt xs) :
    expandList (origItemsA xs) = some (valsA xs) := by
  induction h with
  | nil => simp [origItemsA, valsA, expandList]
  | tok c xs hsc _ _ _ ih =>
    simp only [origItemsA, valsA, ASeg.origItems, ASeg.vals, RSeg.cells]
    exact expandList_append_some _ _ _ _ (expandList_vals [c] (by simpa using hsc)) ih
  | crun n c xs hsc _ _ _ _ _ ih =>
    simp only [origItemsA, valsA, ASeg.origItems, ASeg.vals, RSeg.cells]
    exact expandList_append_some _ _ _ _ (expandList_vals _ (by intro x hx; rw [(List.mem_replicate.mp hx).2]; exact hsc)) ih
  | irun a d n xs _ _ _ ih =>
    simp only [origItemsA, valsA, ASeg.origItems, ASeg.vals, RSeg.cells]
    exact expandList_append_some _ _ _ _ (expandList_vals _ (by
      intro x hx; simp only [arithRun, List.mem_map] at hx; obtain ⟨k, _, rfl⟩ := hx; rfl)) ih
  | arr body xs hb _ _ _ ih =>
    simp only [origItemsA, valsA, ASeg.origItems, ASeg.vals]
    refine expandList_append_some _ _ _ _ ?_ ih
    simp [expandList, Item.expand, expandList_vals _ hb.scalars]
  | arun n body xs hb _ _ _ _ _ ih =>
    simp only [origItemsA, valsA, ASeg.origItems, ASeg.vals]
    refine expandList_append_some _ _ _ _ ?_ ih
    exact expandList_replicate n _ _ (by simp [Item.expand, expandList_vals _ hb.scalars])

theorem flatList_itemsAllA {opt : POpt} {xs : List ASeg} (h : ASegmented opt xs) :
    ∀ L, flatList (itemsAllA L xs) = scannedAllA L xs := by
  have seg : ∀ {s : RSeg} {xs : List ASeg}, s.Printable opt → (∀ L, flatList (itemsAllA L xs) = scannedAllA L xs) →
      ∀ L, flatList (itemsAllA L (.seg s :: xs)) = scannedAllA L (.seg s :: xs) := fun hp ih L => by
    simp only [itemsAllA, scannedAllA, ASeg.items, ASeg.scanned, ArgVal.flatList_append, RSeg.flat_items hp, ih]
  induction h with
  | nil => intro L; rfl
  | tok c xs hsc hpt _ _ ih => exact seg (s := .tok c) ⟨hsc, hpt⟩ ih
  | crun n c xs hsc hpt hn5 hn2 _ _ ih => exact seg (s := .crun n c) ⟨hsc, hpt, hn5, hn2⟩ ih
  | irun a d n xs hr _ _ ih => exact seg (s := .irun a d n) hr ih
  | arr body xs hb _ _ _ ih =>
    intro L
    simp [itemsAllA, scannedAllA, ASeg.items, ASeg.scanned, flatList, Item.flat, ih, flatList_itemsAll hb none, arrHdrS]
  | arun n body xs hb _ _ _ _ _ ih =>
    intro L
    simp [itemsAllA, scannedAllA, ASeg.items, ASeg.scanned, flatList, Item.flat, ih, flatList_itemsAll hb none, arrHdrS]

theorem expandList_itemsAllA {opt : POpt} {xs : List ASeg} (h : ASegmented opt xs) :
    ∀ L, expandList (itemsAllA L xs) = some (valsA xs) := by
  have seg : ∀ {s : RSeg} {xs : List ASeg}, s.Printable opt → (∀ L, expandList (itemsAllA L xs) = some (valsA xs)) →
      ∀ L, expandList (itemsAllA L (.seg s :: xs)) = some (valsA (.seg s :: xs)) := fun hp ih L =>
    expandList_append_some _ _ _ _ (RSeg.expand_items hp L) (ih _)
  induction h with
  | nil => intro L; rfl
  | tok c xs hsc hpt _ _ ih => exact seg (s := .tok c) ⟨hsc, hpt⟩ ih
  | crun n c xs hsc hpt hn5 hn2 _ _ ih => exact seg (s := .crun n c) ⟨hsc, hpt, hn5, hn2⟩ ih
  | irun a d n xs hr _ _ ih => exact seg (s := .irun a d n) hr ih
  | arr body xs hb _ _ _ ih =>
    intro L
    simp only [itemsAllA, valsA, ASeg.items, ASeg.vals]
    refine expandList_append_some _ _ _ _ ?_ (ih _)
    simp [expandList, Item.expand, expandList_itemsAll hb none]
  | arun n body xs hb _ hn _ _ _ ih =>
    intro L
    simp only [itemsAllA, valsA, ASeg.items, ASeg.vals]
    refine expandList_append_some _ _ _ _ ?_ (ih _)
    simp [expandList, Item.expand, expandList_itemsAll hb none, show 1 ≤ n from by omega]

end Rtosc.Pretty
