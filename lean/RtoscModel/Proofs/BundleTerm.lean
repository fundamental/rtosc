/-
  C06 / C08: `rtosc_message_length(msg, -1)` (`messageLengthU`, the length walk
  without a bound of its own: `ThreadLink::raw_write`, `rtosc_bundle`) *returns* — the result is
  never `Rd.hang`.

  * The bundle walk (`bundleLoopU`) terminates on every block whatsoever: after fix
    C06-bundle-length-wrap an element is only stepped over when `pos + 4 + advance` is an
    `unsigned` position, so `pos` strictly increases, and every round reads `msg[pos]`
    inside the block (else the result is `.oob`): at most `|block|` rounds.
  * The message walk (path scan, type-string scan, argument walk) moves forward byte by byte
    and reads what it steps over; it can only come back to a position when `unsigned pos`
    wraps, i.e. on a block of 2^32 bytes or more without a NUL: hypothesis `|block| < 2^32`.
-/
import RtoscModel.Osc.Bundle
import RtoscModel.Proofs.OscEncode
namespace Rtosc.Osc
open Rtosc

theorem bundleStep_forward {pos v : Nat} (hv : v ≠ 0) (hg : ¬ (v ≠ 0 ∧ pos + 4 + v > 4294967295)) :
    u32 (pos + u32 (4 + v)) = pos + 4 + v ∧ pos < u32 (pos + u32 (4 + v)) := by
  rw [u32_id (by omega : 4 + v < 4294967296), u32_id (by omega)]
  omega

/-- `rd32U` reads `m[pos]` first -/
theorem rd32U_some_lt {m : Bytes} {pos : Nat} {v : UInt32} (h : rd32U m pos = some v) :
    pos < m.length := by
  unfold rd32U at h
  cases h0 : m[pos]? with
  | none => simp [h0] at h
  | some b => exact getElem?_some_lt h0

/-- **the bundle walk terminates** (fuel lemma): `fuel + pos > |m|` rounds are enough, for
    every block `m` and every start position. -/
theorem bundleLoopU_ne_hang (m : Bytes) : ∀ (f pos : Nat), 1 ≤ f → m.length + 1 ≤ f + pos →
    bundleLoopU m f pos ≠ .hang := by
  intro f
  induction f with
  | zero => intro pos h; omega
  | succ f ih =>
    intro pos _ hf
    unfold bundleLoopU
    cases hrd : rd32U m pos with
    | none => simp
    | some v =>
      have hlt := rd32U_some_lt hrd
      simp only
      by_cases hg : v.toNat ≠ 0 ∧ pos + 4 + v.toNat > 4294967295
      · rw [if_pos hg]; simp
      · rw [if_neg hg]
        by_cases hv : v.toNat ≠ 0
        · rw [if_pos hv]
          have hfw := bundleStep_forward hv hg
          exact ih _ (by omega) (by omega)
        · rw [if_neg hv]; simp

/-- the result of the bundle walk: a position it has read a zero word at, or 0 -/
theorem bundleLoopU_ok_le (m : Bytes) : ∀ (f pos n : Nat),
    bundleLoopU m f pos = .ok n → n = 0 ∨ n < m.length ∧ pos ≤ n := by
  intro f
  induction f with
  | zero => intro pos n h; simp [bundleLoopU] at h
  | succ f ih =>
    intro pos n h
    unfold bundleLoopU at h
    cases hrd : rd32U m pos with
    | none => rw [hrd] at h; cases h
    | some v =>
      have hlt := rd32U_some_lt hrd
      rw [hrd] at h
      simp only at h
      by_cases hg : v.toNat ≠ 0 ∧ pos + 4 + v.toNat > 4294967295
      · rw [if_pos hg] at h
        cases h; exact Or.inl rfl
      · rw [if_neg hg] at h
        by_cases hv : v.toNat ≠ 0
        · rw [if_pos hv] at h
          have hfw := bundleStep_forward hv hg
          rcases ih _ _ h with h0 | ⟨h1, h2⟩
          · exact Or.inl h0
          · exact Or.inr ⟨h1, by omega⟩
        · rw [if_neg hv] at h
          cases h; exact Or.inr ⟨by omega, Nat.le_refl _⟩

/-- `while(deref(pos,ring)) ++pos;` ends at a NUL or at the end of the block -/
theorem scanNulU_ne_hang (m : Bytes) (h32 : m.length < 4294967296) : ∀ (f pos : Nat), 1 ≤ f →
    m.length + 1 ≤ f + pos → scanNulU m f pos ≠ .hang := by
  intro f
  induction f with
  | zero => intro pos h; omega
  | succ f ih =>
    intro pos _ hf
    unfold scanNulU
    cases hrd : m[pos]? with
    | none => simp
    | some c =>
      have hlt := getElem?_some_lt hrd
      simp only
      by_cases hc : c = 0
      · rw [if_pos hc]; simp
      · rw [if_neg hc, u32_id (by omega)]
        exact ih _ (by omega) (by omega)

theorem scanNulU_fuelU_ne_hang (m : Bytes) (h32 : m.length < 4294967296) (pos : Nat) :
    scanNulU m (fuelU m) pos ≠ .hang :=
  scanNulU_ne_hang m h32 _ _ (by simp [fuelU]) (by simp only [fuelU]; omega)

theorem nullWordU_ne_hang (m : Bytes) : ∀ (k pos : Nat), nullWordU m k pos ≠ .hang := by
  intro k
  induction k with
  | zero => intro pos; simp [nullWordU]
  | succ k ih =>
    intro pos
    unfold nullWordU
    cases m[u32 (pos + 1)]? with
    | none => simp
    | some c =>
      simp only
      split
      · simp
      · exact ih _

theorem tagsFromU_ne_hang (m : Bytes) (h32 : m.length < 4294967296) : ∀ (f p : Nat), 1 ≤ f →
    m.length + 1 ≤ f + p → tagsFromU m f p ≠ .hang := by
  intro f
  induction f with
  | zero => intro p h; omega
  | succ f ih =>
    intro p _ hf
    unfold tagsFromU
    cases hrd : m[p]? with
    | none => simp
    | some c =>
      have hlt := getElem?_some_lt hrd
      simp only
      by_cases hc : c = 0
      · rw [if_pos hc]; simp
      · rw [if_neg hc, u32_id (by omega)]
        have := ih (p + 1) (by omega) (by omega)
        cases hr : tagsFromU m f (p + 1) with
        | ok ts => simp
        | oob => simp
        | hang => exact absurd hr this

/-- the argument walk consumes one tag per round and never asks for more arguments than the
    type string announces (`toparse` counts the tags of this very string) -/
theorem lenLoopU_ne_hang (m : Bytes) (h32 : m.length < 4294967296) (al : Nat) :
    ∀ (ts : Bytes) (tp pos : Nat), tp ≤ nreserved ts → lenLoopU m al tp ts pos ≠ .hang := by
  intro ts
  induction ts with
  | nil =>
    intro tp pos htp
    rw [Nat.le_zero.mp htp]; simp [lenLoopU]
  | cons t ts ih =>
    intro tp pos htp
    cases tp with
    | zero => simp [lenLoopU]
    | succ tp =>
      rw [lenLoopU, lenSwitch]
      cases hk : kind t with
      | none =>
        rw [nreserved_skip hk] at htp
        exact ih _ _ htp
      | some k =>
        rw [nreserved_take hk] at htp
        have htp' : tp ≤ nreserved ts := Nat.le_of_succ_le_succ htp
        cases k with
        | w64 => exact ih _ _ htp'
        | w32 => exact ih _ _ htp'
        | midi => exact ih _ _ htp'
        | str =>
          dsimp only
          cases hsc : scanNulU m (fuelU m) pos with
          | ok p => exact ih _ _ htp'
          | oob => simp
          | hang => exact absurd hsc (scanNulU_fuelU_ne_hang m h32 pos)
        | blob =>
          dsimp only
          cases rd32U m pos with
          | none => simp
          | some v => exact ih _ _ htp'

/-- **`rtosc_message_length(msg, -1)` returns** on every block shorter than 2^32 bytes: it yields
    a length or reads behind the block it was given (`.oob`), it does not loop. -/
theorem messageLengthU_ne_hang (m : Bytes) (h32 : m.length < 4294967296) :
    messageLengthU m ≠ .hang := by
  unfold messageLengthU
  cases magicU m bundleMagic 0 with
  | none => simp
  | some b =>
    cases b with
    | true =>
      simp only
      exact bundleLoopU_ne_hang m _ _ (by simp [fuelU]) (by simp only [fuelU]; omega)
    | false =>
      simp only
      have h1 := scanNulU_fuelU_ne_hang m h32 0
      cases hs1 : scanNulU m (fuelU m) 0 with
      | oob => simp
      | hang => exact absurd hs1 h1
      | ok pos =>
        simp only
        have h2 := nullWordU_ne_hang m 4 pos
        cases hn : nullWordU m 4 pos with
        | oob => simp
        | hang => exact absurd hn h2
        | ok pos =>
          simp only
          cases m[pos]? with
          | none => simp
          | some c =>
            simp only
            by_cases hc : c ≠ 44
            · rw [if_pos hc]; simp
            · rw [if_neg hc]
              have h3 := scanNulU_fuelU_ne_hang m h32 (u32 (pos + 1))
              cases hs2 : scanNulU m (fuelU m) (u32 (pos + 1)) with
              | oob => simp
              | hang => exact absurd hs2 h3
              | ok pos2 =>
                simp only
                have h4 := tagsFromU_ne_hang m h32 (fuelU m) (u32 (pos + 1)) (by simp [fuelU])
                  (by simp only [fuelU]; omega)
                cases ht : tagsFromU m (fuelU m) (u32 (pos + 1)) with
                | oob => simp
                | hang => exact absurd ht h4
                | ok tags =>
                  simp only
                  exact lenLoopU_ne_hang m h32 _ tags _ _ (Nat.le_refl _)

/-- a bundle (a block that starts with `#bundle\0`) needs no bound at all -/
theorem messageLengthU_bundle_ne_hang (m : Bytes) (hb : magicU m bundleMagic 0 = some true) :
    messageLengthU m ≠ .hang := by
  unfold messageLengthU
  rw [hb]
  exact bundleLoopU_ne_hang m _ _ (by simp [fuelU]) (by simp only [fuelU]; omega)

/-! ### `rtosc_bundle` measures every element with `rtosc_message_length(msg, -1)` -/

theorem bundleTotal_ne_hang : ∀ (elems : List Bytes) (acc : Nat),
    (∀ b ∈ elems, b.length < 4294967296) → bundleTotal acc elems ≠ .hang := by
  intro elems
  induction elems with
  | nil => intro acc _; simp [bundleTotal]
  | cons blk rest ih =>
    intro acc h
    have h1 := messageLengthU_ne_hang blk (h blk List.mem_cons_self)
    unfold bundleTotal
    cases hm : messageLengthU blk with
    | ok size => exact ih _ (fun b hb => h b (List.mem_cons_of_mem _ hb))
    | oob => simp
    | hang => exact absurd hm h1

theorem bundleWrite_ne_hang : ∀ (elems : List Bytes) (w : BW) (pos : Nat),
    (∀ b ∈ elems, b.length < 4294967296) → bundleWrite w pos elems ≠ .hang := by
  intro elems
  induction elems with
  | nil => intro w pos _; simp [bundleWrite]
  | cons blk rest ih =>
    intro w pos h
    have h1 := messageLengthU_ne_hang blk (h blk List.mem_cons_self)
    unfold bundleWrite
    cases hm : messageLengthU blk with
    | ok size =>
      simp only
      split
      · exact ih _ _ (fun b hb => h b (List.mem_cons_of_mem _ hb))
      · simp
    | oob => simp
    | hang => exact absurd hm h1

end Rtosc.Osc
