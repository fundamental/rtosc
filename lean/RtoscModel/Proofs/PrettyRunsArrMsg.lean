/-
  C10 — tier 3, compressed runs AND arrays: the round trip at cell level, for argument lists
  and for whole messages; in the closing section the same for lists of segments (no arrays) and for
  a list that is one constant run.
-/
import RtoscModel.Proofs.PrettyRunsArrScan
import RtoscModel.Proofs.PrettyRunsArrCheck
import RtoscModel.Proofs.PrettyRunsArrPrint
namespace Rtosc.Pretty
open Rtosc Rtosc.Libc
open Rtosc.ArgVal (Cell)

theorem ASegsText.readsEnd {xs : List ASeg} {text : Bytes} (h : ASegsText none xs text) :
    ReadsEnd text (scannedAllA none xs) :=
  ⟨h.skipSpace, countPrintedArgVals_asegs h, scanArgVals_asegs h⟩

theorem cellsRT_asegs (opt : POpt) (hc : opt.compress = true) (xs : List ASeg) (hseg : ASegmented opt xs) :
    CellsRT opt (cellsAllA xs) (scannedAllA none xs) := by
  obtain ⟨hall, hl⟩ := hseg.allPrint opt hc
  simpa [cellsOf_aseg] using cellsRT_of_pieces opt ASeg.cells _ xs hall (fun body h => (h.asegsText hl).readsEnd)

/-- **Tier 3, compressed runs and arrays.**  For an argument list that the printer cuts into the
    pieces `xs` (values, constant runs, int32 arithmetic runs, arrays whose bodies are cut into
    such segments, and runs `nx[…]` of equal such arrays, in any order): the printer returns the length of the text it wrote, the checker
    counts exactly the cells the scanner then writes, the scanner consumes the whole text and
    returns the range blocks / array blocks of the pieces. -/
theorem runs_arrays_roundtrip_cells (opt : POpt) (hc : opt.compress = true) (xs : List ASeg) (hseg : ASegmented opt xs) :
    ∃ (st : PSt) (ret : Nat),
      printArgVals opt (cellsAllA xs) ⟨[], 0⟩ = .ok (st, ret) ∧ ret = st.out.length ∧
      countPrintedArgVals st.out = .ok ((scannedAllA none xs).length : Int) ∧
      scanArgVals st.out (scannedAllA none xs).length = .ok (st.out.length, scannedAllA none xs) :=
  (cellsRT_asegs opt hc xs hseg).list

/-- **Tier 3, compressed runs and arrays, whole messages.** -/
theorem runs_arrays_message_roundtrip_cells (opt : POpt) (hc : opt.compress = true) (addr : Bytes) (adrsize : Nat)
    (ha : AddrOK addr) (hal : addr.length < adrsize) (xs : List ASeg) (hseg : ASegmented opt xs) :
    ∃ (st : PSt) (ret : Nat),
      printMessage opt addr (cellsAllA xs) 0 = .ok (st, ret) ∧ ret = st.out.length ∧
      countPrintedArgValsOfMsg st.out = .ok ((scannedAllA none xs).length : Int) ∧
      scanMessage st.out adrsize (scannedAllA none xs).length = .ok (st.out.length, addr, scannedAllA none xs) :=
  (cellsRT_asegs opt hc xs hseg).msg addr adrsize ha hal

/-! ### lists without arrays

  A list of segments is a list of pieces without arrays (`segs.map .seg`), so the statements for
  segments are the ones above at such a list; a list that is one constant run is a list of one
  segment. -/

theorem cellsAllA_seg (segs : List RSeg) : cellsAllA (segs.map .seg) = cellsAll segs := by
  induction segs with
  | nil => rfl
  | cons s r ih => simp only [List.map_cons, cellsAllA, cellsAll, ASeg.cells, ih]

theorem scannedAllA_seg (L : Option Cell) (segs : List RSeg) : scannedAllA L (segs.map .seg) = scannedAll L segs := by
  induction segs generalizing L with
  | nil => rfl
  | cons s r ih => simp only [List.map_cons, scannedAllA, scannedAll, ASeg.scanned, ASeg.plast, ih]

theorem Segmented.toA {opt : POpt} {segs : List RSeg} (h : Segmented opt segs) : ASegmented opt (segs.map .seg) := by
  induction h with
  | nil => exact .nil
  | tok c segs hsc hpt hconv _ ih => exact .tok c _ hsc hpt (by rw [cellsAllA_seg]; exact hconv) ih
  | crun n c segs hsc hpt hn5 hn2 hconv _ ih => exact .crun n c _ hsc hpt hn5 hn2 (by rw [cellsAllA_seg]; exact hconv) ih
  | irun a d n segs hr hconv _ ih => exact .irun a d n _ hr (by rw [cellsAllA_seg]; exact hconv) ih

theorem cellsRT_segs (opt : POpt) (hc : opt.compress = true) (segs : List RSeg) (hseg : Segmented opt segs) :
    CellsRT opt (cellsAll segs) (scannedAll none segs) := by
  simpa only [cellsAllA_seg, scannedAllA_seg] using cellsRT_asegs opt hc (segs.map .seg) hseg.toA

/-- **Tier 3, compressed runs in context.**  For an argument list that the printer cuts into the
    segments `segs` (values printed as they are, constant runs, int32 arithmetic runs, in any
    order): the printer returns the length of the text it wrote, the checker counts exactly the
    cells the scanner then writes, the scanner consumes the whole text and returns the range
    blocks of the segments. -/
theorem runs_roundtrip_cells (opt : POpt) (hc : opt.compress = true) (segs : List RSeg) (hseg : Segmented opt segs) :
    ∃ (st : PSt) (ret : Nat),
      printArgVals opt (cellsAll segs) ⟨[], 0⟩ = .ok (st, ret) ∧ ret = st.out.length ∧
      countPrintedArgVals st.out = .ok ((scannedAll none segs).length : Int) ∧
      scanArgVals st.out (scannedAll none segs).length = .ok (st.out.length, scannedAll none segs) :=
  (cellsRT_segs opt hc segs hseg).list

/-- **Tier 3, compressed runs in context, whole messages.** -/
theorem runs_message_roundtrip_cells (opt : POpt) (hc : opt.compress = true) (addr : Bytes) (adrsize : Nat)
    (ha : AddrOK addr) (hal : addr.length < adrsize) (segs : List RSeg) (hseg : Segmented opt segs) :
    ∃ (st : PSt) (ret : Nat),
      printMessage opt addr (cellsAll segs) 0 = .ok (st, ret) ∧ ret = st.out.length ∧
      countPrintedArgValsOfMsg st.out = .ok ((scannedAll none segs).length : Int) ∧
      scanMessage st.out adrsize (scannedAll none segs).length = .ok (st.out.length, addr, scannedAll none segs) :=
  (cellsRT_segs opt hc segs hseg).msg addr adrsize ha hal

theorem Segmented.single_crun (opt : POpt) (hc : opt.compress = true) (c : Cell) (hsc : c.isScalar = true)
    (hp : PrintsTok opt c) (hid : SelfIdentical c) (n : Nat) (hn5 : 5 ≤ n) (hn : n ≤ 2147483647) :
    Segmented opt [.crun n c] :=
  .crun n c [] hsc hp hn5 hn (convertToRange_crun_of_nextW opt hc c hsc hid n hn5 [] .nil (Or.inl rfl)) .nil

/-- **Tier 3, constant runs.**  With range compression on, `n ≥ 5` copies of a scalar value whose
    token is good are printed as `nxT`; the checker counts 2 cells and the scanner returns the
    range block `[rep n 0, c]`. -/
theorem cellsRT_const_run (opt : POpt) (hc : opt.compress = true) (c : Cell) (hsc : c.isScalar = true)
    (hp : PrintsTok opt c) (hid : SelfIdentical c) (n : Nat) (hn5 : 5 ≤ n) (hn : n ≤ 2147483647) :
    CellsRT opt (List.replicate n c) [Cell.rep n 0, c] := by
  simpa [cellsAll, scannedAll, RSeg.cells, RSeg.scanned] using
    cellsRT_segs opt hc _ (Segmented.single_crun opt hc c hsc hp hid n hn5 hn)

/-- **Tier 3, constant runs, whole messages.** -/
theorem const_run_message_roundtrip (opt : POpt) (hc : opt.compress = true) (addr : Bytes) (adrsize : Nat)
    (ha : AddrOK addr) (hal : addr.length < adrsize) (c : Cell) (hsc : c.isScalar = true)
    (hp : PrintsTok opt c) (hid : SelfIdentical c) (n : Nat) (hn5 : 5 ≤ n) (hn : n ≤ 2147483647) :
    ∃ (st : PSt) (ret : Nat),
      printMessage opt addr (List.replicate n c) 0 = .ok (st, ret) ∧ ret = st.out.length ∧
      countPrintedArgValsOfMsg st.out = .ok 2 ∧
      scanMessage st.out adrsize 2 = .ok (st.out.length, addr, [Cell.rep n 0, c]) := by
  simpa using (cellsRT_const_run opt hc c hsc hp hid n hn5 hn).msg addr adrsize ha hal

end Rtosc.Pretty
