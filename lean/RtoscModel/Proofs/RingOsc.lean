/-
  C06 — the real framing functions satisfy what the ThreadLink theorems ask of a framing
  function.  `frameOsc` (= `rtosc_message_ring_length` on the ring view, C01's model
  `Osc.ringLength`) is a `Framing` for the encodings of well-formed OSC messages
  (`IsOscMsg`): from C01's `ringLength_spec` (Proofs/OscLength.lean; Props/C01.lean states it again
  as `ringLength_encode`).
  `rawLen` (= `rtosc_message_length(msg,-1)`, `Osc.messageLengthU`) agrees with it on such
  messages (`messageLengthU_msg`, C08), hence the sequential model with the two real length
  functions (`Seq.runOsc`) is `Seq.run frameOsc` on every history of messages.
-/
import RtoscModel.Ring.Frame
import RtoscModel.Ring.ConcSpec
import RtoscModel.Proofs.BundleSpec
import RtoscModel.Proofs.BundleTerm
namespace Rtosc.Ring
open Rtosc

/-! ### `rtosc_message_ring_length` never reports more than the ring holds -/

theorem lenLoop_le (r : Osc.Ring) (al : Nat) (ts : Bytes) (tp pos n : Nat) :
    Osc.lenLoop r al tp ts pos = some n → n ≤ r.total := by
  fun_induction Osc.lenLoop r al tp ts pos <;> first
    | assumption                          -- the loop goes on: the goal is the induction hypothesis
    -- it ends: without a result, with 0, or with `pos` if that is inside the ring
    | (intro h; cases h <;> first | exact Nat.zero_le _ | (split <;> omega))

theorem bundleLoop_le (r : Osc.Ring) (f pos n : Nat) :
    Osc.bundleLoop r f pos = some n → n ≤ r.total := by
  fun_induction Osc.bundleLoop r f pos <;> first
    | assumption
    | (intro h; cases h <;> first | exact Nat.zero_le _ | (split <;> omega))

theorem ringLength_le (r : Osc.Ring) (n : Nat) : Osc.ringLength r = some n → n ≤ r.total := by
  fun_cases Osc.ringLength r <;> first
    | exact bundleLoop_le r _ _ n         -- a bundle
    | exact lenLoop_le r _ _ _ _ n        -- a message whose argument walk is reached
    | (intro h; cases h <;> exact Nat.zero_le _)  -- no result, or 0 for a missing type tag string

theorem frameOsc_le (v : Bytes) : frameOsc v ≤ v.length := by
  unfold frameOsc
  cases h : Osc.ringLength ⟨v, []⟩ with
  | none => simp
  | some n =>
    have := ringLength_le _ n h
    simpa [Osc.Ring.total] using this

theorem encode_ne_nil (m : Osc.Msg) : Osc.Spec.encode m ≠ [] := by
  intro h
  have := congrArg List.length h
  rw [Osc.encode_length] at this
  simp only [List.length_nil] at this
  omega

/-- The model of `rtosc_message_ring_length` is a framing function in the sense of the
    ThreadLink theorems, for the encodings of well-formed OSC messages. -/
theorem oscFraming : Framing frameOsc IsOscMsg where
  le := frameOsc_le
  msg := by
    rintro b rest ⟨m, hwf, hnb, rfl⟩
    unfold frameOsc
    rw [Osc.ringLength_spec m rest ⟨Osc.Spec.encode m ++ rest, []⟩ hwf (fun e => hnb (by rw [e]; rfl))
      (by simp)]
    rfl
  ne := by
    rintro b ⟨m, _, _, rfl⟩
    exact encode_ne_nil m

/-- `rtosc_message_length(msg,-1)` (what `raw_write` calls) on a block that starts with an
    encoded message is the length of the message: it stays inside the block and terminates. -/
theorem rawLen_msg (b rest : Bytes) (h : IsOscMsg b) : rawLen (b ++ rest) = .ok b.length := by
  obtain ⟨m, hwf, hnb, rfl⟩ := h
  exact Osc.messageLengthU_msg m rest hwf hnb

theorem rawLen_eq_frameOsc (b : Bytes) (h : IsOscMsg b) : rawLen b = .ok (frameOsc b) := by
  have h1 := rawLen_msg b [] h
  have h2 := oscFraming.msg b [] h
  rw [List.append_nil] at h1 h2
  rw [h1, h2]

/-! ### `rtosc_message_length(msg,-1)` returns (after fix C06-bundle-length-wrap) -/

/-- the block starts with `#bundle\0`: the `&&` chain of `rtosc_message_ring_length` says so -/
theorem magicU_of_take (b : Bytes) (h : b.take 8 = bundleMagic) :
    Osc.magicU b Osc.bundleMagic 0 = some true := by
  rw [Osc.magicU_eq, List.drop_zero, ← List.take_append_drop 8 b, show b.take 8 = Osc.bundleMagic from h]
  exact Osc.magicL_magic _

theorem rawLen_ne_hang (b : Bytes) (h : b.length < 4294967296 ∨ b.take 8 = bundleMagic) :
    rawLen b ≠ .hang := by
  rcases h with h | h
  · exact Osc.messageLengthU_ne_hang b h
  · exact Osc.messageLengthU_bundle_ne_hang b (magicU_of_take b h)

/-- an operation of the sequential model with the real length functions has no successor only
    when it is a `raw_write` whose length walk leaves the block or does not return -/
theorem stepOsc_none (s : Seq) (op : Op) (h : s.stepOsc op = none) :
    ∃ b, op = .rawWrite b ∧ (rawLen b = .oob ∨ rawLen b = .hang) := by
  cases op with
  | rawWrite b =>
    refine ⟨b, rfl, ?_⟩
    simp only [Seq.stepOsc] at h
    cases hr : rawLen b with
    | ok n => rw [hr] at h; cases h
    | oob => exact Or.inl rfl
    | hang => exact Or.inr rfl
  | _ => cases h

theorem stepOsc_eq (s : Seq) (op : Op) (h : op.Ok IsOscMsg) :
    s.stepOsc op = some (s.step frameOsc op) := by
  cases op with
  | rawWrite b =>
    have hb : IsOscMsg b := h
    simp only [Seq.stepOsc, rawLen_eq_frameOsc b hb, Seq.step, Seq.rawWrite]
  | _ => rfl

theorem runOsc_eq : ∀ (ops : List Op) (s : Seq), (∀ op, op ∈ ops → op.Ok IsOscMsg) →
    Seq.runOsc s ops = some (Seq.run frameOsc s ops) := by
  intro ops
  induction ops with
  | nil => intro s _; rfl
  | cons op ops ih =>
    intro s h
    have h1 := stepOsc_eq s op (h op (List.mem_cons_self ..))
    have h2 := ih (s.step frameOsc op).1 (fun o ho => h o (List.mem_cons_of_mem _ ho))
    simp only [Seq.runOsc, h1, h2, Seq.run]

end Rtosc.Ring
