/-
  C11 — printing the scanned values of a sentence of scalars, for `print_scan_fixpoint`:
  the printer (C10's model `printArgVals`) writes for every such value a text that
  both `switch`es read back as the value (`PrintsVal`, proved per type in `Proofs/PrettyTok*.lean`;
  `printsVal_tok` for the spellings of the specification), and its loop writes these texts separated by a blank or a line break
  (`printArgVals_lay`: the printer's loop of `Proofs/PrettyLoops.lean` at scalar values;
  the result is stated as an `ArgsLay` — `LayText`, defined in `Pretty/C11LayoutSpec.lean` —, so that the C11
  list theorems apply to the printed text).
-/
import RtoscModel.Proofs.ScanSpec
import RtoscModel.Proofs.ScanTransfer
import RtoscModel.Proofs.PrettyList
namespace Rtosc.Pretty.C11
open Rtosc Rtosc.Libc Rtosc.Pretty
open Rtosc.ArgVal (Cell)

instance (b : UInt8) : Decidable (StrByteOK b) :=
  inferInstanceAs (Decidable ((7 ≤ b ∧ b ≤ 13) ∨ (32 ≤ b ∧ b ≤ 126)))

instance (v : Int) : Decidable (CharOK v) :=
  inferInstanceAs (Decidable (v = 0 ∨ (7 ≤ v ∧ v ≤ 13) ∨ (32 ≤ v ∧ v ≤ 126)))

theorem strCh_byteOK (x : StrCh) (h : x.ok = true) : StrByteOK x.value := by
  cases x with
  | raw c =>
    simp only [StrCh.ok, Bool.and_eq_true, decide_eq_true_eq, ne_eq] at h
    right; exact ⟨h.1.1.1, h.1.1.2⟩
  | esc c =>
    have table : ∀ c ∈ escapable, (asEscapedChar c false).isSome = true → StrByteOK c := by decide +kernel
    exact table c (asEscapedChar_some c false h) h

theorem identChar_byteOK (c : UInt8) (h : isIdentChar c = true) : StrByteOK c := by
  revert h; revert c; apply UInt8.forall_of_fin; decide +kernel

theorem charEsc_ok (c : UInt8) (h : (asEscapedChar c true).isSome = true) : CharOK (c.toNat : Int) := by
  have table : ∀ c ∈ escapable, (asEscapedChar c true).isSome = true → CharOK (c.toNat : Int) := by decide +kernel
  exact table c (asEscapedChar_some c true h) h

/-- the value of every proved spelling is printed as a text both `switch`es read back -/
theorem printsVal_tok (opt : POpt) (bl : List Nat → Blank) (t : Tok) (hwf : t.wf = true) (hp : t.proved bl = true) :
    PrintsVal opt t.cell := by
  cases t with
  | int v base sfx =>
    simp only [Tok.wf, Bool.and_eq_true, decide_eq_true_eq] at hwf
    exact printsVal_int opt v hwf.1 hwf.2
  | huge v base =>
    simp only [Tok.wf, Bool.and_eq_true, decide_eq_true_eq] at hwf
    exact printsVal_huge opt v hwf.1.1 hwf.1.2
  | flt dbl sfx l exact => simp [Tok.proved] at hp
  | chr c esc =>
    cases esc with
    | false =>
      simp only [Tok.wf, Bool.false_eq_true, ↓reduceIte, Bool.and_eq_true, decide_eq_true_eq, ne_eq] at hwf
      have h1 : (32 : UInt8) ≤ c := hwf.1.1.1
      have h2 : c ≤ (126 : UInt8) := hwf.1.1.2
      have : CharOK (c.toNat : Int) := by
        right; right
        have a1 : (32 : UInt8).toNat ≤ c.toNat := h1
        have a2 : c.toNat ≤ (126 : UInt8).toNat := h2
        simp at a1 a2
        omega
      exact printsVal_char opt _ this
    | true =>
      simp only [Tok.wf, ↓reduceIte] at hwf
      exact printsVal_char opt _ (charEsc_ok c hwf)
  | str sym parts =>
    simp only [Tok.wf, Bool.and_eq_true, Bool.not_eq_eq_eq_not, Bool.not_true, List.all_eq_true] at hwf
    have hb : ∀ b ∈ (parts.flatten).map StrCh.value, StrByteOK b := by
      intro b hb
      simp only [List.mem_map, List.mem_flatten] at hb
      obtain ⟨x, ⟨p, hp1, hp2⟩, rfl⟩ := hb
      exact strCh_byteOK x (hwf.2 p hp1 x hp2)
    cases sym with
    | false => exact printsVal_string opt _ hb
    | true => exact printsVal_symbol opt _ hb
  | ident name =>
    simp only [Tok.wf, Bool.and_eq_true, Bool.not_eq_eq_eq_not, Bool.not_true, List.all_eq_true] at hwf
    exact printsVal_symbol opt name (fun b hb => identChar_byteOK b (hwf.1.2 b hb))
  | kw k =>
    cases k
    · exact printsVal_flag opt .T
    · exact printsVal_flag opt .F
    · exact printsVal_flag opt .N
    · exact printsVal_flag opt .I
    · exact printsVal_immediately opt
    · exact printsVal_immediately opt
  | color v upper =>
    simp only [Tok.wf, decide_eq_true_eq] at hwf
    exact printsVal_color opt _ (toI32_bounds _).1 (toI32_bounds _).2
  | midi a b c d pad => exact printsVal_midi opt a b c d
  | blob data =>
    simp only [Tok.wf, decide_eq_true_eq] at hwf
    exact printsVal_blob opt data hwf

theorem gaps_sp : gapsBytes [Gap.ws .sp] = [32] := by simp [gapsBytes, Gap.bytes, Ws.byte]
theorem gaps_nl4 : gapsBytes [Gap.ws .nl, .ws .sp, .ws .sp, .ws .sp, .ws .sp] = nl4 := by
  simp [gapsBytes, Gap.bytes, Ws.byte, nl4]

theorem sepGaps_of_sepTxt {sep : Bytes} (h : IsSepTxt sep) : ∃ g, SepGaps g ∧ gapsBytes g = sep := by
  rcases h with rfl | rfl
  · exact ⟨_, ⟨_, _, rfl⟩, gaps_sp⟩
  · exact ⟨_, ⟨_, _, rfl⟩, gaps_nl4⟩

theorem _root_.Rtosc.Pretty.SepText.argsLay {L : Option Cell} {xs : List Cell} {body : Bytes}
    (h : SepText (fun c => [c]) (fun _ c T => Arg11 T [c]) L xs body) (hne : xs ≠ []) :
    ∃ tcs, ArgsLay tcs body ∧ allCells tcs = xs := by
  induction h with
  | nil => exact absurd rfl hne
  | cons L c xs T sep text hT hrest h1 h2 ih =>
    by_cases hxs : xs = []
    · subst hxs; cases hrest; rw [h1 rfl]
      exact ⟨[(T, [c])], by simpa using ArgsLay.one T [c] [] hT .none, by simp [allCells]⟩
    · obtain ⟨tcs, hl, e⟩ := ih hxs
      obtain ⟨g, hg, rfl⟩ := sepGaps_of_sepTxt (h2 hxs)
      exact ⟨(T, [c]) :: tcs, .cons T [c] g tcs text hT hg hl, by simp [allCells_cons, e]⟩

/-- **printing scalar values**: the printer returns the length of the text it wrote, and the
    text is empty (no values) or a text of good arguments for exactly these values -/
theorem printArgVals_lay (opt : POpt) (args : List Cell)
    (hP : ∀ c ∈ args, c.isScalar = true ∧ PrintsVal opt c)
    (hconv : ∀ i, i < args.length → convertToRange opt (args.drop i) (args.length - i) = .ok none) :
    ∃ (st : PSt) (ret : Nat),
      Pretty.printArgVals opt args ⟨[], 0⟩ = .ok (st, ret) ∧ ret = st.out.length ∧ LayText args st.out := by
  -- every value is a piece of the printer's loop (Proofs/PrettyLoops.lean), in front of the values behind it
  have hall : ∀ (rem : List Cell) (i : Nat), args.drop i = rem →
      AllPrint opt (fun c => [c]) (fun _ c T => Arg11 T [c]) rem := by
    intro rem
    induction rem with
    | nil => intro _ _; trivial
    | cons c rem' ih =>
      intro i hi
      obtain ⟨hlt, hi'⟩ := drop_eq_cons_lt args i c rem' hi
      obtain ⟨hsc, hpv⟩ := hP c (List.mem_of_mem_drop (hi ▸ List.mem_cons_self))
      have hcs : cellsOf (fun c => [c]) rem' = rem' := by simp [cellsOf, flatten_map_singleton]
      have hlen : args.length - i = 1 + rem'.length := by
        have := congrArg List.length hi; simp at this; omega
      refine ⟨⟨c, none, rfl, ?_, ?_, fun prev st _ => ?_⟩, ih (i + 1) hi'⟩
      · rw [hcs, List.length_singleton, ← hlen, List.singleton_append, ← hi]; exact hconv i hlt
      · exact nextArgOffset_scalar _ c _ hsc
      · obtain ⟨t, cols', hp, hv⟩ :=
          hpv (([c] ++ cellsOf (fun c => [c]) rem').length + 2) (cellsOf (fun c => [c]) rem') prev st
        exact ⟨st.out, t, cols', by rw [Nat.sub_self]; exact hp, Or.inl rfl, hv.arg11⟩
  obtain ⟨st', pre, body, hrun, hout, htt, hpre⟩ :=
    printArgVals_pieces opt (fun c => [c]) _ args (hall args 0 rfl) ⟨[], 0⟩ (Or.inl rfl)
  rw [show cellsOf (fun c => [c]) args = args by simp [cellsOf, flatten_map_singleton]] at hrun
  have hpre0 : pre = [] := by
    rcases hpre with h | ⟨base, h1, _⟩
    · exact h
    · simp at h1
  subst hpre0
  simp only [List.nil_append, List.length_nil, Nat.sub_zero, Nat.zero_add] at hrun hout
  refine ⟨st', body.length, hrun, by rw [hout], ?_⟩
  · rw [hout]
    by_cases hne : args = []
    · subst hne; cases htt; exact Or.inl ⟨rfl, rfl⟩
    · exact Or.inr (htt.argsLay hne)

end Rtosc.Pretty.C11
