/-
  C13 — Kahn's algorithm as written in `dispatch_printed_messages` (model:
  `RtoscModel/Save/Deps.lean`, `kahn`): for an acyclic dependency graph whose edges all
  point to existing messages the loop ends within its fuel (`kahn_fuel_suffices`), every message is
  dispatched exactly once and every message stands behind all the messages it depends on (`kahn_spec`);
  on the way the counters never wrap (`decSize` is never applied to 0: `hdec` inside `relax_spec`).
-/
import RtoscModel.Save.Deps

namespace Rtosc.Save

/-- number of edges (with multiplicity) into `j` that start at a node of `R` -/
def inW (deps : List (List Nat)) (R : List Nat) (j : Nat) : Nat := (R.flatMap fun i => deps.getD i []).count j

theorem map_getD_range {α : Type} (l : List α) (d : α) :
    ((List.range l.length).map fun i => l.getD i d) = l := by
  apply List.ext_getElem
  · simp
  · intro i h1 h2
    simp [List.getD_eq_getElem?_getD, h2]

theorem inW_range (deps : List (List Nat)) (j : Nat) :
    inW deps (List.range deps.length) j = deps.flatten.count j := by
  unfold inW
  rw [List.flatMap_def, map_getD_range]

theorem inW_erase (deps : List (List Nat)) (R : List Nat) (m j : Nat) (h : m ∈ R) :
    inW deps R j = (deps.getD m []).count j + inW deps (R.erase m) j := by
  unfold inW
  rw [((List.perm_cons_erase h).flatMap_right _).count_eq, List.flatMap_cons, List.count_append]

theorem inW_eq_zero (deps : List (List Nat)) (R : List Nat) (j : Nat) :
    inW deps R j = 0 ↔ ∀ i ∈ R, j ∉ deps.getD i [] := by
  simp [inW, List.count_eq_zero, List.mem_flatMap]

theorem getD_range (deps : List (List Nat))
    (hrange : ∀ l ∈ deps, ∀ j ∈ l, j < deps.length) (i j : Nat) (h : j ∈ deps.getD i []) :
    j < deps.length := by
  rw [List.getD_eq_getElem?_getD] at h
  by_cases hi : i < deps.length
  · rw [List.getElem?_eq_getElem hi] at h
    exact hrange _ (List.getElem_mem hi) j h
  · rw [List.getElem?_eq_none (by omega)] at h
    simp at h

theorem countInner_spec (l : List Nat) (cnt : List Nat) (h : ∀ d ∈ l, d < cnt.length) :
    (l.foldl (fun cnt d => cnt.modify d (· + 1)) cnt).length = cnt.length ∧
    ∀ j, (l.foldl (fun cnt d => cnt.modify d (· + 1)) cnt).getD j 0 = cnt.getD j 0 + l.count j := by
  induction l generalizing cnt with
  | nil => simp
  | cons d ds ih =>
    have hd : d < cnt.length := h d (by simp)
    have := ih (cnt.modify d (· + 1)) (by
      intro e he; simp only [List.length_modify]; exact h e (by simp [he]))
    simp only [List.foldl_cons]
    refine ⟨by simpa using this.1, fun j => ?_⟩
    rw [this.2 j]
    simp only [List.getD_eq_getElem?_getD, List.getElem?_modify, List.count_cons]
    by_cases hdj : d = j
    · subst hdj; simp [List.getElem?_eq_getElem hd]; omega
    · simp [hdj]

theorem countOuter_spec (ds : List (List Nat)) (cnt : List Nat)
    (h : ∀ l ∈ ds, ∀ d ∈ l, d < cnt.length) :
    (ds.foldl (fun cnt l => l.foldl (fun cnt d => cnt.modify d (· + 1)) cnt) cnt).length
      = cnt.length ∧
    ∀ j, (ds.foldl (fun cnt l => l.foldl (fun cnt d => cnt.modify d (· + 1)) cnt) cnt).getD j 0
      = cnt.getD j 0 + ds.flatten.count j := by
  induction ds generalizing cnt with
  | nil => simp
  | cons l ls ih =>
    have h1 := countInner_spec l cnt (h l (by simp))
    have h2 := ih (l.foldl (fun cnt d => cnt.modify d (· + 1)) cnt) (by
      intro l' hl' d hd; rw [h1.1]; exact h l' (by simp [hl']) d hd)
    simp only [List.foldl_cons]
    refine ⟨by rw [h2.1, h1.1], fun j => ?_⟩
    rw [h2.2 j, h1.2 j, List.flatten_cons, List.count_append]; omega

theorem countInputs_spec (deps : List (List Nat))
    (hrange : ∀ l ∈ deps, ∀ j ∈ l, j < deps.length) :
    (countInputs deps).length = deps.length ∧
    ∀ j, (countInputs deps).getD j 0 = inW deps (List.range deps.length) j := by
  have := countOuter_spec deps (List.replicate deps.length 0) (by simpa using hrange)
  unfold countInputs
  refine ⟨by simpa using this.1, fun j => ?_⟩
  rw [this.2 j, inW_range]
  simp [List.getD_eq_getElem?_getD, List.getElem?_replicate]
  split <;> simp

theorem count_cons_ite (d : Nat) (ds : List Nat) (j : Nat) :
    (d :: ds).count j = ds.count j + if j = d then 1 else 0 := by
  rw [List.count_cons]
  by_cases h : j = d
  · subst h; simp
  · have : ¬ (d == j) = true := by simpa using Ne.symm h
    simp [h, this]

theorem relax_spec (l : List Nat) (cnt q : List Nat)
    (hlt : ∀ d ∈ l, d < cnt.length)
    (hnowrap : ∀ j, l.count j ≤ cnt.getD j 0) :
    ∃ ext, relax l (cnt, q) = ((relax l (cnt, q)).1, q ++ ext) ∧
      (relax l (cnt, q)).1.length = cnt.length ∧
      (∀ j, (relax l (cnt, q)).1.getD j 0 = cnt.getD j 0 - l.count j) ∧
      ext.Nodup ∧
      ∀ j, j ∈ ext ↔ j ∈ l ∧ cnt.getD j 0 = l.count j := by
  induction l generalizing cnt q with
  | nil => exact ⟨[], by simp [relax]⟩
  | cons d ds ih =>
    have hd : d < cnt.length := hlt d (by simp)
    have hd1 : 1 ≤ cnt.getD d 0 := by
      have h1 := hnowrap d
      rw [count_cons_ite] at h1
      simp only [if_true] at h1; omega
    have hdec : decSize (cnt.getD d 0) = cnt.getD d 0 - 1 := by
      unfold decSize; rw [if_neg (by omega)]
    have hget : ∀ j, (cnt.set d (decSize (cnt.getD d 0))).getD j 0 =
        if j = d then cnt.getD d 0 - 1 else cnt.getD j 0 := by
      intro j
      rw [hdec]
      simp only [List.getD_eq_getElem?_getD, List.getElem?_set]
      by_cases hjd : j = d
      · subst hjd; simp [hd]
      · simp [hjd, Ne.symm hjd]
    have hnw' : ∀ j, ds.count j ≤ (cnt.set d (decSize (cnt.getD d 0))).getD j 0 := by
      intro j
      have h1 := hnowrap j
      rw [hget j]
      rw [count_cons_ite] at h1
      by_cases hjd : j = d
      · subst hjd; simp only [if_true] at h1 ⊢; omega
      · simp only [hjd, if_false] at h1 ⊢; omega
    have hlt' : ∀ e ∈ ds, e < (cnt.set d (decSize (cnt.getD d 0))).length := by
      intro e he; simp only [List.length_set]; exact hlt e (by simp [he])
    -- what is pushed for `d` itself: `d`, if this was its last incoming edge
    obtain ⟨dx, hdx, hdxnd, hq⟩ : ∃ dx : List Nat, (∀ j, j ∈ dx ↔ j = d ∧ cnt.getD d 0 = 1) ∧ dx.Nodup ∧
        (if decSize (cnt.getD d 0) = 0 then q ++ [d] else q) = q ++ dx := by
      rw [hdec]
      by_cases hc : cnt.getD d 0 - 1 = 0
      · exact ⟨[d], fun j => by rw [List.mem_singleton]; omega, by simp, if_pos hc⟩
      · exact ⟨[], fun j => by simp only [List.not_mem_nil, false_iff]; omega, List.nodup_nil, by rw [if_neg hc, List.append_nil]⟩
    obtain ⟨ext, e1, e2, e3, e4, e5⟩ := ih (cnt.set d (decSize (cnt.getD d 0))) (q ++ dx) hlt' hnw'
    have hrel : relax (d :: ds) (cnt, q) = relax ds (cnt.set d (decSize (cnt.getD d 0)), q ++ dx) := by
      rw [← hq]; rfl
    rw [hrel]
    refine ⟨dx ++ ext, by rw [e1, List.append_assoc], by simpa using e2, ?_, ?_, ?_⟩
    · intro j; rw [e3 j, hget j, count_cons_ite]
      by_cases hjd : j = d
      · subst hjd; simp only [if_true]; omega
      · simp only [hjd, if_false]; omega
    · refine List.nodup_append.2 ⟨hdxnd, e4, ?_⟩
      intro a ha b hb hab
      subst hab
      obtain ⟨rfl, h1⟩ := (hdx a).1 ha
      have h5 := (e5 a).1 hb
      rw [← List.count_pos_iff, hget a] at h5
      simp only [if_true] at h5
      omega
    · intro j
      rw [List.mem_append, hdx j, List.mem_cons, e5 j, hget j, count_cons_ite, ← List.count_pos_iff (l := ds)]
      have h1 := hnowrap j
      rw [count_cons_ite] at h1
      by_cases hjd : j = d
      · subst hjd; simp only [if_true, true_or, true_and] at h1 ⊢; omega
      · simp only [hjd, if_false, false_or, false_and] at h1 ⊢; omega

/-- `R`: the messages not yet dispatched (ghost state) -/
structure KInv (deps : List (List Nat)) (q cnt order R : List Nat) : Prop where
  perm : (order ++ R).Perm (List.range deps.length)
  len : cnt.length = deps.length
  cntW : ∀ j, j < deps.length → cnt.getD j 0 = inW deps R j
  qnd : q.Nodup
  qmem : ∀ j, j ∈ q ↔ j ∈ R ∧ inW deps R j = 0
  zero : ∀ j ∈ order, inW deps R j = 0
  /-- no message waits for one dispatched behind it -/
  prec : order.Pairwise fun a b => a ∉ deps.getD b []

theorem exists_min_rank (rank : Nat → Nat) (R : List Nat) (h : R ≠ []) :
    ∃ j ∈ R, ∀ i ∈ R, rank j ≤ rank i := by
  induction R with
  | nil => exact absurd rfl h
  | cons a R ih =>
    by_cases hR : R = []
    · subst hR; exact ⟨a, by simp, by simp⟩
    · obtain ⟨j, hj, hmin⟩ := ih hR
      by_cases hle : rank a ≤ rank j
      · refine ⟨a, by simp, ?_⟩
        intro i hi
        rcases List.mem_cons.1 hi with rfl | hi
        · exact Nat.le_refl _
        · exact Nat.le_trans hle (hmin i hi)
      · refine ⟨j, by simp [hj], ?_⟩
        intro i hi
        rcases List.mem_cons.1 hi with rfl | hi
        · omega
        · exact hmin i hi

theorem KInv.init (deps : List (List Nat))
    (hrange : ∀ l ∈ deps, ∀ j ∈ l, j < deps.length) :
    KInv deps (initialQueue (countInputs deps)) (countInputs deps) [] (List.range deps.length) := by
  obtain ⟨hlen, hcnt⟩ := countInputs_spec deps hrange
  refine ⟨by simp, hlen, fun j _ => hcnt j, ?_, ?_, by simp, List.Pairwise.nil⟩
  · unfold initialQueue
    exact List.Pairwise.filter _ List.nodup_range
  · intro j
    unfold initialQueue
    rw [List.mem_filter, List.mem_range, List.mem_range, hlen, ← hcnt j]
    constructor
    · rintro ⟨hj, h⟩
      refine ⟨hj, ?_⟩
      rw [List.getD_eq_getElem?_getD, List.getElem?_eq_getElem (by omega)] at h ⊢
      simpa using h
    · rintro ⟨hj, h⟩
      refine ⟨hj, ?_⟩
      rw [List.getD_eq_getElem?_getD, List.getElem?_eq_getElem (by omega)] at h ⊢
      simpa using h

theorem KInv.done (deps : List (List Nat)) (rank : Nat → Nat)
    (hacyc : ∀ i, ∀ j ∈ deps.getD i [], rank i < rank j)
    (cnt order R : List Nat) (h : KInv deps [] cnt order R) : R = [] := by
  by_cases hR : R = []
  · exact hR
  · exfalso
    obtain ⟨j, hj, hmin⟩ := exists_min_rank rank R hR
    have : j ∈ ([] : List Nat) := by
      rw [h.qmem j]
      refine ⟨hj, ?_⟩
      rw [inW_eq_zero]
      intro i hi hmem
      have := hacyc i j hmem
      have := hmin i hi
      omega
    simp at this

theorem KInv.step (deps : List (List Nat))
    (hrange : ∀ l ∈ deps, ∀ j ∈ l, j < deps.length)
    (rank : Nat → Nat)
    (hacyc : ∀ i, ∀ j ∈ deps.getD i [], rank i < rank j)
    (m : Nat) (q cnt order R : List Nat) (h : KInv deps (m :: q) cnt order R) :
    m ∈ R ∧
    KInv deps (relax (deps.getD m []) (cnt, q)).2 (relax (deps.getD m []) (cnt, q)).1
      (order ++ [m]) (R.erase m) := by
  have hmR : m ∈ R ∧ inW deps R m = 0 := (h.qmem m).1 (by simp)
  refine ⟨hmR.1, ?_⟩
  have hndall : (order ++ R).Nodup := h.perm.nodup_iff.2 List.nodup_range
  have hRnd : R.Nodup := (List.nodup_append.1 hndall).2.1
  have hdisj : ∀ a ∈ order, ∀ b ∈ R, a ≠ b := (List.nodup_append.1 hndall).2.2
  have hmem_all : ∀ i, i < deps.length → i ∈ order ∨ i ∈ R := by
    intro i hi
    have : i ∈ order ++ R := h.perm.mem_iff.2 (List.mem_range.2 hi)
    exact List.mem_append.1 this
  have hRlt : ∀ i ∈ R, i < deps.length := by
    intro i hi
    exact List.mem_range.1 (h.perm.mem_iff.1 (List.mem_append.2 (Or.inr hi)))
  have hW : ∀ j, inW deps R j = (deps.getD m []).count j + inW deps (R.erase m) j :=
    fun j => inW_erase deps R m j hmR.1
  have hl : ∀ d ∈ deps.getD m [], d < cnt.length := by
    intro d hd; rw [h.len]; exact getD_range deps hrange m d hd
  have hnowrap : ∀ j, (deps.getD m []).count j ≤ cnt.getD j 0 := by
    intro j
    by_cases hj : j < deps.length
    · rw [h.cntW j hj, hW j]; omega
    · have : (deps.getD m []).count j = 0 := by
        rw [List.count_eq_zero]
        intro hmem
        exact hj (getD_range deps hrange m j hmem)
      omega
  obtain ⟨ext, e1, e2, e3, e4, e5⟩ := relax_spec (deps.getD m []) cnt q hl hnowrap
  have hq2 : (relax (deps.getD m []) (cnt, q)).2 = q ++ ext := by rw [e1]
  rw [hq2]
  have hqnd : q.Nodup := (List.nodup_cons.1 h.qnd).2
  have hmq : m ∉ q := (List.nodup_cons.1 h.qnd).1
  have hqR : ∀ j ∈ q, j ∈ R ∧ inW deps R j = 0 := fun j hj => (h.qmem j).1 (by simp [hj])
  have hext : ∀ j ∈ ext, j ∈ R.erase m ∧ inW deps (R.erase m) j = 0 ∧ j ∉ q := by
    intro j hj
    obtain ⟨hjl, hjc⟩ := (e5 j).1 hj
    have hjn := getD_range deps hrange m j hjl
    rw [h.cntW j hjn] at hjc
    have hpos := List.count_pos_iff.2 hjl
    have hWj := hW j
    have hjm : j ≠ m := by
      intro e; have := hacyc m j hjl; rw [e] at this; omega
    have hjR : j ∈ R := by
      rcases hmem_all j hjn with ho | hr
      · have := h.zero j ho; omega
      · exact hr
    refine ⟨(hRnd.mem_erase_iff).2 ⟨hjm, hjR⟩, by omega, ?_⟩
    intro hjq
    have := (hqR j hjq).2
    omega
  constructor
  · have h1 : (order ++ [m] ++ R.erase m).Perm (order ++ R) := by
      rw [List.append_assoc]
      exact (List.perm_cons_erase hmR.1).symm.append_left order
    exact h1.trans h.perm
  · rw [e2, h.len]
  · intro j hj
    rw [e3 j, h.cntW j hj, hW j]; omega
  · rw [List.nodup_append]
    refine ⟨hqnd, e4, ?_⟩
    intro a ha b hb e
    subst e
    exact (hext a hb).2.2 ha
  · intro j
    rw [List.mem_append]
    constructor
    · rintro (hj | hj)
      · have := hqR j hj
        have hjm : j ≠ m := fun e => hmq (e ▸ hj)
        have hWj := hW j
        exact ⟨(hRnd.mem_erase_iff).2 ⟨hjm, this.1⟩, by omega⟩
      · exact ⟨(hext j hj).1, (hext j hj).2.1⟩
    · rintro ⟨hjR', hz⟩
      obtain ⟨hjm, hjR⟩ := (hRnd.mem_erase_iff).1 hjR'
      have hjn := hRlt j hjR
      have hWj := hW j
      by_cases hc : (deps.getD m []).count j = 0
      · left
        have : j ∈ m :: q := (h.qmem j).2 ⟨hjR, by omega⟩
        rcases List.mem_cons.1 this with e | hq
        · exact absurd e hjm
        · exact hq
      · right
        rw [e5 j, ← List.count_pos_iff, h.cntW j hjn]
        exact ⟨Nat.pos_of_ne_zero hc, by omega⟩
  · intro j hj
    have hWj := hW j
    rcases List.mem_append.1 hj with ho | hm
    · have := h.zero j ho; omega
    · have : j = m := by simpa using hm
      subst this
      have := hmR.2; omega
  · refine List.pairwise_append.2 ⟨h.prec, List.pairwise_singleton _ _, fun a ha b hb => ?_⟩
    obtain rfl : b = m := by simpa using hb
    exact (inW_eq_zero deps R a).1 (h.zero a ha) b hmR.1

theorem kahnLoop_spec (deps : List (List Nat))
    (hrange : ∀ l ∈ deps, ∀ j ∈ l, j < deps.length)
    (rank : Nat → Nat)
    (hacyc : ∀ i, ∀ j ∈ deps.getD i [], rank i < rank j)
    (fuel : Nat) (q cnt order R : List Nat) (h : KInv deps q cnt order R)
    (hfuel : R.length ≤ fuel) :
    ∃ order' cnt', kahnLoop deps fuel q cnt order = some (order', cnt') ∧
      order'.Perm (List.range deps.length) ∧ order'.Pairwise fun a b => a ∉ deps.getD b [] := by
  induction fuel generalizing q cnt order R with
  | zero =>
    have hR : R = [] := List.length_eq_zero_iff.1 (Nat.le_zero.1 hfuel)
    subst hR
    cases q with
    | nil =>
      refine ⟨order, cnt, by simp [kahnLoop], ?_, h.prec⟩
      simpa using h.perm
    | cons m q =>
      have := (h.qmem m).1 (by simp)
      simp at this
  | succ fuel ih =>
    cases q with
    | nil =>
      have hR := KInv.done deps rank hacyc cnt order R h
      subst hR
      refine ⟨order, cnt, by simp [kahnLoop], ?_, h.prec⟩
      simpa using h.perm
    | cons m q =>
      obtain ⟨hmR, hstep⟩ := KInv.step deps hrange rank hacyc m q cnt order R h
      have hlen : (R.erase m).length ≤ fuel := by
        rw [List.length_erase_of_mem hmR]; omega
      obtain ⟨order', cnt', hk, hp, hprec⟩ := ih _ _ _ _ hstep hlen
      exact ⟨order', cnt', by simpa [kahnLoop] using hk, hp, hprec⟩

/-- The loop of `kahn` ends within its fuel (`deps.length` iterations are enough, the
    model gives it one more). -/
theorem kahn_fuel_suffices (deps : List (List Nat))
    (hrange : ∀ l ∈ deps, ∀ j ∈ l, j < deps.length)
    (rank : Nat → Nat)
    (hacyc : ∀ i, ∀ j ∈ deps.getD i [], rank i < rank j)
    (fuel : Nat) (hfuel : deps.length ≤ fuel) :
    (kahnLoop deps fuel (initialQueue (countInputs deps)) (countInputs deps) []).isSome := by
  obtain ⟨o, c, hk, _⟩ := kahnLoop_spec deps hrange rank hacyc fuel _ _ _ _
    (KInv.init deps hrange) (by simpa using hfuel)
  rw [hk]; rfl

theorem kahn_spec (deps : List (List Nat))
    (hrange : ∀ l ∈ deps, ∀ j ∈ l, j < deps.length)
    (rank : Nat → Nat)
    (hacyc : ∀ i, ∀ j ∈ deps.getD i [], rank i < rank j) :
    ∃ order, kahn deps = some order ∧ order.Perm (List.range deps.length) ∧
      ∀ i j, j ∈ deps.getD i [] → ∀ a b : Nat, order[a]? = some i → order[b]? = some j → a < b := by
  obtain ⟨order, cnt, hk, hp, hprec⟩ := kahnLoop_spec deps hrange rank hacyc (deps.length + 1) _ _ _ _
    (KInv.init deps hrange) (by simp)
  refine ⟨order, ?_, hp, ?_⟩
  · unfold kahn
    simp only [hk, Option.map_some]
  · intro i j hij a b ha hb
    obtain ⟨hal, rfl⟩ := List.getElem?_eq_some_iff.1 ha
    obtain ⟨hbl, rfl⟩ := List.getElem?_eq_some_iff.1 hb
    rcases Nat.lt_trichotomy a b with h | rfl | h
    · exact h
    · exact absurd (hacyc _ _ hij) (Nat.lt_irrefl _)
    · exact absurd hij (List.pairwise_iff_getElem.1 hprec b a hbl hal h)

end Rtosc.Save
