/-
  C20 — the message a callback writes, read back from what is EMITTED (the `int`, or the
  32 bits of the `float`): type, range and monotonicity for every well-formed port, the special case
  0..127 included.  `Val.scaled` is the exact value of the argument times 2^149.
-/
import RtoscModel.Proofs.MidiExtSys
import RtoscModel.Proofs.MidiExtBits
namespace Rtosc.Midi

theorem bijNum_bitLen {mn mx : Int} {x : Nat} (h : mn ≤ mx) (hx : x ≤ 16384) (h1 : -8388608 ≤ mn)
    (h2 : mx ≤ 8388608) : bitLen (bijNum mn mx x).natAbs ≤ 38 := by
  obtain ⟨a, b⟩ := bijNum_range h hx
  rw [bitLen_le_iff]
  omega

/-- the `int` an `i` port with integral bounds `lo ≤ hi` sends, `(int)(float)(x/16384.0*(hi-lo)+lo)`,
    lies in `[lo, hi]` and is monotone in `x` -/
theorem trunc_bijNum_range_mono {lo hi : Int} (hlh : lo ≤ hi) (h1 : -1048576 ≤ lo) (h2 : hi ≤ 1048576)
    {x y : Nat} (hx : x < 16384) (hxy : x ≤ y) :
    lo ≤ truncF32OfDyadic (bijNum (8 * lo) (8 * hi) x) 17 ∧
    truncF32OfDyadic (bijNum (8 * lo) (8 * hi) x) 17 ≤ hi ∧
    truncF32OfDyadic (bijNum (8 * lo) (8 * hi) x) 17 ≤ truncF32OfDyadic (bijNum (8 * lo) (8 * hi) y) 17 := by
  have hm : 8 * lo ≤ 8 * hi := by omega
  obtain ⟨r1, r2⟩ := bijNum_range hm (x := x) (Nat.le_of_lt hx)
  have hb := bijNum_bitLen hm (x := x) (Nat.le_of_lt hx) (by omega) (by omega)
  obtain ⟨q1, q2⟩ := truncF32OfDyadic_range (num := bijNum (8 * lo) (8 * hi) x) (lo := lo) (hi := hi)
    (e := 17) (Nat.le_trans hb (by decide)) (by omega) (by omega)
  exact ⟨q1, q2, truncF32OfDyadic_mono 17 (bijNum_mono hm hxy)⟩

theorem rndZ_bijNum_range_mono {mn mx : Int} (h : mn ≤ mx) (h1 : -8388608 ≤ mn) (h2 : mx ≤ 8388608)
    {x y : Nat} (hx : x < 16384) (hxy : x ≤ y) :
    16384 * mn ≤ rndZ (bijNum mn mx x) ∧ rndZ (bijNum mn mx x) ≤ 16384 * mx ∧
    rndZ (bijNum mn mx x) ≤ rndZ (bijNum mn mx y) := by
  obtain ⟨r1, r2⟩ := bijNum_range h (x := x) (Nat.le_of_lt hx)
  have hb := bijNum_bitLen h (x := x) (Nat.le_of_lt hx) h1 h2
  obtain ⟨q1, q2⟩ := rndZ_range (num := bijNum mn mx x) (lo := mn) (hi := mx) (t := 14) (Nat.le_trans hb (by decide))
    (by omega) (by omega)
  exact ⟨by omega, by omega, rndZ_mono (bijNum_mono h hxy)⟩

theorem fire_special (c : Cb) (x : Nat) (h : c.min8 = 0 ∧ c.max8 = 127 * 8 ∧ c.isInt = true) (hx : x < 16384) :
    c.fire x = ⟨c.addr, .int ((x / 128 : Nat) : Int)⟩ := by
  unfold Cb.fire; rw [if_pos h, shiftRight7_and_7f_eq_div x hx]

theorem fire_int (c : Cb) (x : Nat) (h : ¬(c.min8 = 0 ∧ c.max8 = 127 * 8 ∧ c.isInt = true)) (hi : c.isInt = true) :
    c.fire x = ⟨c.addr, .int (truncF32OfDyadic (bijNum c.min8 c.max8 x) 17)⟩ := by
  unfold Cb.fire; rw [if_neg h, if_pos hi]

theorem fire_flt (c : Cb) (x : Nat) (hi : ¬ c.isInt = true) :
    c.fire x = ⟨c.addr, .flt (f32OfDyadic (bijNum c.min8 c.max8 x) 17)⟩ := by
  unfold Cb.fire; rw [if_neg fun h => hi h.2.2, if_neg hi]

theorem le_scaled {a b c P : Int} (hP : 0 ≤ P) (h : a ≤ c * b) : a * P ≤ b * (c * P) := by
  rw [← Int.mul_assoc, Int.mul_comm b c]; exact Int.mul_le_mul_of_nonneg_right h hP

theorem scaled_le {a b c P : Int} (hP : 0 ≤ P) (h : c * b ≤ a) : b * (c * P) ≤ a * P := by
  rw [← Int.mul_assoc, Int.mul_comm b c]; exact Int.mul_le_mul_of_nonneg_right h hP

/-- `2^149 = 8 * 2^146` -/
theorem int_scaled_range {mn mx v w : Int} (h1 : mn ≤ 8 * v) (h2 : 8 * v ≤ mx) (h3 : v ≤ w) :
    mn * 2 ^ 146 ≤ (Val.int v).scaled ∧ (Val.int v).scaled ≤ mx * 2 ^ 146 ∧
    (Val.int v).scaled ≤ (Val.int w).scaled := by
  have hP : (0 : Int) ≤ 2 ^ 146 := by decide
  show _ ≤ v * 2 ^ 149 ∧ v * 2 ^ 149 ≤ _ ∧ v * 2 ^ 149 ≤ w * 2 ^ 149
  rw [show (2 : Int) ^ 149 = 8 * 2 ^ 146 by decide]
  exact ⟨le_scaled hP h1, scaled_le hP h2, Int.mul_le_mul_of_nonneg_right h3 (Int.mul_nonneg (by decide) hP)⟩

/-- `2^146 = 2^14 * 2^(149-17)` -/
theorem flt_scaled_range {mn mx r r' : Int} {b b' : Nat} (hb : f32Scaled b = r * 2 ^ (149 - 17))
    (hb' : f32Scaled b' = r' * 2 ^ (149 - 17)) (h1 : 16384 * mn ≤ r) (h2 : r ≤ 16384 * mx) (h3 : r ≤ r') :
    mn * 2 ^ 146 ≤ (Val.flt b).scaled ∧ (Val.flt b).scaled ≤ mx * 2 ^ 146 ∧
    (Val.flt b).scaled ≤ (Val.flt b').scaled := by
  have hP : (0 : Int) ≤ 2 ^ (149 - 17) := by decide
  show _ ≤ f32Scaled b ∧ f32Scaled b ≤ _ ∧ f32Scaled b ≤ f32Scaled b'
  rw [hb, hb', show (2 : Int) ^ 146 = 16384 * 2 ^ (149 - 17) by decide]
  exact ⟨scaled_le hP h1, le_scaled hP h2, Int.mul_le_mul_of_nonneg_right h3 hP⟩

/-- **The emitted argument**: for a well-formed port and 14-bit values `x ≤ y` the message written for
    `x` goes to the port's address, has the port's type, is a finite number within `[min, max]`
    (`min = min8/8`, so `min * 2^149 = min8 * 2^146`) and is not larger than the one written for `y`. -/
theorem fire_in_range_monotone (a : Nat) {p : PortSpec} (hp : PortOk p) {x y : Nat} (hx : x < 16384)
    (hy : y < 16384) (hxy : x ≤ y) :
    ((portCb a p).fire x).addr = a ∧ ((portCb a p).fire x).val.isInt = p.isInt ∧
    ((portCb a p).fire x).val.finite ∧
    p.min8 * 2 ^ 146 ≤ ((portCb a p).fire x).val.scaled ∧
    ((portCb a p).fire x).val.scaled ≤ p.max8 * 2 ^ 146 ∧
    ((portCb a p).fire x).val.scaled ≤ ((portCb a p).fire y).val.scaled := by
  obtain ⟨hmm, hlo, hhi, hint⟩ := hp
  refine ⟨Cb.fire_addr _ _, ?_⟩
  by_cases hsp : p.min8 = 0 ∧ p.max8 = 127 * 8 ∧ p.isInt = true
  · -- the special case: the upper seven bits
    rw [fire_special (portCb a p) x hsp hx, fire_special (portCb a p) y hsp hy]
    obtain ⟨h1, h2, h3⟩ := hsp
    exact ⟨h3.symm, trivial, int_scaled_range (by omega) (by omega) (by omega)⟩
  · by_cases hi : p.isInt = true
    · -- an `i` port: truncation of the rounded value, integral bounds
      have ex : (portCb a p).fire x = ⟨a, .int (truncF32OfDyadic (bijNum p.min8 p.max8 x) 17)⟩ :=
        fire_int (portCb a p) x hsp hi
      have ey : (portCb a p).fire y = ⟨a, .int (truncF32OfDyadic (bijNum p.min8 p.max8 y) 17)⟩ :=
        fire_int (portCb a p) y hsp hi
      rw [ex, ey]
      obtain ⟨⟨lo, hlo'⟩, ⟨hi', hhi'⟩⟩ := hint hi
      obtain ⟨q1, q2, qm⟩ := trunc_bijNum_range_mono (lo := lo) (hi := hi') (by omega) (by omega) (by omega) hx hxy
      rw [← hlo', ← hhi'] at q1 q2 qm
      exact ⟨hi.symm, trivial, int_scaled_range (by omega) (by omega) qm⟩
    · -- an `f` port: the bit pattern denotes the rounded value
      have ex : (portCb a p).fire x = ⟨a, .flt (f32OfDyadic (bijNum p.min8 p.max8 x) 17)⟩ :=
        fire_flt (portCb a p) x hi
      have ey : (portCb a p).fire y = ⟨a, .flt (f32OfDyadic (bijNum p.min8 p.max8 y) 17)⟩ :=
        fire_flt (portCb a p) y hi
      rw [ex, ey]
      have hbx := bijNum_bitLen hmm (x := x) (Nat.le_of_lt hx) hlo hhi
      have hby := bijNum_bitLen hmm (x := y) (Nat.le_of_lt hy) hlo hhi
      obtain ⟨sx, fx⟩ := f32OfDyadic_scaled (num := bijNum p.min8 p.max8 x) (e := 17) (by decide)
        (Nat.le_trans hbx (by decide))
      obtain ⟨sy, _⟩ := f32OfDyadic_scaled (num := bijNum p.min8 p.max8 y) (e := 17) (by decide)
        (Nat.le_trans hby (by decide))
      obtain ⟨q1, q2, qm⟩ := rndZ_bijNum_range_mono hmm hlo hhi hx hxy
      exact ⟨((Bool.not_eq_true _).mp hi).symm, fx, flt_scaled_range sx sy q1 q2 qm⟩

end Rtosc.Midi
