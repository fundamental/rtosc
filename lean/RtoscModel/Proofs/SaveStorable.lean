/-
  C12 — the kinds of ports: what a callback stores can be sent again as the savefile prints it and is stored
  unchanged (`storable_of_store`: `rLIMIT` is idempotent, a narrowed char stays in range, an option's index is found
  again under its symbol), and so can every default (`storable_evalDflt`, `storable_expected`).
-/
import RtoscModel.Save.Spec

namespace Rtosc.Save

theorem clampInt_idem (mn mx : Option Int) (v : Int) :
    clampInt mn mx (clampInt mn mx v) = clampInt mn mx v := by
  unfold clampInt
  cases mn <;> cases mx <;> simp only <;> grind

theorem narrowChar_id {x : Int} (h1 : -128 ≤ x) (h2 : x ≤ 127) : narrowChar x = x := by
  unfold narrowChar; omega

theorem narrowChar_range (x : Int) : -128 ≤ narrowChar x ∧ narrowChar x ≤ 127 := by
  unfold narrowChar; omega

theorem clampInt_range (mn mx : Option Int) (v lo hi : Int) (hv : lo ≤ v ∧ v ≤ hi)
    (h1 : ∀ a, mn = some a → lo ≤ a ∧ a ≤ hi) (h2 : ∀ a, mx = some a → lo ≤ a ∧ a ≤ hi) :
    lo ≤ clampInt mn mx v ∧ clampInt mn mx v ≤ hi := by
  unfold clampInt
  cases mn <;> cases mx <;> simp only <;> grind

theorem fltLt_iff (a b : UInt32) :
    fltLt a b = true ↔ fltIsNaN a = false ∧ fltIsNaN b = false ∧ fltKey a < fltKey b := by
  simp [fltLt, and_assoc]

theorem clampFlt_idem (mn mx : Option UInt32)
    (h1 : ∀ a, mn = some a → fltIsNaN a = false) (h2 : ∀ b, mx = some b → fltIsNaN b = false)
    (h3 : ∀ a b, mn = some a → mx = some b → fltLt b a = false) (v : UInt32) :
    clampFlt mn mx (clampFlt mn mx v) = clampFlt mn mx v := by
  unfold clampFlt
  cases mn <;> cases mx <;> simp only <;> grind [fltLt_iff]

theorem enumKey_getElem (names : List Path) (hn : names.Nodup) (k : Nat) (hk : k < names.length) :
    enumKey names (names.getD k []) = some k := by
  unfold enumKey
  rw [← List.getElem_eq_getD (h := hk)]
  simp only [hn.idxOf_getElem k hk, hk, if_true]

theorem storable_opt_int (names : List Path) (hn : names.Nodup) (i : Int) :
    Storable (.opt names) (.int i) := by
  unfold Storable mapArgVal
  simp only
  split
  · next h =>
    simp only [store, enumKey_getElem names hn _ h.2]
    simp [Int.toNat_of_nonneg h.1]
  · rfl

theorem storable_of_store (k : Kind) (hk : KindOK k) (v v' : Val) (h : store k v = some v') :
    Storable k v' := by
  revert h
  fun_cases store k v <;> intro h <;> simp only [Option.some.injEq, reduceCtorEq] at h <;> subst h
  · simp [Storable, mapArgVal, store, clampInt_idem]
  · rename_i c
    generalize narrowChar c = y
    have hr : 0 ≤ clampInt (some 0) (some 127) y ∧ clampInt (some 0) (some 127) y ≤ 127 := by
      unfold clampInt; simp only; grind
    simp only [Storable, mapArgVal, store, Option.some.injEq, Val.chr.injEq]
    rw [narrowChar_id (by omega) (by omega), clampInt_idem]
  · rename_i mn mx c
    have hr := clampInt_range mn mx (narrowChar c) (-128) 127 (narrowChar_range c) hk.1 hk.2
    simp only [Storable, mapArgVal, store, Option.some.injEq, Val.int.injEq]
    rw [narrowChar_id hr.1 hr.2, clampInt_idem]
  · rename_i mn mx b
    simp [Storable, mapArgVal, store, clampFlt_idem mn mx hk.1 hk.2.1 hk.2.2]
  · rfl
  · exact storable_opt_int _ hk _
  · exact storable_opt_int _ hk _
  · split <;> exact storable_opt_int _ hk _
  · simp [Storable, mapArgVal, store, List.take_take]

theorem evalDflt_mem_vals (p : Param) (s : State) :
    ∃ v ∈ p.dflt.vals, evalDflt p s = canonicalize p.kind v := by
  unfold evalDflt
  cases hd : p.dflt with
  | const v => exact ⟨v, by simp [Dflt.vals], rfl⟩
  | preset par tbl fb =>
    simp only [Dflt.vals]
    cases presetKey (s par) with
    | none => exact ⟨fb, by simp, rfl⟩
    | some k =>
      simp only [lookupPreset]
      cases hf : tbl.find? (fun e => e.1 = k) with
      | none => exact ⟨fb, by simp, by simp⟩
      | some e =>
        refine ⟨e.2, ?_, by simp⟩
        exact List.mem_cons_of_mem _ (List.mem_map.mpr ⟨e, List.mem_of_find?_eq_some hf, rfl⟩)

namespace App
variable {app : App}

theorem storable_evalDflt (hwf : app.WF) {i : Nat} (hi : i < app.size) (s : State) :
    Storable (app.param i).kind (evalDflt (app.param i) s) := by
  obtain ⟨v, hv, he⟩ := evalDflt_mem_vals (app.param i) s
  rw [he]
  exact hwf.dflt_storable i hi v hv

theorem storable_expected (hwf : app.WF) {i : Nat} (hi : i < app.size) (s : State) :
    Storable (app.param i).kind (expected (app.param i) s) := by
  unfold expected
  split
  · exact storable_evalDflt hwf hi s
  · rw [hwf.canon_ok i hi]; exact storable_evalDflt hwf hi _

theorem expected_init (hwf : app.WF) {i : Nat} (hi : i < app.size) :
    expected (app.param i) app.init = (app.param i).canon := by
  unfold expected
  split
  · exact (hwf.canon_ok i hi).symm
  · rfl

end App

end Rtosc.Save
