/-
  C18 — `path_search` (model: RtoscModel/Path/Search.lean): the `strcmp` order, the pass that strikes out
  what lies below a `name/` entry, the collection of the children, the second sort with its cut, and the
  reply read back by the decoder.
-/
import RtoscModel.Path.C18Spec
import RtoscModel.Proofs.MetaLemmas
namespace Rtosc.Path
open Rtosc

/-- `strLt` decides the lexicographic order of byte strings, so the order facts below are
    those of `List` -/
theorem strLt_iff (a b : Bytes) : strLt a b = true ↔ a < b := by
  induction a generalizing b with
  | nil => cases b <;> simp [strLt]
  | cons a as ih =>
    cases b with
    | nil => simp [strLt]
    | cons b bs =>
      rw [strLt, List.cons_lt_cons_iff, ← ih bs]
      rcases Nat.lt_trichotomy a.toNat b.toNat with h | h | h
      · simp [UInt8.lt_iff_toNat_lt, h]
      · obtain rfl := UInt8.toNat_inj.mp h
        simp [UInt8.lt_irrefl]
      · have hne : a ≠ b := fun e => by subst e; exact Nat.lt_irrefl _ h
        simp [UInt8.lt_iff_toNat_lt, h, Nat.lt_asymm h, hne]

theorem strLt_eq_false_iff (a b : Bytes) : strLt a b = false ↔ b ≤ a := by
  rw [← Bool.not_eq_true, strLt_iff]; exact List.not_lt

theorem strLt_irrefl (a : Bytes) : strLt a a = false := (strLt_eq_false_iff a a).mpr (List.le_refl a)

theorem strLt_trans (a b c : Bytes) (h1 : strLt a b = true) (h2 : strLt b c = true) : strLt a c = true :=
  (strLt_iff a c).mpr (List.lt_trans ((strLt_iff a b).mp h1) ((strLt_iff b c).mp h2))

theorem strLt_negTrans (a b c : Bytes) (h1 : strLt a b = false) (h2 : strLt b c = false) : strLt a c = false :=
  (strLt_eq_false_iff a c).mpr (List.le_trans ((strLt_eq_false_iff b c).mp h2) ((strLt_eq_false_iff a b).mp h1))

theorem strLt_antisymm (a b : Bytes) (h1 : strLt a b = false) (h2 : strLt b a = false) : a = b :=
  List.le_antisymm ((strLt_eq_false_iff b a).mp h2) ((strLt_eq_false_iff a b).mp h1)

theorem pairLt_strictWeak : StrictWeak pairLt :=
  ⟨fun a => strLt_irrefl a.1, fun a b c => strLt_trans a.1 b.1 c.1, fun a b c => strLt_negTrans a.1 b.1 c.1⟩

theorem markedLt_strictWeak : StrictWeak markedLt := by
  refine ⟨?_, ?_, ?_⟩
  · intro a; cases h : a.1 <;> simp [markedLt, h, strLt_irrefl]
  · intro a b c
    unfold markedLt
    cases a.1 <;> cases b.1 <;> cases c.1 <;> simp
    exact strLt_trans _ _ _
  · intro a b c
    unfold markedLt
    cases a.1 <;> cases b.1 <;> cases c.1 <;> simp
    exact strLt_negTrans _ _ _

theorem strLt_of_proper_prefix (d e : Bytes) (h : d <+: e) (hl : d.length < e.length) : strLt d e = true :=
  (strLt_iff d e).mpr ((List.le_iff_lt_or_eq.mp h.le).resolve_right fun e => by subst e; exact Nat.lt_irrefl _ hl)

/-- strings with a common prefix are contiguous in the order -/
theorem prefix_between (p c e : Bytes) (h1 : strLt c p = false) (h2 : strLt e c = false) (h3 : p <+: e) :
    p <+: c := by
  induction p generalizing c e with
  | nil => exact List.nil_prefix
  | cons a p ih =>
    cases e with
    | nil => simp at h3
    | cons x e =>
      cases c with
      | nil => simp [strLt] at h1
      | cons b c =>
        obtain ⟨rfl, h3'⟩ := List.cons_prefix_cons.mp h3
        rw [strLt_eq_false_iff, List.cons_le_cons_iff] at h1 h2
        -- the first bytes are squeezed: `a ≤ b` and `b ≤ a`
        rcases h1 with h1 | ⟨rfl, h1⟩
        · rcases h2 with h2 | ⟨rfl, _⟩
          · exact absurd h2 (UInt8.lt_asymm h1)
          · exact absurd h1 (UInt8.lt_irrefl _)
        · rcases h2 with h2 | ⟨_, h2⟩
          · exact absurd h2 (UInt8.lt_irrefl _)
          · exact List.cons_prefix_cons.mpr ⟨rfl, ih c e
              ((strLt_eq_false_iff _ _).mpr h1) ((strLt_eq_false_iff _ _).mpr h2) h3'⟩

theorem below_iff (all : List Bytes) (e : Bytes) :
    below all e = true ↔ ∃ d ∈ all, d.getLast? = some SLASH ∧ d.length < e.length ∧ d <+: e := by
  simp [below, List.any_eq_true]

/-- every earlier `name/` entry that could cover a later name is represented by `prev` -/
def Cov (E : List Bytes) (prev : Bytes) : Prop :=
  ∀ d ∈ E, d.getLast? = some SLASH → ∀ e : Bytes, strLt e prev = false → d.length < e.length → d <+: e →
    prev.getLast? = some SLASH ∧ prev.length < e.length ∧ prev <+: e

/-- what the pass turns an entry into -/
def markOf (all : List Bytes) (e : Pair) : Marked :=
  (if below all e.1 then none else some e.1, e.2)

/-- one round of the marking loop behind a non-empty `prev`: the entry is struck out iff `prev` ends
    in `/` and is a proper prefix of it; otherwise it is the next `prev` -/
theorem markLoop_cons {prev : Bytes} (hprev : prev ≠ []) (cur : Bytes) (blob : Blob) (rest : List Pair) :
    markLoop prev ((cur, blob) :: rest) =
      if (prev.length < cur.length ∧ cur.take prev.length = prev) ∧ prev.getLast? = some SLASH then
        (markLoop prev rest).map ((none, blob) :: ·)
      else (markLoop cur rest).map ((some cur, blob) :: ·) := by
  rw [markLoop]
  by_cases hcond : prev.length < cur.length ∧ cur.take prev.length = prev
  · rw [if_pos hcond]
    cases hl : prev.getLast? with
    | none => exact absurd (List.getLast?_eq_none_iff.mp hl) hprev
    | some c => by_cases hc : c = SLASH <;> simp [hcond, hc]
  · rw [if_neg hcond, if_neg fun h => hcond h.1]

/-- the marking loop does what `markOf` says: `rest` are the entries still to be visited (sorted, none in
    front of `prev`), `E` the names already passed, `prev` among them and standing for every `name/` entry of
    `E` that can still cover a later name (`Cov`); an entry is struck out iff a `name/` entry of the whole
    list is a proper prefix of it -/
theorem markLoop_spec : ∀ (rest : List Pair) (E : List Bytes) (prev : Bytes),
    prev ≠ [] → (∀ e ∈ rest, e.1 ≠ []) → prev ∈ E → Cov E prev →
    (∀ e ∈ rest, strLt e.1 prev = false) → rest.Pairwise (fun a b => strLt b.1 a.1 = false) →
    markLoop prev rest = some (rest.map (markOf (E ++ rest.map (·.1)))) := by
  intro rest
  induction rest with
  | nil => intro E prev _ _ _ _ _ _; rfl
  | cons cur rest' ih =>
    intro E prev hprev hne hmem hcov hge hsorted
    obtain ⟨cname, cblob⟩ := cur
    have hcur_ne : cname ≠ [] := hne (cname, cblob) List.mem_cons_self
    have hne' : ∀ e ∈ rest', e.1 ≠ [] := fun e he => hne e (List.mem_cons_of_mem _ he)
    have hcge : strLt cname prev = false := hge (cname, cblob) List.mem_cons_self
    have hge' : ∀ e ∈ rest', strLt e.1 prev = false := fun e he => hge e (List.mem_cons_of_mem _ he)
    obtain ⟨hcur_le, hsorted'⟩ := List.pairwise_cons.mp hsorted
    -- the list `below` looks at does not change along the way
    have hall : E ++ List.map (·.1) ((cname, cblob) :: rest') = (E ++ [cname]) ++ rest'.map (·.1) :=
      List.append_cons E cname _
    -- the decision taken by the code is the specification's
    have hK : below (E ++ List.map (·.1) ((cname, cblob) :: rest')) cname = true ↔
        ((prev.length < cname.length ∧ cname.take prev.length = prev) ∧ prev.getLast? = some SLASH) := by
      rw [below_iff]
      constructor
      · rintro ⟨d, hd, hs, hl, hp⟩
        simp only [List.map_cons, List.mem_append, List.mem_cons, List.mem_map] at hd
        rcases hd with hd | rfl | ⟨x, hx, rfl⟩
        · obtain ⟨h1, h2, h3⟩ := hcov d hd hs cname hcge hl hp
          exact ⟨⟨h2, (List.prefix_iff_eq_take.mp h3).symm⟩, h1⟩
        · exact absurd hl (Nat.lt_irrefl _)
        · have := strLt_of_proper_prefix x.1 cname hp hl
          rw [hcur_le x hx] at this; cases this
      · rintro ⟨⟨h2, h3⟩, h1⟩
        exact ⟨prev, by simp [hmem], h1, h2, List.prefix_iff_eq_take.mpr h3.symm⟩
    rw [markLoop_cons hprev]
    by_cases hstrike : (prev.length < cname.length ∧ cname.take prev.length = prev) ∧ prev.getLast? = some SLASH
    · -- struck out: `prev` stays and covers what `cname` would cover
      have hb := hK.mpr hstrike
      have hcov' : Cov (E ++ [cname]) prev := by
        intro d hd hs e he hl2 hp
        simp only [List.mem_append, List.mem_cons, List.not_mem_nil, or_false] at hd
        rcases hd with hd | rfl
        · exact hcov d hd hs e he hl2 hp
        · exact ⟨hstrike.2, Nat.lt_trans hstrike.1.1 hl2,
            (List.prefix_iff_eq_take.mpr hstrike.1.2.symm).trans hp⟩
      rw [if_pos hstrike, ih (E ++ [cname]) prev hprev hne' (by simp [hmem]) hcov' hge' hsorted', ← hall]
      simp only [List.map_cons] at hb
      simp [markOf, hb]
    · -- kept: `cname` is the next `prev`
      have hb : below (E ++ List.map (·.1) ((cname, cblob) :: rest')) cname = false :=
        Bool.eq_false_iff.mpr fun hbb => hstrike (hK.mp hbb)
      have hcov' : Cov (E ++ [cname]) cname := by
        intro d hd hs e he hl hp
        simp only [List.mem_append, List.mem_cons, List.not_mem_nil, or_false] at hd
        rcases hd with hd | rfl
        · -- an older cover of `e` is `prev`, which then is a prefix of `cname`, hence `cname` itself
          obtain ⟨h1, h2, h3⟩ := hcov d hd hs e (strLt_negTrans e cname prev he hcge) hl hp
          have hpc : prev <+: cname := prefix_between prev cname e hcge he h3
          have hlen : ¬ prev.length < cname.length := fun hlt =>
            hstrike ⟨⟨hlt, (List.prefix_iff_eq_take.mp hpc).symm⟩, h1⟩
          obtain rfl : prev = cname := hpc.eq_of_length_le (Nat.le_of_not_lt hlen)
          exact ⟨h1, h2, h3⟩
        · exact ⟨hs, hl, hp⟩
      rw [if_neg hstrike, ih (E ++ [cname]) cname hcur_ne hne' (by simp) hcov' hcur_le hsorted', ← hall]
      simp only [List.map_cons] at hb
      simp [markOf, hb]

theorem markAll_spec (l : List Pair) (hne : ∀ e ∈ l, e.1 ≠ [])
    (hsorted : l.Pairwise (fun a b => strLt b.1 a.1 = false)) :
    markAll l = some (l.map (markOf (l.map (·.1)))) := by
  cases l with
  | nil => simp [markAll]
  | cons first rest =>
    obtain ⟨fname, fblob⟩ := first
    obtain ⟨hle, hs'⟩ := List.pairwise_cons.mp hsorted
    have hcov : Cov [fname] fname := by
      intro d hd hs e _ hl hp
      simp only [List.mem_cons, List.not_mem_nil, or_false] at hd
      subst hd
      exact ⟨hs, hl, hp⟩
    have hb : below (List.map (·.1) ((fname, fblob) :: rest)) fname = false := by
      cases hbb : below (List.map (·.1) ((fname, fblob) :: rest)) fname with
      | false => rfl
      | true =>
        obtain ⟨d, hd, _, hl, hp⟩ := (below_iff _ _).mp hbb
        simp only [List.map_cons, List.mem_cons, List.mem_map] at hd
        rcases hd with rfl | ⟨x, hx, rfl⟩
        · exact absurd hl (Nat.lt_irrefl _)
        · have := strLt_of_proper_prefix x.1 fname hp hl
          rw [hle x hx] at this; cases this
    rw [markAll, markLoop_spec rest [fname] fname (hne _ List.mem_cons_self)
      (fun e he => hne e (List.mem_cons_of_mem _ he)) (by simp) hcov (fun e he => hle e he) hs']
    simp only [List.map_cons] at hb
    simp [markOf, hb]

theorem lenScan_block (l : Bytes) (prev : UInt8) (h : EndsAtDoubleNul prev l) :
    Meta.lenScan prev l = some (l.length - 1) := by
  induction l generalizing prev with
  | nil => simp [EndsAtDoubleNul] at h
  | cons c r ih =>
    rw [EndsAtDoubleNul] at h
    by_cases hz : prev = 0 ∧ c = 0
    · rw [if_pos hz] at h
      subst h
      simp [Meta.lenScan, hz.1, hz.2]
    · rw [if_neg hz] at h
      have hr : r ≠ [] := by rintro rfl; simp [EndsAtDoubleNul] at h
      have : prev ≠ 0 ∨ c ≠ 0 := by
        by_cases hp : prev = 0
        · exact Or.inr (fun hc => hz ⟨hp, hc⟩)
        · exact Or.inl hp
      exact Meta.lenScan_step this (ih c h) hr

/-- a blob whose length field is exactly the size of the block behind its pointer -/
def BlobOK (b : Blob) : Prop :=
  match b.data with
  | none => b.len = 0
  | some d => b.len = d.length

theorem collectOne_spec (needle : Bytes) (p : PortT) (hm : MetaOK p) :
    ∃ found, collectOne needle p = some found ∧
      found.map Pair.view = childrenSpec [p] needle ∧
      (∀ e ∈ found, e.1 = p.name ∧ BlobOK e.2 ∧ e.2.len ≤ (p.metadata.getD []).length) := by
  by_cases hn : needle.isPrefixOf p.name = true
  · -- one entry: the port's name with a blob that holds exactly its metadata bytes
    suffices h : ∃ b : Blob, collectOne needle p = some [(p.name, b)] ∧ b.bytes = metaBytes p ∧ BlobOK b ∧
        b.len ≤ (p.metadata.getD []).length by
      obtain ⟨b, h1, h2, h3, h4⟩ := h
      refine ⟨_, h1, by simp [childrenSpec, hn, Pair.view, h2], fun e he => ?_⟩
      obtain rfl := List.mem_singleton.mp he
      exact ⟨rfl, h3, h4⟩
    unfold collectOne metaBytes
    unfold MetaOK at hm
    rw [if_pos hn]
    cases hmd : p.metadata with
    | none => exact ⟨⟨none, 0⟩, rfl, rfl, rfl, Nat.zero_le _⟩
    | some b =>
      rw [hmd] at hm
      cases b with
      | nil => exact absurd hm (by simp)
      | cons c r =>
        by_cases hc : c = 0
        · exact ⟨⟨none, 0⟩, by simp [hc], by simp [hc, Blob.bytes], rfl, Nat.zero_le _⟩
        · have hlen : Meta.length (some (c :: r)) = some ((c :: r).length + 1) := by
            simp only [Meta.length, hc, ↓reduceIte, lenScan_block _ _ (hm.resolve_left hc), Option.map_some]
            simp
          exact ⟨⟨some (c :: r), (c :: r).length⟩, by simp [hc, hlen], by simp [hc, Blob.bytes], rfl,
            Nat.le_refl _⟩
  · exact ⟨[], by simp [collectOne, hn], by simp [childrenSpec, hn], by simp⟩

theorem childrenSpec_cons (p : PortT) (rows : List PortT) (needle : Bytes) :
    childrenSpec (p :: rows) needle = childrenSpec [p] needle ++ childrenSpec rows needle := by
  unfold childrenSpec
  rw [show p :: rows = [p] ++ rows from rfl, List.filter_append, List.map_append]

theorem collect_spec (needle : Bytes) (rows : List PortT) (hm : ∀ p ∈ rows, MetaOK p) :
    ∃ found, collect needle rows = some found ∧
      found.map Pair.view = childrenSpec rows needle ∧
      (∀ e ∈ found, (∃ p ∈ rows, e.1 = p.name ∧ e.2.len ≤ (p.metadata.getD []).length) ∧ BlobOK e.2) := by
  induction rows with
  | nil => exact ⟨[], rfl, rfl, by simp⟩
  | cons p rows ih =>
    obtain ⟨f1, h1, h2, h3⟩ := collectOne_spec needle p (hm p List.mem_cons_self)
    obtain ⟨f2, g1, g2, g3⟩ := ih (fun q hq => hm q (List.mem_cons_of_mem _ hq))
    refine ⟨f1 ++ f2, by simp [collect, h1, g1], ?_, ?_⟩
    · rw [List.map_append, h2, g2, ← childrenSpec_cons]
    · intro e he
      rcases List.mem_append.mp he with he | he
      · exact ⟨⟨p, List.mem_cons_self, (h3 e he).1, (h3 e he).2.2⟩, (h3 e he).2.1⟩
      · obtain ⟨⟨q, hq, hqe⟩, hb⟩ := g3 e he
        exact ⟨⟨q, List.mem_cons_of_mem _ hq, hqe⟩, hb⟩

def toPair (m : Marked) : Option Pair := m.1.map (·, m.2)

/-- behind the second sort the entries without a name stand at the end: the cut at the number of named
    entries keeps exactly these, and `unmark` reads them all -/
theorem cut_spec (L : List Marked) (h : L.Pairwise (fun a b => markedLt b a = false)) :
    unmark (L.take (L.filter (·.1.isSome)).length) = some (L.filterMap toPair) := by
  induction L with
  | nil => rfl
  | cons m r ih =>
    obtain ⟨h1, h2⟩ := List.pairwise_cons.mp h
    obtain ⟨n, b⟩ := m
    cases n with
    | none =>
      -- behind an unnamed entry everything is unnamed
      have hall : ∀ x ∈ (none, b) :: r, x.1 = none := by
        intro x hx
        rcases List.mem_cons.mp hx with rfl | hx
        · rfl
        · have := h1 x hx
          cases hx1 : x.1 with
          | none => rfl
          | some y => simp [markedLt, hx1] at this
      have hf : ((none, b) :: r).filter (·.1.isSome) = [] := by
        rw [List.filter_eq_nil_iff]; intro x hx; simp [hall x hx]
      have hm : ((none, b) :: r).filterMap toPair = [] := by
        rw [List.filterMap_eq_nil_iff]; intro x hx; simp [toPair, hall x hx]
      rw [hf, hm]; rfl
    | some n =>
      have e1 : ((some n, b) :: r).filter (·.1.isSome) = (some n, b) :: r.filter (·.1.isSome) := by
        rw [List.filter_cons]; simp
      have e2 : ((some n, b) :: r).filterMap toPair = (n, b) :: r.filterMap toPair := by
        rw [List.filterMap_cons]; simp [toPair]
      rw [e1, e2, List.length_cons, List.take_succ_cons, unmark, ih h2]; rfl

theorem filterMap_markOf (all : List Bytes) (l : List Pair) :
    (l.map (markOf all)).filterMap toPair = l.filter (fun e => !below all e.1) := by
  rw [List.filterMap_map, ← List.filterMap_eq_filter]
  congr 1
  funext e
  cases h : below all e.1 <;> simp [markOf, toPair, h, Option.guard]

theorem length_filter_isNone (L : List Marked) :
    (L.filter (·.1.isNone)).length + (L.filter (·.1.isSome)).length = L.length := by
  rw [Nat.add_comm, List.length_eq_countP_add_countP (fun m : Marked => m.1.isSome) (l := L),
    List.countP_eq_length_filter, List.countP_eq_length_filter]
  congr 3
  funext m
  cases m.1 <;> rfl

theorem queryArgs_length (query : Bool) (str nd : Bytes) :
    (queryArgs query str nd).length = if query then 2 else 0 := by
  cases query <;> rfl

theorem below_perm {l1 l2 : List Bytes} (h : l1.Perm l2) (e : Bytes) : below l1 e = below l2 e :=
  h.any_eq

theorem Fits.not_overflow {query : Bool} {n maxTypes maxArgs : Nat} (h : Fits query n maxTypes maxArgs)
    (str nd : Bytes) :
    ¬ (maxTypes = 0 ∨ (queryArgs query str nd).length + 2 * n > min (maxTypes - 1) maxArgs) := by
  obtain ⟨h0, hcap⟩ := h
  rw [queryArgs_length]
  omega

theorem pathSearch_unmodified (S : Sorter) {root : List PortT} {str : Bytes} {needle : Option Bytes}
    {maxTypes maxArgs : Nat} {query : Bool} {rows : List PortT} {found : List Pair}
    (hrows : searchRows root str = .ok rows) (hcol : collect (needle.getD []) rows = some found)
    (hfit : Fits query found.length maxTypes maxArgs) :
    pathSearch S root str needle maxTypes maxArgs .unmodified query =
      .ok (queryTypes query ++ pairTypes found) (queryArgs query str (needle.getD []) ++ pairArgs found) := by
  unfold pathSearch
  simp only [hrows, hcol, if_neg (hfit.not_overflow _ _)]

theorem pathSearch_sorted (S : Sorter) (hS : S.Correct) {root : List PortT} {str : Bytes} {needle : Option Bytes}
    {maxTypes maxArgs : Nat} {query : Bool} {rows : List PortT} {found : List Pair}
    (hrows : searchRows root str = .ok rows) (hcol : collect (needle.getD []) rows = some found)
    (hfit : Fits query found.length maxTypes maxArgs) :
    ∃ out : List Pair,
      pathSearch S root str needle maxTypes maxArgs .sorted query =
        .ok (queryTypes query ++ pairTypes out) (queryArgs query str (needle.getD []) ++ pairArgs out) ∧
      out.Perm found ∧ out.Pairwise (fun a b => strLt b.1 a.1 = false) := by
  obtain ⟨hp, hs⟩ := hS pairLt found pairLt_strictWeak
  refine ⟨S.run pairLt found, ?_, hp, hs⟩
  unfold pathSearch
  simp only [hrows, hcol, if_neg (hfit.not_overflow _ _)]

theorem pathSearch_unique_eq (S : Sorter) {root : List PortT} {str : Bytes} {needle : Option Bytes}
    {maxTypes maxArgs : Nat} {query : Bool} {rows : List PortT} {found : List Pair}
    (hrows : searchRows root str = .ok rows) (hcol : collect (needle.getD []) rows = some found)
    (hfit : Fits query found.length maxTypes maxArgs) {marked : List Marked} {kept : List Pair}
    (hmark : markAll (S.run pairLt found) = some marked)
    (hkept : unmark ((S.run markedLt marked).take
      ((S.run pairLt found).length - (marked.filter (·.1.isNone)).length)) = some kept) :
    pathSearch S root str needle maxTypes maxArgs .sortedUniquePrefix query =
      .ok (queryTypes query ++ pairTypes kept) (queryArgs query str (needle.getD []) ++ pairArgs kept) := by
  unfold pathSearch
  simp only [hrows, hcol, if_neg (hfit.not_overflow _ _), hmark, hkept]

theorem pathSearch_unique (S : Sorter) (hS : S.Correct) {root : List PortT} {str : Bytes} {needle : Option Bytes}
    {maxTypes maxArgs : Nat} {query : Bool} {rows : List PortT} {found : List Pair}
    (hrows : searchRows root str = .ok rows) (hcol : collect (needle.getD []) rows = some found)
    (hfit : Fits query found.length maxTypes maxArgs) (hne : ∀ e ∈ found, e.1 ≠ []) :
    ∃ out : List Pair,
      pathSearch S root str needle maxTypes maxArgs .sortedUniquePrefix query =
        .ok (queryTypes query ++ pairTypes out) (queryArgs query str (needle.getD []) ++ pairArgs out) ∧
      out.Perm (found.filter fun e => !below (found.map (·.1)) e.1) ∧
      out.Pairwise (fun a b => strLt b.1 a.1 = false) := by
  obtain ⟨hp, hs⟩ := hS pairLt found pairLt_strictWeak
  let sorted := S.run pairLt found
  have hmark := markAll_spec sorted (fun e he => hne e (hp.mem_iff.mp he)) hs
  let names := sorted.map (·.1)
  let marked := sorted.map (markOf names)
  obtain ⟨hp2, hs2⟩ := hS markedLt marked markedLt_strictWeak
  let sorted2 := S.run markedLt marked
  -- the cut keeps as many entries as are still named
  have hcount : sorted.length - (marked.filter (·.1.isNone)).length = (sorted2.filter (·.1.isSome)).length := by
    have h1 : (marked.filter (·.1.isNone)).length + (marked.filter (·.1.isSome)).length = sorted.length := by
      rw [length_filter_isNone, List.length_map]
    have h2 : (sorted2.filter (·.1.isSome)).length = (marked.filter (·.1.isSome)).length :=
      (hp2.filter _).length_eq
    omega
  refine ⟨sorted2.filterMap toPair,
    pathSearch_unique_eq S hrows hcol hfit hmark (hcount ▸ cut_spec sorted2 hs2), ?_, ?_⟩
  · have h1 : (sorted2.filterMap toPair).Perm (marked.filterMap toPair) := hp2.filterMap _
    rw [filterMap_markOf] at h1
    have h2 : (sorted.filter fun e => !below names e.1).Perm (found.filter fun e => !below names e.1) :=
      hp.filter _
    have h3 : (found.filter fun e => !below names e.1) = found.filter fun e => !below (found.map (·.1)) e.1 :=
      List.filter_congr fun e _ => by rw [below_perm (hp.map (·.1)) e.1]
    exact h3 ▸ h1.trans h2
  · refine List.Pairwise.filterMap toPair ?_ hs2
    intro a a' haa b hb b' hb'
    obtain ⟨an, ab⟩ := a
    obtain ⟨an', ab'⟩ := a'
    cases an <;> cases an' <;> simp [toPair] at hb hb'
    subst hb hb'
    simpa [markedLt] using haa

theorem padStr_length_mod (s : Bytes) : (padStr s).length % 4 = 0 := by
  simp only [padStr, List.length_append, List.length_replicate, pad_mod4 s.length]

theorem padBlob_length_mod (s : Bytes) : (padBlob s).length % 4 = 0 := by
  simp only [padBlob, List.length_append, List.length_replicate, pad_mod4' s.length]

theorem decStr_padStr (v rest : Bytes) (hv : NoNul v) : decStr (padStr v ++ rest) = some (v, rest) := by
  -- at least one NUL is appended
  obtain ⟨k, hk⟩ : ∃ k, 4 - v.length % 4 = k + 1 :=
    Nat.exists_eq_succ_of_ne_zero (Nat.sub_ne_zero_of_lt (Nat.mod_lt _ (by decide)))
  unfold decStr padStr
  rw [hk, List.replicate_succ, List.append_assoc, List.cons_append, cstr_append_nul v _ hv]
  simp only
  rw [← List.drop_drop, List.drop_left, hk, List.drop_succ_cons, List.drop_left' List.length_replicate]

/-- the four bytes of `be32 n` are the base-256 digits of `n` -/
theorem be32_digits (n : Nat) (hn : n < 4294967296) :
    n / 16777216 % 256 * 16777216 + n / 65536 % 256 * 65536 + n / 256 % 256 * 256 + n % 256 = n := by
  have e3 : n / 16777216 = n / 256 / 256 / 256 := by simp only [Nat.div_div_eq_div_mul]
  have e2 : n / 65536 = n / 256 / 256 := by simp only [Nat.div_div_eq_div_mul]
  rw [Nat.mod_eq_of_lt (Nat.div_lt_of_lt_mul hn : n / 16777216 < 256), e3, e2]
  -- Horner form: each step puts one digit back by `Nat.div_add_mod'` (the flat form would leave five
  -- divisions by large constants to `omega`)
  calc _ = ((n / 256 / 256 / 256 * 256 + n / 256 / 256 % 256) * 256 + n / 256 % 256) * 256 + n % 256 := by
          simp only [Nat.add_mul, Nat.mul_assoc]
    _ = n := by rw [Nat.div_add_mod', Nat.div_add_mod', Nat.div_add_mod']

theorem rd32_be32 (n : Nat) (hn : n < 4294967296) (r : Bytes) : rd32 (be32 n ++ r) = some (n, r) := by
  simp only [be32, List.cons_append, List.nil_append, rd32, UInt8.toNat_ofNat', Nat.reducePow, Nat.mod_mod,
    be32_digits n hn]

theorem bytes_length (b : Blob) (h : BlobOK b) : b.bytes.length = b.len := by
  unfold BlobOK at h
  unfold Blob.bytes
  cases hd : b.data with
  | none => simp
  | some d => rw [hd] at h; simp [h]

theorem encArg_blob (b : Blob) (h : BlobOK b) : encArg 98 (.b b) = some (be32 b.len ++ padBlob b.bytes) := by
  obtain ⟨data, len⟩ := b
  unfold BlobOK at h
  cases data with
  | none => simp [encArg, Blob.bytes]
  | some d => simp only at h; subst h; simp [encArg, Blob.bytes]

/-- one argument of the reply is well-formed for its type character -/
def WFArg (t : UInt8) (a : Arg) : Prop :=
  (t = 115 ∧ ∃ v, a = .s v ∧ NoNul v) ∨ (t = 98 ∧ ∃ b, a = .b b ∧ BlobOK b ∧ b.len < 4294967296)

/-- type string and argument list fit together -/
inductive WFArgs : Bytes → List Arg → Prop
  | nil : WFArgs [] []
  | cons {t a ts as} : WFArg t a → WFArgs ts as → WFArgs (t :: ts) (a :: as)

theorem decArgs_str (ts v rest : Bytes) (hv : NoNul v) :
    decArgs (115 :: ts) (padStr v ++ rest) = (decArgs ts rest).map (Sum.inl v :: ·) := by
  rw [decArgs, if_pos rfl, decStr_padStr v rest hv]

theorem decArgs_blob (ts d rest : Bytes) (hd : d.length < 4294967296) :
    decArgs (98 :: ts) (be32 d.length ++ (padBlob d ++ rest)) = (decArgs ts rest).map (Sum.inr d :: ·) := by
  have hle : d.length ≤ (padBlob d ++ rest).length := by
    rw [padBlob, List.append_assoc, List.length_append]; exact Nat.le_add_right _ _
  rw [decArgs, if_neg (by decide), if_pos rfl, rd32_be32 _ hd]
  simp only
  rw [if_pos hle, padBlob, List.append_assoc, List.take_left, List.drop_left, alignDrop,
    List.drop_left' List.length_replicate]

theorem enc_dec_args {types : Bytes} {args : List Arg} (h : WFArgs types args) :
    ∃ body, encArgs types args = some body ∧ body.length % 4 = 0 ∧
      decArgs types body = some (args.map Arg.view) := by
  induction h with
  | nil => exact ⟨[], rfl, rfl, rfl⟩
  | cons h1 _ ih =>
    obtain ⟨body, hb1, hb2, hb3⟩ := ih
    rcases h1 with ⟨rfl, v, rfl, hv⟩ | ⟨rfl, b, rfl, hb, hlen⟩
    · refine ⟨padStr v ++ body, by simp [encArgs, encArg, hb1], ?_, ?_⟩
      · rw [List.length_append, Nat.add_mod, padStr_length_mod, hb2]
      · rw [decArgs_str _ _ _ hv, hb3]; rfl
    · have hbl := bytes_length b hb
      refine ⟨be32 b.bytes.length ++ (padBlob b.bytes ++ body), by simp [encArgs, encArg_blob b hb, hb1, hbl], ?_, ?_⟩
      · have h4 : (be32 b.bytes.length).length = 4 := rfl
        rw [List.length_append, List.length_append, h4, Nat.add_mod, Nat.add_mod (padBlob _).length,
          padBlob_length_mod, hb2]
      · rw [decArgs_blob _ _ _ (hbl ▸ hlen), hb3]; rfl

theorem enc_dec_msg (addr types : Bytes) (args : List Arg) (ha : NoNul addr) (ht : NoNul types)
    (h : WFArgs types args) :
    ∃ msg, encodeMsg addr types args = some msg ∧ msg.length % 4 = 0 ∧
      decodeMsg msg = some (addr, types, args.map Arg.view) := by
  obtain ⟨body, hb1, hb2, hb3⟩ := enc_dec_args h
  refine ⟨padStr addr ++ (padStr (44 :: types) ++ body), by simp [encodeMsg, hb1], ?_, ?_⟩
  · rw [List.length_append, List.length_append, Nat.add_mod, Nat.add_mod (padStr (44 :: types)).length,
      padStr_length_mod, padStr_length_mod, hb2]
  · have ht' : NoNul (44 :: types) := by
      intro c hc
      rcases List.mem_cons.mp hc with rfl | hc
      · decide
      · exact ht c hc
    unfold decodeMsg
    rw [decStr_padStr addr _ ha]
    simp only
    rw [decStr_padStr (44 :: types) body ht']
    simp only [hb3, Option.map_some]

theorem wf_pairs (out : List Pair) (hn : ∀ e ∈ out, NoNul e.1) (hb : ∀ e ∈ out, BlobOK e.2 ∧ e.2.len < 4294967296) :
    WFArgs (pairTypes out) (pairArgs out) := by
  induction out with
  | nil => exact WFArgs.nil
  | cons e r ih =>
    have ih' := ih (fun x hx => hn x (List.mem_cons_of_mem _ hx)) (fun x hx => hb x (List.mem_cons_of_mem _ hx))
    simp only [pairTypes, pairArgs, List.map_cons, List.flatten_cons, List.cons_append, List.nil_append] at ih' ⊢
    refine WFArgs.cons (Or.inl ⟨rfl, e.1, rfl, hn e List.mem_cons_self⟩)
      (WFArgs.cons (Or.inr ⟨rfl, e.2, rfl, (hb e List.mem_cons_self).1, (hb e List.mem_cons_self).2⟩) ih')

theorem wf_query (query : Bool) (str nd : Bytes) (hs : NoNul str) (hn : NoNul nd) :
    WFArgs (queryTypes query) (queryArgs query str nd) := by
  cases query
  · exact WFArgs.nil
  · exact WFArgs.cons (Or.inl ⟨rfl, str, rfl, hs⟩)
      (WFArgs.cons (Or.inl ⟨rfl, nd, rfl, hn⟩) WFArgs.nil)

theorem wfArgs_append {l1 : Bytes} {l2 : List Arg} {l3 : Bytes} {l4 : List Arg}
    (h : WFArgs l1 l2) (h' : WFArgs l3 l4) : WFArgs (l1 ++ l3) (l2 ++ l4) := by
  induction h with
  | nil => exact h'
  | cons h _ ih => exact WFArgs.cons h ih

theorem noNul_types (query : Bool) (out : List Pair) : NoNul (queryTypes query ++ pairTypes out) := by
  intro c hc
  rcases List.mem_append.mp hc with h | h
  · cases query
    · simp [queryTypes] at h
    · simp [queryTypes] at h; rcases h with rfl | rfl <;> decide
  · simp only [pairTypes, List.mem_flatten, List.mem_map] at h
    obtain ⟨l, ⟨_, _, rfl⟩, hl⟩ := h
    simp at hl; rcases hl with rfl | rfl <;> decide

/-- whatever the option: a reply `(types, args)` whose pairs were all found -/
theorem pathSearch_any (S : Sorter) (hS : S.Correct) {root : List PortT} {str : Bytes} {needle : Option Bytes}
    {maxTypes maxArgs : Nat} {query : Bool} {rows : List PortT} {found : List Pair}
    (hrows : searchRows root str = .ok rows) (hcol : collect (needle.getD []) rows = some found)
    (hfit : Fits query found.length maxTypes maxArgs) (hne : ∀ e ∈ found, e.1 ≠ []) (opts : Opts) :
    ∃ out : List Pair,
      pathSearch S root str needle maxTypes maxArgs opts query =
        .ok (queryTypes query ++ pairTypes out) (queryArgs query str (needle.getD []) ++ pairArgs out) ∧
      ∀ e ∈ out, e ∈ found := by
  cases opts with
  | unmodified => exact ⟨found, pathSearch_unmodified S hrows hcol hfit, fun _ h => h⟩
  | sorted =>
    obtain ⟨out, h1, h2, _⟩ := pathSearch_sorted S hS hrows hcol hfit
    exact ⟨out, h1, fun e he => h2.mem_iff.mp he⟩
  | sortedUniquePrefix =>
    obtain ⟨out, h1, h2, _⟩ := pathSearch_unique S hS hrows hcol hfit hne
    exact ⟨out, h1, fun e he => (List.mem_filter.mp (h2.mem_iff.mp he)).1⟩

theorem SearchHyp.found {root : List PortT} {str : Bytes} {needle : Option Bytes} {maxTypes maxArgs : Nat}
    {query : Bool} {rows : List PortT}
    (h : SearchHyp root str needle maxTypes maxArgs query rows) :
    ∃ found, collect (needle.getD []) rows = some found ∧
      found.map Pair.view = childrenSpec rows (needle.getD []) ∧
      Fits query found.length maxTypes maxArgs ∧
      (∀ e ∈ found, (∃ p ∈ rows, e.1 = p.name ∧ e.2.len ≤ (p.metadata.getD []).length) ∧ BlobOK e.2) := by
  obtain ⟨found, h1, h2, h3⟩ := collect_spec (needle.getD []) rows h.metaOK
  refine ⟨found, h1, h2, ?_, h3⟩
  have : found.length = (childrenSpec rows (needle.getD [])).length := by rw [← h2]; simp
  rw [this]; exact h.fits

end Rtosc.Path
