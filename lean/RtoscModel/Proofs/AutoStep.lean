/-
  C19 — what one operation does, seen through the two views every invariant looks through.
  The bookkeeping `(keys, learnLen)` sees an operation as one of four events of the learn queue
  (`QueueEvent`, read off the operation by `eventOf`, which is the text of the specification
  `absStep` with the test `s ∉ Q` read off the slot); the table of automations `autosOf` moves
  by `autosStep`, which is the specification `absBind` one level down (automations instead of
  their `bound` fields); every message comes from an automation of the table (`MsgsFrom`).
  `step_views` is the one place where these are compared with the model.
-/
import RtoscModel.Proofs.AutoOps
namespace Rtosc.Auto
open Rtosc
variable {F : Type}

/-- what an operation is for the learn queue: nothing, a learn request of slot `s` (createBinding),
    slot `s` cleared (clearSlot), or the head served by the controller `(n, id)` (handleMidi) -/
inductive QueueEvent where
  | idle
  | request (s : Nat)
  | clear (s : Nat)
  | serve (n : Bool) (id : Int)

def QueueEvent.onQueue : QueueEvent → List Nat → List Nat
  | .idle, Q => Q
  | .request s, Q => Q ++ [s]
  | .clear s, Q => Q.erase s
  | .serve _ _, Q => Q.tail

/-- the same on the per-slot numbers `ks` (`learning`) and on `learn_queue_len` -/
def QueueEvent.onKeys (ks : List Key) (len : Int) : QueueEvent → List Key × Int
  | .idle => (ks, len)
  | .request s => (ks.modify s fun k => (len + 1, k.2), len + 1)
  | .clear s =>
    match ks[s]? with
    | none => (ks, len)
    | some k => ((if k.1 > 0 then ks.map (decK k.1) else ks).set s (-1, -1, -1), if k.1 > 0 then len - 1 else len)
  | .serve n id =>
    match headOf ks with
    | none => (ks, len)
    | some hd => ((ks.modify hd (bindK n id)).map (decK 1), len - 1)

def selCC (k : Key) : Int := k.2.1

def selNrpn (k : Key) : Int := k.2.2

def selOf (n : Bool) : Key → Int := if n then selNrpn else selCC

/-- the side condition under which the event keeps `QueueRel` and `Uniq` (Proofs/AutoQueue.lean);
    `step_views` proves it of the event of every operation -/
def QueueEvent.Ok (ks : List Key) : QueueEvent → Prop
  | .idle => True
  | .request s => ∃ k, ks[s]? = some k ∧ k.1 = -1
  | .clear s => s < ks.length
  | .serve n id => ∀ k ∈ ks, selOf n k ≠ id

/-- `learning` of slot `s`; the default for an absent slot is immaterial (as that of `slotCC`):
    `bindSucceeds` is false there -/
def slotLearning (m : Mgr F) (s : Int) : Int := ((m.slots[s.toNat]?).map (·.learning)).getD 0

/-- the event an operation is for the queue: the text of `absStep`, its test `s.toNat ∉ Q` read off
    the number of the slot (`absStep_eventOf`, Proofs/AutoQueue.lean) -/
def eventOf (m : Mgr F) : Op F → QueueEvent
  | .bind s _ port learn =>
    if bindSucceeds m s port && learn && decide (slotLearning m s = -1) && decide (slotCC m s = -1)
    then .request s.toNat else .idle
  | .clearSlot s => if m.slotOob s then .idle else .clear s.toNat
  | .midi c t v =>
    match controllerOf m c t v with
    | some (n, id) => if isBoundTo m n id then .idle else .serve n id
    | none => .idle
  | _ => .idle

theorem selOf_key (n : Bool) (sl : Slot F) : selOf n (key sl) = bindingOf n sl := by
  cases n <;> simp [selOf, selCC, selNrpn, key, bindingOf]

/-- what createBinding (`reset`: gain and offset go back to their defaults) and setSlotSubPath
    leave in the automation they fill.  `atof(NULL)` is undefined behaviour of the operation and
    leaves the automation alone here; `step_fills` says that a step that succeeded did not meet it. -/
def fillAuto (A : Arith F) (path : Bytes) (p : PortInfo F) (reset : Bool) (au : Automation F) : Automation F :=
  match bindInfo A au path p with
  | none => au
  | some au1 => Automation.remap A (if reset then { au1 with gain := A.hundred, offset := A.zero } else au1)

/-- clearSlotSub, setSlotSubGain and setSlotSubOffset (with updateMapping): the sub-automation
    they address and what they put in its place -/
def subFn (A : Arith F) : Op F → Option (Int × Int × (Automation F → Automation F))
  | .clearSub s j => some (s, j, Automation.clear A)
  | .gain s j x => some (s, j, fun au => Automation.remap A { au with gain := x })
  | .offset s j x => some (s, j, fun au => Automation.remap A { au with offset := x })
  | _ => none

/-- the automations after an operation, with the range tests of `absBind` (`per` = sub-automations
    per slot; a slot index beyond the table addresses nothing, a negative one is tested for where
    the code does not leave it undefined) -/
def autosStep (A : Arith F) (per : Nat) (T : List (List (Automation F))) : Op F → List (List (Automation F))
  | .bind s path port _ =>
    match portUsable port with
    | none => T
    | some p => T.modify s.toNat fun row =>
        match firstFree row 0 with
        | some j => row.modify j (fillAuto A path p true)
        | none => row
  | .setPath s j path port =>
    if s < 0 then T else
    match portUsable port with
    | none => T
    | some p => T.modify s.toNat fun row => row.modify j.toNat (fillAuto A path p false)
  | .clearSlot s => if s < 0 then T else T.modify s.toNat (List.map (Automation.clear A))
  | op =>
    match subFn A op with
    | some (s, j, f) =>
      if s < 0 ∨ j < 0 ∨ j ≥ (per : Int) then T else T.modify s.toNat fun row => row.modify j.toNat f
    | none => T

theorem step_views {A : Arith F} {m m' : Mgr F} {op : Op F} {ms : List (Msg F)} (hs : step A m op = some (m', ms)) :
    (keys m', m'.learnLen) = (eventOf m op).onKeys (keys m) m.learnLen ∧ (eventOf m op).Ok (keys m) ∧
    autosOf m' = autosStep A m.perSlot (autosOf m) op ∧ MsgsFrom A (autosOf m) ms := by
  have h' := step_inv hs
  have idle : ∀ {m' : Mgr F} {T : List (List (Automation F))} {ms : List (Msg F)}, keys m' = keys m →
      m'.learnLen = m.learnLen → autosOf m' = T → MsgsFrom A (autosOf m) ms →
      (keys m', m'.learnLen) = QueueEvent.idle.onKeys (keys m) m.learnLen ∧
        QueueEvent.idle.Ok (keys m) ∧ autosOf m' = T ∧ MsgsFrom A (autosOf m) ms :=
    fun h1 h2 h3 h4 => ⟨by rw [h1, h2]; rfl, trivial, h3, h4⟩
  have nil := msgsFrom_nil A (autosOf m)
  cases op with
  | bind s path port learn =>
    rw [h'.2]
    rcases createBinding_inv A m m' s path port learn h'.1 with
      ⟨rfl, hp | ⟨p, sl, hp, hsl, hff⟩⟩ | ⟨p, sl, ind, au, au1, hp, hoob, hsl, hff, hau, hbi, hm'⟩
    · simp only [eventOf, bindSucceeds, hp, Option.isSome_none, Bool.false_and, Bool.false_eq_true, ↓reduceIte]
      exact idle rfl rfl (by simp only [autosStep, hp]) nil
    · simp only [eventOf, bindSucceeds, hp, hsl, hff, Option.isSome_none, Bool.and_false, Bool.false_and,
        Bool.false_eq_true, ↓reduceIte]
      refine idle rfl rfl ?_ nil
      simp only [autosStep, hp]
      exact (modify_id_at _ _ _ fun row hr => by cases (autosOf_getElem? hsl).symm.trans hr; simp only [hff]).symm
    · have hbs : bindSucceeds m s port = true := by simp [bindSucceeds, hp, hoob, hsl, hff]
      have hcond : (bindSucceeds m s port && learn && decide (slotLearning m s = -1) && decide (slotCC m s = -1)) =
          startLearn learn sl := by simp [hbs, slotLearning, slotCC, hsl, startLearn]
      have hT : autosOf m' = autosStep A m.perSlot (autosOf m) (.bind s path port learn) := by
        simp only [autosStep, hp]
        rw [modify_eq_set _ _ _ _ (autosOf_getElem? hsl), hff, hm']
        simp only [modify_eq_set _ _ _ _ hau, fillAuto, hbi, autosOf, List.map_set]; rfl
      refine ⟨?_, ?_, hT, nil⟩ <;> subst hm' <;> simp only [eventOf, hcond]
      · by_cases hst : startLearn learn sl = true
        · simp only [hst, ↓reduceIte, QueueEvent.onKeys, modify_eq_set _ _ _ _ (keys_getElem? hsl)]
          simp only [keys, List.map_set]; rfl
        · simp only [hst, Bool.false_eq_true, ↓reduceIte]
          exact Prod.ext (map_set_inv key m.slots s.toNat sl _ hsl rfl) rfl
      · by_cases hst : startLearn learn sl = true
        · simp only [hst, ↓reduceIte]
          exact ⟨key sl, keys_getElem? hsl, by simp [startLearn] at hst; exact hst.1.2⟩
        · simp only [hst, Bool.false_eq_true, ↓reduceIte]; trivial
  | setPath s j path port =>
    rw [h'.2]
    rcases setSlotSubPath_cases A m m' s j path port h'.1 with
      ⟨rfl, hno⟩ | ⟨p, sl, au, au1, hoob, hp, hsl, hau, hbi, rfl⟩
    · refine idle rfl rfl ?_ nil
      simp only [autosStep]
      split
      · rfl
      · rcases hno with hoob | hp
        · split
          · rfl
          · exact (autosOf_modify_oob hoob ‹_› _).symm
        · rw [hp]
    · refine idle (map_set_inv key _ _ sl _ hsl rfl) rfl ?_ nil
      have hneg : ¬ s < 0 := by have := (slotOob_false_iff m s).1 hoob; omega
      simp only [autosStep, hneg, ↓reduceIte, hp]
      rw [modify_eq_set _ _ _ _ (autosOf_getElem? hsl)]
      simp only [modify_eq_set _ _ _ _ hau, fillAuto, hbi, autosOf, List.map_set]; rfl
  | clearSlot s =>
    rw [h'.1, h'.2]
    simp only [eventOf, autosStep]
    cases hoob : m.slotOob s with
    | true =>
      rw [clearSlot_oob A m s hoob]
      refine idle rfl rfl ?_ nil
      split
      · rfl
      · exact (autosOf_modify_oob hoob ‹_› _).symm
    | false =>
      obtain ⟨sl, hsl⟩ := slot_of_not_oob hoob
      obtain ⟨h1, h2, h3⟩ := clearSlot_views A m s sl hoob hsl
      have hneg : ¬ s < 0 := by have := (slotOob_false_iff m s).1 hoob; omega
      simp only [Bool.false_eq_true, ↓reduceIte, QueueEvent.onKeys, QueueEvent.Ok, keys_getElem? hsl, hneg]
      exact ⟨by rw [h1, h2]; rfl, by simpa [keys] using getElem?_some_lt hsl, h3, nil⟩
  | clearSub s j =>
    rw [h'.1, h'.2]
    obtain ⟨h1, h2, h3⟩ := views_ite_modifyAuto m s j (Automation.clear A)
    exact idle h1 h2 h3 nil
  | gain s j x =>
    rw [h'.1, h'.2, setSlotSubGain, updateMapping_modifyAuto]
    obtain ⟨h1, h2, h3⟩ := views_ite_modifyAuto m s j fun au => Automation.remap A { au with gain := x }
    exact idle h1 h2 h3 nil
  | offset s j x =>
    rw [h'.1, h'.2, setSlotSubOffset, updateMapping_modifyAuto]
    obtain ⟨h1, h2, h3⟩ := views_ite_modifyAuto m s j fun au => Automation.remap A { au with offset := x }
    exact idle h1 h2 h3 nil
  | setSlot s x =>
    rw [h'.1, h'.2]
    have hk := setSlot_view key (fun _ _ => rfl) A m s x
    exact idle hk.1 hk.2.1 (setSlot_view Slot.autos (fun _ _ => rfl) A m s x).1 hk.2.2
  | setSub s j x => rw [h'.1, h'.2]; exact idle rfl rfl rfl (setSlotSub_msgs A m s j x)
  | midi c t v =>
    rw [h'.1, h'.2, handleMidi_eq]
    have hr := regs_slots m t v
    have hkr : keys (regs m t v) = keys m := by simp [keys, hr.1]
    have har : autosOf (regs m t v) = autosOf m := by simp [autosOf, hr.1]
    simp only [eventOf]
    cases controllerOf m c t v with
    | none => exact idle hkr hr.2 har nil
    | some p =>
      obtain ⟨n, id⟩ := p
      simp only []
      by_cases hb : isBoundTo m n id = true
      · simp only [hb, ↓reduceIte]
        exact idle (driveBound_view key (fun _ _ => rfl) ..) hr.2 (driveBound_view Slot.autos (fun _ _ => rfl) ..)
          (driveBound_msgs A m _ _ _)
      · simp only [hb, Bool.false_eq_true, ↓reduceIte, QueueEvent.onKeys, QueueEvent.Ok]
        obtain ⟨h1, h2, h3, h4⟩ := serveLearn_views A (regs m t v) n id v
        rw [h1, h2, h3, hkr, hr.2]
        refine ⟨by cases headOf (keys m) <;> rfl, fun k hk => ?_, har, har ▸ h4⟩
        obtain ⟨sl, hsl, rfl⟩ := List.mem_map.1 hk
        rw [selOf_key]
        simp only [isBoundTo, List.any_eq_true, decide_eq_true_eq, not_exists, not_and] at hb
        exact hb sl hsl

/-- a step that succeeded has not met `atof(NULL)`: the automation it filled records the call -/
theorem step_fills {A : Arith F} {m m' : Mgr F} {op : Op F} {ms : List (Msg F)} (hs : step A m op = some (m', ms)) :
    match op with
    | .bind s path port _ => ∀ p sl j au, portUsable port = some p → m.slots[s.toNat]? = some sl →
        firstFree sl.autos 0 = some j → sl.autos[j]? = some au → (fillAuto A path p true au).bound = some (path, p)
    | .setPath s j path port => ∀ p sl au, ¬ s < 0 → portUsable port = some p → m.slots[s.toNat]? = some sl →
        sl.autos[j.toNat]? = some au → (fillAuto A path p false au).bound = some (path, p)
    | _ => True := by
  have h' := step_inv hs
  cases op with
  | bind s path port learn =>
    intro p sl j au hp hsl hff hau
    rcases createBinding_inv A m m' s path port learn h'.1 with
      ⟨_, hp' | ⟨p', sl', hp', hsl', hff'⟩⟩ | ⟨p', sl', j', au', au1, hp', _, hsl', hff', hau', hbi, _⟩
    · cases hp'.symm.trans hp
    · cases hp'.symm.trans hp; cases hsl'.symm.trans hsl; cases hff'.symm.trans hff
    · cases hp'.symm.trans hp; cases hsl'.symm.trans hsl; cases hff'.symm.trans hff; cases hau'.symm.trans hau
      simp only [fillAuto, hbi, ↓reduceIte]; exact (bindInfo_bound A au au1 path p hbi).1
  | setPath s j path port =>
    intro p sl au hneg hp hsl hau
    have hoob : m.slotOob s = false := (slotOob_false_iff m s).2 ⟨by omega, getElem?_some_lt hsl⟩
    rcases setSlotSubPath_cases A m m' s j path port h'.1 with
      ⟨_, ho | hp'⟩ | ⟨p', sl', au', au1, _, hp', hsl', hau', hbi, _⟩
    · cases hoob.symm.trans ho
    · cases hp'.symm.trans hp
    · cases hp'.symm.trans hp; cases hsl'.symm.trans hsl; cases hau'.symm.trans hau
      simp only [fillAuto, hbi, Bool.false_eq_true, ↓reduceIte]; exact (bindInfo_bound A au au1 path p hbi).1
  | _ => trivial

end Rtosc.Auto
