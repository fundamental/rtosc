/-
  C12, text level — the savefile text stage (RtoscModel/Save/Text.lean) is transparent.  The lines and values covered
  are those C10's token theorems apply to (`LineTextOK`, `ValTextOK`); an array line may contain compressed runs
  (`ArrCutOK`; all three in RtoscModel/Save/TextSpec.lean).  A line is a message of one piece — a value, or an array cut into segments —
  so it is printed and read back by the checker and the scanner wherever it stands in a file
  (Proofs/SaveTextMsg.lean), and the scanned cells, repetition and range blocks expanded
  by the dispatch loop's iterator (Proofs/SaveTextExpand.lean), convert back to the line's arguments.  The message
  loop and the two header `sscanf`s read the file back, so `load_from_file` on the text of `save_to_file` is
  `App.loadFile` on the abstract file (`loadText_saveText`).
-/
import RtoscModel.Proofs.SaveTextMsg
import RtoscModel.Proofs.SaveTextExpand
import RtoscModel.Proofs.SaveTextCut
import RtoscModel.Proofs.PrettyTokNum
import RtoscModel.Proofs.PrettyTokWord
import RtoscModel.Proofs.PrettyTokChar
import RtoscModel.Proofs.PrettyTokStr
import RtoscModel.Proofs.PrettyTokSym
import RtoscModel.Proofs.PrettyTokFloat
import RtoscModel.Proofs.PrettyRunsArrItems
namespace Rtosc.Save.Text
open Rtosc Rtosc.Libc Rtosc.Pretty Rtosc.Save
open Rtosc.ArgVal (Cell)

theorem charOfByte_byteOfChar (c : Char) (h : CharByte c) : charOfByte (byteOfChar c) = c := by
  unfold charOfByte byteOfChar CharByte at *
  have : c.toNat.toUInt8.toNat = c.toNat := by
    simp [Nat.toUInt8, UInt8.toNat_ofNat', Nat.mod_eq_of_lt h]
  rw [this]
  exact Char.ofNat_toNat c

theorem bytesPath_pathBytes (p : Path) (h : ∀ c ∈ p, CharByte c) : bytesPath (pathBytes p) = p := by
  induction p with
  | nil => rfl
  | cons c r ih =>
    simp only [pathBytes, bytesPath, List.map_cons, List.map_map] at ih ⊢
    rw [charOfByte_byteOfChar c (h c (by simp))]
    congr 1
    exact ih (fun x hx => h x (by simp [hx]))

theorem valOfCell_cellOfVal (v : Val) (h : ValTextOK v) : valOfCell (cellOfVal v) = some v := by
  cases v with
  | int i => rfl
  | chr c => rfl
  | flt b => rfl
  | bool b => cases b <;> rfl
  | sym s =>
    simp only [cellOfVal, valOfCell]
    rw [bytesPath_pathBytes s (fun c hc => (h c hc).1)]
  | str bs => rfl

theorem mapM_valOfCell (vs : List Val) (h : ∀ v ∈ vs, ValTextOK v) :
    (vs.map cellOfVal).mapM valOfCell = some vs := by
  induction vs with
  | nil => rfl
  | cons v r ih =>
    simp only [List.map_cons, List.mapM_cons, valOfCell_cellOfVal v (h v (by simp)),
      ih (fun x hx => h x (by simp [hx]))]
    rfl

theorem cellOfVal_scalar (v : Val) : (cellOfVal v).isScalar = true := by
  cases v with
  | bool b => cases b <;> rfl
  | _ => rfl

theorem cells_scalar (vs : List Val) : ∀ x ∈ vs.map cellOfVal, x.isScalar = true :=
  List.forall_mem_map.2 fun v _ => cellOfVal_scalar v

theorem printsTok_cellOfVal (v : Val) (h : ValTextOK v) : PrintsTok defaultOpt (cellOfVal v) := by
  cases v with
  | int i => exact (C11.printsVal_int _ i h.1 h.2).printsTok
  | chr c => exact (C11.printsVal_char _ c h).printsTok
  | flt b => exact (C11.printsVal_float _ rfl (by decide) b h).printsTok
  | bool b => cases b <;> exact (C11.printsVal_flag _ _).printsTok
  | sym s => exact (C11.printsVal_symbol _ _ (List.forall_mem_map.2 fun c hc => (h c hc).2)).printsTok
  | str bs => exact (C11.printsVal_string _ bs h).printsTok

theorem arrTy_eq_lastTy (cs : List Cell) : arrTy cs = lastTy cs 32 := rfl

/-- an array at the head of the argument list is no run: `rtosc_convert_to_range` counts one
    argument of type 'a' -/
theorem convertToRange_arrayHead (opt : POpt) (ety : UInt8) (es : List Cell) :
    convertToRange opt (Cell.arr ety (es.length : Nat) :: es) (es.length + 1) = .ok none := by
  simpa using convertToRange_arr_next opt ety es [] (es.length + 1) (Or.inr (Nat.le_refl _))

theorem asegmented_arr {opt : POpt} {body : List RSeg} (hseg : Segmented opt body) (hty : ArrTypesOK body) :
    ASegmented opt [ASeg.arr body] := by
  refine .arr body [] hseg hty ?_ .nil
  simpa [arrHdr, cellsAllA] using convertToRange_arrayHead opt (lastTyS body 32) (cellsAll body)

theorem argsOfCells_plain (vs : List Val) (h : ∀ v ∈ vs, ValTextOK v) (hne : vs ≠ []) :
    argsOfCells (vs.map cellOfVal) = .ok (.plain vs) := by
  have hexp := expandCells_scalars (vs.map cellOfVal) (cells_scalar vs)
  obtain ⟨v, r, rfl⟩ := List.exists_cons_of_ne_nil hne
  have hnotarr : ∀ ety len, cellOfVal v ≠ Cell.arr ety len := by
    intro ety len; cases v with
    | bool b => cases b <;> simp [cellOfVal]
    | _ => simp [cellOfVal]
  simp only [List.map_cons] at hexp ⊢
  unfold argsOfCells
  split
  · rename_i ety len es heq
    simp only [List.cons.injEq] at heq
    exact absurd heq.1 (hnotarr ety len)
  · have hm := mapM_valOfCell (v :: r) h
    simp only [List.map_cons] at hm
    simp only [hexp, bind, Except.bind, hm, pure, Except.pure]

theorem argsOfCells_arr (vs : List Val) (h : ∀ v ∈ vs, ValTextOK v) (ety : UInt8) :
    argsOfCells (Cell.arr ety (vs.length : Nat) :: vs.map cellOfVal) = .ok (.arr vs) := by
  have hexp := expandCells_scalars (vs.map cellOfVal) (cells_scalar vs)
  simp only [argsOfCells, List.length_map, ↓reduceIte, hexp, bind, Except.bind, mapM_valOfCell vs h, pure, Except.pure]

/-- what the load side needs to know about a line and its text: wherever the text stands in a file,
    checker and scanner read it as the address and some cells (`ScansAs`), and these cells are the
    line's arguments (after the expansion of repetitions and ranges) -/
structure LineScans (l : Line) (t : Bytes) : Prop where
  scans : ∃ cells, ScansAs (pathBytes l.addr) cells t ∧ argsOfCells cells = .ok l.args
  addr_back : bytesPath (pathBytes l.addr) = l.addr
  addr_len : (pathBytes l.addr).length + 2 ≤ nameBufSize

/-- line by line, the texts `ts` are read back as the lines `ls` -/
inductive LinesScan : List Line → List Bytes → Prop
  | nil : LinesScan [] []
  | cons {l : Line} {t : Bytes} {ls : List Line} {ts : List Bytes} :
      LineScans l t → LinesScan ls ts → LinesScan (l :: ls) (t :: ts)

theorem addrOK_of_text {a : Path} (h : AddrTextOK a) : AddrOK (pathBytes a) := by
  obtain ⟨h1, h2, _⟩ := h
  constructor
  · cases a with
    | nil => cases h1
    | cons c r =>
      simp only [List.head?_cons, Option.some.injEq] at h1
      subst h1
      rfl
  · exact List.forall_mem_map.2 fun c hc => (h2 c hc).2

/-- a covered line has a text, and that text is read back wherever it stands in a file (`LineScans`) -/
theorem lineText_msgText (l : Line) (h : LineTextOK l) : ∃ t, lineText l = .ok t ∧ LineScans l t := by
  obtain ⟨haddr, hargs⟩ := h
  have hA := addrOK_of_text haddr
  have hback : bytesPath (pathBytes l.addr) = l.addr := bytesPath_pathBytes _ (fun c hc => (haddr.2.1 c hc).1)
  have hlen : (pathBytes l.addr).length + 2 ≤ nameBufSize := by
    simpa [pathBytes] using haddr.2.2
  obtain ⟨addr, args⟩ := l
  simp only at hargs hA hback hlen ⊢
  -- either kind of line is one piece of an argument list: a value, or an array cut into segments
  cases args with
  | plain vs =>
    obtain ⟨v, rfl, hv⟩ := hargs
    have hA1 : ASegmented defaultOpt [ASeg.seg (.tok (cellOfVal v))] :=
      .tok _ [] (cellOfVal_scalar v) (printsTok_cellOfVal v hv) (convertToRange_small _ _ _ (by simp [cellsAllA])) .nil
    obtain ⟨st, ret, hpr, hsc⟩ := printMessage_scansAs defaultOpt rfl (pathBytes addr) hA hA1 (by simp)
    refine ⟨st.out, ?_, ⟨⟨_, hsc, ?_⟩, hback, hlen⟩⟩
    · unfold lineText
      simp only [cellsAllA, ASeg.cells, RSeg.cells, List.append_nil] at hpr
      simp only [cellsOfArgs, List.map_cons, List.map_nil, hpr, bind, Except.bind, pure, Except.pure]
    · exact argsOfCells_plain [v] (by intro x hx; rw [List.mem_singleton.1 hx]; exact hv) (by simp)
  | arr vs =>
    obtain ⟨hne, hv, hty, body, hcells, hcut⟩ := hargs
    have hseg : Segmented defaultOpt body := hcut.segmented (by
      intro c hc
      rw [hcells] at hc
      simp only [List.mem_map] at hc
      obtain ⟨v, hvm, rfl⟩ := hc
      exact ⟨cellOfVal_scalar v, printsTok_cellOfVal v (hv v hvm)⟩)
    have htyB : ArrTypesOK body := by
      intro e he
      rw [hcells] at he ⊢
      simp only [List.mem_map] at he
      obtain ⟨v, hvm, rfl⟩ := he
      exact hty v hvm
    have hhdr : cellsOfArgs (.arr vs) = arrHdr body :: cellsAll body := by
      simp only [cellsOfArgs, arrHdr, lastTyS_eq_lastTy hseg 32, hcells, arrTy_eq_lastTy, List.length_map]
    obtain ⟨st, ret, hpr, hsc⟩ := printMessage_scansAs defaultOpt rfl (pathBytes addr) hA
      (asegmented_arr hseg htyB) (by simp)
    refine ⟨st.out, ?_, ⟨⟨_, hsc, ?_⟩, hback, hlen⟩⟩
    · unfold lineText
      simp only [cellsAllA, ASeg.cells, List.append_nil] at hpr
      simp only [hhdr, hpr, bind, Except.bind, pure, Except.pure]
    · have hexp := expandCells_scannedAll hseg
      simp only [scannedAllA, ASeg.scanned, List.append_nil, argsOfCells, arrHdrS, ↓reduceIte, hexp, bind,
        Except.bind, hcells, mapM_valOfCell vs hv, pure, Except.pure]

theorem arrCutOK_of_noLongRun (vs : List Val) (h : NoLongRun (vs.map cellOfVal)) :
    ArrCutOK vs ((vs.map cellOfVal).map RSeg.tok) :=
  cutOK_of_noLongRun (vs.map cellOfVal) (cells_scalar vs) h

theorem arrCutOK_of_cutOf (vs : List Val) (body : List RSeg)
    (h : cutOf (vs.length + 1) (vs.map cellOfVal) = some body) : ArrCutOK vs body :=
  cutOf_sound _ _ _ h

theorem arrCutOK_of_arrCutB (vs : List Val) (h : arrCutB vs = true) : ∃ body, ArrCutOK vs body := by
  unfold arrCutB at h
  cases hc : cutOf (vs.length + 1) (vs.map cellOfVal) with
  | none => rw [hc] at h; cases h
  | some body => exact ⟨body, arrCutOK_of_cutOf vs body hc⟩

theorem joinLines_cons2 (t t2 : Bytes) (ts : List Bytes) :
    joinLines (t :: t2 :: ts) = t ++ 10 :: joinLines (t2 :: ts) := rfl

theorem scanBodyText_nil (fuel : Nat) : scanBodyText (fuel + 1) [] = .ok [] := by
  simp [scanBodyText]

theorem LineScans.text_eq_cons {l : Line} {t : Bytes} (h : LineScans l t) : ∃ r, t = 47 :: r := by
  obtain ⟨_, hmsg, _⟩ := h.scans
  cases t with
  | nil => exact absurd hmsg.1 (by decide)
  | cons c r => exact ⟨r, by rw [← hmsg.1]; rfl⟩

/-- one turn of the message loop on a line that stands in a file, white space `lead` in front of it
    and the tail `tl` behind it -/
theorem scanBodyText_step {l : Line} {t : Bytes} (h : LineScans l t) {lead : Bytes}
    (hlead : ∀ c ∈ lead, isspace c = true) (hl1 : lead.length ≤ 1) {tl : Bytes} (htl : MsgTail tl)
    {fuel : Nat} {rest : List (Option Line)} (hrest : scanBodyText fuel (tl.drop (wsLen tl)) = .ok rest) :
    scanBodyText (fuel + 1) (lead ++ (t ++ tl)) = .ok (some l :: rest) := by
  obtain ⟨cells, hmsg, hcback⟩ := h.scans
  obtain ⟨hcount, hscan⟩ := hmsg.2 lead hlead tl htl nameBufSize (by have := h.addr_len; omega)
  obtain ⟨r, rfl⟩ := h.text_eq_cons
  have hnonempty : (lead ++ (47 :: r ++ tl)).isEmpty = false := by simp
  have hrd : lead.length + (47 :: r).length + wsLen tl ≠ 0 := by simp
  have hdrop : (lead ++ (47 :: r ++ tl)).drop (lead.length + (47 :: r).length + wsLen tl) = tl.drop (wsLen tl) := by
    rw [← List.append_assoc, ← List.length_append, ← List.drop_drop, List.drop_left]
  have hnn : (0 : Int) ≤ (cells.length : Int) := Int.natCast_nonneg _
  rw [scanBodyText]
  simp only [hnonempty, Bool.false_eq_true, ↓reduceIte, hcount, bind, Except.bind, hnn, Int.toNat_natCast, hscan,
    hrd, hcback, h.addr_back, hdrop, hrest, pure, Except.pure]

/-- **the first loop of `dispatch_printed_messages` reads the lines of a file back**, in order -/
theorem scanBodyText_lines : ∀ (ls : List Line) (ts : List Bytes), LinesScan ls ts → ls ≠ [] →
    ∀ (lead : Bytes), (∀ c ∈ lead, isspace c = true) → lead.length ≤ 1 →
    ∀ fuel, (lead ++ joinLines ts).length + 1 ≤ fuel →
      scanBodyText fuel (lead ++ joinLines ts) = .ok (ls.map some) := by
  intro ls ts h
  induction h with
  | nil => intro hne; exact absurd rfl hne
  | @cons l t ls' ts' hlt hrest ih =>
    intro _ lead hlead hl1 fuel hf
    obtain ⟨r, ht⟩ := hlt.text_eq_cons
    cases hrest with
    | nil =>
      -- the last line: nothing behind it
      obtain ⟨f, rfl⟩ : ∃ f, fuel = f + 2 := ⟨fuel - 2, by simp [joinLines, ht] at hf; omega⟩
      simpa [joinLines] using scanBodyText_step hlt hlead hl1 (Or.inl rfl) (scanBodyText_nil f)
    | @cons l2 t2 ls2 ts2 hlt2 hrest2 =>
      -- a newline and the '/' of the next line behind it
      obtain ⟨f, rfl⟩ : ∃ f, fuel = f + 1 := ⟨fuel - 1, by omega⟩
      obtain ⟨r2, ht2⟩ := hlt2.text_eq_cons
      obtain ⟨x, hx⟩ : ∃ x, joinLines (t2 :: ts2) = 47 :: x := by
        cases ts2 with
        | nil => exact ⟨r2, ht2⟩
        | cons t3 ts3 => exact ⟨r2 ++ 10 :: joinLines (t3 :: ts3), by rw [joinLines_cons2, ht2]; rfl⟩
      have hnext := ih (List.cons_ne_nil _ _) [] (by simp) (by simp) f (by
        rw [joinLines_cons2] at hf
        simp only [List.length_append, List.length_cons, List.nil_append] at hf ⊢
        omega)
      exact scanBodyText_step hlt hlead hl1 (Or.inr ⟨x, by rw [hx]⟩) hnext

/-- a file without messages: the newline that ends the header is all there is -/
theorem scanBodyText_blank : scanBodyText 2 [10] = .ok [] := by rfl

theorem expect_append (w r : Bytes) : expect w (w ++ r) = some r := by
  simp [expect]

theorem scanU_fmtNat (n : Nat) (r : Bytes) (hr : isdigit (hd r) = false) : scanU (fmtNat n ++ r) = some (n, r) := by
  obtain ⟨hne, hd1, hval⟩ := fmtNat_facts n
  obtain ⟨c, cs, hcs⟩ := List.exists_cons_of_ne_nil hne
  obtain ⟨h45, h43, hcsp, _⟩ := isdigit_facts c (hd1 c (by rw [hcs]; simp))
  have hcsg : (c == 43 || c == 45) = false := by simp [h43, h45]
  have hsp : skipSpace (fmtNat n ++ r) = fmtNat n ++ r := by
    rw [hcs]
    exact skipSpace_nonspace c _ hcsp
  have htw : (fmtNat n ++ r).takeWhile isdigit = fmtNat n :=
    takeWhile_prefix _ _ hd1 (by cases r with | nil => left; rfl | cons x y => right; simpa using hr)
  have hsg : (hd (fmtNat n ++ r) == 43 || hd (fmtNat n ++ r) == 45) = false := by
    rw [hcs]; exact hcsg
  have hsg2 : (hd (fmtNat n ++ r) == 45) = false := (Bool.or_eq_false_iff.1 hsg).2
  unfold scanU
  simp only [hsp]
  rw [hsg, hsg2]
  simp only [Bool.false_eq_true, if_false, htw, hval, List.drop_left, wrapU, Bool.false_and]
  rw [hcs]
  simp

theorem scanVer_verText (v : Nat × Nat × Nat) (r : Bytes) (hr : isdigit (hd r) = false) :
    scanVer (verText v ++ r) = some (v, r) := by
  obtain ⟨a, b, c⟩ := v
  have e : verText (a, b, c) ++ r = fmtNat a ++ ([46] ++ (fmtNat b ++ ([46] ++ (fmtNat c ++ r)))) := by
    simp [verText]
  rw [e, scanVer, scanU_fmtNat a _ rfl]
  simp only [Option.bind_eq_bind, Option.bind_some, expect_append]
  rw [scanU_fmtNat b _ rfl]
  simp only [Option.bind_some, expect_append]
  rw [scanU_fmtNat c _ hr]
  rfl

/-- a literal word `c :: w` of a `sscanf` format, white space in the format in front of it: the white
    space `ws` of the text is skipped -/
theorem expect_skipSpace (ws : Bytes) (c : UInt8) (w r : Bytes) (hws : ∀ x ∈ ws, isspace x = true)
    (hc : isspace c = false) : expect (c :: w) (skipSpace (ws ++ (c :: w ++ r))) = some r := by
  rw [skipSpace_lead ws (c :: w ++ r) hws (Or.inr hc), expect_append]

theorem parseHeader1_header1 (v : Nat × Nat × Nat) (r : Bytes) :
    parseHeader1 (header1 v ++ r) = some (v, r) := by
  have e : header1 v ++ r = [] ++ ([37] ++ ([32] ++ (hdrRtosc ++ ([32] ++ (hdrOsc ++ ([32] ++ ([118] ++
      (verText v ++ ([32] ++ (hdrSavefile ++ r)))))))))) := by
    simp [header1]
  rw [e, parseHeader1]
  unfold hdrRtosc hdrOsc hdrSavefile
  rw [ expect_skipSpace [] 37 [] _ (by decide) (by decide)]
  simp only [Option.bind_eq_bind, Option.bind_some]
  rw [expect_skipSpace [32] 82 [84] _ (by decide) (by decide)]
  simp only [Option.bind_some]
  rw [expect_skipSpace [32] 79 [83, 67] _ (by decide) (by decide)]
  simp only [Option.bind_some]
  rw [expect_skipSpace [32] 118 [] _ (by decide) (by decide)]
  simp only [Option.bind_some]
  rw [scanVer_verText v _ rfl]
  simp only [Option.bind_some]
  rw [expect_skipSpace [32] 115 [97, 118, 101, 102, 105, 108, 101] _ (by decide) (by decide)]
  rfl

theorem parseHeader2_header2 (name : Path) (hn : NameTextOK name) (v : Nat × Nat × Nat) (r : Bytes)
    (hr : isdigit (hd r) = false) :
    parseHeader2 (10 :: header2 name v ++ r) = some (pathBytes name, v, r) := by
  obtain ⟨hne, hlen, hch⟩ := hn
  have hbne : pathBytes name ≠ [] := by simpa [pathBytes] using hne
  obtain ⟨c0, cs0, hc0⟩ := List.exists_cons_of_ne_nil hbne
  have hb : ∀ b ∈ pathBytes name, (!isspace b && decide (b ≠ 0)) = true :=
    List.forall_mem_map.2 fun c hc => by simp [(hch c hc).2.1, (hch c hc).2.2]
  have hc0sp : isspace c0 = false := by
    have := hb c0 (by rw [hc0]; simp)
    simp only [Bool.and_eq_true, Bool.not_eq_eq_eq_not, Bool.not_true] at this
    exact this.1
  have e : 10 :: header2 name v ++ r = [10] ++ ([37] ++ ([32] ++ (pathBytes name ++ ([32] ++ ([118] ++
      (verText v ++ r)))))) := by
    simp [header2]
  have htw : (pathBytes name ++ ([32] ++ ([118] ++ (verText v ++ r)))).takeWhile (fun c => !isspace c && decide (c ≠ 0)) =
      pathBytes name := takeWhile_prefix _ _ hb (Or.inr rfl)
  have htake : (pathBytes name).take 127 = pathBytes name :=
    List.take_of_length_le (by simpa [pathBytes] using hlen)
  have hemp : (pathBytes name).isEmpty = false := by rw [hc0]; rfl
  rw [e, parseHeader2, expect_skipSpace [10] 37 [] _ (by decide) (by decide)]
  simp only [Option.bind_eq_bind, Option.bind_some]
  rw [skipSpace_lead [32] _ (by decide) (Or.inr (by rw [hc0]; exact hc0sp))]
  simp only [htw, htake, List.drop_left, hemp, Bool.false_eq_true, ↓reduceIte]
  rw [expect_skipSpace [32] 118 [] _ (by decide) (by decide)]
  simp only [pure, Option.bind_some, scanVer_verText v r hr]

theorem parseHeader_fileTextOf (rv av : Nat × Nat × Nat) (name : Path) (hn : NameTextOK name) (ts : List Bytes) :
    parseHeader (fileTextOf rv name av ts) = some (rv, pathBytes name, av, 10 :: joinLines ts) := by
  have e : fileTextOf rv name av ts = header1 rv ++ (10 :: header2 name av ++ 10 :: joinLines ts) := by
    simp [fileTextOf]
  unfold parseHeader
  rw [e, parseHeader1_header1 rv _]
  simp only [Option.bind_eq_bind, Option.bind_some]
  rw [parseHeader2_header2 name hn av _ (by simp; decide)]
  rfl

theorem mapM_lineText (ls : List Line) (h : ∀ l ∈ ls, LineTextOK l) :
    ∃ ts, ls.mapM lineText = .ok ts ∧ LinesScan ls ts := by
  induction ls with
  | nil => exact ⟨[], rfl, .nil⟩
  | cons l r ih =>
    obtain ⟨t, ht, hs⟩ := lineText_msgText l (h l (by simp))
    obtain ⟨ts, hts, hf⟩ := ih (fun x hx => h x (by simp [hx]))
    refine ⟨t :: ts, ?_, .cons hs hf⟩
    simp only [List.mapM_cons, ht, hts, bind, Except.bind, pure, Except.pure]

/-- the proof of `load_text_of_save_text` (Props/C12Text.lean) -/
theorem loadText_saveText (app : App) (rtoscVer appVer : Nat × Nat × Nat)
    (hrv : verOk rtoscVer = true) (hav : verOk appVer = true) (hname : NameTextOK app.name)
    (s : State) (hlines : ∀ l ∈ app.save s, LineTextOK l) (t : State) :
    ∃ text, app.saveText rtoscVer appVer s = .ok text ∧
      app.loadText text t = .ok (app.loadFile (app.saveFile rtoscVer appVer s) t) := by
  obtain ⟨ts, hts, hf⟩ := mapM_lineText (app.save s) hlines
  have hbody : ((app.saveFile rtoscVer appVer s).body.filterMap id) = app.save s := by
    simp [App.saveFile, List.filterMap_map]
  refine ⟨fileTextOf rtoscVer app.name appVer ts, ?_, ?_⟩
  · unfold App.saveText fileText
    rw [hbody]
    simp only [hts, bind, Except.bind, pure, Except.pure, App.saveFile]
  · have hnb : bytesPath (pathBytes app.name) = app.name :=
      bytesPath_pathBytes _ (fun c hc => (hname.2.2 c hc).1)
    unfold App.loadText
    simp only [parseHeader_fileTextOf rtoscVer appVer app.name hname ts, hrv, hav, hnb, Bool.not_true, ne_eq,
      not_true_eq_false, decide_false, Bool.or_self, Bool.false_eq_true, ↓reduceIte]
    have hscan : scanBodyText ((10 :: joinLines ts).length + 1) (10 :: joinLines ts) = .ok ((app.save s).map some) := by
      by_cases hne : app.save s = []
      · rw [hne] at hf ⊢
        cases hf
        exact scanBodyText_blank
      · have := scanBodyText_lines (app.save s) ts hf hne [10] (by simp; decide) (by simp)
          ((10 :: joinLines ts).length + 1) (by simp)
        simpa using this
    simp only [hscan, bind, Except.bind, pure, Except.pure, App.saveFile]

end Rtosc.Save.Text
