/-
  C10 — tokens of the floating-point types in lossless mode:
  `<%#.Nf text> (<%a text>)` of a `float` ('f'), `<%#.Nlf text>d (<%la text>)` of a `double` ('d').
  The decimal text only selects the type; the hexadecimal text in parentheses carries the value.
-/
import RtoscModel.Proofs.PrettyTokNum
import RtoscModel.Proofs.PrettyLibcFloat
namespace Rtosc.Pretty
open Rtosc Rtosc.Libc
open Rtosc.ArgVal (Cell)

theorem numWordLen_stop (c : UInt8) (r : Bytes) (h : isspace c = true ∨ c = 41) : numWordLen (c :: r) = 0 := by
  rcases h with h | h <;> simp [numWordLen, h]

theorem numWordLen_dot (r : Bytes) (h : hd r ≠ 46) : numWordLen (46 :: r) = numWordLen r + 1 := by
  have hsp : isspace 46 = false := by decide
  cases r with
  | nil => simp [numWordLen, hsp, startsWith, List.isPrefixOf]
  | cons c t =>
    simp only [hd_cons] at h
    have : ¬ (46 = c) := fun h' => h h'.symm
    simp [numWordLen, hsp, startsWith, List.isPrefixOf, this]

/-- "%f%n" / "%*f%n" / "%lf%n" on a float text -/
theorem sscanf_flt_n (dbl sup : Bool) (t r : Bytes) (v : Nat)
    (h : scanFloat (if dbl then f64 else f32) (t ++ r) = some (v, r)) :
    sscanf [.flt dbl sup, .n] (t ++ r) = (if sup then [] else [.flt v]) ++ [.pos t.length] := by
  unfold sscanf
  rw [sscanfGo_flt_some _ _ _ _ _ _ _ _ h]
  cases sup <;> simp [sscanfGo]

/-- "%*lfd%n" / "%*ff%n": the letter behind the number is missing -/
theorem sscanf_flt_lit_fail (dbl : Bool) (c : UInt8) (t r : Bytes) (v : Nat)
    (h : scanFloat (if dbl then f64 else f32) (t ++ r) = some (v, r)) (hr : hd r ≠ c) :
    sscanf [.flt dbl true, .lit c, .n] (t ++ r) = [] := by
  unfold sscanf
  rw [sscanfGo_flt_some _ _ _ _ _ _ _ _ h, sscanfGo_lit_ne _ _ _ _ _ hr]
  rfl

/-- "%lfd%n" / "%*lfd%n" on a float text with the letter -/
theorem sscanf_flt_lit_n (dbl sup : Bool) (c : UInt8) (t r : Bytes) (v : Nat)
    (h : scanFloat (if dbl then f64 else f32) (t ++ c :: r) = some (v, c :: r)) :
    sscanf [.flt dbl sup, .lit c, .n] (t ++ c :: r) = (if sup then [] else [.flt v]) ++ [.pos (t.length + 1)] := by
  unfold sscanf
  rw [sscanfGo_flt_some _ _ _ _ _ _ _ _ h]
  cases sup <;> simp [sscanfGo]

/-- the digits of a decimal float text: leading digit, more integer digits, fraction digits -/
structure FNum (d : UInt8) (ds fr : Bytes) : Prop where
  hd0 : isdigit d = true
  hds : ∀ c ∈ ds, isdigit c = true
  hnlz : d = 48 → ds = []
  hfr : ∀ c ∈ fr, isdigit c = true

/-- `[-]digits.digits` -/
def fnum (neg : Bool) (d : UInt8) (ds fr : Bytes) : Bytes := decText neg d ds ++ 46 :: fr

theorem numEnd_dot (r : Bytes) : NumEnd (46 :: r) := by
  refine ⟨?_, ?_, ?_, ?_⟩ <;> rw [hd_cons] <;> decide

/-- `%d` / `%i` read the integer part -/
theorem intpart_scan (conv : IntConv) (hconv : conv ≠ .x) (neg : Bool) (d : UInt8) (ds fr : Bytes)
    (h : FNum d ds fr) (r : Bytes) (hr : NumEnd r) :
    ∃ v, scanInt conv none (decText neg d ds ++ r) = some (v, r) := by
  by_cases h48 : d = 48
  · have hnil := h.hnlz h48
    subst h48; subst hnil
    cases neg
    · simp only [decText, Bool.false_eq_true, ↓reduceIte, List.nil_append, List.cons_append]
      cases conv with
      | x => exact absurd rfl hconv
      | d => exact ⟨_, scanInt_zero_d r hr.1⟩
      | i => exact ⟨_, scanInt_zero_i r hr⟩
    · simp only [decText, ↓reduceIte, List.cons_append, List.nil_append]
      exact ⟨_, scanInt_negzero conv hconv r hr.1 (tolower_ne_x _ hr.2.2.1 hr.2.2.2)⟩
  · exact ⟨_, scanInt_decText conv hconv neg d ds r h.hd0 h48 h.hds hr⟩

theorem space_facts (c : UInt8) (h : isspace c = true) :
    isdigit c = false ∧ tolower c ≠ 101 ∧ c ≠ 46 ∧ c ≠ 100 ∧ c ≠ 102 := by
  revert h; revert c; apply UInt8.forall_of_fin; decide +kernel

theorem hd_digits_append (fr tail : Bytes) (hfr : ∀ c ∈ fr, isdigit c = true) (ht : hd tail ≠ 46) :
    hd (fr ++ tail) ≠ 46 := by
  cases fr with
  | nil => simpa using ht
  | cons c t =>
    have := hfr c (by simp)
    simp only [List.cons_append, hd_cons]
    intro h; subst h; revert this; decide

theorem numWordLen_fnum (neg : Bool) (d : UInt8) (ds fr tail : Bytes) (h : FNum d ds fr) (ht : hd tail ≠ 46) :
    numWordLen (fnum neg d ds fr ++ tail) = (fnum neg d ds fr).length + numWordLen tail := by
  unfold fnum
  rw [List.append_assoc, numWordLen_app _ _ (fun c hc =>
    numStart_wordChar c (decText_chars neg d ds h.hd0 h.hds c hc))]
  rw [List.cons_append, numWordLen_dot _ (hd_digits_append fr tail h.hfr ht),
    numWordLen_app _ _ (fun c hc => numStart_wordChar c (Or.inr (h.hfr c hc)))]
  simp; omega

theorem fnum_scanFloat (F : FFmt) (neg : Bool) (d : UInt8) (ds fr tail : Bytes) (h : FNum d ds fr)
    (h1 : isdigit (hd tail) = false) (h2 : tolower (hd tail) ≠ 101) :
    ∃ v, scanFloat F (fnum neg d ds fr ++ tail) = some (v, tail) := by
  obtain ⟨v, hv⟩ := scanFloat_dec F neg d ds fr tail h.hd0 h.hds h.hfr h1 h2
  refine ⟨v, ?_⟩
  rw [← hv]
  simp [fnum, decText]

theorem fnum_eq (neg : Bool) (d : UInt8) (ds fr tail : Bytes) :
    fnum neg d ds fr ++ tail = decText neg d ds ++ 46 :: (fr ++ tail) := by
  simp [fnum]

theorem fnum_length (neg : Bool) (d : UInt8) (ds fr : Bytes) :
    (fnum neg d ds fr).length = (decText neg d ds).length + 1 + fr.length := by
  simp [fnum]; omega

/-- the integer formats do not match a decimal float text -/
theorem fnum_int_tries (neg : Bool) (d : UInt8) (ds fr tail : Bytes) (h : FNum d ds fr) :
    scanRd NumFmt.h.tryDirs (fnum neg d ds fr ++ tail) = 0 ∧
    scanRd NumFmt.d.tryDirs (fnum neg d ds fr ++ tail) = (decText neg d ds).length ∧
    scanRd NumFmt.ii.tryDirs (fnum neg d ds fr ++ tail) = 0 ∧
    scanRd NumFmt.x.tryDirs (fnum neg d ds fr ++ tail) = (decText neg d ds).length := by
  rw [fnum_eq]
  have hne := numEnd_dot (fr ++ tail)
  obtain ⟨vd, hvd⟩ := intpart_scan .d (by decide) neg d ds fr h _ hne
  obtain ⟨vi, hvi⟩ := intpart_scan .i (by decide) neg d ds fr h _ hne
  refine ⟨?_, ?_, ?_, ?_⟩
  · unfold scanRd NumFmt.tryDirs
    rw [sscanf_int_lit_fail .i 104 _ _ vi hvi (by rw [hd_cons]; decide)]
  · unfold scanRd NumFmt.tryDirs
    rw [sscanf_int_n .d true _ _ vd hvd]; rfl
  · unfold scanRd NumFmt.tryDirs
    rw [sscanf_int_lit_fail .i 105 _ _ vi hvi (by rw [hd_cons]; decide)]
  · unfold scanRd NumFmt.tryDirs
    rw [sscanf_int_n .i true _ _ vi hvi]; rfl

/-- format selection, decimal text of a float: "%*f%n" -/
theorem scanfFmtstr_fnum_f (neg : Bool) (d : UInt8) (ds fr : Bytes) (c : UInt8) (tl : Bytes) (h : FNum d ds fr)
    (hc : isspace c = true) :
    scanfFmtstr (fnum neg d ds fr ++ c :: tl) = some .f := by
  obtain ⟨s1, s2, s3, s4, s5⟩ := space_facts c hc
  obtain ⟨t1, t2, t3, t4⟩ := fnum_int_tries neg d ds fr (c :: tl) h
  obtain ⟨v64, hv64⟩ := fnum_scanFloat f64 neg d ds fr (c :: tl) h (by simpa using s1) (by simpa using s2)
  obtain ⟨v32, hv32⟩ := fnum_scanFloat f32 neg d ds fr (c :: tl) h (by simpa using s1) (by simpa using s2)
  have hlen : numWordLen (fnum neg d ds fr ++ c :: tl) = (fnum neg d ds fr).length := by
    rw [numWordLen_fnum neg d ds fr _ h (by simpa using s3), numWordLen_stop c tl (Or.inl hc)]; rfl
  have t5 : scanRd NumFmt.lfd.tryDirs (fnum neg d ds fr ++ c :: tl) = 0 := by
    unfold scanRd NumFmt.tryDirs
    rw [sscanf_flt_lit_fail true 100 _ _ v64 hv64 (by simpa using s4)]
  have t6 : scanRd NumFmt.ff.tryDirs (fnum neg d ds fr ++ c :: tl) = 0 := by
    unfold scanRd NumFmt.tryDirs
    rw [sscanf_flt_lit_fail false 102 _ _ v32 hv32 (by simpa using s5)]
  have t7 : scanRd NumFmt.f.tryDirs (fnum neg d ds fr ++ c :: tl) = (fnum neg d ds fr).length := by
    unfold scanRd NumFmt.tryDirs
    rw [sscanf_flt_n false true _ _ v32 hv32]; rfl
  have hl := fnum_length neg d ds fr
  unfold scanfFmtstr
  simp only [hlen, List.find?, t1, t2, t3, t4, t5, t6, t7]
  have e1 : (0 : Nat) ≠ (fnum neg d ds fr).length := by omega
  have e2 : (decText neg d ds).length ≠ (fnum neg d ds fr).length := by omega
  simp [e1, e2]

/-- format selection, decimal text of a double: "%*lfd%n" -/
theorem scanfFmtstr_fnum_lfd (neg : Bool) (d : UInt8) (ds fr : Bytes) (c : UInt8) (tl : Bytes) (h : FNum d ds fr)
    (hc : isspace c = true) :
    scanfFmtstr (fnum neg d ds fr ++ 100 :: c :: tl) = some .lfd := by
  obtain ⟨t1, t2, t3, t4⟩ := fnum_int_tries neg d ds fr (100 :: c :: tl) h
  obtain ⟨v64, hv64⟩ := fnum_scanFloat f64 neg d ds fr (100 :: c :: tl) h (by rw [hd_cons]; decide) (by rw [hd_cons]; decide)
  have hlen : numWordLen (fnum neg d ds fr ++ 100 :: c :: tl) = (fnum neg d ds fr).length + 1 := by
    rw [numWordLen_fnum neg d ds fr _ h (by rw [hd_cons]; decide)]
    have := numWordLen_app [100] (c :: tl) (by intro x hx; simp at hx; subst hx; decide)
    simp only [List.cons_append, List.nil_append, List.length_singleton] at this
    rw [this, numWordLen_stop c tl (Or.inl hc)]
  have t5 : scanRd NumFmt.lfd.tryDirs (fnum neg d ds fr ++ 100 :: c :: tl) = (fnum neg d ds fr).length + 1 := by
    unfold scanRd NumFmt.tryDirs
    rw [sscanf_flt_lit_n true true 100 _ _ v64 hv64]; rfl
  have hl := fnum_length neg d ds fr
  unfold scanfFmtstr
  simp only [hlen, List.find?, t1, t2, t3, t4, t5]
  have e2 : (decText neg d ds).length ≠ (fnum neg d ds fr).length + 1 := by omega
  simp [e2]

def hexPre (neg : Bool) (lead : UInt8) : Bytes := (if neg then [45] else []) ++ [48, 120, lead]
def hexSgn0 (neg : Bool) : Bytes := (if neg then [45] else []) ++ [48]

theorem hexTxt_split1 (neg : Bool) (lead : UInt8) (fr : Bytes) (eneg : Bool) (eds tail : Bytes) :
    hexTxt neg lead fr eneg eds ++ tail = hexPre neg lead ++ (hexRest fr eneg eds ++ tail) := by
  rw [hexTxt_eq]; simp [hexPre]

theorem hexTxt_split2 (neg : Bool) (lead : UInt8) (fr : Bytes) (eneg : Bool) (eds tail : Bytes) :
    hexTxt neg lead fr eneg eds ++ tail = hexSgn0 neg ++ (120 :: lead :: (hexRest fr eneg eds ++ tail)) := by
  rw [hexTxt_eq]; simp [hexSgn0]

theorem hexTxt_ne (neg : Bool) (lead : UInt8) (fr : Bytes) (eneg : Bool) (eds : Bytes) :
    hexTxt neg lead fr eneg eds ≠ [] := by
  rw [hexTxt_eq]; cases neg <;> simp

theorem hexTxt_hd (neg : Bool) (lead : UInt8) (fr : Bytes) (eneg : Bool) (eds : Bytes) :
    hd (hexTxt neg lead fr eneg eds) = 45 ∨ hd (hexTxt neg lead fr eneg eds) = 48 := by
  rw [hexTxt_eq]; cases neg <;> simp

theorem numWordLen_hexTxt (neg : Bool) (lead : UInt8) (fr : Bytes) (eneg : Bool) (eds rest : Bytes)
    (h : HNum lead fr eds) :
    numWordLen (hexTxt neg lead fr eneg eds ++ 41 :: rest) = (hexTxt neg lead fr eneg eds).length := by
  have hstop : numWordLen (41 :: rest) = 0 := numWordLen_stop 41 rest (Or.inr rfl)
  have hpre : ∀ c ∈ hexPre neg lead, wordChar c = true := by
    intro c hc
    cases neg <;> simp [hexPre] at hc
    · rcases hc with rfl | rfl | rfl
      · decide
      · decide
      · exact numStart_wordChar _ (Or.inr h.hlead)
    · rcases hc with rfl | rfl | rfl | rfl
      · decide
      · decide
      · decide
      · exact numStart_wordChar _ (Or.inr h.hlead)
  have hexp : ∀ c ∈ 112 :: (if eneg then 45 else 43) :: eds, wordChar c = true := by
    intro c hc
    simp at hc
    rcases hc with rfl | rfl | hc
    · decide
    · cases eneg <;> decide
    · exact numStart_wordChar _ (Or.inr (h.heds c hc))
  have hlen := (hexTxt_length neg lead fr eneg eds).1
  rw [hexTxt_split1, numWordLen_app _ _ hpre, hlen]
  have : numWordLen (hexRest fr eneg eds ++ 41 :: rest) = (hexRest fr eneg eds).length := by
    unfold hexRest
    by_cases hfe : fr.isEmpty = true
    · simp only [hfe, ↓reduceIte, List.nil_append]
      rw [numWordLen_app _ _ hexp, hstop]; rfl
    · simp only [hfe, Bool.false_eq_true, ↓reduceIte, List.cons_append, List.append_assoc]
      have hd46 : hd (fr ++ (112 :: (if eneg then 45 else 43) :: eds ++ 41 :: rest)) ≠ 46 := by
        cases fr with
        | nil => simp at hfe
        | cons c t =>
          have := h.hfr c (by simp)
          simp only [List.cons_append, hd_cons]
          intro h46; subst h46; revert this; decide
      show numWordLen (46 :: (fr ++ ((112 :: (if eneg then 45 else 43) :: eds) ++ 41 :: rest))) = _
      rw [numWordLen_dot _ hd46, numWordLen_app _ _ (fun c hc => isxdigit_wordChar c (h.hfr c hc)),
        numWordLen_app _ _ hexp, hstop]
      simp
  rw [this]
  cases neg <;> simp [hexPre]

/-- format selection for the hexadecimal text in parentheses: "%*f%n" -/
theorem scanfFmtstr_hex (neg : Bool) (lead : UInt8) (fr : Bytes) (eneg : Bool) (eds rest : Bytes)
    (h : HNum lead fr eds) :
    scanfFmtstr (hexTxt neg lead fr eneg eds ++ 41 :: rest) = some .f := by
  have hlen := numWordLen_hexTxt neg lead fr eneg eds rest h
  obtain ⟨hl1, hl2⟩ := hexTxt_length neg lead fr eneg eds
  obtain ⟨vi, hvi⟩ := scanInt_i_hexTxt neg lead fr eneg eds (41 :: rest) h.hlead
  obtain ⟨vd, hvd⟩ := scanInt_d_hexTxt neg lead fr eneg eds (41 :: rest)
  have hv64 := scanFloat_hexTxt f64 neg lead fr eneg eds rest h
  have hv32 := scanFloat_hexTxt f32 neg lead fr eneg eds rest h
  have hr104 : hd (hexRest fr eneg eds ++ 41 :: rest) ≠ 104 := by
    rcases hexRest_hd fr eneg eds (41 :: rest) with h | h <;> rw [h] <;> decide
  have hr105 : hd (hexRest fr eneg eds ++ 41 :: rest) ≠ 105 := by
    rcases hexRest_hd fr eneg eds (41 :: rest) with h | h <;> rw [h] <;> decide
  have t1 : scanRd NumFmt.h.tryDirs (hexTxt neg lead fr eneg eds ++ 41 :: rest) = 0 := by
    unfold scanRd NumFmt.tryDirs
    rw [sscanf_int_lit_fail .i 104 _ _ vi hvi hr104]
  have t3 : scanRd NumFmt.ii.tryDirs (hexTxt neg lead fr eneg eds ++ 41 :: rest) = 0 := by
    unfold scanRd NumFmt.tryDirs
    rw [sscanf_int_lit_fail .i 105 _ _ vi hvi hr105]
  have t2 : scanRd NumFmt.d.tryDirs (hexTxt neg lead fr eneg eds ++ 41 :: rest) = (hexSgn0 neg).length := by
    unfold scanRd NumFmt.tryDirs
    rw [hexTxt_split2] at hvd ⊢
    rw [sscanf_int_n .d true _ _ vd hvd]; rfl
  have t4 : scanRd NumFmt.x.tryDirs (hexTxt neg lead fr eneg eds ++ 41 :: rest) = (hexPre neg lead).length := by
    unfold scanRd NumFmt.tryDirs
    rw [hexTxt_split1] at hvi ⊢
    rw [sscanf_int_n .i true _ _ vi hvi]; rfl
  have t5 : scanRd NumFmt.lfd.tryDirs (hexTxt neg lead fr eneg eds ++ 41 :: rest) = 0 := by
    unfold scanRd NumFmt.tryDirs
    rw [sscanf_flt_lit_fail true 100 _ _ _ hv64 (by rw [hd_cons]; decide)]
  have t6 : scanRd NumFmt.ff.tryDirs (hexTxt neg lead fr eneg eds ++ 41 :: rest) = 0 := by
    unfold scanRd NumFmt.tryDirs
    rw [sscanf_flt_lit_fail false 102 _ _ _ hv32 (by rw [hd_cons]; decide)]
  have t7 : scanRd NumFmt.f.tryDirs (hexTxt neg lead fr eneg eds ++ 41 :: rest) = (hexTxt neg lead fr eneg eds).length := by
    unfold scanRd NumFmt.tryDirs
    rw [sscanf_flt_n false true _ _ _ hv32]; rfl
  have hs0 : (hexSgn0 neg).length = (if neg then 1 else 0) + 1 := by cases neg <;> simp [hexSgn0]
  have hp0 : (hexPre neg lead).length = (if neg then 1 else 0) + 3 := by cases neg <;> simp [hexPre]
  unfold scanfFmtstr
  simp only [hlen, List.find?, t1, t2, t3, t4, t5, t6, t7]
  have e1 : (0 : Nat) ≠ (hexTxt neg lead fr eneg eds).length := by omega
  have e2 : (hexSgn0 neg).length ≠ (hexTxt neg lead fr eneg eds).length := by omega
  have e3 : (hexPre neg lead).length ≠ (hexTxt neg lead fr eneg eds).length := by omega
  simp [e1, e2, e3]

theorem skipSpace_hexTxt (neg : Bool) (lead : UInt8) (fr : Bytes) (eneg : Bool) (eds tail : Bytes) :
    skipSpace (hexTxt neg lead fr eneg eds ++ tail) = hexTxt neg lead fr eneg eds ++ tail := by
  rw [hexTxt_eq]
  cases neg <;> simp [skipSpace, isspace]

/-- the decimal text of a float, behind it a white space: "%*f%n" takes it -/
theorem numWord_fnum_f (neg : Bool) (d : UInt8) (ds fr : Bytes) (c : UInt8) (tl : Bytes) (h : FNum d ds fr)
    (hc : isspace c = true) : ∃ v, NumWord .f (fnum neg d ds fr) (c :: tl) (.flt v) := by
  obtain ⟨s1, s2, _⟩ := space_facts c hc
  obtain ⟨v, hv⟩ := fnum_scanFloat f32 neg d ds fr (c :: tl) h (by simpa using s1) (by simpa using s2)
  exact ⟨v, by cases neg <;> simp [fnum, decText], scanfFmtstr_fnum_f neg d ds fr c tl h hc,
    fun sup => sscanf_flt_n false sup _ _ v hv⟩

/-- the decimal text of a double with its `d`: "%*lfd%n" takes it -/
theorem numWord_fnum_lfd (neg : Bool) (d : UInt8) (ds fr : Bytes) (c : UInt8) (tl : Bytes) (h : FNum d ds fr)
    (hc : isspace c = true) : ∃ v, NumWord .lfd (fnum neg d ds fr ++ [100]) (c :: tl) (.flt v) := by
  obtain ⟨v, hv⟩ := fnum_scanFloat f64 neg d ds fr (100 :: c :: tl) h (by rw [hd_cons]; decide) (by rw [hd_cons]; decide)
  have e : (fnum neg d ds fr ++ [100]) ++ c :: tl = fnum neg d ds fr ++ 100 :: c :: tl := by simp
  refine ⟨v, by simp, by rw [e]; exact scanfFmtstr_fnum_lfd neg d ds fr c tl h hc, fun sup => ?_⟩
  rw [e]; simpa [NumFmt.dirs] using sscanf_flt_lit_n true sup 100 _ _ v hv

/-- the `%a` text in front of `)`: "%*f%n" takes it -/
theorem numWord_hexTxt (neg : Bool) (lead : UInt8) (fr : Bytes) (eneg : Bool) (eds rest : Bytes) (h : HNum lead fr eds)
    (b : Nat) (hb : scanFloat f32 (hexTxt neg lead fr eneg eds ++ 41 :: rest) = some (b, 41 :: rest)) :
    NumWord .f (hexTxt neg lead fr eneg eds) (41 :: rest) (.flt b) :=
  ⟨hexTxt_ne neg lead fr eneg eds, scanfFmtstr_hex neg lead fr eneg eds rest h, fun sup => sscanf_flt_n false sup _ _ b hb⟩

def floatTok (neg : Bool) (d : UInt8) (ds fr : Bytes) (hx : Bytes) : Bytes :=
  fnum neg d ds fr ++ 32 :: 40 :: (hx ++ [41])

def doubleTok (neg : Bool) (d : UInt8) (ds fr : Bytes) (hx : Bytes) : Bytes :=
  fnum neg d ds fr ++ 100 :: 32 :: 40 :: (hx ++ [41])

theorem fnum_hd (neg : Bool) (d : UInt8) (ds fr tail : Bytes) (hd0 : isdigit d = true) :
    hd (fnum neg d ds fr ++ tail) = 45 ∨ isdigit (hd (fnum neg d ds fr ++ tail)) = true := by
  cases neg
  · right; simpa [fnum, decText] using hd0
  · left; simp [fnum, decText]

theorem fnum_dispatch (neg : Bool) (d : UInt8) (ds fr tail : Bytes) (h : FNum d ds fr) :
    isRangeMultiplier (fnum neg d ds fr ++ tail) = false ∧ skipFmt fmtIsDate (fnum neg d ds fr ++ tail) = 0 := by
  rw [fnum_eq]
  exact ⟨isRangeMultiplier_decText neg d ds _ h.hds (numEnd_dot _),
    isDate_dec neg d ds _ h.hd0 h.hds (numEnd_dot _)⟩

/-- the frame both tokens with an exact value share: a number, ` (`, the `%a` text, `)` -/
theorem C11.valOK_exactTok (nf : NumFmt) (w : Bytes) (hneg : Bool) (lead : UInt8) (hfr : Bytes) (eneg : Bool) (eds : Bytes)
    (hH : HNum lead hfr eds) (c : Cell) (hne : w ≠ []) (hstart : hd w = 45 ∨ isdigit (hd w) = true)
    (hsc : c.isScalar = true) (hty : nf.type = 102 ∨ nf.type = 100) (htc : c.type = nf.type)
    (hdisp : ∀ tail, isRangeMultiplier (w ++ tail) = false ∧ skipFmt fmtIsDate (w ++ tail) = 0)
    (hw : ∀ tl, ∃ v, NumWord nf w (32 :: tl) (.flt v))
    (hscan : ∀ rest v,
      ∃ ty2 raw2, scanNumberPass (hexTxt hneg lead hfr eneg eds ++ 41 :: rest) nf.type (some (rawOf nf.type 0 (.flt v))) =
        .ok ((hexTxt hneg lead hfr eneg eds).length, ty2, raw2) ∧ cellOfRaw ty2 raw2 = .ok c) :
    C11.ValOK (w ++ 32 :: 40 :: (hexTxt hneg lead hfr eneg eds ++ [41])) c := by
  obtain ⟨hst, a91⟩ := tokStart_num w hne hstart
  have happ : ∀ rest, (w ++ 32 :: 40 :: (hexTxt hneg lead hfr eneg eds ++ [41])) ++ rest =
      w ++ 32 :: 40 :: (hexTxt hneg lead hfr eneg eds ++ 41 :: rest) := by intro rest; simp
  have hhd : ∀ tail, hd (w ++ tail) = 45 ∨ isdigit (hd (w ++ tail)) = true := by
    intro tail; rw [hd_append_of_ne_nil _ _ hne]; exact hstart
  have hh : hd (w ++ 32 :: 40 :: (hexTxt hneg lead hfr eneg eds ++ [41])) = hd w := hd_append_of_ne_nil _ _ hne
  refine .of_value _ c nf.type htc hsc ⟨by simp [hne], by rw [hh]; exact hst.2⟩ (by rw [hh]; exact a91)
    (fun rest hs se prev => ?_) (fun rest hs sk ty ib => ?_)
  · obtain ⟨v, h1⟩ := hw (40 :: (hexTxt hneg lead hfr eneg eds ++ 41 :: rest))
    obtain ⟨ty2, raw2, h2, hc⟩ := hscan rest v
    rw [happ, scanValue_num _ _ _ (hhd _) (hdisp _).1 (hdisp _).2]
    exact h1.scanNumeric_paren (by simp) (skipSpace_hexTxt ..) ty2 raw2 c h2 hc
  · obtain ⟨v, h1⟩ := hw (40 :: (hexTxt hneg lead hfr eneg eds ++ 41 :: rest))
    have hb := scanFloat_hexTxt f32 hneg lead hfr eneg eds rest hH
    rw [happ, skipValue_num _ _ _ _ (hhd _) (hdisp _).1 (hdisp _).2,
      h1.skipNumericArg_paren hty (skipSpace_hexTxt ..) (numWord_hexTxt hneg lead hfr eneg eds rest hH _ hb) ty]

theorem C11.valOK_floatTok (neg : Bool) (d : UInt8) (ds fr : Bytes) (hneg : Bool) (lead : UInt8)
    (hfr : Bytes) (eneg : Bool) (eds : Bytes) (hF : FNum d ds fr) (hH : HNum lead hfr eds) (b : UInt32)
    (hscan : ∀ rest, scanFloat f32 (hexTxt hneg lead hfr eneg eds ++ 41 :: rest) = some (b.toNat, 41 :: rest)) :
    C11.ValOK (floatTok neg d ds fr (hexTxt hneg lead hfr eneg eds)) (Cell.flt b) := by
  refine C11.valOK_exactTok .f (fnum neg d ds fr) hneg lead hfr eneg eds hH _ (by cases neg <;> simp [fnum, decText])
    (by simpa using fnum_hd neg d ds fr [] hF.hd0) rfl (Or.inl rfl) rfl (fun tail => fnum_dispatch neg d ds fr tail hF)
    (fun tl => numWord_fnum_f neg d ds fr 32 tl hF (by decide)) (fun rest v => ?_)
  refine ⟨102, _, (numWord_hexTxt hneg lead hfr eneg eds rest hH _ (hscan rest)).pass2_f _, ?_⟩
  simp [cellOfRaw, rawOf, NumFmt.type]

theorem C11.valOK_doubleTok (neg : Bool) (d : UInt8) (ds fr : Bytes) (hneg : Bool) (lead : UInt8)
    (hfr : Bytes) (eneg : Bool) (eds : Bytes) (hF : FNum d ds fr) (hH : HNum lead hfr eds) (b : UInt64)
    (hscan : ∀ rest, scanFloat f64 (hexTxt hneg lead hfr eneg eds ++ 41 :: rest) = some (b.toNat, 41 :: rest)) :
    C11.ValOK (doubleTok neg d ds fr (hexTxt hneg lead hfr eneg eds)) (Cell.dbl b) := by
  have := C11.valOK_exactTok .lfd (fnum neg d ds fr ++ [100]) hneg lead hfr eneg eds hH (Cell.dbl b) (by simp)
    (by rw [hd_append_of_ne_nil _ _ (by cases neg <;> simp [fnum, decText])]; simpa using fnum_hd neg d ds fr [] hF.hd0)
    rfl (Or.inr rfl) rfl (fun tail => by rw [List.append_assoc]; exact fnum_dispatch neg d ds fr _ hF)
    (fun tl => numWord_fnum_lfd neg d ds fr 32 tl hF (by decide))
    (fun rest v => ⟨100, b.toNat, scanNumberPass_lf (scanfFmtstr_hex hneg lead hfr eneg eds rest hH) (hscan rest) _,
      by simp [cellOfRaw]⟩)
  simpa [doubleTok] using this

/-- `remove_trailing_zeroes` leaves `%a` output (which has no trailing zeros) unchanged, whatever
    follows it -/
theorem removeTrailingZeroes_hexTxt (neg : Bool) (lead : UInt8) (fr : Bytes) (eneg : Bool) (eds : Bytes)
    (h : HNum lead fr eds) (hstrip : stripZeros fr = fr) (tail : Bytes) :
    removeTrailingZeroes (hexTxt neg lead fr eneg eds ++ tail) = .ok (hexTxt neg lead fr eneg eds ++ tail, 0) := by
  have hx112 : isxdigit 112 = false := by decide
  rw [hexTxt_eq]
  unfold hexRest
  by_cases hfe : fr.isEmpty = true
  · have hnil : fr = [] := by simpa using hfe
    subst hnil
    cases neg <;> simp [removeTrailingZeroes]
  · have hfe' : fr.isEmpty = false := by simpa using hfe
    have htw : List.takeWhile isxdigit (fr ++ 112 :: (if eneg then 45 else 43) :: (eds ++ tail)) = fr := by
      rw [List.takeWhile_append_of_pos h.hfr]
      simp [List.takeWhile, hx112]
    cases neg <;> simp [removeTrailingZeroes, hfe', htw, hstrip]

theorem lit_sp_paren : lit " (" = [32, 40] := by decide

/-- `%#.Nf` output of a finite double as a decimal float text -/
theorem fmtF_fnum (p B : Nat) (hfin : f64.expField B ≠ 2047) :
    ∃ d ds fr, FNum d ds fr ∧ fmtF true p B = fnum (f64.sign B) d ds fr := by
  obtain ⟨n, fr, he, hfr, _⟩ := fmtF_fin p B hfin
  obtain ⟨d, ds, hn, hd0, hds, hnlz⟩ := fmtNat_shape n
  refine ⟨d, ds, fr, ⟨hd0, hds, hnlz, hfr⟩, ?_⟩
  rw [he, hn]
  simp [fnum, decText]

/-- 'd' in lossless mode: `<%#.Nlf text>d (<%la text>)`, e.g. `0.50d (0x1p-1)` (`prec ≤ 9`: beyond it the size the
    code passes to `asnprintf` for the format string is too small, `Err.undef` in the model; the same for 'f' and 't') -/
theorem C11.printsVal_double (opt : POpt) (hl : opt.lossless = true) (hp : opt.prec ≤ 9) (b : UInt64)
    (hfin : f64.expField b.toNat ≠ 2047) : C11.PrintsVal opt (Cell.dbl b) := by
  intro fuel more prev st
  obtain ⟨d, ds, fr, hF, hnum⟩ := fmtF_fnum opt.prec b.toNat hfin
  obtain ⟨lead, hfr, eneg, eds, hhex, hH, _⟩ := fmtA_fin b.toNat hfin
  have hscan : ∀ rest, scanFloat f64 (hexTxt (f64.sign b.toNat) lead hfr eneg eds ++ 41 :: rest) =
      some (b.toNat, 41 :: rest) := by
    intro rest
    rw [← hhex]
    exact Libc.double_lossless_roundtrip b hfin rest
  have hok := (C11.valOK_doubleTok (f64.sign b.toNat) d ds fr (f64.sign b.toNat) lead hfr eneg eds hF hH b hscan)
  have hprec : ¬ (opt.prec > 9) := by omega
  refine ⟨doubleTok (f64.sign b.toNat) d ds fr (hexTxt (f64.sign b.toNat) lead hfr eneg eds),
    st.cols + ((doubleTok (f64.sign b.toNat) d ds fr (hexTxt (f64.sign b.toNat) lead hfr eneg eds)).length : Nat), ?_, hok⟩
  have htxt : fmtF true opt.prec b.toNat ++ [100] ++ lit " (" ++ fmtA b.toNat ++ [41] =
      doubleTok (f64.sign b.toNat) d ds fr (hexTxt (f64.sign b.toNat) lead hfr eneg eds) := by
    rw [hnum, hhex, lit_sp_paren]; simp [doubleTok]
  simp only [printArgVal, deref, bind, Except.bind, hprec, ↓reduceIte, hl, pure, Except.pure, htxt]

/-- 'f' in lossless mode: `<%#.Nf text> (<%a text>)`, e.g. `1.50 (0x1.8p+0)` -/
theorem C11.printsVal_float (opt : POpt) (hl : opt.lossless = true) (hp : opt.prec ≤ 9) (b : UInt32)
    (hfin : f32.expField b.toNat ≠ 255) : C11.PrintsVal opt (Cell.flt b) := by
  intro fuel more prev st
  obtain ⟨hPfin, _⟩ := promote_fin b.toNat hfin
  obtain ⟨d, ds, fr, hF, hnum⟩ := fmtF_fnum opt.prec (promote b.toNat) hPfin
  obtain ⟨lead, hfr, eneg, eds, hhex, hH, hstrip, _⟩ := fmtA_fin (promote b.toNat) hPfin
  generalize hsg : f64.sign (promote b.toNat) = sg at hnum hhex
  have hscan : ∀ rest, scanFloat f32 (hexTxt sg lead hfr eneg eds ++ 41 :: rest) =
      some (b.toNat, 41 :: rest) := by
    intro rest
    rw [← hhex]
    exact Libc.float_lossless_roundtrip b hfin rest
  have hok := (C11.valOK_floatTok sg d ds fr sg lead hfr eneg eds hF hH b hscan)
  have hprec : ¬ (opt.prec > 9) := by omega
  have hrtz := removeTrailingZeroes_hexTxt sg lead hfr eneg eds hH hstrip [41]
  refine ⟨floatTok sg d ds fr (hexTxt sg lead hfr eneg eds),
    st.cols + ((floatTok sg d ds fr (hexTxt sg lead hfr eneg eds)).length : Nat), ?_, hok⟩
  have hlen : (floatTok sg d ds fr (hexTxt sg lead hfr eneg eds)).length =
      (fnum sg d ds fr).length + (2 + (hexTxt sg lead hfr eneg eds ++ [41]).length) - 0 := by
    simp [floatTok]; omega
  have hout : ∀ o : Bytes, o ++ fnum sg d ds fr ++ lit " (" ++ (hexTxt sg lead hfr eneg eds ++ [41]) =
      o ++ floatTok sg d ds fr (hexTxt sg lead hfr eneg eds) := by
    intro o; rw [lit_sp_paren]; simp [floatTok]
  simp only [printArgVal, deref, bind, Except.bind, hprec, ↓reduceIte, hl, pure, Except.pure, hnum, hhex, hrtz,
    hout, ← hlen]

end Rtosc.Pretty
