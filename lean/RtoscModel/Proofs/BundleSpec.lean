/-
  C02 / C08: layout of an encoded bundle, the bundle test, the size walk over its elements
  (`bundle_ring_length`, checked and bounded form).
-/
import RtoscModel.Proofs.BundleLength
namespace Rtosc.Osc
open Rtosc

theorem bundleMagic_length : bundleMagic.length = 8 := rfl

theorem encodeElem_bundle_length (tt : UInt64) (es : List Elem) :
    (Spec.encodeElem (.bundle tt es)).length = 16 + (Spec.encodeElems es).length := by
  simp only [Spec.encodeElem, List.length_append, be64_length, bundleMagic_length]

theorem encodeElems_cons_length (e : Elem) (es : List Elem) :
    (Spec.encodeElems (e :: es)).length = 4 + (Spec.encodeElem e).length + (Spec.encodeElems es).length := by
  simp only [Spec.encodeElems, List.length_append, be32_length]

theorem encodeElem_length_ge (e : Elem) : 8 ≤ (Spec.encodeElem e).length := by
  cases e with
  | msg m => simp only [Spec.encodeElem]; rw [encode_length]; omega
  | bundle tt es => rw [encodeElem_bundle_length]; omega

mutual
theorem encodeElem_mod4 : ∀ e : Elem, (Spec.encodeElem e).length % 4 = 0
  | .msg m => by simp only [Spec.encodeElem]; exact encode_length_mod m
  | .bundle tt es => by
    have := encodeElems_mod4 es
    rw [encodeElem_bundle_length]; omega
theorem encodeElems_mod4 : ∀ es : List Elem, (Spec.encodeElems es).length % 4 = 0
  | [] => by simp [Spec.encodeElems]
  | e :: es => by
    have h1 := encodeElem_mod4 e
    have h2 := encodeElems_mod4 es
    rw [encodeElems_cons_length]; omega
end

theorem encodeElems_append (es : List Elem) (e : Elem) :
    Spec.encodeElems (es ++ [e]) =
      Spec.encodeElems es ++ (be32 (UInt32.ofNat (Spec.encodeElem e).length) ++ Spec.encodeElem e) := by
  induction es with
  | nil => simp [Spec.encodeElems]
  | cons a es ih => simp [Spec.encodeElems, ih]

theorem drop16_bundle (tt : UInt64) (es : List Elem) (rest : Bytes) :
    (Spec.encodeElem (.bundle tt es) ++ rest).drop 16 = Spec.encodeElems es ++ rest := by
  have : Spec.encodeElem (.bundle tt es) ++ rest = (bundleMagic ++ be64 tt) ++ (Spec.encodeElems es ++ rest) := by
    simp [Spec.encodeElem]
  rw [this]
  exact List.drop_left' (by simp [bundleMagic_length, be64_length])

theorem drop8_bundle (tt : UInt64) (es : List Elem) (rest : Bytes) :
    (Spec.encodeElem (.bundle tt es) ++ rest).drop 8 = be64 tt ++ (Spec.encodeElems es ++ rest) := by
  have : Spec.encodeElem (.bundle tt es) ++ rest = bundleMagic ++ (be64 tt ++ (Spec.encodeElems es ++ rest)) := by
    simp [Spec.encodeElem]
  rw [this]
  exact List.drop_left' bundleMagic_length

/-! ### `strcmp(msg,"#bundle")` and the `&&` chain -/

/-- `magicU` as a recursion over the memory from `p` on -/
def magicL : Bytes → Bytes → Option Bool
  | _, [] => some true
  | [], _ :: _ => none
  | c :: cs, e :: es => if c = e then magicL cs es else some false

theorem magicU_eq (m : Bytes) : ∀ (es : Bytes) (p : Nat), magicU m es p = magicL (m.drop p) es := by
  intro es
  induction es with
  | nil => intro p; cases m.drop p <;> simp [magicU, magicL]
  | cons e es ih =>
    intro p
    cases h : m.drop p with
    | nil =>
      have : m[p]? = none := by
        apply List.getElem?_eq_none
        have := congrArg List.length h
        simp at this; omega
      simp [magicU, magicL, this]
    | cons c cs =>
      have h1 : m.drop (p + 1) = cs := drop_succ_of_drop_cons h
      simp only [magicU, getElem?_of_drop h, magicL, ih (p + 1), h1]

theorem magicL_magic (y : Bytes) : magicL (bundleMagic ++ y) bundleMagic = some true := by
  simp [magicL, bundleMagic]

/-- comparing two C strings: equal iff the contents are equal -/
theorem magicL_cstr : ∀ (s t x : Bytes), NoNul s → NoNul t →
    magicL (s ++ 0 :: x) (t ++ [0]) = some (decide (s = t))
  | [], [], x, _, _ => by simp [magicL]
  | [], e :: t, x, _, ht => by
    have : (0 : UInt8) ≠ e := fun h => ht.head h.symm
    simp [magicL, this]
  | c :: s, [], x, hs, _ => by
    have : c ≠ 0 := hs.head
    simp [magicL, this]
  | c :: s, e :: t, x, hs, ht => by
    simp only [List.cons_append, magicL]
    by_cases h : c = e
    · subst h
      rw [if_pos rfl, magicL_cstr s t x hs.tail ht.tail]
      simp
    · rw [if_neg h]; simp [h]

def frames : List Bytes → Bytes
  | [] => []
  | c :: cs => be32 (UInt32.ofNat c.length) ++ c ++ frames cs

theorem frames_cons_length (c : Bytes) (cs : List Bytes) :
    (frames (c :: cs)).length = 4 + c.length + (frames cs).length := by
  simp only [frames, List.length_append, be32_length]

theorem encodeElems_frames (es : List Elem) : Spec.encodeElems es = frames (es.map Spec.encodeElem) := by
  induction es with
  | nil => rfl
  | cons e es ih => simp [Spec.encodeElems, frames, ih]

theorem drop_head_frame {m : Bytes} {p : Nat} {c : Bytes} {cs : List Bytes} {x : Bytes}
    (hd : m.drop p = frames (c :: cs) ++ x) : m.drop (p + (4 + c.length)) = frames cs ++ x := by
  rw [frames, List.append_assoc] at hd
  have := drop_add_of_drop hd
  rwa [List.length_append, be32_length] at this

/-- `bundle_ring_length` with an unbounded `len`: hops over the chunks and stops at the zero
    word, which it has to *read*. -/
theorem bundleLoopU_frames {m : Bytes} : ∀ (cs : List Bytes) (p fuel : Nat) (x : Bytes),
    m.drop p = frames cs ++ 0 :: 0 :: 0 :: 0 :: x → (∀ c ∈ cs, c ≠ []) →
    p + (frames cs).length + 3 < 4294967296 → cs.length < fuel →
    bundleLoopU m fuel p = .ok (p + (frames cs).length) := by
  intro cs
  induction cs with
  | nil =>
    intro p fuel x hd _ hlt hf
    obtain ⟨f, rfl⟩ : ∃ f, fuel = f + 1 := ⟨fuel - 1, by simp at hf; omega⟩
    have : rd32U m p = some 0 := by
      apply rd32U_of_drop (v := 0) (x := x) _ (by simp [frames] at hlt; omega)
      simpa [frames, be32, beN] using hd
    simp [bundleLoopU, this, frames]
  | cons c cs ih =>
    intro p fuel x hd hne hlt hf
    obtain ⟨f, rfl⟩ : ∃ f, fuel = f + 1 := ⟨fuel - 1, by simp at hf; omega⟩
    rw [frames_cons_length] at hlt
    have hc : c.length ≠ 0 := by
      have := hne c List.mem_cons_self
      simpa using this
    have hv : (UInt32.ofNat c.length).toNat = c.length := ofNat_toNat_of_lt (by omega)
    have hrd : rd32U m p = some (UInt32.ofNat c.length) :=
      rd32U_of_drop (x := c ++ (frames cs ++ 0 :: 0 :: 0 :: 0 :: x))
        (by rw [hd, frames, List.append_assoc, List.append_assoc]) (by omega)
    have hd' := drop_head_frame hd
    have hnw : ¬ (p + 4 + c.length > 4294967295) := by omega
    simp only [bundleLoopU, hrd, hv, ne_eq, hc, not_false_eq_true, if_true, hnw, and_false, if_false]
    rw [u32_id (n := 4 + c.length) (by omega), u32_id (by omega),
      ih (p + (4 + c.length)) f x hd' (fun c hc => hne c (List.mem_cons_of_mem _ hc)) (by omega)
        (by simp at hf; omega)]
    rw [frames_cons_length]; congr 1; omega

/-- four `deref`s at and behind the end of the data are 0: the block ends or holds zeros -/
theorem ring_rd32_zeros {r : Ring} {msg : Bytes} (h : r.d0 ++ r.d1 = msg) {p k : Nat}
    (hd : msg.drop p = zeros k) (hlt : p + 3 < 4294967296) : r.rd32 p = 0 := by
  have hz : ∀ j, r.deref (p + j) = 0 := by
    intro j
    rw [deref_eq, h, getElem?_of_drop' hd]
    simp only [zeros]
    by_cases hj : j < k
    · simp [hj]
    · simp [List.getElem?_eq_none (l := List.replicate k (0 : UInt8)) (i := j) (by simp; omega)]
  simp only [Ring.rd32]
  rw [u32_id (n := p + 1) (by omega), u32_id (n := p + 2) (by omega), u32_id (n := p + 3) (by omega),
    hz 1, hz 2, hz 3]
  have := hz 0
  simp only [Nat.add_zero] at this
  rw [this]; rfl

/-- `bundle_ring_length` with the real `len`: behind the chunks `deref` yields 0 (zero bytes of
    the buffer, or the end of the ring) -/
theorem bundleLoop_frames {r : Ring} {msg : Bytes} (h : r.d0 ++ r.d1 = msg) :
    ∀ (cs : List Bytes) (p fuel k : Nat),
    msg.drop p = frames cs ++ zeros k → (∀ c ∈ cs, c ≠ []) →
    p + (frames cs).length + 3 < 4294967296 → cs.length < fuel →
    p + (frames cs).length ≤ r.total →
    bundleLoop r fuel p = some (p + (frames cs).length) := by
  intro cs
  induction cs with
  | nil =>
    intro p fuel k hd _ hlt hf htot
    obtain ⟨f, rfl⟩ : ∃ f, fuel = f + 1 := ⟨fuel - 1, by simp at hf; omega⟩
    have : r.rd32 p = 0 := ring_rd32_zeros h (k := k) (by simpa [frames] using hd) (by simp [frames] at hlt; omega)
    simp only [frames, List.length_nil, Nat.add_zero] at htot ⊢
    have hin : ¬ p > r.total := by omega
    simp [bundleLoop, this, hin, htot]
  | cons c cs ih =>
    intro p fuel k hd hne hlt hf htot
    obtain ⟨f, rfl⟩ : ∃ f, fuel = f + 1 := ⟨fuel - 1, by simp at hf; omega⟩
    rw [frames_cons_length] at hlt htot
    have hc : c.length ≠ 0 := by
      have := hne c List.mem_cons_self
      simpa using this
    have hv : (UInt32.ofNat c.length).toNat = c.length := ofNat_toNat_of_lt (by omega)
    have hrd : r.rd32 p = UInt32.ofNat c.length :=
      ring_rd32_of_drop h (x := c ++ (frames cs ++ zeros k))
        (by rw [hd, frames, List.append_assoc, List.append_assoc]) (by omega)
    have hd' := drop_head_frame hd
    have hin : ¬ p > r.total := by omega
    have hfit : ¬ c.length > r.total - p := by omega
    have hnw : ¬ (p + 4 + c.length > 4294967295) := by omega
    simp only [bundleLoop, hin, hrd, hv, hfit, ne_eq, hc, not_false_eq_true, if_true, if_false, hnw,
      and_false, or_self]
    rw [u32_id (n := 4 + c.length) (by omega), u32_id (by omega),
      ih (p + (4 + c.length)) f k hd' (fun c hc => hne c (List.mem_cons_of_mem _ hc)) (by omega)
        (by simp at hf; omega) (by omega)]
    rw [frames_cons_length]; congr 1; omega

theorem chunks_nonempty (es : List Elem) : ∀ c ∈ es.map Spec.encodeElem, c ≠ [] := by
  intro c hc
  obtain ⟨e, _, rfl⟩ := List.mem_map.mp hc
  have := encodeElem_length_ge e
  intro h; rw [h] at this; simp at this

theorem length_le_frames (cs : List Bytes) : cs.length ≤ (frames cs).length := by
  induction cs with
  | nil => simp [frames]
  | cons c cs ih => rw [frames_cons_length]; simp only [List.length_cons]; omega

theorem magicU_bundle (tt : UInt64) (es : List Elem) (rest : Bytes) :
    magicU (Spec.encodeElem (.bundle tt es) ++ rest) bundleMagic 0 = some true := by
  rw [magicU_eq, List.drop_zero, Spec.encodeElem, List.append_assoc, List.append_assoc]
  exact magicL_magic _

/-- `rtosc_message_length(bundle, -1)`: correct when a zero word follows the bundle -/
theorem messageLengthU_bundle (tt : UInt64) (es : List Elem) (x : Bytes)
    (hsz : (Spec.encodeElem (.bundle tt es)).length < 4294967296) :
    messageLengthU (Spec.encodeElem (.bundle tt es) ++ 0 :: 0 :: 0 :: 0 :: x) =
      .ok (Spec.encodeElem (.bundle tt es)).length := by
  have hl := encodeElem_bundle_length tt es
  have hm4 := encodeElem_mod4 (.bundle tt es)
  unfold messageLengthU
  rw [magicU_bundle]
  simp only
  have hd := drop16_bundle tt es (0 :: 0 :: 0 :: 0 :: x)
  rw [encodeElems_frames] at hd hl
  have hfl := length_le_frames (es.map Spec.encodeElem)
  rw [bundleLoopU_frames (es.map Spec.encodeElem) 16 _ x hd (chunks_nonempty es) (by omega)
    (by simp only [fuelU, List.length_append, List.length_cons, List.length_map] at hfl ⊢; omega)]
  rw [hl]

end Rtosc.Osc
