/-
  C20 — facts that hold in EVERY reachable state, hazards or not (`Inv0`): callbacks carry
  their port's type and range, the realtime half's values are 14-bit; and the arithmetic of
  the 7-bit blits: a vector of 14-bit cells is the function `(slot, c) ↦ halfAt slot c vals` of its
  7-bit halves, a blit writes one point of it (`halfAt_set_blit`), and the two loops of
  `cloneValues` are specified once each as what they do to that function (`cloneInner_spec`,
  `cloneOuter_spec`: 14-bit values, length, the halves left alone, the half written).
-/
import RtoscModel.Proofs.MidiLemmas
namespace Rtosc.Midi

/-- a callback carries the type and range of the port at its address -/
def CbOk (P : List PortSpec) (cb : Cb) : Prop := ∃ p, P[cb.addr]? = some p ∧ cb = portCb cb.addr p

def StCb (P : List PortSpec) (st : Storage) : Prop := ∀ cb ∈ st.callbacks, CbOk P cb

def Small (vals : List Nat) : Prop := ∀ v ∈ vals, v < 16384

theorem small_set {vals : List Nat} (h : Small vals) (i x : Nat) (hx : x < 16384) : Small (vals.set i x) := by
  intro v hv
  rcases List.mem_or_eq_of_mem_set hv with h1 | h1
  · exact h v h1
  · rw [h1]; exact hx

theorem small_replicate (n : Nat) : Small (List.replicate n 0) := by
  intro v hv; rw [(List.mem_replicate.mp hv).2]; decide

theorem blit_coarse (v old : Nat) : blit true v old = v * 128 + old % 128 := by
  have h1 : old &&& 0x7f = old % 128 := Nat.and_two_pow_sub_one_eq_mod old 7
  have h2 : old % 128 < 2 ^ 7 := Nat.mod_lt _ (by decide)
  simp only [blit, ↓reduceIte, h1]
  rw [← Nat.shiftLeft_add_eq_or_of_lt h2, Nat.shiftLeft_eq]

theorem and_shiftLeft_mask (x m n : Nat) : x &&& (m <<< n) = ((x >>> n) &&& m) <<< n := by
  apply Nat.eq_of_testBit_eq
  intro i
  simp only [Nat.testBit_and, Nat.testBit_shiftLeft, Nat.testBit_shiftRight]
  by_cases h : n ≤ i
  · have : n + (i - n) = i := by omega
    simp [h, this]
  · simp [h]

theorem shiftRight7_and_7f_eq_div (x : Nat) (hx : x < 16384) : (x >>> 7) &&& 0x7f = x / 128 := by
  have h1 : x >>> 7 &&& 0x7f = (x >>> 7) % 128 := Nat.and_two_pow_sub_one_eq_mod _ 7
  rw [h1, Nat.shiftRight_eq_div_pow]
  have : x / 2 ^ 7 < 128 := by omega
  rw [Nat.mod_eq_of_lt this]

theorem and_3f80 (old : Nat) (ho : old < 16384) : old &&& 0x3f80 = old / 128 * 128 := by
  have h : (0x3f80 : Nat) = 0x7f <<< 7 := by decide
  rw [h, and_shiftLeft_mask, shiftRight7_and_7f_eq_div old ho, Nat.shiftLeft_eq]

theorem blit_fine (v old : Nat) (hv : v < 128) (ho : old < 16384) :
    blit false v old = old / 128 * 128 + v := by
  simp only [blit, Bool.false_eq_true, ↓reduceIte, and_3f80 old ho]
  have : old / 128 * 128 = (old / 128) <<< 7 := by rw [Nat.shiftLeft_eq]
  rw [this, Nat.or_comm, ← Nat.shiftLeft_add_eq_or_of_lt (by simpa using hv)]

theorem blit_lt (k : Bool) (v old : Nat) (hv : v < 128) (ho : old < 16384) : blit k v old < 16384 := by
  cases k
  · rw [blit_fine v old hv ho]; omega
  · rw [blit_coarse]; omega

theorem half_true (v : Nat) : half true v = v / 128 := by simp [half, Nat.shiftRight_eq_div_pow]
theorem half_false (v : Nat) : half false v = v % 128 := by
  simp only [half, Bool.false_eq_true, if_false]; exact Nat.and_two_pow_sub_one_eq_mod v 7

theorem half_lt (c : Bool) (v : Nat) (h : v < 16384) : half c v < 128 := by
  cases c
  · rw [half_false]; exact Nat.mod_lt _ (by decide)
  · rw [half_true]; omega

theorem half_blit_same (c : Bool) (v dv : Nat) (hv : v < 128) (hd : dv < 16384) : half c (blit c v dv) = v := by
  cases c
  · rw [blit_fine v dv hv hd, half_false]; exact (digits_of_lt _ hv).2
  · rw [blit_coarse, half_true]; exact (digits_of_lt v (Nat.mod_lt dv (by decide))).1

theorem half_blit_other (c : Bool) (v dv : Nat) (hv : v < 128) (hd : dv < 16384) :
    half (!c) (blit c v dv) = half (!c) dv := by
  cases c
  · rw [Bool.not_false, blit_fine v dv hv hd, half_true, half_true]; exact (digits_of_lt _ hv).1
  · rw [Bool.not_true, blit_coarse, half_false, half_false, (digits_of_lt v (Nat.mod_lt dv (by decide))).2]

/-- the LAST entry of `l` that carries `d`'s controller (the one whose blit survives) -/
def lastMatch (d : MapEnt) : List MapEnt → Option MapEnt
  | [] => none
  | s :: rest =>
    match lastMatch d rest with
    | some x => some x
    | none => if d.id = s.id then some s else none

theorem half_zero (c : Bool) : half c 0 = 0 := by cases c <;> simp [half]

theorem halfAt_replicate {slot n : Nat} (c : Bool) (h : slot < n) :
    halfAt slot c (List.replicate n 0) = some 0 := by
  simp [halfAt, h, half_zero]

theorem halfAt_set_blit {vals : List Nat} {i dv : Nat} (c : Bool) {v : Nat} (hv : v < 128) (hdv : vals[i]? = some dv)
    (hd : dv < 16384) (slot : Nat) (c' : Bool) :
    halfAt slot c' (vals.set i (blit c v dv)) = if slot = i ∧ c' = c then some v else halfAt slot c' vals := by
  have hi : i < vals.length := (List.getElem?_eq_some_iff.mp hdv).1
  by_cases hs : slot = i
  · subst hs
    by_cases hc : c' = c
    · subst hc; simp [halfAt, List.getElem?_set_self hi, half_blit_same _ _ _ hv hd]
    · obtain rfl : c' = !c := Bool.eq_not_of_ne hc
      simp [halfAt, List.getElem?_set_self hi, half_blit_other _ _ _ hv hd, hdv]
  · simp [halfAt, List.getElem?_set_ne (Ne.symm hs), hs]

/-- the inner loop of `cloneValues` for the destination entry `d`, as a function of the halves: `d`'s
    half becomes the half of the LAST source entry of `l` with `d`'s controller, nothing else changes -/
theorem cloneInner_spec (d : MapEnt) (src : Storage) (hs : Small src.values) :
    ∀ (l : List MapEnt) (vals vals' : List Nat), Small vals → cloneInner d src l vals = some vals' →
      Small vals' ∧ vals'.length = vals.length ∧ ∀ slot c, halfAt slot c vals' =
        if slot = d.slot ∧ c = d.coarse then
          (match lastMatch d l with
           | none => halfAt slot c vals
           | some s => (src.values[s.slot]?).map (half s.coarse))
        else halfAt slot c vals := by
  intro l
  induction l with
  | nil =>
    intro vals vals' hv h
    cases h
    exact ⟨hv, rfl, fun slot c => by simp [lastMatch]⟩
  | cons s rest ih =>
    intro vals vals' hv h
    unfold cloneInner at h
    by_cases hid : d.id = s.id
    · rw [if_pos hid] at h
      split at h
      · rename_i sv dv hsv hdv
        have hp : half s.coarse sv < 128 := half_lt _ _ (hs sv (List.mem_of_getElem? hsv))
        have hdv' : dv < 16384 := hv dv (List.mem_of_getElem? hdv)
        obtain ⟨h1, h2, h3⟩ := ih _ vals' (small_set hv d.slot _ (blit_lt d.coarse _ _ hp hdv')) h
        refine ⟨h1, by simpa using h2, fun slot c => ?_⟩
        rw [h3 slot c, halfAt_set_blit d.coarse hp hdv hdv' slot c, lastMatch]
        by_cases ho : slot = d.slot ∧ c = d.coarse
        · cases lastMatch d rest <;> simp [ho, hid, hsv]
        · simp [ho]
      · cases h
    · rw [if_neg hid] at h
      obtain ⟨h1, h2, h3⟩ := ih vals vals' hv h
      refine ⟨h1, h2, fun slot c => ?_⟩
      rw [h3 slot c, lastMatch]
      cases lastMatch d rest <;> simp [hid]

/-- the whole of `cloneValues`' double loop: a half no entry of `L` owns is left alone; the half of an
    entry `d` (no other entry of `L` owning it) becomes the half of the last source entry with `d`'s controller -/
theorem cloneOuter_spec (src : Storage) (hs : Small src.values) :
    ∀ (L : List MapEnt) (vals vals' : List Nat), Small vals → cloneOuter src L vals = some vals' →
      Small vals' ∧ vals'.length = vals.length ∧
      (∀ slot c, (∀ e ∈ L, ¬(e.slot = slot ∧ e.coarse = c)) → halfAt slot c vals' = halfAt slot c vals) ∧
      (PairInj L → ∀ d ∈ L, halfAt d.slot d.coarse vals' =
        match lastMatch d src.mapping with
        | none => halfAt d.slot d.coarse vals
        | some s => (src.values[s.slot]?).map (half s.coarse)) := by
  intro L
  induction L with
  | nil =>
    intro vals vals' hv h
    cases h
    exact ⟨hv, rfl, fun _ _ _ => rfl, fun _ d hd => nomatch hd⟩
  | cons d0 rest ih =>
    intro vals vals' hv h
    unfold cloneOuter at h
    split at h
    · cases h
    · rename_i v1 h1
      obtain ⟨s1, l1, e1⟩ := cloneInner_spec d0 src hs _ vals v1 hv h1
      obtain ⟨s2, l2, free, own⟩ := ih v1 vals' s1 h
      refine ⟨s2, l2.trans l1, fun slot c hne => ?_, fun hinj d hd => ?_⟩
      · rw [free slot c fun e he => hne e (List.mem_cons_of_mem _ he), e1 slot c,
          if_neg fun ho => hne d0 List.mem_cons_self ⟨ho.1.symm, ho.2.symm⟩]
      · have hinj' : PairInj rest := fun a ha b hb => hinj a (List.mem_cons_of_mem _ ha) b (List.mem_cons_of_mem _ hb)
        by_cases hin : d ∈ rest
        · rw [own hinj' d hin]
          cases hlm : lastMatch d src.mapping with
          | some s => rfl
          | none =>
            -- the inner loop of `d0` leaves `d`'s half alone: another half, or `d0 = d` and nothing matches
            dsimp only
            rw [e1 d.slot d.coarse]
            by_cases ho : d.slot = d0.slot ∧ d.coarse = d0.coarse
            · cases hinj d0 List.mem_cons_self d hd ho.1.symm ho.2.symm
              rw [if_pos ⟨rfl, rfl⟩, hlm]
            · rw [if_neg ho]
        · obtain rfl : d = d0 := (List.mem_cons.mp hd).resolve_right hin
          rw [free d.slot d.coarse fun e he hc =>
            hin (hinj e (List.mem_cons_of_mem _ he) d List.mem_cons_self hc.1 hc.2 ▸ he), e1 d.slot d.coarse,
            if_pos ⟨rfl, rfl⟩]

theorem cloneValues_small {n old n' : Storage} (ho : Small old.values) (h : n.cloneValues old = some n') :
    Small n'.values := by
  obtain ⟨v, hv, rfl⟩ := Storage.cloneValues_some h
  exact (cloneOuter_spec old ho _ _ _ (small_replicate _) hv).1

/-- Holds in every reachable state, whatever the delivery order and whether or not a
    hazard occurred. -/
structure Inv0 (P : List PortSpec) (s : Sys) : Prop where
  nrt : ∀ cb ∈ s.nrt.callbacks, CbOk P cb
  fl : ∀ st ans, RtMsg.bind st ans ∈ s.toRT → StCb P st ∧ Small st.values
  rt : ∀ st, s.rt.storage = some st → StCb P st ∧ Small st.values

theorem inv0_init (P) : Inv0 P Sys.init := by
  constructor <;> simp [Sys.init, NRT.init, RT.init, NRT.callbacks]

theorem inv0_step {P s op s' out} (h : Inv0 P s) (hwf : op.wf P) (hs : step P s op = some (s', out)) :
    Inv0 P s' := by
  cases step_iff.mp hs with
  | @nrt _ n' ms q' hn =>
    have e := hn.sends
    have hcb : ∀ cb ∈ n'.callbacks, CbOk P cb := by
      rcases e.cbs with hc | hc | ⟨a, p, hp, hc⟩ <;> rw [hc]
      · exact h.nrt
      · simp
      · intro cb hcb
        rcases List.mem_append.mp hcb with hcb | hcb
        · exact h.nrt cb hcb
        · cases List.mem_singleton.mp hcb; exact ⟨p, hp, rfl⟩
    refine ⟨hcb, fun st ans hin => ?_, h.rt⟩
    rcases List.mem_append.mp hin with hin | hin
    · exact h.fl st ans hin
    · obtain ⟨hst, len, hv⟩ := e.bind_mem hin
      exact ⟨by simpa only [StCb, NRT.callbacks_eq hst] using hcb, hv ▸ small_replicate len⟩
  | ccHit hst _ hold _ =>
    obtain ⟨hcb, hsm⟩ := h.rt _ hst
    refine ⟨h.nrt, h.fl, fun st' hst' => ?_⟩
    cases hst'
    exact ⟨hcb, small_set hsm _ _ (blit_lt _ _ _ (Nat.lt_succ_of_le hwf) (hsm _ (List.mem_of_getElem? hold)))⟩
  | ccAsk => exact ⟨h.nrt, h.fl, h.rt⟩
  | ccDrop => exact h
  | idle => exact h
  | watch hq => exact ⟨h.nrt, fun st ans hin => h.fl st ans (hq ▸ List.mem_cons_of_mem _ hin), h.rt⟩
  | bind hq hc =>
    obtain ⟨hcb, hsm⟩ := h.fl _ _ (hq ▸ List.mem_cons_self)
    refine ⟨h.nrt, fun st ans hin => h.fl st ans (hq ▸ List.mem_cons_of_mem _ hin), fun st' hst' => ?_⟩
    cases hst'
    refine ⟨fun cb hcb' => hcb cb (hc.view.2 ▸ hcb'), ?_⟩
    rcases hc with ⟨-, rfl⟩ | ⟨old, hst, hc⟩
    · exact hsm
    · exact cloneValues_small (h.rt old hst).2 hc

theorem inv0_of_reach {P s} (r : Reach P s) : Inv0 P s := by
  induction r with
  | init => exact inv0_init P
  | step _ hwf hs ih => exact inv0_step ih hwf hs

theorem reach_of_trace {P h s} (t : Trace P h s) : Reach P s := by
  induction t with
  | init => exact Reach.init
  | step _ hwf hs ih => exact Reach.step ih hwf hs

end Rtosc.Midi
