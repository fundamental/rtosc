/-
  C07: the model of `rtosc_message_length` / `rtosc_valid_message_p`
  (`Osc/Valid.lean`: fuel, `unsigned` wrap-around, every read explicit) run on a block of exactly
  `len` bytes, `len < 2^31`.  On a buffer that does not start with `#bundle\0` it equals closed forms
  without fuel, wrap-around or failing reads (`ringLength_msg`: `msgLenZ`; `validMessageP_eq`:
  `validZ`; built from `scanZ`, `nullWordZ`, `walk`, in which a byte behind the end of the block
  reads as 0).  On a bundle there is no closed form, only that the walk returns 0 or a length
  inside the block (`bundleRingLength_ok`); `messageLength_ok` says so of every buffer.
-/
import RtoscModel.Osc.Valid
import RtoscModel.Proofs.OscLength
namespace Rtosc.Osc.V
open Rtosc Rtosc.Osc

@[simp] theorem Res.ok_bind {α β : Type} (a : α) (f : α → Res β) : (Res.ok a).bind f = f a := rfl

/-- the byte at `i`, 0 behind the end: what `deref` yields on an exact-size block -/
def dz (bs : Bytes) (i : Nat) : UInt8 := bs[i]?.getD 0

theorem dz_of_lt {bs : Bytes} {i : Nat} (h : i < bs.length) : dz bs i = bs[i] := by
  simp [dz, List.getElem?_eq_getElem h]

theorem dz_of_ge {bs : Bytes} {i : Nat} (h : bs.length ≤ i) : dz bs i = 0 := by
  simp [dz, List.getElem?_eq_none h]

theorem lt_of_dz_ne {bs : Bytes} {i : Nat} (h : dz bs i ≠ 0) : i < bs.length := by
  apply Classical.byContradiction; intro hn
  exact h (dz_of_ge (Nat.le_of_not_lt hn))

theorem deref_eq (mem : Bytes) (pos : Nat) : deref mem mem.length pos = .ok (dz mem pos) := by
  unfold deref rd
  split
  · rename_i h; simp [dz, List.getElem?_eq_getElem h]
  · rename_i h; rw [dz_of_ge (Nat.le_of_not_lt h)]

/-- first position `≥ pos` whose byte is 0 (the end of the block counts as 0) -/
def scanZ (bs : Bytes) (pos : Nat) : Nat := pos + ((bs.drop pos).takeWhile (· ≠ 0)).length

theorem tw_nz_cons {c : UInt8} (l : Bytes) (h : c ≠ 0) :
    (c :: l).takeWhile (· ≠ 0) = c :: l.takeWhile (· ≠ 0) := by
  simp [h]

theorem tw_nz_zero (l : Bytes) : ((0 : UInt8) :: l).takeWhile (· ≠ 0) = [] := by
  simp

theorem tw_nz_stop {bs : Bytes} {pos : Nat} (h : dz bs pos = 0) : (bs.drop pos).takeWhile (· ≠ 0) = [] := by
  by_cases hl : pos < bs.length
  · rw [List.drop_eq_getElem_cons hl]; rw [dz_of_lt hl] at h; rw [h, tw_nz_zero]
  · rw [List.drop_eq_nil_of_le (Nat.le_of_not_lt hl)]; rfl

theorem scanZ_stop {bs : Bytes} {pos : Nat} (h : dz bs pos = 0) : scanZ bs pos = pos := by
  unfold scanZ
  rw [tw_nz_stop h]; rfl

theorem scanZ_step {bs : Bytes} {pos : Nat} (h : dz bs pos ≠ 0) : scanZ bs pos = scanZ bs (pos + 1) := by
  have hl := lt_of_dz_ne h
  unfold scanZ
  rw [List.drop_eq_getElem_cons hl]; rw [dz_of_lt hl] at h
  rw [tw_nz_cons _ h, List.length_cons]; omega

theorem scanZ_ge (bs : Bytes) (pos : Nat) : pos ≤ scanZ bs pos := by unfold scanZ; omega

theorem scanZ_le (bs : Bytes) (pos : Nat) (h : pos ≤ bs.length) : scanZ bs pos ≤ bs.length := by
  unfold scanZ
  have := (List.takeWhile_sublist (l := bs.drop pos) (fun b : UInt8 => decide (b ≠ 0))).length_le
  simp only [List.length_drop] at this
  omega

theorem scanZ_of_ge (bs : Bytes) (pos : Nat) (h : bs.length ≤ pos) : scanZ bs pos = pos :=
  scanZ_stop (dz_of_ge h)

theorem scan_eq (mem : Bytes) (h31 : mem.length < 2147483648) : ∀ (f pos : Nat),
    1 ≤ f → mem.length + 1 ≤ f + pos →
    scan mem mem.length f pos = .ok (scanZ mem pos) := by
  intro f
  induction f with
  | zero => intro pos h; omega
  | succ f ih =>
    intro pos _ hf
    simp only [scan, deref_eq, Res.ok_bind]
    by_cases hc : dz mem pos = 0
    · simp [hc, scanZ_stop hc]
    · have hl := lt_of_dz_ne hc
      simp only [hc, if_false]
      rw [u32_id (by omega), scanZ_step hc]
      exact ih (pos + 1) (by omega) (by omega)

theorem dz_scanZ_fuel (bs : Bytes) : ∀ (k pos : Nat), bs.length ≤ pos + k → dz bs (scanZ bs pos) = 0 := by
  intro k
  induction k with
  | zero => intro pos h; rw [scanZ_of_ge bs pos (by omega)]; exact dz_of_ge (by omega)
  | succ k ih =>
    intro pos h
    by_cases hc : dz bs pos = 0
    · rw [scanZ_stop hc]; exact hc
    · rw [scanZ_step hc]; exact ih (pos + 1) (by omega)

theorem dz_scanZ (bs : Bytes) (pos : Nat) : dz bs (scanZ bs pos) = 0 := dz_scanZ_fuel bs bs.length pos (by omega)

theorem dz_before_scanZ (bs : Bytes) : ∀ (k pos i : Nat), bs.length ≤ pos + k → pos ≤ i → i < scanZ bs pos →
    dz bs i ≠ 0 := by
  intro k
  induction k with
  | zero =>
    intro pos i h h1 h2; rw [scanZ_of_ge bs pos (by omega)] at h2; omega
  | succ k ih =>
    intro pos i h h1 h2
    by_cases hc : dz bs pos = 0
    · rw [scanZ_stop hc] at h2; omega
    · rw [scanZ_step hc] at h2
      by_cases hi : i = pos
      · rw [hi]; exact hc
      · exact ih (pos + 1) i (by omega) (by omega) h2

def nullWordZ (bs : Bytes) : Nat → Nat → Nat
  | 0, pos => pos
  | k + 1, pos => if dz bs (pos + 1) ≠ 0 then pos + 1 else nullWordZ bs k (pos + 1)

theorem nullWord_eq (mem : Bytes) : ∀ (k pos : Nat), pos + k < 4294967296 →
    nullWord mem mem.length k pos = .ok (nullWordZ mem k pos) := by
  intro k
  induction k with
  | zero => intro pos _; rfl
  | succ k ih =>
    intro pos h
    simp only [nullWord, nullWordZ, deref_eq, Res.ok_bind]
    rw [u32_id (by omega)]
    by_cases hc : dz mem (pos + 1) = 0
    · simp only [hc, ne_eq, not_true_eq_false, if_false]; exact ih (pos + 1) (by omega)
    · simp [hc]

theorem tagsFrom_eq (mem : Bytes) (h31 : mem.length < 2147483648) : ∀ (f p : Nat),
    1 ≤ f → mem.length + 1 ≤ f + p →
    tagsFrom mem mem.length f p = .ok ((mem.drop p).takeWhile (· ≠ 0)) := by
  intro f
  induction f with
  | zero => intro p h; omega
  | succ f ih =>
    intro p _ hf
    simp only [tagsFrom, deref_eq, Res.ok_bind]
    by_cases hc : dz mem p = 0
    · simp only [hc, if_true]
      rw [tw_nz_stop hc]
    · have hl := lt_of_dz_ne hc
      simp only [hc, if_false]
      rw [u32_id (by omega), ih (p + 1) (by omega) (by omega)]
      rw [List.drop_eq_getElem_cons hl, dz_of_lt hl]; rw [dz_of_lt hl] at hc
      rw [tw_nz_cons _ hc]; rfl

/-- four bytes at `pos`, big-endian, 0 behind the end -/
def rdz (bs : Bytes) (pos : Nat) : UInt32 :=
  get32 (dz bs pos) (dz bs (pos + 1)) (dz bs (pos + 2)) (dz bs (pos + 3))

theorem rd32_eq (mem : Bytes) (pos : Nat) (h : pos + 3 < 4294967296) :
    rd32 mem mem.length pos = .ok (rdz mem pos) := by
  simp only [rd32, deref_eq, Res.ok_bind, rdz]
  rw [u32_id (by omega), u32_id (by omega), u32_id (by omega)]

/-- the `switch` of the `while(toparse)` loop without wrap-around: where the argument of tag `t`
    that starts at `pos` ends (`pos` itself for a tag without payload); `none` = `return 0` -/
def argEnd (bs : Bytes) (al : Nat) (t : UInt8) (pos : Nat) : Option Nat :=
  match kind t with
  | none => some pos
  | some .w64 => some (pos + 8)
  | some .str => some (scanZ bs pos + (4 - (scanZ bs pos - al) % 4))
  | some .blob =>
    let q := pos + 4 + (rdz bs pos).toNat
    if q ≤ bs.length then some (q + pad4 (q - al)) else none
  | some .w32 | some .midi => some (pos + 4)

/-- the `while(toparse)` loop without fuel and wrap-around; `none` = `return 0` -/
def walk (bs : Bytes) (al : Nat) : Bytes → Nat → Option Nat
  | [], pos => some pos
  | t :: ts, pos =>
    if nreserved (t :: ts) = 0 then some pos
    else if pos > bs.length then none
    else (argEnd bs al t pos).bind (walk bs al ts)

/-! Alignment is relative to `al` (the comma), which need not be a multiple of 4 itself. -/

theorem add_sub_mod4 {al pos : Nat} (hal : al ≤ pos) (h4 : (pos - al) % 4 = 0) (n : Nat) :
    (pos + n - al) % 4 = n % 4 := by
  rw [show pos + n - al = pos - al + n by omega, add_mod4_left h4]

theorem align_sub {al z : Nat} (h : al ≤ z) : (z + (4 - (z - al) % 4) - al) % 4 = 0 := by
  rw [show z + (4 - (z - al) % 4) - al = z - al + (4 - (z - al) % 4) by omega]; exact pad_mod4 _

theorem pad4_sub {al z : Nat} (h : al ≤ z) : (z + pad4 (z - al) - al) % 4 = 0 := by
  rw [show z + pad4 (z - al) - al = z - al + pad4 (z - al) by omega]; exact pad4_mod _

theorem argEnd_bounds {bs : Bytes} {al : Nat} {t : UInt8} {pos q : Nat} (h : argEnd bs al t pos = some q) :
    pos ≤ q ∧ (al ≤ pos → (pos - al) % 4 = 0 → (q - al) % 4 = 0) := by
  have h1 := scanZ_ge bs pos
  unfold argEnd at h
  split at h
  · cases h; exact ⟨Nat.le_refl _, fun _ h4 => h4⟩
  · cases h; exact ⟨by omega, fun hal h4 => add_sub_mod4 hal h4 8⟩
  · cases h; exact ⟨by omega, fun hal _ => align_sub (by omega)⟩
  · dsimp only at h
    split at h
    · cases h; exact ⟨by omega, fun hal _ => pad4_sub (by omega)⟩
    · cases h
  · cases h; exact ⟨by omega, fun hal h4 => add_sub_mod4 hal h4 4⟩
  · cases h; exact ⟨by omega, fun hal h4 => add_sub_mod4 hal h4 4⟩

theorem argEnd_ge {bs : Bytes} {al : Nat} {t : UInt8} {pos q : Nat} (h : argEnd bs al t pos = some q) :
    pos ≤ q := (argEnd_bounds h).1

/-- one round of `lenLoop` inside the block is `argEnd`; `toparse` goes down with a payload -/
theorem lenLoop_step (mem : Bytes) (al : Nat) (h31 : mem.length < 2147483648) (tp : Nat) (t : UInt8)
    (ts : Bytes) (pos : Nat) (hal : al ≤ pos) (hpos : pos ≤ mem.length) :
    lenLoop mem mem.length al (tp + 1) (t :: ts) pos =
      match argEnd mem al t pos with
      | none => .ok none
      | some q => lenLoop mem mem.length al (if hasReserved t then tp else tp + 1) ts q := by
  have hgt : ¬ pos > mem.length := by omega
  rw [lenLoop, if_neg hgt, lenSwitch, argEnd, hasReserved_eq]
  cases hk : kind t with
  | none => rfl
  | some k =>
    cases k with
    | w64 => simp only [Option.isSome_some, if_true]; rw [u32_id (by omega)]
    | w32 => simp only [Option.isSome_some, if_true]; rw [u32_id (by omega)]
    | midi => simp only [Option.isSome_some, if_true]; rw [u32_id (by omega)]
    | str =>
      have h1 := scanZ_ge mem pos
      have h2 := scanZ_le mem pos hpos
      simp only [Option.isSome_some, if_true]
      rw [scan_eq mem h31 (fuel mem.length) pos (by simp [fuel]) (by simp [fuel]; omega),
        Res.ok_bind, usub_eq (by omega) (by omega), u32_id (by omega)]
    | blob =>
      simp only [Option.isSome_some, if_true]
      rw [rd32_eq mem pos (by omega), Res.ok_bind]
      generalize (rdz mem pos).toNat = i
      rw [u32_id (by omega : pos + 4 < 4294967296)]
      by_cases hfit : pos + 4 + i ≤ mem.length
      · rw [if_neg (by omega), if_pos hfit, u32_id (by omega : pos + 4 + i < 4294967296),
          usub_eq (by omega) (by omega), padTo_eq _ (by unfold pad4; omega)]
      · rw [if_pos (by omega), if_neg hfit]

theorem lenLoop_eq (mem : Bytes) (al : Nat) (h31 : mem.length < 2147483648) : ∀ (tags : Bytes) (pos : Nat),
    al ≤ pos →
    lenLoop mem mem.length al (nreserved tags) tags pos = .ok (walk mem al tags pos) := by
  intro tags
  induction tags with
  | nil => intro pos _; simp [nreserved, lenLoop, walk]
  | cons t ts ih =>
    intro pos hal
    unfold walk
    by_cases h0 : nreserved (t :: ts) = 0
    · rw [if_pos h0, h0]; rfl
    · obtain ⟨tp, htp⟩ : ∃ tp, nreserved (t :: ts) = tp + 1 := ⟨nreserved (t :: ts) - 1, by omega⟩
      rw [if_neg h0, htp]
      by_cases hgt : pos > mem.length
      · rw [if_pos hgt]; simp [lenLoop, hgt]
      · rw [if_neg hgt, lenLoop_step mem al h31 tp t ts pos hal (by omega)]
        cases he : argEnd mem al t pos with
        | none => rfl
        | some q =>
          have : (if hasReserved t then tp else tp + 1) = nreserved ts := by
            rw [nreserved_cons] at htp; split <;> simp_all <;> omega
          rw [this]
          exact ih q (Nat.le_trans hal (argEnd_ge he))

theorem walk_ge (bs : Bytes) (al : Nat) : ∀ (tags : Bytes) (pos r : Nat), walk bs al tags pos = some r → pos ≤ r := by
  intro tags
  induction tags with
  | nil => intro pos r h; simp only [walk, Option.some.injEq] at h; omega
  | cons t ts ih =>
    intro pos r h
    unfold walk at h
    split at h
    · simp only [Option.some.injEq] at h; omega
    · split at h
      · cases h
      · obtain ⟨q, hq, hw⟩ := Option.bind_eq_some_iff.mp h
        exact Nat.le_trans (argEnd_ge hq) (ih q r hw)

theorem bundleLoop_ok (mem : Bytes) (h31 : mem.length < 2147483648) : ∀ (f pos : Nat),
    1 ≤ f → mem.length + 2 ≤ f + pos →
    ∃ r, bundleLoop mem mem.length f pos = .ok r ∧ ∀ p, r = some p → p ≤ mem.length := by
  intro f
  induction f with
  | zero => intro pos h; omega
  | succ f ih =>
    intro pos _ hf
    unfold bundleLoop
    by_cases hgt : pos > mem.length
    · exact ⟨none, by simp [hgt], by simp⟩
    · simp only [hgt, if_false]
      rw [rd32_eq mem pos (by omega)]
      simp only [Res.ok_bind]
      by_cases hfit : (rdz mem pos).toNat > mem.length - pos
      · exact ⟨none, by simp [hfit], by simp⟩
      · -- the guard of fix C06-bundle-length-wrap cannot fire below 2^31
        have hnw : ¬ ((rdz mem pos).toNat ≠ 0 ∧ pos + 4 + (rdz mem pos).toNat > 4294967295) := by omega
        simp only [hfit, hnw, or_self, if_false]
        by_cases ha : (rdz mem pos).toNat ≠ 0
        · rw [if_pos ha]
          rw [u32_id (by omega : 4 + (rdz mem pos).toNat < 4294967296), u32_id (by omega)]
          exact ih _ (by omega) (by omega)
        · rw [if_neg ha]
          exact ⟨some pos, rfl, by intro p hp'; cases hp'; omega⟩

theorem bundleRingLength_ok (mem : Bytes) (h31 : mem.length < 2147483648) :
    ∃ v, bundleRingLength mem mem.length = .ok v ∧ (v = 0 ∨ v ≤ mem.length) := by
  obtain ⟨r, hr, hle⟩ := bundleLoop_ok mem h31 (fuel mem.length) 16 (by simp [fuel]) (by simp [fuel])
  unfold bundleRingLength
  rw [hr]; simp only [Res.ok_bind]
  cases r with
  | none => exact ⟨0, rfl, Or.inl rfl⟩
  | some p =>
    refine ⟨_, rfl, ?_⟩
    split
    · right; assumption
    · left; rfl

/-- the bytes from `p` on are `cs` (0 behind the end); with `p = 0`, `cs = bundleMagic`: the buffer
    starts with `#bundle\0` -/
def isBundleZ (bs : Bytes) : Nat → Bytes → Bool
  | _, [] => true
  | p, c :: cs => if dz bs p = c then isBundleZ bs (p + 1) cs else false

theorem isBundle_eq (mem : Bytes) : ∀ (cs : Bytes) (p : Nat),
    isBundle mem mem.length p cs = .ok (isBundleZ mem p cs) := by
  intro cs
  induction cs with
  | nil => intro p; rfl
  | cons c cs ih =>
    intro p
    simp only [isBundle, isBundleZ, deref_eq, Res.ok_bind]
    split
    · exact ih (p + 1)
    · rfl

/-- position of the ',' candidate: behind the path and its null word -/
def commaOf (bs : Bytes) : Nat := nullWordZ bs 4 (scanZ bs 0)
def tagsOf (bs : Bytes) : Bytes := (bs.drop (commaOf bs + 1)).takeWhile (· ≠ 0)
/-- position of the first argument -/
def argsOf (bs : Bytes) : Nat :=
  scanZ bs (commaOf bs + 1) + (4 - (scanZ bs (commaOf bs + 1) - commaOf bs) % 4)

def msgLenZ (bs : Bytes) : Nat :=
  if dz bs (commaOf bs) ≠ 44 then 0
  else
    match walk bs (commaOf bs) (tagsOf bs) (argsOf bs) with
    | none => 0
    | some r => if r ≤ bs.length then r else 0

theorem msgLenZ_le (bs : Bytes) : msgLenZ bs = 0 ∨ msgLenZ bs ≤ bs.length := by
  unfold msgLenZ
  split
  · left; rfl
  · split
    · left; rfl
    · split
      · right; assumption
      · left; rfl

theorem nullWordZ_spec (bs : Bytes) : ∀ (k pos : Nat),
    pos ≤ nullWordZ bs k pos ∧ nullWordZ bs k pos ≤ pos + k ∧ (1 ≤ k → pos < nullWordZ bs k pos) ∧
    ∀ j, pos < j → j < nullWordZ bs k pos → dz bs j = 0 := by
  intro k
  induction k with
  | zero => intro pos; simp [nullWordZ]; intro j h1 h2; omega
  | succ k ih =>
    intro pos
    unfold nullWordZ
    split
    · refine ⟨by omega, by omega, fun _ => by omega, ?_⟩
      intro j h1 h2; omega
    · rename_i hz
      simp only [ne_eq, Decidable.not_not] at hz
      obtain ⟨h1, h2, _, h4⟩ := ih (pos + 1)
      refine ⟨by omega, by omega, fun _ => by omega, ?_⟩
      intro j hj1 hj2
      by_cases hj : j = pos + 1
      · rw [hj]; exact hz
      · exact h4 j (by omega) hj2

theorem ringLength_msg (mem : Bytes) (h31 : mem.length < 2147483648) (hb : isBundleZ mem 0 bundleMagic = false) :
    ringLength mem mem.length = .ok (msgLenZ mem) := by
  unfold ringLength
  rw [isBundle_eq, Res.ok_bind, hb]
  simp only [Bool.false_eq_true, if_false]
  have hp0 := scanZ_le mem 0 (Nat.zero_le _)
  rw [scan_eq mem h31 (fuel mem.length) 0 (by simp [fuel]) (by simp [fuel]), Res.ok_bind]
  have hc : _ ∧ _ := ⟨(nullWordZ_spec mem 4 (scanZ mem 0)).1, (nullWordZ_spec mem 4 (scanZ mem 0)).2.1⟩
  rw [nullWord_eq mem 4 (scanZ mem 0) (by omega), Res.ok_bind, deref_eq, Res.ok_bind]
  unfold msgLenZ tagsOf argsOf commaOf
  by_cases h44 : dz mem (nullWordZ mem 4 (scanZ mem 0)) ≠ 44
  · simp [h44]
  · simp only [h44, if_false]
    generalize hcdef : nullWordZ mem 4 (scanZ mem 0) = c at hc h44 ⊢
    rw [u32_id (by omega : c + 1 < 4294967296)]
    rw [scan_eq mem h31 (fuel mem.length) (c + 1) (by simp [fuel]) (by simp [fuel]; omega), Res.ok_bind]
    have hz1 := scanZ_ge mem (c + 1)
    have hz2 : scanZ mem (c + 1) ≤ mem.length + 5 := by
      by_cases hl : c + 1 ≤ mem.length
      · have := scanZ_le mem (c + 1) hl; omega
      · rw [scanZ_of_ge mem (c + 1) (by omega)]; omega
    rw [usub_eq (by omega) (by omega), u32_id (by omega)]
    rw [tagsFrom_eq mem h31 (fuel mem.length) (c + 1) (by simp [fuel]) (by simp [fuel]; omega), Res.ok_bind]
    rw [lenLoop_eq mem c h31 _ _ (by omega), Res.ok_bind]
    cases walk mem c (List.takeWhile (fun x => decide (x ≠ 0)) (List.drop (c + 1) mem))
      (scanZ mem (c + 1) + (4 - (scanZ mem (c + 1) - c) % 4)) <;> rfl

theorem messageLength_ok (mem : Bytes) (h31 : mem.length < 2147483648) :
    ∃ v, messageLength mem mem.length = .ok v ∧ (v = 0 ∨ v ≤ mem.length) := by
  unfold messageLength
  cases hb : isBundleZ mem 0 bundleMagic with
  | true =>
    unfold ringLength
    rw [isBundle_eq, Res.ok_bind, hb]
    simp only [if_true]
    exact bundleRingLength_ok mem h31
  | false =>
    exact ⟨_, ringLength_msg mem h31 hb, msgLenZ_le mem⟩

def printableZ (c : UInt8) : Bool := isprint c

/-- the path loop: offset of the first NUL (or the end), `none` if a byte before it is not printable -/
def pathZ (bs : Bytes) (tmp : Nat) : Option Nat :=
  if ((bs.drop tmp).takeWhile (· ≠ 0)).all isprint then some (scanZ bs tmp) else none

theorem pathZ_stop {bs : Bytes} {tmp : Nat} (h : dz bs tmp = 0) : pathZ bs tmp = some tmp := by
  unfold pathZ
  rw [scanZ_stop h, tw_nz_stop h]; rfl

theorem pathZ_step {bs : Bytes} {tmp : Nat} (h : dz bs tmp ≠ 0) :
    pathZ bs tmp = if isprint (dz bs tmp) then pathZ bs (tmp + 1) else none := by
  have hl := lt_of_dz_ne h
  unfold pathZ
  rw [scanZ_step h, List.drop_eq_getElem_cons hl]
  rw [dz_of_lt hl] at h ⊢
  rw [tw_nz_cons _ h, List.all_cons]
  cases isprint bs[tmp] <;> simp

theorem pathLoop_eq (mem : Bytes) : ∀ (k tmp : Nat), tmp + k = mem.length →
    pathLoop mem k tmp = .ok (pathZ mem tmp) := by
  intro k
  induction k with
  | zero =>
    intro tmp h
    rw [pathZ_stop (dz_of_ge (by omega))]; rfl
  | succ k ih =>
    intro tmp h
    have hl : tmp < mem.length := by omega
    simp only [pathLoop, rd, List.getElem?_eq_getElem hl, Res.ok_bind]
    by_cases hc : mem[tmp] = 0
    · have hd : dz mem tmp = 0 := by rw [dz_of_lt hl]; exact hc
      rw [pathZ_stop hd]; simp [hc]
    · have hd : dz mem tmp ≠ 0 := by rw [dz_of_lt hl]; exact hc
      rw [pathZ_step hd, dz_of_lt hl]
      simp only [hc, if_false]
      by_cases hp : isprint mem[tmp] = true
      · simp only [hp, Bool.not_true, Bool.false_eq_true, if_false, if_true]
        exact ih (tmp + 1) (by omega)
      · simp [hp]

/-- first position `≥ off` that holds a ',' (or the end) -/
def commaZ (bs : Bytes) (off : Nat) : Nat := off + ((bs.drop off).takeWhile (· ≠ 44)).length

theorem commaZ_stop {bs : Bytes} {off : Nat} (h : off < bs.length → bs[off]? = some 44) : commaZ bs off = off := by
  unfold commaZ
  by_cases hl : off < bs.length
  · rw [List.drop_eq_getElem_cons hl]
    have := h hl
    rw [List.getElem?_eq_getElem hl] at this
    simp only [Option.some.injEq] at this
    rw [this]; simp
  · rw [List.drop_eq_nil_of_le (Nat.le_of_not_lt hl)]; rfl

theorem commaZ_step {bs : Bytes} {off : Nat} (hl : off < bs.length) (h : bs[off] ≠ 44) :
    commaZ bs off = commaZ bs (off + 1) := by
  unfold commaZ
  rw [List.drop_eq_getElem_cons hl, List.takeWhile_cons_of_pos (by simpa using h), List.length_cons]; omega

theorem commaLoop_eq (mem : Bytes) : ∀ (k off : Nat), off + k = mem.length →
    commaLoop mem k off = .ok (commaZ mem off) := by
  intro k
  induction k with
  | zero =>
    intro off h
    rw [commaZ_stop (by intro hl; omega)]; rfl
  | succ k ih =>
    intro off h
    have hl : off < mem.length := by omega
    simp only [commaLoop, rd, List.getElem?_eq_getElem hl, Res.ok_bind]
    by_cases hc : mem[off] = 44
    · rw [commaZ_stop (by intro _; rw [List.getElem?_eq_getElem hl, hc])]; simp [hc]
    · simp only [hc, if_false]
      rw [commaZ_step hl hc]
      exact ih (off + 1) (by omega)

def validZ (bs : Bytes) : Bool :=
  if bs.length = 0 then false
  else if dz bs 0 ≠ 47 then false
  else
    match pathZ bs 0 with
    | none => false
    | some o1 =>
      if commaZ bs o1 - o1 > 4 then false
      else if commaZ bs o1 % 4 ≠ 0 then false
      else decide (msgLenZ bs = bs.length)

theorem pathZ_le (bs : Bytes) (o1 : Nat) (h : pathZ bs 0 = some o1) : o1 ≤ bs.length := by
  unfold pathZ at h
  split at h
  · simp at h; rw [← h]; exact scanZ_le bs 0 (Nat.zero_le _)
  · simp at h

theorem validMessageP_eq (mem : Bytes) (h31 : mem.length < 2147483648) :
    validMessageP mem mem.length = .ok (validZ mem) := by
  unfold validMessageP validZ
  by_cases h0 : mem.length = 0
  · simp [h0]
  · simp only [h0, if_false]
    have hl : 0 < mem.length := by omega
    have hd0 : dz mem 0 = mem[0] := dz_of_lt hl
    simp only [rd, List.getElem?_eq_getElem hl, Res.ok_bind]
    rw [hd0]
    by_cases h47 : mem[0] ≠ 47
    · simp [h47]
    · simp only [h47, if_false]
      rw [pathLoop_eq mem mem.length 0 (by omega), Res.ok_bind]
      cases hp : pathZ mem 0 with
      | none => rfl
      | some o1 =>
        have ho1 := pathZ_le mem o1 hp
        simp only
        rw [commaLoop_eq mem (mem.length - o1) o1 (by omega), Res.ok_bind]
        split
        · rfl
        · split
          · rfl
          · have hb : isBundleZ mem 0 bundleMagic = false := by
              simp [isBundleZ, bundleMagic, hd0, Decidable.not_not.mp h47]
            unfold messageLength
            rw [ringLength_msg mem h31 hb, Res.ok_bind]

end Rtosc.Osc.V
