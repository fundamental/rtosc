/-
  C06 — the invariant of the two-thread model and its preservation by every step of
  either thread (no bound on histories, interleavings or memcpy chunking); from it, that the
  two threads never touch the same ring byte (`inv_drf`), and the bookkeeping `Acct` of what was
  handed to the writer.

  The abstract cursors of the bounded FIFO are *computed from the reader's log* (`curOf`):
  `C` = number of messages consumed, `L` = position of the lookahead cursor, with exactly the
  cursor arithmetic of `Q.step` (`curStep`: a successful lookahead read advances `L`, every normal
  read resynchronises `L := C`).  `LInv` ties the concrete `read_lookahead` offset of a state to
  that log-defined cursor and says what every completed read (lookahead or not) returned.
  What is carried through the steps is `InvL`: `Inv`, `LInv`, and the reader's clause
  of `Inv` at that cursor, so that the cursor `Inv` only asserts to exist never has to be recovered.
-/
import RtoscModel.Proofs.RingAct
import RtoscModel.Proofs.RingSeq
namespace Rtosc.Ring
open Rtosc

theorem pubOf_append_false (log : List (Bytes × Bool)) (m : Bytes) :
    pubOf (log ++ [(m, false)]) = pubOf log := by
  simp [pubOf, List.filter_append]

theorem pubOf_append_true (log : List (Bytes × Bool)) (m : Bytes) :
    pubOf (log ++ [(m, true)]) = pubOf log ++ [m] := by
  simp [pubOf, List.filter_append]

theorem retOf_append_hasNext (log : List ROut) (l b : Bool) :
    retOf (log ++ [.hasNext l b]) = retOf log := by
  simp [retOf, List.filterMap_append, retSel]

theorem retOf_append_la (log : List ROut) (m : Bytes) :
    retOf (log ++ [.read true m]) = retOf log := by
  simp [retOf, List.filterMap_append, retSel]

theorem retOf_append_nil (log : List ROut) :
    retOf (log ++ [.read false []]) = retOf log := by
  simp [retOf, List.filterMap_append, retSel]

theorem retOf_append_msg (log : List ROut) {m : Bytes} (h : m ≠ []) :
    retOf (log ++ [.read false m]) = retOf log ++ [m] := by
  simp [retOf, List.filterMap_append, retSel, h]

theorem wSkip_spec (frame : Bytes → Nat) (maxMsg : Nat) (ops : List WOp) (log : List (Bytes × Bool)) :
    pubOf (wSkip frame maxMsg ops log).2 = pubOf log ∧
    (∀ op, op ∈ (wSkip frame maxMsg ops log).1 → op ∈ ops) ∧
    (∀ b rest, (wSkip frame maxMsg ops log).1 = .rawWrite b :: rest → frame b ≤ maxMsg) := by
  induction ops generalizing log with
  | nil => simp [wSkip]
  | cons op ops ih =>
    cases op with
    | write m => simp [wSkip]
    | rawWrite b =>
      unfold wSkip
      by_cases h : frame b ≤ maxMsg
      · rw [if_pos h]
        refine ⟨rfl, fun op h => h, ?_⟩
        intro b' rest e
        simp only [List.cons.injEq, WOp.rawWrite.injEq] at e
        rw [← e.1]; exact h
      · rw [if_neg h]
        obtain ⟨h1, h2, h3⟩ := ih (log ++ [(b, false)])
        refine ⟨by rw [h1, pubOf_append_false], ?_, h3⟩
        intro op hop
        exact List.mem_cons_of_mem _ (h2 op hop)

theorem pubOf_wNext (frame : Bytes → Nat) (s : Conc) (ops : List WOp) (m : Bytes) (b : Bool) :
    pubOf (s.wNext frame ops (m, b)).wlog = pubOf s.wlog ++ (if b = true then [m] else []) := by
  show pubOf (wSkip frame s.maxMsg ops (s.wlog ++ [(m, b)])).2 = _
  rw [(wSkip_spec frame s.maxMsg ops _).1]
  cases b
  · rw [pubOf_append_false]; simp
  · rw [pubOf_append_true]; rfl

theorem InvC.hC {frame IsMsg N maxMsg buf w r wops wpc P rpc la rbuf Rt fault}
    (inv : InvC frame IsMsg N maxMsg buf w r wops wpc P rpc la rbuf Rt fault) :
    Rt.length ≤ P.length := by
  have := congrArg List.length inv.hret
  rw [List.length_take] at this
  omega

theorem RInv.append {P : List Bytes} {C L N : Nat} {rbuf : Bytes} {pc : RPc} (d : Bytes)
    (h : RInv P C L N rbuf pc) :
    RInv (P ++ [d]) C L N rbuf pc := by
  cases pc with
  | idle => trivial
  | framing l wv =>
    obtain ⟨j, h1, h2, h3⟩ := h
    exact ⟨j, h1, by simp; omega, by rw [offs_append [d] h2]; exact h3⟩
  | copying l len k =>
    obtain ⟨h1, h2⟩ := h
    refine ⟨h1, ?_⟩
    rcases h2 with h2 | ⟨hx, h3, h4⟩
    · exact Or.inl h2
    · refine Or.inr ⟨by simp; omega, ?_⟩
      rw [List.getElem_append_left hx]
      exact ⟨h3, h4⟩

/-- what a writer operation on a message hands to the ring: the message itself, or nothing when it exceeds
    `MaxMsg` (`raw_write` measures a message with its own length, and it is only taken up when that fits: `wSkip`) -/
theorem wData_eq {frame : Bytes → Nat} {IsMsg : Bytes → Prop} (fr : Framing frame IsMsg)
    {maxMsg : Nat} {op : WOp} (h1 : IsMsg op.msg) (h2 : ∀ b, op = .rawWrite b → frame b ≤ maxMsg) :
    wData frame maxMsg op = (op.msg, if op.msg.length ≤ maxMsg then op.msg else []) := by
  cases op with
  | write m => rfl
  | rawWrite b =>
    have e : frame b = b.length := fr.self h1
    have hl := h2 b rfl
    simp only [wData, e, List.take_length]
    exact congrArg _ (if_pos (show b.length ≤ maxMsg by omega)).symm

theorem wData_ok {frame : Bytes → Nat} {IsMsg : Bytes → Prop} (fr : Framing frame IsMsg)
    {maxMsg : Nat} {op : WOp} (h1 : IsMsg op.msg)
    (h2 : ∀ b, op = .rawWrite b → frame b ≤ maxMsg) :
    (wData frame maxMsg op).2 = [] ∨
      (IsMsg (wData frame maxMsg op).2 ∧ (wData frame maxMsg op).2.length ≤ maxMsg) := by
  rw [wData_eq fr h1 h2]
  by_cases h : op.msg.length ≤ maxMsg
  · rw [if_pos h]; exact Or.inr ⟨h1, h⟩
  · rw [if_neg h]; exact Or.inl rfl

/-- the free space computed from the loaded indices is the true free space -/
theorem InvC.writeSize {frame IsMsg N maxMsg buf w r wops P rpc la rbuf Rt fault}
    (inv : InvC frame IsMsg N maxMsg buf w r wops .idle P rpc la rbuf Rt fault) :
    Ring.writeSize w r N + P.flatten.length = N - 1 + offs P Rt.length := by
  rw [inv.hw, inv.hr]
  exact writeSize_of_le inv.hN (offs_le_total P Rt.length) inv.hspace

theorem InvC.skip {frame : Bytes → Nat} {IsMsg : Bytes → Prop} {N maxMsg buf w r P rpc la rbuf Rt fault}
    (inv : InvC frame IsMsg N maxMsg buf w r [] .idle P rpc la rbuf Rt fault) {ops : List WOp}
    (hops : ∀ op, op ∈ ops → IsMsg op.msg) (log : List (Bytes × Bool)) :
    InvC frame IsMsg N maxMsg buf w r (wSkip frame maxMsg ops log).1 .idle P rpc la rbuf Rt fault := by
  obtain ⟨-, k2, k3⟩ := wSkip_spec frame maxMsg ops log
  exact { inv with hops := fun op h => hops op (k2 op h), hnorm := fun _ => k3 }

theorem InvC.prog_le {frame IsMsg N maxMsg buf w r wops wpc P rpc la rbuf Rt fault}
    (inv : InvC frame IsMsg N maxMsg buf w r wops wpc P rpc la rbuf Rt fault) :
    wpc.prog ≤ wpc.inflight.length := by
  cases wpc with
  | idle => exact Nat.le_refl _
  | copying m d k => exact (inv.hwpc m d k rfl).1

/-- where a `read(l)` looks: the message index (`L` for a lookahead read, else the first message not
    yet consumed) and the ring offset that stands for it -/
theorem InvC.cursor {frame : Bytes → Nat} {IsMsg : Bytes → Prop}
    {N maxMsg buf w r wops wpc P rpc la rbuf Rt fault}
    (inv : InvC frame IsMsg N maxMsg buf w r wops wpc P rpc la rbuf Rt fault) {L : Nat}
    (hL1 : Rt.length ≤ L) (hL3 : la = offs P L % N) (l : Bool) :
    Rt.length ≤ (if l = true then L else Rt.length) ∧
    (if l = true then la else r) = offs P (if l = true then L else Rt.length) % N := by
  cases l
  · exact ⟨Nat.le_refl _, inv.hr⟩
  · exact ⟨hL1, hL3⟩

theorem InvC.frame_view {frame : Bytes → Nat} {IsMsg : Bytes → Prop} (fr : Framing frame IsMsg)
    {N maxMsg buf w r wops wpc P rpc la rbuf Rt fault}
    (inv : InvC frame IsMsg N maxMsg buf w r wops wpc P rpc la rbuf Rt fault) {X j : Nat}
    (hCX : Rt.length ≤ X) (hXj : X ≤ j) (hj : j ≤ P.length) {d0 d1 : Bytes} {ok : Bool}
    (hrv : readVector buf N (offs P j % N) (offs P X % N) = (d0, d1, ok)) :
    ok = true ∧ frame (d0 ++ d1) = (headAt P j X).length := by
  have ho1 : offs P Rt.length ≤ offs P X := offs_mono hCX
  have ho3 : offs P j ≤ P.flatten.length := offs_le_total _ _
  have hsp := inv.hspace
  have hprog := inv.prog_le
  exact frame_view_of_holds fr inv.hN inv.hbuf (fun m hm => (inv.hP m hm).1) inv.hcontent ho1 hXj hj
    (by omega) (by rw [List.length_append]; omega) (by omega) hrv

/-- one memcpy step `(off, c)` of a read that is copying message `X`, of which `read_buffer` holds `k`
    bytes: the chunk lies inside the message, the slice is the next bytes of the message, and afterwards
    `read_buffer` holds the first `k + c` -/
theorem InvC.copy_chunk {frame : Bytes → Nat} {IsMsg : Bytes → Prop}
    {N maxMsg buf w r wops wpc P rpc la rbuf Rt fault}
    (inv : InvC frame IsMsg N maxMsg buf w r wops wpc P rpc la rbuf Rt fault) {X len k chunk off c : Nat}
    (hCX : Rt.length ≤ X) (hX : X < P.length) (hlen : len = P[X].length)
    (hrb : rbuf.take k = P[X].take k) (hk : k < len)
    (hoc : chunkAt N (offs P X % N) len chunk k = (off, c)) :
    k + c ≤ len ∧ slice buf off c = ((P[X].drop k).take c, true) ∧
    ∃ rb, blit rbuf k ((P[X].drop k).take c) = (rb, true) ∧ rb.length = rbuf.length ∧
      rb.take (k + c) = P[X].take (k + c) := by
  have htot := getElem_length_le_total hX
  have hmx := (inv.hP _ (List.getElem_mem hX)).2
  have ho1 : offs P Rt.length ≤ offs P X := offs_mono hCX
  have hsp := inv.hspace
  have hprog := inv.prog_le
  obtain ⟨hc1, hc2, hc3⟩ := chunkAt_spec inv.hN (by omega) hk hoc
  have hsl := slice_holds (p := offs P X + k) (c := c) (off := off) inv.hbuf inv.hcontent
    (by omega) (by omega) (by rw [List.length_append]; omega) hc2
    (fun i hi => by rw [Nat.add_assoc]; exact hc3 i hi)
  rw [stream_msg _ hX (by omega)] at hsl
  have hbl : ((P[X].drop k).take c).length = c := by rw [List.length_take, List.length_drop]; omega
  have hok : k + ((P[X].drop k).take c).length ≤ rbuf.length := by rw [hbl, inv.hrbuf]; omega
  have ht := blit_take hok
  rw [hbl, hrb, ← List.take_add] at ht
  exact ⟨hc1, hsl, _, Prod.ext rfl (blit_snd hok), blit_length hok, ht⟩

theorem curOf_snoc (log : List ROut) (x : ROut) : curOf (log ++ [x]) = curStep (curOf log) x := by
  simp [curOf, List.foldl_append]

theorem foldl_curStep_fst (log : List ROut) : ∀ init : Nat × Nat,
    (log.foldl curStep init).1 = init.1 + (retOf log).length := by
  induction log with
  | nil => intro init; simp [retOf]
  | cons x log ih =>
    intro init
    obtain ⟨C, L⟩ := init
    rw [List.foldl_cons, ih]
    cases x with
    | hasNext l b => simp [curStep, retOf, List.filterMap_cons, retSel]
    | read l m =>
      cases l with
      | false =>
        by_cases hm : m = []
        · simp [curStep, retOf, retSel, hm]
        · simp [curStep, retOf, retSel, hm]; omega
      | true =>
        by_cases hm : m = []
        · simp [curStep, retOf, List.filterMap_cons, retSel, hm]
        · simp [curStep, retOf, List.filterMap_cons, retSel, hm]

theorem curOf_fst (log : List ROut) : (curOf log).1 = (retOf log).length := by
  unfold curOf; rw [foldl_curStep_fst]; simp

theorem laOf_hasNext (log : List ROut) (l b : Bool) : laOf (log ++ [.hasNext l b]) = laOf log := by
  unfold laOf; rw [curOf_snoc]; rfl

theorem laOf_la_nil (log : List ROut) : laOf (log ++ [.read true []]) = laOf log := by
  unfold laOf; rw [curOf_snoc]; rfl

theorem laOf_la_msg (log : List ROut) {m : Bytes} (h : m ≠ []) :
    laOf (log ++ [.read true m]) = laOf log + 1 := by
  unfold laOf; rw [curOf_snoc]
  rcases curOf log with ⟨C, L⟩
  simp [curStep, h]

theorem laOf_rd_nil (log : List ROut) : laOf (log ++ [.read false []]) = (retOf log).length := by
  unfold laOf; rw [curOf_snoc, ← curOf_fst]
  rcases curOf log with ⟨C, L⟩
  simp [curStep]

theorem laOf_rd_msg (log : List ROut) {m : Bytes} (h : m ≠ []) :
    laOf (log ++ [.read false m]) = (retOf log).length + 1 := by
  unfold laOf; rw [curOf_snoc, ← curOf_fst]
  rcases curOf log with ⟨C, L⟩
  simp [curStep, h]

/-- every completed read that returned a message returned the published message its cursor
    pointed at: `read` the first not yet consumed, `read_lookahead` the one at the lookahead
    cursor (both cursors as the bounded FIFO computes them from the preceding results) -/
def LogOk (P : List Bytes) (log : List ROut) : Prop :=
  ∀ i l m, log[i]? = some (.read l m) → m ≠ [] → P[curAt l (log.take i)]? = some m

theorem LogOk.nil (P : List Bytes) : LogOk P [] := by
  intro i l m h; simp at h

theorem LogOk.mono {P : List Bytes} {log : List ROut} (ext : List Bytes) (h : LogOk P log) :
    LogOk (P ++ ext) log := by
  intro i l m h1 h2
  have := h i l m h1 h2
  have hlt : curAt l (log.take i) < P.length := (List.getElem?_eq_some_iff.mp this).1
  rw [List.getElem?_append_left hlt]; exact this

theorem LogOk.snoc {P : List Bytes} {log : List ROut} {x : ROut} (h : LogOk P log)
    (hx : ∀ l m, x = .read l m → m ≠ [] → P[curAt l log]? = some m) : LogOk P (log ++ [x]) := by
  intro i l m h1 h2
  rcases Nat.lt_trichotomy i log.length with hi | hi | hi
  · rw [List.getElem?_append_left hi] at h1
    rw [List.take_append_of_le_length (Nat.le_of_lt hi)]
    exact h i l m h1 h2
  · subst hi
    rw [List.getElem?_append_right (Nat.le_refl _)] at h1
    simp only [Nat.sub_self, List.getElem?_cons_zero, Option.some.injEq] at h1
    rw [List.take_left' rfl]
    exact hx l m h1 h2
  · rw [List.getElem?_eq_none (by simp; omega)] at h1; cases h1

theorem LogOk.snoc_empty {P : List Bytes} {log : List ROut} (h : LogOk P log) (l : Bool) :
    LogOk P (log ++ [.read l []]) :=
  h.snoc (by intro l' m e hm; cases e; exact absurd rfl hm)

theorem LogOk.snoc_msg {P : List Bytes} {log : List ROut} {l : Bool} {m : Bytes} (h : LogOk P log)
    (hm : P[curAt l log]? = some m) : LogOk P (log ++ [.read l m]) :=
  h.snoc (by intro l' m' e _; cases e; exact hm)

/-- the concrete lookahead offset is the ring offset of the log-defined cursor `laOf rlog`,
    the cursor lies between the consumed and the published messages, and every completed
    read returned the message at its cursor -/
structure LInv (s : Conc) : Prop where
  hlo : (retOf s.rlog).length ≤ laOf s.rlog
  hhi : laOf s.rlog ≤ (pubOf s.wlog).length
  hla : s.la = offs (pubOf s.wlog) (laOf s.rlog) % s.N
  hlog : LogOk (pubOf s.wlog) s.rlog

/-- `Inv` with its lookahead cursor named: it is the cursor `laOf` computes from the reader's log.  This, and not
    `Inv` alone, is what the induction over the steps carries (`step_invL`, `reach_invL`). -/
structure InvL (frame : Bytes → Nat) (IsMsg : Bytes → Prop) (s : Conc) : Prop where
  inv : Inv frame IsMsg s
  li : LInv s
  hR : RInv (pubOf s.wlog) (retOf s.rlog).length (laOf s.rlog) s.N s.rbuf s.rpc

/-- the invariant of a state of whose log the consumed messages `Rt'` and the cursor `L'` are known: the reader's
    clause of `Inv` is given by the facts about `L'`, and is handed to `c` to complete the rest -/
theorem InvL.intro {frame : Bytes → Nat} {IsMsg : Bytes → Prop} {s' : Conc} {P' Rt' : List Bytes} {L' : Nat}
    (eP : pubOf s'.wlog = P') (eC : retOf s'.rlog = Rt') (eL : laOf s'.rlog = L') (hlog : LogOk P' s'.rlog)
    (h1 : Rt'.length ≤ L') (h2 : L' ≤ P'.length) (h3 : s'.la = offs P' L' % s'.N)
    (hR : RInv P' Rt'.length L' s'.N s'.rbuf s'.rpc)
    (c : (∃ L, Rt'.length ≤ L ∧ L ≤ P'.length ∧ s'.la = offs P' L % s'.N ∧ RInv P' Rt'.length L s'.N s'.rbuf s'.rpc) →
      InvC frame IsMsg s'.N s'.maxMsg s'.buf s'.w s'.r s'.wops s'.wpc P' s'.rpc s'.la s'.rbuf Rt' s'.fault) :
    InvL frame IsMsg s' := by
  subst eP eC eL
  exact ⟨c ⟨_, h1, h2, h3, hR⟩, ⟨h1, h2, h3, hlog⟩, hR⟩

theorem wStep_invL {frame : Bytes → Nat} {IsMsg : Bytes → Prop} (fr : Framing frame IsMsg)
    {s s' : Conc} {e : Ev} (I : InvL frame IsMsg s) (h : s.wStep frame = some (s', e)) :
    InvL frame IsMsg s' := by
  obtain ⟨inv, ⟨hL1, hL2, hL3, hlog⟩, hR⟩ := I
  unfold Inv at inv
  have hN := inv.hN
  have hC := inv.hC
  have hsp := inv.hspace
  have hcont := inv.hcontent
  cases wStep_act h with
  | @accept op rest hpc hop hfit =>
    rw [hpc, hop] at inv
    rw [hpc] at hsp hcont
    have hdata := wData_ok fr (inv.hops op List.mem_cons_self)
      (fun b hb => inv.hnorm rfl b rest (by rw [hb]))
    have hws := inv.writeSize
    simp only [WPc.inflight, WPc.prog, List.length_nil, Nat.add_zero, List.append_nil] at hcont hsp
    exact InvL.intro rfl rfl rfl hlog hL1 hL2 hL3 hR fun hr => { inv with
      hops := fun op' h' => inv.hops op' (List.mem_cons_of_mem _ h')
      hnorm := nofun
      hspace := by simp only [WPc.inflight]; omega
      hcontent := fun i h1 h2 => by
        rw [getD_append_left' (by simp only [WPc.prog] at h2; omega)]
        exact hcont i h1 h2
      hwpc := by
        intro m d k hk
        cases hk
        exact ⟨Nat.zero_le _, hdata⟩
      hreader := hr }
  | @reject op rest hpc hop hfit =>
    rw [hpc, hop] at inv
    exact InvL.intro ((pubOf_wNext ..).trans (List.append_nil _)) rfl rfl hlog hL1 hL2 hL3 hR fun hr =>
      InvC.skip { inv with hops := nofun, hnorm := nofun, hreader := hr }
        (fun op' h' => inv.hops op' (List.mem_cons_of_mem _ h')) _
  | @copy m data k off c hpc hk hoc =>
    rw [hpc] at inv hsp hcont
    obtain ⟨-, hdata⟩ := inv.hwpc m data k rfl
    simp only [WPc.inflight, WPc.prog] at hsp hcont
    have hoff := offs_le_total (pubOf s.wlog) (retOf s.rlog).length
    obtain ⟨hc1, hc2, hc3⟩ := chunkAt_spec (A := (pubOf s.wlog).flatten.length) hN (by omega) hk
      (inv.hw ▸ hoc)
    have hsl : ((data.drop k).take c).length = c := by simp; omega
    have hok : off + ((data.drop k).take c).length ≤ s.buf.length := by rw [hsl, inv.hbuf]; exact hc2
    have hnew := Holds.blit (src := (data.drop k).take c) (off := off) hcont inv.hbuf
      (by rw [hsl]; omega) (by rw [hsl]; exact hc2)
      (by intro i hi; rw [hsl] at hi; rw [Nat.add_assoc]; exact hc3 i hi)
      (by
        intro i hi; rw [hsl] at hi
        rw [getD_take' hi, getD_drop', getD_append_right' (by omega)]
        congr 1; omega)
    rw [hsl] at hnew
    exact InvL.intro rfl rfl rfl hlog hL1 hL2 hL3 hR fun hr => { inv with
      hbuf := by rw [blit_length hok]; exact inv.hbuf
      hfault := by rw [inv.hfault, blit_snd hok]; rfl
      hnorm := nofun
      hspace := hsp
      hcontent := by simp only [WPc.inflight, WPc.prog]; rw [← Nat.add_assoc]; exact hnew
      hwpc := by
        intro m' d' k' hk'
        cases hk'
        exact ⟨hc1, hdata⟩
      hreader := hr }
  | @publish m data k hpc hk =>
    rw [hpc] at inv hsp hcont
    obtain ⟨hkle, hdata⟩ := inv.hwpc m data k rfl
    simp only [WPc.inflight, WPc.prog] at hsp hcont
    obtain rfl : k = data.length := Nat.le_antisymm hkle hk
    have hwlt : s.w < s.N := by rw [inv.hw]; exact Nat.mod_lt _ hN
    by_cases hd : data = []
    · subst hd
      rw [if_pos rfl, List.length_nil, Nat.add_zero, Nat.mod_eq_of_lt hwlt]
      exact InvL.intro ((pubOf_wNext ..).trans (List.append_nil _)) rfl rfl hlog hL1 hL2 hL3 hR fun hr =>
        InvC.skip { inv with hops := nofun, hnorm := nofun, hspace := hsp, hcontent := hcont, hwpc := nofun, hreader := hr }
          inv.hops _
    · rw [if_neg hd]
      have hdm : IsMsg data ∧ data.length ≤ s.maxMsg := hdata.resolve_left hd
      have hfl : (pubOf s.wlog ++ [data]).flatten = (pubOf s.wlog).flatten ++ data := by simp
      have hoC : offs (pubOf s.wlog ++ [data]) (retOf s.rlog).length =
          offs (pubOf s.wlog) (retOf s.rlog).length := offs_append [data] hC
      exact InvL.intro (P' := pubOf s.wlog ++ [data]) (Rt' := retOf s.rlog) (L' := laOf s.rlog) (pubOf_wNext ..) rfl rfl
        (hlog.mono [data]) hL1
        (by rw [List.length_append]; exact Nat.le_add_right_of_le hL2)
        (by rw [offs_append [data] hL2]; exact hL3) (RInv.append data hR) fun hr =>
        InvC.skip { inv with
          hops := nofun, hnorm := nofun, hwpc := nofun
          hP := List.forall_mem_append.mpr ⟨inv.hP, List.forall_mem_singleton.mpr hdm⟩
          hret := by rw [List.take_append_of_le_length hC]; exact inv.hret
          hw := by rw [hfl, List.length_append, inv.hw, Nat.mod_add_mod]; rfl
          hr := by rw [hoC]; exact inv.hr
          hspace := by rw [hoC, hfl, List.length_append]; exact hsp
          hcontent := by
            rw [hoC, hfl, List.length_append]
            simp only [WPc.inflight, WPc.prog, List.append_nil, Nat.add_zero]; exact hcont
          hreader := hr } inv.hops _

theorem rStep_invL {frame : Bytes → Nat} {IsMsg : Bytes → Prop} (fr : Framing frame IsMsg)
    {s s' : Conc} {e : Ev} (I : InvL frame IsMsg s) (h : s.rStep frame = some (s', e)) :
    InvL frame IsMsg s' := by
  obtain ⟨inv, ⟨hL1, hL2, hL3, hlog⟩, hR⟩ := I
  unfold Inv at inv
  have hN := inv.hN
  have hC := inv.hC
  have hne : ∀ m ∈ pubOf s.wlog, m ≠ [] := fun m hm => fr.ne m (inv.hP m hm).1
  cases rStep_act h with
  | @hasNext l rest hpc hop =>
    exact InvL.intro rfl (retOf_append_hasNext ..) (laOf_hasNext ..) (hlog.snoc (by intro l' m e; cases e))
      hL1 hL2 hL3 hR fun hr => { inv with hreader := hr }
  | @load l rest hpc hop =>
    exact InvL.intro rfl rfl rfl hlog hL1 hL2 hL3
      ⟨(pubOf s.wlog).length, by split <;> omega, Nat.le_refl _, by rw [offs_length]; exact inv.hw⟩
      fun hr => { inv with hreader := hr }
  | @frameNone wv d0 d1 ok hpc hrv hlen =>
    rw [hpc] at hR
    obtain ⟨j, hj1, hj2, hj3⟩ := hR
    obtain ⟨rfl, -⟩ := inv.frame_view fr hL1 hj1 hj2 (hj3 ▸ hL3 ▸ hrv)
    exact InvL.intro rfl (retOf_append_la ..) (laOf_la_nil ..) (hlog.snoc_empty _) hL1 hL2
      (by show (s.la + 0) % s.N = _; rw [Nat.add_zero, hL3, Nat.mod_mod]) trivial
      fun hr => { inv with hfault := by rw [inv.hfault]; rfl, hreader := hr }
  | @frame l wv d0 d1 ok hpc hrv hgo =>
    rw [hpc] at hR
    obtain ⟨j, hj1, hj2, hj3⟩ := hR
    obtain ⟨hXC, hxX⟩ := inv.cursor hL1 hL3 l
    obtain ⟨rfl, hlen⟩ := inv.frame_view fr hXC hj1 hj2 (hj3 ▸ hxX ▸ hrv)
    refine InvL.intro rfl rfl rfl hlog hL1 hL2 hL3 ⟨Nat.zero_le _, ?_⟩
      fun hr => { inv with hfault := by rw [inv.hfault]; rfl, hreader := hr }
    simp only
    by_cases hXj : (if l = true then laOf s.rlog else (retOf s.rlog).length) < j
    · exact Or.inr ⟨by omega, by rw [hlen, headAt_lt hXj hj2], by simp⟩
    · exact Or.inl (by rw [hlen, headAt_ge (by omega)]; rfl)
  | @copy l len k off c hpc hk hoc hgo =>
    rw [hpc] at hR
    obtain ⟨hXC, hxX⟩ := inv.cursor hL1 hL3 l
    obtain ⟨hx, hlen, hrb⟩ := hR.2.resolve_left (by omega)
    obtain ⟨hc1, hsl, rb, hbl, hrbl, hrbt⟩ := inv.copy_chunk hXC hx hlen hrb hk (hxX ▸ hoc)
    simp only [hsl, hbl]
    exact InvL.intro rfl rfl rfl hlog hL1 hL2 hL3 ⟨hc1, Or.inr ⟨hx, hlen, hrbt⟩⟩
      fun hr => { inv with hrbuf := by rw [hrbl]; exact inv.hrbuf, hfault := by rw [inv.hfault]; rfl, hreader := hr }
  | @copyLast len k off c hpc hk hoc hfin =>
    rw [hpc] at hR
    obtain ⟨hx, hlen, hrb⟩ := hR.2.resolve_left (by omega)
    simp only [if_true] at hx hlen hrb
    obtain ⟨hc1, hsl, rb, hbl, hrbl, hrbt⟩ := inv.copy_chunk hL1 hx hlen hrb hk (hL3 ▸ hoc)
    have hm := hne _ (List.getElem_mem hx)
    have hret : rb.take len = (pubOf s.wlog)[laOf s.rlog] := by
      rw [show len = k + c by omega, hrbt, show k + c = len by omega, hlen, List.take_length]
    simp only [hsl, hbl, hret]
    exact InvL.intro rfl (retOf_append_la ..) (laOf_la_msg _ hm) (hlog.snoc_msg (List.getElem?_eq_getElem hx))
      (by omega) (by simp only; omega)
      (by show (s.la + len) % s.N = _; rw [hL3, Nat.mod_add_mod, offs_succ hx, hlen]) trivial
      fun hr => { inv with hrbuf := by rw [hrbl]; exact inv.hrbuf, hfault := by rw [inv.hfault]; rfl, hreader := hr }
  | @store len k hpc hk =>
    rw [hpc] at hR
    obtain rfl : k = len := Nat.le_antisymm hR.1 hk
    rcases hR.2 with h0 | ⟨hx, hlen, hrb⟩
    · -- nothing was there: the indices stay, the cursor falls back to the read position
      subst h0
      simp only [List.take_zero, Nat.add_zero]
      exact InvL.intro rfl (retOf_append_nil ..) (laOf_rd_nil ..) (hlog.snoc_empty _) (Nat.le_refl _) hC
        (by show s.r % s.N = _; rw [inv.hr, Nat.mod_mod]) trivial
        fun hr => by
          have hrr : s.r % s.N = s.r := Nat.mod_eq_of_lt (by rw [inv.hr]; exact Nat.mod_lt _ hN)
          simp only [hrr] at hr ⊢
          exact { inv with hreader := hr }
    · -- the head message is consumed
      simp only [Bool.false_eq_true, if_false] at hx hlen hrb
      have hm := hne _ (List.getElem_mem hx)
      have hret : s.rbuf.take k = (pubOf s.wlog)[(retOf s.rlog).length] := by rw [hrb, hlen, List.take_length]
      have hsucc := offs_succ hx
      have hsp := inv.hspace
      have hlen1 : (retOf s.rlog ++ [(pubOf s.wlog)[(retOf s.rlog).length]]).length =
          (retOf s.rlog).length + 1 := by simp
      have hnext : (s.r + k) % s.N = offs (pubOf s.wlog) ((retOf s.rlog).length + 1) % s.N := by
        rw [inv.hr, Nat.mod_add_mod, hsucc, hlen]
      simp only [hret]
      exact InvL.intro rfl (retOf_append_msg _ hm) (laOf_rd_msg _ hm) (hlog.snoc_msg (List.getElem?_eq_getElem hx))
        (by rw [hlen1]; exact Nat.le_refl _) (by simp only; omega) hnext trivial
        fun hr => by
          simp only at hr ⊢
          exact { inv with
            hret := by rw [hlen1, List.take_succ_eq_append_getElem hx, ← inv.hret]
            hr := by rw [hlen1]; exact hnext
            hspace := by rw [hlen1, hsucc]; omega
            hcontent := by rw [hlen1]; exact inv.hcontent.mono (by rw [hsucc]; omega) (Nat.le_refl _)
            hreader := hr }

theorem step_invL {frame : Bytes → Nat} {IsMsg : Bytes → Prop} (fr : Framing frame IsMsg)
    {s s' : Conc} {e : Ev} (t : Tid) (I : InvL frame IsMsg s) (h : s.step frame t = some (s', e)) :
    InvL frame IsMsg s' := by
  cases t with
  | writer => exact wStep_invL fr I h
  | reader => exact rStep_invL fr I h

theorem init_invL {frame : Bytes → Nat} {IsMsg : Bytes → Prop} (maxMsg nmsgs chunk : Nat)
    (wops : List WOp) (rops : List ROp) (hN : 0 < maxMsg * nmsgs) (hops : ∀ op, op ∈ wops → IsMsg op.msg) :
    InvL frame IsMsg (Conc.init frame maxMsg nmsgs chunk wops rops) := by
  refine InvL.intro (P' := []) (Rt' := []) (L' := 0) (wSkip_spec frame maxMsg wops []).1 rfl rfl (LogOk.nil _)
    (Nat.le_refl _) (Nat.le_refl _) (by show 0 = offs [] 0 % _; rw [offs_zero, Nat.zero_mod]) trivial fun hr => ?_
  show InvC frame IsMsg (maxMsg * nmsgs) maxMsg (List.replicate (maxMsg * nmsgs) 0) 0 0
    (wSkip frame maxMsg wops []).1 .idle [] .idle 0 (List.replicate maxMsg 0) [] false
  refine InvC.skip ?_ hops []
  exact {
    hN := hN, hbuf := by simp, hrbuf := by simp, hfault := rfl
    hops := nofun, hnorm := nofun, hwpc := nofun
    hP := nofun
    hret := rfl
    hw := by simp
    hr := by simp [offs]
    hspace := by simp [offs, WPc.inflight]; omega
    hcontent := by intro i h1 h2; simp [WPc.prog] at h2
    hreader := hr }

theorem writer_pos {frame : Bytes → Nat} {IsMsg : Bytes → Prop} {s : Conc} (inv : Inv frame IsMsg s)
    {o : Nat} (hw : o ∈ s.writerWrites) :
    ∃ p, (pubOf s.wlog).flatten.length ≤ p ∧
      p < (pubOf s.wlog).flatten.length + s.wpc.inflight.length ∧ p % s.N = o := by
  have hsp := inv.hspace
  have hoffC := offs_le_total (pubOf s.wlog) (retOf s.rlog).length
  unfold Conc.writerWrites at hw
  cases hpc : s.wpc with
  | idle => rw [hpc] at hw; simp at hw
  | copying m data k =>
    rw [hpc] at hw hsp
    simp only [WPc.inflight] at hw hsp ⊢
    obtain ⟨p, h1, h2, h3⟩ := mem_chunk_pos inv.hN (by omega) (inv.hw ▸ hw)
    exact ⟨p, Nat.le_of_add_right_le h1, h2, h3⟩

theorem reader_pos {frame : Bytes → Nat} {IsMsg : Bytes → Prop} {s : Conc} (inv : Inv frame IsMsg s)
    {o : Nat} (hr : o ∈ s.readerReads) :
    ∃ q, offs (pubOf s.wlog) (retOf s.rlog).length ≤ q ∧ q < (pubOf s.wlog).flatten.length ∧
      q % s.N = o := by
  have hN := inv.hN
  have hsp := inv.hspace
  obtain ⟨L, hL1, hL2, hL3, hL4⟩ := inv.hreader
  unfold Conc.readerReads at hr
  cases hrpc : s.rpc with
  | idle => rw [hrpc] at hr; simp at hr
  | framing l wv =>
    rw [hrpc] at hr hL4
    simp only at hr
    obtain ⟨j, hj1, -, hj3⟩ := hL4
    obtain ⟨hXC, hxX⟩ := inv.cursor hL1 hL3 l
    generalize (if l = true then L else (retOf s.rlog).length) = X at *
    generalize (if l = true then s.la else s.r) = x at *
    have ho1 : offs (pubOf s.wlog) (retOf s.rlog).length ≤ offs (pubOf s.wlog) X := offs_mono hXC
    have ho2 : offs (pubOf s.wlog) X ≤ offs (pubOf s.wlog) j := offs_mono hj1
    have ho3 : offs (pubOf s.wlog) j ≤ (pubOf s.wlog).flatten.length := offs_le_total _ _
    rw [hxX, hj3, readSize_of_le hN ho2 (by omega)] at hr
    obtain ⟨i', hi', he⟩ := List.mem_map.mp hr
    have hi' : i' < _ := List.mem_range.mp hi'
    rw [Nat.mod_add_mod] at he
    exact ⟨_, by omega, by omega, he⟩
  | copying l len k' =>
    rw [hrpc] at hr hL4
    simp only at hr
    obtain ⟨-, hmsg⟩ := hL4
    obtain ⟨hXC, hxX⟩ := inv.cursor hL1 hL3 l
    generalize (if l = true then L else (retOf s.rlog).length) = X at *
    generalize (if l = true then s.la else s.r) = x at *
    have ho1 : offs (pubOf s.wlog) (retOf s.rlog).length ≤ offs (pubOf s.wlog) X := offs_mono hXC
    rcases hmsg with h0 | ⟨hx, hlen, -⟩
    · subst h0; simp at hr
    have htot := getElem_length_le_total hx
    obtain ⟨p, h1, h2, h3⟩ := mem_chunk_pos (A := offs (pubOf s.wlog) X) hN (by omega) (hxX ▸ hr)
    exact ⟨p, by omega, by omega, h3⟩

/-- no byte of the ring is written by the writer's next step and read by the reader's: the positions the
    writer is filling lie above everything published, the reader's below, and less than a ring apart -/
theorem inv_drf {frame : Bytes → Nat} {IsMsg : Bytes → Prop} {s : Conc} (inv : Inv frame IsMsg s)
    (o : Nat) (hw : o ∈ s.writerWrites) (hr : o ∈ s.readerReads) : False := by
  obtain ⟨p, hp1, hp2, rfl⟩ := writer_pos inv hw
  obtain ⟨q, hq1, hq2, he⟩ := reader_pos inv hr
  have hsp := inv.hspace
  exact mod_ne_of_lt_of_lt (by omega) (by omega) he

theorem inv_readSize_at {frame : Bytes → Nat} {IsMsg : Bytes → Prop} (fr : Framing frame IsMsg)
    {s : Conc} (inv : Inv frame IsMsg s) {X x : Nat} (hCX : (retOf s.rlog).length ≤ X)
    (hXP : X ≤ (pubOf s.wlog).length) (hx : x = offs (pubOf s.wlog) X % s.N) :
    readSize s.w x s.N ≠ 0 ↔ X < (pubOf s.wlog).length := by
  have ho1 : offs (pubOf s.wlog) (retOf s.rlog).length ≤ offs (pubOf s.wlog) X := offs_mono hCX
  have hsp := inv.hspace
  rw [inv.hw, hx]
  exact readSize_ne_zero_iff (fun m hm => fr.ne m (inv.hP m hm).1) inv.hN hXP (by omega)

def WPc.msgs : WPc → List Bytes
  | .copying m _ _ => [m]
  | .idle => []

/-- messages given to the writer: already logged, in progress, still to come -/
def Conc.allMsgs (s : Conc) : List Bytes :=
  s.wlog.map (·.1) ++ s.wpc.msgs ++ s.wops.map WOp.msg

/-- every message handed to the writer (`msgs0`) is logged once, in order, or still to come -/
structure Acct (s : Conc) (msgs0 : List Bytes) : Prop where
  hall : s.allMsgs = msgs0
  hdata : ∀ m d k, s.wpc = .copying m d k → d = [] ∨ d = m

theorem wSkip_msgs (frame : Bytes → Nat) (maxMsg : Nat) (ops : List WOp) (log : List (Bytes × Bool)) :
    (wSkip frame maxMsg ops log).2.map (·.1) ++ (wSkip frame maxMsg ops log).1.map WOp.msg =
      log.map (·.1) ++ ops.map WOp.msg := by
  induction ops generalizing log with
  | nil => simp [wSkip]
  | cons op ops ih =>
    cases op with
    | write m => simp [wSkip]
    | rawWrite b =>
      unfold wSkip
      by_cases h : frame b ≤ maxMsg
      · rw [if_pos h]
      · rw [if_neg h, ih]; simp [WOp.msg]

theorem rStep_writer {frame : Bytes → Nat} {s s' : Conc} {e : Ev} (h : s.rStep frame = some (s', e)) :
    s'.wlog = s.wlog ∧ s'.wpc = s.wpc ∧ s'.wops = s.wops ∧ s'.N = s.N ∧ ∃ ext, s'.rlog = s.rlog ++ ext := by
  cases rStep_act h with
  | hasNext | frameNone | copyLast | store => exact ⟨rfl, rfl, rfl, rfl, _, rfl⟩
  | load | frame | copy => exact ⟨rfl, rfl, rfl, rfl, [], (List.append_nil _).symm⟩

theorem allMsgs_wNext (frame : Bytes → Nat) (s : Conc) (ops : List WOp) (entry : Bytes × Bool) :
    (s.wNext frame ops entry).allMsgs = s.wlog.map (·.1) ++ entry.1 :: ops.map WOp.msg := by
  show (wSkip frame s.maxMsg ops (s.wlog ++ [entry])).2.map (·.1) ++ [] ++
    (wSkip frame s.maxMsg ops (s.wlog ++ [entry])).1.map WOp.msg = _
  rw [List.append_nil, wSkip_msgs, List.map_append, List.append_assoc]; rfl

theorem wData_fst (frame : Bytes → Nat) (maxMsg : Nat) (op : WOp) : (wData frame maxMsg op).1 = op.msg := by
  cases op <;> rfl

theorem wStep_acct {frame : Bytes → Nat} {IsMsg : Bytes → Prop} (fr : Framing frame IsMsg)
    {s s' : Conc} {e : Ev} {msgs0 : List Bytes} (inv : Inv frame IsMsg s)
    (ac : Acct s msgs0) (h : s.wStep frame = some (s', e)) : Acct s' msgs0 := by
  obtain ⟨hall, hdata⟩ := ac
  unfold Conc.allMsgs at hall
  cases wStep_act h with
  | @accept op rest hpc hop hfit =>
    rw [hpc, hop] at hall
    refine ⟨?_, ?_⟩
    · rw [← hall]
      simp [Conc.allMsgs, WPc.msgs, wData_fst]
    · intro m d k hk
      cases hk
      rw [wData_eq fr (inv.hops op (hop ▸ List.mem_cons_self)) fun b hb => inv.hnorm hpc b rest (by rw [hop, hb])]
      by_cases hmx : op.msg.length ≤ s.maxMsg
      · rw [if_pos hmx]; exact Or.inr rfl
      · rw [if_neg hmx]; exact Or.inl rfl
  | @reject op rest hpc hop hfit =>
    rw [hpc, hop] at hall
    refine ⟨?_, nofun⟩
    rw [allMsgs_wNext, ← hall, wData_fst]; simp [WPc.msgs]
  | @copy m data k off c hpc hk hoc =>
    rw [hpc] at hall
    refine ⟨hall, ?_⟩
    intro m' d' k' hk'
    cases hk'
    exact hdata m data k hpc
  | @publish m data k hpc hk =>
    rw [hpc] at hall
    have hentry : (if data = [] then (m, false) else (data, true)).1 = m := by
      split
      · rfl
      · exact ((hdata m data k hpc).resolve_left ‹_›)
    refine ⟨?_, nofun⟩
    rw [allMsgs_wNext, hentry, ← hall]; simp [WPc.msgs]

theorem step_acct {frame : Bytes → Nat} {IsMsg : Bytes → Prop} (fr : Framing frame IsMsg)
    {s s' : Conc} {e : Ev} {msgs0 : List Bytes} (t : Tid) (inv : Inv frame IsMsg s)
    (ac : Acct s msgs0) (h : s.step frame t = some (s', e)) : Acct s' msgs0 := by
  cases t with
  | reader =>
    obtain ⟨h1, h2, h3, -⟩ := rStep_writer h
    exact ⟨by unfold Conc.allMsgs; rw [h1, h2, h3]; exact ac.hall, by rw [h2]; exact ac.hdata⟩
  | writer => exact wStep_acct fr inv ac h

theorem init_acct (frame : Bytes → Nat) (maxMsg nmsgs chunk : Nat) (wops : List WOp) (rops : List ROp) :
    Acct (Conc.init frame maxMsg nmsgs chunk wops rops) (wops.map WOp.msg) := by
  have := wSkip_msgs frame maxMsg wops []
  unfold Conc.init
  generalize wSkip frame maxMsg wops [] = sk at this
  obtain ⟨ops, log⟩ := sk
  refine ⟨?_, nofun⟩
  unfold Conc.allMsgs
  simpa [WPc.msgs] using this

theorem reach_invL {frame : Bytes → Nat} {IsMsg : Bytes → Prop} (fr : Framing frame IsMsg)
    {s0 s : Conc} {msgs0 : List Bytes} (h0 : InvL frame IsMsg s0) (a0 : Acct s0 msgs0)
    (h : Conc.Reach frame s0 s) : InvL frame IsMsg s ∧ Acct s msgs0 :=
  h.invariant (I := fun s => InvL frame IsMsg s ∧ Acct s msgs0) ⟨h0, a0⟩
    fun t I hs => ⟨step_invL fr t I.1 hs, step_acct fr t I.1.inv I.2 hs⟩

theorem reach_init {frame : Bytes → Nat} {IsMsg : Bytes → Prop} (fr : Framing frame IsMsg)
    {maxMsg nmsgs chunk : Nat} (hN : 0 < maxMsg * nmsgs) {wops : List WOp} {rops : List ROp}
    (hops : ∀ op, op ∈ wops → IsMsg op.msg) {s : Conc}
    (h : Conc.Reach frame (Conc.init frame maxMsg nmsgs chunk wops rops) s) :
    InvL frame IsMsg s ∧ Acct s (wops.map WOp.msg) :=
  reach_invL fr (init_invL maxMsg nmsgs chunk wops rops hN hops) (init_acct frame maxMsg nmsgs chunk wops rops) h

theorem Acct.published_sublist {s : Conc} {msgs0 : List Bytes} (ac : Acct s msgs0) :
    s.published.Sublist msgs0 := by
  rw [← ac.hall]
  unfold Conc.published pubOf Conc.allMsgs
  rw [List.append_assoc]
  exact List.Sublist.trans (List.Sublist.map _ List.filter_sublist) (List.sublist_append_left _ _)

end Rtosc.Ring
