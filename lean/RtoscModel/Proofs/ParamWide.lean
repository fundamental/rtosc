/-
  C14 — lemmas about the wide integer callbacks of RtoscModel/Param/Wide.lean: they extend
  `intCb` conservatively, and the repaired `rLIMIT` is the mathematical clamp whenever the
  declared bounds are values of the type the comparison is made in.
-/
import RtoscModel.Proofs.ParamLemmas
namespace Rtosc.Param
open Rtosc

theorem CTy.modulus_eq (t : CTy) : t.modulus = t.max - t.min + 1 := by cases t <;> rfl

theorem CTy.min_le_max (t : CTy) : t.min ≤ t.max := by cases t <;> decide

theorem CTy.wrap_of_inRange (t : CTy) (v : Int) (h : t.InRange v) : t.wrap v = v := by
  rw [CTy.wrap, CTy.modulus_eq]; exact wrapInto_of_mem h

theorem CTy.wrap_inRange (t : CTy) (v : Int) : t.InRange (t.wrap v) := by
  rw [CTy.InRange, CTy.wrap, CTy.modulus_eq]; exact wrapInto_mem t.min_le_max v

theorem CTy.Sub.inRange {a b : CTy} (h : a.Sub b) {v : Int} (hv : a.InRange v) : b.InRange v :=
  ⟨Int.le_trans h.1 hv.1, Int.le_trans hv.2 h.2⟩

theorem CTy.sub_refl (a : CTy) : a.Sub a := by unfold CTy.Sub; omega

theorem CTy.sub_prom (a : CTy) : a.Sub a.prom := by
  unfold CTy.Sub; cases a <;> simp [CTy.prom, CTy.min, CTy.max]

theorem CTy.ofIntTy_wrap (t : IntTy) (v : Int) : (CTy.ofIntTy t).wrap v = t.wrap v := by
  cases t <;> rfl

theorem CTy.ofIntTy_inRange (t : IntTy) (v : Int) : (CTy.ofIntTy t).InRange v ↔ t.InRange v := by
  cases t <;> exact Iff.rfl

theorem CTy.ofIntTy_prom (t : IntTy) : (CTy.ofIntTy t).prom = .i32 := by cases t <;> rfl

theorem CTy.i32_wrap (v : Int) : CTy.i32.wrap v = IntTy.i32.wrap v := rfl

theorem w32_of_inRange (v : Int) (h : IntTy.i32.InRange v) : w32 v = v := IntTy.wrap_of_inRange _ _ h

theorem limitIntW_ofIntTy (t : IntTy) (lo hi : Option Int) (v : Int)
    (hlo : ∀ l, lo = some l → IntTy.i32.InRange l) (hhi : ∀ h, hi = some h → IntTy.i32.InRange h) :
    limitIntW (CTy.ofIntTy t) lo hi v = limitInt t lo hi v := by
  have e : ∀ b, IntTy.i32.InRange b → (CTy.ofIntTy t).prom.wrap b = b := by
    intro b hb; rw [CTy.ofIntTy_prom, CTy.i32_wrap]; exact IntTy.wrap_of_inRange _ _ hb
  cases lo with
  | none =>
    cases hi with
    | none => rfl
    | some h => simp only [limitIntW, limitInt, e h (hhi h rfl), CTy.ofIntTy_wrap]
  | some l =>
    cases hi with
    | none => simp only [limitIntW, limitInt, e l (hlo l rfl), CTy.ofIntTy_wrap]
    | some h => simp only [limitIntW, limitInt, e l (hlo l rfl), e h (hhi h rfl), CTy.ofIntTy_wrap]

/-- what `rLIMIT` leaves in a variable of type `ty` is a value of `ty` -/
theorem limitIntW_inRange (ty : CTy) (lo hi : Option Int) (v : Int) (hv : ty.InRange v) :
    ty.InRange (limitIntW ty lo hi v) :=
  limitConv_mem (c := ty.prom.wrap) lo hi hv (CTy.wrap_inRange ty)

theorem limitIntW_cases (ty : CTy) (lo hi : Option Int) (v : Int) :
    limitIntW ty lo hi v = v ∨ (∃ l, lo = some l ∧ limitIntW ty lo hi v = ty.wrap l) ∨
      (∃ h, hi = some h ∧ limitIntW ty lo hi v = ty.wrap h) :=
  limitConv_cases ty.prom.wrap ty.wrap lo hi v

/-- **the repaired `rLIMIT` is the mathematical clamp** for every C integer type, when the
    declared bounds are values of the type the comparison is made in (`decltype(var+0)`), the
    declared range meets the variable's type and minimum ≤ maximum. -/
theorem limitIntW_eq_limit (ty : CTy) (lo hi : Option Int) (v : Int) (hv : ty.InRange v)
    (hlo : ∀ l, lo = some l → ty.prom.InRange l ∧ l ≤ ty.max)
    (hhi : ∀ h, hi = some h → ty.prom.InRange h ∧ ty.min ≤ h)
    (hord : ∀ l h, lo = some l → hi = some h → l ≤ h) :
    limitIntW ty lo hi v = limit intOps lo hi v :=
  limitConv_eq_limit (c := ty.prom.wrap) (w := ty.wrap) hv
    (fun l h => CTy.wrap_of_inRange _ _ (hlo l h).1) (fun h hh => CTy.wrap_of_inRange _ _ (hhi h hh).1)
    (CTy.wrap_of_inRange ty) (fun l h => (hlo l h).2) (fun h hh => (hhi h hh).2)

theorem intCbW_set (varTy storeTy : CTy) (tag : Int → Arg) (pm : Meta.Ptr) (loc : Bytes) (old : Int)
    {a : Arg} (args : List Arg) {raw : Int} {lo hi : Option Int}
    (harg : argI a = .ok raw) (hmn : bound atoi pm kMin = .ok lo) (hmx : bound atoi pm kMax = .ok hi) :
    intCbW varTy storeTy tag pm loc old (a :: args) =
      let var := limitIntW varTy lo hi (varTy.wrap raw)
      .ok (storeTy.wrap var,
        undoEvent intOps (varTy.wrap old) var loc (tag (w32 (varTy.wrap old))) (tag (w32 var)) ++
          [broadcast loc [tag (w32 (storeTy.wrap var))]]) := by
  simp only [intCbW, harg, hmn, hmx, bind, Except.bind, pure, Except.pure]

theorem intCbW_set_result (varTy storeTy : CTy) (tag : Int → Arg) (pm : Meta.Ptr) (loc : Bytes)
    (old raw new : Int) (a : Arg) (args : List Arg) (lo hi : Option Int) (ev : List Event)
    (harg : argI a = .ok raw) (hsub : varTy.Sub storeTy)
    (hmn : bound atoi pm kMin = .ok lo) (hmx : bound atoi pm kMax = .ok hi)
    (hres : intCbW varTy storeTy tag pm loc old (a :: args) = .ok (new, ev)) :
    new = limitIntW varTy lo hi (varTy.wrap raw) ∧
    ev = undoEvent intOps (varTy.wrap old) new loc (tag (w32 (varTy.wrap old))) (tag (w32 new))
          ++ [broadcast loc [tag (w32 new)]] := by
  have hvr : varTy.InRange (limitIntW varTy lo hi (varTy.wrap raw)) :=
    limitIntW_inRange varTy lo hi _ (CTy.wrap_inRange varTy raw)
  have hs := CTy.wrap_of_inRange _ _ (hsub.inRange hvr)
  rw [intCbW_set varTy storeTy tag pm loc old args harg hmn hmx] at hres
  simp only [hs, Except.ok.injEq, Prod.mk.injEq] at hres
  obtain ⟨h1, h2⟩ := hres
  subst h1
  exact ⟨rfl, h2.symm⟩

/-- **conservative extension**: on `char`, `unsigned char`, `short`, `int` the wide callback is
    the callback of Param/Sugar.lean that the `param` engine executes -/
theorem intCbW_eq_intCb (varTy storeTy : IntTy) (tag : Int → Arg) (pm : Meta.Ptr) (loc : Bytes)
    (old : Int) (args : List Arg) :
    intCbW (CTy.ofIntTy varTy) (CTy.ofIntTy storeTy) tag pm loc old args =
      intCb varTy storeTy tag pm loc old args := by
  cases args with
  | nil => rfl
  | cons a rest =>
    simp only [intCbW, intCb, bind, Except.bind]
    cases argI a with
    | error e => rfl
    | ok raw =>
      simp only
      cases hmn : bound atoi pm kMin with
      | error e => rfl
      | ok lo =>
        simp only
        cases hmx : bound atoi pm kMax with
        | error e => rfl
        | ok hi =>
          have hlo : ∀ l, lo = some l → IntTy.i32.InRange l := fun l hl => atoiBound_i32 (by rw [hmn, hl])
          have hhi : ∀ h, hi = some h → IntTy.i32.InRange h := fun h hh => atoiBound_i32 (by rw [hmx, hh])
          have h1 : w32 (varTy.wrap old) = varTy.wrap old :=
            w32_of_inRange _ ((IntTy.sub_i32 varTy).inRange (IntTy.wrap_inRange varTy old))
          simp only [pure, Except.pure, CTy.ofIntTy_wrap, limitIntW_ofIntTy varTy lo hi _ hlo hhi, h1]
          rfl

end Rtosc.Param
