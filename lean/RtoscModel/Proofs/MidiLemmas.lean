/-
  C20 — lemmas about the pieces of the MIDI-mapper model, none of them under an invariant: the
  association list `inv_map`, `killMap`, what `handleCC` of a snapshot and of the realtime half, the
  `midi-bind` port, `unMap`, `map`, `useFreeID` do case by case, and from these ONE description of a step
  of the system: `Step` (`step_iff`: it is the executable `step`), in which the four operations of the
  non-realtime half are one case (`NrtStep`) with one statement of what they send and keep (`NrtSends`).
  Later proofs are case distinctions over `Step`; none unfolds `step`, `handleCC`, the `midi-bind` port, `unMap`,
  `map` or `useFreeID` again.  Last, the text of a declared port's name (`padText_no_colon`).  Core Lean only.
-/
import RtoscModel.MidiSpec
namespace Rtosc.Midi

theorem digits_of_lt {a r : Nat} (x : Nat) (hr : r < a) : (x * a + r) / a = x ∧ (x * a + r) % a = r := by
  rw [Nat.mul_comm, Nat.mul_add_div (by omega), Nat.mul_add_mod, Nat.div_eq_of_lt hr, Nat.mod_eq_of_lt hr]
  exact ⟨rfl, rfl⟩

theorem imLookup_imErase (m : List (Nat × Imap)) (a b : Nat) :
    imLookup (imErase m a) b = if b = a then none else imLookup m b := by
  -- looking up `b` among the entries other than `a`: one scan with both tests
  simp only [imLookup, imErase, List.find?_filter]
  split
  · rename_i h
    rw [List.find?_eq_none.mpr (by intro p _; simp [h])]; rfl
  · rename_i h
    congr 2; funext p
    by_cases hp : p.1 = b
    · simp [hp, h]
    · simp [hp]

theorem imLookup_imSet (m : List (Nat × Imap)) (a : Nat) (v : Imap) (b : Nat) :
    imLookup (imSet m a v) b = if b = a then some v else imLookup m b := by
  by_cases h : b = a
  · subst h; simp [imSet, imLookup]
  · have h' : ¬ a = b := fun e => h e.symm
    have := imLookup_imErase m a b
    simp only [imLookup] at this
    simp [imSet, imLookup, h, h', this]

@[simp] theorem ids_nil : ids [] = [] := rfl
@[simp] theorem ids_cons (e : MapEnt) (m) : ids (e :: m) = e.id :: ids m := rfl
@[simp] theorem ids_append (a b : List MapEnt) : ids (a ++ b) = ids a ++ ids b := by simp [ids]
theorem mem_ids {m : List MapEnt} {c : Nat} : c ∈ ids m ↔ ∃ e ∈ m, e.id = c := by simp [ids]

theorem not_mem_ids_of_find?_none {m : List MapEnt} {id : Nat}
    (h : m.find? (fun e => e.id == id) = none) : id ∉ ids m := by
  intro hm
  obtain ⟨e, he, hid⟩ := mem_ids.mp hm
  have := List.find?_eq_none.mp h e he
  simp [hid] at this

theorem find?_none_of_not_mem_ids {m : List MapEnt} {id : Nat} (h : id ∉ ids m) :
    m.find? (fun e => e.id == id) = none := by
  rw [List.find?_eq_none]; intro x hx hh; simp at hh; exact h (mem_ids.mpr ⟨x, hx, hh⟩)

theorem filter_length_unique {m : List MapEnt} {c : Nat} (nd : (ids m).Nodup) (h : c ∈ ids m) :
    (m.filter (fun e => e.id != c)).length + 1 = m.length := by
  induction m with
  | nil => simp at h
  | cons e t ih =>
    simp only [ids_cons, List.nodup_cons] at nd
    by_cases he : e.id = c
    · subst he
      simp [List.filter_eq_self.mpr fun e he => bne_iff_ne.mpr fun hc => nd.1 (mem_ids.mpr ⟨e, he, hc⟩)]
    · simp only [ids_cons, List.mem_cons] at h
      have ht : c ∈ ids t := by
        rcases h with h | h
        · exact absurd h.symm he
        · exact h
      simp [he, ih nd.2 ht]

/-- With pairwise distinct controller IDs, `killMap` of a present ID removes exactly that
    entry (no overflow, no junk cell). -/
theorem killMap_unique {m : List MapEnt} {c : Nat} (nd : (ids m).Nodup) (h : c ∈ ids m) :
    killMap c m = some (m.filter (fun e => e.id != c)) := by
  have hl := filter_length_unique nd h
  have hm : m.length ≠ 0 := by omega
  unfold killMap
  simp only [hm, ↓reduceIte]
  have : ¬ (m.filter (fun e => e.id != c)).length > m.length - 1 := by omega
  simp only [this, ↓reduceIte]
  have : m.length - 1 - (m.filter (fun e => e.id != c)).length = 0 := by omega
  simp [this]

theorem ids_filter_sublist (m : List MapEnt) (p : MapEnt → Bool) : (ids (m.filter p)).Sublist (ids m) :=
  List.Sublist.map _ List.filter_sublist

theorem find?_of_mem_nodup {m : List MapEnt} {e : MapEnt} (nd : (ids m).Nodup) (h : e ∈ m) :
    m.find? (fun x => x.id == e.id) = some e := by
  induction m with
  | nil => simp at h
  | cons x t ih =>
    simp only [ids_cons, List.nodup_cons] at nd
    simp only [List.mem_cons] at h
    rcases h with rfl | h
    · simp
    · have : x.id ≠ e.id := fun hx => nd.1 (hx ▸ mem_ids.mpr ⟨e, h, rfl⟩)
      simp [this, ih nd.2 h]

theorem eq_of_mem_nodup {m : List MapEnt} {e1 e2 : MapEnt} (nd : (ids m).Nodup)
    (h1 : e1 ∈ m) (h2 : e2 ∈ m) (h : e1.id = e2.id) : e1 = e2 := by
  have a := find?_of_mem_nodup nd h1
  have b := find?_of_mem_nodup nd h2
  rw [h] at a; rw [a] at b; exact Option.some.inj b

theorem Storage.handleCC_of_find_none {st : Storage} {id : Nat} (val : Nat)
    (h : st.mapping.find? (fun m => m.id == id) = none) : st.handleCC id val = some (st, none) := by
  simp only [Storage.handleCC, h]

theorem Storage.handleCC_of_find_some {st : Storage} {id : Nat} {e : MapEnt} {old : Nat} {cb : Cb} (val : Nat)
    (h : st.mapping.find? (fun m => m.id == id) = some e) (hv : st.values[e.slot]? = some old)
    (hc : st.callbacks[e.slot]? = some cb) :
    st.handleCC id val = some ({ st with values := st.values.set e.slot (blit e.coarse val old) },
      some (cb.fire (blit e.coarse val old))) := by
  simp only [Storage.handleCC, h, hv, hc]

theorem Storage.handleCC_hit {st st' : Storage} {id val : Nat} {e : MapEnt} {m : Msg}
    (hf : st.mapping.find? (fun m => m.id == id) = some e) (h : st.handleCC id val = some (st', some m)) :
    ∃ old cb, st.values[e.slot]? = some old ∧ st.callbacks[e.slot]? = some cb ∧
      st' = { st with values := st.values.set e.slot (blit e.coarse val old) } ∧
      m = cb.fire (blit e.coarse val old) := by
  cases hv : st.values[e.slot]? <;> cases hc : st.callbacks[e.slot]? <;>
    simp only [Storage.handleCC, hf, hv, hc, reduceCtorEq, Option.some.injEq, Prod.mk.injEq] at h
  obtain ⟨rfl, rfl⟩ := h
  exact ⟨_, _, rfl, rfl, rfl, rfl⟩

theorem RT.handleCC_handled {r : RT} {st st' : Storage} {id val : Nat} {m : Msg} (hs : r.storage = some st)
    (h : st.handleCC id val = some (st', some m)) :
    r.handleCC id val = some ({ r with storage := some st' }, some m, none) := by
  simp only [RT.handleCC, hs, h, Option.map_some]

theorem RT.handleCC_unhandled {r : RT} {id val : Nat}
    (h : ∀ st, r.storage = some st → st.mapping.find? (fun m => m.id == id) = none) :
    r.handleCC id val =
      if !r.pending.contains id ∧ r.watch ≠ 0 then
        some ({ r with pending := pendInsert r.pending id, watch := r.watch - 1 }, none, some id)
      else some (r, none, none) := by
  obtain ⟨sto, p, w⟩ := r
  cases sto with
  | none => rfl
  | some st => simp only [RT.handleCC, Storage.handleCC_of_find_none val (h st rfl), Option.map_some]

theorem RT.entry_cases (r : RT) (id : Nat) :
    (∀ st, r.storage = some st → st.mapping.find? (fun m => m.id == id) = none) ∨
    ∃ st e, r.storage = some st ∧ st.mapping.find? (fun m => m.id == id) = some e := by
  cases hs : r.storage with
  | none => exact Or.inl fun st h => by cases h
  | some st =>
    cases hf : st.mapping.find? (fun m => m.id == id) with
    | none => exact Or.inl fun st' h => by cases h; exact hf
    | some e => exact Or.inr ⟨st, e, rfl, hf⟩

theorem Storage.cloneValues_some {n old n' : Storage} (h : n.cloneValues old = some n') :
    ∃ v, cloneOuter old n.mapping (List.replicate n.values.length 0) = some v ∧ n' = { n with values := v } := by
  unfold Storage.cloneValues at h
  split at h
  · cases h
  · rename_i v hv; exact ⟨v, hv, (Option.some.inj h).symm⟩

theorem Storage.cloneValues_of {n old : Storage} {v : List Nat}
    (h : cloneOuter old n.mapping (List.replicate n.values.length 0) = some v) :
    n.cloneValues old = some { n with values := v } := by
  simp only [Storage.cloneValues, h]

def sel (k : Bool) (im : Imap) : Option Nat := if k then im.coarse else im.fine

/-- `inv_map` after `unMap(a,k)` found the entry `im` -/
def unMapInv (m : List (Nat × Imap)) (a : Nat) (k : Bool) (im : Imap) : List (Nat × Imap) :=
  let im' : Imap := if k then { im with coarse := none } else { im with fine := none }
  if im'.coarse = none ∧ im'.fine = none then imErase m a else imSet m a im'

theorem NRT.unMap_of_absent {n : NRT} {a : Nat} (k : Bool) (hl : imLookup n.invMap a = none) :
    n.unMap a k = some (n, []) := by
  simp [NRT.unMap, hl]

theorem NRT.unMap_of_unbound {n : NRT} {a : Nat} {k : Bool} {im : Imap} (hl : imLookup n.invMap a = some im)
    (hs : sel k im = none) : n.unMap a k = some ({ n with invMap := unMapInv n.invMap a k im }, []) := by
  cases k <;> simp_all [NRT.unMap, sel, unMapInv]

theorem NRT.unMap_of_bound {n : NRT} {a : Nat} {k : Bool} {im : Imap} {c : Nat} {st : Storage} {mp : List MapEnt}
    (hl : imLookup n.invMap a = some im) (hs : sel k im = some c) (hst : n.storage = some st)
    (hk : killMap c st.mapping = some mp) :
    n.unMap a k = some
      ({ n with invMap := unMapInv n.invMap a k im,
                storage := some ⟨mp, st.callbacks, List.replicate st.values.length 0⟩ },
       [.bind ⟨mp, st.callbacks, List.replicate st.values.length 0⟩ none]) := by
  cases k <;> simp_all [NRT.unMap, sel, unMapInv, Storage.clone]

theorem NRT.map_of_queued {n : NRT} {a : Nat} {k : Bool} (h : (a, k) ∈ n.learnQ) : n.map a k = some (n, []) := by
  have : n.learnQ.any (fun x => x.1 == a && x.2 == k) = true := by
    simp only [List.any_eq_true]; exact ⟨(a, k), h, by simp⟩
  simp [NRT.map, this]

theorem NRT.map_of_fresh {n n1 : NRT} {a : Nat} {k : Bool} {ms : List RtMsg} (h : (a, k) ∉ n.learnQ)
    (hu : n.unMap a k = some (n1, ms)) :
    n.map a k = some ({ n1 with learnQ := n1.learnQ ++ [(a, k)] }, ms ++ [.addWatch]) := by
  have : n.learnQ.any (fun x => x.1 == a && x.2 == k) = false := by
    simp only [List.any_eq_false]
    intro x hx hh; simp at hh
    apply h; obtain ⟨h1, h2⟩ := hh; cases x; simp_all
  simp [NRT.map, this, hu]

theorem NRT.unMap_sent {n n' : NRT} {a k ms} (h : n.unMap a k = some (n', ms)) :
    n'.learnQ = n.learnQ ∧
    ((ms = [] ∧ n'.storage = n.storage) ∨
      ∃ st mp, n.storage = some st ∧
        n'.storage = some ⟨mp, st.callbacks, List.replicate st.values.length 0⟩ ∧
        ms = [.bind ⟨mp, st.callbacks, List.replicate st.values.length 0⟩ none]) := by
  cases hl : imLookup n.invMap a with
  | none => simp [NRT.unMap, hl] at h; obtain ⟨rfl, rfl⟩ := h; exact ⟨rfl, Or.inl ⟨rfl, rfl⟩⟩
  | some im =>
    cases hk : (if k then im.coarse else im.fine) with
    | none =>
      simp only [NRT.unMap, hl, hk] at h
      simp at h; obtain ⟨rfl, rfl⟩ := h; exact ⟨rfl, Or.inl ⟨rfl, rfl⟩⟩
    | some kid =>
      simp only [NRT.unMap, hl, hk] at h
      cases hs : n.storage with
      | none => simp [hs] at h
      | some st =>
        cases hkm : killMap kid st.mapping with
        | none => simp [hs, hkm] at h
        | some mp =>
          simp [hs, hkm] at h; obtain ⟨rfl, rfl⟩ := h
          exact ⟨rfl, Or.inr ⟨st, mp, rfl, rfl, rfl⟩⟩

theorem NRT.map_sent {n n' : NRT} {a k ms} (h : n.map a k = some (n', ms)) :
    (n' = n ∧ ms = []) ∨
    ∃ n1 ms1, n.unMap a k = some (n1, ms1) ∧ n' = { n1 with learnQ := n1.learnQ ++ [(a, k)] } ∧
      ms = ms1 ++ [.addWatch] := by
  unfold NRT.map at h
  split at h
  · cases h; exact Or.inl ⟨rfl, rfl⟩
  · cases hu : n.unMap a k with
    | none => simp [hu] at h
    | some r =>
      obtain ⟨n1, ms1⟩ := r
      simp only [hu] at h; cases h
      exact Or.inr ⟨n1, ms1, rfl, rfl, rfl⟩

def omap (o : Option Storage) : List MapEnt := match o with | none => [] | some st => st.mapping
def NRT.mapping (n : NRT) : List MapEnt := omap n.storage
def NRT.callbacks (n : NRT) : List Cb := match n.storage with | none => [] | some st => st.callbacks

theorem NRT.mapping_eq {n : NRT} {st : Storage} (h : n.storage = some st) : n.mapping = st.mapping := by
  simp only [NRT.mapping, omap, h]
theorem NRT.mapping_none {n : NRT} (h : n.storage = none) : n.mapping = [] := by simp only [NRT.mapping, omap, h]
theorem NRT.callbacks_eq {n : NRT} {st : Storage} (h : n.storage = some st) : n.callbacks = st.callbacks := by
  simp only [NRT.callbacks, h]
theorem NRT.callbacks_none {n : NRT} (h : n.storage = none) : n.callbacks = [] := by simp only [NRT.callbacks, h]

theorem NRT.mapping_congr {n n' : NRT} (h : n'.storage = n.storage) : n'.mapping = n.mapping := by
  simp only [NRT.mapping, h]
theorem NRT.binding_congr {n n' : NRT} (h : n'.storage = n.storage) : n'.binding = n.binding := by
  funext x; simp only [NRT.binding, h]

theorem RT.binding_eq {r : RT} {st : Storage} (h : r.storage = some st) : r.binding = st.binding := by
  funext x; simp only [RT.binding, h]
theorem RT.binding_none {r : RT} (h : r.storage = none) (x : Nat) : r.binding x = none := by
  simp only [RT.binding, h]
theorem RT.binding_congr {r r' : RT} (h : r'.storage = r.storage) : r'.binding = r.binding := by
  funext x; simp only [RT.binding, h]
theorem NRT.binding_eq {n : NRT} {st : Storage} (h : n.storage = some st) : n.binding = st.binding := by
  funext x; simp only [NRT.binding, h]
theorem NRT.binding_none {n : NRT} (h : n.storage = none) (x : Nat) : n.binding x = none := by
  simp only [NRT.binding, h]

/-- whatever branch: one `midi-bind`, callbacks and values of `ns`.  (In the fine branch the code kills the entry of the
    COARSE controller, `if(get<2>(imap) != -1) killMap(get<1>(imap), …)` in `useFreeID`, and so does the model.) -/
theorem NRT.finishLearn_sent {n n' : NRT} {ns : Storage} {a k id ms}
    (h : n.finishLearn ns a k id = some (n', ms)) :
    n'.learnQ = n.learnQ ∧ ∃ mp, n'.storage = some ⟨mp, ns.callbacks, ns.values⟩ ∧
      ms = [.bind ⟨mp, ns.callbacks, ns.values⟩ (some id)] := by
  unfold NRT.finishLearn at h
  cases hl : imLookup n.invMap a with
  | none => simp [hl] at h
  | some im =>
    simp only [hl] at h
    split at h
    · cases h
    · rename_i killed ns2 hkilled
      cases h
      have hcb : ns2.callbacks = ns.callbacks ∧ ns2.values = ns.values := by
        split at hkilled
        · split at hkilled
          · simp at hkilled; obtain ⟨mp, _, rfl⟩ := hkilled; exact ⟨rfl, rfl⟩
          · simp at hkilled; subst hkilled; exact ⟨rfl, rfl⟩
        · split at hkilled
          · simp at hkilled; obtain ⟨mp, _, rfl⟩ := hkilled; exact ⟨rfl, rfl⟩
          · simp at hkilled
          · simp at hkilled; subst hkilled; exact ⟨rfl, rfl⟩
      exact ⟨rfl, ns2.mapping, by rw [← hcb.1, ← hcb.2], by rw [← hcb.1, ← hcb.2]⟩

/-- the `inv_map` entry after controller `id` was learned as its `k` controller -/
def learnIm (k : Bool) (im : Imap) (id : Nat) : Imap :=
  if k then { im with coarse := some id } else { im with fine := some id }

theorem sel_learnIm (k : Bool) (im : Imap) (id : Nat) :
    sel k (learnIm k im id) = some id ∧ sel (!k) (learnIm k im id) = sel (!k) im ∧
    (learnIm k im id).slot = im.slot := by
  cases k <;> simp [sel, learnIm]

/-- `useFreeID` for an address that has no `inv_map` entry yet: `generateNewBijection` appends the port's
    callback and a value slot (`hv`: the value vector is as long as the callback vector) -/
theorem NRT.useFreeID_of_fresh {P : List PortSpec} {n : NRT} {a : Nat} {k : Bool} {q : List (Nat × Bool)}
    {p : PortSpec} (id : Nat) (hq : n.learnQ = (a, k) :: q) (hp : P[a]? = some p)
    (hl : imLookup n.invMap a = none)
    (hv : ∀ st, n.storage = some st → st.values.length = st.callbacks.length) :
    NRT.useFreeID P n id = some
      ({ learnQ := q,
         invMap := imSet (imSet n.invMap a ⟨n.callbacks.length, none, none⟩) a
                     (learnIm k ⟨n.callbacks.length, none, none⟩ id),
         storage := some ⟨n.mapping ++ [⟨id, k, n.callbacks.length⟩],
                          n.callbacks ++ [⟨a, p.isInt, p.min8, p.max8⟩],
                          List.replicate (n.callbacks.length + 1) 0⟩ },
       [.bind ⟨n.mapping ++ [⟨id, k, n.callbacks.length⟩],
               n.callbacks ++ [⟨a, p.isInt, p.min8, p.max8⟩],
               List.replicate (n.callbacks.length + 1) 0⟩ (some id)]) := by
  cases hs : n.storage with
  | none =>
    cases k <;>
      simp [NRT.useFreeID, NRT.finishLearn, hq, hp, hl, NRT.generateNewBijection, hs, imLookup_imSet, NRT.mapping, omap,
        NRT.callbacks, learnIm]
  | some st =>
    have hv := hv st hs
    cases k <;>
      simp [NRT.useFreeID, NRT.finishLearn, hq, hp, hl, NRT.generateNewBijection, hs, imLookup_imSet, NRT.mapping, omap,
        NRT.callbacks, learnIm, hv]

/-- `useFreeID` for an address with an `inv_map` entry whose `k` controller is free: the snapshot is cloned -/
theorem NRT.useFreeID_of_known {P : List PortSpec} {n : NRT} {a : Nat} {k : Bool} {q : List (Nat × Bool)}
    {p : PortSpec} {im : Imap} {st : Storage} (id : Nat) (hq : n.learnQ = (a, k) :: q) (hp : P[a]? = some p)
    (hl : imLookup n.invMap a = some im) (hsel : sel k im = none) (hs : n.storage = some st) :
    NRT.useFreeID P n id = some
      ({ learnQ := q, invMap := imSet n.invMap a (learnIm k im id),
         storage := some ⟨st.mapping ++ [⟨id, k, im.slot⟩], st.callbacks,
                          List.replicate st.values.length 0⟩ },
       [.bind ⟨st.mapping ++ [⟨id, k, im.slot⟩], st.callbacks,
               List.replicate st.values.length 0⟩ (some id)]) := by
  cases k <;> simp_all [NRT.useFreeID, NRT.finishLearn, sel, Storage.clone, learnIm]

theorem NRT.useFreeID_sent {P : List PortSpec} {n n' : NRT} {id ms} (h : NRT.useFreeID P n id = some (n', ms)) :
    (n.learnQ = [] ∧ n' = n ∧ ms = []) ∨
    ∃ a k q p mp cbs len, n.learnQ = (a, k) :: q ∧ P[a]? = some p ∧ n'.learnQ = q ∧
      n'.storage = some ⟨mp, cbs, List.replicate len 0⟩ ∧
      ms = [.bind ⟨mp, cbs, List.replicate len 0⟩ (some id)] ∧
      (cbs = n.callbacks ∨ cbs = n.callbacks ++ [⟨a, p.isInt, p.min8, p.max8⟩]) := by
  cases hq : n.learnQ with
  | nil => simp [NRT.useFreeID, hq] at h; obtain ⟨rfl, rfl⟩ := h; exact Or.inl ⟨rfl, rfl, rfl⟩
  | cons x q =>
    obtain ⟨a, k⟩ := x
    right
    simp only [NRT.useFreeID, hq] at h
    cases hp : P[a]? with
    | none => simp [hp] at h
    | some p =>
      simp only [hp] at h
      cases hl0 : imLookup n.invMap a with
      | none =>
        simp only [hl0] at h
        obtain ⟨hq', mp, hst, hms⟩ := NRT.finishLearn_sent h
        cases hs : n.storage with
        | none =>
          simp only [NRT.generateNewBijection, hs] at hq' hst hms
          exact ⟨a, k, q, p, mp, _, 1, rfl, hp, hq', hst, hms, Or.inr (by simp [NRT.callbacks, hs])⟩
        | some st =>
          simp only [NRT.generateNewBijection, hs] at hq' hst hms
          exact ⟨a, k, q, p, mp, _, _, rfl, hp, hq', hst, hms, Or.inr (by simp [NRT.callbacks, hs])⟩
      | some im0 =>
        simp only [hl0] at h
        cases hs : n.storage with
        | none => simp [hs] at h
        | some st =>
          simp only [hs, Option.map_some] at h
          obtain ⟨hq', mp, hst, hms⟩ := NRT.finishLearn_sent h
          exact ⟨a, k, q, p, mp, _, _, rfl, hp, hq', hst, hms, Or.inl (by simp [NRT.callbacks, hs, Storage.clone])⟩

theorem hazard_iff {s : Sys} {op : Op} : hazard s op = false ↔ hazardK1 s op = false ∧ hazardK2 s op = false := by
  simp [hazard]

/-- K1: a request is delivered while no address is queued -/
theorem hazardK1_deliverNRT {s : Sys} : hazardK1 s .deliverNRT = false ↔ s.toNRT = [] ∨ s.nrt.learnQ ≠ [] := by
  cases h1 : s.toNRT <;> cases h2 : s.nrt.learnQ <;> simp [hazardK1, h1, h2]

theorem hazardK1_queued {s : Sys} {id : Nat} {rest : List Nat} (hz : hazardK1 s .deliverNRT = false)
    (hq : s.toNRT = id :: rest) : s.nrt.learnQ ≠ [] :=
  (hazardK1_deliverNRT.mp hz).resolve_left fun h => by rw [hq] at h; cases h

/-- K2 at a controller value: a request would be sent while `pending` is full -/
theorem hazardK2_cc {s : Sys} {id val : Nat} : hazardK2 s (.cc id val) = false ↔
    s.rt.knows id = true ∨ s.rt.pending.contains id = true ∨ s.rt.watch = 0 ∨ s.rt.pending.length ≤ 31 := by
  simp only [hazardK2, Bool.and_eq_false_iff, Bool.not_eq_false', bne_eq_false_iff_eq, decide_eq_false_iff_not,
    Nat.not_lt, or_assoc]

theorem hazardK2_deliverRT_nil {s : Sys} (h : s.toRT = []) : hazardK2 s .deliverRT = false := by
  simp only [hazardK2, h]

/-- K2 at a delivery: a `midi-bind` that answers nothing pops a request that is still under way -/
theorem hazardK2_deliverRT_bind {s : Sys} {ns : Storage} {ans : Option Nat} {rest : List RtMsg}
    (h : s.toRT = .bind ns ans :: rest) : hazardK2 s .deliverRT = false ↔ ans ≠ none ∨ s.rt.pending = [] := by
  cases ans <;> simp [hazardK2, h]

/-- The non-realtime half acts: an API call, or the oldest request `id` reaches `useFreeID`.
    `q`/`q'` is the RT → nRT channel before and after. -/
inductive NrtStep (P : List PortSpec) (n : NRT) (q : List Nat) : Op → NRT → List RtMsg → List Nat → Prop
  | map {a k n' ms} : n.map a k = some (n', ms) → NrtStep P n q (.map a k) n' ms q
  | unmap {a k n' ms} : n.unMap a k = some (n', ms) → NrtStep P n q (.unmap a k) n' ms q
  | clear : NrtStep P n q .clear ⟨[], [], some Storage.empty⟩ [.bind Storage.empty none] q
  | learn {id rest n' ms} : q = id :: rest → NRT.useFreeID P n id = some (n', ms) →
      NrtStep P n q .deliverNRT n' ms rest

/-- the snapshot `ns'` the realtime half acts on after a `midi-bind` carrying `ns`: `ns` itself when it had none,
    else `ns` with the values cloned from the present one -/
def RecvBind (cur : Option Storage) (ns ns' : Storage) : Prop :=
  (cur = none ∧ ns' = ns) ∨ ∃ old, cur = some old ∧ ns.cloneValues old = some ns'

theorem RecvBind.view {cur : Option Storage} {ns ns' : Storage} (h : RecvBind cur ns ns') :
    ns'.mapping = ns.mapping ∧ ns'.callbacks = ns.callbacks := by
  rcases h with ⟨-, rfl⟩ | ⟨old, -, hc⟩
  · exact ⟨rfl, rfl⟩
  · obtain ⟨v, -, rfl⟩ := Storage.cloneValues_some hc; exact ⟨rfl, rfl⟩

theorem RT.recv_bind {r r' : RT} {ns : Storage} {ans : Option Nat} (h : r.recv (.bind ns ans) = some r') :
    ∃ ns', r' = { r with pending := r.pending.drop 1, storage := some ns' } ∧ RecvBind r.storage ns ns' := by
  simp only [RT.recv] at h
  cases hs : r.storage with
  | none => rw [hs] at h; exact ⟨ns, (Option.some.inj h).symm, Or.inl ⟨rfl, rfl⟩⟩
  | some old =>
    rw [hs] at h
    cases hc : ns.cloneValues old with
    | none => simp [hc] at h
    | some ns' => simp only [hc] at h; exact ⟨ns', (Option.some.inj h).symm, Or.inr ⟨old, rfl, hc⟩⟩

/-- What a step does, case by case; the post-state is written as a record update of the pre-state. -/
inductive Step (P : List PortSpec) (s : Sys) : Op → Sys → List Msg → Prop
  | nrt {op n' ms q'} : NrtStep P s.nrt s.toNRT op n' ms q' →
      Step P s op { s with nrt := n', toRT := s.toRT ++ ms, toNRT := q' } []
  /-- the controller has an entry: its half of the value slot is written, the callback fires -/
  | ccHit {id val st e old cb} : s.rt.storage = some st → st.mapping.find? (fun m => m.id == id) = some e →
      st.values[e.slot]? = some old → st.callbacks[e.slot]? = some cb →
      Step P s (.cc id val)
        { s with rt := { s.rt with storage := some { st with values := st.values.set e.slot (blit e.coarse val old) } } }
        [cb.fire (blit e.coarse val old)]
  /-- no entry, not yet pending, a watch is left: the request leaves -/
  | ccAsk {id val} : (∀ st, s.rt.storage = some st → st.mapping.find? (fun m => m.id == id) = none) →
      s.rt.pending.contains id = false → s.rt.watch ≠ 0 →
      Step P s (.cc id val)
        { s with rt := { s.rt with pending := pendInsert s.rt.pending id, watch := s.rt.watch - 1 },
                 toNRT := s.toNRT ++ [id] } []
  | ccDrop {id val} : (∀ st, s.rt.storage = some st → st.mapping.find? (fun m => m.id == id) = none) →
      ¬(s.rt.pending.contains id = false ∧ s.rt.watch ≠ 0) → Step P s (.cc id val) s []
  | watch {rest} : s.toRT = .addWatch :: rest →
      Step P s .deliverRT { s with rt := { s.rt with watch := s.rt.watch + 1 }, toRT := rest } []
  /-- `midi-bind`: `pending.pop()`, and the snapshot with the values cloned from the present one -/
  | bind {ns ans rest ns'} : s.toRT = .bind ns ans :: rest → RecvBind s.rt.storage ns ns' →
      Step P s .deliverRT
        { s with rt := { s.rt with pending := s.rt.pending.drop 1, storage := some ns' }, toRT := rest } []
  | idle {op} : (op = .deliverRT ∧ s.toRT = []) ∨ (op = .deliverNRT ∧ s.toNRT = []) → Step P s op s []

theorem step_iff {P : List PortSpec} {s s' : Sys} {op : Op} {out : List Msg} :
    step P s op = some (s', out) ↔ Step P s op s' out := by
  constructor
  · intro h
    cases op with
    | map a k =>
      simp only [step, Option.map_eq_some_iff, Prod.exists, Prod.mk.injEq] at h
      obtain ⟨n, ms, hm, rfl, rfl⟩ := h; exact .nrt (.map hm)
    | unmap a k =>
      simp only [step, Option.map_eq_some_iff, Prod.exists, Prod.mk.injEq] at h
      obtain ⟨n, ms, hm, rfl, rfl⟩ := h; exact .nrt (.unmap hm)
    | clear => cases h; exact .nrt .clear
    | cc id val =>
      simp only [step, Option.map_eq_some_iff, Prod.exists, Prod.mk.injEq] at h
      obtain ⟨r, m, req, hm, rfl, rfl⟩ := h
      rcases s.rt.entry_cases id with hf | ⟨st, e, hst, hf⟩
      · rw [RT.handleCC_unhandled hf] at hm
        split at hm
        · rename_i hc; cases hm; exact .ccAsk hf (by simpa using hc.1) hc.2
        · rename_i hc; cases hm
          have := Step.ccDrop (P := P) (val := val) hf (by simpa using hc)
          simpa using this
      · cases hv : st.values[e.slot]? with
        | none => simp [RT.handleCC, hst, Storage.handleCC, hf, hv] at hm
        | some old =>
          cases hc : st.callbacks[e.slot]? with
          | none => simp [RT.handleCC, hst, Storage.handleCC, hf, hv, hc] at hm
          | some cb =>
            rw [RT.handleCC_handled hst (Storage.handleCC_of_find_some val hf hv hc)] at hm
            cases hm
            have := Step.ccHit (P := P) (val := val) hst hf hv hc
            simpa using this
    | deliverRT =>
      cases hq : s.toRT with
      | nil => simp only [step, hq, Option.some.injEq, Prod.mk.injEq] at h; obtain ⟨rfl, rfl⟩ := h; exact .idle (.inl ⟨rfl, hq⟩)
      | cons m rest =>
        simp only [step, hq, Option.map_eq_some_iff, Prod.mk.injEq] at h
        obtain ⟨r, hr, rfl, rfl⟩ := h
        cases m with
        | addWatch => cases hr; exact .watch hq
        | bind ns ans => obtain ⟨ns', rfl, hc⟩ := RT.recv_bind hr; exact .bind hq hc
    | deliverNRT =>
      cases hq : s.toNRT with
      | nil => simp only [step, hq, Option.some.injEq, Prod.mk.injEq] at h; obtain ⟨rfl, rfl⟩ := h; exact .idle (.inr ⟨rfl, hq⟩)
      | cons id rest =>
        simp only [step, hq, Option.map_eq_some_iff, Prod.exists, Prod.mk.injEq] at h
        obtain ⟨n, ms, hu, rfl, rfl⟩ := h
        exact .nrt (.learn hq hu)
  · intro h
    cases h with
    | nrt hn =>
      cases hn with
      | map hm => simp only [step, hm, Option.map_some]
      | unmap hm => simp only [step, hm, Option.map_some]
      | clear => rfl
      | learn hq hu => simp only [step, hq, hu, Option.map_some]
    | @ccHit id val st e old cb hst hf hv hc =>
      simp [step, RT.handleCC_handled hst (Storage.handleCC_of_find_some val hf hv hc)]
    | @ccAsk id val hf hp hw =>
      have e := RT.handleCC_unhandled (val := val) hf
      rw [if_pos ⟨by simpa using hp, hw⟩] at e
      simp only [step, e, Option.map_some, Option.toList]
    | @ccDrop id val hf hc =>
      have e := RT.handleCC_unhandled (val := val) hf
      rw [if_neg (by simpa using hc)] at e
      simp only [step, e, Option.map_some, Option.toList, List.append_nil]
    | watch hq => simp only [step, hq, RT.recv, Option.map_some]
    | bind hq hc =>
      rcases hc with ⟨hs, rfl⟩ | ⟨old, hs, hc⟩
      · simp only [step, hq, RT.recv, hs, Option.map_some]
      · simp only [step, hq, RT.recv, hs, hc, Option.map_some]
    | idle hc =>
      rcases hc with ⟨rfl, hq⟩ | ⟨rfl, hq⟩
      · simp only [step, hq]
      · simp only [step, hq]

def watchesOf : List RtMsg → Nat
  | [] => 0
  | .addWatch :: r => watchesOf r + 1
  | .bind _ _ :: r => watchesOf r

theorem watchesOf_append (a b : List RtMsg) : watchesOf (a ++ b) = watchesOf a + watchesOf b := by
  induction a with
  | nil => simp [watchesOf]
  | cons m r ih => cases m <;> simp [watchesOf, ih] <;> omega

/-- What the non-realtime half sends and keeps, whatever its state: at most one `midi-bind`, which carries
    its new snapshot with zeroed values, then at most one `midi-add-watch`; without a `midi-bind` the
    snapshot is the old one; the callback vector is the old one, or the old one with the callback of the
    learned port at its end, or (`clear`) empty; and, `clear` apart and provided a request is consumed only
    while an address is queued (the hypothesis `n.learnQ = [] → q' = q` of `queue`: no K1), every address that
    joins the learn queue comes with a watch and every address that leaves it with a served request. -/
structure NrtSends (P : List PortSpec) (n : NRT) (q : List Nat) (op : Op) (n' : NRT) (ms : List RtMsg)
    (q' : List Nat) : Prop where
  shape : ∃ w, w ≤ 1 ∧ ((ms = List.replicate w .addWatch ∧ n'.storage = n.storage) ∨
    ∃ m c len ans, n'.storage = some ⟨m, c, List.replicate len 0⟩ ∧
      ms = .bind ⟨m, c, List.replicate len 0⟩ ans :: List.replicate w .addWatch)
  cbs : n'.callbacks = n.callbacks ∨ n'.callbacks = [] ∨
    ∃ a p, P[a]? = some p ∧ n'.callbacks = n.callbacks ++ [⟨a, p.isInt, p.min8, p.max8⟩]
  queue : op ≠ .clear → (n.learnQ = [] → q' = q) →
    n'.learnQ.length + q.length = n.learnQ.length + watchesOf ms + q'.length

theorem NrtStep.sends {P : List PortSpec} {n n' : NRT} {op q ms q'} (h : NrtStep P n q op n' ms q') :
    NrtSends P n q op n' ms q' := by
  cases h with
  | unmap hu =>
    obtain ⟨hq, ⟨rfl, hst⟩ | ⟨st, mp, hst, hst', rfl⟩⟩ := NRT.unMap_sent hu
    · exact ⟨⟨0, by omega, .inl ⟨rfl, hst⟩⟩, .inl (by simp only [NRT.callbacks, hst]), fun _ _ => by simp [hq, watchesOf]⟩
    · exact ⟨⟨0, by omega, .inr ⟨_, _, _, _, hst', rfl⟩⟩, .inl (by simp only [NRT.callbacks, hst, hst']),
        fun _ _ => by simp [hq, watchesOf]⟩
  | map hm =>
    rcases NRT.map_sent hm with ⟨rfl, rfl⟩ | ⟨n1, ms1, hu, rfl, rfl⟩
    · exact ⟨⟨0, by omega, .inl ⟨rfl, rfl⟩⟩, .inl rfl, fun _ _ => by simp [watchesOf]⟩
    · obtain ⟨hq, ⟨rfl, hst⟩ | ⟨st, mp, hst, hst', rfl⟩⟩ := NRT.unMap_sent hu
      · exact ⟨⟨1, by omega, .inl ⟨rfl, hst⟩⟩, .inl (by simp only [NRT.callbacks, hst]),
          fun _ _ => by simp [hq, watchesOf]⟩
      · exact ⟨⟨1, by omega, .inr ⟨_, _, _, _, hst', rfl⟩⟩, .inl (by simp only [NRT.callbacks, hst, hst']),
          fun _ _ => by simp [hq, watchesOf]⟩
  | clear =>
    exact ⟨⟨0, by omega, .inr ⟨[], [], 0, none, rfl, rfl⟩⟩, .inr (.inl rfl), fun h _ => absurd rfl h⟩
  | learn hq0 hu =>
    subst hq0
    rcases NRT.useFreeID_sent hu with ⟨hq, rfl, rfl⟩ | ⟨a, k, q0, p, mp, cbs, len, hq, hp, hq', hst, rfl, hcbs⟩
    · exact ⟨⟨0, by omega, .inl ⟨rfl, rfl⟩⟩, .inl rfl, fun _ h => by simpa using congrArg List.length (h hq)⟩
    · refine ⟨⟨0, by omega, .inr ⟨_, _, _, _, hst, rfl⟩⟩, ?_, fun _ _ => by simp [hq, hq', watchesOf]; omega⟩
      rcases hcbs with rfl | rfl
      · exact .inl (by simp only [NRT.callbacks, hst])
      · exact .inr (.inr ⟨a, p, hp, by simp only [NRT.callbacks, hst]⟩)

theorem NrtSends.bind_mem {P : List PortSpec} {n q op n' ms q'} (h : NrtSends P n q op n' ms q') {st ans}
    (hin : RtMsg.bind st ans ∈ ms) : n'.storage = some st ∧ ∃ len, st.values = List.replicate len 0 := by
  obtain ⟨w, -, ⟨rfl, -⟩ | ⟨m, c, len, a, hst, rfl⟩⟩ := h.shape
  · simp at hin
  · simp only [List.mem_cons, RtMsg.bind.injEq, List.mem_replicate, reduceCtorEq, and_false, or_false] at hin
    obtain ⟨rfl, -⟩ := hin
    exact ⟨hst, len, rfl⟩

theorem RT.binding_of_miss {r : RT} {id : Nat}
    (hf : ∀ st, r.storage = some st → st.mapping.find? (fun m => m.id == id) = none) : r.binding id = none := by
  cases hst : r.storage with
  | none => exact RT.binding_none hst id
  | some st => simp [RT.binding_eq hst, Storage.binding, hf st hst]

/-! The name of a declared port: in front of the first `':'` nothing matches `":i"`, and the padding has no `':'`. -/

theorem isPrefixL_cons_ne {p c : Char} (ps cs : List Char) (h : p ≠ c) : isPrefixL (p :: ps) (c :: cs) = false := by
  simp [isPrefixL, h]

theorem hasInfix_append_of_no_colon (pre s : List Char) (h : ':' ∉ pre) :
    hasInfix [':', 'i'] (pre ++ s) = hasInfix [':', 'i'] s := by
  induction pre with
  | nil => rfl
  | cons c cs ih =>
    have hc : ':' ≠ c := fun e => h (List.mem_cons.mpr (Or.inl e))
    have hcs : ':' ∉ cs := fun e => h (List.mem_cons.mpr (Or.inr e))
    simp only [List.cons_append, hasInfix, isPrefixL_cons_ne _ _ hc, Bool.false_or]
    exact ih hcs

/-- `padText` character by character: a string literal is `String.ofList` of its characters, so the
    equation holds by `String.toList_ofList` and `String.toList` is never evaluated on the literal -/
theorem padText_chars : padText =
    ['_', 'l', 'o', 'n', 'g', '_', 'p', 'a', 'r', 'a', 'm', 'e', 't', 'e', 'r', '_', 'n', 'a', 'm', 'e', '_',
     'f', 'o', 'r', '_', 'm', 'i', 'd', 'i', '_', 'l', 'e', 'a', 'r', 'n', '_', 'w', 'i', 't', 'h', '_', 'm',
     'a', 'n', 'y', '_', 'c', 'h', 'a', 'r', 'a', 'c', 't', 'e', 'r', 's', '_', 'i', 'n', '_', 'i', 't', '_',
     'x'] :=
  String.toList_ofList

theorem padText_no_colon : ':' ∉ padText := by rw [padText_chars]; decide +kernel

end Rtosc.Midi
