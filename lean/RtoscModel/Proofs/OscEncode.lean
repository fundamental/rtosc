/-
  The constructors of C01: tag classification, lengths, the size pre-computation, the writer, and
  the variadic constructor as `rtosc_amessage` on the argument array with the `'f'` values sent
  through `double` and back (`vmessage_promote_any`).
-/
import RtoscModel.Proofs.BasicLemmas
import RtoscModel.Proofs.OscBits
import RtoscModel.Osc.BufFast
namespace Rtosc.Osc
open Rtosc

theorem kind_cases (t : UInt8) :
    (kind t = some .w32 ∧ (t = 105 ∨ t = 102 ∨ t = 99 ∨ t = 114)) ∨
    (kind t = some .w64 ∧ (t = 104 ∨ t = 116 ∨ t = 100)) ∨
    (kind t = some .midi ∧ t = 109) ∨
    (kind t = some .str ∧ (t = 115 ∨ t = 83)) ∨
    (kind t = some .blob ∧ t = 98) ∨
    (kind t = none ∧ t ≠ 105 ∧ t ≠ 102 ∧ t ≠ 99 ∧ t ≠ 114 ∧ t ≠ 104 ∧ t ≠ 116 ∧ t ≠ 100 ∧
      t ≠ 109 ∧ t ≠ 115 ∧ t ≠ 83 ∧ t ≠ 98) := by
  rw [kind]
  by_cases h1 : t = 105 ∨ t = 102 ∨ t = 99 ∨ t = 114
  · rw [if_pos h1]; exact .inl ⟨rfl, h1⟩
  by_cases h2 : t = 104 ∨ t = 116 ∨ t = 100
  · rw [if_neg h1, if_pos h2]; exact .inr (.inl ⟨rfl, h2⟩)
  by_cases h3 : t = 109
  · rw [if_neg h1, if_neg h2, if_pos h3]; exact .inr (.inr (.inl ⟨rfl, h3⟩))
  by_cases h4 : t = 115 ∨ t = 83
  · rw [if_neg h1, if_neg h2, if_neg h3, if_pos h4]; exact .inr (.inr (.inr (.inl ⟨rfl, h4⟩)))
  by_cases h5 : t = 98
  · rw [if_neg h1, if_neg h2, if_neg h3, if_neg h4, if_pos h5]
    exact .inr (.inr (.inr (.inr (.inl ⟨rfl, h5⟩))))
  rw [if_neg h1, if_neg h2, if_neg h3, if_neg h4, if_neg h5]
  simp only [not_or] at h1 h2 h4
  exact .inr (.inr (.inr (.inr (.inr ⟨rfl, h1.1, h1.2.1, h1.2.2.1, h1.2.2.2, h2.1, h2.2.1, h2.2.2,
    h3, h4.1, h4.2, h5⟩))))

/-- `has_reserved` returns 1 exactly on the tags that carry a payload: evaluated on the eleven
    payload tags, unfolded where no test fires -/
theorem hasReserved_eq (t : UInt8) : hasReserved t = (kind t).isSome := by
  rcases kind_cases t with ⟨hk, ht⟩ | ⟨hk, ht⟩ | ⟨hk, ht⟩ | ⟨hk, ht⟩ | ⟨hk, ht⟩ |
    ⟨hk, h1, h2, h3, h4, h5, h6, h7, h8, h9, h10, h11⟩ <;> rw [hk]
  · rcases ht with rfl | rfl | rfl | rfl <;> rfl
  · rcases ht with rfl | rfl | rfl <;> rfl
  · subst ht; rfl
  · rcases ht with rfl | rfl <;> rfl
  · subst ht; rfl
  · simp only [hasReserved, h1, h2, h3, h4, h5, h6, h7, h8, h9, h10, h11, if_false]; rfl

/-- The three models of the argument walk of `rtosc_message_ring_length` (`lenLoop` of Osc/Length.lean,
    `V.lenLoop` of Osc/Valid.lean, `lenLoopU` of Osc/Bundle.lean) sort a type tag with the same
    `switch`: it goes by the payload kind of the tag. -/
theorem lenSwitch {α : Sort u} (t : UInt8) (x64 x32 xs xb xn : α) :
    (if t = 104 ∨ t = 116 ∨ t = 100 then x64
      else if t = 109 ∨ t = 114 ∨ t = 99 ∨ t = 102 ∨ t = 105 then x32
      else if t = 83 ∨ t = 115 then xs
      else if t = 98 then xb
      else xn) =
      match kind t with
      | some .w64 => x64
      | some .w32 | some .midi => x32
      | some .str => xs
      | some .blob => xb
      | none => xn := by
  rcases kind_cases t with ⟨hk, ht⟩ | ⟨hk, ht⟩ | ⟨hk, ht⟩ | ⟨hk, ht⟩ | ⟨hk, ht⟩ |
    ⟨hk, h1, h2, h3, h4, h5, h6, h7, h8, h9, h10, h11⟩ <;> rw [hk]
  · rcases ht with rfl | rfl | rfl | rfl <;> rfl
  · rcases ht with rfl | rfl | rfl <;> rfl
  · subst ht; rfl
  · rcases ht with rfl | rfl <;> rfl
  · subst ht; rfl
  · simp only [h1, h2, h3, h4, h5, h6, h7, h8, h9, h10, h11, or_self, if_false]

/-! Of the disjuncts of `kind_cases`, a value of `kind t` leaves one. -/

theorem kind_w32 (t : UInt8) (hk : kind t = some .w32) : t = 105 ∨ t = 102 ∨ t = 99 ∨ t = 114 := by
  simpa only [hk, Option.some.injEq, reduceCtorEq, false_and, or_false, true_and] using kind_cases t

theorem kind_w64 (t : UInt8) (hk : kind t = some .w64) : t = 104 ∨ t = 116 ∨ t = 100 := by
  simpa only [hk, Option.some.injEq, reduceCtorEq, false_and, or_false, false_or, true_and]
    using kind_cases t

theorem kind_midi (t : UInt8) (hk : kind t = some .midi) : t = 109 := by
  simpa only [hk, Option.some.injEq, reduceCtorEq, false_and, or_false, false_or, true_and]
    using kind_cases t

theorem kind_str (t : UInt8) (hk : kind t = some .str) : t = 115 ∨ t = 83 := by
  simpa only [hk, Option.some.injEq, reduceCtorEq, false_and, or_false, false_or, true_and]
    using kind_cases t

theorem kind_blob (t : UInt8) (hk : kind t = some .blob) : t = 98 := by
  simpa only [hk, Option.some.injEq, reduceCtorEq, false_and, or_false, false_or, true_and]
    using kind_cases t

theorem kind_none (t : UInt8) (hk : kind t = none) :
    t ≠ 105 ∧ t ≠ 102 ∧ t ≠ 99 ∧ t ≠ 114 ∧ t ≠ 104 ∧ t ≠ 116 ∧ t ≠ 100 ∧ t ≠ 109 ∧ t ≠ 115 ∧
      t ≠ 83 ∧ t ≠ 98 := by
  simpa only [hk, reduceCtorEq, false_and, false_or, true_and] using kind_cases t

theorem isTag_ne_zero (t : UInt8) (h : isTag t = true) : t ≠ 0 ∧ t ≠ 45 ∧ t ≠ 97 := by
  refine ⟨?_, ?_, ?_⟩ <;> rintro rfl <;> exact absurd h (by decide)

@[simp] theorem zeros_length (n : Nat) : (zeros n).length = n := by simp [zeros]

theorem zeros_succ (n : Nat) : zeros (n + 1) = 0 :: zeros n := by simp [zeros, List.replicate_succ]

theorem zeros_add (a b : Nat) : zeros (a + b) = zeros a ++ zeros b := by
  simp [zeros, List.replicate_append_replicate]

theorem padStr_length (s : Bytes) : (padStr s).length = s.length + (4 - s.length % 4) := by
  simp [padStr]

theorem pad4_cases (n : Nat) : n % 4 ≠ 0 ∧ pad4 n = 4 - n % 4 ∨ n % 4 = 0 ∧ pad4 n = 0 := by
  unfold pad4; omega

theorem pad4_mod (n : Nat) : (n + pad4 n) % 4 = 0 := pad_mod4' n

theorem padStr_length_mod (s : Bytes) : (padStr s).length % 4 = 0 := by
  rw [padStr_length]; exact pad_mod4 _

theorem encArg_length (a : Arg) : (encArg a).length =
    match a with
    | .w32 _ => 4 | .w64 _ => 8 | .midi .. => 4
    | .str s => s.length + (4 - s.length % 4)
    | .blob d => 4 + d.length + pad4 d.length := by
  cases a <;> simp [encArg, be32_length, be64_length, padStr_length] <;> omega

theorem encArg_length_mod (a : Arg) : (encArg a).length % 4 = 0 := by
  cases a with
  | str s => exact padStr_length_mod s
  | blob d =>
    simp only [encArg, List.length_append, be32_length, zeros_length]
    rw [Nat.add_assoc, Nat.add_mod_left]; exact pad4_mod _
  | w32 v => rw [encArg, be32_length]
  | w64 v => rw [encArg, be64_length]
  | midi x y z w => simp only [encArg, List.length_cons, List.length_nil]

theorem flat_length_mod (as : List Arg) : (as.flatMap encArg).length % 4 = 0 := by
  induction as with
  | nil => rfl
  | cons a as ih =>
    rw [List.flatMap_cons, List.length_append]; exact add_mod4 (encArg_length_mod a) ih

theorem encode_length (m : Msg) : (Spec.encode m).length =
    (m.addr.length + (4 - m.addr.length % 4)) + ((m.tags.length + 1) + (4 - (m.tags.length + 1) % 4)) +
      (m.args.flatMap encArg).length := by
  simp [Spec.encode, padStr_length]; omega

theorem encode_length_mod (m : Msg) : (Spec.encode m).length % 4 = 0 := by
  simp only [Spec.encode, List.length_append]
  exact add_mod4 (add_mod4 (padStr_length_mod _) (padStr_length_mod _)) (flat_length_mod _)

theorem abs_toC {c : CArg} {a : Arg} (h : c.abs = some a) (hb : ∀ d, a ≠ .blob d) : c = a.toC := by
  cases c with
  | blob len data =>
    cases data <;> simp only [CArg.abs] at h
    · exact absurd (Option.some.inj h).symm (hb _)
    · split at h
      · exact absurd (Option.some.inj h).symm (hb _)
      · cases h
  | _ => cases h; rfl

theorem abs_w32 {c : CArg} {v} (h : c.abs = some (.w32 v)) : c = .w32 v := abs_toC h (fun _ => nofun)

theorem abs_w64 {c : CArg} {v} (h : c.abs = some (.w64 v)) : c = .w64 v := abs_toC h (fun _ => nofun)

theorem abs_midi {c : CArg} {a b c' d} (h : c.abs = some (.midi a b c' d)) : c = .midi a b c' d :=
  abs_toC h (fun _ => nofun)

theorem abs_str {c : CArg} {s} (h : c.abs = some (.str s)) : c = .str s := abs_toC h (fun _ => nofun)

theorem abs_blob {c : CArg} {d} (h : c.abs = some (.blob d)) :
    ∃ len data, c = .blob len data ∧ d.length = len.toNat ∧
      ((data = none ∧ d = zeros len.toNat) ∨
       (∃ blk, data = some blk ∧ len.toNat ≤ blk.length ∧ d = blk.take len.toNat)) := by
  cases c with
  | blob len data =>
    cases data with
    | none =>
      simp only [CArg.abs, Option.some.injEq, Arg.blob.injEq] at h
      exact ⟨len, none, rfl, by simp [← h], Or.inl ⟨rfl, h.symm⟩⟩
    | some blk =>
      simp only [CArg.abs] at h
      split at h
      · simp only [Option.some.injEq, Arg.blob.injEq] at h
        exact ⟨len, some blk, rfl, by simp [← h]; omega, Or.inr ⟨blk, rfl, by assumption, h.symm⟩⟩
      · simp at h
  | _ => simp_all [CArg.abs]

theorem matches_skip {t : UInt8} {ts : Bytes} {as : List Arg} (hk : kind t = none) :
    Matches (t :: ts) as ↔ Matches ts as := by
  simp [Matches, matchesB, hk]

theorem matches_take {t : UInt8} {ts : Bytes} {as : List Arg} {k : Kind} (hk : kind t = some k)
    (h : Matches (t :: ts) as) : ∃ a as', as = a :: as' ∧ a.kind = k ∧ Matches ts as' := by
  cases as with
  | nil => simp [Matches, matchesB, hk] at h
  | cons a as' =>
    simp only [Matches, matchesB, hk, Bool.and_eq_true, decide_eq_true_eq] at h
    exact ⟨a, as', rfl, h.1, h.2⟩

theorem matches_nil {as : List Arg} (h : Matches [] as) : as = [] := by
  cases as <;> simp_all [Matches, matchesB]

theorem denote_cons {cargs : List CArg} {a : Arg} {as : List Arg} (h : Denote cargs (a :: as)) :
    ∃ c cs, cargs = c :: cs ∧ c.abs = some a ∧ Denote cs as := by
  cases cargs with
  | nil => simp [Denote] at h
  | cons c cs => exact ⟨c, cs, rfl, h.1, h.2⟩

theorem denote_nil {cargs : List CArg} (h : Denote cargs []) : cargs = [] := by
  cases cargs <;> simp_all [Denote]

theorem denote_toC (args : List Arg) (hwf : ∀ a ∈ args, a.WF) : Denote (args.map Arg.toC) args := by
  induction args with
  | nil => simp [Denote]
  | cons a as ih =>
    have hwa := hwf a List.mem_cons_self
    refine ⟨?_, ih (fun x hx => hwf x (List.mem_cons_of_mem _ hx))⟩
    cases a with
    | blob d =>
      have hb : d.length < 2147483648 := hwa
      simp [Arg.toC, CArg.abs, ofNat_toNat_of_lt (Nat.lt_trans hb (by decide))]
    | _ => simp [Arg.toC, CArg.abs]

theorem nreserved_cons (t : UInt8) (ts : Bytes) :
    nreserved (t :: ts) = (if hasReserved t then 1 else 0) + nreserved ts := rfl

theorem nreserved_skip {t : UInt8} {ts : Bytes} (hk : kind t = none) :
    nreserved (t :: ts) = nreserved ts := by
  rw [nreserved_cons, hasReserved_eq, hk]; exact Nat.zero_add _

theorem nreserved_take {t : UInt8} {ts : Bytes} {k : Kind} (hk : kind t = some k) :
    nreserved (t :: ts) = nreserved ts + 1 := by
  rw [nreserved_cons, hasReserved_eq, hk]; exact Nat.add_comm _ _

/-- The walk over a type string that all constructors and readers perform, as an induction
    principle: a tag without payload is skipped, a payload tag takes the next argument, which
    is of the tag's kind. -/
theorem Matches.walk {motive : (tags : Bytes) → (args : List Arg) → Matches tags args → Prop}
    (nil : motive [] [] rfl)
    (skip : ∀ {t ts as} (hk : kind t = none) (hm : Matches ts as), motive ts as hm →
      motive (t :: ts) as ((matches_skip hk).mpr hm))
    (take : ∀ {t ts a as} (_ : kind t = some a.kind) (hm : Matches ts as)
      (hm' : Matches (t :: ts) (a :: as)), motive ts as hm → motive (t :: ts) (a :: as) hm') :
    ∀ (tags args) (hm : Matches tags args), motive tags args hm := by
  intro tags
  induction tags with
  | nil => intro args hm; cases matches_nil hm; exact nil
  | cons t ts ih =>
    intro args hm
    cases hk : kind t with
    | none => exact skip hk _ (ih args ((matches_skip hk).mp hm))
    | some k =>
      obtain ⟨a, as, rfl, rfl, hm'⟩ := matches_take hk hm
      exact take hk hm' hm (ih as hm')

theorem u32_id {n : Nat} (h : n < 4294967296) : u32 n = n := Nat.mod_eq_of_lt h

theorem alignUp_eq {n : Nat} (h : n + (4 - n % 4) < 4294967296) : alignUp n = n + (4 - n % 4) :=
  u32_id h

/-- `pos += 4 - pos % 4` after `n` more bytes from an aligned position -/
theorem alignUp_add {pos n : Nat} (hp : pos % 4 = 0) (h : pos + (n + (4 - n % 4)) < 4294967296) :
    alignUp (pos + n) = pos + (n + (4 - n % 4)) := by
  rw [alignUp, add_mod4_left hp, Nat.add_assoc, u32_id h]

/-- `if(x % 4) q += 4 - x % 4;` on a `Nat` position, without wrap-around -/
theorem padTo_eq {q : Nat} (x : Nat) (h : q + pad4 x < 4294967296) :
    (if x % 4 ≠ 0 then u32 (q + (4 - x % 4)) else q) = q + pad4 x := by
  rcases pad4_cases x with ⟨hx, hp⟩ | ⟨hx, hp⟩ <;> rw [hp] at h ⊢
  · rw [if_pos hx, u32_id h]
  · rw [if_neg (fun h => h hx)]; rfl

theorem pad4_congr {x n : Nat} (h : x % 4 = n % 4) : pad4 x = pad4 n := by unfold pad4; rw [h]

/-- `if(pos % 4) pos += 4 - pos % 4` after a blob of `n` bytes from an aligned position -/
theorem alignUp_blob {pos n : Nat} (hp : pos % 4 = 0) (h : pos + (4 + n + pad4 n) < 4294967296) :
    (if (pos + (4 + n)) % 4 ≠ 0 then alignUp (pos + (4 + n)) else pos + (4 + n)) =
      pos + (4 + n + pad4 n) := by
  have h4 : (pos + (4 + n)) % 4 = n % 4 := by rw [add_mod4_left hp, Nat.add_mod_left]
  rw [alignUp, padTo_eq _ (by rw [pad4_congr h4]; omega), pad4_congr h4]; omega

theorem sizeLoop_zero (ts : Bytes) (cs : List CArg) (pos : Nat) : sizeLoop 0 ts cs pos = some pos := by
  cases ts <;> rfl

/-- one round of `vsosc_null` by the kind of the tag (the tags are put in by evaluation) -/
theorem sizeLoop_cons (n : Nat) (t : UInt8) (ts : Bytes) (cs : List CArg) (pos : Nat) :
    sizeLoop (n + 1) (t :: ts) cs pos =
      match kind t with
      | some .w64 => sizeLoop n ts cs.tail (u32 (pos + 8))
      | some .w32 | some .midi => sizeLoop n ts cs.tail (u32 (pos + 4))
      | some .str =>
        match cs with
        | .str s :: as => sizeLoop n ts as (alignUp (u32 (pos + s.length)))
        | _ => none
      | some .blob =>
        match cs with
        | .blob len _ :: as =>
          let pos := u32 (pos + u32 (4 + len.toNat))
          sizeLoop n ts as (if pos % 4 ≠ 0 then alignUp pos else pos)
        | _ => none
      | none => sizeLoop (n + 1) ts cs pos := by
  rcases kind_cases t with ⟨hk, ht⟩ | ⟨hk, ht⟩ | ⟨hk, ht⟩ | ⟨hk, ht⟩ | ⟨hk, ht⟩ |
    ⟨hk, h1, h2, h3, h4, h5, h6, h7, h8, h9, h10, h11⟩ <;> rw [hk]
  · rcases ht with rfl | rfl | rfl | rfl <;> rfl
  · rcases ht with rfl | rfl | rfl <;> rfl
  · subst ht; rfl
  · rcases ht with rfl | rfl <;> rfl
  · subst ht; rfl
  · conv => lhs; unfold sizeLoop
    simp only [h1, h2, h3, h4, h5, h6, h7, h8, h9, h10, h11, or_self, if_false]

theorem sizeLoop_skip {t : UInt8} (hk : kind t = none) (n : Nat) (ts : Bytes) (cs : List CArg)
    (pos : Nat) : sizeLoop n (t :: ts) cs pos = sizeLoop n ts cs pos := by
  cases n with
  | zero => rw [sizeLoop_zero, sizeLoop_zero]
  | succ n => rw [sizeLoop_cons, hk]

theorem sizeLoop_spec {tags : Bytes} {args : List Arg} (hm : Matches tags args) :
    ∀ (cargs : List CArg) (pos : Nat), Denote cargs args → pos % 4 = 0 →
      pos + (args.flatMap encArg).length < 4294967296 →
      sizeLoop (nreserved tags) tags cargs pos = some (pos + (args.flatMap encArg).length) := by
  induction tags, args, hm using Matches.walk with
  | nil => intro cargs pos _ _ _; rfl
  | skip hk _ ih =>
    intro cargs pos hd hp hlt
    rw [nreserved_skip hk, sizeLoop_skip hk]; exact ih cargs pos hd hp hlt
  | @take t ts a as hk _ _ ih =>
    intro cargs pos hd hp hlt
    obtain ⟨c, cs, rfl, hc, hd'⟩ := denote_cons hd
    rw [List.flatMap_cons, List.length_append, ← Nat.add_assoc] at hlt ⊢
    -- every kind of argument moves `pos` by the length of its encoding
    suffices h : sizeLoop (nreserved ts + 1) (t :: ts) (c :: cs) pos =
        sizeLoop (nreserved ts) ts cs (pos + (encArg a).length) by
      rw [nreserved_take hk, h, ih cs _ hd' (add_mod4 hp (encArg_length_mod a)) hlt]
    have hlt' : pos + (encArg a).length < 4294967296 := Nat.lt_of_le_of_lt (Nat.le_add_right ..) hlt
    rw [sizeLoop_cons, hk]
    cases a with
    | w32 v => exact congrArg _ (u32_id hlt')
    | w64 v => exact congrArg _ (u32_id hlt')
    | midi x y z w => exact congrArg _ (u32_id hlt')
    | str s =>
      rw [abs_str hc]
      simp only [encArg, padStr_length] at hlt' ⊢
      simp only [Arg.kind]
      rw [u32_id (Nat.lt_of_le_of_lt (by omega) hlt'), alignUp_add hp hlt']
    | blob d =>
      obtain ⟨len, data, rfl, hlen, -⟩ := abs_blob hc
      simp only [encArg, List.length_append, be32_length, zeros_length] at hlt' ⊢
      simp only [Arg.kind, ← hlen]
      rw [u32_id (n := 4 + d.length) (by omega), u32_id (by omega), alignUp_blob hp hlt']

theorem sizeNull_spec (m : Msg) (cargs : List CArg) (hwf : m.WF) (hd : Denote cargs m.args) :
    sizeNull m.addr m.tags cargs = some (Spec.encode m).length := by
  have hsz : (Spec.encode m).length < 4294967296 := hwf.size
  simp only [Spec.encode, List.length_append, padStr_length, List.length_cons] at hsz ⊢
  simp only [sizeNull, Nat.zero_add, Nat.add_comm 1]
  rw [u32_id (n := m.addr.length) (by omega), alignUp_eq (n := m.addr.length) (by omega),
    u32_id (by omega),
    alignUp_add (pad_mod4 _) (by omega),
    sizeLoop_spec hwf.matches_ cargs _ hd (add_mod4 (pad_mod4 _) (pad_mod4 _)) (by omega)]

/-- writer state after `d` has been produced: `k` zeroed bytes of the message are still
    ahead, `tail` is the untouched rest of the destination. -/
def St (d : Bytes) (k : Nat) (tail : Bytes) : W := ⟨d ++ zeros k ++ tail, d.length, false⟩

theorem St_pos (d : Bytes) (k : Nat) (tail : Bytes) : (St d k tail).pos = d.length := rfl

theorem puts_St (l d : Bytes) (k : Nat) (tail : Bytes) (hk : l.length ≤ k)
    (hlt : d.length + l.length < 4294967296) :
    (St d k tail).puts l = St (d ++ l) (k - l.length) tail := by
  obtain ⟨j, rfl⟩ : ∃ j, k = l.length + j := ⟨k - l.length, by omega⟩
  have hdrop : (d ++ (zeros (l.length + j) ++ tail)).drop (d.length + l.length) = zeros j ++ tail := by
    rw [zeros_add, List.append_assoc, ← List.append_assoc d]
    exact List.drop_left' (by rw [List.length_append, zeros_length])
  rw [puts_inside l (St d _ tail) (by simp [St]; omega) hlt]
  simp only [St, List.append_assoc, hdrop, List.take_left, Nat.add_sub_cancel_left, List.length_append]

theorem skip_St (d : Bytes) (k n : Nat) (tail : Bytes) (hk : n ≤ k)
    (hlt : d.length + n < 4294967296) :
    (St d k tail).skip n = St (d ++ zeros n) (k - n) tail := by
  obtain ⟨j, rfl⟩ : ∃ j, k = n + j := ⟨k - n, by omega⟩
  simp only [St, W.skip, u32_id hlt, zeros_add, List.length_append, zeros_length,
    Nat.add_sub_cancel_left, List.append_assoc]

theorem align_St (d : Bytes) (k : Nat) (tail : Bytes) (hk : 4 - d.length % 4 ≤ k)
    (hlt : d.length + (4 - d.length % 4) < 4294967296) :
    (St d k tail).align = St (d ++ zeros (4 - d.length % 4)) (k - (4 - d.length % 4)) tail :=
  skip_St d k (4 - d.length % 4) tail hk hlt

/-- writing an OSC-string from an aligned position: the bytes, then `pos += 4 - pos % 4` over
    memory that is still zero -/
theorem putStr_St (d s tail : Bytes) (k : Nat) (hd : d.length % 4 = 0) (hk : (padStr s).length ≤ k)
    (hlt : d.length + (padStr s).length < 4294967296) :
    ((St d k tail).puts s).align = St (d ++ padStr s) (k - (padStr s).length) tail := by
  rw [padStr_length] at hk hlt
  have hal : (d ++ s).length % 4 = s.length % 4 := by rw [List.length_append, add_mod4_left hd]
  rw [puts_St _ _ _ _ (Nat.le_trans (Nat.le_add_right ..) hk)
      (Nat.lt_of_le_of_lt (Nat.add_le_add_left (Nat.le_add_right ..) _) hlt),
    align_St _ _ _ (by rw [hal]; exact Nat.le_sub_of_add_le' hk)
      (by rw [hal, List.length_append, Nat.add_assoc]; exact hlt),
    hal, padStr_length, padStr, List.append_assoc, Nat.sub_sub]

/-- the body of a blob: `dd` is what the caller's `len`/`data` pair stands for (`abs_blob`) -/
theorem blobData_St (d tail : Bytes) (k : Nat) (len : UInt32) {data : Option Bytes} {dd : Bytes}
    (hlen : dd.length = len.toNat)
    (hdata : (data = none ∧ dd = zeros len.toNat) ∨
      (∃ blk, data = some blk ∧ len.toNat ≤ blk.length ∧ dd = blk.take len.toNat))
    (hb : dd.length < 2147483648) (hk : dd.length ≤ k) (hlt : d.length + dd.length < 4294967296) :
    (St d k tail).blobData len data = some (St (d ++ dd) (k - dd.length) tail) := by
  rcases hdata with ⟨rfl, rfl⟩ | ⟨blk, rfl, hle, rfl⟩
  · rw [zeros_length] at hk hlt ⊢
    rw [W.blobData, skip_St _ _ _ _ hk hlt]
  · rw [W.blobData, if_pos ⟨hlen ▸ hb, hle⟩, puts_St _ _ _ _ hk hlt]

/-- `if(pos % 4) pos += 4 - pos % 4` behind `n` blob bytes -/
theorem alignIf_St (d tail : Bytes) (k n : Nat) (hd : d.length % 4 = n % 4) (hk : pad4 n ≤ k)
    (hlt : d.length + pad4 n < 4294967296) :
    (if (St d k tail).pos % 4 ≠ 0 then (St d k tail).align else St d k tail) =
      St (d ++ zeros (pad4 n)) (k - pad4 n) tail := by
  rw [St_pos, hd]
  rcases pad4_cases n with ⟨hn, hpad⟩ | ⟨hn, hpad⟩ <;> rw [hpad] at hk hlt ⊢
  · rw [if_pos hn, align_St _ _ _ (hd ▸ hk) (hd ▸ hlt), hd]
  · rw [if_neg (fun h => h hn), zeros, List.replicate_zero, List.append_nil, Nat.sub_zero]

theorem writeLoop_zero (ts : Bytes) (cs : List CArg) (w : W) : writeLoop 0 ts cs w = some w := by
  cases ts <;> rfl

theorem writeLoop_cons (n : Nat) (t : UInt8) (ts : Bytes) (cs : List CArg) (w : W) :
    writeLoop (n + 1) (t :: ts) cs w =
      match kind t with
      | some .w64 =>
        match cs with
        | .w64 v :: as => writeLoop n ts as (w.puts (put64 v))
        | _ => none
      | some .w32 =>
        match cs with
        | .w32 v :: as => writeLoop n ts as (w.puts (put32 v))
        | _ => none
      | some .midi =>
        match cs with
        | .midi a b c d :: as => writeLoop n ts as (w.puts [a, b, c, d])
        | _ => none
      | some .str =>
        match cs with
        | .str s :: as => writeLoop n ts as (w.puts s).align
        | _ => none
      | some .blob =>
        match cs with
        | .blob len data :: as =>
          match (w.puts (put32 len)).blobData len data with
          | none => none
          | some w => writeLoop n ts as (if w.pos % 4 ≠ 0 then w.align else w)
        | _ => none
      | none => writeLoop (n + 1) ts cs w := by
  rcases kind_cases t with ⟨hk, ht⟩ | ⟨hk, ht⟩ | ⟨hk, ht⟩ | ⟨hk, ht⟩ | ⟨hk, ht⟩ |
    ⟨hk, h1, h2, h3, h4, h5, h6, h7, h8, h9, h10, h11⟩ <;> rw [hk]
  · rcases ht with rfl | rfl | rfl | rfl <;> rfl
  · rcases ht with rfl | rfl | rfl <;> rfl
  · subst ht; rfl
  · rcases ht with rfl | rfl <;> rfl
  · subst ht; rfl
  · conv => lhs; unfold writeLoop
    simp only [h1, h2, h3, h4, h5, h6, h7, h8, h9, h10, h11, or_self, if_false]

theorem writeLoop_skip {t : UInt8} (hk : kind t = none) (n : Nat) (ts : Bytes) (cs : List CArg)
    (w : W) : writeLoop n (t :: ts) cs w = writeLoop n ts cs w := by
  cases n with
  | zero => rw [writeLoop_zero, writeLoop_zero]
  | succ n => rw [writeLoop_cons, hk]

theorem writeLoop_spec {tags : Bytes} {args : List Arg} (hm : Matches tags args) :
    ∀ (cargs : List CArg) (d : Bytes) (k : Nat) (tail : Bytes),
    Denote cargs args → (∀ a ∈ args, a.WF) → d.length % 4 = 0 →
    (args.flatMap encArg).length ≤ k → d.length + (args.flatMap encArg).length < 4294967296 →
    writeLoop (nreserved tags) tags cargs (St d k tail) =
      some (St (d ++ args.flatMap encArg) (k - (args.flatMap encArg).length) tail) := by
  induction tags, args, hm using Matches.walk with
  | nil => intro cargs d k tail _ _ _ _ _; rw [List.flatMap_nil, List.append_nil]; rfl
  | skip hk _ ih =>
    intro cargs d k tail hd hwf hp hle hlt
    rw [nreserved_skip hk, writeLoop_skip hk]; exact ih cargs d k tail hd hwf hp hle hlt
  | @take t ts a as hk _ _ ih =>
    intro cargs d k tail hd hwf hp hle hlt
    obtain ⟨c, cs, rfl, hc, hd'⟩ := denote_cons hd
    rw [List.flatMap_cons, List.length_append] at hle hlt
    have hle1 : (encArg a).length ≤ k := Nat.le_trans (Nat.le_add_right ..) hle
    have hlt1 : d.length + (encArg a).length < 4294967296 :=
      Nat.lt_of_le_of_lt (Nat.add_le_add_left (Nat.le_add_right ..) _) hlt
    -- every kind of argument appends its encoding
    suffices h : writeLoop (nreserved ts + 1) (t :: ts) (c :: cs) (St d k tail) =
        writeLoop (nreserved ts) ts cs (St (d ++ encArg a) (k - (encArg a).length) tail) by
      rw [nreserved_take hk, h, ih cs _ _ tail hd' (fun x hx => hwf x (List.mem_cons_of_mem _ hx))
        (by rw [List.length_append]; exact add_mod4 hp (encArg_length_mod a))
        (Nat.le_sub_of_add_le' hle) (by rw [List.length_append, Nat.add_assoc]; exact hlt),
        List.flatMap_cons, List.append_assoc, List.length_append, Nat.sub_sub]
    rw [writeLoop_cons, hk]
    cases a with
    | w32 v =>
      simp only [abs_w32 hc, Arg.kind]
      rw [put32_eq, puts_St (be32 v) _ _ _ hle1 hlt1]; rfl
    | w64 v =>
      simp only [abs_w64 hc, Arg.kind]
      rw [put64_eq, puts_St (be64 v) _ _ _ hle1 hlt1]; rfl
    | midi x y z w =>
      simp only [abs_midi hc, Arg.kind]
      rw [puts_St [x, y, z, w] _ _ _ hle1 hlt1]; rfl
    | str s =>
      simp only [abs_str hc, Arg.kind]
      rw [putStr_St d s tail k hp hle1 hlt1]; rfl
    | blob dd =>
      obtain ⟨len, data, rfl, hlen, hdata⟩ := abs_blob hc
      have hb : dd.length < 2147483648 := hwf (.blob dd) List.mem_cons_self
      simp only [encArg, List.length_append, be32_length, zeros_length] at hle1 hlt1 ⊢
      simp only [Arg.kind]
      rw [put32_eq, puts_St _ _ _ _ (by rw [be32_length]; omega) (by rw [be32_length]; omega),
        blobData_St _ _ _ _ hlen hdata hb (by rw [be32_length]; omega)
          (by rw [List.length_append, be32_length]; omega)]
      simp only
      rw [alignIf_St _ _ _ dd.length
          (by rw [List.length_append, List.length_append, be32_length, Nat.add_assoc,
            add_mod4_left hp, Nat.add_mod_left])
          (by rw [be32_length]; omega)
          (by rw [List.length_append, List.length_append, be32_length]; omega),
        hlen, UInt32.ofNat_toNat, be32_length, Nat.sub_sub, Nat.sub_sub, ← Nat.add_assoc]
      simp only [List.append_assoc]

theorem amessage_spec (m : Msg) (cargs : List CArg) (buf : Bytes) (hwf : m.WF)
    (hd : Denote cargs m.args) (hcap : (Spec.encode m).length ≤ buf.length) :
    amessage (some buf) m.addr m.tags cargs =
      some ⟨some (Spec.encode m ++ buf.drop (Spec.encode m).length), (Spec.encode m).length, false⟩ := by
  have hsz : (Spec.encode m).length < 4294967296 := hwf.size
  rw [amessage, sizeNull_spec m cargs hwf hd]
  simp only [if_neg (Nat.not_lt.mpr hcap)]
  generalize buf.drop (Spec.encode m).length = tail
  have hT : (Spec.encode m).length =
      (padStr m.addr).length + (padStr (44 :: m.tags)).length + (m.args.flatMap encArg).length := by
    simp only [Spec.encode, List.length_append]
  -- `put 44` and `puts tags` together write the string `,tags`
  have hw : ∀ w : W, (w.put 44).puts m.tags = w.puts (44 :: m.tags) := fun _ => rfl
  rw [show (⟨zeros (Spec.encode m).length ++ tail, 0, false⟩ : W) = St [] (Spec.encode m).length tail
      from rfl, hw,
    putStr_St [] m.addr tail _ rfl (by omega) (by rw [List.length_nil]; omega), List.nil_append,
    putStr_St _ (44 :: m.tags) tail _ (padStr_length_mod _) (by omega) (by omega),
    writeLoop_spec hwf.matches_ cargs _ _ tail hd hwf.args_ok
      (by rw [List.length_append]; exact add_mod4 (padStr_length_mod _) (padStr_length_mod _))
      (by omega) (by rw [List.length_append]; omega)]
  simp only [St, Spec.encode, Nat.sub_sub, Nat.sub_self, zeros, List.replicate_zero,
    List.append_nil, List.length_append]

theorem amessage_null_spec (m : Msg) (cargs : List CArg) (hwf : m.WF) (hd : Denote cargs m.args) :
    amessage none m.addr m.tags cargs = some ⟨none, (Spec.encode m).length, false⟩ := by
  unfold amessage; rw [sizeNull_spec m cargs hwf hd]

theorem v2args_zero (narrow : UInt64 → UInt32) (ts : Bytes) (va : List VaArg) :
    v2args narrow 0 ts va = some [] := by cases ts <;> rfl

/-- the 32-bit values that sit under an `'f'` tag: the only arguments of a call site that
    undergo the float → double promotion (an `int`/`char`/rgb value is passed as `int`) -/
def fArgs : Bytes → List CArg → List UInt32
  | [], _ => []
  | t :: ts, args =>
    if !hasReserved t then fArgs ts args
    else
      match args with
      | [] => []
      | a :: as =>
        (match a with
          | .w32 v => if t = 102 then [v] else []
          | _ => []) ++ fArgs ts as

theorem fArgs_skip {t : UInt8} (ts : Bytes) (args : List CArg) (hr : hasReserved t = false) :
    fArgs (t :: ts) args = fArgs ts args := by simp [fArgs, hr]

theorem fArgs_cons {t : UInt8} (ts : Bytes) (a : CArg) (as : List CArg) (hr : hasReserved t = true) :
    fArgs (t :: ts) (a :: as) =
      (match a with
        | .w32 v => if t = 102 then [v] else []
        | _ => []) ++ fArgs ts as := by simp [fArgs, hr]

theorem mem_fArgs (tags : Bytes) : ∀ (cargs : List CArg) (v : UInt32), v ∈ fArgs tags cargs →
    CArg.w32 v ∈ cargs := by
  induction tags with
  | nil => intro cargs v h; simp [fArgs] at h
  | cons t ts ih =>
    intro cargs v h
    cases hr : hasReserved t with
    | false => rw [fArgs_skip ts cargs hr] at h; exact ih cargs v h
    | true =>
      cases cargs with
      | nil => simp [fArgs, hr] at h
      | cons a as =>
        rw [fArgs_cons ts a as hr, List.mem_append] at h
        rcases h with h | h
        · cases a with
          | w32 x =>
            by_cases ht : t = 102
            · simp [ht] at h; subst h; exact List.mem_cons_self
            · simp [ht] at h
          | _ => simp at h
        · exact List.mem_cons_of_mem _ (ih as v h)

theorem v2args_skip {t : UInt8} (hk : kind t = none) (narrow : UInt64 → UInt32) (n : Nat)
    (ts : Bytes) (va : List VaArg) : v2args narrow n (t :: ts) va = v2args narrow n ts va := by
  cases n with
  | zero => rw [v2args_zero, v2args_zero]
  | succ n =>
    obtain ⟨h1, h2, h3, h4, h5, h6, h7, h8, h9, h10, h11⟩ := kind_none t hk
    conv => lhs; unfold v2args
    simp only [h1, h2, h3, h4, h5, h6, h7, h8, h9, h10, h11, or_self, if_false]

/-- the argument array with the values under an `'f'` tag sent through `g` -/
def viaDoubleC (g : UInt32 → UInt32) : Bytes → List CArg → List CArg
  | [], args => args
  | t :: ts, args =>
    if !hasReserved t then viaDoubleC g ts args
    else
      match args with
      | [] => []
      | a :: as =>
        (match a with
          | .w32 v => if t = 102 then CArg.w32 (g v) else a
          | _ => a) :: viaDoubleC g ts as

theorem viaDoubleC_skip {t : UInt8} (g : UInt32 → UInt32) (ts : Bytes) (args : List CArg)
    (hr : hasReserved t = false) : viaDoubleC g (t :: ts) args = viaDoubleC g ts args := by
  simp [viaDoubleC, hr]

theorem viaDoubleC_cons {t : UInt8} (g : UInt32 → UInt32) (ts : Bytes) (a : CArg) (as : List CArg)
    (hr : hasReserved t = true) :
    viaDoubleC g (t :: ts) (a :: as) =
      (match a with
        | .w32 v => if t = 102 then CArg.w32 (g v) else a
        | _ => a) :: viaDoubleC g ts as := by
  simp [viaDoubleC, hr]

theorem viaDoubleC_nil (g : UInt32 → UInt32) : ∀ tags : Bytes, viaDoubleC g tags [] = [] := by
  intro tags
  induction tags with
  | nil => rfl
  | cons t ts ih =>
    cases hr : hasReserved t with
    | false => rw [viaDoubleC_skip g ts [] hr]; exact ih
    | true => simp [viaDoubleC, hr]

theorem viaDoubleC_id (g : UInt32 → UInt32) (tags : Bytes) : ∀ (cargs : List CArg),
    (∀ v ∈ fArgs tags cargs, g v = v) → viaDoubleC g tags cargs = cargs := by
  induction tags with
  | nil => intro cargs _; rfl
  | cons t ts ih =>
    intro cargs hf
    cases hr : hasReserved t with
    | false => rw [viaDoubleC_skip g ts cargs hr]; exact ih cargs (fArgs_skip ts cargs hr ▸ hf)
    | true =>
      cases cargs with
      | nil => exact viaDoubleC_nil g _
      | cons c cs =>
        rw [fArgs_cons ts c cs hr] at hf
        rw [viaDoubleC_cons g ts c cs hr, ih cs (fun v hv => hf v (List.mem_append_right _ hv))]
        congr 1
        cases c with
        | w32 v =>
          by_cases ht : t = 102
          · simp [ht, hf v (by simp [ht])]
          · simp [ht]
        | _ => rfl

/-- `rtosc_v2args` on the promoted values of a call site: the argument array of the call site
    with the `'f'` values converted there and back — no hypothesis on the conversions. -/
theorem v2args_promote_any (narrow : UInt64 → UInt32) (widen : UInt32 → UInt64) (tags : Bytes) :
    ∀ (cargs : List CArg) (args : List Arg), Matches tags args → Denote cargs args →
      v2args narrow (nreserved tags) tags (promote widen tags cargs) =
        some (viaDoubleC (fun v => narrow (widen v)) tags cargs) := by
  intro cargs args hm
  induction tags, args, hm using Matches.walk generalizing cargs with
  | nil => intro hd; rw [denote_nil hd]; rfl
  | @skip t ts as hk _ ih =>
    intro hd
    have hr : hasReserved t = false := by rw [hasReserved_eq, hk]; rfl
    rw [nreserved_skip hk, v2args_skip hk, viaDoubleC_skip _ ts cargs hr,
      show promote widen (t :: ts) cargs = promote widen ts cargs by simp [promote, hr]]
    exact ih cargs hd
  | @take t ts a as hk _ _ ih =>
    intro hd
    obtain ⟨c, cs, rfl, hc, hd'⟩ := denote_cons hd
    have hr : hasReserved t = true := by rw [hasReserved_eq, hk]; rfl
    have ih' := ih cs hd'
    rw [nreserved_take hk, viaDoubleC_cons _ ts _ cs hr]
    -- the tag decides which `va_arg` fetches the value; only `'f'` converts it
    cases a with
    | w32 v =>
      rw [abs_w32 hc]
      rcases kind_w32 t hk with rfl | rfl | rfl | rfl <;> simp [promote, hr, v2args, ih']
    | w64 v =>
      rw [abs_w64 hc]
      rcases kind_w64 t hk with rfl | rfl | rfl <;> simp [promote, hr, v2args, ih']
    | midi x y z w =>
      obtain rfl := kind_midi t hk
      rw [abs_midi hc]
      simp [promote, hr, v2args, ih']
    | str s =>
      rw [abs_str hc]
      rcases kind_str t hk with rfl | rfl <;> simp [promote, hr, v2args, ih']
    | blob d =>
      obtain ⟨len, data, rfl, -, -⟩ := abs_blob hc
      obtain rfl := kind_blob t hk
      simp [promote, hr, v2args, ih']

/-- `rtosc_v2args` gives back the argument array of the call site; the float conversions are
    only required to round-trip on the values under an `'f'` tag. -/
theorem v2args_promote_f (narrow : UInt64 → UInt32) (widen : UInt32 → UInt64) (tags : Bytes)
    (cargs : List CArg) (args : List Arg) (hm : Matches tags args) (hd : Denote cargs args)
    (hf : ∀ v ∈ fArgs tags cargs, narrow (widen v) = v) :
    v2args narrow (nreserved tags) tags (promote widen tags cargs) = some cargs := by
  rw [v2args_promote_any narrow widen tags cargs args hm hd, viaDoubleC_id _ tags cargs hf]

/-- the same under the stronger hypothesis that every 32-bit argument round-trips -/
theorem v2args_promote (narrow : UInt64 → UInt32) (widen : UInt32 → UInt64) (tags : Bytes)
    (cargs : List CArg) (args : List Arg) (hm : Matches tags args) (hd : Denote cargs args)
    (hf : ∀ v, CArg.w32 v ∈ cargs → narrow (widen v) = v) :
    v2args narrow (nreserved tags) tags (promote widen tags cargs) = some cargs :=
  v2args_promote_f narrow widen tags cargs args hm hd (fun v hv => hf v (mem_fArgs tags cargs v hv))

theorem cargs_nil_of_nreserved_zero (tags : Bytes) : ∀ (cargs : List CArg) (args : List Arg),
    Matches tags args → Denote cargs args → nreserved tags = 0 → cargs = [] := by
  intro cargs args hm
  induction tags, args, hm using Matches.walk with
  | nil => intro hd _; exact denote_nil hd
  | skip hk _ ih => intro hd h0; exact ih hd (nreserved_skip hk ▸ h0)
  | take hk _ _ _ => intro _ h0; rw [nreserved_take hk] at h0; cases h0

/-- `rtosc_vmessage` on the promoted values of a call site is `rtosc_amessage` on the converted
    argument array, for the NULL buffer and for every buffer — no hypothesis on the conversions. -/
theorem vmessage_promote_any (narrow : UInt64 → UInt32) (widen : UInt32 → UInt64) (buffer : Option Bytes)
    (addr tags : Bytes) (cargs : List CArg) (args : List Arg) (hm : Matches tags args)
    (hd : Denote cargs args) :
    vmessage narrow buffer addr tags (promote widen tags cargs) =
      amessage buffer addr tags (viaDoubleC (fun v => narrow (widen v)) tags cargs) := by
  simp only [vmessage]
  rw [v2args_promote_any narrow widen tags cargs args hm hd]
  split
  · next h0 => rw [cargs_nil_of_nreserved_zero tags cargs args hm hd h0, viaDoubleC_nil]
  · rfl

theorem vmessage_promote_f (narrow : UInt64 → UInt32) (widen : UInt32 → UInt64) (buffer : Option Bytes)
    (addr tags : Bytes) (cargs : List CArg) (args : List Arg) (hm : Matches tags args)
    (hd : Denote cargs args) (hf : ∀ v ∈ fArgs tags cargs, narrow (widen v) = v) :
    vmessage narrow buffer addr tags (promote widen tags cargs) = amessage buffer addr tags cargs := by
  rw [vmessage_promote_any narrow widen buffer addr tags cargs args hm hd, viaDoubleC_id _ tags cargs hf]

theorem vmessage_promote (narrow : UInt64 → UInt32) (widen : UInt32 → UInt64) (buffer : Option Bytes)
    (addr tags : Bytes) (cargs : List CArg) (args : List Arg) (hm : Matches tags args)
    (hd : Denote cargs args) (hf : ∀ v, CArg.w32 v ∈ cargs → narrow (widen v) = v) :
    vmessage narrow buffer addr tags (promote widen tags cargs) = amessage buffer addr tags cargs :=
  vmessage_promote_f narrow widen buffer addr tags cargs args hm hd
    (fun v hv => hf v (mem_fArgs tags cargs v hv))

theorem avCollect_listOf (tags : Bytes) : ∀ (cargs : List CArg) (args : List Arg),
    Matches tags args → Denote cargs args → (∀ t ∈ tags, t ≠ 45 ∧ t ≠ 97) →
    avCollect (ArgVal.listOf tags cargs) = some (tags, cargs) := by
  intro cargs args hm
  induction tags, args, hm using Matches.walk generalizing cargs with
  | nil => intro hd _; rw [denote_nil hd]; rfl
  | @skip t ts as hk _ ih =>
    intro hd ht
    have hr : hasReserved t = false := by rw [hasReserved_eq, hk]; rfl
    have h45 := ht t List.mem_cons_self
    simp [ArgVal.listOf, hr, avCollect, h45.1, h45.2,
      ih cargs hd (fun x hx => ht x (List.mem_cons_of_mem _ hx))]
  | @take t ts a as hk _ _ ih =>
    intro hd ht
    obtain ⟨c, cs, rfl, _, hd'⟩ := denote_cons hd
    have hr : hasReserved t = true := by rw [hasReserved_eq, hk]; rfl
    have h45 := ht t List.mem_cons_self
    simp [ArgVal.listOf, hr, avCollect, h45.1, h45.2,
      ih cs hd' (fun x hx => ht x (List.mem_cons_of_mem _ hx))]

end Rtosc.Osc
