/-
  The readers of `Osc/Read.lean` on a block that holds the layout of an OSC message

      c addr  NUL  (j NUL)  ','  tags  NUL  pad  arguments  anything

  in which the padding bytes behind the type tags, behind string terminators and behind blob data
  are arbitrary (`LaxEnc`, `LaxArgs`) and unknown tags are tags without payload.  The readers look
  at none of these bytes, so this is the form in which their loops are proved: once.
  C01 applies the result to `Spec.encode m ++ rest` (`laxArgs_encode`: the OSC 1.0 encoding is one
  such layout; `readers_enc`), C07 to a buffer the validator accepts (`Layout`, `readers_of_layout`,
  Proofs/ValidLayout.lean).
-/
import RtoscModel.Proofs.OscRead
namespace Rtosc.Osc.V
open Rtosc Rtosc.Osc

/-- `e` is an encoding of the argument `a` in which the bytes behind a string terminator / blob
    data (the padding) are arbitrary; a blob is shorter than 2^31 bytes (`int32_t len` of
    `rtosc_blob_t`) -/
def LaxEnc : Arg → Bytes → Prop
  | .w32 v, e => ∃ b0 b1 b2 b3, e = [b0, b1, b2, b3] ∧ v = get32 b0 b1 b2 b3
  | .w64 v, e => ∃ b0 b1 b2 b3 b4 b5 b6 b7, e = [b0, b1, b2, b3, b4, b5, b6, b7] ∧
      v = get64 b0 b1 b2 b3 b4 b5 b6 b7
  | .midi a b c d, e => e = [a, b, c, d]
  | .str s, e => NoNul s ∧ ∃ pad, e = s ++ 0 :: pad ∧ pad.length = 3 - s.length % 4
  | .blob d, e => ∃ b0 b1 b2 b3 pad, e = b0 :: b1 :: b2 :: b3 :: (d ++ pad) ∧
      (get32 b0 b1 b2 b3).toNat = d.length ∧ d.length < 2147483648 ∧ pad.length = pad4 d.length

/-- the argument bytes `A` hold, in order, one (lax) encoding per payload tag -/
inductive LaxArgs : Bytes → List Arg → Bytes → Prop
  | nil : LaxArgs [] [] []
  | skip {t : UInt8} {ts : Bytes} {args : List Arg} {A : Bytes} :
      kind t = none → LaxArgs ts args A → LaxArgs (t :: ts) args A
  | take {t : UInt8} {ts : Bytes} {a : Arg} {as : List Arg} {e A : Bytes} :
      kind t = some a.kind → LaxEnc a e → LaxArgs ts as A → LaxArgs (t :: ts) (a :: as) (e ++ A)

theorem laxEnc_encArg {a : Arg} (hw : a.WF) : LaxEnc a (encArg a) := by
  cases a with
  | w32 v => obtain ⟨b0, b1, b2, b3, hb, hg⟩ := get32_be32 v; exact ⟨b0, b1, b2, b3, hb, hg.symm⟩
  | w64 v =>
    obtain ⟨b0, b1, b2, b3, b4, b5, b6, b7, hb, hg⟩ := get64_be64 v
    exact ⟨b0, b1, b2, b3, b4, b5, b6, b7, hb, hg.symm⟩
  | midi x y z w => rfl
  | str s => exact ⟨hw, zeros (3 - s.length % 4), padStr_eq s, zeros_length _⟩
  | blob d =>
    have hlt : d.length < 2147483648 := hw
    obtain ⟨b0, b1, b2, b3, hb, hg⟩ := get32_be32 (UInt32.ofNat d.length)
    refine ⟨b0, b1, b2, b3, zeros (pad4 d.length), ?_, ?_, hlt, zeros_length _⟩
    · rw [encArg, hb]; rfl
    · rw [hg]; exact ofNat_toNat_of_lt (Nat.lt_trans hlt (by decide))

theorem laxArgs_encode {tags : Bytes} {args : List Arg} (hm : Matches tags args) :
    (∀ a ∈ args, a.WF) → LaxArgs tags args (args.flatMap encArg) := by
  induction tags, args, hm using Matches.walk with
  | nil => intro _; exact .nil
  | skip hk _ ih => intro hw; exact .skip hk (ih hw)
  | @take t ts a as hk _ _ ih =>
    intro hw
    rw [List.flatMap_cons]
    exact .take hk (laxEnc_encArg (hw a List.mem_cons_self)) (ih fun x hx => hw x (List.mem_cons_of_mem _ hx))

theorem laxArgs_skip_inv {t : UInt8} {ts : Bytes} {args : List Arg} {A : Bytes} (hk : kind t = none)
    (h : LaxArgs (t :: ts) args A) : LaxArgs ts args A := by
  cases h with
  | skip _ h' => exact h'
  | take hk' _ _ => rw [hk] at hk'; cases hk'

theorem laxArgs_take_inv {t : UInt8} {ts : Bytes} {args : List Arg} {A : Bytes} {k : Kind}
    (hk : kind t = some k) (h : LaxArgs (t :: ts) args A) :
    ∃ a as e A', args = a :: as ∧ A = e ++ A' ∧ kind t = some a.kind ∧ LaxEnc a e ∧ LaxArgs ts as A' := by
  cases h with
  | skip hk' _ => rw [hk] at hk'; cases hk'
  | take hk' he h' => exact ⟨_, _, _, _, rfl, rfl, hk', he, h'⟩

theorem laxArgs_matches : ∀ {tags : Bytes} {args : List Arg} {A : Bytes}, LaxArgs tags args A → Matches tags args := by
  intro tags args A h
  induction h with
  | nil => simp [Matches, matchesB]
  | skip hk _ ih => exact (matches_skip hk).mpr ih
  | take hk _ _ ih => simp only [Matches, matchesB, hk, Bool.and_eq_true, decide_eq_true_eq]; exact ⟨trivial, ih⟩

/-- one step of a walk over the tags of a lax encoding: bracket / flag / payload -/
theorem lax_step {t : UInt8} {ts : Bytes} {args : List Arg} {A : Bytes} (h : LaxArgs (t :: ts) args A) :
    (isBracket t = true ∧ hasReserved t = false ∧ LaxArgs ts args A ∧
      Spec.valuesOf (t :: ts) args = Spec.valuesOf ts args) ∨
    (isBracket t = false ∧ hasReserved t = false ∧ LaxArgs ts args A ∧
      Spec.valuesOf (t :: ts) args = (t, flagVal t) :: Spec.valuesOf ts args) ∨
    (isBracket t = false ∧ hasReserved t = true ∧ ∃ a as e A', args = a :: as ∧ A = e ++ A' ∧
      kind t = some a.kind ∧ LaxEnc a e ∧ LaxArgs ts as A' ∧
      Spec.valuesOf (t :: ts) args = (t, .arg a) :: Spec.valuesOf ts as) := by
  rcases tag_step (laxArgs_matches h) with ⟨hb, hk, hr, _, hv⟩ | ⟨hb, hk, hr, _, hv⟩ | ⟨hb, hr, a, as, rfl, hka, _, hv⟩
  · exact Or.inl ⟨hb, hr, laxArgs_skip_inv hk h, hv⟩
  · exact Or.inr (Or.inl ⟨hb, hr, laxArgs_skip_inv hk h, hv⟩)
  · obtain ⟨a', as', e, A', hargs, hA, hk', he, h'⟩ := laxArgs_take_inv hka h
    cases hargs
    exact Or.inr (Or.inr ⟨hb, hr, a, as, e, A', rfl, hA, hk', he, h', hv⟩)

theorem laxArgs_length : ∀ {tags : Bytes} {args : List Arg} {A : Bytes}, LaxArgs tags args A →
    ∀ a ∈ args, ∃ e, LaxEnc a e ∧ e.length ≤ A.length := by
  intro tags args A h
  induction h with
  | nil => intro a ha; cases ha
  | skip _ _ ih => exact ih
  | take _ he _ ih =>
    intro a ha
    rcases List.mem_cons.mp ha with rfl | ha'
    · exact ⟨_, he, by simp⟩
    · obtain ⟨e, h1, h2⟩ := ih a ha'
      exact ⟨e, h1, by simp; omega⟩

/-- `advance_past_dummy_args` at the tags `ts`: the leading brackets are passed over, the values
    and the arguments stay -/
theorem advance_lax {m : Bytes} {p : Nat} {ts : Bytes} {args : List Arg} {A X : Bytes}
    (hl : LaxArgs ts args A) (hnn : NoNul ts) (hd : m.drop p = ts ++ 0 :: X) :
    ∃ j ts', advancePast m p = some (j + p) ∧ m.drop (j + p) = ts' ++ 0 :: X ∧
      Led (LaxArgs · args A) ts ts' args :=
  advancePast_spec (P := (LaxArgs · args A)) (fun hb h => laxArgs_skip_inv (bracket_kind _ hb).1 h)
    args hd hl hnn

theorem argSize_lax {m : Bytes} {p : Nat} {t : UInt8} {a : Arg} {e R : Bytes}
    (hd : m.drop p = e ++ R) (hk : kind t = some a.kind) (he : LaxEnc a e)
    (hsz : e.length < 4294967296) : argSize m p t = some e.length := by
  rw [argSize_kind, hk]
  cases a with
  | w32 v => obtain ⟨b0, b1, b2, b3, rfl, _⟩ := he; rfl
  | w64 v => obtain ⟨b0, b1, b2, b3, b4, b5, b6, b7, rfl, _⟩ := he; rfl
  | midi x y z w => have he' : e = [x, y, z, w] := he; rw [he']; rfl
  | str s =>
    obtain ⟨hs, pad, rfl, hpad⟩ := he
    have hl : (s ++ 0 :: pad).length = s.length + (4 - s.length % 4) := by
      rw [List.length_append, List.length_cons, hpad]; omega
    rw [hl] at hsz ⊢
    simp only [Arg.kind, Nat.add_sub_cancel_left,
      scanToNul_of_drop (r := pad ++ R) (by rw [hd, List.append_assoc, List.cons_append]) hs]
    rw [u32_id hsz]
  | blob d =>
    obtain ⟨b0, b1, b2, b3, pad, rfl, hlen, hlt, hpad⟩ := he
    have hl : (b0 :: b1 :: b2 :: b3 :: (d ++ pad)).length = 4 + (d.length + pad4 d.length) := by
      simp only [List.length_cons, List.length_append, hpad]; omega
    rw [hl] at hsz ⊢
    simp only [Arg.kind, rd32_of_drop4 (r := (d ++ pad) ++ R) (by rw [hd]; rfl), hlen]
    rw [padTo_eq _ (by omega), u32_id hsz]

theorem extract_lax {m : Bytes} {p : Nat} {t : UInt8} {a : Arg} {e R : Bytes}
    (hd : m.drop p = e ++ R) (hk : kind t = some a.kind) (he : LaxEnc a e) :
    (extractArg m p t).bind (CVal.view m) = some (.arg a) := by
  rw [extractArg_kind, hk]
  cases a with
  | w32 v =>
    obtain ⟨b0, b1, b2, b3, rfl, rfl⟩ := he
    simp only [Arg.kind, rd32_of_drop4 (r := R) hd]; rfl
  | w64 v =>
    obtain ⟨b0, b1, b2, b3, b4, b5, b6, b7, rfl, rfl⟩ := he
    simp only [Arg.kind, rd64_of_drop8 (r := R) hd]; rfl
  | midi x y z w =>
    have he' : e = [x, y, z, w] := he
    have hd' : m.drop p = x :: y :: z :: w :: R := by rw [hd, he']; rfl
    simp [Arg.kind, getElem?_of_drop hd', getElem?_of_drop' hd', CVal.view]
  | str s =>
    obtain ⟨hs, pad, rfl, -⟩ := he
    have hc : cstr (m.drop p) = some s := by
      rw [hd, List.append_assoc, List.cons_append]; exact cstr_append_nul s _ hs
    simp only [Arg.kind, Option.bind_some, CVal.view, hc]; rfl
  | blob d =>
    obtain ⟨b0, b1, b2, b3, pad, rfl, hlen, hlt, hpad⟩ := he
    have hd' : m.drop p = b0 :: b1 :: b2 :: b3 :: (d ++ (pad ++ R)) := by
      rw [hd, List.cons_append, List.cons_append, List.cons_append, List.cons_append, List.append_assoc]
    have hml := length_of_drop hd' (by simp)
    have hd4 : m.drop (p + 4) = d ++ (pad ++ R) := drop_add_of_drop (x := [b0, b1, b2, b3]) hd'
    simp only [List.length_cons, List.length_append] at hml
    simp only [Arg.kind, rd32_of_drop4 hd', Option.map_some, Option.bind_some, CVal.view, hlen, hd4,
      List.take_left]
    rw [if_pos ⟨hlt, by omega⟩]

theorem offLoop_lax (m : Bytes) : ∀ {tags : Bytes} {args : List Arg} {A : Bytes} (idx pos : Nat) (R X : Bytes)
    (t : UInt8) (v : Val),
    LaxArgs tags args A → NoNul tags →
    m.drop pos = A ++ R → pos + A.length < 4294967296 →
    (Spec.valuesOf tags args)[idx]? = some (t, v) →
    ∃ pos', offLoop m (tags ++ 0 :: X) idx pos = some pos' ∧
      pos' ≤ pos + A.length ∧
      (∀ a, v = .arg a → ∃ e R', m.drop pos' = e ++ R' ∧ kind t = some a.kind ∧ LaxEnc a e) := by
  intro tags
  induction tags with
  | nil => intro args A idx pos R X t v _ _ _ _ h; simp [Spec.valuesOf] at h
  | cons c ts ih =>
    intro args A idx pos R X t v hl hnn hd hlt h
    rcases lax_step hl with ⟨hb, hr, h', hv⟩ | ⟨hb, hr, h', hv⟩ | ⟨hb, -, a, as, e, A', rfl, rfl, hka, he, h', hv⟩
    · -- bracket
      rw [hv] at h
      obtain ⟨pos', h1, h2, h3⟩ := ih idx pos R X t v h' hnn.tail hd hlt h
      refine ⟨pos', ?_, h2, h3⟩
      cases idx with
      | zero => rw [offLoop_zero] at h1 ⊢; exact h1
      | succ n => simp only [List.cons_append, offLoop, (isBracket_iff c).mp hb, if_true]; exact h1
    · -- flag
      rw [hv] at h
      have hnb := not_bracket hb
      cases idx with
      | zero =>
        simp only [List.getElem?_cons_zero, Option.some.injEq, Prod.mk.injEq] at h
        refine ⟨pos, offLoop_zero _ _ _, Nat.le_add_right _ _, ?_⟩
        intro a ha; rw [← h.2] at ha; exact absurd ha (flagVal_ne_arg c a)
      | succ n =>
        simp only [List.getElem?_cons_succ] at h
        obtain ⟨pos', h1, h2, h3⟩ := ih n pos R X t v h' hnn.tail hd hlt h
        refine ⟨pos', ?_, h2, h3⟩
        simp only [List.cons_append, offLoop, hnb, if_false, argSize, hr, Bool.not_false, if_true,
          Nat.add_zero]
        exact h1
    · -- payload
      rw [hv] at h
      have hnb := not_bracket hb
      simp only [List.append_assoc, List.length_append] at hd hlt ⊢
      cases idx with
      | zero =>
        simp only [List.getElem?_cons_zero, Option.some.injEq, Prod.mk.injEq] at h
        refine ⟨pos, offLoop_zero _ _ _, Nat.le_add_right _ _, ?_⟩
        intro a' ha'
        rw [← h.2] at ha'; cases ha'
        exact ⟨e, _, hd, by rw [← h.1]; exact hka, he⟩
      | succ n =>
        simp only [List.getElem?_cons_succ] at h
        have hsz := argSize_lax hd hka he (by omega)
        have hd' := drop_add_of_drop hd
        obtain ⟨pos', h1, h2, h3⟩ := ih n (pos + e.length) R X t v h' hnn.tail hd' (by omega) h
        refine ⟨pos', ?_, by omega, h3⟩
        simp only [List.cons_append, offLoop, hnb, if_false, hsz]
        exact h1

theorem iterLoop_lax (m : Bytes) : ∀ (fuel : Nat) {tags : Bytes} {args : List Arg} {A : Bytes} (tp vp : Nat)
    (R X : Bytes),
    LaxArgs tags args A → NoNul tags → NoLead tags →
    m.drop tp = tags ++ 0 :: X → m.drop vp = A ++ R →
    vp + A.length < 2147483648 → tags.length < fuel →
    ∃ l, iterLoop m fuel ⟨tp, vp⟩ = some l ∧ l.mapM (viewPair m) = some (Spec.valuesOf tags args) := by
  intro fuel
  induction fuel with
  | zero => intro tags args A tp vp R X _ _ _ _ _ _ h; omega
  | succ fuel ih =>
    intro tags args A tp vp R X hl hnn hnl htp hvp hlt hfuel
    cases tags with
    | nil =>
      have h0 : m[tp]? = some 0 := getElem?_of_drop htp
      exact ⟨[], by simp [iterLoop, itrEnd, h0], by simp [Spec.valuesOf]⟩
    | cons c ts =>
      have hc0 := hnn.head
      have hcb : isBracket c = false := hnl c ts rfl
      have hmc : m[tp]? = some c := getElem?_of_drop htp
      have htp1 : m.drop (tp + 1) = ts ++ 0 :: X := drop_succ_of_drop_cons htp
      rcases lax_step hl with ⟨hb, _⟩ | ⟨_, hr, h', hv⟩ | ⟨_, -, a, as, e, A', rfl, rfl, hka, he, h', hv⟩
      · rw [hcb] at hb; cases hb
      · -- flag
        obtain ⟨j, ts', hadv, htp', L⟩ := advance_lax h' hnn.tail htp1
        have hlen : ts'.length < fuel := by have := L.le; simp only [List.length_cons] at hfuel; omega
        obtain ⟨l, hl1, hl2⟩ := ih (j + (tp + 1)) vp R X L.keep L.nn L.noLead htp' hvp hlt hlen
        have hex := extract_flag m vp hr
        cases hx : extractArg m vp c with
        | none => rw [hx] at hex; simp at hex
        | some cv =>
          rw [hx] at hex; simp only [Option.bind_some] at hex
          refine ⟨(c, cv) :: l, ?_, ?_⟩
          · simp [iterLoop, itrEnd, itrNext, hmc, hc0, hx, hadv, argSize, hr, hl1]
          · rw [hv, ← L.vals]
            simp [List.mapM_cons, viewPair, hex, hl2]
      · -- payload
        simp only [List.append_assoc, List.length_append] at hvp hlt
        obtain ⟨j, ts', hadv, htp', L⟩ := advance_lax h' hnn.tail htp1
        have hlen : ts'.length < fuel := by have := L.le; simp only [List.length_cons] at hfuel; omega
        have hsz := argSize_lax hvp hka he (by omega)
        have hvp' := drop_add_of_drop hvp
        obtain ⟨l, hl1, hl2⟩ := ih (j + (tp + 1)) (vp + e.length) R X L.keep L.nn L.noLead
          htp' hvp' (by omega) hlen
        have hex := extract_lax hvp hka he
        cases hx : extractArg m vp c with
        | none => rw [hx] at hex; simp at hex
        | some cv =>
          rw [hx] at hex; simp only [Option.bind_some] at hex
          refine ⟨(c, cv) :: l, ?_, ?_⟩
          · have hlt' : e.length < 2147483648 := by omega
            simp [iterLoop, itrEnd, itrNext, hmc, hc0, hx, hadv, hsz, hlt', hl1]
          · rw [hv, ← L.vals]
            simp [List.mapM_cons, viewPair, hex, hl2]

/-- `c` is the first byte of the address (never looked at), `s` the rest of it; `R` is whatever
    follows the message.  Offsets: the first tag at `s.length + 2 + j + 1`, the first argument
    `tags.length + 1 + pad.length` behind it.  Index access needs the end of the arguments below
    2^32 (`unsigned`), the iterator below 2^31 (`int size`). -/
theorem readers_lax {bs s tags pad A R : Bytes} {c : UInt8} {j : Nat} {args : List Arg}
    (heq : bs = c :: (s ++ 0 :: (zeros j ++ 44 :: (tags ++ 0 :: (pad ++ (A ++ R))))))
    (hsnn : NoNul s) (hnn : NoNul tags) (hpad : pad.length = 3 - (tags.length + 1) % 4)
    (hla : LaxArgs tags args A) :
    Reads bs (s.length + 2 + j + 1) (s.length + 2 + j + 1 + tags.length + 1 + pad.length + A.length)
      tags (Spec.valuesOf tags args) := by
  -- the pieces of the block
  have h0 : bs.drop 0 = c :: (s ++ 0 :: (zeros j ++ 44 :: (tags ++ 0 :: (pad ++ (A ++ R))))) := heq
  have h1 : bs.drop (0 + 1 + s.length) = 0 :: (zeros j ++ 44 :: (tags ++ 0 :: (pad ++ (A ++ R)))) :=
    drop_add_of_drop (drop_succ_of_drop_cons h0)
  have h2 : bs.drop (s.length + 2 + j) = 44 :: (tags ++ 0 :: (pad ++ (A ++ R))) := by
    have := drop_add_of_drop (drop_succ_of_drop_cons h1)
    rw [zeros_length] at this
    rw [← this]; congr 1; omega
  have h3 : bs.drop (s.length + 2 + j + 1) = tags ++ 0 :: (pad ++ (A ++ R)) := drop_succ_of_drop_cons h2
  have h4 : bs.drop (s.length + 2 + j + 1 + tags.length + 1 + pad.length) = A ++ R := by
    have := drop_add_of_drop (x := tags ++ 0 :: pad) (y := A ++ R) (by simpa using h3)
    simp only [List.length_append, List.length_cons] at this
    rw [← this]; congr 1; omega
  have hlen : bs.length = s.length + 2 + j + 1 + tags.length + 1 + pad.length + A.length + R.length := by
    have := congrArg List.length heq
    simp only [List.length_cons, List.length_append, zeros_length] at this
    omega
  have has : argString bs = some (s.length + 2 + j + 1) := by
    simp only [argString, skipToNul_of_drop h0 hsnn, skipNuls_of_drop h1 (by decide : (44 : UInt8) ≠ 0)]
    congr 1; omega
  have hcs : cstrAt bs (s.length + 2 + j + 1) = some tags := by
    simp only [cstrAt, h3]; exact cstr_append_nul tags _ hnn
  have hm := laxArgs_matches hla
  have hbase : argBase bs (s.length + 2 + j + 1) =
      some (s.length + 2 + j + 1 + tags.length + 1 + pad.length) := by
    simp only [argBase, scanToNul_of_drop h3 hnn]
    rw [show s.length + 2 + j + 1 + tags.length - (s.length + 2 + j + 1 - 1) = tags.length + 1 by omega,
      hpad]
    congr 1; omega
  obtain ⟨jb, ts', hadv, hdrop, L⟩ := advance_lax hla hnn h3
  refine ⟨has, hcs, fun h32 => ?_, fun h32 => ?_, fun h31 => ?_⟩
  · have hcnt : (Spec.valuesOf tags args).length ≤ tags.length := by
      rw [valuesOf_length tags args hm]; exact List.length_filter_le _ _
    simp only [narguments, has, h3, countArgs_spec _ _ _ hm hnn, Option.map_some]
    rw [u32_id (by omega)]
  · intro i t v h
    have hty : typeAt bs i = some t := by
      simp only [typeAt, has, h3]
      exact typeLoop_spec _ _ _ i t v hm hnn h
    refine ⟨hty, ?_⟩
    rcases valuesOf_entry tags args i t v hm h with ⟨hr, hv⟩ | ⟨hr, a, hv⟩
    · obtain ⟨cv, hx, hex⟩ := Option.bind_eq_some_iff.mp (extract_flag bs 0 hr)
      simp [argumentView, argument, hty, argOff, hr, hx, hex, hv]
    · have h' : (Spec.valuesOf ts' args)[i]? = some (t, v) := by rw [L.vals]; exact h
      obtain ⟨pos', hp1, hp2, hp3⟩ := offLoop_lax bs i _ R (pad ++ (A ++ R)) t v L.keep L.nn h4 h32 h'
      obtain ⟨e, R', hd', hk, he⟩ := hp3 a hv
      have hoff : argOff bs i = some pos' := by
        simp only [argOff, hty, hr, Bool.not_true, if_false, has, hbase, hadv, hdrop, hp1,
          Option.map_some, Bool.false_eq_true]
        rw [u32_id (by omega)]
      obtain ⟨cv, hx, hex⟩ := Option.bind_eq_some_iff.mp (extract_lax hd' hk he)
      simp [argumentView, argument, hty, hoff, hx, hex, hv]
  · have hstart : argStart bs = some (s.length + 2 + j + 1 + tags.length + 1 + pad.length) := by
      simp only [argStart, has, hbase, Option.map_some]
      rw [u32_id (by omega)]
    have hbeg : itrBegin bs = some ⟨jb + (s.length + 2 + j + 1), s.length + 2 + j + 1 + tags.length + 1 + pad.length⟩ := by
      simp [itrBegin, has, hadv, hstart]
    obtain ⟨l, hl1, hl2⟩ := iterLoop_lax bs _ (jb + (s.length + 2 + j + 1))
      (s.length + 2 + j + 1 + tags.length + 1 + pad.length) R (pad ++ (A ++ R)) L.keep L.nn L.noLead hdrop h4 h31
      (show ts'.length < bs.length + 1 by have := L.le; omega)
    exact ⟨l, by simp only [iterate, hbeg, hl1], by rw [hl2, L.vals]⟩

end Rtosc.Osc.V

namespace Rtosc.Osc
open Rtosc

theorem readers_enc (m : Msg) (rest : Bytes) (hwf : m.WF) :
    Reads (Spec.encode m ++ rest) (Aoff m + 1) (Spec.encode m).length m.tags (Spec.values m) := by
  obtain ⟨c, s, hcs⟩ := List.exists_cons_of_ne_nil hwf.addr_ne
  have hl := encode_layout m rest
  rw [hcs, List.cons_append] at hl
  have R := V.readers_lax hl (hcs ▸ hwf.addr_nonul : NoNul (c :: s)).tail
    (fun x hx => (isTag_ne_zero x (hwf.tags_ok x hx)).1) (zeros_length _)
    (V.laxArgs_encode hwf.matches_ hwf.args_ok)
  -- the offsets of `readers_lax` in terms of the padded lengths
  have hA : s.length + 2 + (3 - (c :: s).length % 4) + 1 = Aoff m + 1 := by
    rw [Aoff_eq, hcs, List.length_cons]
  have hE : s.length + 2 + (3 - (c :: s).length % 4) + 1 + m.tags.length + 1 +
      (zeros (3 - (m.tags.length + 1) % 4)).length + (m.args.flatMap encArg).length =
      (Spec.encode m).length := by
    rw [hA, encode_length_off, Boff_eq, zeros_length]; omega
  rw [hE, hA] at R
  exact R

end Rtosc.Osc
