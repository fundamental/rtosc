/-
  C20 — lemmas behind the clauses of the property: what a `cc` step does, the linear
  bijection, how bindings move under map / unMap (read off the table refinement of Proofs/MidiNrt),
  who was ever assigned (`known_assigned`), the learn and unMap handshakes from a quiescent state, the
  credit balance that keeps K1 away without `clear`, `views_are_past`, and the history of a concrete
  run as a history (`histOf` of RtoscModel/MidiSpec.lean: `trace_histOf`, `trace_of_concrete_run`).
-/
import RtoscModel.Proofs.MidiValues
import RtoscModel.Proofs.MidiInv
namespace Rtosc.Midi

theorem Cb.fire_addr (c : Cb) (x : Nat) : (c.fire x).addr = c.addr := by
  unfold Cb.fire
  split
  · rfl
  · split <;> rfl

/-- complete description of a non-crashing `cc` step in terms of the RT half's binding -/
theorem cc_step_spec {P s id val s' out} (h : step P s (.cc id val) = some (s', out)) :
    (s.rt.binding id = none ∧ out = []) ∨
    (∃ st e old cb, s.rt.storage = some st ∧ st.mapping.find? (fun x => x.id == id) = some e ∧
      st.values[e.slot]? = some old ∧ st.callbacks[e.slot]? = some cb ∧
      s.rt.binding id = some (cb.addr, e.coarse) ∧ out = [cb.fire (blit e.coarse val old)] ∧
      s'.rt.storage = some { st with values := st.values.set e.slot (blit e.coarse val old) } ∧
      s'.toRT = s.toRT) := by
  cases step_iff.mp h with
  | ccHit hst hf hv hc =>
    exact .inr ⟨_, _, _, _, hst, hf, hv, hc, by simp [RT.binding_eq hst, Storage.binding, hf, hc],
      rfl, rfl, rfl⟩
  | ccAsk hf => exact .inl ⟨RT.binding_of_miss hf, rfl⟩
  | ccDrop hf => exact .inl ⟨RT.binding_of_miss hf, rfl⟩
  | nrt hn => cases hn
  | idle hc => rcases hc with ⟨e, -⟩ | ⟨e, -⟩ <;> cases e

theorem bijNum_mono {mn mx : Int} (h : mn ≤ mx) {x y : Nat} (hxy : x ≤ y) :
    bijNum mn mx x ≤ bijNum mn mx y := by
  unfold bijNum
  have h1 : (0 : Int) ≤ mx - mn := by omega
  have h2 : (x : Int) ≤ (y : Int) := by exact_mod_cast hxy
  have := Int.mul_le_mul_of_nonneg_right h2 h1
  omega

theorem bijNum_range {mn mx : Int} (h : mn ≤ mx) {x : Nat} (hx : x ≤ 16384) :
    16384 * mn ≤ bijNum mn mx x ∧ bijNum mn mx x ≤ 16384 * mx := by
  have h0 := bijNum_mono h (Nat.zero_le x)
  have h1 := bijNum_mono h hx
  have e0 : bijNum mn mx 0 = 16384 * mn := by simp [bijNum]
  have e1 : bijNum mn mx 16384 = 16384 * mx := by simp only [bijNum]; omega
  rw [e0] at h0; rw [e1] at h1; exact ⟨h0, h1⟩

theorem compose14_lt {k : Bool} {v o : Nat} (hv : v ≤ 127) (ho : o < 128) : compose14 k v o < 16384 := by
  cases k <;> simp [compose14] <;> omega

theorem compose14_mono {k : Bool} {v v' o o' : Nat} (hv : v ≤ v') (ho : o ≤ o') :
    compose14 k v o ≤ compose14 k v' o' := by
  cases k <;> simp [compose14] <;> omega

theorem blit_compose (k : Bool) (v old : Nat) (hv : v ≤ 127) (ho : old < 16384) :
    blit k v old = compose14 k v (half (!k) old) := by
  cases k
  · rw [blit_fine v old (by omega) ho, Bool.not_false, half_true]; simp [compose14]
  · rw [blit_coarse, Bool.not_true, half_false]; simp [compose14]

theorem unMap_bindings {P n a k n' ms} (h : NrtOk P n) (heq : n.unMap a k = some (n', ms)) :
    (∀ id b, n.binding id = some b → b ≠ (a, k) → n'.binding id = some b) ∧
    (∀ id, n'.binding id ≠ some (a, k)) ∧ (∀ id, n.binding id = some (a, k) → n'.binding id = none) := by
  have e : n'.binding = fun id => if n.binding id = some (a, k) then none else n.binding id :=
    congrArg Table.bound (unMap_table h heq)
  simp only [e, ne_eq, Option.ite_none_left_eq_some, not_and]
  exact ⟨fun id b hb hne => ⟨by rw [hb]; exact fun e => hne (Option.some.inj e), hb⟩, fun id hn hb => hn hb,
    fun id hb => if_pos hb⟩

theorem map_bindings {P : List PortSpec} {n a k n' ms} (h : NrtOk P n) (heq : n.map a k = some (n', ms)) :
    (∀ id b, n.binding id = some b → b ≠ (a, k) → n'.binding id = some b) := by
  rcases NRT.map_sent heq with ⟨rfl, -⟩ | ⟨n1, ms1, hu, rfl, -⟩
  · intro id b hb _; exact hb
  · exact (unMap_bindings h hu).1

/-- `id` occurs in some snapshot of the system -/
def KnownId (s : Sys) (id : Nat) : Prop :=
  id ∈ ids s.nrt.mapping ∨ (∃ st ans, RtMsg.bind st ans ∈ s.toRT ∧ id ∈ ids st.mapping) ∨
  id ∈ ids (omap s.rt.storage)

/-- a step brings no controller into a snapshot except by answering its request -/
theorem knownId_step {P s op s' out} (hi : Inv P s) (hwf : op.wf P) (hz : hazard s op = false)
    (hs : step P s op = some (s', out)) :
    ∀ id, KnownId s' id → KnownId s id ∨
      (op = .deliverNRT ∧ s.toNRT.head? = some id ∧ s.nrt.learnQ ≠ []) := by
  intro id hk
  cases step_iff.mp hs with
  | ccHit hst =>
    rcases hk with hk | hk | hk
    · exact .inl (.inl hk)
    · exact .inl (.inr (.inl hk))
    · exact .inl (.inr (.inr (by simpa [omap, hst] using hk)))
  | ccAsk => exact .inl hk
  | ccDrop => exact .inl hk
  | idle => exact .inl hk
  | watch hq =>
    rcases hk with hk | ⟨st, ans, hin, hk⟩ | hk
    · exact .inl (.inl hk)
    · exact .inl (.inr (.inl ⟨st, ans, hq ▸ List.mem_cons_of_mem _ hin, hk⟩))
    · exact .inl (.inr (.inr hk))
  | @bind ns ans rest ns' hq hc =>
    rcases hk with hk | ⟨st, a, hin, hk⟩ | hk
    · exact .inl (.inl hk)
    · exact .inl (.inr (.inl ⟨st, a, hq ▸ List.mem_cons_of_mem _ hin, hk⟩))
    · exact .inl (.inr (.inl ⟨ns, ans, hq ▸ List.mem_cons_self, by simpa [omap, hc.view.1] using hk⟩))
  | @nrt _ n' ms q' hn =>
    obtain ⟨-, -, -, hbind⟩ := hi.nrt_ok hn hwf.map (hazard_iff.mp hz).1
    have e := hn.sends
    -- a controller of the new snapshot is an old one or the one answered
    have hnew : ∀ x ∈ ids n'.mapping, x ∈ ids s.nrt.mapping ∨
        (op = .deliverNRT ∧ s.toNRT.head? = some x ∧ s.nrt.learnQ ≠ []) := by
      intro x hx
      obtain ⟨w, -, ⟨-, hst⟩ | ⟨m, c, len, ans, hst, hms⟩⟩ := e.shape
      · exact .inl (by rw [← NRT.mapping_congr hst]; exact hx)
      · obtain ⟨hq, hids⟩ := hbind _ ans (hms ▸ List.mem_cons_self)
        rcases hids x (by rw [← NRT.mapping_eq hst]; exact hx) with h1 | rfl
        · exact .inl h1
        · have hop : op = .deliverNRT := by
            cases hn with
            | learn => rfl
            | _ => exact absurd (congrArg List.length hq) (by simp)
          exact .inr ⟨hop, by rw [← hq]; rfl, hn.queued (hazard_iff.mp hz).1 hop⟩
    rcases hk with hk | ⟨st, a, hin, hk⟩ | hk
    · exact (hnew id hk).imp .inl fun h => h
    · rcases List.mem_append.mp hin with hin | hin
      · exact .inl (.inr (.inl ⟨st, a, hin, hk⟩))
      · exact (hnew id (by rw [NRT.mapping_eq (e.bind_mem hin).1]; exact hk)).imp .inl fun h => h
    · exact .inl (.inr (.inr hk))

theorem known_assigned {P h s} (t : Trace P h s) (hf : HazardFree h) :
    ∀ id, KnownId s id → Assigned h id := by
  induction t with
  | init => intro id hk; simp [KnownId, Sys.init, NRT.init, RT.init, NRT.mapping, omap] at hk
  | step t hwf hs ih =>
    rename_i h0 s0 s1 op out
    have hf0 : HazardFree h0 := fun x hx => hf x (List.mem_cons_of_mem _ hx)
    have hz : hazard s0 op = false := hf (s0, op) List.mem_cons_self
    intro id hk
    rcases knownId_step (inv_of_trace t hf0) hwf hz hs id hk with h1 | ⟨h1, h2, h3⟩
    · obtain ⟨x, hx, hh⟩ := ih hf0 id h1
      exact ⟨x, List.mem_cons_of_mem _ hx, hh⟩
    · exact ⟨(s0, op), List.mem_cons_self, h1, h2, h3⟩

theorem binding_congr {st st' : Storage} (hm : st'.mapping = st.mapping) (hc : st'.callbacks = st.callbacks) :
    st'.binding = st.binding := by
  funext id; simp [Storage.binding, hm, hc]

theorem quiescent_bindings {P s} (hi : Inv P s) (hq : s.toRT = []) : s.rt.binding = s.nrt.binding := by
  have hl := hi.last
  rw [hq] at hl
  simp only [flightOf, lastShape] at hl
  funext id
  cases h1 : s.rt.storage <;> cases h2 : s.nrt.storage <;> simp [h1, h2, Storage.shape] at hl
  · rw [RT.binding_none h1, NRT.binding_none h2]
  · rename_i st st'
    rw [RT.binding_eq h1, NRT.binding_eq h2, binding_congr hl.1 hl.2.1]

/-- what the learn step leaves: the snapshot `ns` of the new state `n'` goes out as the answer to `id`, which now drives
    the address that headed the queue -/
structure Learned (P : List PortSpec) (s : Sys) (id : Nat) (rest : List Nat) (a : Nat) (k : Bool)
    (q : List (Nat × Bool)) (n' : NRT) (ns : Storage) : Prop where
  safe : SafeStep P s .deliverNRT { s with nrt := n', toRT := s.toRT ++ [.bind ns (some id)], toNRT := rest }
  storage : n'.storage = some ns
  queue : n'.learnQ = q
  bound : n'.binding id = some (a, k)
  keeps : ∀ id' b, s.nrt.binding id' = some b → n'.binding id' = some b

/-- a request reaches `useFreeID` while an address is queued (no hazard possible here) -/
theorem deliverNRT_ok {P s id rest a k q} (hi : Inv P s) (hq : s.toNRT = id :: rest)
    (hl : s.nrt.learnQ = (a, k) :: q) : ∃ n' ns, Learned P s id rest a k q n' ns := by
  have hz : hazard s .deliverNRT = false := hazard_iff.mpr ⟨hazardK1_deliverNRT.mpr (.inr (by simp [hl])), rfl⟩
  have hid : id ∉ ids s.nrt.mapping := hi.c1 id (by simp [hq])
  obtain ⟨n', ns, slot, e, -, hst, hq', -⟩ := useFreeID_ok id hi.nrt hl hid
  have hn : NrtStep P s.nrt s.toNRT .deliverNRT n' [.bind ns (some id)] rest := .learn hq e
  have ht : n'.binding = fun x => if x = id then some (a, k) else s.nrt.binding x := by
    simpa [tableOf, Table.learn, hl] using congrArg Table.bound (useFreeID_table hi.nrt hl hid e)
  refine ⟨n', ns, ⟨step_iff.mpr (.nrt hn), hz, inv_nrt hi hn (fun _ _ e => by cases e) (hazard_iff.mp hz).1⟩,
    hst, hq', by simp [ht], fun id' b hb => ?_⟩
  have hne : id' ≠ id := by rintro rfl; rw [(nrt_binding_none_iff hi.nrt _).mpr hid] at hb; cases hb
  simp only [ht, hne, if_false]; exact hb

theorem hazard_deliverRT_answer {s : Sys} {ns id rest} (hq : s.toRT = .bind ns (some id) :: rest) :
    hazard s .deliverRT = false :=
  hazard_iff.mpr ⟨rfl, (hazardK2_deliverRT_bind hq).mpr (.inl (by simp))⟩

/-- a `midi-bind` reaches the RT half (hazard-free): it acts on that snapshot from now on -/
theorem deliverRT_bind_ok {P s ns ans rest} (hi : Inv P s) (hq : s.toRT = .bind ns ans :: rest)
    (hz : hazard s .deliverRT = false) :
    ∃ ns', RecvBind s.rt.storage ns ns' ∧
      SafeStep P s .deliverRT
        { s with rt := { s.rt with pending := s.rt.pending.drop 1, storage := some ns' }, toRT := rest } := by
  obtain ⟨s', out, he, hinv⟩ := inv_step hi (by simp [Op.wf]) hz
  cases step_iff.mp he with
  | nrt hn => cases hn
  | watch hq' => rw [hq] at hq'; cases hq'
  | idle hc =>
    rcases hc with ⟨-, hq'⟩ | ⟨e, -⟩
    · rw [hq] at hq'; cases hq'
    · cases e
  | @bind ns1 ans1 rest1 ns' hq' hc =>
    rw [hq] at hq'; cases hq'
    exact ⟨ns', hc, he, hz, hinv⟩

/-- the realtime half acting on a received copy of the non-realtime half's snapshot binds what that half binds -/
theorem binding_of_recv {n : NRT} {cur : Option Storage} {ns ns' : Storage} (hr : RecvBind cur ns ns')
    (hn : n.storage = some ns) (r : RT) (hs : r.storage = some ns') : r.binding = n.binding := by
  rw [RT.binding_eq hs, NRT.binding_eq hn, binding_congr hr.view.1 hr.view.2]

/-- the three steps of a learn handshake and the state they end in -/
structure LearnDone (P : List PortSpec) (s : Sys) (id val a : Nat) (k : Bool) (q : List (Nat × Bool))
    (s1 s2 s3 : Sys) : Prop where
  cc : SafeStep P s (.cc id val) s1
  nrt : SafeStep P s1 .deliverNRT s2
  rt : SafeStep P s2 .deliverRT s3
  quiet : s3.quiescent
  queue : s3.nrt.learnQ = q
  rtBound : s3.rt.binding id = some (a, k)
  nrtBound : s3.nrt.binding id = some (a, k)
  keeps : ∀ id' b, s.rt.binding id' = some b → s3.rt.binding id' = some b

/-- **The learn handshake**, end to end, from a state with nothing under way: an unknown
    controller arrives while an address is queued; after the request and its answer have
    been delivered the controller drives the OLDEST queued address, nothing else moved,
    and again nothing is under way. -/
theorem learn_handshake {P s a k q id val} (hi : Inv P s) (hquiet : s.quiescent)
    (hl : s.nrt.learnQ = (a, k) :: q) (hb : s.rt.binding id = none) :
    ∃ s1 s2 s3, LearnDone P s id val a k q s1 s2 s3 := by
  obtain ⟨hq1, hq2⟩ := hquiet
  have hpend : s.rt.pending = [] := by rw [hi.pend, hq1, hq2]; simp [flightOf]
  have hw : s.rt.watch ≠ 0 := by
    have := hi.watch; rw [hl, hq1, hq2] at this; simp [watchesOf] at this; omega
  have c1 := cc_request_ok (val := val) hi hb (by simp [hpend]) hw (by simp [hpend])
  obtain ⟨n', ns, c2⟩ := deliverNRT_ok (id := id) (rest := []) c1.inv (by simp [hq2]) hl
  have hr2 : ∀ {x : Sys}, x.toRT = s.toRT ++ [.bind ns (some id)] → x.toRT = .bind ns (some id) :: [] :=
    fun h => by rw [h, hq1]; rfl
  obtain ⟨ns', hrecv, c3⟩ := deliverRT_bind_ok c2.safe.inv (hr2 rfl) (hazard_deliverRT_answer (hr2 rfl))
  have hrt3 := binding_of_recv hrecv c2.storage
  refine ⟨_, _, _, c1, c2.safe, c3, ⟨rfl, rfl⟩, c2.queue, (congrFun (hrt3 _ rfl) id).trans c2.bound, c2.bound, ?_⟩
  intro id' b hb'
  rw [quiescent_bindings hi hq1] at hb'
  exact (congrFun (hrt3 _ rfl) id').trans (c2.keeps id' b hb')

/-- the two steps of `unMap` with its `midi-bind` delivered, and the state they end in -/
structure UnmapDone (P : List PortSpec) (s : Sys) (a : Nat) (k : Bool) (s1 s2 : Sys) : Prop where
  unmap : SafeStep P s (.unmap a k) s1
  rt : SafeStep P s1 .deliverRT s2
  quiet : s2.quiescent
  stops : ∀ id, s2.rt.binding id ≠ some (a, k)
  keeps : ∀ id b, s.rt.binding id = some b → b ≠ (a, k) → s2.rt.binding id = some b
  gone : ∀ id, s.rt.binding id = some (a, k) → s2.rt.binding id = none

/-- **unMap, end to end** from a state with nothing under way: once the resulting
    `midi-bind` (if any) has been delivered, no controller drives `(a,k)` any more and every
    other binding of the RT half is as before. -/
theorem unmap_handshake {P s} (hi : Inv P s) (hquiet : s.quiescent) (a : Nat) (k : Bool) :
    ∃ s1 s2, UnmapDone P s a k s1 s2 := by
  obtain ⟨hq1, hq2⟩ := hquiet
  have hpend : s.rt.pending = [] := by rw [hi.pend, hq1, hq2]; simp [flightOf]
  obtain ⟨n', ms, hun, -, -, -, hcase⟩ := unMap_ok hi.nrt a k
  have hn : NrtStep P s.nrt s.toNRT (.unmap a k) n' ms s.toNRT := .unmap hun
  have c1 : SafeStep P s (.unmap a k) { s with nrt := n', toRT := s.toRT ++ ms, toNRT := s.toNRT } :=
    ⟨step_iff.mpr (.nrt hn), rfl, inv_nrt hi hn (fun _ _ e => by cases e) rfl⟩
  obtain ⟨hkeep, hstop, hgone⟩ := unMap_bindings hi.nrt hun
  have hqb := quiescent_bindings hi hq1
  -- what is left to show once the realtime half binds what `n'` binds
  have fin : ∀ {s2 : Sys}, SafeStep P { s with nrt := n', toRT := s.toRT ++ ms, toNRT := s.toNRT } .deliverRT s2 →
      s2.quiescent → s2.rt.binding = n'.binding →
      UnmapDone P s a k { s with nrt := n', toRT := s.toRT ++ ms, toNRT := s.toNRT } s2 := fun c2 hq hb =>
    ⟨c1, c2, hq, fun id => by rw [hb]; exact hstop id,
     fun id b hb' hne => by rw [hb]; rw [hqb] at hb'; exact hkeep id b hb' hne,
     fun id hb' => by rw [hb]; rw [hqb] at hb'; exact hgone id hb'⟩
  rcases hcase with ⟨rfl, hst⟩ | ⟨c, st, ns, _, _, hst', rfl⟩
  · -- nothing was bound: no message, the delivery step is a no-op
    have hr1 : s.toRT ++ [] = [] := by rw [hq1]; rfl
    exact ⟨_, _, fin ⟨step_iff.mpr (.idle (.inl ⟨rfl, hr1⟩)), hazard_iff.mpr ⟨rfl, hazardK2_deliverRT_nil hr1⟩, c1.inv⟩
      ⟨hr1, hq2⟩ (by rw [hqb, NRT.binding_congr hst])⟩
  · have hr1 : s.toRT ++ [.bind ns none] = .bind ns none :: [] := by rw [hq1]; rfl
    have hz : hazard { s with nrt := n', toRT := s.toRT ++ [.bind ns none], toNRT := s.toNRT } .deliverRT = false :=
      hazard_iff.mpr ⟨rfl, (hazardK2_deliverRT_bind hr1).mpr (.inr hpend)⟩
    obtain ⟨ns', hrecv, c2⟩ := deliverRT_bind_ok c1.inv hr1 hz
    exact ⟨_, _, fin c2 ⟨rfl, hq2⟩ (binding_of_recv hrecv hst' _ rfl)⟩

/-- watches the RT half holds or will receive, plus requests under way -/
def Sys.credits (s : Sys) : Nat := s.rt.watch + watchesOf s.toRT + s.toNRT.length

theorem balance_step {P s op s' out} (hs : step P s op = some (s', out)) (hop : op ≠ .clear)
    (hbal : s.credits = s.nrt.learnQ.length) : s'.credits = s'.nrt.learnQ.length := by
  cases step_iff.mp hs with
  | nrt hn =>
    have := hn.sends.queue hop (fun hq => by
      -- a request under way is a credit, so the queue is not empty when one is served
      cases hn with
      | learn hq0 _ => simp [Sys.credits, hq0, hq] at hbal
      | _ => rfl)
    simp only [Sys.credits, watchesOf_append] at hbal ⊢; omega
  | ccHit => exact hbal
  | ccAsk _ _ hw => simp only [Sys.credits, List.length_append, List.length_singleton] at hbal ⊢; omega
  | ccDrop => exact hbal
  | idle => exact hbal
  | watch hq => simp only [Sys.credits, hq, watchesOf] at hbal ⊢; omega
  | bind hq => simp only [Sys.credits, hq, watchesOf] at hbal ⊢; omega

/-- Without `clear`, watches and queued addresses stay in balance, so a request can never
    meet an empty learn queue: the K1 trigger needs a `clear` in the history. -/
theorem k1_free_without_clear (P : List PortSpec) :
    ∀ (ops : List Op) (s : Sys), Op.clear ∉ ops → s.credits = s.nrt.learnQ.length →
      anyStep hazardK1 P s ops = false := by
  intro ops
  induction ops with
  | nil => intro s _ _; rfl
  | cons op ops ih =>
    intro s hnc hbal
    have hnc' : Op.clear ∉ ops := fun h => hnc (List.mem_cons_of_mem _ h)
    have hop : op ≠ .clear := fun h => hnc (h ▸ List.mem_cons_self)
    simp only [anyStep, Bool.or_eq_false_iff]
    constructor
    · cases op <;> try rfl
      refine hazardK1_deliverNRT.mpr ?_
      cases hq : s.toNRT with
      | nil => exact .inl rfl
      | cons id rest => right; intro hl; simp [Sys.credits, hq, hl] at hbal
    · cases hs : step P s op with
      | none => rfl
      | some r => exact ih r.1 hnc' (balance_step hs hop hbal)

/-- what `binding` looks at -/
def viewOf (o : Option Storage) : List MapEnt × List Cb :=
  match o with
  | none => ([], [])
  | some st => (st.mapping, st.callbacks)

theorem binding_of_viewOf {r : RT} {n : NRT} (h : viewOf r.storage = viewOf n.storage) :
    r.binding = n.binding := by
  funext id
  cases h1 : r.storage <;> cases h2 : n.storage <;> simp [h1, h2, viewOf] at h
  · rw [RT.binding_none h1, NRT.binding_none h2]
  · obtain ⟨e1, e2⟩ := h; simp [RT.binding_none h1, NRT.binding_eq h2, Storage.binding, e1]
  · obtain ⟨e1, e2⟩ := h; simp [RT.binding_eq h1, NRT.binding_none h2, Storage.binding, e1]
  · obtain ⟨e1, e2⟩ := h; rw [RT.binding_eq h1, NRT.binding_eq h2, binding_congr e1 e2]

theorem view_eq {n : NRT} {st : Storage} (hv : viewOf (some st) = viewOf n.storage) :
    n.mapping = st.mapping ∧ n.callbacks = st.callbacks := by
  cases hs : n.storage with
  | none => simp [viewOf, hs] at hv; simp [NRT.mapping_none hs, NRT.callbacks_none hs, hv.1, hv.2]
  | some st2 =>
    simp only [viewOf, hs, Prod.mk.injEq] at hv
    simp [NRT.mapping_eq hs, NRT.callbacks_eq hs, hv.1, hv.2]

/-- Every snapshot in flight, and the one the realtime half acts on, is (mapping and
    callbacks) the current snapshot of the non-realtime half at some moment of the history:
    whatever the delivery order, hazards or not. -/
theorem views_are_past {P h s} (t : Trace P h s) :
    (∃ n ∈ pastNrts h s, viewOf s.rt.storage = viewOf n.storage) ∧
    (∀ st ans, RtMsg.bind st ans ∈ s.toRT → ∃ n ∈ pastNrts h s, viewOf (some st) = viewOf n.storage) := by
  induction t with
  | init => exact ⟨⟨NRT.init, by simp [pastNrts, Sys.init], rfl⟩, by simp [Sys.init]⟩
  | step t hwf hs ih =>
    rename_i h0 s0 s1 op out
    obtain ⟨hr, hfl⟩ := ih
    -- older states stay in the past
    have older : ∀ {v}, (∃ n ∈ pastNrts h0 s0, v = viewOf n.storage) → ∃ n ∈ pastNrts ((s0, op) :: h0) s1, v = viewOf n.storage := by
      rintro v ⟨n, hn, hv⟩
      exact ⟨n, by simp only [pastNrts, List.map_cons, List.mem_cons] at hn ⊢; exact .inr hn, hv⟩
    cases step_iff.mp hs with
    | nrt hn =>
      refine ⟨older hr, fun st ans hin => ?_⟩
      rcases List.mem_append.mp hin with hin | hin
      · exact older (hfl st ans hin)
      · exact ⟨_, List.mem_cons_self, by rw [(hn.sends.bind_mem hin).1]⟩
    | ccHit hst => exact ⟨older (by simpa only [viewOf, hst] using hr), fun st ans hin => older (hfl st ans hin)⟩
    | ccAsk => exact ⟨older hr, fun st ans hin => older (hfl st ans hin)⟩
    | ccDrop => exact ⟨older hr, fun st ans hin => older (hfl st ans hin)⟩
    | idle => exact ⟨older hr, fun st ans hin => older (hfl st ans hin)⟩
    | watch hq => exact ⟨older hr, fun st ans hin => older (hfl st ans (hq ▸ List.mem_cons_of_mem _ hin))⟩
    | bind hq hc =>
      refine ⟨older ?_, fun st ans hin => older (hfl st ans (hq ▸ List.mem_cons_of_mem _ hin))⟩
      have hv := hfl _ _ (hq ▸ List.mem_cons_self)
      simpa only [viewOf, hc.view.1, hc.view.2] using hv

theorem run_cons {P : List PortSpec} {s s'' : Sys} {op : Op} {ops : List Op} {o : List (List Msg)} :
    run P s (op :: ops) = some (s'', o) ↔
      ∃ s' out outs, step P s op = some (s', out) ∧ run P s' ops = some (s'', outs) ∧ o = out :: outs := by
  constructor
  · intro h
    rw [run] at h
    cases hs : step P s op with
    | none => rw [hs] at h; cases h
    | some r =>
      obtain ⟨s', out⟩ := r
      rw [hs] at h
      cases hr : run P s' ops with
      | none => simp [hr] at h
      | some r2 =>
        obtain ⟨s2, outs⟩ := r2
        simp only [hr, Option.some.injEq, Prod.mk.injEq] at h
        obtain ⟨rfl, rfl⟩ := h
        exact ⟨_, _, _, rfl, hr, rfl⟩
  · rintro ⟨s', out, outs, hs, hr, rfl⟩
    simp only [run, hs, hr]

theorem trace_histOf {P : List PortSpec} :
    ∀ (ops : List Op) (h0 : List (Sys × Op)) (s0 s : Sys) (outs : List (List Msg)),
      Trace P h0 s0 → (∀ op ∈ ops, op.wf P) → run P s0 ops = some (s, outs) →
      Trace P (histOf P s0 ops ++ h0) s := by
  intro ops
  induction ops with
  | nil =>
    intro h0 s0 s outs t _ hr
    simp only [run, Option.some.injEq, Prod.mk.injEq] at hr
    obtain ⟨rfl, _⟩ := hr
    simpa [histOf] using t
  | cons op ops ih =>
    intro h0 s0 s outs t hwf hr
    obtain ⟨s1, out, outs2, hs, hr2, -⟩ := run_cons.mp hr
    have t1 : Trace P ((s0, op) :: h0) s1 := Trace.step t (hwf op List.mem_cons_self) hs
    have := ih ((s0, op) :: h0) s1 s outs2 t1 (fun o ho => hwf o (List.mem_cons_of_mem _ ho)) hr2
    simpa [histOf, hs] using this

theorem step_one_msg {P s op} (h : (step P s op).map (fun r => r.2.length) = some 1) :
    ∃ s' m, step P s op = some (s', [m]) := by
  cases hs : step P s op with
  | none => simp [hs] at h
  | some r =>
    obtain ⟨s', out⟩ := r
    simp [hs] at h
    match out, h with
    | [m], _ => exact ⟨s', m, rfl⟩

instance (s : Sys) : Decidable s.quiescent := by unfold Sys.quiescent; infer_instance

/-- a concrete run is a history, and that history is data (`histOf`) -/
theorem trace_of_concrete_run {P : List PortSpec} {ops : List Op}
    (hwf : ops.all (fun op => decide (op.wf P)) = true) (hsome : (run P Sys.init ops).isSome = true) :
    Trace P (histOf P Sys.init ops) (((run P Sys.init ops).map (·.1)).getD Sys.init) := by
  cases hr : run P Sys.init ops with
  | none => simp [hr] at hsome
  | some r =>
    have hwf' : ∀ op ∈ ops, op.wf P := fun op hop => by simpa using List.all_eq_true.mp hwf op hop
    have t := trace_histOf ops [] Sys.init r.1 r.2 Trace.init hwf' hr
    simpa using t

end Rtosc.Midi
