/-
  C10 — tier 3, compressed runs in context: segments, their texts, and the scanner.

  An argument list is cut into *segments* (`RSeg`, Pretty/RunsSpec.lean) the way
  `rtosc_print_arg_vals` does it: a value printed as it is (`RSeg.tok`), `n` equal values printed
  as `nxT` (`RSeg.crun`), an int32 arithmetic run printed as `a ... z` or `a b ... z`
  (`RSeg.irun`).  What the printer writes for an arithmetic run, and what the scanner makes of it,
  depends on the value in front of it (`L`, the left neighbour): `shortForm L a d`.

  This file: `rtosc_scan_arg_val` on `nxT` followed by more text; the arguments the scanner makes
  of a segment text (one piece, or two for `a b ... z`, each with the context it needs and the
  context it leaves); a segment text in front of a chain of the loop of `rtosc_scan_arg_vals`.  The
  scanner's look-back (`LookL`, behind int32 blocks; `LookB` behind blocks of every integer kind) and
  `rtosc_scan_arg_val` on a range with any left context are in PrettyRunArithRead; the loop over a
  whole text is in PrettyRunsArrScan,
  where a text may also contain arrays.
-/
import RtoscModel.Pretty.RunsSpec
import RtoscModel.Proofs.PrettyRunInt
namespace Rtosc.Pretty
open Rtosc Rtosc.Libc
open Rtosc.ArgVal (Cell)

/-- the number of arguments the scanner's and the checker's loops see in the segment -/
def RSeg.nargs (L : Option Cell) : RSeg → Nat
  | .irun a d _ => if shortForm L a d then 1 else 2
  | _ => 1

/-- the number of arguments the loops see in a list of segments -/
def nargsAll : Option Cell → List RSeg → Nat
  | _, [] => 0
  | L, s :: r => s.nargs L + nargsAll (some s.last) r

theorem RunHyp.r0 {a d : Int} {n : Nat} (h : RunHyp a d n) : -2147483648 ≤ a ∧ a ≤ 2147483647 := by
  have := h.hrange 0 (by have := h.hn; omega)
  simpa using this

theorem RunHyp.r1 {a d : Int} {n : Nat} (h : RunHyp a d n) : -2147483648 ≤ a + d ∧ a + d ≤ 2147483647 := by
  have := h.hrange 1 (by have := h.hn; omega)
  simpa using this

theorem RunHyp.rz {a d : Int} {n : Nat} (h : RunHyp a d n) : -2147483648 ≤ zOf a d n ∧ zOf a d n ≤ 2147483647 :=
  h.hrange (n - 1) (by omega)

theorem SegText.start {L : Option Cell} {s : RSeg} {T : Bytes} (h : SegText L s T) : TokStart T := by
  cases h with
  | tok t c ht _ => exact ht.start
  | crun n t c ht _ hn _ => exact tokStart_run n hn t
  | short a d n sep h _ _ => exact (tokStart_fmtDec a h.r0.1 h.r0.2).append _
  | long a d n sep h _ _ => exact (tokStart_fmtDec a h.r0.1 h.r0.2).append _

theorem SegsText.start {L : Option Cell} {segs : List RSeg} {text : Bytes} (h : SegsText L segs text) (hne : segs ≠ []) :
    TokStart text := by
  cases h with
  | nil => exact absurd rfl hne
  | cons L s segs T sep text hT _ _ _ => exact hT.start.append _

/-- the readers' knowledge `rL` about the left neighbour against the printer's `pL`: the same
    value; or none at all (the scanner behind an array: `args_before = 0`); or only that it is an
    array (the checker behind an array).  In the last two cases every range start is useless for
    the delta. -/
def RdCtx (pL rL : Option Cell) : Prop := rL = pL ∨ rL = none ∨ ∃ ety len, rL = some (Cell.arr ety len)

theorem rdCtx_refl (L : Option Cell) : RdCtx L L := Or.inl rfl

theorem type_int_i (v : Int) : (Cell.int ArgVal.IntTy.i v).type = 105 := rfl

theorem runText_append (n : Nat) (t rest : Bytes) : runText n t ++ rest = fmtDec (n : Int) ++ 120 :: (t ++ rest) := by
  simp [runText]

theorem scanArgVal_runG (n : Nat) (hn : 1 ≤ n) (hn2 : n ≤ 2147483647) (t : Bytes) (c : Cell) (htok : TokOK t c)
    (fuel : Nat) (prev : List Cell) (ab : Nat) (rest : Bytes) (hrest : Sep rest) :
    scanArgVal (fuel + 2) (runText n t ++ rest) prev ab true = .ok ((runText n t).length, [Cell.rep n 0, c]) := by
  have hse := htok.scan_noell rest fuel [] 0 hrest
  have hfin := finishArg_plain (scanArgVal (fuel + 1)) (runText n t) rest [Cell.rep n 0, c] false prev ab true hrest
  rw [runText_append] at hfin ⊢
  rw [scanArgVal_value ab true ((scanValue_mult _ _ _ (hd_mult n hn (t ++ rest)) (isRangeMultiplier_mult n hn (t ++ rest))).trans
    (scanMultiplier_runG _ n hn hn2 t rest [c] hse))]
  exact hfin

/-- what the scanner knows behind the cells `done`: its look-back finds the left neighbour `L`,
    and the last two cells are no range headers with a delta (`t1`: the last, `t2`: the one before) -/
structure ScanInv (L : Option Cell) (done : List Cell) (pok : Bool) : Prop where
  look : LookL done.reverse (if pok then done.length else 0) L
  t1 : isDeltaHdr done.reverse.head? = false
  t2 : isDeltaHdr (done.reverse.drop 1).head? = false

theorem scanInv_start : ScanInv none [] true := by
  refine ⟨?_, rfl, rfl⟩
  simp only [List.length_nil, ite_self]
  exact LookL.zero _

theorem scanInv_tok {L : Option Cell} {done : List Cell} {pok : Bool} (h : ScanInv L done pok) (c : Cell)
    (hsc : c.isScalar = true) : ScanInv (some c) (done ++ [c]) true := by
  refine ⟨?_, ?_, ?_⟩
  · simp only [↓reduceIte, List.reverse_append, List.reverse_cons, List.reverse_nil, List.nil_append,
      List.singleton_append]
    refine LookL.head _ _ c (by simp) rfl ?_
    simp only [List.drop_succ_cons, h.t2, Bool.and_false]
  · simpa using isDeltaHdr_scalar c hsc
  · simpa using h.t1

theorem scanInv_crun {L : Option Cell} {done : List Cell} {pok : Bool} (h : ScanInv L done pok) (n : Int) (c : Cell)
    (hsc : c.isScalar = true) : ScanInv (some c) (done ++ [Cell.rep n 0, c]) true := by
  refine ⟨?_, ?_, ?_⟩
  · simp only [↓reduceIte, List.reverse_append, List.reverse_cons, List.reverse_nil, List.nil_append,
      List.cons_append]
    refine LookL.head _ _ c (by simp) rfl ?_
    simp only [List.drop_succ_cons, List.drop_zero, h.t1, Bool.and_false]
  · simpa using isDeltaHdr_scalar c hsc
  · simp [isDeltaHdr]

theorem scanInv_range (done : List Cell) (num s d v : Int) (hv : v = toI32 (s + toI32 ((num - 1) * d))) :
    ScanInv (some (Cell.int .i v)) (done ++ [Cell.rep num 1, Cell.int .i d, Cell.int .i s]) true := by
  refine ⟨?_, ?_, ?_⟩
  · simp only [↓reduceIte, List.reverse_append, List.reverse_cons, List.reverse_nil, List.nil_append,
      List.cons_append]
    exact LookL.range s d num _ _ v (by simp) hv
  · simp [isDeltaHdr]
  · simp [isDeltaHdr]

theorem typesMatch_105 (c : Cell) (h : typesMatch c.type 105 = true) : ∃ p, c = Cell.int .i p := by
  cases c with
  | int ty v =>
    cases ty with
    | i => exact ⟨v, rfl⟩
    | c => simp [typesMatch, ArgVal.Cell.type, ArgVal.IntTy.char] at h
    | r => simp [typesMatch, ArgVal.Cell.type, ArgVal.IntTy.char] at h
  | str ty s => cases ty <;> simp [typesMatch, ArgVal.Cell.type, ArgVal.StrTy.char] at h
  | flag ty => cases ty <;> simp [typesMatch, ArgVal.Cell.type, ArgVal.FlagTy.char] at h
  | _ => simp [typesMatch, ArgVal.Cell.type, ArgVal.tyA, ArgVal.tyRange] at h

/-- the printer's "not confusing" is the scanner's "useless" -/
theorem uselessFor_of_not_confusing (L : Option Cell) (a : Int) (h : confusing L a = false) : IntKind.i.UselessFor L a true := by
  cases L with
  | none => rfl
  | some c =>
    by_cases ht : typesMatch c.type 105 = true
    · obtain ⟨p, rfl⟩ := typesMatch_105 c ht
      right
      refine ⟨p, rfl, ?_⟩
      simp only [confusing, ne_eq, decide_not, Bool.not_eq_false', decide_eq_true_eq] at h
      simp [h]
    · left
      exact ⟨show typesMatch c.type 105 = false by simpa using ht, rfl⟩

theorem uselessFor_rd {pL rL : Option Cell} (hctx : RdCtx pL rL) (a : Int) (h : confusing pL a = false) :
    IntKind.i.UselessFor rL a true := by
  rcases hctx with rfl | rfl | ⟨ety, len, rfl⟩
  · exact uselessFor_of_not_confusing _ a h
  · rfl
  · exact Or.inl ⟨rfl, rfl⟩

theorem shortForm_unit {L : Option Cell} {a d : Int} (h : shortForm L a d = true) :
    (d = 1 ∨ d = -1) ∧ confusing L a = false := by
  simp only [shortForm, Bool.and_eq_true, Bool.or_eq_true, decide_eq_true_eq, Bool.not_eq_true'] at h
  exact h

theorem zOf_toI32 {a d : Int} {n : Nat} (h : RunHyp a d n) :
    toI32 (a + toI32 (((n : Int) - 1) * d)) = zOf a d n := by
  have hn := h.hn
  have hm := h.mul (n - 1) (by omega)
  have hz := h.rz
  have e : (n : Int) - 1 = ((n - 1 : Nat) : Int) := by omega
  unfold zOf at *
  have e1 : toI32 (((n - 1 : Nat) : Int) * d) = ((n - 1 : Nat) : Int) * d := toI32_id _ (by omega) (by omega)
  rw [e, e1, toI32_id _ hz.1 hz.2]

theorem zOf_toI32_long {a d : Int} {n : Nat} (h : RunHyp a d n) :
    toI32 (a + d + toI32 (((n : Int) - 1 - 1) * d)) = zOf a d n := by
  have hn := h.hn
  have hm := h.mul (n - 2) (by omega)
  have hz := h.rz
  have e : (n : Int) - 1 - 1 = ((n - 2 : Nat) : Int) := by omega
  have e2 : ((n - 1 : Nat) : Int) * d = ((n - 2 : Nat) : Int) * d + d := by
    rw [show n - 1 = (n - 2) + 1 from by omega]; exact succ_mul' _ _
  unfold zOf at *
  have e1 : toI32 (((n - 2 : Nat) : Int) * d) = ((n - 2 : Nat) : Int) * d := toI32_id _ (by omega) (by omega)
  rw [e, e1, toI32_id _ (by omega) (by omega)]
  omega

theorem nextArgOffset_rep0 (n : Int) (c : Cell) (hsc : c.isScalar = true) :
    nextArgOffset 3 [Cell.rep n 0, c] = .ok 2 := by
  unfold nextArgOffset
  simp only [deref, bind, Except.bind, List.drop_succ_cons, List.drop_zero]
  rw [nextArgOffset_scalar 1 c [] hsc]
  rfl

/-- the three shapes of cells one argument of the proved class is scanned to, with the type of the
    value it stands for (what the array loop takes for the element type) -/
def ElemShape (cells : List Cell) (ty : UInt8) : Prop :=
  (∃ c, cells = [c] ∧ c.isScalar = true ∧ ty = c.type) ∨
  (∃ n c, cells = [Cell.rep n 0, c] ∧ c.isScalar = true ∧ ty = c.type) ∨
  (∃ n d a, cells = [Cell.rep n 1, d, a] ∧ d.isScalar = true ∧ ty = a.type)

/-- what the loops compute from the cells of such an argument: a value may follow as the end of a range, the
    element type is that of the value, `next_arg_offset` covers the cells -/
theorem ElemShape.facts {cells : List Cell} {ty : UInt8} (h : ElemShape cells ty) :
    0 < cells.length ∧ canPrecedeRange cells = .ok true ∧ C11.elemTy cells = .ok ty ∧
      nextArgOffset (cells.length + 1) cells = .ok cells.length := by
  rcases h with ⟨c, rfl, hsc, rfl⟩ | ⟨n, c, rfl, hsc, rfl⟩ | ⟨n, d, a, rfl, hsc, rfl⟩
  · exact ⟨by simp, canPrecedeRange_scalar c [] hsc, elemTy_scalar c [] hsc, nextArgOffset_scalar _ c [] hsc⟩
  · exact ⟨by simp, canPrecedeRange_rep_scalar _ c [] hsc,
      by simp [C11.elemTy, deref, bind, Except.bind, pure, Except.pure], nextArgOffset_rep0 _ c hsc⟩
  · exact ⟨by simp, canPrecedeRange_delta _ _,
      by simp [C11.elemTy, deref, bind, Except.bind, pure, Except.pure], nextArgOffset_range _ d a hsc⟩

/-- behind the cells `prev` (most recent first, `ab` of them open to the look-back) the scanner reads
    the text `T`, when a separator follows, as one argument with the cells `cells` -/
def ScansArg (prev : List Cell) (ab : Nat) (T : Bytes) (cells : List Cell) (ty : UInt8) : Prop :=
  TokStart T ∧ ElemShape cells ty ∧
  ∀ (fuel : Nat) (rest : Bytes), Sep rest → scanArgVal (fuel + 2) (T ++ rest) prev ab true = .ok (T.length, cells)

theorem scansArg_tok {t : Bytes} {c : Cell} (ht : TokOK t c) (hsc : c.isScalar = true) (prev : List Cell) (ab : Nat) :
    ScansArg prev ab t [c] c.type :=
  ⟨ht.start, Or.inl ⟨c, rfl, hsc, rfl⟩, fun fuel rest hS => ht.scan rest (fuel + 1) prev ab hS⟩

theorem scansArg_ell {x z : Int} (hx : -2147483648 ≤ x ∧ x ≤ 2147483647) (hz : -2147483648 ≤ z ∧ z ≤ 2147483647)
    {sp : Bytes} (hsp : IsSepTxt sp) {prev : List Cell} {ab : Nat} {L : Option Cell} (hL : LookL prev ab L)
    {useless : Bool} (hu : IntKind.i.UselessFor L x useless) {num : Int} {d : Int}
    (hdelta : C11.deltaFromArgVals (if useless then none else L) (Cell.int .i x) (some (Cell.int .i z)) useless =
      .ok (num, Cell.int .i d)) :
    ScansArg prev ab (fmtDec x ++ ellRest sp (fmtDec z)) [Cell.rep num 1, Cell.int .i d, Cell.int .i x] 105 := by
  refine ⟨(tokStart_fmtDec x hx.1 hx.2).append _, Or.inr (Or.inr ⟨_, _, _, rfl, rfl, rfl⟩), fun fuel rest hS => ?_⟩
  rw [List.append_assoc, ellRest_append]
  exact intCodec.scanArgVal_ellG fuel x z hx hz sp hsp rest hS.toW prev ab L hL useless hu num _ hdelta

/-- one argument in the left context `sL` (what the scanner's look-back finds): the scanner reads `T`
    as `cells` wherever its look-back finds `sL`, and knows `sL'` behind it.  The top-level loop and
    the loop inside an array both read the text piece by piece (`prev` differs between them). -/
def ScansPiece (sL : Option Cell) (T : Bytes) (cells : List Cell) (ty : UInt8) (sL' : Option Cell) : Prop :=
  TokStart T ∧ (∀ prev ab, LookL prev ab sL → ScansArg prev ab T cells ty) ∧
  ∀ (acc : List Cell) (pok : Bool), ScanInv sL acc pok → ScanInv sL' (acc ++ cells) true

/-- **the arguments of a segment text**: one piece — or two for `a b ... z`: the value `a`, and behind
    it the range from `a + d` whose delta comes from `a` -/
theorem SegText.scans {pL : Option Cell} {s : RSeg} {T : Bytes} (hT : SegText pL s T) :
    (s.nargs pL = 1 ∧ ∀ sL, RdCtx pL sL → ScansPiece sL T (s.scanned pL) s.last.type (some s.last)) ∨
    (∃ a T2 cells2, s.nargs pL = 2 ∧ T = fmtDec a ++ ([32] ++ T2) ∧ s.scanned pL = Cell.int .i a :: cells2 ∧
        s.last.type = 105 ∧ (∀ sL, ScansPiece sL (fmtDec a) [Cell.int .i a] 105 (some (Cell.int .i a))) ∧
        ScansPiece (some (Cell.int .i a)) T2 cells2 105 (some s.last)) := by
  cases hT with
  | tok t c ht hsc =>
    exact Or.inl ⟨rfl, fun sL _ => ⟨ht.start, fun prev ab _ => scansArg_tok ht hsc prev ab,
      fun acc pok hinv => scanInv_tok hinv c hsc⟩⟩
  | crun m t c ht hsc hm1 hm2 =>
    exact Or.inl ⟨rfl, fun sL _ => ⟨tokStart_run m hm1 t, fun prev ab _ =>
      ⟨tokStart_run m hm1 t, Or.inr (Or.inl ⟨_, c, rfl, hsc, rfl⟩),
        fun fuel rest hS => scanArgVal_runG m hm1 hm2 t c ht fuel prev ab rest hS⟩,
      fun acc pok hinv => scanInv_crun hinv m c hsc⟩⟩
  | short a d m sp h hsf hsp =>
    obtain ⟨hu, hnc⟩ := shortForm_unit hsf
    simp only [RSeg.scanned, RSeg.nargs, RSeg.last, hsf, ↓reduceIte]
    exact Or.inl ⟨trivial, fun sL hctx => ⟨(tokStart_fmtDec a h.r0.1 h.r0.2).append _, fun prev ab hL =>
      scansArg_ell h.r0 h.rz hsp hL (useless := true) (uselessFor_rd hctx a hnc)
        (by simpa [zOf] using delta_run_unit h hu),
      fun acc _ _ => scanInv_range acc m a d _ (zOf_toI32 h).symm⟩⟩
  | long a d m sp h hsf hsp =>
    have hne : a ≠ a + d := by have := h.hd; omega
    simp only [RSeg.scanned, RSeg.nargs, RSeg.last, hsf, Bool.false_eq_true, ↓reduceIte]
    exact Or.inr ⟨a, _, _, trivial, rfl, rfl, rfl,
      fun sL => ⟨tokStart_fmtDec a h.r0.1 h.r0.2, fun prev ab _ => scansArg_tok (C11.valOK_int a h.r0.1 h.r0.2).tokOK rfl prev ab,
        fun acc pok hinv => scanInv_tok hinv (Cell.int .i a) rfl⟩,
      (tokStart_fmtDec _ h.r1.1 h.r1.2).append _, fun prev ab hL =>
        scansArg_ell h.r1 h.rz hsp hL (useless := false) (Or.inr ⟨a, rfl, by simp [hne]⟩)
          (by simpa [zOf] using delta_run_step h),
      fun acc _ _ => scanInv_range acc ((m : Int) - 1) (a + d) d _ (zOf_toI32_long h).symm⟩

/-- in the context `sL` the loop of `rtosc_scan_arg_vals` reads `T` as the argument `cs` and then knows `sL'`:
    the pieces of its chains (Proofs/PrettyLoops.lean) -/
def ScanP (sL : Option Cell) (T : Bytes) (cs : List Cell) (sL' : Option Cell) : Prop :=
  ∀ (done : List Cell) (pok : Bool), ScanInv sL done pok →
    (∀ rest, Sep rest → scanArgVal ((T ++ rest).length + 2) (T ++ rest) done.reverse (if pok then done.length else 0) true =
      .ok (T.length, cs)) ∧
    0 < cs.length ∧ nextArgOffset (cs.length + 1) cs = .ok cs.length ∧
    ∃ b, canPrecedeRange cs = .ok b ∧ ScanInv sL' (done ++ cs) b

theorem ScansPiece.scanP {sL sL' : Option Cell} {T : Bytes} {cs : List Cell} {ty : UInt8}
    (h : ScansPiece sL T cs ty sL') : ScanP sL T cs sL' := by
  intro done pok hi
  obtain ⟨_, hshape, hscan⟩ := h.2.1 _ _ hi.look
  obtain ⟨hpos, hcpr, _, hoff⟩ := hshape.facts
  exact ⟨fun rest hS => hscan _ rest hS, hpos, hoff, true, hcpr, h.2.2 done pok hi⟩

theorem scanLoop_chain {sL : Option Cell} {css : List (List Cell)} {text next : Bytes}
    (h : Chain ScanP (fun _ => GapOK) sL css text next) (f n : Nat) (done : List Cell) (pok : Bool) (rd : Nat)
    (hinv : ScanInv sL done pok) (hn : n = done.length + css.flatten.length) (hf : css.length + 1 ≤ f) :
    scanArgValsLoop f text n done.length pok done rd = .ok (rd + (text.length - next.length), done ++ css.flatten) := by
  rw [scanArgValsLoop_eq]
  exact h.scanLoop scanArgVal (fun s i pok done => i = done.length ∧ ScanInv s done pok) id
    (fun {s s' T cs} hp gap next i pok done hg hI => by
      obtain ⟨rfl, hI⟩ := hI
      obtain ⟨hscan, hpos, hoff, b, hb, hI'⟩ := hp done pok hI
      exact ⟨hscan _ hg.sep, hpos, hoff, b, hb, by simp, hI'⟩)
    f n done.length pok done rd ⟨rfl, hinv⟩ hn hf

/-- **the arguments of a segment text in front of a chain**: one or two pieces (`css0`) -/
theorem SegText.scanChain {pL : Option Cell} {s : RSeg} {T : Bytes} (hT : SegText pL s T) :
    ∃ css0, css0.flatten = s.scanned pL ∧ css0.length = s.nargs pL ∧
      ∀ sL, RdCtx pL sL → ∀ {gap rest next : Bytes} {css : List (List Cell)}, GapOK gap rest →
        Chain ScanP (fun _ => GapOK) (some s.last) css rest next →
        Chain ScanP (fun _ => GapOK) sL (css0 ++ css) (T ++ (gap ++ rest)) next := by
  rcases hT.scans with ⟨h1, hp⟩ | ⟨a, T2, cells2, h2, rfl, hcells, _, hp1, hp2⟩
  · exact ⟨[s.scanned pL], by simp, by simp [h1], fun sL hctx _ _ _ _ hg hrest => .cons (hp sL hctx).scanP hg hrest⟩
  · refine ⟨[[Cell.int .i a], cells2], by simp [hcells], by simp [h2], fun sL _ gap rest next css hg hrest => ?_⟩
    rw [show fmtDec a ++ ([32] ++ T2) ++ (gap ++ rest) = fmtDec a ++ ([32] ++ (T2 ++ (gap ++ rest))) by
      simp only [List.append_assoc]]
    exact .cons (hp1 sL).scanP (.sepTxt (Or.inl rfl) (hp2.1.append _)) (.cons hp2.scanP hg hrest)

theorem RSeg.nargs_le_scanned (L : Option Cell) (s : RSeg) : s.nargs L ≤ (s.scanned L).length := by
  cases s with
  | tok c => simp [RSeg.nargs, RSeg.scanned]
  | crun n c => simp [RSeg.nargs, RSeg.scanned]
  | irun a d n => by_cases hs : shortForm L a d = true <;> simp [RSeg.nargs, RSeg.scanned, hs]

end Rtosc.Pretty
