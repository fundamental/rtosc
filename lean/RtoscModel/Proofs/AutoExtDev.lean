/-
  C19 — how far the float model's argument of `expf` can be from the exact logarithmic
  interpolation.  For a log-scale automation at the default gain and offset the executable
  model (`IEEE.ieee`: IEEE-754 binary32/binary64 round-to-nearest-even) computes, with 16
  roundings, the value  c = clamp(L0, L1, fl(fl(x·fl(cp3 − cp1)) + cp1))  and emits `expf c`;
  the exact map is  t = L0 + x·(L1 − L0)  (L0, L1: the stored `logf` of the bounds).
  `ieee_log_arg_deviation`:  |c − t| ≤ 86·2⁻²⁴·(M + 2⁻¹²⁶)  whenever |L0|, |L1| ≤ M.

  Method: every rounding errs by at most half a unit in the last place, i.e. by at most
  2⁻²⁴·|y| + 2⁻¹⁵⁰ (`rnd32_err`; the second term covers subnormal results); `Apx M' k e y z`
  ("y approximates z with error e·2⁻²⁴·M', and |z| ≤ k·M'") is propagated through the
  sixteen operations.
-/
import RtoscModel.Proofs.AutoFloatLemmas
import RtoscModel.Proofs.AutoExtLog
namespace Rtosc.Auto.IEEE

theorem rnd_err_pos (p : ℕ) (emin : ℤ) (x : ℚ) (hx : 0 < x) :
    |rnd p emin x - x| ≤ pow2 (ueOf p emin x) / 2 := by
  rw [rnd_pos_eq p emin x hx]
  have hU : 0 < pow2 (ueOf p emin x) := pow2_pos _
  have h := rhe_err (x / pow2 (ueOf p emin x)) (div_nonneg hx.le hU.le)
  have e : ((roundHalfEven (x / pow2 (ueOf p emin x)) : ℕ) : ℚ) * pow2 (ueOf p emin x) - x =
      (((roundHalfEven (x / pow2 (ueOf p emin x)) : ℕ) : ℚ) - x / pow2 (ueOf p emin x)) * pow2 (ueOf p emin x) := by
    rw [sub_mul, div_mul_cancel₀ _ hU.ne']
  rw [e, abs_mul, abs_of_pos hU]
  calc _ ≤ 1/2 * pow2 (ueOf p emin x) := mul_le_mul_of_nonneg_right h hU.le
    _ = pow2 (ueOf p emin x) / 2 := by ring

theorem half_ulp_le (p : ℕ) (emin : ℤ) (x : ℚ) (hx : 0 < x) :
    pow2 (ueOf p emin x) / 2 ≤ x * pow2 (-(p : ℤ)) + pow2 (emin - 1) := by
  have sx := (ilog2_spec x (ne_of_gt hx)).1
  rw [abs_of_pos hx] at sx
  unfold ueOf
  rcases le_total (ilog2 x - ((p : ℤ) - 1)) emin with h | h
  · rw [max_eq_right h, pow2_half]
    exact le_add_of_nonneg_left (mul_nonneg hx.le (pow2_pos _).le)
  · rw [max_eq_left h, pow2_half, show ilog2 x - ((p : ℤ) - 1) - 1 = ilog2 x + -(p : ℤ) by ring, pow2_add]
    exact le_add_of_le_of_nonneg (mul_le_mul_of_nonneg_right sx (pow2_pos _).le) (pow2_pos _).le

theorem rnd_err (p : ℕ) (emin : ℤ) (x : ℚ) :
    |rnd p emin x - x| ≤ |x| * pow2 (-(p : ℤ)) + pow2 (emin - 1) := by
  rcases lt_trichotomy x 0 with h | h | h
  · have h' : 0 < -x := neg_pos.2 h
    have := le_trans (rnd_err_pos p emin (-x) h') (half_ulp_le p emin (-x) h')
    rw [rnd_neg] at this
    rw [abs_of_neg h, ← abs_neg, neg_sub']
    exact this
  · subst h
    rw [rnd_zero]; simp
    exact (pow2_pos _).le
  · rw [abs_of_pos h]
    exact le_trans (rnd_err_pos p emin x h) (half_ulp_le p emin x h)

/-- unit roundoff of binary32 -/
def u32 : ℚ := 1 / 2 ^ 24
/-- the smallest normal binary32 number -/
def tiny : ℚ := 1 / 2 ^ 126

theorem u32_pos : 0 < u32 := by unfold u32; positivity
theorem tiny_pos : 0 < tiny := by unfold tiny; positivity

theorem rnd32_err (x : ℚ) : |rnd32 x - x| ≤ u32 * (|x| + tiny) := by
  have h := rnd_err 24 (-149) x
  have e1 : pow2 (-((24 : ℕ) : ℤ)) = u32 := by unfold u32; decide +kernel
  have e2 : pow2 (-149 - 1) = u32 * tiny := by unfold u32 tiny; decide +kernel
  rw [e1, e2] at h
  unfold rnd32
  calc _ ≤ |x| * u32 + u32 * tiny := h
    _ = u32 * (|x| + tiny) := by ring

/-- stated with binary32's constants: a `double` rounding is counted as coarsely as a `float` one,
    so that one rule (`Apx.round`) serves both -/
theorem rnd64_err (x : ℚ) : |rnd64 x - x| ≤ u32 * (|x| + tiny) := by
  have h := rnd_err 53 (-1074) x
  have e1 : pow2 (-((53 : ℕ) : ℤ)) ≤ u32 := by unfold u32; decide +kernel
  have e2 : pow2 (-1074 - 1) ≤ u32 * tiny := by unfold u32 tiny; decide +kernel
  unfold rnd64
  calc _ ≤ |x| * pow2 (-((53 : ℕ) : ℤ)) + pow2 (-1074 - 1) := h
    _ ≤ |x| * u32 + u32 * tiny := by
        have := mul_le_mul_of_nonneg_left e1 (abs_nonneg x)
        linarith
    _ = u32 * (|x| + tiny) := by ring

def Apx (M' k e y z : ℚ) : Prop := |y - z| ≤ e * u32 * M' ∧ |z| ≤ k * M'

namespace Apx
variable {M' k k' e e' y z k1 e1 y1 z1 k2 e2 y2 z2 : ℚ}

theorem exact (h : |z| ≤ k * M') : Apx M' k 0 z z := ⟨by simp, h⟩

theorem add (h1 : Apx M' k1 e1 y1 z1) (h2 : Apx M' k2 e2 y2 z2) :
    Apx M' (k1 + k2) (e1 + e2) (y1 + y2) (z1 + z2) := by
  refine ⟨?_, ?_⟩
  · rw [add_sub_add_comm, add_mul, add_mul]
    exact (abs_add_le _ _).trans (add_le_add h1.1 h2.1)
  · rw [add_mul]
    exact (abs_add_le _ _).trans (add_le_add h1.2 h2.2)

theorem sub (h1 : Apx M' k1 e1 y1 z1) (h2 : Apx M' k2 e2 y2 z2) :
    Apx M' (k1 + k2) (e1 + e2) (y1 - y2) (z1 - z2) := by
  refine ⟨?_, ?_⟩
  · rw [sub_sub_sub_comm, add_mul, add_mul]
    exact (abs_sub _ _).trans (add_le_add h1.1 h2.1)
  · rw [add_mul]
    exact (abs_sub _ _).trans (add_le_add h1.2 h2.2)

theorem const_mul (c a : ℚ) (hc : |c| ≤ a) (h : Apx M' k e y z) : Apx M' (a * k) (a * e) (c * y) (c * z) := by
  have ha : 0 ≤ a := (abs_nonneg c).trans hc
  refine ⟨?_, ?_⟩
  · rw [← mul_sub, abs_mul, mul_assoc, mul_assoc]
    exact mul_le_mul hc (by rw [← mul_assoc]; exact h.1) (abs_nonneg _) ha
  · rw [abs_mul, mul_assoc]
    exact mul_le_mul hc h.2 (abs_nonneg _) ha

theorem mul_const (c a : ℚ) (hc : |c| ≤ a) (h : Apx M' k e y z) : Apx M' (a * k) (a * e) (y * c) (z * c) := by
  rw [mul_comm y, mul_comm z]; exact h.const_mul c a hc

theorem div_const (c : ℚ) (hc : 0 < c) (h : Apx M' k e y z) : Apx M' (c⁻¹ * k) (c⁻¹ * e) (y / c) (z / c) := by
  rw [div_eq_mul_inv, div_eq_mul_inv]; exact h.mul_const c⁻¹ c⁻¹ (abs_of_pos (inv_pos.2 hc)).le

/-- better knowledge about the size of the exact value -/
theorem rekey (h : Apx M' k e y z) (hz : |z| ≤ k' * M') : Apx M' k' e y z := ⟨h.1, hz⟩

theorem weaken (h : Apx M' k e y z) (he : e ≤ e') (hM : 0 ≤ M') : Apx M' k e' y z :=
  ⟨h.1.trans (mul_le_mul_of_nonneg_right (mul_le_mul_of_nonneg_right he u32_pos.le) hM), h.2⟩

/-- one rounding (either format) adds `u32·(|y| + tiny)`, and `|y| ≤ |y − z| + |z|` -/
theorem round (r : ℚ → ℚ) (hr : ∀ x, |r x - x| ≤ u32 * (|x| + tiny)) (hM : tiny ≤ M')
    (h : Apx M' k e y z) : Apx M' k (e * (1 + u32) + k + 1) (r y) z := by
  refine ⟨?_, h.2⟩
  have hy : |y| ≤ |y - z| + |z| := by have := abs_add_le (y - z) z; rwa [sub_add_cancel] at this
  have hs : |r y - z| ≤ |r y - y| + |y - z| := by
    have := abs_add_le (r y - y) (y - z); rwa [sub_add_sub_cancel] at this
  calc |r y - z| ≤ |r y - y| + |y - z| := hs
    _ ≤ u32 * (|y| + tiny) + e * u32 * M' := add_le_add (hr y) h.1
    _ ≤ u32 * (e * u32 * M' + k * M' + M') + e * u32 * M' :=
        add_le_add (mul_le_mul_of_nonneg_left
          (add_le_add (hy.trans (add_le_add h.1 h.2)) hM) u32_pos.le) le_rfl
    _ = (e * (1 + u32) + k + 1) * u32 * M' := by ring

theorem r32 (hM : tiny ≤ M') (h : Apx M' k e y z) : Apx M' k (e * (1 + u32) + k + 1) (rnd32 y) z :=
  h.round rnd32 rnd32_err hM

theorem r64 (hM : tiny ≤ M') (h : Apx M' k e y z) : Apx M' k (e * (1 + u32) + k + 1) (rnd64 y) z :=
  h.round rnd64 rnd64_err hM

end Apx

variable {tab : List (ℚ × ℚ)}

/-- the control points the float model computes at the default gain and offset approximate
    the stored bounds: each within `25·2⁻²⁴·(M + 2⁻¹²⁶)`.  The rules of `Apx` follow the model's
    operations one by one; the accumulated constants are evaluated where a value is named. -/
theorem mapping_dev (tab : List (ℚ × ℚ)) (L0 L1 M : ℚ) (h0 : |L0| ≤ M) (h1 : |L1| ≤ M) :
    Apx (M + tiny) 1 25 (mapping (ieee tab) L0 L1 100 0).1 L0 ∧
    Apx (M + tiny) 1 25 (mapping (ieee tab) L0 L1 100 0).2 L1 := by
  have hM : tiny ≤ M + tiny := le_add_of_nonneg_left ((abs_nonneg L0).trans h0)
  have hM' : 0 ≤ M + tiny := tiny_pos.le.trans hM
  have k0 : |L0| ≤ 1 * (M + tiny) := by rw [one_mul]; exact h0.trans (le_add_of_nonneg_right tiny_pos.le)
  have k1 : |L1| ≤ 1 * (M + tiny) := by rw [one_mul]; exact h1.trans (le_add_of_nonneg_right tiny_pos.le)
  have a0 := Apx.exact k0
  have a1 := Apx.exact k1
  have center := (a0.add a1).r32 hM |>.mul_const (1/2) (1/2) (by norm_num) |>.r64 hM |>.r32 hM
    |>.weaken (e' := 6) (by decide +kernel) hM'
  have halfRange := (a1.sub a0).r32 hM |>.mul_const 100 100 (by norm_num) |>.r32 hM
    |>.div_const 100 (by norm_num) |>.r64 hM |>.r32 hM |>.div_const 2 (by norm_num) |>.r64 hM
    |>.weaken (e' := 8) (by decide +kernel) hM'
  have p := center.sub halfRange
  have t := center.add halfRange
  rw [show (L0 + L1) * (1 / 2) - (L1 - L0) * 100 / 100 / 2 = L0 by ring] at p
  rw [show (L0 + L1) * (1 / 2) + (L1 - L0) * 100 / 100 / 2 = L1 by ring] at t
  -- `0.5 + offset/100.0` at offset 0 is computed exactly
  have half : rnd64 (1 / 2 + rnd64 (0 / 100)) = 1 / 2 := by
    rw [zero_div, show rnd64 0 = 0 from rnd_zero _ _, add_zero]; decide +kernel
  simp only [mapping, ieee, half]
  exact ⟨p.rekey k0 |>.r64 hM |>.r32 hM |>.weaken (by decide +kernel) hM',
    t.rekey k1 |>.r64 hM |>.r32 hM |>.weaken (by decide +kernel) hM'⟩

/-- clamping to an interval that contains the exact value brings the computed one no further from it -/
theorem clamp_dev (L0 L1 v t : ℚ) (h0 : L0 ≤ t) (h1 : t ≤ L1) :
    L0 ≤ clamp (ieee tab) L0 L1 v ∧ clamp (ieee tab) L0 L1 v ≤ L1 ∧
    |clamp (ieee tab) L0 L1 v - t| ≤ |v - t| := by
  unfold clamp Arith.gt
  simp only [ieee, Bool.not_eq_eq_eq_not, Bool.not_true, decide_eq_false_iff_not, not_le]
  by_cases c1 : L1 < v
  · simp only [c1, ↓reduceIte]
    refine ⟨h0.trans h1, le_refl _, ?_⟩
    rw [abs_of_nonneg (sub_nonneg.2 h1), abs_of_nonneg (sub_nonneg.2 (h1.trans c1.le))]
    exact sub_le_sub_right c1.le t
  · simp only [c1, ↓reduceIte]
    by_cases c2 : v < L0
    · simp only [c2, ↓reduceIte]
      refine ⟨le_refl _, h0.trans h1, ?_⟩
      rw [abs_of_nonpos (sub_nonpos.2 h0), abs_of_nonpos (sub_nonpos.2 (c2.le.trans h0))]
      exact neg_le_neg (sub_le_sub_right c2.le t)
    · simp only [c2, ↓reduceIte]
      exact ⟨not_lt.1 c2, not_lt.1 c1, le_refl _⟩

/-- **the float model's argument of `expf`** for a log-scale automation at the default gain
    and offset: the model emits one message whose value is the argument `c` (the model reports
    the argument of `expf`, `IEEE.ieee` has `expf = id`); `c` lies between the stored bounds and
    `|c − (L0 + x·(L1 − L0))| ≤ 86·2⁻²⁴·(M + 2⁻¹²⁶)` for every `M ≥ |L0|, |L1|`. -/
theorem ieee_log_arg_deviation (tab : List (ℚ × ℚ)) (au : Automation ℚ) (x : ℚ) (hu : au.used = true)
    (hty : au.ty = 'i' ∨ au.ty = 'f') (hl : au.logScale = true)
    (hcp : (au.cp1, au.cp3) = mapping (ieee tab) au.pmin au.pmax 100 0) (hm : au.pmin ≤ au.pmax)
    (M : ℚ) (h0 : |au.pmin| ≤ M) (h1 : |au.pmax| ≤ M) (hx0 : 0 ≤ x) (hx1 : x ≤ 1) :
    ∃ c : ℚ,
      emit (ieee tab) au x =
        [ if au.ty = 'i' then { addr := au.path, ty := 'i', val := .int (trunc (roundAway c)), expArg := some c }
          else { addr := au.path, ty := 'f', val := .flt c, expArg := some c } ] ∧
      au.pmin ≤ c ∧ c ≤ au.pmax ∧
      |c - (au.pmin + x * (au.pmax - au.pmin))| ≤ 86 * u32 * (M + tiny) := by
  have hM : tiny ≤ M + tiny := le_add_of_nonneg_left ((abs_nonneg au.pmin).trans h0)
  have hM' : 0 ≤ M + tiny := tiny_pos.le.trans hM
  obtain ⟨m1, m3⟩ := mapping_dev tab au.pmin au.pmax M h0 h1
  rw [← hcp] at m1 m3
  obtain ⟨ht0, ht1⟩ := interp_mem hm hx0 hx1
  -- the exact value lies between the bounds, hence within `M`
  have htM : |au.pmin + x * (au.pmax - au.pmin)| ≤ 1 * (M + tiny) := by
    rw [one_mul]
    exact (abs_le.2 ⟨(neg_le_of_abs_le h0).trans ht0, ht1.trans (le_of_abs_le h1)⟩).trans
      (le_add_of_nonneg_right tiny_pos.le)
  have w := (m3.sub m1).r32 hM |>.const_mul x 1 (by rw [abs_of_nonneg hx0]; exact hx1) |>.r32 hM |>.add m1
  rw [add_comm (x * _)] at w
  have w' := w.rekey htM |>.r32 hM |>.weaken (e' := 86) (by decide +kernel) hM'
  obtain ⟨c0, c1, c2⟩ := clamp_dev (tab := tab) au.pmin au.pmax
    (rnd32 (rnd32 (x * rnd32 (au.cp3 - au.cp1)) + au.cp1)) _ ht0 ht1
  exact ⟨_, emit_log (ieee tab) au x hu hty hl, c0, c1, c2.trans w'.1⟩

end Rtosc.Auto.IEEE
