/-
  C09 helper lemmas: the tree type of this property embedded into C04's model of
  `Ports::dispatch` (RtoscModel/Ports/{Tree,Dispatch,Spec}.lean).

  The definitions are in Walk/PortsSpec.lean.  `toTable (toPorts ts)` is the `Ports` object C04's
  `dispatch` runs on (every port with a sub-table has the recursion callback of port-sugar.h: one
  `SNIP`, then the sub-table's `dispatch`; no default handlers); `toPTable ts` the same table with
  structured names, for which C04's theorems speak (`toPTable_render`).  C04's well-formedness asks
  for sub-tree names of one path component (`SNIP` cuts exactly one) and for non-empty names: `PortsFlat`.

  `Reported.reachesP`: for a pair of `enumerate` and a type string admitted along the path,
  C04's specification `Answers` holds exactly of the callbacks of the ports on the index path.
-/
import RtoscModel.Proofs.WalkSim
import RtoscModel.Props.C04
import RtoscModel.Walk.PortsSpec
namespace Rtosc.Walk
open Rtosc Rtosc.Path Rtosc.Match

theorem toPat_render (w : WName) : w.toPat.render = w.render := by
  have := toPat_cstr w
  simp only [Pat.cstr] at this
  exact List.append_cancel_right this

mutual
theorem toPTable_render : ∀ (ts : List STree), (toPTable ts).render = toTable (toPorts ts)
  | [] => by simp [toPTable, toPorts, toTable, Ports.PTable.render]
  | t :: r => by
    simp only [toPTable, toPorts, toTable]
    exact rowPTable_render t (toPTable r) (toTable (toPorts r)) (toPTable_render r)
theorem rowPTable_render : ∀ (t : STree) (rest : Ports.PTable) (rest' : Ports.Table), rest.render = rest' →
    (rowPTable t rest).render = rowTable t.toPort rest'
  | .leaf w md, rest, rest', h => by
    simp [rowPTable, STree.toPort, rowTable, Ports.PTable.render, toPat_render, h]
  | .sub w md kids, rest, rest', h => by
    simp [rowPTable, STree.toPort, rowTable, Ports.PTable.render, toPat_render, h, toPTable_render kids]
end

theorem nameWf_toPat {w : WName} (hok : w.ok = true) (ht : w.hasText = true) : Ports.nameWf w.toPat = true := by
  have hwf0 := toPat_wf0 hok
  simp only [Ports.nameWf, Bool.and_eq_true, Bool.not_eq_eq_eq_not, Bool.not_true, List.isEmpty_eq_false_iff]
  refine ⟨⟨hwf0, ?_⟩, ?_⟩
  · simp only [WName.hasText, Bool.not_eq_eq_eq_not, Bool.not_true, Bool.and_eq_false_imp,
      List.isEmpty_iff, List.isEmpty_eq_false_iff] at ht
    simp only [WName.toPat]
    cases hh : w.head with
    | cons c r => simp [litSeg]
    | nil =>
      cases hp : w.parts with
      | nil => exact absurd hp (ht hh)
      | cons p r => obtain ⟨ds, t⟩ := p; simp [litSeg, partSegs]
  · simp only [WName.toPat, List.all_append, Bool.and_eq_true]
    exact ⟨litSeg_all _ (by simp [Ports.Seg.isAlts]),
      partSegs_all (by simp [Ports.Seg.isAlts]) _ (by intro p _; simp [Ports.Seg.isAlts])⟩

theorem noSlash_toPat {w : WName} (h : w.oneComponent = true) : w.toPat.segs.all Ports.Seg.noSlash = true := by
  simp only [WName.oneComponent, Bool.and_eq_true, Bool.not_eq_eq_eq_not, Bool.not_true, List.all_eq_true] at h
  simp only [WName.toPat, List.all_append, Bool.and_eq_true]
  have hm : ∀ s : Bytes, s.contains 47 = false → ¬ (47 : UInt8) ∈ s := by
    intro s hs hmem
    rw [List.contains_iff_mem.mpr hmem] at hs
    cases hs
  refine ⟨litSeg_all _ (by simpa [Ports.Seg.noSlash] using hm _ h.1), partSegs_all (by simp [Ports.Seg.noSlash]) _ ?_⟩
  intro p hp
  simpa [Ports.Seg.noSlash] using hm _ (h.2 p hp)

mutual
theorem toPTable_wf : ∀ (ts : List STree), wfList ts = true → flatList ts = true → (toPTable ts).wf = true
  | [], _, _ => by simp [toPTable, Ports.PTable.wf]
  | t :: r, hwf, hf => by
    simp only [wfList, Bool.and_eq_true] at hwf
    simp only [flatList, Bool.and_eq_true] at hf
    simp only [toPTable]
    exact rowPTable_wf t (toPTable r) hwf.1 hf.1 (toPTable_wf r hwf.2 hf.2)
theorem rowPTable_wf : ∀ (t : STree) (rest : Ports.PTable), t.wf = true → t.flat = true → rest.wf = true →
    (rowPTable t rest).wf = true
  | .leaf w md, rest, hwf, hf, hr => by
    have hok : w.ok = true := STree.wf_leaf.mp hwf
    simp only [rowPTable, Ports.PTable.wf, Bool.and_eq_true]
    exact ⟨nameWf_toPat hok (by simpa [STree.flat] using hf), hr⟩
  | .sub w md kids, rest, hwf, hf, hr => by
    rw [STree.wf_sub] at hwf
    simp only [STree.flat, Bool.and_eq_true] at hf
    obtain ⟨hok, hhead, hslash, _⟩ := WName.subOk_spec hwf.1
    have ht : w.hasText = true := by
      simp only [WName.hasText, Bool.not_eq_eq_eq_not, Bool.not_true, Bool.and_eq_false_imp, List.isEmpty_iff]
      intro h; exact absurd h hhead
    simp only [rowPTable, Ports.PTable.wf, Ports.nodeNameWf, Bool.and_eq_true]
    exact ⟨⟨⟨⟨nameWf_toPat hok ht, by simpa [WName.toPat] using hslash⟩, noSlash_toPat hf.1⟩,
      toPTable_wf kids hwf.2 hf.2⟩, hr⟩
end

/-- what row `t` (index `i`, table path `tp`) contributes to `Answers` -/
def RowAnswers (t : STree) (i : Nat) (tp : List Nat) (a tags : Bytes) (w : Ports.Who) : Prop :=
  match t with
  | .leaf n _ => Ports.Admits n.toPat a tags ∧ w = .port (tp ++ [i])
  | .sub n _ kids =>
    Ports.Admits n.toPat a tags ∧
      (w = .port (tp ++ [i]) ∨ Ports.Answers (toPTable kids) 0 (tp ++ [i]) (Ports.levelTail a) tags w)

theorem answers_iff (tp : List Nat) (a tags : Bytes) (w : Ports.Who) : ∀ (ts : List STree) (i0 : Nat),
    Ports.Answers (toPTable ts) i0 tp a tags w ↔ ∃ n t, ts[n]? = some t ∧ RowAnswers t (i0 + n) tp a tags w :=
  rows_iff (P := fun ts i => Ports.Answers (toPTable ts) i tp a tags w) (R := fun i t => RowAnswers t i tp a tags w)
    (fun _ => by simp [toPTable, Ports.Answers]) (fun u _ _ => by
      cases u with
      | leaf n md => simp [toPTable, rowPTable, Ports.Answers, RowAnswers]
      | sub n md kids => simp [toPTable, rowPTable, Ports.Answers, RowAnswers])

theorem rowAnswers_admits {t : STree} {i : Nat} {tp : List Nat} {a tags : Bytes} {w : Ports.Who}
    (h : RowAnswers t i tp a tags w) : Ports.Admits t.name.toPat a tags := by
  cases t with
  | leaf n md => exact h.1
  | sub n md kids => exact h.1

theorem onPath_single (path : List Nat) (n : Nat) (w : Ports.Who) :
    OnPath path [n] w ↔ w = .port (path ++ [n]) := by
  constructor
  · rintro ⟨ix', hne, hp, rfl⟩
    obtain ⟨c, r, rfl⟩ := List.exists_cons_of_ne_nil hne
    have hl := hp.length_le
    simp only [List.length_cons, List.length_nil] at hl
    have hr : r = [] := List.eq_nil_of_length_eq_zero (by omega)
    subst hr
    obtain ⟨s, hs⟩ := hp
    simp at hs
    rw [hs.1]
  · rintro rfl
    exact ⟨[n], by simp, List.prefix_refl _, rfl⟩

theorem onPath_cons (path : List Nat) (n m : Nat) (ixr : List Nat) (w : Ports.Who) :
    OnPath path (n :: m :: ixr) w ↔ w = .port (path ++ [n]) ∨ OnPath (path ++ [n]) (m :: ixr) w := by
  constructor
  · rintro ⟨ix', hne, hp, rfl⟩
    obtain ⟨c, r, rfl⟩ := List.exists_cons_of_ne_nil hne
    obtain ⟨s, hs⟩ := hp
    simp only [List.cons_append, List.cons.injEq] at hs
    obtain ⟨rfl, hs⟩ := hs
    cases r with
    | nil => exact Or.inl rfl
    | cons d r' =>
      right
      exact ⟨d :: r', by simp, ⟨s, hs⟩, by simp⟩
  · rintro (rfl | ⟨ix', _, ⟨s, hs⟩, rfl⟩)
    · exact ⟨[n], by simp, ⟨m :: ixr, rfl⟩, rfl⟩
    · exact ⟨n :: ix', by simp, ⟨s, by simp [hs]⟩, by simp⟩

theorem levelTail_own {w : WName} (hok : w.ok = true) (h1 : w.oneComponent = true) {a : Bytes}
    (ha : a ∈ expandParts w.parts) (rel' : Bytes) : Ports.levelTail (w.head ++ a ++ 47 :: rel') = rel' :=
  Ports.spellsAll_levelTail (spells_name w hok a (47 :: rel') ha (startsWithDigit_slash rel')) (noSlash_toPat h1)
    (List.all_eq_true.mpr fun s hs => by cases s <;> first | rfl | exact absurd rfl (noAlts_toPat w _ hs _))

theorem flatList_get {ts : List STree} (h : flatList ts = true) {n : Nat} {t : STree} (ht : ts[n]? = some t) :
    t.flat = true :=
  rows_get (fl := flatList) (fun _ _ => by rw [flatList]) h ht

theorem Reported.reachesP (only : Bool) (tags : Bytes) (path : List Nat) {tab : List STree} {n : Nat}
    {ixr : List Nat} {rel : Bytes} (h : Reported tab n ixr rel) (hwf : wfList tab = true)
    (hfl : flatList tab = true) (hs : only = true → SiblingsApart tab) :
    ReachesP only tags path (n :: ixr) tab rel := by
  induction h generalizing path with
  | @leaf tab n w md a ht ha =>
    obtain ⟨_, hspec⟩ := leaf_row ht ha hwf
    intro hadm
    have hadm' : tagsAdmitted w.types tags = true := admittedAlong_leaf tags ht ▸ hadm
    constructor
    · intro who hwho
      rw [onPath_single] at hwho
      rw [answers_iff]
      exact ⟨n, _, ht, by
        simp only [RowAnswers, Nat.zero_add]
        exact ⟨⟨hspec, (tagsAdmitted_iff w.types tags).mp hadm'⟩, hwho⟩⟩
    · intro ho who hans
      rw [answers_iff] at hans
      obtain ⟨j, u, hu, hrow⟩ := hans
      by_cases hj : j = n
      · subst hj
        rw [ht] at hu
        cases hu
        rw [onPath_single]
        simpa [RowAnswers] using hrow.2
      · exact absurd (rowAnswers_admits hrow).1 (other_rows_apart (hs ho) ht hspec hj hu)
  | @sub tab n w md kids a m ixr rel ht ha _ ih =>
    obtain ⟨hsub, hwfk, hsk, hspec⟩ := sub_row ht ha hwf hs rel
    have hflt := flatList_get hfl ht
    simp only [STree.flat, Bool.and_eq_true] at hflt
    have h3 := ih (path ++ [n]) hwfk hflt.2 hsk
    have hlt := levelTail_own (WName.subOk_spec hsub).ok hflt.1 ha rel
    intro hadm
    have hadm' : tagsAdmitted w.types tags = true ∧ admittedAlong tags (m :: ixr) kids = true := by
      rwa [admittedAlong_sub tags _ ht, Bool.and_eq_true] at hadm
    obtain ⟨h3a, h3b⟩ := h3 hadm'.2
    have hadmits : Ports.Admits w.toPat (w.head ++ a ++ 47 :: rel) tags :=
      ⟨hspec, (tagsAdmitted_iff w.types tags).mp hadm'.1⟩
    constructor
    · intro who hwho
      rw [onPath_cons] at hwho
      rw [answers_iff]
      refine ⟨n, _, ht, ?_⟩
      simp only [RowAnswers, Nat.zero_add, hlt]
      refine ⟨hadmits, ?_⟩
      rcases hwho with hwho | hwho
      · exact Or.inl hwho
      · exact Or.inr (h3a who hwho)
    · intro ho who hans
      rw [answers_iff] at hans
      obtain ⟨j, u, hu, hrow⟩ := hans
      by_cases hj : j = n
      · subst hj
        rw [ht] at hu
        cases hu
        rw [onPath_cons]
        simp only [RowAnswers, Nat.zero_add, hlt] at hrow
        rcases hrow.2 with hrow | hrow
        · exact Or.inl hrow
        · exact Or.inr (h3b ho who hrow)
      · exact absurd (rowAnswers_admits hrow).1 (other_rows_apart (hs ho) ht hspec hj hu)

theorem ans_tree (only : Bool) (tags : Bytes) : ∀ (t : STree) (tab : List STree) (n : Nat) (pre : Bytes)
    (path ix : List Nat) (addr : Bytes), tab[n]? = some t → wfList tab = true → flatList tab = true →
    (only = true → SiblingsApart tab) → (ix, addr) ∈ enumTree pre (path ++ [n]) t →
    ∃ ixr rel, ix = path ++ n :: ixr ∧ addr = pre ++ rel ∧ NulFree rel ∧
      ReachesP only tags path (n :: ixr) tab rel := by
  intro t tab n pre path ix addr ht hwf hfl hs h
  obtain ⟨ixr, rel, h1, h2, hr⟩ := reported_tree t tab n pre _ ix addr ht h
  exact ⟨ixr, rel, by rw [h1, List.append_assoc]; rfl, h2, hr.nulFree hwf, hr.reachesP only tags path hwf hfl hs⟩

theorem idxBounded_slash {a : Bytes} (h : IdxBounded a) : IdxBounded (47 :: a) := by
  intro pre run post he hr
  cases pre with
  | cons c pre' =>
    simp only [List.cons_append, List.cons.injEq] at he
    exact h pre' run post (by simpa using he.2) hr
  | nil =>
    cases run with
    | nil => simp [decVal]
    | cons c run' =>
      simp only [List.nil_append, List.cons_append, List.cons.injEq] at he
      have := hr c List.mem_cons_self
      rw [← he.1] at this
      exact absurd this (by decide)

/-- C04's `Ports::dispatch` on the address `rel` of a reported pair, with or without location buffer: the
    callbacks invoked are those of the ports on the index path, each once, and (`only`) no other -/
theorem Reported.portsDispatch {mk : List Bytes → Option Ports.Hash.Matcher} (hmk : Ports.MkOK mk) (only : Bool)
    {ts : List STree} {n : Nat} {ixr : List Nat} {rel : Bytes} (hr : Reported ts n ixr rel)
    (hwf : TreeWF ts) (hfl : PortsFlat ts) (hs : only = true → SiblingsApart ts)
    (tags : Bytes) (ht : NulFree tags) (hadm : admittedAlong tags (n :: ixr) ts = true) (hb : IdxBounded rel)
    (k : Nat) (rest : Bytes) (d : Ports.RtData) (hd : d.loc = none ∨ ∃ L0, d.loc = some L0 ∧ d.locSize ≠ 0) :
    ∃ log d', Ports.dispatch mk ⟨toTable (toPorts ts), false⟩ (Ports.msgBuf (47 :: rel) tags k rest) d true
        = some (log, d') ∧
      (∀ w, OnPath [] (n :: ixr) w → w ∈ log.map (·.who)) ∧
      (only = true → ∀ w, w ∈ log.map (·.who) → OnPath [] (n :: ixr) w) ∧
      (log.map (·.who)).Nodup := by
  have h3 := hr.nulFree hwf
  obtain ⟨h4a, h4b⟩ := hr.reachesP only tags [] hwf hfl hs hadm
  let P : Ports.PPorts := ⟨toPTable ts, false⟩
  have hP : P.render = ⟨toTable (toPorts ts), false⟩ := by
    simp [P, Ports.PPorts.render, toPTable_render]
  have hnul : NulFree (47 :: rel) := by
    intro c hc
    rcases List.mem_cons.mp hc with rfl | hc
    · decide
    · exact h3 c hc
  have hscope : Ports.InScope P (47 :: rel) tags rest :=
    ⟨toPTable_wf ts hwf hfl, hnul, idxBounded_slash hb, ht⟩
  have hroot : ∀ w, Ports.AnswersRoot P (Ports.rootAddr true (47 :: rel)) tags w ↔
      Ports.Answers (toPTable ts) 0 [] rel tags w := by
    intro w
    simp [Ports.AnswersRoot, Ports.rootAddr, Ports.stripSlash, P]
  obtain ⟨L, log, d', hdisp, hv⟩ := Ports.dispatch_views hmk hscope k true d hd
  rw [hP] at hdisp
  have hlog : ∀ w, w ∈ log.map (·.who) ↔ Ports.Answers (toPTable ts) 0 [] rel tags w := fun w => by
    rw [← hroot w, ← Ports.rootLog_answers hscope.wf d L _ tags (Ports.msgTail k tags rest) w, Ports.whos_of_views hv]
  refine ⟨log, d', hdisp, fun w hw => (hlog w).mpr (h4a w hw), fun ho w hw => h4b ho w ((hlog w).mp hw), ?_⟩
  rw [Ports.whos_of_views hv]
  exact Ports.rootLog_nodup _ ..

/-- **C04's `Ports::dispatch` on the address of a reported pair**, without location buffer
    (`d.loc = none`: linear search of every table) and with one (every table looked up by the
    strategy `mk` picked for it): the callbacks invoked are those of the ports on the index
    path — the recursion callbacks of the sub-tree ports on the way and the reported leaf —,
    each once, and (`only`: rows pairwise apart) no other. -/
theorem ports_dispatch_reported {mk : List Bytes → Option Ports.Hash.Matcher} (hmk : Ports.MkOK mk) (only : Bool)
    (ts : List STree) (hwf : TreeWF ts) (hfl : PortsFlat ts) (hs : only = true → SiblingsApart ts)
    (pre : Bytes) (ix : List Nat) (addr : Bytes) (h : (ix, addr) ∈ enumerate ts pre)
    (tags : Bytes) (ht : NulFree tags) (hadm : admittedAlong tags ix ts = true) :
    ∃ rel, addr = pre ++ rel ∧ NulFree rel ∧
      (IdxBounded rel → ∀ (k : Nat) (rest : Bytes) (d : Ports.RtData),
        (d.loc = none ∨ ∃ L0, d.loc = some L0 ∧ d.locSize ≠ 0) →
        ∃ log d', Ports.dispatch mk ⟨toTable (toPorts ts), false⟩ (Ports.msgBuf (47 :: rel) tags k rest) d true
            = some (log, d') ∧
          (∀ w, OnPath [] ix w → w ∈ log.map (·.who)) ∧
          (only = true → ∀ w, w ∈ log.map (·.who) → OnPath [] ix w) ∧
          (log.map (·.who)).Nodup) := by
  obtain ⟨n, ixr, rel, rfl, h2, hr⟩ := reported_of_mem h
  exact ⟨rel, h2, hr.nulFree hwf, fun hb k rest d hd => hr.portsDispatch hmk only hwf hfl hs tags ht hadm hb k rest d hd⟩

end Rtosc.Walk
