/-
  C11 — white space and comments between values: what the two hand-written skipping loops of
  src/cpp/pretty-format.c do on a `Layout` of the specification.

  * the checker (`rtosc_count_printed_arg_vals`): `skip_while(isspace)`, then
    `while(*src == '%') skip_fmt("%*[^\n] %n")`        → `skipCommentLines ∘ skipSpace`
  * the scanner (`rtosc_scan_arg_vals`): `do { skip " "; while('%') skip "%*[^\n]" } while(isspace)`
                                                         → `skipSpaceComments`
  Both skip exactly `gapsBytes g` in front of anything that starts a value or ends the text.
-/
import RtoscModel.Pretty.C11Spec
import RtoscModel.Proofs.PrettyLoops
namespace Rtosc.Pretty.C11
open Rtosc Rtosc.Libc Rtosc.Pretty
open Rtosc.ArgVal (Cell)

theorem Stop.of_tokStart {t : Bytes} (h : TokStart t) (rest : Bytes) : Stop (t ++ rest) := by
  obtain ⟨hne, hsp, _, _, _, h37, _⟩ := h
  right
  rw [hd_append_of_ne_nil _ _ hne]
  exact ⟨hsp, h37⟩

theorem isspace_ws (w : Ws) : isspace w.byte = true := by cases w <;> decide

theorem ws_ne (w : Ws) : w.byte ≠ 37 ∧ w.byte ≠ 0 := by cases w <;> decide

theorem commentBody_no_nl (b : Bytes) : ∀ c ∈ commentBody b, c ≠ 10 := by
  intro c hc
  simp [commentBody] at hc
  exact hc.2.1

/-- `%*[^\n]` stops at the line break or at the end of the text -/
theorem takeNotNl_stop (x tl : Bytes) (hx : ∀ c ∈ x, c ≠ 10) (htl : tl = [] ∨ ∃ r, tl = 10 :: r) :
    takeNotNl (x ++ tl) = (x, tl) := by
  induction x with
  | nil => rcases htl with rfl | ⟨r, rfl⟩ <;> simp [takeNotNl]
  | cons c t ih =>
    have hc : c ≠ 10 := hx c (by simp)
    have := ih (fun y hy => hx y (by simp [hy]))
    simp [takeNotNl, hc, this]

theorem takeNotNl_comment (x tl : Bytes) (hx : ∀ c ∈ x, c ≠ 10) (htl : tl = [] ∨ ∃ r, tl = 10 :: r) :
    takeNotNl (37 :: (x ++ tl)) = (37 :: x, tl) :=
  takeNotNl_stop (37 :: x) tl (by
    intro c hc
    rcases List.mem_cons.mp hc with rfl | h
    · decide
    · exact hx c h) htl

/-- `skip_fmt(&src, "%*[^\n] %n")` on a comment: the line, its line break and the white space behind it -/
theorem skipFmt_commentSp (x tl : Bytes) (hx : ∀ c ∈ x, c ≠ 10) (htl : tl = [] ∨ ∃ r, tl = 10 :: r) :
    skipFmt fmtCommentSp (37 :: (x ++ tl)) = (37 :: (x ++ tl)).length - (skipSpace tl).length := by
  have h1 := takeNotNl_comment x tl hx htl
  have hle := skipSpace_length_le tl
  simp [skipFmt, scanRd, sscanf, fmtCommentSp, sscanfGo, h1]
  omega

theorem drop_pre_skipSpace (pre r : Bytes) :
    (pre ++ r).drop ((pre ++ r).length - (skipSpace r).length) = skipSpace r := by
  have hle := skipSpace_length_le r
  have e : (pre ++ r).length - (skipSpace r).length = pre.length + (r.length - (skipSpace r).length) := by
    simp only [List.length_append]; omega
  rw [e, List.drop_append, List.drop_eq_nil_of_le (by omega)]
  simp only [List.nil_append, Nat.add_sub_cancel_left]
  exact skipSpace_drop r

def numComments : List Gap → Nat
  | [] => 0
  | .ws _ :: g => numComments g
  | .comment _ :: g => numComments g + 1

theorem numComments_le (g : List Gap) : numComments g ≤ (gapsBytes g).length := by
  induction g with
  | nil => simp [numComments]
  | cons x g ih =>
    cases x with
    | ws w => simp [numComments, gapsBytes, Gap.bytes] at ih ⊢; omega
    | comment b => simp [numComments, gapsBytes, Gap.bytes] at ih ⊢; omega

/-- `skip_while(isspace)` and the comment loop skip a run of gaps (one turn of the loop per
    comment line) -/
theorem skipCommentLines_gaps (g : List Gap) (body : Bytes) :
    ∀ fuel, numComments g < fuel →
      skipCommentLines fuel (skipSpace (gapsBytes g ++ body)) =
        skipCommentLines (fuel - numComments g) (skipSpace body) := by
  induction g with
  | nil => intro fuel _; simp [gapsBytes, numComments]
  | cons x g ih =>
    intro fuel hf
    cases x with
    | ws w =>
      have e : gapsBytes (Gap.ws w :: g) ++ body = w.byte :: (gapsBytes g ++ body) := by
        simp [gapsBytes, Gap.bytes]
      rw [e]
      have : skipSpace (w.byte :: (gapsBytes g ++ body)) = skipSpace (gapsBytes g ++ body) := by
        simp [skipSpace, isspace_ws]
      rw [this]
      exact ih fuel (by simpa [numComments] using hf)
    | comment b =>
      obtain ⟨f, rfl⟩ : ∃ f, fuel = f + 1 := ⟨fuel - 1, by omega⟩
      have e : gapsBytes (Gap.comment b :: g) ++ body = 37 :: (commentBody b ++ 10 :: (gapsBytes g ++ body)) := by
        simp [gapsBytes, Gap.bytes]
      rw [e]
      have hsp : skipSpace (37 :: (commentBody b ++ 10 :: (gapsBytes g ++ body))) =
          37 :: (commentBody b ++ 10 :: (gapsBytes g ++ body)) := by
        simp [skipSpace, isspace]
      rw [hsp]
      have hx := commentBody_no_nl b
      have hk := skipFmt_commentSp (commentBody b) (10 :: (gapsBytes g ++ body)) hx (Or.inr ⟨_, rfl⟩)
      rw [show skipSpace (10 :: (gapsBytes g ++ body)) = skipSpace (gapsBytes g ++ body) from by simp [skipSpace, isspace]]
        at hk
      have hle := skipSpace_length_le (gapsBytes g ++ body)
      conv => lhs; unfold skipCommentLines
      simp only [hd_cons, ↓reduceIte]
      rw [hk]
      have hne : ¬ ((37 :: (commentBody b ++ 10 :: (gapsBytes g ++ body))).length -
          (skipSpace (gapsBytes g ++ body)).length = 0) := by
        simp only [List.length_cons, List.length_append] at hle ⊢; omega
      simp only [hne, ↓reduceIte]
      have hdrop : (37 :: (commentBody b ++ 10 :: (gapsBytes g ++ body))).drop
          ((37 :: (commentBody b ++ 10 :: (gapsBytes g ++ body))).length -
            (skipSpace (gapsBytes g ++ body)).length) = skipSpace (gapsBytes g ++ body) := by
        have := drop_pre_skipSpace (37 :: commentBody b ++ [10]) (gapsBytes g ++ body)
        simpa using this
      rw [hdrop, ih f (by simp [numComments] at hf; omega)]
      congr 1
      simp [numComments]

theorem skipCommentLines_stop (f : Nat) (body : Bytes) (hb : Stop body) :
    skipCommentLines (f + 1) (skipSpace body) = .ok body := by
  rw [skipSpace_stop body hb]
  exact skipCommentLines_none f body hb.notComment

/-- the unterminated comment at the very end of a text -/
theorem skipCommentLines_last (b : Bytes) (fuel : Nat) :
    skipCommentLines (fuel + 2) (37 :: commentBody b) = .ok [] := by
  have hx := commentBody_no_nl b
  have hk : skipFmt fmtCommentSp (37 :: commentBody b) = (37 :: commentBody b).length := by
    simpa [skipSpace] using skipFmt_commentSp (commentBody b) [] hx (Or.inl rfl)
  unfold skipCommentLines
  simp only [hd_cons, ↓reduceIte, hk]
  have : ¬ ((37 :: commentBody b).length = 0) := by simp
  simp only [this, ↓reduceIte, List.drop_length]
  exact skipCommentLines_none (fuel) [] (by decide)

theorem skipSpaceComments_ws (f : Nat) (w : UInt8) (r : Bytes) (hw : isspace w = true) :
    skipSpaceComments (f + 1) (w :: r) = (skipSpaceComments (f + 1) r).map (· + 1) := by
  have hle := skipSpace_length_le r
  have h1 : skipSpace (w :: r) = skipSpace r := by simp [skipSpace, hw]
  have ha : skipFmt fmtSpace (w :: r) = skipFmt fmtSpace r + 1 := by
    rw [skipFmt_space, skipFmt_space, h1]; simp; omega
  have hd1 : (w :: r).drop (skipFmt fmtSpace r + 1) = r.drop (skipFmt fmtSpace r) := by simp
  conv => lhs; unfold skipSpaceComments
  conv => rhs; unfold skipSpaceComments
  simp only [ha, hd1]
  split
  · cases hc : skipSpaceComments.skipComments ((List.drop (skipFmt fmtSpace r) r).length + 1)
        (List.drop (skipFmt fmtSpace r) r) with
    | error e => simp [bind, Except.bind, Except.map]
    | ok b =>
      simp only [bind, Except.bind]
      split
      · cases hm : skipSpaceComments f (List.drop b (List.drop (skipFmt fmtSpace r) r)) with
        | error e => simp [Except.map]
        | ok m => simp [Except.map, pure, Except.pure]; omega
      · simp [Except.map, pure, Except.pure]; omega
  · simp [Except.map, pure, Except.pure]

/-- `skip_fmt(&src, "%*[^\n]%n")` on a comment -/
theorem skipFmt_comment (x tl : Bytes) (hx : ∀ c ∈ x, c ≠ 10) (htl : tl = [] ∨ ∃ r, tl = 10 :: r) :
    skipFmt fmtComment (37 :: (x ++ tl)) = x.length + 1 := by
  have h1 := takeNotNl_comment x tl hx htl
  simp [skipFmt, scanRd, sscanf, fmtComment, sscanfGo, h1]

theorem skipComments_comment (f : Nat) (x tl : Bytes) (hx : ∀ c ∈ x, c ≠ 10) (htl : tl = [] ∨ ∃ r, tl = 10 :: r) :
    skipSpaceComments.skipComments (f + 2) (37 :: (x ++ tl)) = .ok (x.length + 1) := by
  have hk := skipFmt_comment x tl hx htl
  unfold skipSpaceComments.skipComments
  simp only [hd_cons, ↓reduceIte]
  rw [hk]
  have : ¬ (x.length + 1 = 0) := by omega
  simp only [this, ↓reduceIte]
  have hdrop : (37 :: (x ++ tl)).drop (x.length + 1) = tl := by simp
  rw [hdrop]
  unfold skipSpaceComments.skipComments
  rcases htl with rfl | ⟨r, rfl⟩ <;> simp [bind, Except.bind, pure, Except.pure]

theorem skipSpaceComments_comment (f : Nat) (x r : Bytes) (hx : ∀ c ∈ x, c ≠ 10) :
    skipSpaceComments (f + 1) (37 :: (x ++ 10 :: r)) =
      (skipSpaceComments f (10 :: r)).map (· + (x.length + 1)) := by
  have h1 : skipSpace (37 :: (x ++ 10 :: r)) = 37 :: (x ++ 10 :: r) := by simp [skipSpace, isspace]
  conv => lhs; unfold skipSpaceComments
  simp only [skipFmt_space, h1, Nat.sub_self, List.drop_zero]
  simp only [hd_cons, ↓reduceIte]
  have hc := skipComments_comment (x ++ 10 :: r).length x (10 :: r) hx (Or.inr ⟨r, rfl⟩)
  have e : (37 :: (x ++ 10 :: r)).length + 1 = (x ++ 10 :: r).length + 2 := by simp
  rw [e, hc]
  simp only [bind, Except.bind]
  have hdrop : (37 :: (x ++ 10 :: r)).drop (x.length + 1) = 10 :: r := by simp
  rw [hdrop]
  have : isspace (hd (10 :: r)) = true := by simp [isspace]
  simp only [this, ↓reduceIte]
  cases skipSpaceComments f (10 :: r) with
  | error e => simp [Except.map]
  | ok m => simp [Except.map, pure, Except.pure]; omega

/-- the scanner's loop skips a run of gaps (one nested turn per comment line) and counts them -/
theorem skipSpaceComments_gaps (g : List Gap) (body : Bytes) :
    ∀ fuel, numComments g < fuel →
      skipSpaceComments fuel (gapsBytes g ++ body) =
        (skipSpaceComments (fuel - numComments g) body).map (· + (gapsBytes g).length) := by
  induction g with
  | nil =>
    intro fuel _
    cases h : skipSpaceComments fuel body <;> simp [gapsBytes, numComments, h, Except.map]
  | cons x g ih =>
    intro fuel hf
    obtain ⟨f, rfl⟩ : ∃ f, fuel = f + 1 := ⟨fuel - 1, by omega⟩
    cases x with
    | ws w =>
      have e : gapsBytes (Gap.ws w :: g) ++ body = w.byte :: (gapsBytes g ++ body) := by
        simp [gapsBytes, Gap.bytes]
      rw [e, skipSpaceComments_ws f _ _ (isspace_ws w), ih (f + 1) (by simpa [numComments] using hf)]
      simp only [numComments]
      cases skipSpaceComments (f + 1 - numComments g) body with
      | error e => simp [Except.map]
      | ok m => simp [Except.map, gapsBytes, Gap.bytes]; omega
    | comment b =>
      have hx := commentBody_no_nl b
      have e : gapsBytes (Gap.comment b :: g) ++ body = 37 :: (commentBody b ++ 10 :: (gapsBytes g ++ body)) := by
        simp [gapsBytes, Gap.bytes]
      rw [e, skipSpaceComments_comment f _ _ hx]
      obtain ⟨f', rfl⟩ : ∃ f', f = f' + 1 := ⟨f - 1, by simp [numComments] at hf; omega⟩
      rw [skipSpaceComments_ws f' 10 _ (by decide), ih (f' + 1) (by simp [numComments] at hf; omega)]
      have e2 : f' + 1 + 1 - numComments (Gap.comment b :: g) = f' + 1 - numComments g := by
        simp [numComments]
      rw [e2]
      cases skipSpaceComments (f' + 1 - numComments g) body with
      | error e => simp [Except.map]
      | ok m => simp [Except.map, gapsBytes, Gap.bytes]; omega

theorem skipSpaceComments_last (f : Nat) (b : Bytes) :
    skipSpaceComments (f + 1) (37 :: commentBody b) = .ok (37 :: commentBody b).length := by
  have hx := commentBody_no_nl b
  have h1 : skipSpace (37 :: commentBody b) = 37 :: commentBody b := by simp [skipSpace, isspace]
  unfold skipSpaceComments
  simp only [skipFmt_space, h1, Nat.sub_self, List.drop_zero, hd_cons, ↓reduceIte]
  have hc := skipComments_comment (commentBody b).length (commentBody b) [] hx (Or.inl rfl)
  rw [List.append_nil] at hc
  have e : (37 :: commentBody b).length + 1 = (commentBody b).length + 2 := by simp
  rw [e, hc]
  simp [bind, Except.bind, pure, Except.pure, isspace]

end Rtosc.Pretty.C11
