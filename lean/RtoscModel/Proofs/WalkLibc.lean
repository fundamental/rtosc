/-
  C09 helper lemmas: `%d` / `atoi` on the numbers of port names.
-/
import RtoscModel.Walk.Spec
import RtoscModel.Proofs.MatchLemmas
namespace Rtosc.Walk
open Rtosc Rtosc.Path Rtosc.Match

theorem digit_toNat (k : Nat) (hk : k ≤ 9) : (UInt8.ofNat (48 + k)).toNat = 48 + k := by
  rw [UInt8.toNat_ofNat']
  omega

theorem digit_isDigit (k : Nat) (hk : k ≤ 9) : Match.isDigit (UInt8.ofNat (48 + k)) = true := by
  simp only [Match.isDigit, Bool.and_eq_true, decide_eq_true_eq, UInt8.le_iff_toNat_le, digit_toNat k hk]
  exact ⟨Nat.le_add_right 48 k, Nat.add_le_add_left hk 48⟩

theorem decVal_snoc (a : Bytes) (d : UInt8) : decVal (a ++ [d]) = decVal a * 10 + (d.toNat - 48) := by
  simp [decVal, List.foldl_append]

theorem natDigitsF_lt (f n : Nat) (h : n < 10) : natDigitsF (f + 1) n = [UInt8.ofNat (48 + n)] := by
  rw [natDigitsF, if_pos h]

theorem natDigitsF_ge (f n : Nat) (h : ¬ n < 10) :
    natDigitsF (f + 1) n = natDigitsF f (n / 10) ++ [UInt8.ofNat (48 + n % 10)] := by
  rw [natDigitsF, if_neg h]

theorem natDigitsF_spec : ∀ (f n : Nat), n ≤ f →
    decVal (natDigitsF f n) = n ∧ (∀ c ∈ natDigitsF f n, Match.isDigit c = true) ∧ natDigitsF f n ≠ [] := by
  intro f
  induction f with
  | zero =>
    intro n hn
    obtain rfl : n = 0 := Nat.le_zero.mp hn
    exact ⟨by decide, by decide, by decide⟩
  | succ f ih =>
    intro n hn
    by_cases h10 : n < 10
    · rw [natDigitsF_lt f n h10]
      refine ⟨?_, ?_, List.cons_ne_nil _ _⟩
      · rw [← List.nil_append [_], decVal_snoc, digit_toNat n (by omega)]
        show 0 * 10 + (48 + n - 48) = n
        omega
      · intro c hc
        rw [List.mem_singleton.mp hc]
        exact digit_isDigit n (by omega)
    · rw [natDigitsF_ge f n h10]
      obtain ⟨h1, h2, _⟩ := ih (n / 10) (by omega)
      refine ⟨?_, ?_, by simp⟩
      · rw [decVal_snoc, h1, digit_toNat (n % 10) (by omega)]
        omega
      · intro c hc
        rcases List.mem_append.mp hc with hc | hc
        · exact h2 c hc
        · rw [List.mem_singleton.mp hc]; exact digit_isDigit (n % 10) (by omega)

theorem decVal_natDigits (n : Nat) : decVal (natDigits n) = n := (natDigitsF_spec n n (Nat.le_refl _)).1

theorem natDigits_digits (n : Nat) : ∀ c ∈ natDigits n, Match.isDigit c = true :=
  (natDigitsF_spec n n (Nat.le_refl _)).2.1

theorem natDigits_ne_nil (n : Nat) : natDigits n ≠ [] := (natDigitsF_spec n n (Nat.le_refl _)).2.2

theorem natDigitsF_length : ∀ (f n k : Nat), 1 ≤ k → n < 10 ^ k → (natDigitsF f n).length ≤ k := by
  intro f
  induction f with
  | zero => intro n k hk _; exact hk
  | succ f ih =>
    intro n k hk hn
    by_cases h10 : n < 10
    · rw [natDigitsF_lt f n h10]; exact hk
    · rw [natDigitsF_ge f n h10, List.length_append, List.length_singleton]
      -- ten or more: `k ≥ 2`, and `n / 10` is below `10 ^ (k - 1)`
      obtain ⟨j, rfl⟩ : ∃ j, k = j + 1 := ⟨k - 1, by omega⟩
      have hj : 1 ≤ j := by
        rcases Nat.eq_zero_or_pos j with rfl | h
        · exact absurd hn h10
        · exact h
      rw [Nat.pow_succ] at hn
      exact Nat.succ_le_succ (ih (n / 10) j hj (Nat.div_lt_of_lt_mul (by rw [Nat.mul_comm]; exact hn)))

theorem natDigits_length (n : Nat) (h : n < 2 ^ 31) : (natDigits n).length ≤ 10 :=
  natDigitsF_length n n 10 (by omega) (by omega)

theorem digit_not_space {c : UInt8} (h : Match.isDigit c = true) : isSpace c = false := by
  obtain ⟨h1, h2⟩ := digit_range h
  simp only [isSpace, Bool.or_eq_false_iff, decide_eq_false_iff_not, Bool.and_eq_false_iff]
  refine ⟨digit_ne h (by decide), Or.inr ?_⟩
  intro h13
  have : c.toNat ≤ 13 := by simpa using UInt8.le_iff_toNat_le.mp h13
  omega

theorem natDigits_nulfree (n : Nat) : NulFree (natDigits n) :=
  fun c hc => digit_ne (natDigits_digits n c hc) (by decide)

theorem natDigits_no_colon (n : Nat) : ∀ c ∈ natDigits n, c ≠ 58 :=
  fun c hc => digit_ne (natDigits_digits n c hc) (by decide)

theorem fmtD_small (i : Nat) (h : i < 2 ^ 31) : fmtD i = natDigits i := by simp [fmtD, h]

theorem takeWhile_digits_append (ds rest : Bytes) (hds : ∀ c ∈ ds, Match.isDigit c = true)
    (hr : startsWithDigit rest = false) : (ds ++ rest).takeWhile isDigit = ds :=
  (takeWhile_run hds (fun _ _ h => by subst h; exact hr)).1

theorem dropWhile_digits_append (ds rest : Bytes) (hds : ∀ c ∈ ds, Match.isDigit c = true)
    (hr : startsWithDigit rest = false) : (ds ++ rest).dropWhile isDigit = rest :=
  (takeWhile_run hds (fun _ _ h => by subst h; exact hr)).2

theorem atoiC_num (ds rest : Bytes) (hne : ds ≠ []) (hds : ∀ c ∈ ds, Match.isDigit c = true)
    (hlt : decVal ds < 2 ^ 31) (hr : startsWithDigit rest = false) : atoiC (ds ++ rest) = decVal ds := by
  cases ds with
  | nil => exact absurd rfl hne
  | cons c r =>
    have hc := hds c List.mem_cons_self
    have h45 : c ≠ 45 := digit_ne hc (by decide)
    have h43 : c ≠ 43 := digit_ne hc (by decide)
    have hsp := digit_not_space hc
    have htw := takeWhile_digits_append (c :: r) rest hds hr
    have hdrop : (c :: r ++ rest).dropWhile isSpace = c :: r ++ rest := by
      simp [hsp]
    have e1 : signNeg (c :: r ++ rest) = false := by
      simp only [List.cons_append]
      unfold signNeg
      split
      · next h => simp only [List.cons.injEq] at h; exact absurd h.1 h45
      · rfl
    have e2 : skipSign (c :: r ++ rest) = c :: r ++ rest := by
      simp only [List.cons_append]
      unfold skipSign
      split
      · next h => simp only [List.cons.injEq] at h; exact absurd h.1 h45
      · next h => simp only [List.cons.injEq] at h; exact absurd h.1 h43
      · rfl
    unfold atoiC
    simp only [hdrop, e1, e2, htw, Bool.false_eq_true, ↓reduceIte]
    exact atoiU_of_lt hlt

end Rtosc.Walk
