/-
  C10, C11, C12 — the list loops of `rtosc_scan_arg_vals`, `rtosc_count_printed_arg_vals` and
  `rtosc_print_arg_vals`, each once.

  Readers.  The model has the scanner's and the checker's loop twice (C10's and C11's): the same text
  over a different function for one argument.  `scanLoopG sa` and `countLoopG sk` are that text over a
  variable; the four model loops are instances.  A loop sees a text as pieces: the text of an argument,
  a gap (`GapOK gap next`: what both loops skip behind an argument, arriving at `next`), the next piece.
  `scanLoopG_turn` and `countLoopG_turn` are the only places where a turn of a list loop is unfolded
  (the exits: `scanLoopG_done`, `countLoopG_stop`).  `Chain` is a text of pieces in front of any `next`,
  with the left context the readers carry along.

  Printer.  One iteration for any answer of `rtosc_convert_to_range`, and the loop over pieces of any
  kind: it writes a `SepText`, piece texts separated by a blank or a line break.  A `SepText` of pieces
  that are one argument each is a `Chain`.  One turn of the printer's element loop of an array is
  `arrLoop_step`.

  The functions of Pretty/C11Model.lean that repeat one of C10's word for word are proved equal to
  it (`c11_…_eq`: beside the loops, and at the end of the file); at the end also one turn of each
  reader's element loop of an array (`scanArrayElems_turn`, `skipArrayElems_turn`; the element type
  `C11.elemTy` is defined in Pretty/C11LayoutSpec.lean).
-/
import RtoscModel.Pretty.C11LayoutSpec
import RtoscModel.Proofs.PrettyTok
import RtoscModel.Proofs.PrettyArg
namespace Rtosc.Pretty
open Rtosc Rtosc.Libc
open Rtosc.ArgVal (Cell)

/-! the conjuncts of `TokStart` that the loops ask for -/
theorem TokStart.notSpace {t : Bytes} (h : TokStart t) : isspace (hd t) = false := h.2.1
theorem TokStart.notNul {t : Bytes} (h : TokStart t) : hd t ≠ 0 := h.2.2.1
theorem TokStart.notComment {t : Bytes} (h : TokStart t) : hd t ≠ 37 := h.2.2.2.2.2.1
theorem TokStart.notSlash {t : Bytes} (h : TokStart t) : hd t ≠ 47 := h.2.2.2.2.2.2.1
theorem TokStart.notClose {t : Bytes} (h : TokStart t) : hd t ≠ 93 := h.2.2.2.2.2.2.2

theorem skipSpace_sep (sep text : Bytes) (hs : IsSepTxt sep) (ht : TokStart text) : skipSpace (sep ++ text) = text :=
  skipSpace_lead sep text (by rcases hs with rfl | rfl <;> decide) (Or.inr ht.notSpace)

theorem startsWith_dots_hd (s : Bytes) (h : hd s ≠ 46) : startsWith s [46, 46, 46] = false := by
  cases s with
  | nil => rfl
  | cons c r =>
    simp only [hd_cons] at h
    simp [startsWith, List.isPrefixOf]
    intro h'; exact absurd h'.symm h

theorem skipSpace_tokStart (text : Bytes) (ht : TokStart text) : skipSpace text = text :=
  skipSpace_of_hd text (Or.inr ht.notSpace)

theorem sep_of_next (sep text : Bytes) (hs : IsSepTxt sep) (ht : TokStart text) : Sep (sep ++ text) := by
  have h1 := skipSpace_sep sep text hs ht
  obtain ⟨_, _, _, h40, h46, _⟩ := ht
  refine ⟨?_, ?_, ?_⟩
  · right; left; rcases hs with rfl | rfl <;> rfl
  · rw [h1]; exact h40
  · rw [h1]; exact startsWith_dots_hd text h46

theorem skipFmt_space (s : Bytes) : skipFmt fmtSpace s = s.length - (skipSpace s).length := by
  simp [skipFmt, scanRd, sscanf, fmtSpace, sscanfGo]

theorem skipSpaceComments_sep (fuel : Nat) (sep text : Bytes) (hs : IsSepTxt sep) (ht : TokStart text) :
    skipSpaceComments (fuel + 1) (sep ++ text) = .ok sep.length := by
  have h1 := skipSpace_sep sep text hs ht
  have h37 := ht.notComment
  unfold skipSpaceComments
  simp only [skipFmt_space, h1, List.length_append, Nat.add_sub_cancel, List.drop_left, h37, ↓reduceIte]
  rfl

namespace C11

/-- what can follow a run of gaps (in namespace `C11` with the layout lemmas of Proofs/ScanLayout.lean
    that are stated with it; the entry lemmas of both readers below use it) -/
def Stop (body : Bytes) : Prop := body = [] ∨ (isspace (hd body) = false ∧ hd body ≠ 37)

theorem stop_nil : Stop [] := Or.inl rfl

theorem Stop.notComment {body : Bytes} (h : Stop body) : hd body ≠ 37 := by
  rcases h with rfl | ⟨_, h⟩
  · decide
  · exact h

theorem skipSpace_stop (body : Bytes) (h : Stop body) : skipSpace body = body :=
  skipSpace_of_hd body (h.imp id And.left)

theorem skipSpaceComments_stop (f : Nat) (body : Bytes) (hb : Stop body) :
    skipSpaceComments (f + 1) body = .ok 0 := by
  have h1 := skipSpace_stop body hb
  have h37 := hb.notComment
  unfold skipSpaceComments
  simp [skipFmt_space, h1, h37, pure, Except.pure]

end C11

theorem skipCommentLines_none (fuel : Nat) (s : Bytes) (h : hd s ≠ 37) : skipCommentLines (fuel + 1) s = .ok s := by
  unfold skipCommentLines; simp [h]

theorem TokStart.append {t : Bytes} (h : TokStart t) (r : Bytes) : TokStart (t ++ r) := by
  obtain ⟨h0, h1⟩ := h
  refine ⟨by simp [h0], ?_⟩
  rw [hd_append_of_ne_nil _ _ h0]; exact h1

/-- the loop of `rtosc_scan_arg_vals` over any scanner of one argument -/
def scanLoopG (sa : Nat → ElemScanner) : Nat → Bytes → Nat → Nat → Bool → List Cell → Nat → Res (Nat × List Cell)
  | 0, _, _, _, _, _, _ => .error .fuel
  | fuel + 1, src, n, i, prevOk, done, rd =>
    if i < n then do
      let (tmp, cells) ← sa (src.length + 2) src done.reverse (if prevOk then i else 0) true
      let ok' ← canPrecedeRange cells
      let s1 ← advance src tmp
      let length ← nextArgOffset (cells.length + 1) cells
      if length ≠ cells.length then throw .undef
      let sk ← skipSpaceComments (s1.length + 1) s1
      scanLoopG sa fuel (s1.drop sk) n (i + length) ok' (done ++ cells) (rd + tmp + sk)
    else pure (rd, done)

/-- what the checker's loop skips behind an argument: white space, then comment lines (`countLoopG`
    spells these two lines out, to be the model's text word for word; `countLoopG_turn` folds them) -/
def checkSkip (rest : Bytes) : Res Bytes :=
  if hd (skipSpace rest) ≠ 0 then skipCommentLines ((skipSpace rest).length + 1) (skipSpace rest)
  else pure (skipSpace rest)

/-- the loop of `rtosc_count_printed_arg_vals` over any checker of one argument -/
def countLoopG (sk : Nat → ArgSkipper) : Nat → Option Bytes → Option Bytes → Int → Res Int
  | 0, _, _, _ => .error .fuel
  | fuel + 1, src?, recent, num =>
    match src? with
    | none => .ok (-num)
    | some src =>
      if hd src ≠ 0 ∧ hd src ≠ 47 then do
        let r ← sk (checkFuel src recent) src 0 recent true false
        let src1 : Option Bytes ← match r.src with
          | none => pure none
          | some s => do
            let s1 := skipSpace s
            let s2 ← if hd s1 ≠ 0 then skipCommentLines (s1.length + 1) s1 else pure s1
            pure (some s2)
        match src1 with
        | some s2 => if s2.length ≥ src.length then throw .hang else pure ()
        | none => pure ()
        countLoopG sk fuel src1 (some src) (num + r.skipped)
      else .ok num

theorem scanArgValsLoop_eq : scanArgValsLoop = scanLoopG scanArgVal := by
  funext fuel
  induction fuel with
  | zero => rfl
  | succ f ih => funext src n i pok done rd; rw [scanArgValsLoop, scanLoopG, ih]

theorem c11_canPrecedeRange_eq : C11.canPrecedeRange = canPrecedeRange := rfl

theorem c11_scanArgValsLoop_eq : C11.scanArgValsLoop = scanLoopG C11.scanArgVal := by
  funext fuel
  induction fuel with
  | zero => rfl
  | succ f ih => funext src n i pok done rd; rw [C11.scanArgValsLoop, scanLoopG, ih, c11_canPrecedeRange_eq]

theorem countLoop_eq : countLoop = countLoopG skipNextPrintedArg := by
  funext fuel
  induction fuel with
  | zero => rfl
  | succ f ih => funext src recent num; unfold countLoop countLoopG; rw [ih]; rfl

theorem c11_countLoop_eq : C11.countLoop = countLoopG C11.skipNextPrintedArg := by
  funext fuel
  induction fuel with
  | zero => rfl
  | succ f ih => funext src recent num; unfold C11.countLoop countLoopG; rw [ih]; rfl

/-- **a gap**: what stands between the text of an argument and `next`.  It ends the argument
    (`Sep`); the scanner's loop skips exactly the gap, the checker's loop arrives at `next`. -/
structure GapOK (gap next : Bytes) : Prop where
  sep : Sep (gap ++ next)
  scan : skipSpaceComments ((gap ++ next).length + 1) (gap ++ next) = .ok gap.length
  check : checkSkip (gap ++ next) = .ok next

theorem scanLoopG_turn (sa : Nat → ElemScanner) {T gap next : Bytes} {cells : List Cell} {b : Bool} (hg : GapOK gap next)
    (f n i : Nat) (pok : Bool) (done : List Cell) (rd : Nat) (hi : i < n)
    (hscan : sa ((T ++ (gap ++ next)).length + 2) (T ++ (gap ++ next)) done.reverse (if pok then i else 0) true =
      .ok (T.length, cells))
    (hcpr : canPrecedeRange cells = .ok b) (hoff : nextArgOffset (cells.length + 1) cells = .ok cells.length) :
    scanLoopG sa (f + 1) (T ++ (gap ++ next)) n i pok done rd =
      scanLoopG sa f next n (i + cells.length) b (done ++ cells) (rd + T.length + gap.length) := by
  have hadv : advance (T ++ (gap ++ next)) T.length = .ok (gap ++ next) := by simp [advance]
  rw [scanLoopG]
  simp only [hi, ↓reduceIte, hscan, bind, Except.bind, hcpr, hadv, hoff, ne_eq, not_true_eq_false, hg.scan,
    List.drop_left']

theorem scanLoopG_done (sa : Nat → ElemScanner) (f : Nat) (src : Bytes) (n : Nat) (pok : Bool) (done : List Cell) (rd : Nat) :
    scanLoopG sa (f + 1) src n n pok done rd = .ok (rd, done) := by
  simp [scanLoopG, pure, Except.pure]

theorem countLoopG_turn (sk : Nat → ArgSkipper) {T gap next : Bytes} (hT : TokStart T) (hg : GapOK gap next)
    (f : Nat) (recent : Option Bytes) (num k : Int)
    (hskip : ∃ r, sk (checkFuel (T ++ (gap ++ next)) recent) (T ++ (gap ++ next)) 0 recent true false = .ok r ∧
      r.src = some (gap ++ next) ∧ r.skipped = k) :
    countLoopG sk (f + 1) (some (T ++ (gap ++ next))) recent num =
      countLoopG sk f (some next) (some (T ++ (gap ++ next))) (num + k) := by
  obtain ⟨h0, _, hn0, _, _, _, h47, _⟩ := hT
  obtain ⟨r, hr, hsrc, hk⟩ := hskip
  have hhd : hd (T ++ (gap ++ next)) = hd T := hd_append_of_ne_nil _ _ h0
  have hpos : 0 < T.length := List.length_pos_iff.mpr h0
  have hnot : ¬ (next.length ≥ (T ++ (gap ++ next)).length) := by simp only [List.length_append]; omega
  have hck := hg.check
  rw [checkSkip] at hck
  rw [countLoopG]
  simp only [hhd, ne_eq, hn0, not_false_eq_true, h47, and_self, ↓reduceIte, hr, bind, Except.bind, hsrc]
  by_cases h0' : hd (skipSpace (gap ++ next)) = 0
  · simp only [h0', ne_eq, not_true_eq_false, ↓reduceIte, pure, Except.pure] at hck ⊢
    have hb : skipSpace (gap ++ next) = next := by injection hck
    simp only [hb, hnot, ↓reduceIte, hk]
  · simp only [h0', ne_eq, not_false_eq_true, ↓reduceIte] at hck ⊢
    simp only [hck, hnot, ↓reduceIte, hk, pure, Except.pure]

theorem countLoopG_stop (sk : Nat → ArgSkipper) (f : Nat) {src : Bytes} (h : hd src = 0 ∨ hd src = 47)
    (recent : Option Bytes) (num : Int) : countLoopG sk (f + 1) (some src) recent num = .ok num := by
  rw [countLoopG]
  rcases h with h | h <;> simp [h]

/-- **a text of pieces** in front of `next`: each piece `P s T cs s'` (the text `T` stands for the cells
    `cs` and takes the readers' context from `s` to `s'`) is followed by a gap of the kind `G s'`
    (the kind may depend on the context: C11's checker remembers the gap behind a value that can start a range). -/
inductive Chain {σ : Type} (P : σ → Bytes → List Cell → σ → Prop) (G : σ → Bytes → Bytes → Prop) :
    σ → List (List Cell) → Bytes → Bytes → Prop
  | nil (s : σ) (next : Bytes) : Chain P G s [] next next
  | cons {s s' : σ} {T gap rest next : Bytes} {cs : List Cell} {css : List (List Cell)} :
      P s T cs s' → G s' gap rest → Chain P G s' css rest next → Chain P G s (cs :: css) (T ++ (gap ++ rest)) next

section
variable {σ : Type} {P : σ → Bytes → List Cell → σ → Prop} {G : σ → Bytes → Bytes → Prop}

theorem Chain.text_eq {s : σ} {css : List (List Cell)} {text next : Bytes} (h : Chain P G s css text next) :
    ∃ front, text = front ++ next := by
  induction h with
  | nil s next => exact ⟨[], rfl⟩
  | @cons _ _ T gap _ _ _ _ _ _ _ ih => obtain ⟨fr, rfl⟩ := ih; exact ⟨T ++ (gap ++ fr), by simp⟩

/-- **the scanner's loop on a text of pieces**: `I s i pok done` is what the scanner knows in the context `s`
    (`hP`: there it reads a piece in front of any gap, and knows `I s'` afterwards). -/
theorem Chain.scanLoop (sa : Nat → ElemScanner) (I : σ → Nat → Bool → List Cell → Prop)
    (hG : ∀ {s gap next}, G s gap next → GapOK gap next)
    (hP : ∀ {s s' T cs}, P s T cs s' → ∀ (gap next : Bytes) (i : Nat) (pok : Bool) (done : List Cell), G s' gap next →
      I s i pok done →
      sa ((T ++ (gap ++ next)).length + 2) (T ++ (gap ++ next)) done.reverse (if pok then i else 0) true =
        .ok (T.length, cs) ∧
      0 < cs.length ∧ nextArgOffset (cs.length + 1) cs = .ok cs.length ∧
      ∃ b, canPrecedeRange cs = .ok b ∧ I s' (i + cs.length) b (done ++ cs))
    {s : σ} {css : List (List Cell)} {text next : Bytes} (h : Chain P G s css text next) :
    ∀ (fuel n i : Nat) (pok : Bool) (done : List Cell) (rd : Nat), I s i pok done →
      n = i + css.flatten.length → css.length + 1 ≤ fuel →
      scanLoopG sa fuel text n i pok done rd = .ok (rd + (text.length - next.length), done ++ css.flatten) := by
  induction h with
  | nil s next =>
    intro fuel n i pok done rd _ hn hf
    obtain ⟨f, rfl⟩ : ∃ f, fuel = f + 1 := ⟨fuel - 1, by omega⟩
    obtain rfl : n = i := by simpa using hn
    simp [scanLoopG_done]
  | @cons s s' T gap rest next cs css hp hg hrest ih =>
    intro fuel n i pok done rd hI hn hf
    obtain ⟨f, rfl⟩ : ∃ f, fuel = f + 1 := ⟨fuel - 1, by omega⟩
    obtain ⟨hscan, hpos, hoff, b, hcpr, hI'⟩ := hP hp gap rest i pok done hg hI
    obtain ⟨fr, rfl⟩ := hrest.text_eq
    simp only [List.flatten_cons, List.length_append, List.length_cons] at hn hf
    rw [scanLoopG_turn sa (hG hg) f n i pok done rd (by omega) hscan hcpr hoff,
      ih f n _ b _ _ hI' (by omega) (by omega)]
    simp only [List.flatten_cons, List.append_assoc, List.length_append, ← Nat.add_assoc, Nat.add_sub_cancel]

/-- **the checker's loop on a text of pieces** that ends the list (`next`: the end of the text, or
    the address of the next message): `J s recent cur` is what the checker knows in the context `s` about
    the text `recent` of the previous argument when it stands at `cur`. -/
theorem Chain.countLoop (sk : Nat → ArgSkipper) (J : σ → Option Bytes → Bytes → Prop)
    (hG : ∀ {s gap next}, G s gap next → GapOK gap next)
    (hP : ∀ {s s' T cs}, P s T cs s' → ∀ (gap next : Bytes) (recent : Option Bytes), G s' gap next →
      J s recent (T ++ (gap ++ next)) →
      TokStart T ∧ J s' (some (T ++ (gap ++ next))) next ∧
      ∃ r, sk (checkFuel (T ++ (gap ++ next)) recent) (T ++ (gap ++ next)) 0 recent true false = .ok r ∧
        r.src = some (gap ++ next) ∧ r.skipped = cs.length)
    {s : σ} {css : List (List Cell)} {text next : Bytes} (h : Chain P G s css text next)
    (hnext : hd next = 0 ∨ hd next = 47) :
    ∀ (fuel : Nat) (recent : Option Bytes) (num : Int), J s recent text → css.length + 1 ≤ fuel →
      countLoopG sk fuel (some text) recent num = .ok (num + css.flatten.length) := by
  induction h with
  | nil s next =>
    intro fuel recent num _ hf
    obtain ⟨f, rfl⟩ : ∃ f, fuel = f + 1 := ⟨fuel - 1, by omega⟩
    simp [countLoopG_stop sk f hnext]
  | @cons s s' T gap rest next cs css hp hg hrest ih =>
    intro fuel recent num hJ hf
    obtain ⟨f, rfl⟩ : ∃ f, fuel = f + 1 := ⟨fuel - 1, by omega⟩
    obtain ⟨hT, hJ', hskip⟩ := hP hp gap rest recent hg hJ
    simp only [List.length_cons] at hf
    rw [countLoopG_turn sk hT (hG hg) f recent num cs.length hskip, ih hnext f _ _ hJ' (by omega)]
    simp only [List.flatten_cons, List.length_append, Int.natCast_add, Int.add_assoc]

end

theorem GapOK.nil : GapOK [] [] :=
  ⟨sep_nil, C11.skipSpaceComments_stop _ [] C11.stop_nil, by simp [checkSkip, skipSpace, pure, Except.pure]⟩

theorem GapOK.sepTxt {sep text : Bytes} (hs : IsSepTxt sep) (ht : TokStart text) : GapOK sep text := by
  refine ⟨sep_of_next sep text hs ht, skipSpaceComments_sep _ sep text hs ht, ?_⟩
  have h0 := ht.notNul
  have h37 := ht.notComment
  simp only [checkSkip, skipSpace_sep sep text hs ht, h0, ne_eq, not_false_eq_true, ↓reduceIte,
    skipCommentLines_none _ text h37]

/-- a gap behind which the checker's look-back works (`K` for the checker): it re-reads the text of
    the previous argument with what follows it, and in front of a token that has to be a blank or a
    line break -/
def GapK (gap next : Bytes) : Prop := GapOK gap next ∧ (TokStart next → IsSepTxt gap)

theorem GapK.nil : GapK [] [] := ⟨.nil, fun h => absurd rfl h.1⟩

theorem GapK.sepTxt {sep text : Bytes} (hs : IsSepTxt sep) (ht : TokStart text) : GapK sep text :=
  ⟨.sepTxt hs ht, fun _ => hs⟩

theorem scanArgVals_start {text : Bytes} (h : text = [] ∨ TokStart text) (n : Nat) :
    scanArgVals text n = scanLoopG scanArgVal (n + 1) text n 0 true [] 0 := by
  have hsk := C11.skipSpaceComments_stop text.length text (h.imp id fun h => ⟨h.notSpace, h.notComment⟩)
  simp only [scanArgVals, hsk, bind, Except.bind, List.drop_zero, scanArgValsLoop_eq]

theorem countPrintedArgVals_start {s text : Bytes} (hs : skipSpace s = text) (h : text = [] ∨ TokStart text) :
    countPrintedArgVals s = countLoopG skipNextPrintedArg (text.length + 1) (some text) none 0 := by
  have h37 := C11.Stop.notComment (h.imp id fun h => ⟨h.notSpace, h.notComment⟩)
  simp only [countPrintedArgVals, hs, skipCommentLines_none _ text h37, bind, Except.bind, countLoop_eq]

/-- what the two readers make of a whole text: behind any white space the checker counts the cells
    `cells'`; the scanner returns them and consumes the text -/
structure ReadsEnd (body : Bytes) (cells' : List Cell) : Prop where
  start : skipSpace body = body
  count : ∀ s, skipSpace s = body → countPrintedArgVals s = .ok (cells'.length : Int)
  scan : scanArgVals body cells'.length = .ok (body.length, cells')

/-- what the printer's loops remember of the last separator, in front of the output `out`: nothing
    was written on this line yet (`args_written_this_line = 0`), or `out` ends in the separator
    blank and `last_sep` is its position -/
def LastSepAt (awl : Nat) (out : Bytes) (lastSep : Int) : Prop :=
  awl = 0 ∨ ∃ base, out = base ++ [32] ∧ lastSep = (base.length : Int)

/-- what a line-break check leaves of the output `out`: `out`, or `out` with the separator blank
    at its end turned into a line break -/
def MaybeBroken (pre out : Bytes) : Prop := pre = out ∨ ∃ base, out = base ++ [32] ∧ pre = base ++ nl4

/-- `linebreak_check_after_write` after the token `t` has been appended behind at most one other
    character `mid` (the opening bracket): the separator in front of `mid` stays or becomes a line
    break -/
theorem linebreakCheck_mid (out mid t : Bytes) (cols : Int) (wrt : Nat) (lastSep : Int) (awl : Nat) (ll : Int)
    (hmid : mid.length ≤ 1)
    (hinv : LastSepAt awl out lastSep) :
    ∃ pre cols' awl', linebreakCheck ⟨out ++ mid ++ t, cols⟩ wrt lastSep t.length awl ll =
        .ok (⟨pre ++ mid ++ t, cols'⟩, wrt + (pre.length - out.length), awl') ∧
      MaybeBroken pre out := by
  unfold linebreakCheck
  by_cases hbr : cols > ll ∧ awl + 1 > 1
  · have hawl : awl ≠ 0 := by omega
    rcases hinv with h | ⟨base, hout, hls⟩
    · exact absurd h hawl
    · refine ⟨base ++ nl4, 4 + (t.length : Int), 1, ?_, Or.inr ⟨base, hout, rfl⟩⟩
      subst hout; subst hls
      have h1 : ¬ ((base.length : Int) < 0 ∨ (base.length : Int) ≥ ((base ++ [32] ++ mid ++ t).length : Int)) := by
        simp only [List.length_append, List.length_singleton]; omega
      simp only [hbr, and_self, ↓reduceIte, h1, Int.toNat_natCast]
      have h2 : (base ++ [32] ++ mid ++ t).drop (base.length + 1) = mid ++ t := by
        rw [show base.length + 1 = (base ++ [32]).length from by simp, List.append_assoc (base ++ [32])]
        exact List.drop_left
      have h3 : (base ++ [32] ++ mid ++ t).take base.length = base := by
        rw [List.append_assoc, List.append_assoc]; exact List.take_left
      rw [h2, h3]
      have : ¬ ((mid ++ t).length > t.length + 1) := by simp only [List.length_append]; omega
      rw [if_neg this]
      congr 2
      · simp [nl4]
      · congr 1
        simp only [nl4, List.length_append, List.length_cons, List.length_nil]
        omega
  · refine ⟨out, cols, awl + 1, ?_, Or.inl rfl⟩
    simp only [hbr, ↓reduceIte, Nat.sub_self, Nat.add_zero]

theorem linebreakCheck_tok (out t : Bytes) (cols : Int) (wrt : Nat) (lastSep : Int) (awl : Nat) (ll : Int)
    (hinv : LastSepAt awl out lastSep) :
    ∃ pre cols' awl', linebreakCheck ⟨out ++ t, cols⟩ wrt lastSep t.length awl ll =
        .ok (⟨pre ++ t, cols'⟩, wrt + (pre.length - out.length), awl') ∧
      MaybeBroken pre out := by
  obtain ⟨pre, cols', awl', h, hpre⟩ := linebreakCheck_mid out [] t cols wrt lastSep awl ll (Nat.zero_le _) hinv
  simp only [List.append_nil] at h
  exact ⟨pre, cols', awl', h, hpre⟩

/-- what a line-break check leaves of the blank behind `P`: a separator -/
theorem sep_of_linebreak {P pre : Bytes}
    (h : MaybeBroken pre (P ++ [32])) :
    ∃ sep, IsSepTxt sep ∧ 1 ≤ sep.length ∧ pre = P ++ sep := by
  rcases h with h | ⟨base, h1, h2⟩
  · exact ⟨[32], Or.inl rfl, Nat.le_refl _, h⟩
  · exact ⟨nl4, Or.inr rfl, by simp [nl4], by rw [h2, ← List.append_inj_left' h1 rfl]⟩

theorem drop_eq_cons_lt {α} (l : List α) (i : Nat) (c : α) (more : List α) (h : l.drop i = c :: more) :
    i < l.length ∧ l.drop (i + 1) = more := by
  constructor
  · rcases Nat.lt_or_ge i l.length with h1 | h1
    · exact h1
    · have : l.drop i = [] := List.drop_eq_nil_of_le h1
      rw [this] at h; cases h
  · rw [← List.drop_drop, h]; rfl

/-- what the printer's loops hand to `rtosc_print_arg_val` at the cells `cur`: the block
    `rtosc_convert_to_range` has built, or the cells as they are -/
def convInput (conv : Option (Nat × List Cell)) (cur : List Cell) : List Cell :=
  match conv with
  | some (_, block) => block
  | none => cur

/-- … and how far they advance behind it -/
def convStep (conv : Option (Nat × List Cell)) (cur : List Cell) : Res Nat :=
  match conv with
  | some (skipped, _) => pure skipped
  | none => nextArgOffset (cur.length + 1) cur

/-- one iteration of the printer's loop at the cells `cur`, given what `rtosc_convert_to_range`
    returns there (`conv`) and what the printer writes for it: the text `t`, possibly after
    turning the blank in front of it into a line break itself (`pre`, only arguments of the types
    `breaksItself` do that).  `G`: for any answer `conv` -/
theorem printLoop_stepG (opt : POpt) (args cur : List Cell) (c : Cell) (i f : Nat) (st : PSt)
    (wrt : Nat) (lastSep : Int) (awl : Nat)
    (hi : args.drop i = cur) (hc : cur.head? = some c) (hlt : i < args.length)
    (conv : Option (Nat × List Cell)) (hconv : convertToRange opt cur (args.length - i) = .ok conv)
    (step : Nat)
    (hstep : convStep conv cur = .ok step)
    (pre t : Bytes) (cols' : Int)
    (hprint : printArgVal (cur.length + 3) opt (convInput conv cur)
      (if i = 0 then none else (args.drop (i - 1)).head?) st =
        .ok (⟨pre ++ t, cols'⟩, t.length + (pre.length - st.out.length)))
    (hpre : pre = st.out ∨ (breaksItself c = true ∧ ∃ base, st.out = base ++ [32] ∧ pre = base ++ nl4))
    (hinv : LastSepAt awl st.out lastSep) :
    ∃ (pre1 : Bytes) (cols1 : Int) (awl1 : Nat),
      MaybeBroken pre1 st.out ∧
      printArgValsLoop (f + 1) opt args args.length i st wrt lastSep awl =
        (if i + step < args.length then
          printArgValsLoop f opt args args.length (i + step) ⟨pre1 ++ t ++ [32], cols1 + 1⟩
            (wrt + t.length + (pre1.length - st.out.length) + 1) ((pre1 ++ t).length : Int) awl1
         else printArgValsLoop f opt args args.length (i + step) ⟨pre1 ++ t, cols1⟩
            (wrt + t.length + (pre1.length - st.out.length)) lastSep awl1) := by
  have hlb : ∃ pre1 cols1 awl1, (if !breaksItself c
        then linebreakCheck ⟨pre ++ t, cols'⟩ (wrt + (t.length + (pre.length - st.out.length))) lastSep
          (t.length + (pre.length - st.out.length)) awl opt.linelength
        else (pure (⟨pre ++ t, cols'⟩, wrt + (t.length + (pre.length - st.out.length)), awl) : Res (PSt × Nat × Nat))) =
        .ok (⟨pre1 ++ t, cols1⟩, wrt + t.length + (pre1.length - st.out.length), awl1) ∧
      MaybeBroken pre1 st.out := by
    by_cases hb : breaksItself c = true
    · refine ⟨pre, cols', awl, ?_, hpre.imp id And.right⟩
      simp only [hb, Bool.not_true, Bool.false_eq_true, ↓reduceIte, pure, Except.pure, Nat.add_assoc]
    · obtain rfl : pre = st.out := hpre.resolve_right (fun h => hb h.1)
      obtain ⟨pre1, cols1, awl1, h1, h3⟩ :=
        linebreakCheck_tok st.out t cols' (wrt + t.length) lastSep awl opt.linelength hinv
      refine ⟨pre1, cols1, awl1, ?_, h3⟩
      simp only [hb, Bool.not_false, ↓reduceIte, Nat.sub_self, Nat.add_zero]
      exact h1
  obtain ⟨pre1, cols1, awl1, hlb, hpre1⟩ := hlb
  refine ⟨pre1, cols1, awl1, hpre1, ?_⟩
  obtain ⟨more, rfl⟩ : ∃ more, cur = c :: more := by
    cases cur with
    | nil => simp at hc
    | cons x more => exact ⟨more, by simp only [List.head?_cons, Option.some.injEq] at hc; rw [hc]⟩
  rw [printArgValsLoop]
  simp only [hlt, ↓reduceIte, hi, deref, hconv, bind, Except.bind]
  -- the two `match`es on `conv` are `convInput` and `convStep`
  cases conv
  all_goals
    dsimp only [convInput, convStep] at hprint hstep ⊢
    rw [hprint]
    simp only [hstep]
    cases hb : (!breaksItself c)
    all_goals
      rw [hb] at hlb
      simp only [Bool.false_eq_true, ↓reduceIte] at hlb ⊢
      rw [hlb]

/-- `arg + i - 1` inside an array whose first `done` elements are printed: the last of them -/
private theorem arr_prev_drop (hdr : Cell) (done rest : List Cell) (hne : done ≠ []) :
    ∃ x xs, (hdr :: (done ++ rest)).drop (done.length + 1 - 1) = x :: xs ∧ done.getLast? = some x := by
  rcases List.eq_nil_or_concat done with rfl | ⟨init, x, rfl⟩
  · exact absurd rfl hne
  · refine ⟨x, rest, ?_, by simp⟩
    rw [List.concat_eq_append]
    have : (init ++ [x]).length + 1 - 1 = init.length + 1 := by simp
    rw [this, List.drop_succ_cons, List.append_assoc, List.drop_left]
    rfl

/-- one turn of `for(i = 1; i <= len;)` in `case 'a'` of `rtosc_print_arg_val` (pretty-format.c:765-783)
    over any printer `pe` of one element: `arg` is the header `hdr`, the cells `done` already printed
    and the cells `rest`; `n` the array's length, `lf` the fuel left; the output ends in `mid`, the
    `[` in front of the first element and nothing later; `T` is the text `pe` writes for `rest` -/
theorem arrLoop_step (pe : ElemPrinter) (opt : POpt) (arg : List Cell) (hdr : Cell) (done rest : List Cell)
    (harg : arg = hdr :: (done ++ rest)) (n lf : Nat)
    (conv : Option (Nat × List Cell)) (step : Nat)
    (out mid T : Bytes) (cols cols1 : Int) (wrt : Nat) (lastSep : Int) (awl : Nat)
    (hle : done.length + 1 ≤ n)
    (hprint : pe (convInput conv rest) done.getLast? ⟨out ++ mid, cols⟩ = .ok (⟨out ++ mid ++ T, cols1⟩, T.length))
    (hstep : convStep conv rest = .ok step)
    (hconv : convertToRange opt rest (n - done.length) = .ok conv)
    (hmid : mid.length ≤ 1)
    (hinv : LastSepAt awl out lastSep) :
    ∃ (pre1 : Bytes) (cols2 : Int) (awl2 : Nat),
      MaybeBroken pre1 out ∧
      printArrayElems pe opt arg n (done.length + 1) ⟨out ++ mid, cols⟩ wrt lastSep awl (lf + 1) =
        printArrayElems pe opt arg n (done.length + 1 + step) ⟨pre1 ++ mid ++ T ++ [32], cols2 + 1⟩
          (wrt + T.length + (pre1.length - out.length) + 1) ((pre1 ++ mid ++ T).length : Int) awl2 lf := by
  subst harg
  obtain ⟨pre1, cols2, awl2, hlb, hpre1⟩ :=
    linebreakCheck_mid out mid T cols1 (wrt + T.length) lastSep awl opt.linelength hmid hinv
  refine ⟨pre1, cols2, awl2, hpre1, ?_⟩
  have hcur : (hdr :: (done ++ rest)).drop (done.length + 1) = rest := by simp
  have hsz : n + 1 - (done.length + 1) = n - done.length := by omega
  rw [printArrayElems]
  by_cases hd1 : done.length + 1 = 1
  · have hnil : done = [] := List.length_eq_zero_iff.mp (by omega)
    subst hnil
    simp only [List.length_nil, Nat.zero_add, List.nil_append, Nat.sub_zero] at hle hcur hsz hconv ⊢
    cases conv with
    | none =>
      dsimp only [convInput, convStep] at hprint hstep
      simp only [List.getLast?_nil] at hprint
      simp only [hle, ↓reduceIte, hcur, hsz, hconv, bind, Except.bind, pure, Except.pure, hprint, hstep, hlb]
    | some p =>
      dsimp only [convInput, convStep] at hprint hstep
      simp only [List.getLast?_nil] at hprint
      simp only [pure, Except.pure] at hstep
      cases hstep
      simp only [hle, ↓reduceIte, hcur, hsz, hconv, bind, Except.bind, pure, Except.pure, hprint, hlb]
  · have hne : done ≠ [] := by intro h; rw [h] at hd1; simp at hd1
    obtain ⟨x, xs, hdx, hlast⟩ := arr_prev_drop hdr done rest hne
    rw [hlast] at hprint
    cases conv with
    | none =>
      dsimp only [convInput, convStep] at hprint hstep
      simp only [hle, hd1, ↓reduceIte, hcur, hsz, hconv, hdx, deref, bind, Except.bind, pure, Except.pure, hprint, hstep, hlb]
    | some p =>
      dsimp only [convInput, convStep] at hprint hstep
      simp only [pure, Except.pure] at hstep
      cases hstep
      simp only [hle, hd1, ↓reduceIte, hcur, hsz, hconv, hdx, deref, bind, Except.bind, pure, Except.pure, hprint, hlb]

/-- `(i == 0) ? NULL : (args-1)` is the last cell printed so far -/
theorem prev_getLast? (done rest : List Cell) :
    (if done.length = 0 then none else ((done ++ rest).drop (done.length - 1)).head?) = done.getLast? := by
  rcases List.eq_nil_or_concat done with rfl | ⟨init, x, rfl⟩
  · rfl
  · rw [List.concat_eq_append]
    have hlen : (init ++ [x]).length - 1 = init.length := by simp
    have hne : ¬ ((init ++ [x]).length = 0) := by simp
    rw [if_neg hne, hlen, List.append_assoc, List.drop_left]
    simp

section
variable {α : Type}

def cellsOf (cells : α → List Cell) (xs : List α) : List Cell := (xs.map cells).flatten

/-- **a printed text of pieces**: piece texts separated by a blank or a line break; `Q L x T`: the
    text `T` is good for the piece `x` printed behind the cell `L` -/
inductive SepText (cells : α → List Cell) (Q : Option Cell → α → Bytes → Prop) : Option Cell → List α → Bytes → Prop
  | nil (L : Option Cell) : SepText cells Q L [] []
  | cons (L : Option Cell) (x : α) (xs : List α) (T sep text : Bytes) :
      Q L x T → SepText cells Q (cells x).getLast? xs text → (xs = [] → sep = []) → (xs ≠ [] → IsSepTxt sep) →
      SepText cells Q L (x :: xs) (T ++ (sep ++ text))

/-- **the printer at one piece** `x` in front of the cells `rest`: what `rtosc_convert_to_range` returns
    there, how far the loop advances, and what the printer writes (`c`: the first cell of the piece) -/
def PrintsPiece (opt : POpt) (cells : α → List Cell) (Q : Option Cell → α → Bytes → Prop) (x : α) (rest : List Cell) :
    Prop :=
  ∃ (c : Cell) (conv : Option (Nat × List Cell)),
    (cells x).head? = some c ∧
    convertToRange opt (cells x ++ rest) ((cells x).length + rest.length) = .ok conv ∧
    convStep conv (cells x ++ rest) = .ok (cells x).length ∧
    ∀ (prev : Option Cell) (st : PSt), (st.cols = 0 ∨ ∃ base, st.out = base ++ [32]) →
      ∃ (pre T : Bytes) (cols' : Int),
        printArgVal ((cells x ++ rest).length + 3) opt (convInput conv (cells x ++ rest)) prev st =
            .ok (⟨pre ++ T, cols'⟩, T.length + (pre.length - st.out.length)) ∧
        (pre = st.out ∨ (breaksItself c = true ∧ ∃ base, st.out = base ++ [32] ∧ pre = base ++ nl4)) ∧
        Q prev x T

def AllPrint (opt : POpt) (cells : α → List Cell) (Q : Option Cell → α → Bytes → Prop) : List α → Prop
  | [] => True
  | x :: xs => PrintsPiece opt cells Q x (cellsOf cells xs) ∧ AllPrint opt cells Q xs

/-- **the loop of `rtosc_print_arg_vals` over pieces** behind the printed cells `done`, from any state at
    the start of a line or behind a blank: it writes a text of the pieces -/
theorem printLoop_pieces (opt : POpt) (cells : α → List Cell) (Q : Option Cell → α → Bytes → Prop) (xs : List α)
    (h : AllPrint opt cells Q xs) :
    ∀ (args done : List Cell), args = done ++ cellsOf cells xs →
      ∀ (fuel : Nat) (st : PSt) (wrt : Nat) (lastSep : Int) (awl : Nat), xs.length + 1 ≤ fuel →
        ((st.cols = 0 ∧ awl = 0) ∨ ∃ base, st.out = base ++ [32] ∧ lastSep = (base.length : Int)) →
        ∃ (st' : PSt) (pre body : Bytes),
          printArgValsLoop fuel opt args args.length done.length st wrt lastSep awl =
            .ok (st', wrt + ((pre ++ body).length - st.out.length)) ∧
          st'.out = pre ++ body ∧ SepText cells Q done.getLast? xs body ∧
          MaybeBroken pre st.out := by
  induction xs with
  | nil =>
    intro args done hargs fuel st wrt lastSep awl hf _
    obtain ⟨g, rfl⟩ : ∃ g, fuel = g + 1 := ⟨fuel - 1, by omega⟩
    refine ⟨st, st.out, [], ?_, by simp, .nil _, Or.inl rfl⟩
    rw [printArgValsLoop]
    have : ¬ (done.length < args.length) := by rw [hargs]; simp [cellsOf]
    simp [this, pure, Except.pure]
  | cons x xs ih =>
    obtain ⟨⟨c, conv, hhead, hconv, hstep, hprint⟩, hrest⟩ := h
    intro args done hargs fuel st wrt lastSep awl hf hinv0
    obtain ⟨f, rfl⟩ : ∃ g, fuel = g + 1 := ⟨fuel - 1, by omega⟩
    have hinv : LastSepAt awl st.out lastSep := hinv0.imp And.right id
    have hst : st.cols = 0 ∨ ∃ base, st.out = base ++ [32] := hinv0.imp And.left (fun ⟨b, h, _⟩ => ⟨b, h⟩)
    have hcs : cellsOf cells (x :: xs) = cells x ++ cellsOf cells xs := by simp [cellsOf]
    have hi : args.drop done.length = cells x ++ cellsOf cells xs := by rw [hargs, hcs]; simp
    have hlen : args.length = done.length + ((cells x).length + (cellsOf cells xs).length) := by
      rw [hargs, hcs]; simp
    have hxne : cells x ≠ [] := by intro e; rw [e] at hhead; simp at hhead
    have hxpos : 0 < (cells x).length := List.length_pos_iff.mpr hxne
    have hprev := prev_getLast? done (cellsOf cells (x :: xs))
    rw [← hargs] at hprev
    obtain ⟨pre0, T, cols', hpr, hpre0, hT⟩ :=
      hprint (if done.length = 0 then none else (args.drop (done.length - 1)).head?) st hst
    rw [hprev] at hT
    obtain ⟨pre1, cols1, awl1, hpre1, hstep'⟩ := printLoop_stepG opt args _ c done.length f st wrt lastSep awl hi
      (by rw [List.head?_append, hhead]; rfl) (by omega) conv (by rw [hlen, Nat.add_sub_cancel_left]; exact hconv)
      _ hstep pre0 T cols' hpr hpre0 hinv
    have hpre1len : st.out.length ≤ pre1.length := by
      rcases hpre1 with h | ⟨base, h1, h2⟩
      · rw [h]; exact Nat.le_refl _
      · rw [h1, h2]; simp [nl4]
    rw [hstep']
    by_cases hmore : xs = []
    · subst hmore
      have hnot : ¬ (done.length + (cells x).length < args.length) := by
        rw [hlen]; simp [cellsOf]
      simp only [hnot, ↓reduceIte]
      obtain ⟨g, rfl⟩ : ∃ g, f = g + 1 := ⟨f - 1, by simp at hf; omega⟩
      refine ⟨⟨pre1 ++ T, cols1⟩, pre1, T, ?_, rfl, ?_, hpre1⟩
      · rw [printArgValsLoop]
        simp only [hnot, ↓reduceIte, pure, Except.pure, List.length_append]
        exact congrArg (fun w => Except.ok (_, w)) (by omega)
      · simpa using SepText.cons _ x [] T [] [] hT (.nil _) (fun _ => rfl) (fun h => absurd rfl h)
    · have hlt2 : done.length + (cells x).length < args.length := by
        obtain ⟨y, ys, rfl⟩ := List.exists_cons_of_ne_nil hmore
        obtain ⟨⟨c2, _, hh2, _⟩, _⟩ := hrest
        have : 0 < (cells y).length := List.length_pos_iff.mpr (by intro e; rw [e] at hh2; simp at hh2)
        rw [hlen]; simp only [cellsOf, List.map_cons, List.flatten_cons, List.length_append]; omega
      simp only [hlt2, ↓reduceIte]
      obtain ⟨st', pre', body', hrun, hout, htt, hpre'⟩ :=
        ih hrest args (done ++ cells x) (by rw [hargs, hcs]; simp) f ⟨pre1 ++ T ++ [32], cols1 + 1⟩
          (wrt + T.length + (pre1.length - st.out.length) + 1) ((pre1 ++ T).length : Int) awl1
          (by simp only [List.length_cons] at hf; omega) (Or.inr ⟨pre1 ++ T, rfl, rfl⟩)
      rw [show (done ++ cells x).getLast? = (cells x).getLast? by
        rw [List.getLast?_append]; cases h : (cells x).getLast? with
        | none => exact absurd (List.getLast?_eq_none_iff.mp h) hxne
        | some _ => rfl] at htt
      rw [List.length_append] at hrun
      rw [hrun]
      obtain ⟨sep, hsep, hsl, rfl⟩ := sep_of_linebreak hpre'
      refine ⟨st', pre1, T ++ (sep ++ body'), ?_, by rw [hout]; simp,
        .cons _ x xs T sep body' hT htt (fun h => absurd h hmore) (fun _ => hsep), hpre1⟩
      refine congrArg (fun w => Except.ok (st', w)) ?_
      simp only [List.length_append, List.length_cons, List.length_nil]
      omega

theorem AllPrint.length_le {opt : POpt} {cells : α → List Cell} {Q : Option Cell → α → Bytes → Prop} {xs : List α}
    (h : AllPrint opt cells Q xs) : xs.length ≤ (cellsOf cells xs).length := by
  induction xs with
  | nil => simp
  | cons x xs ih =>
    obtain ⟨⟨c, _, hh, _⟩, hrest⟩ := h
    have : 0 < (cells x).length := List.length_pos_iff.mpr (by intro e; rw [e] at hh; simp at hh)
    have := ih hrest
    simp only [cellsOf, List.map_cons, List.flatten_cons, List.length_cons, List.length_append] at this ⊢; omega

/-- **`rtosc_print_arg_vals` over pieces**, from the start of a line or behind a blank (the start of
    a text; behind the address of a message) -/
theorem printArgVals_pieces (opt : POpt) (cells : α → List Cell) (Q : Option Cell → α → Bytes → Prop) (xs : List α)
    (hall : AllPrint opt cells Q xs) (st : PSt) (hst : st.cols = 0 ∨ ∃ base, st.out = base ++ [32]) :
    ∃ (st' : PSt) (pre body : Bytes),
      printArgVals opt (cellsOf cells xs) st = .ok (st', (pre ++ body).length - st.out.length) ∧
      st'.out = pre ++ body ∧ SepText cells Q none xs body ∧
      MaybeBroken pre st.out := by
  have hle := hall.length_le
  have hinv : (st.cols = 0 ∧ (if st.cols ≠ 0 then 1 else 0) = 0) ∨
      ∃ base, st.out = base ++ [32] ∧ (st.out.length : Int) - 1 = (base.length : Int) := by
    rcases hst with h | ⟨base, h⟩
    · exact Or.inl ⟨h, by simp [h]⟩
    · exact Or.inr ⟨base, h, by simp [h]⟩
  obtain ⟨st', pre, body, hrun, h⟩ :=
    printLoop_pieces opt cells Q xs hall (cellsOf cells xs) [] (by simp) ((cellsOf cells xs).length + 1) st 0 _ _
      (by omega) hinv
  exact ⟨st', pre, body, by simpa [printArgVals] using hrun, by simpa using h⟩

theorem SepText.start {cells : α → List Cell} {Q : Option Cell → α → Bytes → Prop} (hQ : ∀ {L x T}, Q L x T → TokStart T)
    {L : Option Cell} {xs : List α} {text : Bytes} (h : SepText cells Q L xs text) (hne : xs ≠ []) : TokStart text := by
  cases h with
  | nil => exact absurd rfl hne
  | cons L x xs T sep text hT _ _ _ => exact (hQ hT).append _

theorem SepText.length_le {cells : α → List Cell} {Q : Option Cell → α → Bytes → Prop} (hQ : ∀ {L x T}, Q L x T → TokStart T)
    {L : Option Cell} {xs : List α} {text : Bytes} (h : SepText cells Q L xs text) : xs.length ≤ text.length := by
  induction h with
  | nil => simp
  | cons L x xs T sep text hT _ _ _ ih =>
    have := List.length_pos_iff.mpr (hQ hT).1
    simp only [List.length_cons, List.length_append]; omega

theorem SepText.length_le_cells {cells : α → List Cell} {Q : Option Cell → α → Bytes → Prop}
    (hQ : ∀ {L x T}, Q L x T → 0 < (cells x).length)
    {L : Option Cell} {xs : List α} {text : Bytes} (h : SepText cells Q L xs text) : xs.length ≤ (cellsOf cells xs).length := by
  induction h with
  | nil => simp
  | cons L x xs T sep text hT _ _ _ ih =>
    have := hQ hT
    simp only [cellsOf, List.map_cons, List.flatten_cons, List.length_cons, List.length_append] at ih ⊢; omega

/-- **from the printer to the readers**: a printed text of pieces that are one argument each, read
    the same in every context `s`, is a chain in front of any gap -/
theorem SepText.chain {σ : Type} {P : σ → Bytes → List Cell → σ → Prop} {G : σ → Bytes → Bytes → Prop}
    {cells : α → List Cell} {Q : Option Cell → α → Bytes → Prop} (s : σ)
    (hQ : ∀ {L x T}, Q L x T → TokStart T ∧ P s T (cells x) s)
    (hG : ∀ {sep text}, IsSepTxt sep → TokStart text → G s sep text)
    {L : Option Cell} {xs : List α} {text : Bytes} (h : SepText cells Q L xs text) (hne : xs ≠ [])
    {gap next : Bytes} (hg : G s gap next) : Chain P G s (xs.map cells) (text ++ (gap ++ next)) next := by
  induction h with
  | nil => exact absurd rfl hne
  | cons L x xs T sep text hT hrest h1 h2 ih =>
    rw [List.append_assoc, List.append_assoc]
    by_cases hxs : xs = []
    · subst hxs
      cases hrest
      rw [h1 rfl, List.nil_append, List.nil_append]
      exact .cons (hQ hT).2 hg (.nil s next)
    · exact .cons (hQ hT).2 (hG (h2 hxs) ((hrest.start (fun h => (hQ h).1) hxs).append _)) (ih hxs)

end

theorem c11_lookBackFuel_eq : C11.lookBackFuel = checkFuel := rfl

theorem c11_scanArrayElems_eq : C11.scanArrayElems = scanArrayElems := by
  funext se fuel
  induction fuel with
  | zero => rfl
  | succ f ih => funext s prev i pok acc ty; rw [C11.scanArrayElems, scanArrayElems, ih]; rfl

theorem c11_scanArray_eq : C11.scanArray = scanArray := by
  funext se src prev; rw [C11.scanArray, scanArray, c11_scanArrayElems_eq]

theorem c11_scanValue_eq : C11.scanValue = scanValue := by
  funext se src prev
  rw [C11.scanValue, c11_scanArray_eq]
  split
  · next h => simp [scanValue, h]
  · rfl

/-- C11's `rtosc_scan_arg_val` once its `switch` has delivered the value `v` -/
theorem C11.scanArgVal_value {f : Nat} {src : Bytes} {prev : List Cell} {v : ValRes} (ab : Nat) (fe : Bool)
    (h : Pretty.scanValue (C11.scanArgVal f) src prev = .ok v) :
    C11.scanArgVal (f + 1) src prev ab fe = C11.finishArg (C11.scanArgVal f) src v prev ab fe := by
  rw [C11.scanArgVal, c11_scanValue_eq]; simp only [h, bind, Except.bind]

/-- C11's `rtosc_skip_next_printed_arg` once its `switch` has skipped a value up to `src` -/
theorem C11.skipNext_value {f : Nat} {oldSrc : Bytes} {ty : UInt8} {ib : Bool} {sw : SwRes} {src : Bytes}
    (llhs : Option Bytes) (fe : Bool)
    (h : skipValue (C11.skipNextPrintedArg f) oldSrc ty ib = .ok (some sw)) (hsrc : sw.src = some src) :
    C11.skipNextPrintedArg (f + 1) oldSrc ty llhs fe ib =
      if fe = true ∧ startsWith (skipSpace src) [46, 46, 46] = true then
        C11.ellipsisTail (C11.skipNextPrintedArg f) oldSrc sw (skipSpace src) llhs ib
      else .ok ⟨some src, sw.skipped, sw.type⟩ := by
  rw [C11.skipNextPrintedArg]; simp only [h, hsrc, bind, Except.bind]; rfl

theorem elemTy_scalar (c : Cell) (more : List Cell) (h : c.isScalar = true) : C11.elemTy (c :: more) = .ok c.type := by
  unfold C11.elemTy
  cases c <;> simp_all [deref, ArgVal.Cell.isScalar, bind, Except.bind, pure, Except.pure]

theorem elemTy_arr (ety : UInt8) (len : Int) (more : List Cell) : C11.elemTy (Cell.arr ety len :: more) = .ok 97 := by
  simp [C11.elemTy, deref, bind, Except.bind, pure, Except.pure, ArgVal.Cell.type, ArgVal.tyA]

theorem elemTy_rep0 (n : Int) (c : Cell) (more : List Cell) : C11.elemTy (Cell.rep n 0 :: c :: more) = .ok c.type := by
  simp [C11.elemTy, deref, bind, Except.bind, pure, Except.pure]

theorem elemTy_delta (n : Int) (d c : Cell) (more : List Cell) :
    C11.elemTy (Cell.rep n 1 :: d :: c :: more) = .ok c.type := by
  simp [C11.elemTy, deref, bind, Except.bind, pure, Except.pure]

theorem canPrecedeRange_arr (ety : UInt8) (len : Int) (more : List Cell) :
    canPrecedeRange (Cell.arr ety len :: more) = .ok false := by
  simp [canPrecedeRange, deref, bind, Except.bind, pure, Except.pure]

/-- `can_precede_range` on a repetition without delta: unless an array is repeated -/
theorem canPrecedeRange_rep0 (n : Int) (c : Cell) (more : List Cell) :
    canPrecedeRange (Cell.rep n 0 :: c :: more) = .ok (decide (c.type ≠ ArgVal.tyA)) := by
  simp [canPrecedeRange, deref, bind, Except.bind, pure, Except.pure]

/-- one turn of the scanner's element loop; `if pok then acc.length else 0` is `prev_ok ? num_read : 0`
    (pretty-format.c:1843) -/
theorem scanArrayElems_turn (se : ElemScanner) (t : Bytes) (cs : List Cell) (rest : Bytes) (lf : Nat) (prev : List Cell)
    (i : Nat) (pok : Bool) (acc : List Cell) (ty : UInt8) (b : Bool) (ty' : UInt8) (hstart : TokStart t)
    (hscan : se (t ++ rest) prev (if pok then acc.length else 0) true = .ok (t.length, cs))
    (hb : canPrecedeRange cs = .ok b) (hty : C11.elemTy cs = .ok ty')
    (hoff : nextArgOffset (cs.length + 1) cs = .ok cs.length) :
    scanArrayElems se (lf + 1) (t ++ rest) prev i pok acc ty =
      scanArrayElems se lf (skipSpace rest) (cs.reverse ++ prev) (i + 1) b (acc ++ cs) ty' := by
  obtain ⟨h0, _, hn0, _, _, _, _, h93⟩ := hstart
  have hhd : hd (t ++ rest) = hd t := hd_append_of_ne_nil _ _ h0
  have hpos : t.length ≠ 0 := by
    have := List.length_pos_iff.mpr h0; omega
  have hadv : advance (t ++ rest) t.length = .ok rest := by simp [advance]
  rw [scanArrayElems]
  simp only [hhd, ne_eq, hn0, not_false_eq_true, h93, and_self, ↓reduceIte, hscan, hpos, hadv, hb, hoff,
    bind, Except.bind, pure, Except.pure, not_true_eq_false]
  -- what is left computes the element type like `C11.elemTy` and goes on with it
  generalize scanArrayElems se lf (skipSpace rest) (cs.reverse ++ prev) (i + 1) b (acc ++ cs) = K
  clear hscan hb hoff hadv
  unfold C11.elemTy at hty
  cases cs with
  | nil => cases hty
  | cons c0 r0 =>
    simp only [deref, bind, Except.bind, pure, Except.pure] at hty ⊢
    -- a repetition header (the type stands one or two cells behind it), or any other cell
    split at hty
    · split at hty
      · cases hty
      · simp_all
    · cases hty
      split <;> simp_all

theorem scanArrayElems_close (se : ElemScanner) (lf : Nat) (rest : Bytes) (prev : List Cell) (i : Nat) (pok : Bool)
    (acc : List Cell) (ty : UInt8) :
    scanArrayElems se (lf + 1) (93 :: rest) prev i pok acc ty = .ok (93 :: rest, acc, ty) := by
  unfold scanArrayElems
  simp [pure, Except.pure]

/-- one turn of the checker's element loop; the type `20` handed to the skipper is
    `char arraytype_cur = 20` (pretty-format.c:1303) -/
theorem skipArrayElems_turn (sk : ArgSkipper) (t rest : Bytes) (k : Int) (rty : UInt8) (lf : Nat) (recent : Option Bytes)
    (aty : UInt8) (skipped : Int) (hstart : TokStart t)
    (hskip : ∃ r, sk (t ++ rest) 20 recent true true = .ok r ∧ r.src = some rest ∧ r.skipped = k ∧ r.type = rty)
    (hty : aty = 0 ∨ arraytypesMatch aty rty = true) :
    skipArrayElems sk (lf + 1) (some (t ++ rest)) recent aty skipped =
      skipArrayElems sk lf (some (skipSpace rest)) (some (t ++ rest)) (if aty = 0 then rty else aty) (skipped + k) := by
  obtain ⟨h0, _, hn0, _, _, _, _, h93⟩ := hstart
  have hhd : hd (t ++ rest) = hd t := hd_append_of_ne_nil _ _ h0
  obtain ⟨r, hr, hsrc, hsk, hrty⟩ := hskip
  have hlt : ¬ ((skipSpace rest).length ≥ (t ++ rest).length) := by
    have := skipSpace_length_le rest
    have := List.length_pos_iff.mpr h0
    simp only [List.length_append]; omega
  conv => lhs; unfold skipArrayElems
  simp only [hhd, ne_eq, hn0, not_false_eq_true, h93, and_self, ↓reduceIte, hr, bind, Except.bind, hsrc,
    Option.map_some]
  by_cases ha : aty = 0
  · simp only [ha, ↓reduceIte, hlt, hrty, hsk]
  · have hm : arraytypesMatch aty rty = true := by
      rcases hty with h | h
      · exact absurd h ha
      · exact h
    simp only [ha, ↓reduceIte, hrty, hm, Bool.not_true, Bool.false_eq_true, hlt, hsk]

theorem skipArrayElems_close (sk : ArgSkipper) (lf : Nat) (rest : Bytes) (recent : Option Bytes) (aty : UInt8) (skipped : Int) :
    skipArrayElems sk (lf + 1) (some (93 :: rest)) recent aty skipped = .ok (some (93 :: rest), skipped) := by
  unfold skipArrayElems
  simp

end Rtosc.Pretty
