/-
  C19 — the learn queue: the arithmetic of `qpos`, and the refinement `Refines` of the abstract
  FIFO queue and uniqueness of controller bindings (`Uniq`) through the four events of the queue
  (Proofs/AutoStep.lean), hence through every operation.
-/
import RtoscModel.Proofs.AutoStep
namespace Rtosc.Auto
open Rtosc
variable {F : Type}

theorem idxOf_cons_eq (q i : Nat) (Q : List Nat) :
    (q :: Q).idxOf i = if q = i then 0 else Q.idxOf i + 1 := by
  simp only [List.idxOf_cons, cond_eq_ite, beq_iff_eq]

theorem qpos_eq_idxOf (Q : List Nat) (i : Nat) :
    qpos Q i = if i ∈ Q then (Q.idxOf i : Int) + 1 else -1 := by
  induction Q with
  | nil => rfl
  | cons q Q ih =>
    rw [qpos, ih, idxOf_cons_eq]
    by_cases hq : q = i
    · simp [hq]
    · have hm : i ∈ q :: Q ↔ i ∈ Q := by simp [Ne.symm hq]
      simp only [hq, ↓reduceIte, hm]
      split
      · rw [if_neg (by omega)]; omega
      · rfl

theorem idxOf_erase_of_ne (Q : List Nat) {s i : Nat} (h : i ≠ s) :
    (Q.erase s).idxOf i = if Q.idxOf s < Q.idxOf i then Q.idxOf i - 1 else Q.idxOf i := by
  induction Q with
  | nil => rfl
  | cons q Q ih =>
    by_cases hqs : q = s
    · have hsi : ¬ s = i := fun e => h e.symm
      simp [hqs, idxOf_cons_eq, hsi]
    · rw [List.erase_cons_tail (by simpa using hqs), idxOf_cons_eq, idxOf_cons_eq, idxOf_cons_eq, ih]
      by_cases hqi : q = i
      · simp [hqi]
      · simp only [hqs, hqi, ↓reduceIte]
        split <;> split <;> omega

theorem qpos_range (Q : List Nat) (i : Nat) : qpos Q i = -1 ∨ (1 ≤ qpos Q i ∧ qpos Q i ≤ Q.length) := by
  rw [qpos_eq_idxOf]
  split
  · have := List.idxOf_lt_length_of_mem ‹i ∈ Q›; omega
  · exact Or.inl rfl

theorem qpos_not_mem {Q : List Nat} {i : Nat} (h : i ∉ Q) : qpos Q i = -1 := by
  rw [qpos_eq_idxOf, if_neg h]

theorem qpos_mem {Q : List Nat} {i : Nat} (h : i ∈ Q) : 1 ≤ qpos Q i := by
  rw [qpos_eq_idxOf, if_pos h]; omega

theorem qpos_eq_neg_one_iff {Q : List Nat} {i : Nat} : qpos Q i = -1 ↔ i ∉ Q :=
  ⟨fun h hm => by have := qpos_mem hm; omega, qpos_not_mem⟩

theorem qpos_append_new (Q : List Nat) (s i : Nat) (hs : s ∉ Q) :
    qpos (Q ++ [s]) i = if i = s then (Q.length : Int) + 1 else qpos Q i := by
  simp only [qpos_eq_idxOf, List.idxOf_append, List.mem_append, List.mem_singleton]
  by_cases hi : i ∈ Q
  · have : i ≠ s := fun e => hs (e ▸ hi)
    simp [hi, this]
  · by_cases his : i = s
    · subst his; simp [hs]
    · simp [hi, his]

theorem qpos_erase (Q : List Nat) (s i : Nat) (hn : Q.Nodup) :
    qpos (Q.erase s) i =
      if i = s then -1
      else if qpos Q s > 0 ∧ qpos Q i > qpos Q s then qpos Q i - 1 else qpos Q i := by
  by_cases his : i = s
  · rw [if_pos his, his]; exact qpos_not_mem hn.not_mem_erase
  · simp only [if_neg his, qpos_eq_idxOf (Q.erase s), qpos_eq_idxOf Q i, List.mem_erase_of_ne his,
      idxOf_erase_of_ne Q his]
    by_cases hi : i ∈ Q
    · have hlt := List.idxOf_lt_length_of_mem hi
      simp only [hi, ↓reduceIte]
      by_cases hsQ : s ∈ Q
      · rw [qpos_eq_idxOf, if_pos hsQ]
        split <;> split <;> omega
      · rw [qpos_not_mem hsQ, List.idxOf_eq_length hsQ]
        split <;> split <;> omega
    · simp only [hi, ↓reduceIte]
      split
      · have := qpos_range Q s; omega
      · rfl

theorem qpos_inj (Q : List Nat) (i j : Nat) (h0 : 0 < qpos Q i) (h : qpos Q i = qpos Q j) : i = j := by
  have hi : i ∈ Q := Classical.byContradiction fun hn => by rw [qpos_not_mem hn] at h0; omega
  have hj : j ∈ Q := Classical.byContradiction fun hn => by rw [qpos_not_mem hn] at h; omega
  rw [qpos_eq_idxOf, qpos_eq_idxOf, if_pos hi, if_pos hj] at h
  have e : Q.idxOf i = Q.idxOf j := by omega
  have := List.getElem_idxOf (List.idxOf_lt_length_of_mem hi)
  rw [← this]
  simp only [e]
  exact List.getElem_idxOf (List.idxOf_lt_length_of_mem hj)

theorem qpos_head_iff (q : Nat) (Q : List Nat) (i : Nat) : qpos (q :: Q) i = 1 ↔ i = q := by
  simp only [qpos]
  have := qpos_range Q i
  constructor
  · intro h
    split at h
    · omega
    · split at h <;> omega
  · intro h; simp [h]

theorem Refines.learning {m : Mgr F} {Q : List Nat} (h : Refines m Q) {i : Nat} {sl : Slot F}
    (hsl : m.slots[i]? = some sl) : sl.learning = qpos Q i :=
  h.num i (key sl) (keys_getElem? hsl)

theorem queueRel_append (ks : List Key) (len : Int) (Q : List Nat) (h : QueueRel ks len Q)
    (s : Nat) (k : Key) (hk : ks[s]? = some k) (hl : k.1 = -1) :
    QueueRel (ks.set s (len + 1, k.2)) (len + 1) (Q ++ [s]) := by
  have hs : s ∉ Q := by
    have := h.num s k hk
    rw [hl] at this
    exact qpos_eq_neg_one_iff.mp this.symm
  have hlt := getElem?_some_lt hk
  refine ⟨?_, ?_, ?_, ?_⟩
  · exact List.nodup_append.mpr ⟨h.nodup, by simp, by
      intro a ha b hb; simp at hb; subst hb; intro hab; exact hs (hab ▸ ha)⟩
  · intro q hq
    simp only [List.mem_append, List.mem_singleton] at hq
    simp only [List.length_set]
    rcases hq with hq | hq
    · exact h.bound q hq
    · omega
  · simp [h.len]
  · intro i k' hi
    rw [qpos_append_new Q s i hs]
    simp only [List.getElem?_set] at hi
    by_cases his : s = i
    · subst his
      simp only [hlt, ↓reduceIte, Option.some.injEq] at hi
      subst hi
      simp [h.len]
    · simp only [his, ↓reduceIte] at hi
      have : ¬ i = s := fun e => his e.symm
      simp only [this, ↓reduceIte]
      exact h.num i k' hi

theorem queueRel_erase (ks : List Key) (len : Int) (Q : List Nat) (h : QueueRel ks len Q)
    (s : Nat) (k : Key) (hk : ks[s]? = some k) :
    QueueRel ((if k.1 > 0 then ks.map (decK k.1) else ks).set s (-1, -1, -1))
      (if k.1 > 0 then len - 1 else len) (Q.erase s) := by
  have hks := h.num s k hk
  have hlen : ((if k.1 > 0 then ks.map (decK k.1) else ks).set s (-1, -1, -1)).length = ks.length := by
    split <;> simp
  refine ⟨h.nodup.erase s, ?_, ?_, ?_⟩
  · intro q hq
    rw [hlen]
    exact h.bound q (List.mem_of_mem_erase hq)
  · by_cases hw : k.1 > 0
    · have hmem : s ∈ Q := by
        apply Classical.byContradiction
        intro hn
        have := qpos_not_mem hn
        omega
      have h1 := List.length_erase_of_mem hmem
      have h2 : 0 < Q.length := List.length_pos_of_mem hmem
      simp only [hw, ↓reduceIte, h.len, h1]
      omega
    · have hn : s ∉ Q := by
        intro hm
        have := qpos_mem hm
        omega
      simp [hw, List.erase_of_not_mem hn, h.len]
  · intro i k' hi
    rw [qpos_erase Q s i h.nodup]
    simp only [List.getElem?_set] at hi
    by_cases his : s = i
    · subst his
      have hlt : s < (if k.1 > 0 then ks.map (decK k.1) else ks).length := by
        have := getElem?_some_lt hk
        split <;> simp [this]
      simp only [hlt, ↓reduceIte, Option.some.injEq] at hi
      subst hi
      simp
    · have his' : ¬ i = s := fun e => his e.symm
      simp only [his, ↓reduceIte] at hi
      simp only [his', ↓reduceIte]
      by_cases hw : k.1 > 0
      · simp only [hw, ↓reduceIte, List.getElem?_map] at hi
        cases hki : ks[i]? with
        | none => simp [hki] at hi
        | some k0 =>
          simp only [hki, Option.map_some, Option.some.injEq] at hi
          have h0 := h.num i k0 hki
          subst hi
          unfold decK
          rw [← hks, ← h0]
          by_cases hgt : k0.1 > k.1
          · simp [hgt, hw]
          · simp [hgt]
      · simp only [hw, ↓reduceIte] at hi
        have h0 := h.num i k' hi
        rw [← hks]
        simp [hw, h0]

theorem QueueRel.of_numbers {ks ks' : List Key} {len : Int} {Q : List Nat} (h : QueueRel ks len Q)
    (e : ks'.map (·.1) = ks.map (·.1)) : QueueRel ks' len Q := by
  have hl : ks'.length = ks.length := by simpa using congrArg List.length e
  refine ⟨h.nodup, fun q hq => hl ▸ h.bound q hq, h.len, fun i k' hi => ?_⟩
  have := congrArg (·[i]?) e
  simp only [List.getElem?_map, hi, Option.map_some] at this
  cases hk : ks[i]? with
  | none => simp [hk] at this
  | some k =>
    simp only [hk, Option.map_some, Option.some.injEq] at this
    rw [this]; exact h.num i k hk

/-- serving the head is erasing it: the head holds number 1, so `decK 1` renumbers the
    rest, and what the head slot is bound to is not the queue's concern -/
theorem queueRel_serve (ks : List Key) (len : Int) (hd : Nat) (Q' : List Nat) (n : Bool) (id : Int)
    (h : QueueRel ks len (hd :: Q')) :
    QueueRel ((ks.modify hd (bindK n id)).map (decK 1)) (len - 1) Q' := by
  have hlt : hd < ks.length := h.bound hd List.mem_cons_self
  have hk : ks[hd]? = some ks[hd] := List.getElem?_eq_getElem hlt
  have h1 : ks[hd].1 = 1 := by rw [h.num hd _ hk]; simp [qpos]
  have := queueRel_erase ks len (hd :: Q') h hd ks[hd] hk
  simp only [h1, List.erase_cons_head, show (1 : Int) > 0 by decide, ↓reduceIte] at this
  refine this.of_numbers ?_
  apply List.ext_getElem?
  intro i
  simp only [List.getElem?_map, List.getElem?_modify, List.getElem?_set, List.length_map]
  by_cases e : hd = i
  · subst e; simp [hlt, decK, bindK]
  · cases ks[i]? <;> simp [e]

theorem headOf_cons {ks : List Key} {len : Int} {hd : Nat} {Q' : List Nat} (h : QueueRel ks len (hd :: Q')) :
    headOf ks = some hd := by
  have hlt : hd < ks.length := h.bound hd List.mem_cons_self
  refine List.findIdx?_eq_some_iff_getElem.2 ⟨hlt, ?_, fun j hj => ?_⟩
  · simpa using (h.num hd _ (List.getElem?_eq_getElem hlt)).trans ((qpos_head_iff hd Q' hd).2 rfl)
  · have := h.num j _ (List.getElem?_eq_getElem (Nat.lt_trans hj hlt))
    simp only [decide_eq_true_eq, this, qpos_head_iff]; omega

theorem headOf_nil {ks : List Key} {len : Int} (h : QueueRel ks len []) : headOf ks = none := by
  refine List.findIdx?_eq_none_iff.2 fun k hk => ?_
  obtain ⟨j, hj, rfl⟩ := List.getElem_of_mem hk
  have := h.num j _ (List.getElem?_eq_getElem hj)
  simp [this, qpos]

theorem QueueRel.event {ks : List Key} {len : Int} {Q : List Nat} (h : QueueRel ks len Q) (e : QueueEvent)
    (ok : e.Ok ks) : QueueRel (e.onKeys ks len).1 (e.onKeys ks len).2 (e.onQueue Q) := by
  cases e with
  | idle => exact h
  | request s =>
    obtain ⟨k, hk, hl⟩ := ok
    simp only [QueueEvent.onKeys, QueueEvent.onQueue, modify_eq_set _ _ _ _ hk]
    exact queueRel_append ks len Q h s k hk hl
  | clear s =>
    simp only [QueueEvent.onKeys, QueueEvent.onQueue, List.getElem?_eq_getElem ok]
    exact queueRel_erase ks len Q h s _ (List.getElem?_eq_getElem ok)
  | serve n id =>
    simp only [QueueEvent.onKeys, QueueEvent.onQueue]
    cases Q with
    | nil => rw [headOf_nil h]; exact h
    | cons hd Q' => rw [headOf_cons h]; exact queueRel_serve ks len hd Q' n id h

theorem absStep_eventOf {m : Mgr F} {Q : List Nat} (h : Refines m Q) (op : Op F) :
    absStep m op Q = (eventOf m op).onQueue Q := by
  cases op with
  | bind s path port learn =>
    have : bindSucceeds m s port = true → decide (s.toNat ∉ Q) = decide (slotLearning m s = -1) := by
      intro hb
      cases hsl : m.slots[s.toNat]? with
      | none => simp [bindSucceeds, hsl] at hb
      | some sl => simp [slotLearning, hsl, h.learning hsl, qpos_eq_neg_one_iff]
    simp only [absStep, eventOf]
    cases hb : bindSucceeds m s port
    · simp [QueueEvent.onQueue]
    · rw [this hb]; split <;> rfl
  | clearSlot s => simp only [absStep, eventOf]; split <;> rfl
  | midi c t v =>
    simp only [absStep, eventOf]
    cases controllerOf m c t v with
    | none => rfl
    | some p => obtain ⟨n, id⟩ := p; simp only []; split <;> rfl
  | _ => rfl

theorem refines_step (A : Arith F) (m m' : Mgr F) (Q : List Nat) (op : Op F) (ms : List (Msg F))
    (h : Refines m Q) (hs : step A m op = some (m', ms)) : Refines m' (absStep m op Q) := by
  obtain ⟨e, ok, _⟩ := step_views hs
  have := QueueRel.event h (eventOf m op) ok
  rw [← e, ← absStep_eventOf h] at this
  exact this

theorem refines_init (A : Arith F) (n p : Nat) : Refines (Mgr.init A n p) [] := by
  refine ⟨List.nodup_nil, by simp, by simp [Mgr.init], ?_⟩
  intro i k hk
  simp only [keys, Mgr.init, List.map_replicate, List.getElem?_replicate] at hk
  split at hk
  · cases hk; rfl
  · cases hk

/-- no controller number occurs twice (-1: bound to none) -/
def UniqL (l : List Int) : Prop := ∀ (i j : Nat) (a : Int), l[i]? = some a → l[j]? = some a → a ≠ -1 → i = j

theorem uniq_iff (sel : Key → Int) (ks : List Key) : Uniq sel ks ↔ UniqL (ks.map sel) := by
  constructor
  · intro h i j a hi hj hne
    simp only [List.getElem?_map, Option.map_eq_some_iff] at hi hj
    obtain ⟨ka, hka, rfl⟩ := hi
    obtain ⟨kb, hkb, e⟩ := hj
    exact h i j ka kb hka hkb e.symm hne
  · intro h i j a b hi hj hab hne
    exact h i j (sel a) (by simp [hi]) (by simp [hj, hab]) hne

theorem UniqL.set_neg {l : List Int} (h : UniqL l) (s : Nat) : UniqL (l.set s (-1)) := by
  intro i j a hi hj hne
  simp only [List.getElem?_set] at hi hj
  split at hi
  · split at hi <;> cases hi; exact absurd rfl hne
  · split at hj
    · split at hj <;> cases hj; exact absurd rfl hne
    · exact h i j a hi hj hne

theorem UniqL.set_new {l : List Int} (h : UniqL l) (s : Nat) (id : Int) (hid : ∀ a ∈ l, a ≠ id) :
    UniqL (l.set s id) := by
  intro i j a hi hj hne
  simp only [List.getElem?_set] at hi hj
  split at hi <;> split at hj
  · omega
  · split at hi <;> cases hi; exact absurd rfl (hid _ (List.mem_of_getElem? hj))
  · split at hj <;> cases hj; exact absurd rfl (hid _ (List.mem_of_getElem? hi))
  · exact h i j a hi hj hne

theorem selOf_pair (n : Bool) (l : Int) (k : Key) : selOf n (l, k.2) = selOf n k := by
  cases n <;> simp [selOf, selCC, selNrpn]

theorem selOf_bindK_self (n : Bool) (id : Int) (k : Key) : selOf n (bindK n id k) = id := by
  cases n <;> rfl

theorem selOf_bindK_other (n : Bool) (id : Int) (k : Key) : selOf (!n) (bindK n id k) = selOf (!n) k := by
  cases n <;> rfl

theorem selOf_clear (n : Bool) : selOf n (-1, -1, -1) = -1 := by
  cases n <;> simp [selOf, selCC, selNrpn]

theorem selOf_decK (n : Bool) (L : Int) (k : Key) : selOf n (decK L k) = selOf n k := by
  unfold decK; split
  · exact selOf_pair n _ k
  · rfl

/-- no controller comes to be bound twice by any event: a request and a renumbering do not touch
    the bound controllers, a cleared slot is bound to nothing, and a served controller was bound
    to no slot before -/
theorem Uniq.event {ks : List Key} {n' : Bool} (hu : Uniq (selOf n') ks) (len : Int) (e : QueueEvent)
    (ok : e.Ok ks) : Uniq (selOf n') (e.onKeys ks len).1 := by
  rw [uniq_iff] at hu ⊢
  cases e with
  | idle => exact hu
  | request s =>
    simp only [QueueEvent.onKeys]
    rwa [map_modify_inv (selOf n') _ (fun k => selOf_pair n' _ k)]
  | clear s =>
    simp only [QueueEvent.onKeys, List.getElem?_eq_getElem ok, List.map_set, selOf_clear]
    have : (if ks[s].1 > 0 then ks.map (decK ks[s].1) else ks).map (selOf n') = ks.map (selOf n') := by
      split
      · rw [List.map_map]; exact List.map_congr_left fun k _ => selOf_decK n' _ k
      · rfl
    rw [this]
    exact hu.set_neg s
  | serve n id =>
    simp only [QueueEvent.onKeys]
    split
    · exact hu
    · rename_i hd _
      rw [List.map_map, show (ks.modify hd (bindK n id)).map (selOf n' ∘ decK 1) = (ks.modify hd (bindK n id)).map (selOf n')
        from List.map_congr_left fun k _ => selOf_decK n' 1 k]
      by_cases hnn : n' = n
      · subst hnn
        rw [map_modify_set_at (selOf n') (bindK n' id) id ks hd fun k _ => selOf_bindK_self n' id k]
        exact hu.set_new hd id fun a ha => by
          obtain ⟨k, hk, rfl⟩ := List.mem_map.1 ha
          exact ok k hk
      · obtain rfl : n' = !n := by cases n' <;> cases n <;> simp_all
        rwa [map_modify_inv (selOf (!n)) (bindK n id) (selOf_bindK_other n id)]

theorem uniq_step (A : Arith F) (m m' : Mgr F) (op : Op F) (ms : List (Msg F)) (n : Bool)
    (hu : Uniq (selOf n) (keys m)) (hs : step A m op = some (m', ms)) : Uniq (selOf n) (keys m') := by
  obtain ⟨e, ok, _⟩ := step_views hs
  have := Uniq.event hu m.learnLen (eventOf m op) ok
  rwa [← e] at this

theorem uniq_init (A : Arith F) (ns p : Nat) (n : Bool) : Uniq (selOf n) (keys (Mgr.init A ns p)) := by
  intro i j a b hi _ _ hne
  simp only [keys, Mgr.init, List.map_replicate, List.getElem?_replicate] at hi
  split at hi
  · simp only [Option.some.injEq] at hi
    subst hi
    exact absurd (selOf_clear n) hne
  · cases hi

/-- an event never swaps two slots that wait before and after it -/
theorem qpos_order (Q : List Nat) (hn : Q.Nodup) (e : QueueEvent) (hreq : ∀ s, e = .request s → s ∉ Q)
    (i j : Nat) (h0 : 0 < qpos Q i) (hij : qpos Q i < qpos Q j) (hi : 0 < qpos (e.onQueue Q) i)
    (hj : 0 < qpos (e.onQueue Q) j) : qpos (e.onQueue Q) i < qpos (e.onQueue Q) j := by
  have erase : ∀ s, 0 < qpos (Q.erase s) i → 0 < qpos (Q.erase s) j → qpos (Q.erase s) i < qpos (Q.erase s) j := by
    intro s hi hj
    rw [qpos_erase Q s i hn] at hi ⊢
    rw [qpos_erase Q s j hn] at hj ⊢
    by_cases his : i = s
    · simp [his] at hi
    · by_cases hjs : j = s
      · simp [hjs] at hj
      · have hne : qpos Q i ≠ qpos Q s := fun e => his (qpos_inj Q i s h0 e)
        simp only [his, hjs, ↓reduceIte] at hi hj ⊢
        by_cases c1 : qpos Q s > 0 ∧ qpos Q i > qpos Q s <;> by_cases c2 : qpos Q s > 0 ∧ qpos Q j > qpos Q s
        · rw [if_pos c1] at hi ⊢; rw [if_pos c2] at hj ⊢; omega
        · rw [if_pos c1] at hi ⊢; rw [if_neg c2] at hj ⊢; omega
        · rw [if_neg c1] at hi ⊢; rw [if_pos c2] at hj ⊢; omega
        · rw [if_neg c1] at hi ⊢; rw [if_neg c2] at hj ⊢; omega
  cases e with
  | idle => exact hij
  | request s =>
    have hs := hreq s rfl
    simp only [QueueEvent.onQueue]
    rw [qpos_append_new Q s i hs, qpos_append_new Q s j hs]
    have hiQ : i ≠ s := by
      intro e; subst e
      have := qpos_not_mem hs; omega
    have hjQ : j ≠ s := by
      intro e; subst e
      have := qpos_not_mem hs; omega
    simp [hiQ, hjQ, hij]
  | clear s => exact erase s hi hj
  | serve n id =>
    -- the tail of a queue without repetitions is the queue with its head erased
    cases Q with
    | nil => simp [qpos] at h0
    | cons q Q0 =>
      simp only [QueueEvent.onQueue, List.tail_cons] at hi hj ⊢
      have := erase q
      rw [List.erase_cons_head] at this
      exact this hi hj

theorem refines_order {A : Arith F} {m m' : Mgr F} {Q : List Nat} {op : Op F} {ms : List (Msg F)}
    (h : Refines m Q) (hs : step A m op = some (m', ms)) (i j : Nat) (h0 : 0 < qpos Q i)
    (hij : qpos Q i < qpos Q j) (hi : 0 < qpos (absStep m op Q) i) (hj : 0 < qpos (absStep m op Q) j) :
    qpos (absStep m op Q) i < qpos (absStep m op Q) j := by
  rw [absStep_eventOf h] at hi hj ⊢
  refine qpos_order Q h.nodup _ (fun s hs' => ?_) i j h0 hij hi hj
  have ok := (step_views hs).2.1
  rw [hs'] at ok
  obtain ⟨k, hk, hl⟩ := ok
  exact qpos_eq_neg_one_iff.1 ((h.num s k hk).symm.trans hl)

theorem serve_head_keys (A : Arith F) (m : Mgr F) (hd : Nat) (Q' : List Nat) (c t v : Int) (n : Bool) (id : Int)
    (h : Refines m (hd :: Q')) (hc : controllerOf m c t v = some (n, id)) (hb : isBoundTo m n id = false) :
    keys (handleMidi A m c t v).1 = ((keys m).modify hd (bindK n id)).map (decK 1) := by
  have := (step_views (A := A) (m := m) (op := .midi c t v) rfl).1
  simp only [eventOf, hc, hb, Bool.false_eq_true, ↓reduceIte, QueueEvent.onKeys, headOf_cons h] at this
  exact congrArg Prod.fst this

theorem controllerOf_nonneg (m : Mgr F) (c t v : Int) (n : Bool) (id : Int) (hc0 : 0 ≤ c) (ht0 : 0 ≤ t)
    (hc : controllerOf m c t v = some (n, id)) : 0 ≤ id := by
  unfold controllerOf at hc
  split at hc
  · simp only at hc
    split at hc
    · rename_i hcomp
      simp only [Option.some.injEq, Prod.mk.injEq] at hc
      simp only [nrpnComplete, Bool.not_eq_true', Bool.or_eq_false_iff, decide_eq_false_iff_not, Int.not_lt] at hcomp
      omega
    · cases hc
  · simp only [Option.some.injEq, Prod.mk.injEq] at hc
    omega

theorem bound_drives (A : Arith F) (m : Mgr F) (c t v : Int) (n : Bool) (id : Int) (i : Nat) (sl : Slot F)
    (hu : Uniq (selOf n) (keys m)) (hid : id ≠ -1)
    (hc : controllerOf m c t v = some (n, id)) (hsl : m.slots[i]? = some sl) (hb : bindingOf n sl = id) :
    handleMidi A m c t v =
      ({ regs m t v with slots := m.slots.set i { sl with current := midiValue A (regs m t v) n v } },
       slotMsgs A sl (midiValue A (regs m t v) n v)) := by
  have hbound : isBoundTo m n id = true := by
    simp only [isBoundTo, List.any_eq_true, decide_eq_true_eq]
    exact ⟨sl, List.mem_of_getElem? hsl, hb⟩
  rw [handleMidi_eq, hc]
  simp only [hbound, ↓reduceIte]
  rw [driveBound_unique A (bindingOf n) id _ m.slots i sl hsl hb (by
    intro j sl' hj hs
    exact hu j i _ _ (keys_getElem? hj) (keys_getElem? hsl) (by rw [selOf_key, selOf_key, hs, hb]) (by rw [selOf_key, hs]; exact hid))]
end Rtosc.Auto
