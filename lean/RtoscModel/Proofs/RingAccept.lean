/-
  C06 — which writes are accepted under concurrency: the writer's load of the read
  index decides, and it decides by the true number of queued bytes at that moment.
-/
import RtoscModel.Proofs.RingConc
namespace Rtosc.Ring
open Rtosc

theorem inv_accept {frame : Bytes → Nat} {IsMsg : Bytes → Prop} (fr : Framing frame IsMsg)
    {s : Conc} (inv : Inv frame IsMsg s) {op : WOp} {rest : List WOp}
    (hpc : s.wpc = .idle) (hop : s.wops = op :: rest) :
    ∃ s', s.step frame .writer = some (s', .loadR s.r) ∧
      (if op.msg.length ≤ s.maxMsg ∧ s.queuedBytes + op.msg.length ≤ s.N - 1
       then s'.wpc = .copying op.msg op.msg 0 ∧ s'.wlog = s.wlog
       else s'.wpc.inflight = [] ∧ s'.published = s.published) ∧
      s'.buf = s.buf ∧ s'.w = s.w := by
  unfold Inv at inv
  rw [hpc, hop] at inv
  have hmsg : IsMsg op.msg := inv.hops op List.mem_cons_self
  have hws := inv.writeSize
  have hoff := offs_le_total (pubOf s.wlog) (retOf s.rlog).length
  have hq : s.queuedBytes = (pubOf s.wlog).flatten.length - offs (pubOf s.wlog) (retOf s.rlog).length := rfl
  have hdata := wData_eq fr hmsg fun b hb => inv.hnorm rfl b rest (by rw [hb])
  simp only [Conc.step, Conc.wStep, hpc, hop]
  rcases hd : wData frame s.maxMsg op with ⟨m, data⟩
  rw [hd] at hdata
  obtain ⟨rfl, hdata2⟩ := Prod.mk.inj hdata
  simp only
  by_cases hmx : op.msg.length ≤ s.maxMsg
  · rw [if_pos hmx] at hdata2
    subst hdata2
    by_cases hfit : writeSize s.w s.r s.N ≥ op.msg.length
    · rw [if_pos hfit]
      refine ⟨_, rfl, ?_, rfl, rfl⟩
      rw [if_pos ⟨hmx, by omega⟩]
      exact ⟨rfl, rfl⟩
    · rw [if_neg hfit]
      refine ⟨_, rfl, ?_, rfl, rfl⟩
      rw [if_neg (by omega)]
      exact ⟨rfl, (pubOf_wNext frame s rest op.msg false).trans (List.append_nil _)⟩
  · rw [if_neg hmx] at hdata2
    subst hdata2
    rw [if_pos (by simp)]
    refine ⟨_, rfl, ?_, rfl, rfl⟩
    rw [if_neg (fun hc => hmx hc.1)]
    exact ⟨rfl, rfl⟩

end Rtosc.Ring
