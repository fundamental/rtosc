/-
  C10 — tier 3, compressed runs AND arrays: `rtosc_convert_to_range` is local.

  `rtosc_convert_to_range(arg, size, …)` on scalar cells does not look behind the first `size`
  cells (`convertToRange_append`): the comparisons `rtosc_arg_vals_eq_single` / `range_args_identical`
  on scalar heads read the two head cells only, and both loops stay below `size`.
  Used for the array loop of the printer: inside an array `size` is the number of cells left IN
  the array, while the memory goes on behind it.
-/
import RtoscModel.Proofs.PrettyRunConst
namespace Rtosc.Pretty
open Rtosc Rtosc.Libc
open Rtosc.ArgVal (Cell)

/-- `rtosc_arg_vals_eq_single` with a scalar on the right compares the two head cells only -/
theorem eqSingle_scalar_right (x c : Cell) (m m' : List Cell) (hsc : c.isScalar = true) :
    eqSingle (x :: m) (c :: m') = liftAV (ArgVal.eqScalar x c) := by
  unfold eqSingle
  rw [show (x :: m).length + (c :: m').length + 2 = ((x :: m).length + (c :: m').length + 1) + 1 from rfl]
  unfold ArgVal.eqSingle
  simp only [ArgVal.deref, bind, Except.bind, ArgVal.asArr_scalar hsc]
  cases x.asArr <;> rfl

theorem rangeArgsIdentical_scalars (c1 c2 : Cell) (m m' n n' : List Cell) (h1 : c1.isScalar = true)
    (h2 : c2.isScalar = true) :
    rangeArgsIdentical (c1 :: m) (c2 :: m') = rangeArgsIdentical (c1 :: n) (c2 :: n') := by
  unfold rangeArgsIdentical
  simp only [eqSingle_scalar_right c1 c2 _ _ h2, incsize_scalar c1 _ h1, incsize_scalar c2 _ h2, bind, Except.bind,
    List.take_succ_cons, List.take_zero]
  rfl

private theorem deref_cons' (c : Cell) (r : List Cell) : deref (c :: r) = .ok c := rfl

private theorem deref_append_ne (l more : List Cell) (h : l ≠ []) : deref (l ++ more) = deref l := by
  cases l with
  | nil => exact absurd rfl h
  | cons c r => rfl

private theorem drop_append_cons (l more : List Cell) (i : Nat) (c : Cell) (r : List Cell) (h : l.drop i = c :: r) :
    (l ++ more).drop i = c :: (r ++ more) := by
  have hlt := (drop_eq_cons_lt l i c r h).1
  rw [List.drop_append_of_le_length (Nat.le_of_lt hlt), h]; rfl

private theorem drop_cons_of_lt {α} (l : List α) (i : Nat) (h : i < l.length) : ∃ c r, l.drop i = c :: r :=
  ⟨_, _, List.drop_eq_getElem_cons h⟩

theorem incsize_cons_append (c : Cell) (r more : List Cell) : incsize ((c :: r) ++ more) = incsize (c :: r) := by
  unfold incsize
  simp [deref]

theorem countCommon_append (ty : UInt8) (l more : List Cell) (size : Nat) (hsize : size ≤ l.length) :
    ∀ (fuel i n : Nat), countCommon fuel ty (l ++ more) size i n = countCommon fuel ty l size i n := by
  intro fuel
  induction fuel with
  | zero => intro i n; simp [countCommon]
  | succ f ih =>
    intro i n
    rw [countCommon, countCommon]
    by_cases hlt : i < size
    · simp only [hlt, ↓reduceIte]
      obtain ⟨c, r, hd⟩ : ∃ c r, l.drop i = c :: r := ⟨_, _, List.drop_eq_getElem_cons (by omega)⟩
      rw [List.drop_append_of_le_length (by omega), hd, incsize_cons_append]
      simp only [List.cons_append, deref, bind, Except.bind, ih]
    · simp only [hlt, ↓reduceIte]

theorem extendRun_append (l more : List Cell) (hsc : ∀ c ∈ l, c.isScalar = true) (delta : Option Cell) :
    ∀ (fuel skipped k : Nat), skipped < l.length →
      extendRun fuel (l ++ more) l.length delta skipped k = extendRun fuel l l.length delta skipped k := by
  intro fuel
  induction fuel with
  | zero => intro s k _; simp [extendRun]
  | succ f ih =>
    intro s k hs
    obtain ⟨c, r, hd⟩ := drop_cons_of_lt l s hs
    have hc : c.isScalar = true := hsc c (List.mem_of_mem_drop (by rw [hd]; simp))
    have hne : l ≠ [] := by intro h; rw [h] at hs; simp at hs
    have hd' := drop_append_cons l more s c r hd
    rw [extendRun, extendRun]
    simp only [hd, hd', incsize_scalar c _ hc, bind, Except.bind, deref_cons']
    by_cases hn : s + 1 ≥ l.length
    · simp only [hn, ↓reduceIte]
    · have hlt : s + 1 < l.length := by omega
      obtain ⟨c2, r2, hd2⟩ := drop_cons_of_lt l (s + 1) hlt
      have hc2 : c2.isScalar = true := hsc c2 (List.mem_of_mem_drop (by rw [hd2]; simp))
      have hd2' := drop_append_cons l more (s + 1) c2 r2 hd2
      have hrai : rangeArgsIdentical (l ++ more) (c2 :: (r2 ++ more)) = rangeArgsIdentical l (c2 :: r2) := by
        cases l with
        | nil => exact absurd rfl hne
        | cons c0 l0 => exact rangeArgsIdentical_scalars c0 c2 _ _ _ _ (hsc c0 (by simp)) hc2
      simp only [hn, ↓reduceIte, hd2, hd2', eqSingle_scalar_right _ c2 _ _ hc2, deref_append_ne l more hne, hrai, deref_cons',
        ih (s + 1) (k + 1) hlt]

/-- `rtosc_convert_to_range` does not look behind the first `size` cells -/
theorem convertToRange_append (opt : POpt) (l more : List Cell) (hsc : ∀ c ∈ l, c.isScalar = true) :
    convertToRange opt (l ++ more) l.length = convertToRange opt l l.length := by
  by_cases h5 : l.length < rangeMin
  · unfold convertToRange
    simp only [h5, ↓reduceIte]
  · have h5' : 5 ≤ l.length := by unfold rangeMin at h5; omega
    have hne : l ≠ [] := by intro h; rw [h] at h5'; simp at h5'
    obtain ⟨c0, r0, hd0⟩ := drop_cons_of_lt l 0 (by omega)
    obtain ⟨c1, r1, hd1⟩ := drop_cons_of_lt l 1 (by omega)
    have hc0 : c0.isScalar = true := hsc c0 (List.mem_of_mem_drop (by rw [hd0]; simp))
    have hc1 : c1.isScalar = true := hsc c1 (List.mem_of_mem_drop (by rw [hd1]; simp))
    have hd1' := drop_append_cons l more 1 c1 r1 hd1
    simp only [List.drop_zero] at hd0
    have hder : deref l = .ok c0 := by rw [hd0]; rfl
    have hinc : incsize l = .ok 1 := by rw [hd0]; exact incsize_scalar c0 r0 hc0
    have hinc' : incsize (l ++ more) = .ok 1 := by rw [hd0]; exact incsize_scalar c0 _ hc0
    have hrai : rangeArgsIdentical (l ++ more) (c1 :: (r1 ++ more)) = rangeArgsIdentical l (c1 :: r1) := by
      rw [hd0]; exact rangeArgsIdentical_scalars c0 c1 _ _ _ _ hc0 hc1
    have htake : (l ++ more).take 1 = l.take 1 := by rw [hd0]; rfl
    unfold convertToRange
    simp only [h5, ↓reduceIte, deref_append_ne l more hne, hder, bind, Except.bind,
      countCommon_append c0.type l more l.length (Nat.le_refl _), hinc, hinc', hd1, hd1', hrai, deref_cons',
      extendRun_append l more hsc _ (l.length + 1) 1 1 (by omega), htake]

/-- no five values of one type in a row among the elements of an array, whatever follows the array -/
theorem noConversion_append (opt : POpt) (es : List Cell) (hsc : ∀ c ∈ es, c.isScalar = true)
    (h : opt.compress = false ∨ NoLongRun es) :
    ∀ more i, i < es.length → convertToRange opt (es.drop i ++ more) (es.length - i) = .ok none := by
  intro more i hi
  rw [← List.length_drop, convertToRange_append opt (es.drop i) more (fun c hc => hsc c (List.mem_of_mem_drop hc)),
    List.length_drop]
  exact noConversion opt es hsc h i hi

end Rtosc.Pretty
