/-
  C19 — the ghost field `Automation.bound` is exactly "the parameter this automation was last
  bound to": every operation changes the binding table `boundsOf` as the specification
  `absBind` (RtoscModel/AutoSpec.lean) says.  `boundsOf` is `autosOf` read through `bound`, and
  `absBind` is `autosStep` read through `bound`, entry by entry.
-/
import RtoscModel.Proofs.AutoStep
namespace Rtosc.Auto
open Rtosc
variable {F : Type}

theorem boundsOf_autosOf (m : Mgr F) : boundsOf m = (autosOf m).map (fun l => l.map (·.bound)) := by
  simp [boundsOf, autosOf, List.map_map]

theorem firstNone_map (l : List (Automation F)) (i : Nat)
    (h : ∀ au ∈ l, (au.used = false ↔ au.bound = none)) :
    firstNone (l.map (·.bound)) i = firstFree l i := by
  induction l generalizing i with
  | nil => rfl
  | cons a r ih =>
    simp only [List.map_cons, firstNone, firstFree]
    have ha := h a (by simp)
    by_cases hu : a.used = false
    · simp [hu, ha.mp hu]
    · have hb : ¬ a.bound = none := fun hb => hu (ha.mpr hb)
      have : a.bound.isNone = false := by
        cases hab : a.bound with
        | none => exact absurd hab hb
        | some _ => rfl
      simp only [this, Bool.false_eq_true, ↓reduceIte, hu]
      exact ih (i + 1) (fun au hau => h au (by simp [hau]))

theorem good_used_iff (A : Arith F) (au : Automation F) (h : Good A au) :
    au.used = false ↔ au.bound = none := by
  constructor
  · exact h.2
  · intro hb
    cases hu : au.used with
    | false => rfl
    | true =>
      obtain ⟨_, _, _, _, _, _, _, _, e0, _⟩ := (h.1 hu).1
      rw [hb] at e0; cases e0

theorem binding_step (A : Arith F) (m m' : Mgr F) (op : Op F) (ms : List (Msg F))
    (ha : AllAutos m (Good A)) (hs : step A m op = some (m', ms)) :
    boundsOf m' = absBind m.perSlot (boundsOf m) op := by
  have hf := step_fills hs
  have hrow : ∀ {i : Nat} {row : List (Automation F)}, (autosOf m)[i]? = some row →
      ∃ sl : Slot F, m.slots[i]? = some sl ∧ sl.autos = row := fun h => by
    simpa [autosOf, List.getElem?_map, Option.map_eq_some_iff] using h
  rw [boundsOf_autosOf, boundsOf_autosOf, (step_views hs).2.2.1]
  cases op with
  | bind s path port learn =>
    simp only [autosStep, absBind]
    cases hp : portUsable port with
    | none => rfl
    | some p =>
      refine map_modify_comm_at _ _ _ _ _ fun row hr => ?_
      obtain ⟨sl, hsl, rfl⟩ := hrow hr
      -- the first free automation is the first empty entry: an unused automation is bound to nothing
      rw [firstNone_map sl.autos 0 fun au hau => good_used_iff A au (ha sl (List.mem_of_getElem? hsl) au hau)]
      cases hff : firstFree sl.autos 0 with
      | some j => exact map_modify_set_at _ _ _ _ _ fun au hau => hf p sl j au hp hsl hff hau
      | none => rfl
  | setPath s j path port =>
    simp only [autosStep, absBind]
    split
    · rfl
    · rename_i hneg
      cases hp : portUsable port with
      | none => rfl
      | some p =>
        refine map_modify_comm_at _ _ _ _ _ fun row hr => ?_
        obtain ⟨sl, hsl, rfl⟩ := hrow hr
        exact map_modify_set_at _ _ _ _ _ fun au hau => hf p sl au hneg hp hsl hau
  | clearSlot s =>
    simp only [autosStep, absBind]
    split
    · rfl
    · exact map_modify_comm_at _ _ _ _ _ fun row _ => by simp [List.map_map, Function.comp_def, Automation.clear]
  | clearSub s j =>
    simp only [autosStep, subFn, absBind]
    split
    · rfl
    · exact map_modify_comm_at _ _ _ _ _ fun row _ =>
        map_modify_comm_at Automation.bound _ (fun _ => none) row _ fun _ _ => rfl
  | gain s j x =>
    simp only [autosStep, subFn, absBind]
    split
    · rfl
    · exact map_modify_inv _ _ (fun row => map_modify_inv Automation.bound
        (fun au => Automation.remap A { au with gain := x }) (fun _ => rfl) row _) _ _
  | offset s j x =>
    simp only [autosStep, subFn, absBind]
    split
    · rfl
    · exact map_modify_inv _ _ (fun row => map_modify_inv Automation.bound
        (fun au => Automation.remap A { au with offset := x }) (fun _ => rfl) row _) _ _
  | setSlot s x => rfl
  | setSub s j x => rfl
  | midi c t v => rfl

theorem boundsOf_init (A : Arith F) (n p : Nat) :
    boundsOf (Mgr.init A n p) = List.replicate n (List.replicate p none) := by
  simp [boundsOf, Mgr.init, Slot.init, Automation.init]

end Rtosc.Auto
