/-
  C06 — the sequential ThreadLink model refines the bounded FIFO with lookahead cursor.
  The invariant is phrased like the concurrent one: `P` = every message accepted so far,
  `C` = how many were consumed, `L` = position of the lookahead cursor.  What the bounded FIFO
  holding `P` with the cursors `(C, L)` answers (`qAt`, `queue_cursor`, `queue_hasNext`) is stated
  here once, for this refinement and for `conc_cursor_is_queue` of Props/C06.lean.
-/
import RtoscModel.Proofs.RingLemmas
namespace Rtosc.Ring
open Rtosc

theorem Framing.self {frame : Bytes → Nat} {IsMsg : Bytes → Prop} (fr : Framing frame IsMsg) {m : Bytes}
    (h : IsMsg m) : frame m = m.length := by
  have := fr.msg m [] h
  rwa [List.append_nil] at this

/-- the message the view `[X, j)` of the published messages starts with (`[]` if it is empty) -/
def headAt (P : List Bytes) (j X : Nat) : Bytes := ((P.take j)[X]?).getD []

theorem headAt_lt {P : List Bytes} {j X : Nat} (h : X < j) (hj : j ≤ P.length) :
    headAt P j X = P[X]'(by omega) := by
  unfold headAt
  rw [List.getElem?_take, if_pos h, List.getElem?_eq_getElem (by omega)]; rfl

theorem headAt_ge {P : List Bytes} {j X : Nat} (h : j ≤ X) : headAt P j X = [] := by
  unfold headAt
  rw [List.getElem?_take, if_neg (by omega)]; rfl

/-- the framing function applied to the ring view `[X, j)` of the messages `P` (read with the write index standing at
    message `j`) returns the length of message `X`, 0 if the view is empty; the view lies inside the block -/
theorem frame_view_of_holds {frame : Bytes → Nat} {IsMsg : Bytes → Prop} (fr : Framing frame IsMsg)
    {b infl : Bytes} {P : List Bytes} {N lo hi X j : Nat} (hN : 0 < N) (hb : b.length = N)
    (hP : ∀ m, m ∈ P → IsMsg m) (h : Holds b N (P.flatten ++ infl) lo hi) (hlo : lo ≤ offs P X)
    (hXj : X ≤ j) (hj : j ≤ P.length) (hhi : offs P j ≤ hi) (hs : hi ≤ (P.flatten ++ infl).length)
    (hwin : offs P j + 1 ≤ offs P X + N) {d0 d1 : Bytes} {ok : Bool}
    (hrv : readVector b N (offs P j % N) (offs P X % N) = (d0, d1, ok)) :
    ok = true ∧ frame (d0 ++ d1) = (headAt P j X).length := by
  have ho2 : offs P X ≤ offs P j := offs_mono hXj
  have hview := readVector_holds (A := offs P X) (V := offs P j - offs P X) hN hb (by omega)
    (h.mono hlo (by omega)) (by omega)
  rw [Nat.add_sub_of_le ho2, stream_view _ hXj, hrv] at hview
  refine ⟨hview.1, ?_⟩
  rw [hview.2]
  by_cases hlt : X < j
  · rw [headAt_lt hlt hj, view_head hlt hj]
    exact fr.msg _ _ (hP _ (List.getElem_mem _))
  · rw [List.drop_eq_nil_of_le (by rw [List.length_take]; omega), headAt_ge (by omega)]
    exact Nat.le_zero.mp (fr.le [])

theorem copyIn_spec {buf strm data : Bytes} {N lo hi : Nat} (hN : 0 < N) (hb : buf.length = N)
    (h : Holds buf N strm lo hi) (hsp : hi + data.length + 1 ≤ lo + N) (hlo : lo ≤ hi)
    (hsrc : ∀ i, i < data.length → data.getD i 0 = strm.getD (hi + i) 0) :
    (copyIn buf N (hi % N) data).2 = true ∧ (copyIn buf N (hi % N) data).1.length = N ∧
    Holds (copyIn buf N (hi % N) data).1 N strm lo (hi + data.length) := by
  unfold copyIn
  simp only
  rcases transfer_cases (A := hi) (len := data.length) hN (by omega) with
    ⟨hnw, hfit, hpos⟩ | ⟨a, c, hw, ha, hd, hNa, hpos1, hpos2⟩
  · rw [if_neg hnw]
    have hok : hi % N + data.length ≤ buf.length := by omega
    exact ⟨blit_snd hok, by rw [blit_length hok, hb], Holds.blit h hb (by omega) (by omega) hpos hsrc⟩
  · rw [if_pos hw, ha]
    have hl1 : (data.take a).length = a := by rw [List.length_take, hd]; omega
    have hl2 : (data.drop a).length = c := by rw [List.length_drop, hd, Nat.add_sub_cancel_left]
    have hok1 : hi % N + (data.take a).length ≤ buf.length := by omega
    have h1 := Holds.blit (src := data.take a) (off := hi % N) h hb (by omega) (by omega) (by rwa [hl1])
      (fun i hi' => by rw [getD_take' (by omega)]; exact hsrc i (by omega))
    have hb1 := (blit_length hok1).trans hb
    rw [hl1] at h1
    have hok2 : 0 + (data.drop a).length ≤ (blit buf (hi % N) (data.take a)).1.length := by omega
    have h2 := Holds.blit (src := data.drop a) (off := 0) h1 hb1 (by omega) (by omega) (by rwa [hl2])
      (fun i hi' => by rw [getD_drop', Nat.add_assoc]; exact hsrc _ (by omega))
    rw [hl2, Nat.add_assoc, ← hd] at h2
    exact ⟨by simp only [blit_snd hok1, blit_snd hok2, Bool.and_self], by rw [blit_length hok2, hb1], h2⟩

theorem copyOut_spec {buf rbuf strm : Bytes} {N lo hi A len : Nat} (hN : 0 < N) (hb : buf.length = N)
    (h : Holds buf N strm lo hi) (hlo : lo ≤ A) (hhi : A + len ≤ hi) (hs : hi ≤ strm.length)
    (hlen : len + 1 ≤ N) (hr : len ≤ rbuf.length) :
    (copyOut buf rbuf N (A % N) len).2 = true ∧
    (copyOut buf rbuf N (A % N) len).1.length = rbuf.length ∧
    (copyOut buf rbuf N (A % N) len).1.take len = (strm.drop A).take len := by
  have hcl : ∀ p n, p + n ≤ hi → ((strm.drop p).take n).length = n := fun p n hp => by
    rw [List.length_take, List.length_drop]; omega
  unfold copyOut
  simp only
  rcases transfer_cases (A := A) hN hlen with ⟨hnw, hfit, hpos⟩ | ⟨a, c, hw, ha, rfl, hNa, hpos1, hpos2⟩
  · rw [if_neg hnw, slice_holds (p := A) hb h hlo hhi hs (by omega) hpos]
    have hok : 0 + ((strm.drop A).take len).length ≤ rbuf.length := by rw [hcl A len hhi]; omega
    have ht := blit_take hok
    rw [hcl _ _ hhi, Nat.zero_add] at ht
    exact ⟨by simp only [blit_snd hok, Bool.and_self], blit_length hok, ht⟩
  · rw [if_pos hw, ha, Nat.add_sub_cancel_left,
      slice_holds (p := A) hb h hlo (by omega) hs (by omega) hpos1,
      slice_holds (p := A + a) hb h (by omega) (by omega) hs (by omega) hpos2]
    have ha' := hcl A a (by omega)
    have hc' := hcl (A + a) c (by omega)
    have hok1 : 0 + ((strm.drop A).take a).length ≤ rbuf.length := by rw [ha']; omega
    have hl1 := blit_length hok1
    have ht1 := blit_take hok1
    rw [ha', Nat.zero_add] at ht1
    have hok2 : a + ((strm.drop (A + a)).take c).length ≤ (blit rbuf 0 ((strm.drop A).take a)).1.length := by
      rw [hc', hl1]; exact hr
    have ht2 := blit_take hok2
    rw [hc', ht1, List.take_zero, List.nil_append, take_drop_append] at ht2
    exact ⟨by simp only [blit_snd hok1, blit_snd hok2, Bool.and_self], by rw [blit_length hok2, hl1], ht2⟩

theorem copyOut_zero {buf rbuf : Bytes} {N x : Nat} (hx : x < N) (hb : buf.length = N) :
    copyOut buf rbuf N x 0 = (rbuf, true) := by
  unfold copyOut
  simp only [Nat.add_zero, Nat.mod_eq_of_lt hx, Nat.lt_irrefl, if_false]
  rw [slice_ok (by omega)]
  simp only [List.take_zero]
  rw [blit_nil (by omega)]
  rfl

/-- `P` = every message accepted so far, `C` of them consumed, lookahead cursor at `L`.  Absolute positions: the
    writer is at `P.flatten.length`, the reader at `offs P C`; the ring offsets are these modulo `size`. -/
structure SInv (IsMsg : Bytes → Prop) (s : Seq) (P : List Bytes) (C L : Nat) :
    Prop where
  hN : 0 < s.size
  hbuf : s.buf.length = s.size
  hrbuf : s.rbuf.length = s.maxMsg
  hfault : s.fault = false
  hP : ∀ m, m ∈ P → IsMsg m ∧ m.length ≤ s.maxMsg
  hCL : C ≤ L
  hL : L ≤ P.length
  hw : s.w = P.flatten.length % s.size
  hr : s.r = offs P C % s.size
  hla : s.la = offs P L % s.size
  /-- the unconsumed bytes fit, and one byte stays free -/
  hspace : P.flatten.length + 1 ≤ offs P C + s.size
  /-- the ring holds the unconsumed bytes -/
  hcontent : Holds s.buf s.size P.flatten (offs P C) P.flatten.length

/-- `curStep` is the cursor arithmetic of `Q.step`, and the message at the cursor is what the
    bounded FIFO returns: a `read`/`read_lookahead` of the queue holding `P` with cursors `(C, L)`
    returns `P[C]?` / `P[L]?` and leaves the queue holding `P` with the cursors `curStep` computes
    from that result. -/
theorem queue_cursor (cap maxMsg : Nat) (P : List Bytes) (hne : ∀ m ∈ P, m ≠ []) (C L : Nat)
    (hCL : C ≤ L) (l : Bool) :
    Q.step (qAt cap maxMsg P (C, L)) (ropOp l) =
      (qAt cap maxMsg P (curStep (C, L) (.read l ((P[if l = true then L else C]?).getD []))),
       .msg P[if l = true then L else C]?) := by
  cases l with
  | false =>
    simp only [ropOp, Bool.false_eq_true, if_false, Q.step, qAt]
    by_cases hC : C < P.length
    · have hm : P[C] ≠ [] := hne _ (List.getElem_mem hC)
      rw [List.drop_eq_getElem_cons hC, List.getElem?_eq_getElem hC]
      simp [curStep, hm]
    · have hd : P.drop C = [] := List.drop_eq_nil_of_le (by omega)
      rw [hd, List.getElem?_eq_none (by omega)]
      simp [curStep, hd]
  | true =>
    simp only [ropOp, if_true, Q.step, qAt]
    have hget : (P.drop C)[L - C]? = P[L]? := by
      rw [List.getElem?_drop]; congr 1; omega
    rw [hget]
    by_cases hLlt : L < P.length
    · have hm : P[L] ≠ [] := hne _ (List.getElem_mem hLlt)
      rw [List.getElem?_eq_getElem hLlt]
      simp only [Option.getD_some, curStep, hm, if_false]
      congr 2; omega
    · rw [List.getElem?_eq_none (by omega)]
      simp [curStep]

theorem queue_hasNext (cap maxMsg : Nat) (P : List Bytes) (C L : Nat) (hCL : C ≤ L) (l : Bool) :
    (Q.step (qAt cap maxMsg P (C, L)) (if l = true then .hasNextLookahead else .hasNext)).2 =
      .bool (decide ((if l = true then L else C) < P.length)) := by
  cases l with
  | false =>
    simp only [Bool.false_eq_true, if_false, Q.step, qAt]
    by_cases hC : C < P.length
    · rw [List.drop_eq_getElem_cons hC]; simp [hC]
    · rw [List.drop_eq_nil_of_le (by omega)]; simp [hC]
  | true =>
    simp only [if_true, Q.step, qAt, List.length_drop]
    congr 1
    apply decide_eq_decide.mpr
    omega

/-- the abstract queue a ring state stands for -/
def absQ (s : Seq) (P : List Bytes) (C L : Nat) : Q := qAt (s.size - 1) s.maxMsg P (C, L)

theorem flatten_drop_length (P : List Bytes) (C : Nat) :
    (P.drop C).flatten.length = P.flatten.length - offs P C := by
  have : P.flatten = (P.take C).flatten ++ (P.drop C).flatten := by
    conv => lhs; rw [← List.take_append_drop C P]
    rw [List.flatten_append]
  rw [this, List.length_append]; unfold offs; omega

theorem SInv.writeSize {IsMsg s P C L} (inv : SInv IsMsg s P C L) :
    Ring.writeSize s.w s.r s.size + P.flatten.length = s.size - 1 + offs P C := by
  rw [inv.hw, inv.hr]
  exact writeSize_of_le inv.hN (offs_le_total P C) inv.hspace

theorem ringWrite_nil {s : Seq} (hw : s.w < s.size) (hb : s.buf.length = s.size) :
    s.ringWrite [] = s := by
  unfold Seq.ringWrite copyIn
  simp only [List.length_nil, Nat.add_zero, Nat.mod_eq_of_lt hw, Nat.lt_irrefl, if_false]
  rw [blit_nil (by omega)]
  cases s; simp

theorem ringWrite_inv {IsMsg s P C L} {data : Bytes} (inv : SInv IsMsg s P C L)
    (hd : IsMsg data ∧ data.length ≤ s.maxMsg) (hfit : Ring.writeSize s.w s.r s.size ≥ data.length) :
    SInv IsMsg (s.ringWrite data) (P ++ [data]) C L := by
  have hN := inv.hN
  have hws := inv.writeSize
  have hoffC := offs_le_total P C
  have hCP : C ≤ P.length := Nat.le_trans inv.hCL inv.hL
  have hfl : (P ++ [data]).flatten = P.flatten ++ data := by simp
  have hspec := copyIn_spec (strm := P.flatten ++ data) (lo := offs P C) (hi := P.flatten.length)
    (data := data) hN inv.hbuf
    (by intro i h1 h2; rw [getD_append_left' h2]; exact inv.hcontent i h1 h2)
    (by omega) hoffC
    (by intro i hi; rw [getD_append_right' (by omega)]; congr 1; omega)
  rw [← inv.hw] at hspec
  unfold Seq.ringWrite
  generalize copyIn s.buf s.size s.w data = bo at hspec
  obtain ⟨b, ok⟩ := bo
  simp only at hspec ⊢
  obtain ⟨hok, hbl, hh⟩ := hspec
  exact { inv with
    hbuf := hbl
    hfault := by show (s.fault || !ok) = false; rw [inv.hfault, hok]; rfl
    hP := List.forall_mem_append.mpr ⟨inv.hP, List.forall_mem_singleton.mpr hd⟩
    hL := by rw [List.length_append]; simp; exact Nat.le_succ_of_le inv.hL
    hw := by show (s.w + data.length) % s.size = _; rw [hfl, List.length_append, inv.hw, Nat.mod_add_mod]
    hr := by rw [offs_append [data] hCP]; exact inv.hr
    hla := by rw [offs_append [data] inv.hL]; exact inv.hla
    hspace := by rw [offs_append [data] hCP, hfl, List.length_append]; show _ ≤ _ + s.size; omega
    hcontent := by rw [offs_append [data] hCP, hfl, List.length_append]; exact hh }

/-- what a read finds at message index `X` (`X = C` for `read`, `X = L` for `read_lookahead`) -/
theorem read_core {frame : Bytes → Nat} {IsMsg : Bytes → Prop} (fr : Framing frame IsMsg)
    {s : Seq} {P : List Bytes} {C L : Nat} (inv : SInv IsMsg s P C L) (la : Bool) :
    (∃ hx : (if la = true then L else C) < P.length,
        (s.read frame la).2 = P[if la = true then L else C].length ∧
        (s.read frame la).1.rbuf.take (s.read frame la).2 = P[if la = true then L else C] ∧
        SInv IsMsg (s.read frame la).1 P (if la = true then C else C + 1)
          ((if la = true then L else C) + 1)) ∨
    ((if la = true then L else C) = P.length ∧ (s.read frame la).2 = 0 ∧
        SInv IsMsg (s.read frame la).1 P C (if la = true then L else C)) := by
  have hN := inv.hN
  have hCP : C ≤ P.length := Nat.le_trans inv.hCL inv.hL
  have hXC : C ≤ (if la = true then L else C) := by split; exact inv.hCL; exact Nat.le_refl _
  have hXP : (if la = true then L else C) ≤ P.length := by split; exact inv.hL; exact hCP
  have hxX : (if la = true then s.la else s.r) = offs P (if la = true then L else C) % s.size := by
    cases la
    · simpa using inv.hr
    · simpa using inv.hla
  unfold Seq.read
  generalize hXdef : (if la = true then L else C) = X at *
  generalize hxdef : (if la = true then s.la else s.r) = x at *
  have ho1 : offs P C ≤ offs P X := offs_mono hXC
  have hsp := inv.hspace
  have hxlt : x < s.size := by rw [hxX]; exact Nat.mod_lt _ hN
  rcases hrv : readVector s.buf s.size s.w x with ⟨d0, d1, ok⟩
  obtain ⟨rfl, hlen⟩ := frame_view_of_holds (infl := []) (j := P.length) (d0 := d0) (d1 := d1) (ok := ok) fr hN inv.hbuf
    (fun m hm => (inv.hP m hm).1) (by rw [List.append_nil]; exact inv.hcontent) ho1 hXP (Nat.le_refl _)
    (by rw [offs_length]; exact Nat.le_refl _) (by rw [List.append_nil]; exact Nat.le_refl _)
    (by rw [offs_length]; omega) (by rw [offs_length, ← inv.hw, ← hxX]; exact hrv)
  simp only [hrv]
  by_cases hXlt : X < P.length
  · left
    refine ⟨hXlt, ?_⟩
    rw [hlen, headAt_lt hXlt (Nat.le_refl _)]
    have htot := getElem_length_le_total hXlt
    have hmx := (inv.hP _ (List.getElem_mem hXlt)).2
    have hco := copyOut_spec (rbuf := s.rbuf) (A := offs P X) (len := P[X].length) hN inv.hbuf inv.hcontent
      ho1 htot (Nat.le_refl _) (by omega) (by rw [inv.hrbuf]; exact hmx)
    rw [← hxX, flatten_drop_offs hXlt, List.take_left' rfl] at hco
    unfold Seq.ringRead
    rw [hxdef]
    rcases hro : copyOut s.buf s.rbuf s.size x P[X].length with ⟨rb, rok⟩
    rw [hro] at hco
    simp only [hro] at hco ⊢
    obtain ⟨hrok, hrl, hrt⟩ := hco
    subst hrok
    have hnext : (x + P[X].length) % s.size = offs P (X + 1) % s.size := by
      rw [hxX, Nat.mod_add_mod, offs_succ hXlt]
    cases la with
    | false =>
      simp only [Bool.false_eq_true, if_false] at hXdef hxdef ⊢
      subst hXdef
      refine ⟨trivial, hrt, ?_⟩
      exact { inv with
        hrbuf := by show rb.length = _; rw [hrl]; exact inv.hrbuf
        hfault := by show (s.fault || !true || !true) = false; rw [inv.hfault]; rfl
        hCL := Nat.le_refl _, hL := hXlt, hr := hnext, hla := hnext
        hspace := by rw [offs_succ hXlt]; show _ ≤ _ + s.size; omega
        hcontent := inv.hcontent.mono (by rw [offs_succ hXlt]; omega) (Nat.le_refl _) }
    | true =>
      simp only [if_true] at hXdef hxdef ⊢
      subst hXdef
      refine ⟨trivial, hrt, ?_⟩
      exact { inv with
        hrbuf := by show rb.length = _; rw [hrl]; exact inv.hrbuf
        hfault := by show (s.fault || !true || !true) = false; rw [inv.hfault]; rfl
        hCL := Nat.le_succ_of_le inv.hCL, hL := hXlt, hla := hnext }
  · right
    have hXeq : X = P.length := by omega
    refine ⟨hXeq, ?_⟩
    rw [hlen, headAt_ge (Nat.le_of_eq hXeq.symm), List.length_nil]
    unfold Seq.ringRead
    simp only [hxdef, copyOut_zero hxlt inv.hbuf, Nat.add_zero, Nat.mod_eq_of_lt hxlt]
    refine ⟨trivial, ?_⟩
    cases la with
    | false =>
      simp only [Bool.false_eq_true, if_false] at hXdef hxdef ⊢
      subst hXdef; subst hxdef
      exact { inv with
        hfault := by show (s.fault || !true || !true) = false; rw [inv.hfault]; rfl
        hCL := Nat.le_refl _, hL := hCP, hla := inv.hr }
    | true =>
      simp only [if_true] at hXdef hxdef ⊢
      subst hXdef; subst hxdef
      exact { inv with
        hfault := by show (s.fault || !true || !true) = false; rw [inv.hfault]; rfl }

theorem Op.Ok.of_mem_replicate {IsMsg : Bytes → Prop} {k : Nat} {op : Op} (hop : op.Ok IsMsg) :
    ∀ o, o ∈ List.replicate k op → o.Ok IsMsg :=
  fun _ ho => (List.mem_replicate.mp ho).2 ▸ hop

theorem ringWrite_size (s : Seq) (d : Bytes) :
    (s.ringWrite d).size = s.size ∧ (s.ringWrite d).maxMsg = s.maxMsg := by
  unfold Seq.ringWrite
  rcases copyIn s.buf s.size s.w d with ⟨b, -⟩
  exact ⟨rfl, rfl⟩

theorem read_size (frame : Bytes → Nat) (s : Seq) (la : Bool) :
    (s.read frame la).1.size = s.size ∧ (s.read frame la).1.maxMsg = s.maxMsg := by
  unfold Seq.read Seq.ringRead
  rcases readVector s.buf s.size s.w (if la = true then s.la else s.r) with ⟨d0, d1, -⟩
  simp only
  rcases copyOut s.buf s.rbuf s.size (if la = true then s.la else s.r) (frame (d0 ++ d1)) with ⟨-, -⟩
  cases la <;> exact ⟨rfl, rfl⟩

theorem SInv.fits_iff {IsMsg s P C L} (inv : SInv IsMsg s P C L) (m : Bytes) :
    (absQ s P C L).fits m = true ↔
      m.length ≤ s.maxMsg ∧ Ring.writeSize s.w s.r s.size ≥ m.length := by
  have hws := inv.writeSize
  have hoff := offs_le_total P C
  unfold Q.fits Q.used absQ qAt
  simp only [flatten_drop_length, Bool.and_eq_true, decide_eq_true_eq]
  constructor
  · rintro ⟨h1, h2⟩; exact ⟨h1, by omega⟩
  · rintro ⟨h1, h2⟩; exact ⟨h1, by omega⟩

theorem SInv.readSize_ne_zero {frame : Bytes → Nat} {IsMsg : Bytes → Prop} (fr : Framing frame IsMsg)
    {s P C L} (inv : SInv IsMsg s P C L) {X x : Nat} (hCX : C ≤ X) (hXP : X ≤ P.length)
    (hx : x = offs P X % s.size) : Ring.readSize s.w x s.size ≠ 0 ↔ X < P.length := by
  have ho1 : offs P C ≤ offs P X := offs_mono hCX
  have hsp := inv.hspace
  rw [inv.hw, hx]
  exact readSize_ne_zero_iff (fun m hm => fr.ne m (inv.hP m hm).1) inv.hN hXP (by omega)

theorem put_refines {IsMsg : Bytes → Prop} {s P C L}
    (inv : SInv IsMsg s P C L) (m : Bytes) (hm : IsMsg m) :
    ∃ P', SInv IsMsg
        (if m.length ≤ s.maxMsg ∧ Ring.writeSize s.w s.r s.size ≥ m.length then s.ringWrite m else s) P' C L ∧
      (absQ s P C L).write m =
        absQ (if m.length ≤ s.maxMsg ∧ Ring.writeSize s.w s.r s.size ≥ m.length then s.ringWrite m else s) P' C L := by
  have hCP : C ≤ P.length := Nat.le_trans inv.hCL inv.hL
  unfold Q.write
  by_cases hf : m.length ≤ s.maxMsg ∧ Ring.writeSize s.w s.r s.size ≥ m.length
  · rw [if_pos hf, if_pos ((inv.fits_iff m).mpr hf)]
    refine ⟨P ++ [m], ringWrite_inv inv ⟨hm, hf.1⟩ hf.2, ?_⟩
    unfold absQ qAt
    rw [(ringWrite_size s m).1, (ringWrite_size s m).2, List.drop_append_of_le_length hCP]
  · rw [if_neg hf, if_neg (by rw [inv.fits_iff m]; exact hf)]
    exact ⟨P, inv, rfl⟩

theorem read_refines {frame : Bytes → Nat} {IsMsg : Bytes → Prop} (fr : Framing frame IsMsg)
    {s : Seq} {P : List Bytes} {C L : Nat} (inv : SInv IsMsg s P C L) (l : Bool) :
    ∃ C' L', SInv IsMsg (s.read frame l).1 P C' L' ∧
      (absQ s P C L).step (ropOp l) =
        (absQ (s.read frame l).1 P C' L', msgOut (s.read frame l).1.rbuf (s.read frame l).2) := by
  have hsz := read_size frame s l
  rw [absQ, queue_cursor _ _ P (fun m hm => fr.ne m (inv.hP m hm).1) C L inv.hCL l]
  rcases read_core fr inv l with ⟨hx, hlen, hrb, hinv⟩ | ⟨hx, hlen, hinv⟩
  · have hne : P[if l = true then L else C] ≠ [] := fr.ne _ (inv.hP _ (List.getElem_mem hx)).1
    have hl0 : (s.read frame l).2 ≠ 0 := by
      rw [hlen]; exact Nat.ne_of_gt (List.length_pos_iff.mpr hne)
    refine ⟨_, _, hinv, ?_⟩
    rw [absQ, hsz.1, hsz.2, msgOut, if_neg hl0, hrb, List.getElem?_eq_getElem hx]
    cases l <;> simp only [Bool.false_eq_true, if_false, if_true] at hne ⊢ <;> simp [curStep, hne]
  · refine ⟨_, _, hinv, ?_⟩
    rw [absQ, hsz.1, hsz.2, msgOut, if_pos hlen, List.getElem?_eq_none (Nat.le_of_eq hx.symm)]
    cases l <;> simp [curStep]

theorem hasNext_refines {frame : Bytes → Nat} {IsMsg : Bytes → Prop} (fr : Framing frame IsMsg)
    {s : Seq} {P : List Bytes} {C L : Nat} (inv : SInv IsMsg s P C L) (l : Bool) :
    ((absQ s P C L).step (if l = true then .hasNextLookahead else .hasNext)).2 = .bool (s.hasNext l) := by
  rw [absQ, queue_hasNext _ _ P C L inv.hCL l]
  congr 1
  unfold Seq.hasNext
  apply decide_eq_decide.mpr
  cases l
  · exact (inv.readSize_ne_zero fr (Nat.le_refl _) (Nat.le_trans inv.hCL inv.hL) inv.hr).symm
  · exact (inv.readSize_ne_zero fr inv.hCL inv.hL inv.hla).symm

theorem step_refines {frame : Bytes → Nat} {IsMsg : Bytes → Prop} (fr : Framing frame IsMsg)
    {s : Seq} {P : List Bytes} {C L : Nat} (inv : SInv IsMsg s P C L) (op : Op)
    (hop : op.Ok IsMsg) :
    ∃ P' C' L', SInv IsMsg (s.step frame op).1 P' C' L' ∧
      (absQ s P C L).step op = (absQ (s.step frame op).1 P' C' L', (s.step frame op).2) := by
  have hwlt : s.w < s.size := by rw [inv.hw]; exact Nat.mod_lt _ inv.hN
  cases op with
  | write m =>
    have hm : IsMsg m := hop
    obtain ⟨P', h1, h2⟩ := put_refines inv m hm
    simp only [Seq.step, Q.step, Seq.write]
    by_cases hmx : m.length ≤ s.maxMsg
    · simp only [hmx, if_true, true_and] at h1 h2 ⊢
      exact ⟨P', C, L, h1, by rw [h2]⟩
    · simp only [hmx, if_false, false_and] at h1 h2 ⊢
      simp only [List.length_nil, ge_iff_le, Nat.zero_le, if_true]
      rw [ringWrite_nil hwlt inv.hbuf]
      exact ⟨P', C, L, h1, by rw [h2]⟩
  | rawWrite b =>
    have hm : IsMsg b := hop
    have e : frame b = b.length := fr.self hm
    obtain ⟨P', h1, h2⟩ := put_refines inv b hm
    simp only [Seq.step, Q.step, Seq.rawWrite, e, List.take_length]
    exact ⟨P', C, L, h1, by rw [h2]⟩
  | hasNext => exact ⟨P, C, L, inv, Prod.ext rfl (hasNext_refines fr inv false)⟩
  | hasNextLookahead => exact ⟨P, C, L, inv, Prod.ext rfl (hasNext_refines fr inv true)⟩
  | read =>
    obtain ⟨C', L', h1, h2⟩ := read_refines fr inv false
    exact ⟨P, C', L', h1, h2⟩
  | readLookahead =>
    obtain ⟨C', L', h1, h2⟩ := read_refines fr inv true
    exact ⟨P, C', L', h1, h2⟩

theorem run_refines {frame : Bytes → Nat} {IsMsg : Bytes → Prop} (fr : Framing frame IsMsg)
    (ops : List Op) : ∀ (s : Seq) (P : List Bytes) (C L : Nat), SInv IsMsg s P C L →
    (∀ op, op ∈ ops → op.Ok IsMsg) →
    ∃ P' C' L', SInv IsMsg (Seq.run frame s ops).1 P' C' L' ∧
      Q.run (absQ s P C L) ops = (absQ (Seq.run frame s ops).1 P' C' L', (Seq.run frame s ops).2) := by
  induction ops with
  | nil => intro s P C L inv _; exact ⟨P, C, L, inv, rfl⟩
  | cons op ops ih =>
    intro s P C L inv hops
    obtain ⟨P1, C1, L1, inv1, h1⟩ := step_refines fr inv op (hops op List.mem_cons_self)
    obtain ⟨P2, C2, L2, inv2, h2⟩ := ih (s.step frame op).1 P1 C1 L1 inv1
      (fun o ho => hops o (List.mem_cons_of_mem _ ho))
    refine ⟨P2, C2, L2, ?_, ?_⟩
    · simpa [Seq.run] using inv2
    · simp only [Q.run, Seq.run, h1, h2]

theorem init_sinv {IsMsg : Bytes → Prop} (maxMsg nmsgs : Nat)
    (hN : 0 < maxMsg * nmsgs) : SInv IsMsg (Seq.init maxMsg nmsgs) [] 0 0 := by
  exact {
    hN := hN, hbuf := by simp [Seq.init], hrbuf := by simp [Seq.init], hfault := rfl
    hP := by intro m hm; cases hm
    hCL := Nat.le_refl _, hL := Nat.le_refl _
    hw := by simp [Seq.init], hr := by simp [Seq.init, offs], hla := by simp [Seq.init, offs]
    hspace := by simp [Seq.init, offs]; omega
    hcontent := by intro i _ h2; simp at h2 }

theorem absQ_init (maxMsg nmsgs : Nat) : absQ (Seq.init maxMsg nmsgs) [] 0 0 = Q.init maxMsg nmsgs := rfl

theorem Q.la_run_items (k : Nat) : ∀ q : Q,
    (Q.run q (List.replicate k .readLookahead)).1.items = q.items ∧
    (Q.run q (List.replicate k .readLookahead)).1.cap = q.cap ∧
    (Q.run q (List.replicate k .readLookahead)).1.maxMsg = q.maxMsg := by
  induction k with
  | zero => intro q; exact ⟨rfl, rfl, rfl⟩
  | succ k ih =>
    intro q
    simp only [List.replicate_succ, Q.run, Q.step]
    cases h : q.items[q.la]? with
    | none => simpa using ih q
    | some m => simpa using ih { q with la := q.la + 1 }

theorem Q.la_outs (k : Nat) : ∀ q : Q,
    (Q.run q (List.replicate k .readLookahead)).2 =
      (Q.run { q with items := q.items.drop q.la, la := 0 } (List.replicate k .read)).2 := by
  induction k with
  | zero => intro q; rfl
  | succ k ih =>
    intro q
    simp only [List.replicate_succ, Q.run, Q.step]
    cases h : q.items[q.la]? with
    | none =>
      have hle : q.items.length ≤ q.la := List.getElem?_eq_none_iff.mp h
      have hd : q.items.drop q.la = [] := List.drop_eq_nil_of_le hle
      simp only [hd]
      rw [ih q, hd]
    | some m =>
      obtain ⟨hlt, hm⟩ := List.getElem?_eq_some_iff.mp h
      have hd : q.items.drop q.la = m :: q.items.drop (q.la + 1) := by
        rw [List.drop_eq_getElem_cons hlt, hm]
      simp only [hd]
      rw [ih { q with la := q.la + 1 }]

theorem Q.read_outs_la (k : Nat) (q : Q) (a : Nat) :
    (Q.run { q with la := a } (List.replicate k .read)).2 = (Q.run q (List.replicate k .read)).2 := by
  cases k with
  | zero => rfl
  | succ k =>
    simp only [List.replicate_succ, Q.run, Q.step]

theorem Q.read_outs (k : Nat) : ∀ q : Q,
    (Q.run q (List.replicate k .read)).2 = (List.range k).map fun i => Out.msg q.items[i]? := by
  induction k with
  | zero => intro q; rfl
  | succ k ih =>
    intro q
    rw [List.range_succ_eq_map]
    simp only [List.replicate_succ, Q.run, Q.step, List.map_cons, List.map_map]
    cases h : q.items with
    | nil =>
      simp only [List.getElem?_nil, List.cons.injEq, true_and]
      rw [ih]; simp
    | cons m t =>
      simp only [List.getElem?_cons_zero, List.cons.injEq, true_and]
      rw [ih]
      apply List.map_congr_left
      intro i _
      simp

end Rtosc.Ring
