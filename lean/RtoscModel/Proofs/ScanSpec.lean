/-
  C11 — from the specification (`Pretty/C11Spec.lean`) to the proof interface: `Tok.proved` names the spellings
  for which per-token agreement is proved (`valOK_tok`); `plainFrom` / `provedFrom` the sentences built from
  them (scalars only; with arrays and `nxA`: `SVal.proved`), with the cells and items they stand for.  These
  classes, cells and items are defined in `Pretty/C11ProvedSpec.lean`; here are their first lemmas.  That the
  text of such a sentence is a text of good arguments and denotes these cells follows from the wider class of
  `Proofs/ScanRangeArrSpec.lean` and stands there.
-/
import RtoscModel.Pretty.C11ProvedSpec
import RtoscModel.Proofs.ScanList
import RtoscModel.Proofs.ScanTokensInt
import RtoscModel.Proofs.PrettyTokBlob
import RtoscModel.Proofs.PrettyTokSym
import RtoscModel.Proofs.PrettyTokStr
import RtoscModel.Proofs.PrettyTokWord
import RtoscModel.Proofs.PrettyTokNum
namespace Rtosc.Pretty.C11
open Rtosc Rtosc.Libc Rtosc.Pretty
open Rtosc.ArgVal (Cell Item flatList)

/-- the separators of the bytes of a blob under a layout -/
def blobSeps (bl : List Nat → Blank) : Nat → Bytes → List (Bytes × UInt8)
  | _, [] => []
  | k, b :: r => (blank1Bytes (bl [k]), b) :: blobSeps bl (k + 1) r

theorem intText_dec (v : Int) : intText .dec v = fmtDec v := by
  simp only [intText, magText, fmtDec]
  split <;> simp

theorem scharVal_small (c : UInt8) (h : c ≤ 126) : scharVal c = (c.toNat : Int) := by
  revert h; revert c; apply UInt8.forall_of_fin; decide +kernel

/-- the bytes that have an escape sequence -/
def escapable : List UInt8 := [7, 8, 9, 10, 11, 12, 13, 92, 39, 0, 34]

theorem asEscapedChar_some (c : UInt8) (chr : Bool) (h : (asEscapedChar c chr).isSome = true) : c ∈ escapable := by
  apply Decidable.byContradiction
  intro hc
  simp only [escapable, List.mem_cons, List.not_mem_nil, or_false, not_or] at hc
  simp [asEscapedChar, hc] at h

theorem charEsc_facts (c : UInt8) (h : (asEscapedChar c true).isSome = true) :
    (getEscapedChar ((asEscapedChar c true).getD 63) true ≠ 0 ∨ (asEscapedChar c true).getD 63 = 48) ∧
    scharVal (getEscapedChar ((asEscapedChar c true).getD 63) true) = (c.toNat : Int) := by
  have table : ∀ c ∈ escapable, (asEscapedChar c true).isSome = true →
      (getEscapedChar ((asEscapedChar c true).getD 63) true ≠ 0 ∨ (asEscapedChar c true).getD 63 = 48) ∧
      scharVal (getEscapedChar ((asEscapedChar c true).getD 63) true) = (c.toNat : Int) := by decide +kernel
  exact table c (asEscapedChar_some c true h) h

theorem strEsc_facts (c : UInt8) (h : (asEscapedChar c false).isSome = true) :
    getEscapedChar ((asEscapedChar c false).getD 63) false ≠ 0 ∧
    getEscapedChar ((asEscapedChar c false).getD 63) false = c := by
  have table : ∀ c ∈ escapable, (asEscapedChar c false).isSome = true →
      getEscapedChar ((asEscapedChar c false).getD 63) false ≠ 0 ∧
      getEscapedChar ((asEscapedChar c false).getD 63) false = c := by decide +kernel
  exact table c (asEscapedChar_some c false h) h

theorem seg_part (p : List StrCh) (h : p.all StrCh.ok = true) :
    Seg (p.map StrCh.text).flatten (p.map StrCh.value) := by
  induction p with
  | nil => exact .nil
  | cons x r ih =>
    simp only [List.all_cons, Bool.and_eq_true] at h
    have ih' := ih h.2
    cases x with
    | raw c =>
      have hc := h.1
      simp only [StrCh.ok, Bool.and_eq_true, decide_eq_true_eq, ne_eq] at hc
      simpa [StrCh.text, StrCh.value] using Seg.plain c _ _ hc.1.2 hc.2 ih'
    | esc c =>
      have hc := h.1
      simp only [StrCh.ok] at hc
      obtain ⟨h0, hv⟩ := strEsc_facts c hc
      have := Seg.esc ((asEscapedChar c false).getD 63) _ _ h0 ih'
      rw [hv] at this
      simpa [StrCh.text, StrCh.value] using this

theorem upper_hex_char (c : UInt8) (h : isxdigit c = true) : isxdigit (toupper c) = true ∧ xval (toupper c) = xval c := by
  revert h; revert c; apply UInt8.forall_of_fin; decide +kernel

theorem upper_hex (ds : Bytes) (h : ∀ c ∈ ds, isxdigit c = true) :
    (∀ c ∈ ds.map toupper, isxdigit c = true) ∧ digitsVal 16 (ds.map toupper) = digitsVal 16 ds := by
  refine ⟨?_, ?_⟩
  · intro c hc
    simp only [List.mem_map] at hc
    obtain ⟨x, hx, rfl⟩ := hc
    exact (upper_hex_char x (h x hx)).1
  · unfold digitsVal
    suffices ∀ a : Nat, List.foldl (fun v c => v * 16 + xval c) a (ds.map toupper) =
        List.foldl (fun v c => v * 16 + xval c) a ds from this 0
    induction ds with
    | nil => intro a; rfl
    | cons c r ih =>
      intro a
      simp only [List.map_cons, List.foldl_cons, (upper_hex_char c (h c (by simp))).2]
      exact ih (fun x hx => h x (by simp [hx])) _

theorem allWs_blank (b : Blank) : AllWs (blankBytes b) := by
  intro c hc
  simp only [blankBytes, List.mem_map] at hc
  obtain ⟨w, _, rfl⟩ := hc
  exact isspace_ws w

theorem blankBytes_ne {b : Blank} (h : b ≠ []) : blankBytes b ≠ [] := by
  cases b with
  | nil => exact absurd rfl h
  | cons a r => simp [blankBytes]

theorem allWs_blank1 (b : Blank) : AllWs (blank1Bytes b) ∧ blank1Bytes b ≠ [] := by
  unfold blank1Bytes
  split
  · exact ⟨by intro c hc; simp at hc; subst hc; decide, by simp⟩
  · rename_i h
    exact ⟨allWs_blank b, blankBytes_ne (by simpa using h)⟩

theorem strBodyW_parts (bl : List Nat → Blank) : ∀ (parts : List (List StrCh)) (k : Nat), parts ≠ [] →
    parts.all (fun p => p.all StrCh.ok) = true →
    ∃ T, partsText bl k parts = 34 :: T ++ [34] ∧ StrBodyW T ((parts.flatten).map StrCh.value) := by
  intro parts
  induction parts with
  | nil => intro k h; exact absurd rfl h
  | cons p r ih =>
    intro k _ hall
    simp only [List.all_cons, Bool.and_eq_true] at hall
    have hseg := seg_part p hall.1
    cases r with
    | nil =>
      exact ⟨(p.map StrCh.text).flatten, by simp [partsText, partText], by simpa using StrBodyW.last _ _ hseg⟩
    | cons q r' =>
      obtain ⟨T', hT', hB'⟩ := ih (k + 1) (by simp) hall.2
      refine ⟨(p.map StrCh.text).flatten ++ 34 :: 92 :: blankBytes (bl [k]) ++ 34 :: T', ?_, ?_⟩
      · simp [partsText, partText, hT']
      · have := StrBodyW.brk _ _ (blankBytes (bl [k])) T' _ hseg (allWs_blank _) hB'
        simpa using this

theorem fmtHex2_mod (n : Nat) : fmtHex2 (n % 256) = [hexDigitChar (n / 16 % 16), hexDigitChar (n % 16)] := by
  have e1 : n % 256 / 16 % 16 = n / 16 % 16 := by
    rw [show 256 = 16 * 16 from rfl, Nat.mod_mul_right_div_self, Nat.mod_mod]
  rw [fmtHex2, e1, Nat.mod_mod_of_dvd n (by decide : 16 ∣ 256)]

theorem hex8_digits (v : Nat) : hexDigits8 v = hex8 v := by
  simp only [hexDigits8, hex8, fmtHex2_mod, Nat.div_div_eq_div_mul, Nat.reduceMul, List.cons_append, List.nil_append]

theorem blobSeps_body (bl : List Nat → Blank) : ∀ (k : Nat) (data : Bytes),
    blobBody (blobSeps bl k data) = blobBytesText bl k data ∧
    (blobSeps bl k data).map Prod.snd = data ∧ (blobSeps bl k data).length = data.length ∧
    ∀ p ∈ blobSeps bl k data, WSep p.1 := by
  intro k data
  induction data generalizing k with
  | nil => simp [blobSeps, blobBody, blobBytesText]
  | cons b r ih =>
    obtain ⟨h1, h2, h3, h4⟩ := ih (k + 1)
    refine ⟨?_, ?_, ?_, ?_⟩
    · simp [blobSeps, blobBody, blobBytesText, h1, hexByteText, fmtHex2]
    · simp [blobSeps, h2]
    · simp [blobSeps, h3]
    · intro p hp
      simp only [blobSeps, List.mem_cons] at hp
      rcases hp with rfl | hp
      · exact ⟨(allWs_blank1 _).2, (allWs_blank1 _).1⟩
      · exact h4 p hp

theorem fmtDec_nat (n : Nat) : fmtDec (n : Int) = fmtNat n := by
  unfold fmtDec
  have : ¬ ((n : Int) < 0) := by omega
  simp [this]

theorem valOK_hexMag (v : Int) (h1 : -2147483648 ≤ v) (h2 : v ≤ 2147483647) (ds : Bytes) (hne : ds ≠ [])
    (hall : ∀ c ∈ ds, isxdigit c = true) (hval : digitsVal 16 ds = v.natAbs) :
    ValOK (hexText (decide (v < 0)) ds) (Cell.int .i v) := by
  obtain ⟨d, ds, rfl⟩ := List.exists_cons_of_ne_nil hne
  have := valOK_hexText (decide (v < 0)) d ds hall (by rw [hval]; omega)
  have hv : (if decide (v < 0) = true then -(v.natAbs : Int) else (v.natAbs : Int)) = v := by
    by_cases h : v < 0 <;> simp only [h, decide_true, decide_false, ↓reduceIte, Bool.false_eq_true] <;> omega
  rwa [hval, hexVal, hv, toI32_id v h1 h2] at this

theorem valOK_tok_int (bl : List Nat → Blank) (v : Int) (base : IntBase) (sfx : Bool)
    (hwf : (Tok.int v base sfx).wf = true) (hp : (Tok.int v base sfx).proved bl = true) :
    ValOK ((Tok.int v base sfx).text bl) (Tok.int v base sfx).cell := by
  simp only [Tok.wf, Bool.and_eq_true, decide_eq_true_eq] at hwf
  obtain ⟨h1, h2⟩ := hwf
  cases base with
  | dec =>
    cases sfx with
    | false => simpa [Tok.text, Tok.cell, intText_dec] using valOK_int v h1 h2
    | true => simpa [Tok.text, Tok.cell, intText_dec] using valOK_int_i v h1 h2
  | hex =>
    cases sfx <;> simp [Tok.proved] at hp
    obtain ⟨d, ds, e, hall, hval⟩ := fmtHex_facts v.natAbs
    have := valOK_hexMag v h1 h2 (fmtHex v.natAbs) (by simp [e]) (e ▸ hall) (e ▸ hval)
    simpa [Tok.text, Tok.cell, intText, magText, hexText] using this
  | hexUp =>
    cases sfx <;> simp [Tok.proved] at hp
    obtain ⟨d, ds, e, hall, hval⟩ := fmtHex_facts v.natAbs
    obtain ⟨hall', hval'⟩ := upper_hex (fmtHex v.natAbs) (e ▸ hall)
    have := valOK_hexMag v h1 h2 ((fmtHex v.natAbs).map toupper) (by simp [e]) hall' (by rw [hval', e, hval])
    simpa [Tok.text, Tok.cell, intText, magText, hexText] using this
  | oct => cases sfx <;> simp [Tok.proved] at hp
  | hex2c =>
    cases sfx <;> simp [Tok.proved] at hp
    obtain ⟨d, ds, e, hall, hval⟩ := fmtHex_facts (v % 4294967296).toNat
    have := valOK_hexText false d ds hall (by rw [hval]; omega)
    have hv : toI32 ((v % 4294967296).toNat : Int) = v := by unfold toI32; omega
    rw [hval, ← e, hexVal, if_neg (by decide), hv] at this
    simpa [Tok.text, Tok.cell, intText, magText, hexText] using this

theorem toI32_bounds (v : Int) : -2147483648 ≤ toI32 v ∧ toI32 v ≤ 2147483647 := by
  unfold toI32; omega

/-- **per-token agreement** for every proved spelling of the specification -/
theorem valOK_tok (bl : List Nat → Blank) (t : Tok) (hwf : t.wf = true) (hp : t.proved bl = true) :
    ValOK (t.text bl) t.cell := by
  cases t with
  | int v base sfx => exact valOK_tok_int bl v base sfx hwf hp
  | huge v base =>
    cases base <;> simp [Tok.proved] at hp
    simp only [Tok.wf, Bool.and_eq_true, decide_eq_true_eq] at hwf
    simpa [Tok.text, Tok.cell, intText_dec] using valOK_huge v hwf.1.1 hwf.1.2
  | flt dbl sfx l exact => simp [Tok.proved] at hp
  | chr c esc =>
    cases esc with
    | false =>
      simp only [Tok.wf, Bool.false_eq_true, ↓reduceIte, Bool.and_eq_true, decide_eq_true_eq, ne_eq] at hwf
      have := (valOKW_char_plain c hwf.2).valOK
      rw [scharVal_small c hwf.1.1.2] at this
      simpa [Tok.text, Tok.cell] using this
    | true =>
      simp only [Tok.wf, ↓reduceIte] at hwf
      obtain ⟨h1, h2⟩ := charEsc_facts c hwf
      have := (valOKW_char_esc _ h1).valOK
      rw [h2] at this
      simpa [Tok.text, Tok.cell] using this
  | str sym parts =>
    simp only [Tok.wf, Bool.and_eq_true, Bool.not_eq_eq_eq_not, Bool.not_true] at hwf
    have hne : parts ≠ [] := by
      intro h; rw [h] at hwf; simp at hwf
    obtain ⟨T, hT, hB⟩ := strBodyW_parts bl parts 0 hne hwf.2
    cases sym with
    | false =>
      have := valOK_stringW _ _ hB
      simpa [Tok.text, Tok.cell, hT] using this
    | true =>
      have := valOK_symbol_quotedW _ _ hB
      simpa [Tok.text, Tok.cell, hT] using this
  | ident name =>
    simp only [Tok.wf, Bool.and_eq_true, Bool.not_eq_eq_eq_not, Bool.not_true] at hwf
    have hq : symbolPlain name = true := by
      unfold symbolPlain
      have hall : (name.drop 1).all isIdentChar = true := by
        rw [List.all_eq_true] at hwf ⊢
        intro x hx; exact hwf.1.2 x (List.mem_of_mem_drop hx)
      have hres : reservedWords.contains name = false := hwf.2
      rw [hwf.1.1, hall, hres]; rfl
    simpa [Tok.text, Tok.cell] using valOK_ident name hq
  | kw k => exact valOK_kw k
  | color v upper =>
    cases upper <;> simp [Tok.proved] at hp
    simp only [Tok.wf, decide_eq_true_eq] at hwf
    obtain ⟨h1, h2⟩ := toI32_bounds (v : Int)
    have hu : (toI32 (v : Int) % 4294967296).toNat = v := by unfold toI32; omega
    have := valOK_color (toI32 v) h1 h2
    rw [hu] at this
    simpa [Tok.text, Tok.cell, hex8_digits] using this
  | midi a b c d pad =>
    cases pad <;> simp [Tok.proved] at hp
    obtain ⟨⟨⟨⟨⟨h0, h1⟩, h2⟩, h3⟩, h4⟩, h5⟩ := hp
    have := valOK_midi a b c d
    simpa [Tok.text, Tok.cell, h0, h1, h2, h3, h4, h5, blankBytes, blank1Bytes, midiText, lit_MIDI, hexByteText, Ws.byte]
      using this
  | blob data =>
    simp only [Tok.proved, Bool.and_eq_true, beq_iff_eq] at hp
    obtain ⟨⟨h0, h1⟩, h2⟩ := hp
    simp only [Tok.wf, decide_eq_true_eq] at hwf
    obtain ⟨e1, e2, e3, e4⟩ := blobSeps_body bl 3 data
    have := valOK_blob (blobSeps bl 3 data) e4 (by rw [e3]; exact hwf)
    rw [e2, e3] at this
    have etext : blobText ((data.length : Nat) : Int) (blobSeps bl 3 data) = (Tok.blob data).text bl := by
      simp [Tok.text, blobText, e1, h0, h1, h2, blankBytes, Ws.byte, fmtDec_nat, lit_BLOB]
    rw [etext] at this
    simpa [Tok.cell] using this

theorem allCells_valArgs (L : Layout) : ∀ (i : Nat) (s : Sentence), plainFrom L i s →
    allCells (valArgs L i s) = valCells s := by
  intro i s
  induction s generalizing i with
  | nil => intro _; rfl
  | cons x r ih =>
    intro h
    obtain ⟨⟨t, rfl, _, _⟩, hr⟩ := h
    have := ih (i + 1) hr
    simp only [allCells] at this
    simp [valArgs, valCells, allCells, this]

/-- gaps with the bytes of `sepBytes g`: an empty separator is written as one blank -/
def fixSep (g : List Gap) : List Gap :=
  match g with
  | .ws w :: r => .ws w :: r
  | g => .ws .sp :: g

theorem sepBytes_fix (g : List Gap) (h : g = [] ∨ startsWs g = true) :
    sepBytes g = gapsBytes (fixSep g) ∧ SepGaps (fixSep g) := by
  cases g with
  | nil => exact ⟨by simp [sepBytes, fixSep, gapsBytes, Gap.bytes, Ws.byte], ⟨.sp, [], rfl⟩⟩
  | cons x r =>
    cases x with
    | ws w => exact ⟨by simp [sepBytes, fixSep], ⟨w, r, rfl⟩⟩
    | comment b => rcases h with h | h <;> simp [startsWs] at h

theorem tail_trail (g : List Gap) (last : Option Bytes) (h : (g = [] ∧ last = none) ∨ startsWs g = true) :
    Tail (trailBytes g last) := by
  cases g with
  | nil =>
    rcases h with ⟨_, rfl⟩ | h
    · simpa [trailBytes, gapsBytes] using Tail.none
    · simp [startsWs] at h
  | cons x r =>
    cases x with
    | comment b => rcases h with ⟨h, _⟩ | h <;> simp [startsWs] at h
    | ws w =>
      cases last with
      | none => simpa [trailBytes] using Tail.gaps _ ⟨w, r, rfl⟩
      | some b => simpa [trailBytes] using Tail.last _ b ⟨w, r, rfl⟩

/-- `denoteElems` at a value that is not a range: its own denotation, then the rest with the left neighbour
    it provides -/
theorem denoteElems_cons (prev : Option Cell) (x : SVal) (r : List SVal) (it : Item) (p : Option Cell)
    (h : x.denote1 = some (it, p)) :
    denoteElems false prev (x :: r) = (denoteElems false p r).map (it :: ·) := by
  cases x with
  | range b c => simp [SVal.denote1] at h
  | val t => simp only [denoteElems, h, Bool.false_eq_true, and_false, ↓reduceIte]; cases denoteElems false p r <;> rfl
  | rep n y => simp only [denoteElems, h, Bool.false_eq_true, and_false, ↓reduceIte]; cases denoteElems false p r <;> rfl
  | arr es o => simp only [denoteElems, h, Bool.false_eq_true, and_false, ↓reduceIte]; cases denoteElems false p r <;> rfl

theorem tok_cell_scalar (t : Tok) : t.cell.isScalar = true := by
  cases t with
  | flt dbl sfx l e => cases dbl <;> simp [Tok.cell, ArgVal.Cell.isScalar]
  | kw k => cases k <;> rfl
  | str sym parts => cases sym <;> rfl
  | _ => rfl

theorem proved_unfold_val (bl : List Nat → Blank) (t : Tok) : (SVal.val t).proved bl ↔ (t.wf = true ∧ t.proved bl = true) := by
  simp [SVal.proved]

theorem proved_unfold_rep (bl : List Nat → Blank) (n : Nat) (x : SVal) :
    (SVal.rep n x).proved bl ↔ (1 ≤ n ∧ n ≤ 2147483647 ∧ x.repeatable ∧ x.proved (sub bl 0)) := by
  simp [SVal.proved]

theorem sameTy_arraytypes (a b : UInt8) (h : sameTy a b = true) : arraytypesMatch a b = true := by
  have : typesMatch a b = true := by simpa [sameTy, typesMatch] using h
  simp [arraytypesMatch, this]

mutual
theorem flat_pitem : ∀ (x : SVal), x.pitem.flat = x.pcells
  | .val t => by simp [SVal.pitem, SVal.pcells, Rtosc.ArgVal.Item.flat]
  | .rep n x => by simp [SVal.pitem, SVal.pcells, Rtosc.ArgVal.Item.flat, flat_pitem x]
  | .range _ _ => by simp [SVal.pitem, SVal.pcells, Rtosc.ArgVal.Item.flat]
  | .arr es _ => by simp [SVal.pitem, SVal.pcells, Rtosc.ArgVal.Item.flat, flatList_pitems es]
theorem flatList_pitems : ∀ (es : List SVal), flatList (pitemsList es) = pcellsList es
  | [] => rfl
  | x :: r => by simp [pitemsList, pcellsList, flatList, flat_pitem x, flatList_pitems r]
end

theorem plain_proved (L : Layout) : ∀ (s : Sentence) (i : Nat), plainFrom L i s →
    provedFrom L i s ∧ pCells s = valCells s := by
  intro s
  induction s with
  | nil => intro i _; exact ⟨trivial, rfl⟩
  | cons x r ih =>
    intro i h
    obtain ⟨⟨t, rfl, hwf, hp⟩, hr⟩ := h
    obtain ⟨h1, h2⟩ := ih (i + 1) hr
    refine ⟨⟨(proved_unfold_val _ t).mpr ⟨hwf, hp⟩, h1⟩, ?_⟩
    simp only [pCells] at h2
    simp [pCells, pcellsList, valCells, SVal.pcells, h2]

end Rtosc.Pretty.C11
