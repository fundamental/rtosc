/-
  C10 — tier 3 (partial): arrays of scalar values that the printer does not compress.

  The text `[` tokens separated by a blank or a line break `]` is read back by scanner and checker as
  the array (header tagged with the type of the last element); the printer writes such a text, possibly
  turning the blank in front of the `[` into a line break.
  `ArrBody`, `lastTy_cons`, `skipSpace_close`, `sep_close` have namesakes in namespace `C11` for
  texts with any white space and comments (Pretty/C11LayoutSpec.lean, Proofs/ScanArray.lean;
  `C11.lastTy d tcs` takes its arguments in the other order than `lastTy cs d`).
-/
import RtoscModel.Pretty.RunsSpec
import RtoscModel.Proofs.PrettyMsg
import RtoscModel.Proofs.PrettyRunsArrConv
namespace Rtosc.Pretty
open Rtosc Rtosc.Libc
open Rtosc.ArgVal (Cell)

/-- `text` = (separator ++ good token)* for the scalar cells `cs` -/
inductive ElemTail : List Cell → Bytes → Prop
  | nil : ElemTail [] []
  | cons (t : Bytes) (c : Cell) (sep : Bytes) (cs : List Cell) (text : Bytes) :
      TokOK t c → c.isScalar = true → IsSepTxt sep → ElemTail cs text →
      ElemTail (c :: cs) (sep ++ (t ++ text))

/-- the text between the brackets: good tokens separated by a blank or a line break -/
inductive ArrBody : List Cell → Bytes → Prop
  | nil : ArrBody [] []
  | cons (t : Bytes) (c : Cell) (cs : List Cell) (tail : Bytes) :
      TokOK t c → c.isScalar = true → ElemTail cs tail → ArrBody (c :: cs) (t ++ tail)

theorem lastTy_cons (c : Cell) (cs : List Cell) (d : UInt8) : lastTy (c :: cs) d = lastTy cs c.type := by
  cases cs with
  | nil => rfl
  | cons x xs =>
    cases h : (x :: xs).getLast? with
    | none => simp at h
    | some e => simp [lastTy, List.getLast?_cons_cons, h]

theorem skipSpace_close (rest : Bytes) : skipSpace (93 :: rest) = 93 :: rest :=
  skipSpace_nonspace 93 rest (by decide)

theorem sep_close (rest : Bytes) : Sep (93 :: rest) :=
  ⟨Or.inr (Or.inr rfl), by rw [skipSpace_close]; simp, by rw [skipSpace_close]; rfl⟩

theorem ElemTail.sep {cs : List Cell} {tail : Bytes} (h : ElemTail cs tail) (rest : Bytes) :
    Sep (tail ++ 93 :: rest) := by
  cases h with
  | nil => exact sep_close rest
  | cons t c sep cs text ht _ hsep _ =>
    have := sep_of_next sep (t ++ (text ++ 93 :: rest)) hsep (ht.start.append _)
    simpa [List.append_assoc] using this

theorem ElemTail.skipSpace_cons {t : Bytes} {c : Cell} (ht : TokOK t c) {sep : Bytes} (hsep : IsSepTxt sep)
    (text rest : Bytes) :
    skipSpace ((sep ++ (t ++ text)) ++ 93 :: rest) = t ++ (text ++ 93 :: rest) := by
  have := skipSpace_sep sep (t ++ (text ++ 93 :: rest)) hsep (ht.start.append _)
  simpa [List.append_assoc] using this

theorem ElemTail.length_le {cs : List Cell} {tail : Bytes} (h : ElemTail cs tail) : cs.length ≤ tail.length := by
  induction h with
  | nil => simp
  | cons t c sep cs text ht _ _ _ ih =>
    have := List.length_pos_iff.mpr ht.start.1
    simp only [List.length_cons, List.length_append]; omega

theorem ArrBody.length_le {cs : List Cell} {body : Bytes} (h : ArrBody cs body) : cs.length ≤ body.length := by
  cases h with
  | nil => simp
  | cons t c cs tail ht _ htl =>
    have := List.length_pos_iff.mpr ht.start.1
    have := htl.length_le
    simp only [List.length_cons, List.length_append]; omega

theorem ArrBody.toTail {cs : List Cell} {body : Bytes} (h : ArrBody cs body) :
    ∃ tail, ElemTail cs tail ∧ ∀ X, skipSpace (tail ++ X) = skipSpace (body ++ X) := by
  cases h with
  | nil => exact ⟨[], ElemTail.nil, fun _ => rfl⟩
  | cons t c cs tail ht hsc htl =>
    refine ⟨[32] ++ (t ++ tail), ElemTail.cons t c [32] cs tail ht hsc (Or.inl rfl) htl, ?_⟩
    intro X
    simp [skipSpace, show isspace 32 = true from by decide]

theorem Cell.type_ne_zero (c : Cell) : c.type ≠ 0 := by
  cases c with
  | int ty v => cases ty <;> simp [ArgVal.Cell.type, ArgVal.IntTy.char]
  | str ty s => cases ty <;> simp [ArgVal.Cell.type, ArgVal.StrTy.char]
  | flag ty => cases ty <;> simp [ArgVal.Cell.type, ArgVal.FlagTy.char]
  | _ => simp [ArgVal.Cell.type, ArgVal.tyA, ArgVal.tyRange]

theorem scanArrayElems_tail (fuel : Nat) {cs : List Cell} {tail : Bytes} (h : ElemTail cs tail) (rest : Bytes) :
    ∀ (lf : Nat) (prev : List Cell) (i : Nat) (pok : Bool) (acc : List Cell) (ty : UInt8), cs.length + 1 ≤ lf →
      scanArrayElems (scanArgVal (fuel + 1)) lf (skipSpace (tail ++ 93 :: rest)) prev i pok acc ty =
        .ok (93 :: rest, acc ++ cs, lastTy cs ty) := by
  induction h with
  | nil =>
    intro lf prev i pok acc ty hlf
    cases lf with
    | zero => omega
    | succ f =>
      simp only [List.nil_append, skipSpace_close, scanArrayElems_close]
      simp [lastTy]
  | cons t c sep cs text ht hsc hsep hrest ih =>
    intro lf prev i pok acc ty hlf
    cases lf with
    | zero => omega
    | succ f =>
      have hscan := ht.scan (text ++ 93 :: rest) fuel prev (if pok then acc.length else 0) (hrest.sep rest)
      simp only [List.length_cons] at hlf
      rw [ElemTail.skipSpace_cons ht hsep,
        scanArrayElems_turn _ t [c] (text ++ 93 :: rest) f prev i pok acc ty true c.type ht.start hscan
          (canPrecedeRange_scalar c [] hsc) (elemTy_scalar c [] hsc) (nextArgOffset_scalar _ c [] hsc),
        ih f _ (i + 1) true (acc ++ [c]) c.type (by omega)]
      simp [lastTy_cons]

theorem skipArrayElems_tail (fuel : Nat) {cs : List Cell} {tail : Bytes} (h : ElemTail cs tail) (rest : Bytes) :
    ∀ (lf : Nat) (recent : Option Bytes) (aty : UInt8) (skipped : Int), cs.length + 1 ≤ lf →
      (∀ e ∈ cs, arraytypesMatch (if aty = 0 then (cs.headD (Cell.flag .N)).type else aty) e.type = true) →
      skipArrayElems (skipNextPrintedArg (fuel + 1)) lf (some (skipSpace (tail ++ 93 :: rest))) recent aty skipped =
        .ok (some (93 :: rest), skipped + cs.length) := by
  induction h with
  | nil =>
    intro lf recent aty skipped hlf _
    cases lf with
    | zero => omega
    | succ f =>
      simp only [List.nil_append, skipSpace_close, skipArrayElems_close]
      simp
  | cons t c sep cs text ht hsc hsep hrest ih =>
    intro lf recent aty skipped hlf hT
    cases lf with
    | zero => omega
    | succ f =>
      obtain ⟨r, hr, hsrc, hsk, hrty⟩ := ht.skip (text ++ 93 :: rest) fuel 20 recent true (hrest.sep rest)
      simp only [List.length_cons] at hlf
      -- the element `c` matches the array type so far; behind it the type is set
      have hm : aty = 0 ∨ arraytypesMatch aty c.type = true := by
        by_cases ha : aty = 0
        · exact Or.inl ha
        · simp only [ha, ↓reduceIte] at hT; exact Or.inr (hT c (by simp))
      have hT' : ∀ e ∈ cs, arraytypesMatch (if (if aty = 0 then c.type else aty) = 0 then (cs.headD (Cell.flag .N)).type
          else (if aty = 0 then c.type else aty)) e.type = true := by
        intro e he
        by_cases ha : aty = 0
        · subst ha
          simp only [↓reduceIte, List.headD_cons] at hT
          simp only [↓reduceIte, Cell.type_ne_zero c]
          exact hT e (by simp [he])
        · simp only [ha, ↓reduceIte] at hT ⊢
          exact hT e (by simp [he])
      rw [ElemTail.skipSpace_cons ht hsep,
        skipArrayElems_turn _ t (text ++ 93 :: rest) 1 c.type f recent aty skipped ht.start ⟨r, hr, hsrc, hsk, hrty⟩ hm,
        ih f _ _ (skipped + 1) (by omega) hT']
      simp only [List.length_cons, Int.natCast_add, Int.natCast_one, Int.add_assoc, Int.add_comm 1]

/-- **the text `[` elements `]` is read back as the array** (element type: that of the last
    element, 32 if there is none), provided the elements are of one type for the checker -/
theorem argOK_arrayText {es : List Cell} {body : Bytes} (hb : ArrBody es body)
    (hty : ∀ e ∈ es, typesMatch ((es.headD (Cell.flag .N)).type) e.type = true) :
    ArgOK (91 :: (body ++ [93])) (Cell.arr (lastTy es 32) es.length :: es) := by
  obtain ⟨tail, htail, hsp⟩ := hb.toTail
  have hlen := hb.length_le
  have hsc : ∀ e ∈ es, e.isScalar = true := by
    intro e he
    clear hsp hty hb hlen
    induction htail with
    | nil => simp at he
    | cons t c sep cs text _ hc _ _ ih =>
      rcases List.mem_cons.mp he with rfl | h
      · exact hc
      · exact ih h
  have htxt : ∀ rest : Bytes, (91 :: (body ++ [93])) ++ rest = 91 :: (body ++ 93 :: rest) := by
    intro rest; simp
  refine ⟨?_, ArgCells.array _ es hsc, ?_, ?_⟩
  · refine ⟨by simp, ?_⟩
    simp only [hd_cons]
    decide
  · intro rest fuel prev ab hS
    have hloop := scanArrayElems_tail fuel htail rest ((91 :: (body ++ 93 :: rest)).length + 1)
      (Cell.arr 32 0 :: prev) 0 true [] 32 (by simp only [List.length_cons, List.length_append]; omega)
    rw [hsp] at hloop
    rw [htxt, scanArgVal_value ab true (scanValue_array _ _ prev hloop), ← htxt]
    exact finishArg_plain _ _ rest _ true prev ab true hS
  · intro rest fuel ty llhs ib hS
    have hT : ∀ e ∈ es, arraytypesMatch (if (0 : UInt8) = 0 then (es.headD (Cell.flag .N)).type else 0) e.type = true := by
      intro e he
      simp only [↓reduceIte, arraytypesMatch, hty e he, Bool.or_true]
    have hloop := skipArrayElems_tail fuel htail rest ((91 :: (body ++ 93 :: rest)).length + 1)
      none 0 1 (by simp only [List.length_cons, List.length_append]; omega) hT
    rw [hsp] at hloop
    have h3 := (sep_skipSpace_facts rest hS).2
    refine ⟨⟨some rest, 1 + es.length, 97⟩, ?_, rfl, ?_, rfl⟩
    · rw [htxt, skipNext_value llhs true (skipValue_array _ _ ty ib hloop) rfl]
      simp [h3]
    · simp only [List.length_cons]
      omega

theorem initArgsWritten_spec (st : PSt) (h : st.cols = 0 ∨ ∃ base, st.out = base ++ [32]) :
    ∃ awl, initArgsWritten st = .ok awl ∧
      LastSepAt awl st.out ((st.out.length : Int) - 1) := by
  unfold initArgsWritten
  by_cases hc : st.cols = 0
  · exact ⟨0, by simp [hc], Or.inl rfl⟩
  · rcases h with h | ⟨base, hb⟩
    · exact absurd h hc
    · refine ⟨1, ?_, Or.inr ⟨base, hb, ?_⟩⟩
      · simp [hc, hb, show isspace 32 = true from by decide]
      · rw [hb]; simp

/-- the element loop of the array printer behind the first element: the state ends with the
    separator blank behind the previous element, `lastSep` points to it -/
theorem printArrayElems_rest (opt : POpt) (fuel : Nat) (hdr : Cell) (es more : List Cell)
    (hes : ∀ e ∈ es, e.isScalar = true ∧ PrintsTok opt e)
    (hconv : ∀ i, i < es.length → convertToRange opt (es.drop i ++ more) (es.length - i) = .ok none) :
    ∀ (rem : List Cell) (k : Nat), es.drop k = rem →
      ∀ (lf : Nat) (P : Bytes) (cols : Int) (wrt : Nat) (awl : Nat), rem.length + 1 ≤ lf →
        ∃ (tail : Bytes) (cols' : Int),
          printArrayElems (printArgVal (fuel + 1) opt) opt (hdr :: (es ++ more)) es.length (k + 1)
            ⟨P ++ [32], cols⟩ wrt (P.length : Int) awl lf = .ok (⟨P ++ tail ++ [32], cols'⟩, wrt + tail.length) ∧
          ElemTail rem tail := by
  intro rem
  induction rem with
  | nil =>
    intro k hk lf P cols wrt awl _
    have hge : es.length ≤ k := List.drop_eq_nil_iff.mp hk
    refine ⟨[], cols, ?_, ElemTail.nil⟩
    unfold printArrayElems
    have : ¬ (k + 1 ≤ es.length) := by omega
    simp [this, pure, Except.pure]
  | cons c rem' ih =>
    intro k hk lf P cols wrt awl hlf
    obtain ⟨hlt, hdrop⟩ := drop_eq_cons_lt es k c rem' hk
    obtain ⟨hsc, hpt⟩ := hes c (List.mem_of_mem_drop (by rw [hk]; simp))
    obtain ⟨lf', rfl⟩ : ∃ g, lf = g + 1 := ⟨lf - 1, by simp only [List.length_cons] at hlf; omega⟩
    have hlen : (es.take k).length = k := by rw [List.length_take]; omega
    have harg : hdr :: (es ++ more) = hdr :: (es.take k ++ (c :: (rem' ++ more))) := by
      congr 1
      conv => lhs; rw [← List.take_append_drop k es, hk]
      simp
    obtain ⟨t, cols1, hprint, htok⟩ := hpt fuel (rem' ++ more) (es.take k).getLast? ⟨P ++ [32], cols⟩
    -- one turn of the element loop: the element is no start of a range, the loop advances by one cell
    obtain ⟨pre1, cols2, awl2, hpre1, hstep⟩ := arrLoop_step (printArgVal (fuel + 1) opt) opt _ hdr (es.take k)
      (c :: (rem' ++ more)) harg es.length lf' none 1 (P ++ [32]) [] t cols cols1 wrt (P.length : Int) awl (by omega)
      (by simpa [convInput] using hprint) (by simpa [convStep] using nextArgOffset_scalar _ c (rem' ++ more) hsc)
      (by have := hconv k hlt; rw [hk] at this; rw [hlen]; exact this) (by simp) (Or.inr ⟨P, rfl, rfl⟩)
    rw [hlen] at hstep
    simp only [List.append_nil] at hstep
    obtain ⟨sep, hsep, hsep1, rfl⟩ := sep_of_linebreak hpre1
    simp only [List.length_cons] at hlf
    obtain ⟨tail', cols', hrun, htail'⟩ :=
      ih (k + 1) hdrop lf' (P ++ sep ++ t) (cols2 + 1) (wrt + t.length + ((P ++ sep).length - (P ++ [32]).length) + 1) awl2
        (by omega)
    rw [hstep, hrun]
    refine ⟨sep ++ (t ++ tail'), cols', ?_, ElemTail.cons t c sep rem' tail' htok hsc hsep htail'⟩
    rw [show P ++ sep ++ t ++ tail' ++ [32] = P ++ (sep ++ (t ++ tail')) ++ [32] by simp]
    refine congrArg (fun w => Except.ok (_, w)) ?_
    simp only [List.length_append, List.length_cons, List.length_nil]
    omega

/-- **an array of scalars** whose element tokens are good, of one type for the checker, tagged
    with the type the scanner reconstructs (that of its last element; 32 = ' ' if empty), and in
    which the printer makes no range. -/
theorem printsArg_array (opt : POpt) (es : List Cell)
    (hes : ∀ e ∈ es, e.isScalar = true ∧ PrintsTok opt e)
    (hty : ∀ e ∈ es, typesMatch ((es.headD (Cell.flag .N)).type) e.type = true)
    (hconv : ∀ more i, i < es.length → convertToRange opt (es.drop i ++ more) (es.length - i) = .ok none) :
    PrintsArg opt (Cell.arr (lastTy es 32) es.length :: es) := by
  intro fuel more prev st hst
  obtain ⟨awl, hawl, hinv⟩ := initArgsWritten_spec st hst
  have hbr : breaksItself (Cell.arr (lastTy es 32) es.length) = true := rfl
  cases es with
  | nil =>
    refine ⟨st.out, [91, 93], st.cols + 1 + 1 + 1, ?_, Or.inl rfl, ?_⟩
    · unfold printArgVal
      simp [deref, bind, Except.bind, pure, Except.pure, hawl]
    · have := argOK_arrayText ArrBody.nil (by simp)
      simpa using this
  | cons e es' =>
    obtain ⟨hsc, hpt⟩ := hes e (by simp)
    obtain ⟨t, cols1, hprint, htok⟩ := hpt fuel (es' ++ more) none ⟨st.out ++ [91], st.cols + 1⟩
    obtain ⟨pre, cols2, awl2, hlb, hpre⟩ :=
      linebreakCheck_mid st.out [91] t cols1 (1 + t.length) ((st.out.length : Int) - 1) awl opt.linelength
        (by simp) hinv
    obtain ⟨tail, cols', hrun, htail⟩ :=
      printArrayElems_rest opt fuel (Cell.arr (lastTy (e :: es') 32) (e :: es').length) (e :: es') more hes
        (hconv more) es' 1 rfl (es'.length + 1) (pre ++ [91] ++ t) (cols2 + 1)
        (1 + t.length + (pre.length - st.out.length) + 1) awl2 (Nat.le_refl _)
    have hc0 := hconv more 0 (by simp)
    simp only [List.drop_zero, Nat.sub_zero, List.cons_append, List.length_cons] at hc0
    simp only [List.cons_append] at hrun
    have hloop : printArrayElems (printArgVal (fuel + 1) opt) opt
        (Cell.arr (lastTy (e :: es') 32) (e :: es').length :: e :: (es' ++ more)) (es'.length + 1) 1
        ⟨st.out ++ [91], st.cols + 1⟩ 1 ((st.out.length : Int) - 1) awl (es'.length + 1 + 1) =
        .ok (⟨pre ++ [91] ++ t ++ tail ++ [32], cols'⟩,
          1 + t.length + (pre.length - st.out.length) + 1 + tail.length) := by
      rw [printArrayElems]
      simp only [Nat.le_add_left, ↓reduceIte, List.drop_succ_cons, List.drop_zero, Nat.add_sub_cancel, hc0,
        bind, Except.bind, pure, Except.pure, hprint, List.length_cons,
        nextArgOffset_scalar _ e (es' ++ more) hsc, hlb]
      exact hrun
    refine ⟨pre, 91 :: ((t ++ tail) ++ [93]), cols' + 1, ?_, ?_, ?_⟩
    · unfold printArgVal
      simp only [List.cons_append, deref, bind, Except.bind, ↓reduceIte, Int.toNat_natCast, hawl,
        List.length_cons, ne_eq, Nat.add_eq_zero_iff, Nat.succ_ne_self, and_false, not_false_eq_true,
        pure, Except.pure]
      simp only [List.length_cons] at hloop
      rw [hloop]
      have hneg' : ¬ ((es'.length : Int) + 1 < 0) := by omega
      simp only [List.length_cons, List.length_append, List.length_nil, Int.natCast_add,
        Int.cast_ofNat_Int, hneg', ↓reduceIte, List.append_assoc, List.cons_append, List.nil_append]
      have hdl : (pre ++ 91 :: (t ++ (tail ++ [32]))).dropLast = pre ++ 91 :: (t ++ tail) := by
        have : pre ++ 91 :: (t ++ (tail ++ [32])) = (pre ++ 91 :: (t ++ tail)) ++ [32] := by simp
        rw [this, List.dropLast_concat]
      rw [hdl]
      rw [show pre ++ 91 :: (t ++ tail) ++ [93] = pre ++ 91 :: (t ++ (tail ++ [93])) by simp]
      exact congrArg (fun w => Except.ok (_, w)) (by omega)
    · rcases hpre with h | h
      · exact Or.inl h
      · exact Or.inr ⟨hbr, h⟩
    · exact argOK_arrayText (ArrBody.cons t e es' tail htok hsc htail) hty

theorem GoodArg.prints {opt : POpt} {cs : List Cell} (h : GoodArg opt cs) : PrintsArg opt cs := by
  cases h with
  | scalar c hsc hp => exact printsArg_of_printsTok hp hsc
  | array es hes hty hc =>
    exact printsArg_array opt es hes hty (noConversion_append opt es (fun e he => (hes e he).1) hc)

/-- **Tier 3 (partial), lists and messages of scalars and arrays of scalars.** -/
theorem cellsRT_goodArgs (opt : POpt) (argss : List (List Cell))
    (hP : ∀ cs ∈ argss, GoodArg opt cs)
    (hconv : NoRanges opt argss) :
    CellsRT opt argss.flatten argss.flatten :=
  cellsRT_args opt argss (fun cs h => (hP cs h).prints) hconv

theorem array_roundtrip (opt : POpt) (es : List Cell)
    (hes : ∀ e ∈ es, e.isScalar = true ∧ PrintsTok opt e)
    (hty : ∀ e ∈ es, typesMatch ((es.headD (Cell.flag .N)).type) e.type = true)
    (hc : opt.compress = false ∨ NoLongRun es)
    (hconv : convertToRange opt (Cell.arr (lastTy es 32) es.length :: es) (es.length + 1) = .ok none) :
    ∃ (st : PSt) (ret : Nat),
      printArgVals opt (Cell.arr (lastTy es 32) es.length :: es) ⟨[], 0⟩ = .ok (st, ret) ∧ ret = st.out.length ∧
      countPrintedArgVals st.out = .ok ((es.length : Int) + 1) ∧
      scanArgVals st.out (es.length + 1) = .ok (st.out.length, Cell.arr (lastTy es 32) es.length :: es) := by
  have := (cellsRT_goodArgs opt [Cell.arr (lastTy es 32) es.length :: es]
    (by intro cs h; simp only [List.mem_singleton] at h; subst h; exact GoodArg.array es hes hty hc)
    (by
      intro done cs rem heq
      have : done = [] ∧ cs = Cell.arr (lastTy es 32) es.length :: es ∧ rem = [] := by
        cases done with
        | nil => simp at heq; exact ⟨rfl, heq.1.symm, heq.2⟩
        | cons d ds => simp at heq
      obtain ⟨_, rfl, rfl⟩ := this
      simpa using hconv)).list
  simpa only [List.flatten_cons, List.flatten_nil, List.append_nil, List.length_cons, Int.natCast_add,
    Int.natCast_one] using this

end Rtosc.Pretty
