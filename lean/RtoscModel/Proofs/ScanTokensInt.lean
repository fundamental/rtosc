/-
  C11 — spellings of an 'i' integer the printer never writes, so that C10 has no lemma for them.
  The `i` suffix of a decimal integer (`123i`).  Hexadecimal: `0x2a`, `-0x2a`, and the two's-complement spelling
  `0xffffffd6`: `scanf_fmtstr` rejects "%*lih", "%*d" (which reads only the `0`), "%*ii" and takes "%*i", which it
  replaces by "%*x"; the value is read with `%x` (strtoul: a negative number wraps) and truncated to 32 bits.
-/
import RtoscModel.Proofs.PrettyTokChar
import RtoscModel.Proofs.PrettyTokNum
namespace Rtosc.Pretty.C11
open Rtosc Rtosc.Libc Rtosc.Pretty
open Rtosc.ArgVal (Cell)

/-! ### the suffix `i` -/

theorem numEnd_i (r : Bytes) : NumEnd (105 :: r) := by
  unfold NumEnd
  simp only [hd_cons]
  decide

/-- `123i`: "%*lih%n" fails at the `i`, "%*d%n" stops in front of it, "%*ii%n" takes the word -/
theorem numWord_isfx (t rest : Bytes) (v : Int) (hn : DecNum t v) (hs : SepW rest) :
    NumWord .ii (t ++ [105]) rest (.int v) := by
  have hi := hn.scan_i _ (numEnd_i rest)
  have e : (t ++ [105]) ++ rest = t ++ 105 :: rest := by simp
  refine ⟨by simp, ?_, fun sup => by rw [e]; simpa [NumFmt.dirs] using sscanf_int_lit_n .i sup 105 t rest v hi⟩
  have hlen : numWordLen ((t ++ [105]) ++ rest) = (t ++ [105]).length :=
    numWordLen_wordW (t ++ [105]) rest (by
      intro c hc
      simp only [List.mem_append, List.mem_singleton] at hc
      rcases hc with hc | rfl
      · exact decNum_wordChar hn c hc
      · decide) hs
  unfold scanfFmtstr
  simp only [hlen, List.find?, scanRd, NumFmt.tryDirs]
  rw [e, sscanf_int_lit_fail .i 104 _ _ v hi (by simp only [hd_cons]; decide),
    sscanf_int_n .d true t (105 :: rest) v (hn.scan_d _ (numEnd_i rest)), sscanf_int_lit_n .i true 105 t rest v hi]
  simp

theorem drop_isfx (t rest : Bytes) : (t ++ 105 :: rest).drop (t.length + 1) = rest := by
  rw [show t ++ 105 :: rest = (t ++ [105]) ++ rest from by simp,
    show t.length + 1 = (t ++ [105]).length from by simp]
  exact List.drop_left

/-- **`123i`**: a decimal integer with the suffix `i` -/
theorem valOK_int_i (v : Int) (h1 : -2147483648 ≤ v) (h2 : v ≤ 2147483647) :
    ValOK (fmtDec v ++ [105]) (Cell.int .i v) := by
  have hn := decNum_fmtDec v (by omega) (by omega)
  exact (valOKW_decSfx .ii (fmtDec v) [105] v (Cell.int .i v) hn rfl (fun rest _ => numEnd_i rest)
    (fun rest hs => numWord_isfx _ rest v hn hs) ((cellOfRaw_i v).trans (by rw [toI32_id v h1 h2]))).valOK

/-! ### hexadecimal -/

theorem hexDigits_ne_nil (n : Nat) (h : n ≠ 0) : hexDigitsAux n [] ≠ [] := by
  rw [hexDigits_snoc n h]; simp

theorem fmtHex_facts (m : Nat) :
    ∃ d ds, fmtHex m = d :: ds ∧ (∀ c ∈ d :: ds, isxdigit c = true) ∧ digitsVal 16 (d :: ds) = m := by
  unfold fmtHex
  by_cases h : m = 0
  · subst h
    exact ⟨48, [], by simp, by intro c hc; simp at hc; subst hc; decide, by simp [digitsVal, xval, isdigit]⟩
  · rw [if_neg h]
    obtain ⟨d, ds, e⟩ := List.exists_cons_of_ne_nil (hexDigits_ne_nil m h)
    exact ⟨d, ds, e, by rw [← e]; exact hexDigits_all m, by rw [← e]; exact digitsVal_hexDigits m⟩

/-- the text `[-]0x` digits -/
def hexText (neg : Bool) (ds : Bytes) : Bytes := (if neg then [45] else []) ++ 48 :: 120 :: ds

theorem isxdigit_not10 (c : UInt8) : digitOk 10 120 = false := by decide

/-- `%i` / `%x` (base 0 / 16) read the whole number -/
theorem scanInt_hexText (conv : IntConv) (hconv : conv ≠ .d) (neg : Bool) (d : UInt8) (ds rest : Bytes)
    (hall : ∀ c ∈ d :: ds, isxdigit c = true) (hr : HexEnd rest) :
    scanInt conv none (hexText neg (d :: ds) ++ rest) =
      some (intValue conv neg (digitsVal 16 (d :: ds)), rest) := by
  have htd := takeDigits16 (d :: ds) rest hall hr.1
  simp only [List.cons_append] at htd
  cases neg
  · unfold scanInt
    simp only [hexText, Bool.false_eq_true, ↓reduceIte, List.nil_append, List.cons_append, skipSpace, isspace]
    cases conv
    · exact absurd rfl hconv
    · simp [intPrefix, wOk, wDec, tolower, isupper, htd]
    · simp [intPrefix, wOk, wDec, tolower, isupper, htd]
  · unfold scanInt
    simp only [hexText, ↓reduceIte, List.cons_append, List.nil_append, skipSpace, isspace]
    cases conv
    · exact absurd rfl hconv
    · simp [intPrefix, wOk, wDec, tolower, isupper, htd]
    · simp [intPrefix, wOk, wDec, tolower, isupper, htd]

/-- `%d` (with or without a field width of at least 2 behind the sign) reads only the `0` -/
theorem scanInt_d_hexText (w : Option Nat) (hw : w = none ∨ w = some 4) (neg : Bool) (ds rest : Bytes) :
    scanInt .d w (hexText neg ds ++ rest) = some (0, 120 :: (ds ++ rest)) := by
  have hno : ∀ (r : Bytes) (w' : Option Nat), takeDigits 10 (120 :: r) w' = ([], 120 :: r) := by
    intro r w'; simp [takeDigits, digitOk, isdigit]
  rcases hw with rfl | rfl <;> cases neg <;>
    simp [scanInt, hexText, skipSpace, isspace, intPrefix, wOk, wDec, tolower, isupper, hno, intValue, clampI64, digitsVal]

theorem hexText_length (neg : Bool) (ds : Bytes) : (hexText neg ds).length = (if neg then 1 else 0) + 2 + ds.length := by
  cases neg <;> simp [hexText] <;> omega

theorem hexText_wordChar (neg : Bool) (ds : Bytes) (hall : ∀ c ∈ ds, isxdigit c = true) :
    ∀ c ∈ hexText neg ds, wordChar c = true := by
  have hx := isxdigit_wordChar
  intro c hc
  cases neg <;> simp only [hexText, Bool.false_eq_true, ↓reduceIte, List.nil_append, List.cons_append, List.mem_cons] at hc
  · rcases hc with rfl | rfl | hc
    · decide
    · decide
    · exact hx c (hall c hc)
  · rcases hc with rfl | rfl | rfl | hc
    · decide
    · decide
    · decide
    · exact hx c (hall c hc)

theorem hexText_hd (neg : Bool) (ds tail : Bytes) :
    hd (hexText neg ds ++ tail) = 45 ∨ isdigit (hd (hexText neg ds ++ tail)) = true := by
  cases neg
  · right; simp [hexText, isdigit]
  · left; simp [hexText]

theorem hexText_ne (neg : Bool) (ds : Bytes) : hexText neg ds ≠ [] := by cases neg <;> simp [hexText]

theorem hexText_dispatch (neg : Bool) (ds rest : Bytes) :
    isRangeMultiplier (hexText neg ds ++ rest) = false ∧ skipFmt fmtIsDate (hexText neg ds ++ rest) = 0 := by
  refine ⟨by cases neg <;> simp [hexText, isRangeMultiplier, isdigit], ?_⟩
  unfold skipFmt scanRd sscanf fmtIsDate
  rw [sscanfGo_int_some _ _ _ _ _ _ _ _ _ (scanInt_d_hexText (some 4) (Or.inr rfl) neg ds rest)]
  rw [sscanfGo_lit_ne _ _ _ _ _ (by simp)]
  rfl

/-- the value `%x` delivers, truncated to 32 bits -/
def hexVal (neg : Bool) (m : Nat) : Int := toI32 (if neg then -(m : Int) else (m : Int))

/-- `0x2a`, `-0x2a`: "%*lih%n" and "%*ii%n" fail at the missing letter, "%*d%n" reads only the `0`,
    "%*i%n" takes the word; it is then read with "%x" -/
theorem numWord_hex (neg : Bool) (d : UInt8) (ds rest : Bytes) (hall : ∀ c ∈ d :: ds, isxdigit c = true)
    (hs : SepW rest) :
    NumWord .x (hexText neg (d :: ds)) rest (.int (intValue .x neg (digitsVal 16 (d :: ds)))) := by
  have hq := sep_hd_factsW rest hs
  have h104 := hq.ne104
  have h105 := hq.ne105
  have hr := sepW_hexEnd rest hs
  refine ⟨hexText_ne neg _, ?_, fun sup =>
    sscanf_int_n .x sup _ rest _ (scanInt_hexText .x (by decide) neg d ds rest hall hr)⟩
  have hlen : numWordLen (hexText neg (d :: ds) ++ rest) = (hexText neg (d :: ds)).length :=
    numWordLen_wordW _ rest (hexText_wordChar neg (d :: ds) hall) hs
  have hi := scanInt_hexText .i (by decide) neg d ds rest hall hr
  have hd' := scanInt_d_hexText none (Or.inl rfl) neg (d :: ds) rest
  have hL := hexText_length neg (d :: ds)
  have h1 : sscanf NumFmt.h.tryDirs (hexText neg (d :: ds) ++ rest) = [] :=
    sscanf_int_lit_fail .i 104 _ _ _ hi h104
  have h2 : sscanf NumFmt.d.tryDirs (hexText neg (d :: ds) ++ rest) = [.pos (if neg then 2 else 1)] := by
    unfold sscanf NumFmt.tryDirs
    rw [sscanfGo_int_some _ _ _ _ _ _ _ _ _ hd']
    cases neg <;> simp [sscanfGo, hexText] <;> omega
  have h3 : sscanf NumFmt.ii.tryDirs (hexText neg (d :: ds) ++ rest) = [] :=
    sscanf_int_lit_fail .i 105 _ _ _ hi h105
  have h4 : sscanf NumFmt.x.tryDirs (hexText neg (d :: ds) ++ rest) = [.pos (hexText neg (d :: ds)).length] :=
    sscanf_int_n .i true _ rest _ hi
  unfold scanfFmtstr
  simp only [hlen, List.find?, scanRd, h1, h2, h3, h4]
  have e1 : (0 : Nat) ≠ (hexText neg (d :: ds)).length := by rw [hL]; omega
  have e2 : (if neg then 2 else 1) ≠ (hexText neg (d :: ds)).length := by
    rw [hL]; cases neg <;> simp <;> omega
  simp [e1, e2]

theorem toI32_intValue_x (neg : Bool) (m : Nat) (hm : m ≤ 4294967295) :
    toI32 (intValue .x neg m) = hexVal neg m := by
  unfold intValue hexVal toI32
  have : ¬ (m > 18446744073709551615) := by omega
  simp only [this, ↓reduceIte]
  cases neg
  · simp
  · simp only [↓reduceIte]
    omega

/-- **hexadecimal 'i' integer** (digits as a string) -/
theorem valOK_hexText (neg : Bool) (d : UInt8) (ds : Bytes) (hall : ∀ c ∈ d :: ds, isxdigit c = true)
    (hm : digitsVal 16 (d :: ds) ≤ 4294967295) :
    ValOK (hexText neg (d :: ds)) (Cell.int .i (hexVal neg (digitsVal 16 (d :: ds)))) :=
  (valOKW_numWord .x _ _ _ (by simpa using hexText_hd neg (d :: ds) []) rfl (by simp)
    (fun rest _ => hexText_dispatch neg (d :: ds) rest)
    (fun rest hs => numWord_hex neg d ds rest hall hs)
    ((cellOfRaw_i _).trans (by rw [toI32_intValue_x neg _ hm]))).valOK

end Rtosc.Pretty.C11
