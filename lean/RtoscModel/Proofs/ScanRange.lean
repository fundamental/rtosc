/-
  C11 — a range `b ... c` of decimal 'i' integers: what the repaired scanner and checker (`Pretty/C11Model.lean`)
  do on
      <b> <white space, at least one> ... <white space> <c> <rest>
  first without a left neighbour (the first value of a sentence), then with something to its left: a scalar of
  any type (an 'i' integer `a ≠ b` gives the step `b - a`, everything else the step ±1) or another range (its last
  value is the neighbour).  All are cases of the range lemmas for any integer type, spelling and left context
  (`Proofs/PrettyRunArithRead.lean`).  The text `rangeTok` / `rangeRest`, what may follow a leading range
  (`Follow`) and the left neighbour as the code sees it (`NbCell`, `uselessI`) are defined in
  `Pretty/C11LayoutSpec.lean`.

  Names: `11` marks a statement about the functions of `Pretty/C11Model.lean`; `_range0` is the range with
  nothing to its left, `_rangeB` the range behind a scalar, `_rangeC` behind another range, `_rangeL` behind
  either.
-/
import RtoscModel.Pretty.C11LayoutSpec
import RtoscModel.Proofs.PrettyRunInt
namespace Rtosc.Pretty.C11
open Rtosc Rtosc.Libc Rtosc.Pretty
open Rtosc.ArgVal (Cell Item flatList)

/-- `delta_from_arg_vals` with `must_be_unity` (no usable left neighbour): the step is ±1, the
    count `q + 1`; whatever `llhsarg` points to -/
theorem deltaUnity11 (ll : Option Cell) (x z q dl : Int) (hdl : (dl = 1 ∧ x < z) ∨ (dl = -1 ∧ z < x))
    (hq : z - x = q * dl) (hw1 : -2147483647 ≤ z - x) (hw2 : z - x ≤ 2147483647)
    (hq1 : -2147483648 ≤ q + 1) (hq2 : q + 1 ≤ 2147483647) :
    C11.deltaFromArgVals ll (Cell.int .i x) (some (Cell.int .i z)) true = .ok (q + 1, Cell.int .i dl) :=
  IntKind.delta_unity .i ll x z q dl hdl hq hw1 hw2 (by
    -- q = (z - x) / dl with |z - x| ≤ 2^31 - 1
    rcases hdl with ⟨rfl, _⟩ | ⟨rfl, _⟩ <;> omega) hq2

theorem rangeRest_facts (w1 w2 Z rest : Bytes) (hw1 : AllWs w1) (hne : w1 ≠ []) (hw2 : AllWs w2) (hZ : TokStart Z) :
    SepW (rangeRest w1 w2 Z rest) ∧ skipSpace (rangeRest w1 w2 Z rest) = 46 :: 46 :: 46 :: (w2 ++ (Z ++ rest)) ∧
    skipSpace (w2 ++ (Z ++ rest)) = Z ++ rest :=
  Pretty.rangeRest_facts w1 w2 Z rest hw1 hne hw2 hZ

/-- **the repaired scanner on `b ... c` without arguments before it** (`args_before = 0`: the
    first value of a sentence): range header, step and start; the text up to `rest` is consumed -/
theorem scanArgVal_range0 (f : Nat) (x z : Int) (hx1 : -2147483648 ≤ x) (hx2 : x ≤ 2147483647)
    (hz1 : -2147483648 ≤ z) (hz2 : z ≤ 2147483647) (w1 w2 rest : Bytes) (hw1 : AllWs w1) (hne : w1 ≠ [])
    (hw2 : AllWs w2) (hs : Sep rest) (prev : List Cell) (num : Int) (dl : Cell)
    (hdelta : ∀ ll, C11.deltaFromArgVals ll (Cell.int .i x) (some (Cell.int .i z)) true = .ok (num, dl)) :
    C11.scanArgVal (f + 2) (fmtDec x ++ rangeRest w1 w2 (fmtDec z) rest) prev 0 true =
      .ok ((fmtDec x ++ rangeRest w1 w2 (fmtDec z) rest).length - rest.length, [Cell.rep num 1, dl, Cell.int .i x]) :=
  intCodec.scanArgVal11_range f x z ⟨hx1, hx2⟩ ⟨hz1, hz2⟩ w1 w2 rest hw1 hne hw2 hs.toW prev 0 none (.zero _) true rfl
    num dl (hdelta _)

theorem skipNext11_int_noell (f : Nat) (v : Int) (h1 : -2147483648 ≤ v) (h2 : v ≤ 2147483647) (rest : Bytes)
    (hs : SepW rest) (ty : UInt8) (llhs : Option Bytes) (ib : Bool) :
    C11.skipNextPrintedArg (f + 1) (fmtDec v ++ rest) ty llhs false ib = .ok ⟨some rest, 1, 105⟩ := by
  rw [C11.skipNext_value llhs false (skipValue_intW _ v rest hs ty ib h1 h2) rfl]
  simp

/-- **the repaired checker on `b ... c` without a value to its left**: three argument values -/
theorem skipNext_range0 (f : Nat) (x z : Int) (hx1 : -2147483648 ≤ x) (hx2 : x ≤ 2147483647)
    (hz1 : -2147483648 ≤ z) (hz2 : z ≤ 2147483647) (w1 w2 rest : Bytes) (hw1 : AllWs w1) (hne : w1 ≠ [])
    (hw2 : AllWs w2) (hs : Sep rest) (ty : UInt8) (ib : Bool) (num : Int) (dl : Cell)
    (hdelta : ∀ ll, C11.deltaFromArgVals ll (Cell.int .i x) (some (Cell.int .i z)) true = .ok (num, dl))
    (hnum : num ≠ -1) :
    C11.skipNextPrintedArg (f + 2) (fmtDec x ++ rangeRest w1 w2 (fmtDec z) rest) ty none true ib =
      .ok ⟨some rest, 3, 45⟩ := by
  obtain ⟨hW, hsk1, _⟩ := rangeRest_facts w1 w2 (fmtDec z) rest hw1 hne hw2 (tokStart_fmtDec z hz1 hz2)
  rw [C11.skipNext_value none true (skipValue_intW _ x _ hW ty ib hx1 hx2) rfl, hsk1, if_pos ⟨rfl, rfl⟩]
  exact intCodec.ellipsisTail11_range _ x z ⟨hx1, hx2⟩ ⟨hz1, hz2⟩ w1 w2 rest hw1 hne hw2 hs.toW ib none none true
    (skipNext11_int_noell f z hz1 hz2 rest hs.toW 120 none ib) (Or.inl ⟨rfl, rfl⟩) num dl (hdelta _) hnum

theorem rangeTok_append (x z : Int) (w1 w2 rest : Bytes) :
    rangeTok x z w1 w2 ++ rest = fmtDec x ++ rangeRest w1 w2 (fmtDec z) rest := by
  simp [rangeTok, rangeRest]

theorem rangeTok_length (x z : Int) (w1 w2 rest : Bytes) :
    (fmtDec x ++ rangeRest w1 w2 (fmtDec z) rest).length - rest.length = (rangeTok x z w1 w2).length := by
  simp [rangeTok, rangeRest]; omega

/-! ### with something to its left -/

/-- the delta is `lhs - llhs`, the count `q + 1` -/
theorem deltaStep11 (p x z q dl : Int) (hdl0 : dl ≠ 0) (hp : x - p = dl) (hd1 : -2147483648 ≤ dl) (hd2 : dl ≤ 2147483647)
    (hq : z - x = q * dl)
    (hw1 : -2147483647 ≤ z - x) (hw2 : z - x ≤ 2147483647) (hq1 : -2147483648 ≤ q + 1) (hq2 : q + 1 ≤ 2147483647) :
    C11.deltaFromArgVals (some (Cell.int .i p)) (Cell.int .i x) (some (Cell.int .i z)) false = .ok (q + 1, Cell.int .i dl) :=
  IntKind.delta_step .i p x z q dl hdl0 hp hd1 hd2 hq hw1 hw2 (by
    -- |q| ≤ |q * dl| = |z - x|
    have : q.natAbs ≤ (z - x).natAbs := by
      rw [hq, Int.natAbs_mul]; exact Nat.le_mul_of_pos_right _ (Int.natAbs_pos.mpr hdl0)
    omega) hq2

theorem uselessI_of_no_match {c : Cell} (x : Int) (ht : typesMatch c.type 105 = false) : uselessI c x = true := by
  cases c with
  | int ty v =>
    cases ty with
    | i => exact absurd ht (by simp [ArgVal.Cell.type, ArgVal.IntTy.char, typesMatch])
    | _ => rfl
  | _ => rfl

theorem NbCell.uselessFor {c0 : Cell} (h : NbCell c0) (x : Int) : IntKind.i.UselessFor (some c0) x (uselessI c0 x) := by
  rcases h.2 with ⟨p, rfl⟩ | hty
  · exact Or.inr ⟨p, rfl, rfl⟩
  · exact Or.inl ⟨hty, uselessI_of_no_match x hty⟩

/-- **the repaired scanner on `b ... c` behind a scalar value `c0`** (the last cell written, with at
    least one argument value before the range and no range header two cells back: `hold` says that the
    scanner's test `arg[-3]`, made when more than two values stand before, finds no header of a range
    with a delta, so that `c0` itself is the left neighbour) -/
theorem scanArgVal_rangeB (f : Nat) (x z : Int) (hx1 : -2147483648 ≤ x) (hx2 : x ≤ 2147483647)
    (hz1 : -2147483648 ≤ z) (hz2 : z ≤ 2147483647) (w1 w2 rest : Bytes) (hw1 : AllWs w1) (hne : w1 ≠ [])
    (hw2 : AllWs w2) (hs : Sep rest) (c0 : Cell) (older : List Cell) (ab : Nat) (hab : 1 ≤ ab)
    (hold : ab ≤ 2 ∨ ∀ n h, older[1]? = some (Cell.rep n h) → h = 0) (hc0 : NbCell c0) (num : Int) (dl : Cell)
    (hdelta : C11.deltaFromArgVals (some c0) (Cell.int .i x) (some (Cell.int .i z)) (uselessI c0 x) = .ok (num, dl)) :
    C11.scanArgVal (f + 2) (fmtDec x ++ rangeRest w1 w2 (fmtDec z) rest) (c0 :: older) ab true =
      .ok ((fmtDec x ++ rangeRest w1 w2 (fmtDec z) rest).length - rest.length, [Cell.rep num 1, dl, Cell.int .i x]) :=
  intCodec.scanArgVal11_range f x z ⟨hx1, hx2⟩ ⟨hz1, hz2⟩ w1 w2 rest hw1 hne hw2 hs.toW (c0 :: older) ab (some c0)
    (.head _ _ c0 hab rfl (by
      rcases hold with h | h
      · simp; omega
      · have : isDeltaHdr older[1]? = false := by
          cases ho : older[1]? with
          | none => rfl
          | some c => cases c <;> first | rfl | simp [isDeltaHdr, h _ _ ho]
        simp [this]))
    (uselessI c0 x) (hc0.uselessFor x) num dl (by rw [delta_llhs_useless]; exact hdelta)

/-- **the repaired scanner on `b ... c` directly behind a range with a delta**: the left neighbour
    is the last value of that range, `start + (num - 1) delta` -/
theorem scanArgVal_rangeC (f : Nat) (x z : Int) (hx1 : -2147483648 ≤ x) (hx2 : x ≤ 2147483647)
    (hz1 : -2147483648 ≤ z) (hz2 : z ≤ 2147483647) (w1 w2 rest : Bytes) (hw1 : AllWs w1) (hne : w1 ≠ [])
    (hw2 : AllWs w2) (hs : Sep rest) (s0 d0 : Cell) (n0 h0 : Int) (older : List Cell) (ab : Nat) (hab : 2 < ab)
    (hh0 : h0 ≠ 0) (c0 : Cell) (hlast : rangeArgF [Cell.rep n0 h0, d0, s0] (n0 - 1) = .ok (some c0))
    (hc0 : NbCell c0) (num : Int) (dl : Cell)
    (hdelta : C11.deltaFromArgVals (some c0) (Cell.int .i x) (some (Cell.int .i z)) (uselessI c0 x) = .ok (num, dl)) :
    C11.scanArgVal (f + 2) (fmtDec x ++ rangeRest w1 w2 (fmtDec z) rest) (s0 :: d0 :: Cell.rep n0 h0 :: older) ab true =
      .ok ((fmtDec x ++ rangeRest w1 w2 (fmtDec z) rest).length - rest.length, [Cell.rep num 1, dl, Cell.int .i x]) :=
  intCodec.scanArgVal11_range f x z ⟨hx1, hx2⟩ ⟨hz1, hz2⟩ w1 w2 rest hw1 hne hw2 hs.toW _ ab (some c0)
    (.range s0 d0 n0 h0 older ab c0 hab hh0 hlast) (uselessI c0 x) (hc0.uselessFor x) num dl
    (by rw [delta_llhs_useless]; exact hdelta)

/-- **the repaired checker on `b ... c` with something to its left** (`ll0`: where the previous
    argument starts; `ll1`: where the checker finds the left neighbour: behind the dots of a range,
    behind the `x` of a repetition, or `ll0`) -/
theorem skipNext_rangeL (f : Nat) (x z : Int) (hx1 : -2147483648 ≤ x) (hx2 : x ≤ 2147483647)
    (hz1 : -2147483648 ≤ z) (hz2 : z ≤ 2147483647) (w1 w2 rest : Bytes) (hw1 : AllWs w1) (hne : w1 ≠ [])
    (hw2 : AllWs w2) (hs : Sep rest) (ty : UInt8) (ib : Bool) (ll0 r1 : Bytes) (ra : SkipRes)
    (hra : C11.skipNextPrintedArg (f + 1) ll0 0 none false ib = .ok ra) (hsrc : ra.src = some r1)
    (ll1 : Bytes) (rl : SkipRes)
    (hll1 : (if List.length (skipSpace r1) > (46 :: 46 :: 46 :: (w2 ++ (fmtDec z ++ rest))).length ∧
        startsWith (skipSpace r1) [46, 46, 46] = true then skipSpace (List.drop 3 (skipSpace r1))
      else if isRangeMultiplier ll0 = true then afterX ll0 else ll0) = ll1)
    (hrl : C11.skipNextPrintedArg (f + 1) ll1 0 none false ib = .ok rl)
    (u : Bool) (ll : Option Cell)
    (hnb : (typesMatch rl.type 105 = false ∧ u = true ∧ ll = none) ∨
      (typesMatch rl.type 105 = true ∧ ∃ p, scanOne ll1 = .ok (Cell.int .i p) ∧ ll = some (Cell.int .i p) ∧
        u = decide (p = x)))
    (num : Int) (dl : Cell)
    (hdelta : C11.deltaFromArgVals ll (Cell.int .i x) (some (Cell.int .i z)) u = .ok (num, dl)) (hnum : num ≠ -1) :
    C11.skipNextPrintedArg (f + 2) (fmtDec x ++ rangeRest w1 w2 (fmtDec z) rest) ty (some ll0) true ib =
      .ok ⟨some rest, 3, 45⟩ := by
  obtain ⟨hW, hsk1, _⟩ := rangeRest_facts w1 w2 (fmtDec z) rest hw1 hne hw2 (tokStart_fmtDec z hz1 hz2)
  rw [C11.skipNext_value (some ll0) true (skipValue_intW _ x _ hW ty ib hx1 hx2) rfl, hsk1, if_pos ⟨rfl, rfl⟩]
  subst hll1
  exact intCodec.ellipsisTail11_range _ x z ⟨hx1, hx2⟩ ⟨hz1, hz2⟩ w1 w2 rest hw1 hne hw2 hs.toW ib (some ll0) ll u
    (skipNext11_int_noell f z hz1 hz2 rest hs.toW 120 none ib)
    (Or.inr ⟨ll0, ra, r1, rl, rfl, hra, hsrc, hrl, hnb.imp (fun h => ⟨h.1, h.2.1⟩) id⟩) num dl hdelta hnum

end Rtosc.Pretty.C11
