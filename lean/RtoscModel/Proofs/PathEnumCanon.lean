/-
  C18 — `TreeNumOK` (the hypothesis of the lookup clause for enumerated rows,
  RtoscModel/Path/EnumNum.lean) from a syntactic, decidable condition on the names
  (`CanonList` / `canonListB`).
-/
import RtoscModel.Proofs.PathEnumExt
namespace Rtosc.Path
open Rtosc

theorem decimalF_fuel (f g k : Nat) (h1 : k < f) (h2 : k < g) : decimalF f k = decimalF g k := by
  induction f generalizing g k with
  | zero => exact absurd h1 (Nat.not_lt_zero _)
  | succ f ih =>
    cases g with
    | zero => exact absurd h2 (Nat.not_lt_zero _)
    | succ g =>
      rw [decimalF, decimalF]
      by_cases hk : k < 10
      · rw [if_pos hk, if_pos hk]
      · rw [if_neg hk, if_neg hk, ih g (k / 10) (Nat.lt_of_lt_of_le (div10_lt hk) (Nat.le_of_lt_succ h1))
          (Nat.lt_of_lt_of_le (div10_lt hk) (Nat.le_of_lt_succ h2))]

theorem decimal_step (n : Nat) (h : 10 ≤ n) :
    decimal n = decimal (n / 10) ++ [UInt8.ofNat (48 + n % 10)] := by
  unfold decimal
  rw [decimalF, if_neg (Nat.not_lt.mpr h),
    decimalF_fuel n (n / 10 + 1) (n / 10) (div10_lt (Nat.not_lt.mpr h)) (Nat.lt_succ_self _)]

theorem decimal_small (n : Nat) (h : n < 10) : decimal n = [UInt8.ofNat (48 + n)] := by
  unfold decimal
  rw [decimalF, if_pos h]

theorem digit_ofNat {c : UInt8} (h : isDigit c = true) : UInt8.ofNat (48 + (c.toNat - 48)) = c ∧ c.toNat - 48 < 10 := by
  simp only [isDigit, decide_eq_true_eq, UInt8.le_iff_toNat_le] at h
  have h1 : 48 + (c.toNat - 48) = c.toNat := by
    have := h.1; simp at this; omega
  refine ⟨by rw [h1]; exact UInt8.ofNat_toNat, ?_⟩
  have := h.2; simp at this; omega

theorem atoiAux_ge (l : Bytes) (acc : Nat) : acc ≤ atoiAux acc l := by
  induction l generalizing acc with
  | nil => exact Nat.le_refl _
  | cons c r ih =>
    rw [atoiAux]
    split
    · exact Nat.le_trans (Nat.le_trans (Nat.le_mul_of_pos_right acc (by decide)) (Nat.le_add_right _ _)) (ih _)
    · exact Nat.le_refl _

theorem atoi_prefix_le {r D : Bytes} (h : r <+: D) (hr : ∀ c ∈ r, isDigit c = true) : atoi r ≤ atoi D := by
  obtain ⟨s, rfl⟩ := h
  unfold atoi
  rw [atoiAux_append_digits r s 0 hr]
  exact atoiAux_ge s _

theorem atoi_nondigit {r : Bytes} (h : isDigit (hd r) = false) : atoi r = 0 := atoiAux_nondigit h 0

theorem decimal_hd_zero : ∀ (n : Nat), hd (decimal n) = 48 → n = 0 := by
  intro n
  induction n using Nat.strongRecOn with
  | _ n ih =>
    intro h
    by_cases hn : n < 10
    · rw [decimal_small n hn] at h
      exact (by decide +kernel : ∀ k : Fin 10, UInt8.ofNat (48 + k) = 48 → k.val = 0) ⟨n, hn⟩ h
    · -- the leading digit of `n` is that of `n / 10`, which is not `0`
      rw [decimal_step n (Nat.le_of_not_lt hn), hd_append_of_ne (decimal_digits (n / 10)).1] at h
      have h0 := ih (n / 10) (div10_lt hn) h
      exact absurd (Nat.lt_of_div_eq_zero (by decide) h0) hn

theorem canon_of_hd (D : Bytes) (hD : Digits D) (hh : hd D ≠ 48) : Canon D ∧ 0 < atoi D := by
  -- by induction on the length, taking the last digit off
  generalize hl : D.length = n
  induction n generalizing D with
  | zero => exact absurd (List.length_eq_zero_iff.mp hl) hD.1
  | succ n ih =>
    obtain ⟨D', c, rfl⟩ : ∃ D' c, D = D' ++ [c] :=
      ⟨D.dropLast, D.getLast hD.1, (List.dropLast_concat_getLast hD.1).symm⟩
    have hl' : D'.length = n := by simpa using hl
    have hc : isDigit c = true := hD.2 c (by simp)
    have hD' : ∀ x ∈ D', isDigit x = true := fun x hx => hD.2 x (by simp [hx])
    obtain ⟨hc1, hc2⟩ := digit_ofNat hc
    have hval : atoi (D' ++ [c]) = atoi D' * 10 + (c.toNat - 48) := atoiAux_snoc D' c 0 hD' hc
    by_cases hn : D' = []
    · subst hn
      simp only [List.nil_append, hd_cons] at hh
      simp only [List.nil_append] at hval ⊢
      have h0 : atoi ([] : Bytes) = 0 := rfl
      rw [h0] at hval
      unfold Canon
      constructor
      · rw [hval, Nat.zero_mul, Nat.zero_add, decimal_small _ hc2, hc1]
      · rw [hval]
        rcases Nat.eq_zero_or_pos (c.toNat - 48) with h | h
        · exfalso; rw [h] at hc1; exact hh hc1.symm
        · omega
    · have hh' : hd D' ≠ 48 := by
        cases D' with
        | nil => exact absurd rfl hn
        | cons x _ => simpa using hh
      obtain ⟨ihc, ihp⟩ := ih D' ⟨hn, hD'⟩ hh' hl'
      unfold Canon at ihc ⊢
      constructor
      · rw [hval, decimal_step _ (Nat.le_trans (Nat.mul_le_mul_right 10 ihp) (Nat.le_add_right _ _)),
          Nat.mul_comm, Nat.mul_add_div (m := 10) (by decide), Nat.mul_add_mod, Nat.div_eq_of_lt hc2,
          Nat.mod_eq_of_lt hc2, Nat.add_zero, ← ihc, hc1]
      · rw [hval]; exact Nat.lt_of_lt_of_le (Nat.mul_pos ihp (by decide : 0 < 10)) (Nat.le_add_right _ _)

theorem canon_iff {S : Bytes} (hS : Digits S) : Canon S ↔ (S = [48] ∨ hd S ≠ 48) := by
  constructor
  · intro h
    by_cases h0 : hd S = 48
    · left
      unfold Canon at h
      rw [h] at h0
      have := decimal_hd_zero _ h0
      rw [h, this]; decide
    · exact Or.inr h0
  · rintro (rfl | h)
    · unfold Canon; decide
    · exact (canon_of_hd S hS h).1

theorem canon_prefix {D S : Bytes} (hS : Digits S) (hc : Canon S) (hD : D ≠ []) (h : D <+: S) : Canon D := by
  have hDd : Digits D := ⟨hD, fun c hc' => hS.2 c (h.subset hc')⟩
  rw [canon_iff hDd]
  rcases (canon_iff hS).mp hc with rfl | h0
  · left
    cases D with
    | nil => exact absurd rfl hD
    | cons x t =>
      obtain ⟨rfl, ht⟩ := List.cons_prefix_cons.mp h
      simp at ht; rw [ht]
  · right
    cases D with
    | nil => exact absurd rfl hD
    | cons x t =>
      obtain ⟨u, rfl⟩ := h
      simpa using h0

theorem goodRuns_expand {n e : Bytes} (hn : EnumName n) (hc : CanonName (lit n)) (he : e ∈ expandName (lit n)) :
    GoodRuns e := by
  rcases mem_expandName he with ⟨hs, rfl⟩ | ⟨pre, d, post, k, hs, hk, rfl⟩
  · unfold CanonName at hc; rw [hs] at hc; exact hc
  · unfold CanonName at hc; rw [hs] at hc
    obtain ⟨gpre, gpost, hlast⟩ := hc
    have r := enum_row hn hs
    obtain ⟨hk1, hk2⟩ := decimal_digits k
    have hpostd : isDigit (hd post) = false := r.post_nondigit
    have hboundary : Canon ((decimal k ++ post).takeWhile isDigit) ∧
        atoi ((decimal k ++ post).takeWhile isDigit) < 2147483648 := by
      rw [takeWhile_digits_run (decimal k) post hk2 hpostd]
      unfold Canon
      rw [atoi_decimal]
      exact ⟨rfl, Nat.lt_trans hk r.lt_max⟩
    intro x y hxy hx hy
    rcases List.append_eq_append_iff.mp hxy with ⟨as, h1, h2⟩ | ⟨bs, h1, h2⟩
    · by_cases has : as = []
      · subst has
        simp only [List.nil_append] at h2
        rw [← h2]; exact hboundary
      · rcases List.append_eq_append_iff.mp h2 with ⟨cs, h3, h4⟩ | ⟨ds, h3, h4⟩
        · -- as = decimal k ++ cs, post = cs ++ y
          by_cases hcs : cs = []
          · subst hcs
            simp only [List.nil_append] at h4
            rw [← h4, hpostd] at hy; cases hy
          · refine gpost cs y h4 ?_ hy
            intro c hc
            apply hx c
            rw [h1, h3, ← List.append_assoc, getLast?_append_ne _ _ hcs]; exact hc
        · -- decimal k = as ++ ds: the split lies inside the index
          exfalso
          obtain ⟨c, hc⟩ : ∃ c, as.getLast? = some c := by
            cases h : as.getLast? with
            | none => exact absurd (List.getLast?_eq_none_iff.mp h) has
            | some c => exact ⟨c, rfl⟩
          have hcd : isDigit c = true := hk2 c (by rw [h3]; exact List.mem_append_left _ (List.mem_of_getLast? hc))
          have := hx c (by rw [h1, getLast?_append_ne _ _ has]; exact hc)
          rw [hcd] at this; cases this
    · by_cases hbs : bs = []
      · subst hbs
        simp only [List.nil_append] at h2
        rw [h2]; exact hboundary
      · have hbl : ∃ c ∈ bs, isDigit c = false := by
          obtain ⟨c, hc⟩ : ∃ c, bs.getLast? = some c := by
            cases h : bs.getLast? with
            | none => exact absurd (List.getLast?_eq_none_iff.mp h) hbs
            | some c => exact ⟨c, rfl⟩
          exact ⟨c, List.mem_of_getLast? hc, hlast c (by rw [h1, getLast?_append_ne _ _ hbs]; exact hc)⟩
        have hyb : isDigit (hd bs) = true := by
          cases bs with
          | nil => exact absurd rfl hbs
          | cons b _ => rw [h2] at hy; simpa using hy
        have := gpre x bs h1 hx hyb
        rw [h2, takeWhile_append_nondigit bs _ hbl]
        exact this

theorem digits_prefix_takeWhile {D r : Bytes} (hD : ∀ c ∈ D, isDigit c = true) (h : D <+: r) :
    D <+: r.takeWhile isDigit := by
  obtain ⟨z, rfl⟩ := h
  rw [List.takeWhile_append_of_pos hD]; exact List.prefix_append _ _

/-- behind a part `pre` that does not end in a digit, a canonical name `a = pre ++ r` is compared with a
    digit string `D`: whichever of `r`, `D` is a prefix of the other is a printed number -/
theorem canon_of_comparable {a pre r D : Bytes} (ga : GoodRuns a) (ha : a = pre ++ r)
    (hpre : ∀ c, pre.getLast? = some c → isDigit c = false) (hD : Digits D) :
    (D <+: r → Canon D) ∧ (r <+: D → r ≠ [] → Canon r) := by
  constructor
  · intro h
    have hhd : isDigit (hd r) = true := by obtain ⟨z, rfl⟩ := h; exact hd_digits_append hD z
    have hS : Digits (r.takeWhile isDigit) :=
      ⟨fun e => hD.1 (List.prefix_nil.mp (e ▸ digits_prefix_takeWhile hD.2 h)), mem_takeWhile _ _⟩
    exact canon_prefix hS (ga pre r ha hpre hhd).1 hD.1 (digits_prefix_takeWhile hD.2 h)
  · intro h hrn
    have hrd : ∀ c ∈ r, isDigit c = true := fun c hc => hD.2 c (h.subset hc)
    have hhd : isDigit (hd r) = true := by
      cases r with
      | nil => exact absurd rfl hrn
      | cons c _ => exact hrd c List.mem_cons_self
    have := (ga pre r ha hpre hhd).1
    rwa [show r.takeWhile isDigit = r by simpa using List.takeWhile_append_of_pos (l₂ := []) hrd] at this

/-- **a syntactic sufficient condition for `TableNumOK`**: if, besides `TableOKE`, every
    enumerated row has `N ≥ 1` and every name is canonical (its literal digit runs are numbers
    below 2^31 printed without leading zeros, and its `#` does not follow a digit), then the
    leading-zero readings of `rtosc_match_number` cannot hit a sibling's expanded name. -/
theorem tableNumOK_of_canon {ps : List PortT} (hE : TableOKE ps)
    (hc : ∀ q ∈ ps, EnumPos (lit q.name) ∧ CanonName (lit q.name)) : TableNumOK ps := by
  refine ⟨fun q hq => (hc q hq).1, ?_⟩
  intro i j p q hp hq hij a ha
  have hpm : p ∈ ps := List.mem_of_getElem? hp
  have hqm : q ∈ ps := List.mem_of_getElem? hq
  have ga : GoodRuns a := goodRuns_expand (hE.1 p hpm).1 (hc p hpm).2 ha
  have hab : ∀ b' ∈ expandName (lit q.name), ¬ a <+: b' ∧ ¬ b' <+: a := fun b' hb' =>
    ⟨hE.2 i j p q hp hq hij a ha b' hb', hE.2 j i q p hq hp (Ne.symm hij) b' hb' a ha⟩
  obtain ⟨hposq, hcq⟩ := hc q hqm
  cases hs : splitHash (lit q.name) with
  | none =>
    constructor
    · unfold IndexFits; rw [hs]; trivial
    · intro b hb
      unfold AcceptsName at hb; rw [hs] at hb; subst hb
      exact hab _ (by unfold expandName; rw [hs]; exact List.mem_singleton.mpr rfl)
  | some t =>
    obtain ⟨pre, d, post⟩ := t
    unfold CanonName at hcq; rw [hs] at hcq
    obtain ⟨_, _, hlastq⟩ := hcq
    unfold EnumPos at hposq; rw [hs] at hposq
    simp only at hposq
    have hmem : ∀ m, m < atoi d → pre ++ (decimal m ++ post) ∈ expandName (lit q.name) := by
      intro m hm
      unfold expandName; rw [hs]
      simp only [List.mem_map, List.mem_range]
      exact ⟨m, hm, by simp⟩
    have hnotpre : ¬ a <+: pre := fun h => (hab _ (hmem 0 hposq)).1 (h.trans (List.prefix_append _ _))
    constructor
    · unfold IndexFits; rw [hs]
      intro r hr
      by_cases hdg : isDigit (hd r) = true
      · have := (ga pre r hr hlastq hdg).2; rwa [atoi_takeWhile] at this
      · rw [atoi_nondigit (by simpa using hdg)]; omega
    · intro b hb
      unfold AcceptsName at hb; rw [hs] at hb
      obtain ⟨D, hD, hlt, rfl⟩ := hb
      -- comparable with `pre D post` and not inside `pre`: `a = pre ++ r` with `r`, `D` comparable
      suffices h : ∀ r, a = pre ++ r → (D <+: r ∨ r <+: D) →
          (a <+: pre ++ (D ++ post) ∨ pre ++ (D ++ post) <+: a) → False by
        constructor
        · intro hab1
          rcases List.prefix_or_prefix_of_prefix hab1 (List.prefix_append pre _) with h0 | ⟨r, hr⟩
          · exact hnotpre h0
          · have hr' : r <+: D ++ post := by
              rw [← hr] at hab1; exact (List.prefix_append_right_inj pre).mp hab1
            exact h r hr.symm (List.prefix_or_prefix_of_prefix hr' (List.prefix_append D post)).symm (.inl hab1)
        · rintro ⟨x, hx⟩
          exact h (D ++ (post ++ x)) (by rw [← hx]; simp) (.inl (List.prefix_append _ _)) (.inr ⟨x, hx⟩)
      intro r hr hcmp hab1
      obtain ⟨c1, c2⟩ := canon_of_comparable ga hr hlastq hD
      rcases hcmp with h | h
      · -- `D` is a printed number: the accepted name is an expanded one
        have hcD := c1 h
        unfold Canon at hcD
        have := hab _ (hmem (atoi D) hlt)
        rw [← hcD] at this
        exact hab1.elim this.1 this.2
      · by_cases hrn : r = []
        · subst hrn; rw [List.append_nil] at hr; exact hnotpre (hr ▸ List.prefix_refl _)
        · have hcr := c2 h hrn
          have hrd : ∀ c ∈ r, isDigit c = true := fun c hc => hD.2 c (h.subset hc)
          have hm := hmem (atoi r) (Nat.lt_of_le_of_lt (atoi_prefix_le h hrd) hlt)
          unfold Canon at hcr; rw [← hcr] at hm
          exact (hab _ hm).1 (by rw [hr]; exact ⟨post, by simp⟩)

theorem canonList_mem : ∀ (ps : List PortT), CanonList ps → ∀ q ∈ ps, EnumPos (lit q.name) ∧ CanonName (lit q.name)
  | [], _, q, hq => by simp at hq
  | .mk n m h cs :: r, hc, q, hq => by
    rw [CanonList, CanonPort] at hc
    simp only [List.mem_cons] at hq
    rcases hq with rfl | hq
    · exact hc.1.1
    · exact canonList_mem r hc.2 q hq

mutual
theorem subTablesNumOK_of_canon : ∀ (ps : List PortT), SubTablesOKE ps → CanonList ps → SubTablesNumOK ps
  | [], _, _ => trivial
  | p :: r, hE, hc => by
    rw [SubTablesOKE] at hE
    rw [CanonList] at hc
    exact ⟨portNumOK_of_canon p hE.1 hc.1, subTablesNumOK_of_canon r hE.2 hc.2⟩
theorem portNumOK_of_canon : ∀ (p : PortT), PortOKE p → CanonPort p → PortNumOK p
  | .mk n m h cs, hE, hc => by
    rw [PortOKE] at hE
    rw [CanonPort] at hc
    exact ⟨tableNumOK_of_canon hE.1 (canonList_mem cs hc.2), subTablesNumOK_of_canon cs hE.2 hc.2⟩
end

theorem treeNumOK_of_canon (ps : List PortT) (hE : TreeOKE ps) (hc : CanonList ps) : TreeNumOK ps :=
  ⟨tableNumOK_of_canon hE.1 (canonList_mem ps hc), subTablesNumOK_of_canon ps hE.2 hc⟩

theorem noDigitLast_iff (x : Bytes) : noDigitLast x = true ↔ ∀ c, x.getLast? = some c → isDigit c = false := by
  unfold noDigitLast
  cases x.getLast? with
  | none => simp
  | some c => simp

theorem goodRuns_of_B {s : Bytes} (h : goodRunsB s = true) : GoodRuns s := by
  intro x y hxy hx hy
  have hk := List.all_eq_true.mp h x.length (by rw [List.mem_range, hxy]; simp; omega)
  have e1 : s.take x.length = x := by rw [hxy]; simp
  have e2 : s.drop x.length = y := by rw [hxy]; simp
  rw [e1, e2, (noDigitLast_iff x).mpr hx, hy] at hk
  simpa [Canon] using hk

theorem canonName_of_B {l : Bytes} (h : canonNameB l = true) : CanonName l := by
  unfold canonNameB at h
  unfold CanonName
  cases hs : splitHash l with
  | none => rw [hs] at h; exact goodRuns_of_B h
  | some t =>
    obtain ⟨pre, d, post⟩ := t
    rw [hs] at h
    simp only [Bool.and_eq_true] at h
    exact ⟨goodRuns_of_B h.1.1, goodRuns_of_B h.1.2, (noDigitLast_iff pre).mp h.2⟩

mutual
theorem canonList_of_B : ∀ (ps : List PortT), canonListB ps = true → CanonList ps
  | [], _ => trivial
  | p :: r, h => by
    simp only [canonListB, Bool.and_eq_true] at h
    exact ⟨canonPort_of_B p h.1, canonList_of_B r h.2⟩
theorem canonPort_of_B : ∀ (p : PortT), canonPortB p = true → CanonPort p
  | .mk n m hp cs, h => by
    simp only [canonPortB, Bool.and_eq_true, decide_eq_true_eq] at h
    exact ⟨⟨h.1.1, canonName_of_B h.1.2⟩, canonList_of_B cs h.2⟩
end

end Rtosc.Path
