/-
  C11 — texts that consist of good arguments (`Arg11`) separated by arbitrary runs of white space and
  comment lines (`ArgsLay`): what may stand between and behind the arguments (`SepGaps`, `Tail`), what the
  two list loops skip there, how `rtosc_count_printed_arg_vals` / `rtosc_scan_arg_vals` enter their loops
  (`…_lead`) and what they do on a text without values (`…_empty`).  `Arg11`, `ArgsLay`, `SepGaps`, `Tail` are
  defined in `Pretty/C11LayoutSpec.lean`, with the other shapes of text of this stack.
-/
import RtoscModel.Proofs.ScanLayout
namespace Rtosc.Pretty.C11
open Rtosc Rtosc.Libc Rtosc.Pretty
open Rtosc.ArgVal (Cell)

/-- what can stand behind the gaps that follow a value: no `(` (an exact value in parentheses) and no `.`
    (the dots of a range), which would belong to the value -/
def Body (body : Bytes) : Prop := body = [] ∨ (isspace (hd body) = false ∧ hd body ≠ 40 ∧ hd body ≠ 46)

theorem Body.of_tokStart {t : Bytes} (h : TokStart t) (rest : Bytes) : Body (t ++ rest) := by
  obtain ⟨hne, hsp, _, h40, h46, _⟩ := h
  right
  rw [hd_append_of_ne_nil _ _ hne]
  exact ⟨hsp, h40, h46⟩

theorem body_comment (x : Bytes) : Body (37 :: x) := by
  right; simp only [hd_cons]; decide

theorem hd_skipSpace_gaps (g : List Gap) (body : Bytes) :
    hd (skipSpace (gapsBytes g ++ body)) = 37 ∨ skipSpace (gapsBytes g ++ body) = skipSpace body := by
  induction g with
  | nil => right; simp [gapsBytes]
  | cons x g ih =>
    cases x with
    | ws w =>
      have e : gapsBytes (Gap.ws w :: g) ++ body = w.byte :: (gapsBytes g ++ body) := by
        simp [gapsBytes, Gap.bytes]
      have : skipSpace (w.byte :: (gapsBytes g ++ body)) = skipSpace (gapsBytes g ++ body) :=
        skipSpace_append [w.byte] _ (by simp [isspace_ws])
      rw [e, this]; exact ih
    | comment b =>
      left
      have e : gapsBytes (Gap.comment b :: g) ++ body = 37 :: (commentBody b ++ 10 :: (gapsBytes g ++ body)) := by
        simp [gapsBytes, Gap.bytes]
      rw [e]
      simp [skipSpace, isspace]

theorem skipSpace_body (body : Bytes) (h : Body body) : skipSpace body = body :=
  skipSpace_of_hd body (h.imp id And.left)

theorem sep_gaps (g : List Gap) (hg : SepGaps g) (body : Bytes) (hb : Body body) :
    Sep (gapsBytes g ++ body) := by
  obtain ⟨w, r, rfl⟩ := hg
  have hhd : hd (skipSpace (gapsBytes (Gap.ws w :: r) ++ body)) ≠ 40 ∧
      hd (skipSpace (gapsBytes (Gap.ws w :: r) ++ body)) ≠ 46 := by
    rcases hd_skipSpace_gaps (Gap.ws w :: r) body with h | h
    · rw [h]; decide
    · rw [h, skipSpace_body body hb]
      rcases hb with rfl | ⟨_, h40, h46⟩
      · decide
      · exact ⟨h40, h46⟩
  refine ⟨?_, hhd.1, startsWith_dots_hd _ hhd.2⟩
  right; left
  simp [gapsBytes, Gap.bytes, isspace_ws]

theorem Tail.sep {tail : Bytes} (h : Tail tail) : Sep tail := by
  cases h with
  | none => exact sep_nil
  | gaps g hg => simpa using sep_gaps g hg [] (Or.inl rfl)
  | last g b hg => exact sep_gaps g hg _ (body_comment _)

/-- `numComments g` comment lines are still there after leading white space is skipped -/
theorem numComments_le_skipSpace (g : List Gap) (body : Bytes) :
    numComments g + (skipSpace body).length ≤ (skipSpace (gapsBytes g ++ body)).length := by
  induction g with
  | nil => simp [gapsBytes, numComments]
  | cons x g ih =>
    cases x with
    | ws w =>
      have e : gapsBytes (Gap.ws w :: g) ++ body = w.byte :: (gapsBytes g ++ body) := by
        simp [gapsBytes, Gap.bytes]
      have : skipSpace (w.byte :: (gapsBytes g ++ body)) = skipSpace (gapsBytes g ++ body) :=
        skipSpace_append [w.byte] _ (by simp [isspace_ws])
      rw [e, this]; simpa [numComments] using ih
    | comment b =>
      have e : gapsBytes (Gap.comment b :: g) ++ body = 37 :: (commentBody b ++ 10 :: (gapsBytes g ++ body)) := by
        simp [gapsBytes, Gap.bytes]
      have hsp : skipSpace (37 :: (commentBody b ++ 10 :: (gapsBytes g ++ body))) =
          37 :: (commentBody b ++ 10 :: (gapsBytes g ++ body)) := by
        simp [skipSpace, isspace]
      have h1 := skipSpace_length_le (gapsBytes g ++ body)
      rw [e, hsp]
      simp only [numComments, List.length_cons, List.length_append] at ih h1 ⊢
      omega

/-- the checker's skipping behind a value: white space, then comment lines -/
theorem checkSkip_gaps (g : List Gap) (body : Bytes) (hb : Stop body) :
    checkSkip (gapsBytes g ++ body) = .ok body := by
  have hle := numComments_le_skipSpace g body
  unfold checkSkip
  split
  · rw [skipCommentLines_gaps g body _ (by omega)]
    obtain ⟨f, hf⟩ : ∃ f, (skipSpace (gapsBytes g ++ body)).length + 1 - numComments g = f + 1 :=
      ⟨(skipSpace (gapsBytes g ++ body)).length - numComments g, by omega⟩
    rw [hf]
    exact skipCommentLines_stop f body hb
  · rename_i h0
    have h0' : hd (skipSpace (gapsBytes g ++ body)) = 0 := by simpa using h0
    rcases hd_skipSpace_gaps g body with h | h
    · rw [h] at h0'; exact absurd h0' (by decide)
    · rw [h, skipSpace_stop body hb]; rfl

theorem checkSkip_last (g : List Gap) (b : Bytes) :
    checkSkip (gapsBytes g ++ 37 :: commentBody b) = .ok [] := by
  unfold checkSkip
  have hsp : skipSpace (37 :: commentBody b) = 37 :: commentBody b := by simp [skipSpace, isspace]
  have hle := numComments_le_skipSpace g (37 :: commentBody b)
  rw [hsp] at hle
  have hne : hd (skipSpace (gapsBytes g ++ 37 :: commentBody b)) ≠ 0 := by
    rcases hd_skipSpace_gaps g (37 :: commentBody b) with h | h
    · rw [h]; decide
    · rw [h, hsp]; simp
  simp only [hne, ne_eq, not_false_eq_true, ↓reduceIte]
  rw [skipCommentLines_gaps g _ _ (by simp only [List.length_cons] at hle; omega), hsp]
  obtain ⟨f, hf⟩ : ∃ f, (skipSpace (gapsBytes g ++ 37 :: commentBody b)).length + 1 - numComments g = f + 2 :=
    ⟨(skipSpace (gapsBytes g ++ 37 :: commentBody b)).length - numComments g - 1, by
      simp only [List.length_cons] at hle; omega⟩
  rw [hf]
  exact skipCommentLines_last b f

theorem scanSkip_gaps (g : List Gap) (body : Bytes) (hb : Stop body) :
    skipSpaceComments ((gapsBytes g ++ body).length + 1) (gapsBytes g ++ body) = .ok (gapsBytes g).length := by
  have hle := numComments_le g
  rw [skipSpaceComments_gaps g body _ (by simp only [List.length_append]; omega)]
  obtain ⟨f, hf⟩ : ∃ f, (gapsBytes g ++ body).length + 1 - numComments g = f + 1 :=
    ⟨(gapsBytes g ++ body).length - numComments g, by simp only [List.length_append]; omega⟩
  rw [hf, skipSpaceComments_stop f body hb]
  simp [Except.map]

theorem scanSkip_last (g : List Gap) (b : Bytes) :
    skipSpaceComments ((gapsBytes g ++ 37 :: commentBody b).length + 1) (gapsBytes g ++ 37 :: commentBody b) =
      .ok (gapsBytes g ++ 37 :: commentBody b).length := by
  have hle := numComments_le g
  rw [skipSpaceComments_gaps g _ _ (by simp only [List.length_append]; omega)]
  obtain ⟨f, hf⟩ : ∃ f, (gapsBytes g ++ 37 :: commentBody b).length + 1 - numComments g = f + 1 :=
    ⟨(gapsBytes g ++ 37 :: commentBody b).length - numComments g, by simp only [List.length_append]; omega⟩
  rw [hf, skipSpaceComments_last f b]
  simp [Except.map]; omega

theorem scanSkip_tail {tail : Bytes} (h : Tail tail) :
    skipSpaceComments (tail.length + 1) tail = .ok tail.length := by
  cases h with
  | none => exact skipSpaceComments_stop 0 [] stop_nil
  | gaps g _ => simpa using scanSkip_gaps g [] stop_nil
  | last g b _ => exact scanSkip_last g b

theorem checkSkip_tail {tail : Bytes} (h : Tail tail) : checkSkip tail = .ok [] := by
  cases h with
  | none => simp [checkSkip, skipSpace, pure, Except.pure]
  | gaps g _ => simpa using checkSkip_gaps g [] stop_nil
  | last g b _ => exact checkSkip_last g b

theorem gapOK_gaps {g : List Gap} {text : Bytes} (hg : SepGaps g) (hstart : TokStart text) :
    GapOK (gapsBytes g) text :=
  have hstop : Stop text := by simpa using Stop.of_tokStart hstart []
  ⟨sep_gaps g hg text (by simpa using Body.of_tokStart hstart []), scanSkip_gaps g text hstop, checkSkip_gaps g text hstop⟩

theorem gapOK_tail {tail : Bytes} (h : Tail tail) : GapOK tail [] := by
  refine ⟨?_, ?_, ?_⟩ <;> rw [List.append_nil]
  · exact h.sep
  · exact scanSkip_tail h
  · exact checkSkip_tail h

theorem allCells_cons (t : Bytes) (cs : List Cell) (more : List (Bytes × List Cell)) :
    allCells ((t, cs) :: more) = cs ++ allCells more := rfl

theorem allCells_single (t : Bytes) (cs : List Cell) : allCells [(t, cs)] = cs := by simp [allCells]

/-- the checker's recursion bound covers the text from `src` on -/
theorem lookBackFuel_ge (src : Bytes) (recent : Option Bytes) :
    ∃ lf, lookBackFuel src recent = lf + 2 ∧ src.length ≤ lf ∧ (∀ r, recent = some r → r.length ≤ lf) := by
  refine ⟨lookBackFuel src recent - 2, ?_, ?_, ?_⟩
  · unfold lookBackFuel; omega
  · unfold lookBackFuel; omega
  · intro r hr; subst hr; unfold lookBackFuel; simp only; omega

/-- `rtosc_count_printed_arg_vals` skips the gaps in front of the first token (or of the end of the text) and
    enters its loop there -/
theorem countPrintedArgVals_lead (lead : List Gap) (text : Bytes) (hstop : Stop text) :
    C11.countPrintedArgVals (gapsBytes lead ++ text) = C11.countLoop (text.length + 1) (some text) none 0 := by
  have hle := numComments_le_skipSpace lead text
  unfold C11.countPrintedArgVals
  show (do let s1 ← skipCommentLines ((skipSpace (gapsBytes lead ++ text)).length + 1) (skipSpace (gapsBytes lead ++ text))
           C11.countLoop (s1.length + 1) (some s1) none 0) = _
  rw [skipCommentLines_gaps lead text _ (by omega)]
  obtain ⟨f, hf⟩ : ∃ f, (skipSpace (gapsBytes lead ++ text)).length + 1 - numComments lead = f + 1 :=
    ⟨(skipSpace (gapsBytes lead ++ text)).length - numComments lead, by omega⟩
  rw [hf, skipCommentLines_stop f text hstop]
  rfl

/-- `rtosc_scan_arg_vals` skips the gaps in front of the first token (or of the end of the text; fix C11-01)
    and enters its loop there -/
theorem scanArgVals_lead (lead : List Gap) (text : Bytes) (n : Nat) (hstop : Stop text) :
    C11.scanArgVals (gapsBytes lead ++ text) n =
      C11.scanArgValsLoop (n + 1) text n 0 true [] (gapsBytes lead).length := by
  unfold C11.scanArgVals
  rw [scanSkip_gaps lead text hstop]
  simp only [bind, Except.bind, List.drop_left]

/-- the empty sentence: only gaps (and possibly an unterminated comment) -/
theorem countPrintedArgVals_empty (lead : List Gap) (tail : Bytes) (h : tail = [] ∨ ∃ b, tail = 37 :: commentBody b) :
    C11.countPrintedArgVals (gapsBytes lead ++ tail) = .ok 0 := by
  rcases h with rfl | ⟨b, rfl⟩
  · rw [countPrintedArgVals_lead lead [] stop_nil]
    simp [C11.countLoop]
  · unfold C11.countPrintedArgVals
    show (do let s1 ← skipCommentLines ((skipSpace (gapsBytes lead ++ 37 :: commentBody b)).length + 1)
                  (skipSpace (gapsBytes lead ++ 37 :: commentBody b))
             C11.countLoop (s1.length + 1) (some s1) none 0) = _
    have hsp : skipSpace (37 :: commentBody b) = 37 :: commentBody b := by simp [skipSpace, isspace]
    have hle := numComments_le_skipSpace lead (37 :: commentBody b)
    rw [hsp] at hle
    rw [skipCommentLines_gaps lead _ _ (by simp only [List.length_cons] at hle; omega), hsp]
    obtain ⟨f, hf⟩ : ∃ f, (skipSpace (gapsBytes lead ++ 37 :: commentBody b)).length + 1 - numComments lead = f + 2 :=
      ⟨(skipSpace (gapsBytes lead ++ 37 :: commentBody b)).length - numComments lead - 1, by
        simp only [List.length_cons] at hle; omega⟩
    rw [hf, skipCommentLines_last b f]
    simp [bind, Except.bind, C11.countLoop]

theorem scanArgVals_empty (lead : List Gap) (tail : Bytes) (h : tail = [] ∨ ∃ b, tail = 37 :: commentBody b) :
    C11.scanArgVals (gapsBytes lead ++ tail) 0 = .ok ((gapsBytes lead ++ tail).length, []) := by
  rcases h with rfl | ⟨b, rfl⟩
  · rw [scanArgVals_lead lead [] 0 stop_nil]
    simp [C11.scanArgValsLoop, pure, Except.pure]
  · -- an unterminated comment is no `Stop`: the case `scanArgVals_lead` does not cover
    unfold C11.scanArgVals
    rw [scanSkip_last lead b]
    simp [bind, Except.bind, C11.scanArgValsLoop, pure, Except.pure]

end Rtosc.Pretty.C11
