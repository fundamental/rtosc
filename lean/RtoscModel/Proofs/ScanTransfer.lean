/-
  C11 — from the two `switch`es to the C11 model of `rtosc_scan_arg_val` /
  `rtosc_skip_next_printed_arg`.

  `ValOK t c` (`Pretty/TokSpec.lean`): the `switch(*src)` of the scanner and the one of the checker
  read the text `t` as the scalar cell `c`, whatever separator follows and whatever the recursion
  handlers are.  It is proved per token class in `Proofs/PrettyTok*.lean`; spellings the printer never
  writes are added in `Proofs/ScanTokensInt.lean`.

  `Arg11 t cs` (`Pretty/C11LayoutSpec.lean`): the C11 model (`Pretty/C11Model.lean`, the repaired functions)
  reads `t` as the cells `cs` of one argument.  `ValOK → Arg11` here, `ValOK → TokOK` for C10's functions in
  `Proofs/PrettyTok.lean`: both models agree on every such token.
-/
import RtoscModel.Proofs.PrettyLoops
namespace Rtosc.Pretty.C11
open Rtosc Rtosc.Libc Rtosc.Pretty
open Rtosc.ArgVal (Cell)

theorem Arg11.length_pos {t : Bytes} {cs : List Cell} (h : Arg11 t cs) : 0 < cs.length :=
  List.length_pos_iff.mpr h.ne

theorem finishArg_plain (se : ElemScanner) (t rest : Bytes) (cells : List Cell) (av : Bool)
    (prev : List Cell) (ab : Nat) (fe : Bool) (hs : Sep rest) :
    C11.finishArg se (t ++ rest) ⟨rest, cells, av⟩ prev ab fe = .ok (t.length, cells) := by
  have h3 := (sep_skipSpace_facts rest hs).2
  unfold C11.finishArg
  simp [h3, pure, Except.pure]

/-- the checker behind a value that no dots follow: the answer of its `switch` stands -/
theorem skipNext_plain {f : Nat} {oldSrc : Bytes} {ty : UInt8} {ib : Bool} {sw : SwRes} {rest : Bytes}
    (llhs : Option Bytes) (fe : Bool) (hs : Sep rest)
    (h : skipValue (C11.skipNextPrintedArg f) oldSrc ty ib = .ok (some sw)) (hsrc : sw.src = some rest) :
    C11.skipNextPrintedArg (f + 1) oldSrc ty llhs fe ib = .ok ⟨some rest, sw.skipped, sw.type⟩ := by
  rw [C11.skipNext_value llhs fe h hsrc, if_neg]
  simp [(sep_skipSpace_facts rest hs).2]

/-- the repaired checker skips a scalar token, whatever the recursion bound -/
theorem ValOK.skip11 {t : Bytes} {c : Cell} (h : ValOK t c) (rest : Bytes) (hs : Sep rest) (fuel : Nat) (ty : UInt8)
    (llhs : Option Bytes) (fe ib : Bool) :
    C11.skipNextPrintedArg (fuel + 1) (t ++ rest) ty llhs fe ib = .ok ⟨some rest, 1, c.type⟩ := by
  obtain ⟨dl, hv⟩ := h.skip (C11.skipNextPrintedArg fuel) rest ty ib hs
  exact skipNext_plain llhs fe hs hv rfl

theorem ValOK.arg11 {t : Bytes} {c : Cell} (h : ValOK t c) : Arg11 t [c] := by
  refine ⟨h.start, by simp, ?_, ⟨true, Pretty.canPrecedeRange_scalar c [] h.scalar⟩, ⟨c.type, elemTy_scalar c [] h.scalar⟩, ?_, ?_⟩
  · simpa using nextArgOffset_scalar 1 c [] h.scalar
  · intro rest fuel prev ab fe hs _
    rw [C11.scanArgVal_value ab fe (h.scan _ rest prev hs)]
    exact finishArg_plain _ t rest [c] true prev ab fe hs
  · intro rest fuel ty llhs fe ib hs _
    exact ⟨⟨some rest, 1, c.type⟩, h.skip11 rest hs fuel ty llhs fe ib, rfl, rfl, rfl⟩

end Rtosc.Pretty.C11
