/-
  C05: the digit runs at enumerations (`EnumRunsBounded` against its decidable form `enumIdxCheck`; it
  holds for free on any address that has a leftmost reading), rendered patterns under `EnumIdxBounded`,
  and the leftmost-alternative reading of whole patterns.
-/
import RtoscModel.Proofs.MatchLemmas
namespace Rtosc.Match
open Rtosc

theorem enumIdxCheck_move (post : List Seg) : ∀ {pre : List Seg} {a x : Bytes},
    SpellsLeftmost pre a x → enumIdxCheck (pre ++ post) a = true → enumIdxCheck post x = true := by
  intro pre
  induction pre with
  | nil => intro a x h hck; cases h; exact hck
  | cons s r ih =>
    intro a x h hck
    obtain ⟨y, hs, hr⟩ := spellsLeftmost_cons.mp h
    simp only [List.cons_append, enumIdxCheck_cons, hs, Bool.and_eq_true] at hck
    exact ih hr hck.2

theorem runOK_of_step {s : Seg} {a x : Bytes} (hs : s.step decVal a = some x)
    (hN : ∀ ds, s = .enum ds → decVal ds < 2 ^ 31) : s.runOK a = true := by
  cases s with
  | enum ds =>
    simp only [Seg.step] at hs
    split at hs
    · next hp => simpa [Seg.runOK] using Nat.lt_trans hp.2 (hN ds rfl)
    · cases hs
  | _ => rfl

/-- along a leftmost reading of a prefix of the segment list the check passes (the indices it carries
    are below N < 2^31), up to the digit run that stands at the enumeration behind it -/
theorem enumIdxCheck_prefix : ∀ {pre : List Seg} {a x : Bytes}, SpellsLeftmost pre a x →
    (∀ ds, Seg.enum ds ∈ pre → decVal ds < 2 ^ 31) → ∀ (post : List Seg),
    enumIdxCheck (pre ++ post) a = enumIdxCheck post x := by
  intro pre
  induction pre with
  | nil => intro a x h _ post; cases h; rfl
  | cons s r ih =>
    intro a x h hN post
    obtain ⟨y, hs, hr⟩ := spellsLeftmost_cons.mp h
    rw [List.cons_append, enumIdxCheck_cons, hs, runOK_of_step hs (fun ds h => hN ds (h ▸ List.mem_cons_self)),
      Bool.true_and]
    exact ih hr (fun ds h => hN ds (List.mem_cons_of_mem _ h)) post

/-- an address that has a leftmost reading carries an index below N < 2^31 at every
    enumeration of the segments it spells -/
theorem enumIdxCheck_of_leftmost {segs : List Seg} {a r : Bytes} (h : SpellsLeftmost segs a r)
    (hN : ∀ ds, Seg.enum ds ∈ segs → decVal ds < 2 ^ 31) : enumIdxCheck segs a = true := by
  have := enumIdxCheck_prefix h hN []
  rwa [List.append_nil] at this

/-- **`enumIdxCheck` decides `EnumRunsBounded`** -/
theorem enumRunsBounded_iff_check (segs : List Seg) (a : Bytes) :
    EnumRunsBounded segs a ↔ enumIdxCheck segs a = true := by
  constructor
  · induction segs generalizing a with
    | nil => intro _; rfl
    | cons s r ih =>
      intro H
      have hrun : s.runOK a = true := by
        cases s with
        | enum ds => simpa [Seg.runOK] using H [] ds r a rfl (.nil a)
        | _ => rfl
      rw [enumIdxCheck_cons, hrun, Bool.true_and]
      cases hs : s.step decVal a with
      | none => rfl
      | some x =>
        exact ih x fun pre ds post z hr hsp =>
          H (s :: pre) ds post z (by simp [hr]) (spellsLeftmost_cons.mpr ⟨x, hs, hsp⟩)
  · intro hck pre ds post x hsegs hsp
    subst hsegs
    have := enumIdxCheck_move (.enum ds :: post) hsp hck
    simp only [enumIdxCheck, Bool.and_eq_true, decide_eq_true_eq] at this
    exact this.1

instance (p : Pat) (addr : Bytes) : Decidable (EnumIdxBounded p addr) :=
  decidable_of_iff _ (enumRunsBounded_iff_check p.segs addr).symm

/-- `IdxBounded` (every digit run of the whole address) is the stronger condition: what is left of the
    address at an enumeration is a suffix of it -/
theorem enumRunsBounded_of_idxBounded (segs : List Seg) {a : Bytes} (hb : IdxBounded a) : EnumRunsBounded segs a := by
  intro pre ds post x _ hsp
  obtain ⟨y, rfl⟩ := spellsAll_suffix hsp.spells
  exact hb.suffix.takeWhile

theorem greedyU_eq_greedy_of {p : Pat} (hwf : p.WF0) {addr : Bytes} (hb : EnumIdxBounded p addr) :
    greedyU p.segs p.sub addr = greedy p.segs p.sub addr :=
  greedyU_eq_greedy p.sub p.segs (segsWf_enum (wf0_segs hwf)) addr
    ((enumRunsBounded_iff_check _ _).mp hb)

theorem path_rendered_enum {p : Pat} (hwf : p.WF0) {addr : Bytes} (ex : Bytes)
    (ha : NulFree addr) (hb : EnumIdxBounded p addr) :
    path p.cstr (addr ++ 0 :: ex) =
      match greedy p.segs p.sub addr with
      | none => .fail
      | some t => .ok (renderTypes p.types ++ [0], t ++ 0 :: ex) := by
  rw [path_renderedU hwf ex ha, greedyU_eq_greedy_of hwf hb]
  cases greedy p.segs p.sub addr <;> rfl

/-- **`rtosc_match` on a pattern of the documented form and the rest of a message** (`a`: what is left of
    the address; behind its terminator `k` padding NULs, then ',' and the type string): what `greedy` and
    `typesCode` say, provided the type string can be found: the rest of the address is not empty, or there
    is padding behind its terminator, or the pattern has no type part. -/
theorem full_suffix {p : Pat} (hwf : p.WF0) {a tags : Bytes} (k : Nat) (rest : Bytes)
    (ha : NulFree a) (hb : IdxBounded a) (ht : NulFree tags)
    (hne : ∀ t, greedy p.segs p.sub a = some t → p.types = none ∨ a ≠ [] ∨ 1 ≤ k) :
    full p.cstr (a ++ 0 :: (List.replicate k 0 ++ 44 :: (tags ++ 0 :: rest))) =
      match greedy p.segs p.sub a with
      | none => some (false, none)
      | some t => some (match p.types with
                        | none => true
                        | some ts => typesCode ts tags, some (t ++ 0 :: (List.replicate k 0 ++ 44 :: (tags ++ 0 :: rest)))) := by
  have hg := greedyU_eq_greedy_of hwf (enumRunsBounded_of_idxBounded p.segs hb)
  rw [← hg] at hne ⊢
  exact full_cstr hwf _ rest ha fun t ht' hty =>
    ⟨ht, argString_cstr a ha k (tags ++ 0 :: rest) ((hne t ht').resolve_left hty)⟩

theorem full_rendered_enum {p : Pat} (hwf : p.WF0) {addr tags : Bytes} (rest : Bytes)
    (ha : NulFree addr) (hb : EnumIdxBounded p addr) (ht : p.types ≠ none → NulFree tags) :
    ∃ ex, full p.cstr (mkMsg addr tags rest) =
      match greedy p.segs p.sub addr with
      | none => some (false, none)
      | some t => some (match p.types with
                        | none => true
                        | some ts => typesCode ts tags, some (t ++ 0 :: ex)) := by
  obtain ⟨ex, hfull⟩ := full_renderedU hwf rest ha ht
  refine ⟨ex, ?_⟩
  rw [hfull, greedyU_eq_greedy_of hwf hb]
  cases greedy p.segs p.sub addr <;> rfl

/-- an address with a leftmost reading of the whole pattern needs no hypothesis on its
    digit runs: the indices it carries are below N < 2^31 -/
theorem enumIdxBounded_of_leftmost {p : Pat} (hwf : p.WF0) {addr rest : Bytes}
    (h : SpellsLeftmost p.segs addr rest) : EnumIdxBounded p addr :=
  (enumRunsBounded_iff_check _ _).mpr (enumIdxCheck_of_leftmost h (segsWf_enum (wf0_segs hwf)))

theorem wf0_types_nulFree {p : Pat} (hwf : p.WF0) {ts : List Bytes} (hty : p.types = some ts)
    {tags : Bytes} (hmem : tags ∈ ts) : NulFree tags := by
  have htw := wf0_types hwf
  simp only [hty, typesWf, Bool.and_eq_true, List.all_eq_true] at htw
  intro c hc
  exact (tagChar_ne (htw.2 tags hmem c hc)).1

theorem greedy_iff_leftmost (p : Pat) (addr : Bytes) :
    (∃ t, greedy p.segs p.sub addr = some t) ↔ PathSpecLeftmost p addr := by
  constructor
  · rintro ⟨t, hg⟩
    obtain ⟨rest, h1, h2⟩ := greedy_leftmost_sound p.sub p.segs addr t hg
    refine ⟨rest, h1, ?_⟩
    cases hs : p.sub with
    | true => simp only [hs, ↓reduceIte] at h2 ⊢; exact ⟨t, h2⟩
    | false => simp only [hs, Bool.false_eq_true, ↓reduceIte] at h2 ⊢; exact h2.1
  · rintro ⟨rest, h1, h2⟩
    have hg := greedy_leftmost_complete p.sub [] h1
    rw [List.append_nil] at hg
    rw [hg]
    cases hsub : p.sub with
    | true =>
      simp only [hsub, ↓reduceIte] at h2
      obtain ⟨t, rfl⟩ := h2
      exact ⟨t, by simp [greedy]⟩
    | false =>
      simp only [hsub, Bool.false_eq_true, ↓reduceIte] at h2
      subst h2
      exact ⟨[], by simp [greedy]⟩

end Rtosc.Match
