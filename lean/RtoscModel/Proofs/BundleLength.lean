/-
  C02 / C08: `rtosc_message_length(msg, -1)` (`messageLengthU`, every read checked
  against the block) on a block that holds an encoded message followed by anything.
  Same walk as Proofs/OscLength.lean, with `m[p]? = some c` in place of `deref`.
-/
import RtoscModel.Proofs.OscLength
import RtoscModel.Osc.Bundle
namespace Rtosc.Osc
open Rtosc

theorem scanNulU_of_drop {m : Bytes} (s : Bytes) :
    ∀ (p fuel : Nat) (x : Bytes), m.drop p = s ++ 0 :: x → NoNul s → s.length < fuel →
      p + s.length < 4294967296 → scanNulU m fuel p = .ok (p + s.length) := by
  induction s with
  | nil =>
    intro p fuel x hd _ hf _
    obtain ⟨f, rfl⟩ : ∃ f, fuel = f + 1 := ⟨fuel - 1, by simp at hf; omega⟩
    simp [scanNulU, getElem?_of_drop (show m.drop p = 0 :: x by simpa using hd)]
  | cons c s ih =>
    intro p fuel x hd hs hf hlt
    obtain ⟨f, rfl⟩ : ∃ f, fuel = f + 1 := ⟨fuel - 1, by simp at hf; omega⟩
    simp only [List.length_cons] at hf hlt
    have hd' : m.drop (p + 1) = s ++ 0 :: x := drop_succ_of_drop_cons hd
    simp only [scanNulU, getElem?_of_drop (show m.drop p = c :: (s ++ 0 :: x) by simpa using hd),
      hs.head, if_false]
    rw [u32_id (by omega), ih (p + 1) f x hd' hs.tail (by omega) (by omega)]
    simp only [List.length_cons]; congr 1; omega

theorem nullWordU_of_drop {m : Bytes} (j : Nat) :
    ∀ (k p : Nat) (c : UInt8) (x : Bytes), m.drop (p + 1) = zeros j ++ c :: x → c ≠ 0 → j < k →
      p + 1 + j < 4294967296 → nullWordU m k p = .ok (p + 1 + j) := by
  induction j with
  | zero =>
    intro k p c x hd hc hk hlt
    obtain ⟨k', rfl⟩ : ∃ k', k = k' + 1 := ⟨k - 1, by omega⟩
    simp only [nullWordU]
    rw [u32_id (by omega), getElem?_of_drop (show m.drop (p + 1) = c :: x by simpa [zeros] using hd)]
    simp [hc]
  | succ j ih =>
    intro k p c x hd hc hk hlt
    obtain ⟨k', rfl⟩ : ∃ k', k = k' + 1 := ⟨k - 1, by omega⟩
    have hd0 : m.drop (p + 1) = 0 :: (zeros j ++ c :: x) := by rw [hd, zeros_succ]; simp
    have hd' : m.drop (p + 1 + 1) = zeros j ++ c :: x := drop_succ_of_drop_cons hd0
    simp only [nullWordU]
    rw [u32_id (by omega), getElem?_of_drop hd0]
    simp only [ne_eq, not_true_eq_false, if_false]
    rw [ih k' (p + 1) c x hd' hc (by omega) (by omega)]; congr 1; omega

theorem tagsFromU_of_drop {m : Bytes} (s : Bytes) :
    ∀ (p fuel : Nat) (x : Bytes), m.drop p = s ++ 0 :: x → NoNul s → s.length < fuel →
      p + s.length < 4294967296 → tagsFromU m fuel p = .ok s := by
  induction s with
  | nil =>
    intro p fuel x hd _ hf _
    obtain ⟨f, rfl⟩ : ∃ f, fuel = f + 1 := ⟨fuel - 1, by simp at hf; omega⟩
    simp [tagsFromU, getElem?_of_drop (show m.drop p = 0 :: x by simpa using hd)]
  | cons c s ih =>
    intro p fuel x hd hs hf hlt
    obtain ⟨f, rfl⟩ : ∃ f, fuel = f + 1 := ⟨fuel - 1, by simp at hf; omega⟩
    simp only [List.length_cons] at hf hlt
    have hd' : m.drop (p + 1) = s ++ 0 :: x := drop_succ_of_drop_cons hd
    simp only [tagsFromU, getElem?_of_drop (show m.drop p = c :: (s ++ 0 :: x) by simpa using hd),
      hs.head, if_false]
    rw [u32_id (by omega), ih (p + 1) f x hd' hs.tail (by omega) (by omega)]

theorem rd32U_of_drop {m : Bytes} {p : Nat} {v : UInt32} {x : Bytes}
    (hd : m.drop p = be32 v ++ x) (hlt : p + 3 < 4294967296) : rd32U m p = some v := by
  obtain ⟨b0, b1, b2, b3, hb, hg⟩ := get32_be32 v
  rw [hb] at hd
  have d1 := drop_succ_of_drop_cons hd
  have d2 := drop_succ_of_drop_cons d1
  have d3 := drop_succ_of_drop_cons d2
  simp only [rd32U]
  rw [u32_id (n := p + 1) (by omega), u32_id (n := p + 2) (by omega), u32_id (n := p + 3) (by omega),
    getElem?_of_drop (show m.drop p = b0 :: b1 :: b2 :: b3 :: x by simpa using hd),
    getElem?_of_drop d1, getElem?_of_drop d2, getElem?_of_drop d3]
  simp only [hg]

theorem lenLoopU_zero (m : Bytes) (al : Nat) (ts : Bytes) (pos : Nat) :
    lenLoopU m al 0 ts pos = .ok pos := by simp [lenLoopU]

theorem lenLoopU_skip {t : UInt8} (hk : kind t = none) (m : Bytes) (al n : Nat) (ts : Bytes) (pos : Nat) :
    lenLoopU m al n (t :: ts) pos = lenLoopU m al n ts pos := by
  cases n with
  | zero => rw [lenLoopU_zero, lenLoopU_zero]
  | succ n => rw [lenLoopU, lenSwitch, hk]

theorem lenLoopU_take {m : Bytes} {al : Nat} (tp : Nat) {t : UInt8} (ts : Bytes) {a : Arg} {pos : Nat}
    {R : Bytes} (hk : kind t = some a.kind) (hw : a.WF) (hd : m.drop pos = encArg a ++ R)
    (hal : al % 4 = 0) (hle : al ≤ pos) (hp : pos % 4 = 0) (hlt : pos + (encArg a).length < 4294967296)
    (hfu : pos + (encArg a).length < fuelU m) :
    lenLoopU m al (tp + 1) (t :: ts) pos = lenLoopU m al tp ts (pos + (encArg a).length) := by
  rw [lenLoopU, lenSwitch, hk]
  cases a with
  | w32 v => exact congrArg _ (u32_id hlt)
  | w64 v => exact congrArg _ (u32_id hlt)
  | midi x y z w => exact congrArg _ (u32_id hlt)
  | str s =>
    have hl : (encArg (.str s)).length = s.length + (4 - s.length % 4) := padStr_length s
    rw [hl] at hlt hfu ⊢
    have hd0 : m.drop pos = s ++ 0 :: (zeros (3 - s.length % 4) ++ R) := by
      rw [hd, encArg, padStr_eq, List.append_assoc, List.cons_append]
    simp only [Arg.kind, scanNulU_of_drop s pos (fuelU m) _ hd0 hw (by omega) (by omega)]
    rw [usub_align hal hle hp hlt]
  | blob d =>
    have hl : (encArg (.blob d)).length = 4 + d.length + pad4 d.length := encArg_length (.blob d)
    rw [hl] at hlt hfu ⊢
    have hrd : rd32U m pos = some (UInt32.ofNat d.length) :=
      rd32U_of_drop (x := d ++ (zeros (pad4 d.length) ++ R))
        (by rw [hd, encArg, List.append_assoc, List.append_assoc]) (by omega)
    have hv : (UInt32.ofNat d.length).toNat = d.length := ofNat_toNat_of_lt (by omega)
    simp only [Arg.kind, hrd]
    rw [hv, u32_id (n := pos + 4) (by omega), u32_id (n := pos + 4 + d.length) (by omega),
      usub_align_blob hal hle hp hlt]

theorem lenLoopU_spec {m : Bytes} {al : Nat} (hal : al % 4 = 0) {tags : Bytes} {args : List Arg}
    (hm : Matches tags args) :
    ∀ (pos : Nat) (R : Bytes), (∀ a ∈ args, a.WF) → m.drop pos = args.flatMap encArg ++ R →
    al ≤ pos → pos % 4 = 0 → pos + (args.flatMap encArg).length < 4294967296 →
    pos + (args.flatMap encArg).length < fuelU m →
    lenLoopU m al (nreserved tags) tags pos = .ok (pos + (args.flatMap encArg).length) := by
  induction tags, args, hm using Matches.walk with
  | nil => intro pos R _ _ _ _ _ _; rfl
  | skip hk _ ih =>
    intro pos R hwf hd hle hp hlt hfu
    rw [nreserved_skip hk, lenLoopU_skip hk]
    exact ih pos R hwf hd hle hp hlt hfu
  | @take t ts a as hk _ _ ih =>
    intro pos R hwf hd hle hp hlt hfu
    rw [List.flatMap_cons, List.length_append, ← Nat.add_assoc] at hlt hfu ⊢
    rw [List.flatMap_cons, List.append_assoc] at hd
    rw [nreserved_take hk, lenLoopU_take _ _ hk (hwf a List.mem_cons_self) hd hal hle hp
        (Nat.lt_of_le_of_lt (Nat.le_add_right ..) hlt) (Nat.lt_of_le_of_lt (Nat.le_add_right ..) hfu),
      ih _ R (fun x hx => hwf x (List.mem_cons_of_mem _ hx)) (drop_add_of_drop hd)
        (Nat.le_trans hle (Nat.le_add_right ..)) (add_mod4 hp (encArg_length_mod a)) hlt hfu]

/-- the `&&` chain of the bundle test stops at the first byte -/
theorem magicU_msg (m : Msg) (rest : Bytes) (hwf : m.WF) (hnb : m.addr.head? ≠ some 35) :
    magicU (Spec.encode m ++ rest) bundleMagic 0 = some false := by
  obtain ⟨c, s, hcs⟩ := List.exists_cons_of_ne_nil hwf.addr_ne
  have hc35 : c ≠ 35 := by intro hc; rw [hcs, hc] at hnb; exact hnb rfl
  rw [encode_layout m rest, hcs, List.cons_append]
  simp [magicU, bundleMagic, hc35]

/-- `rtosc_message_length(msg, -1)` up to its loop, on a block that holds an address, its padding,
    the `','`, the type tags and their NUL (the twin of `ringLength_header`, Proofs/OscLength.lean) -/
theorem messageLengthU_header {blk addr tags X : Bytes} {j : Nat}
    (hblk : blk = addr ++ 0 :: (zeros j ++ 44 :: (tags ++ 0 :: X)))
    (hmagic : magicU blk bundleMagic 0 = some false) (ha : NoNul addr) (ht : NoNul tags)
    (hj : j < 4) (hlt : addr.length + 1 + j + (tags.length + 1) < 4294967296) :
    messageLengthU blk = lenLoopU blk (addr.length + 1 + j) (nreserved tags) tags
      (u32 (addr.length + 1 + j + (tags.length + 1) +
        (4 - usub (addr.length + 1 + j + (tags.length + 1)) (addr.length + 1 + j) % 4))) := by
  have hfuel : fuelU blk = blk.length + 2 := rfl
  have hlen : blk.length = addr.length + 1 + j + 1 + tags.length + 1 + X.length := by
    rw [hblk]; simp only [List.length_append, List.length_cons, zeros_length]; omega
  have d0 : blk.drop 0 = addr ++ 0 :: (zeros j ++ 44 :: (tags ++ 0 :: X)) := hblk
  have d1 := drop_succ_of_drop d0
  have d2 := drop_succ_of_drop d1
  rw [Nat.zero_add] at d1 d2
  rw [zeros_length] at d2
  have dc : blk.drop (addr.length + 1 + j) = 44 :: (tags ++ 0 :: X) := by
    have := drop_add_of_drop d1; rwa [zeros_length] at this
  rw [messageLengthU, hmagic]
  dsimp only
  rw [scanNulU_of_drop addr 0 _ _ d0 ha (by omega) (by omega), Nat.zero_add]
  dsimp only
  rw [nullWordU_of_drop j 4 addr.length 44 _ d1 (by decide) hj (by omega)]
  dsimp only
  rw [getElem?_of_drop dc]
  dsimp only
  rw [if_neg (by decide), u32_id (n := addr.length + 1 + j + 1) (by omega),
    scanNulU_of_drop tags _ _ _ d2 ht (by omega) (by omega)]
  dsimp only
  rw [tagsFromU_of_drop tags _ _ _ d2 ht (by omega) (by omega), Nat.add_assoc _ 1 tags.length,
    Nat.add_comm 1 tags.length]

theorem messageLengthU_msg (m : Msg) (rest : Bytes) (hwf : m.WF) (hnb : m.addr.head? ≠ some 35) :
    messageLengthU (Spec.encode m ++ rest) = .ok (Spec.encode m).length := by
  have hsz : (Spec.encode m).length < 4294967296 := hwf.size
  have hfuel : fuelU (Spec.encode m ++ rest) = (Spec.encode m).length + rest.length + 2 := by
    rw [fuelU, List.length_append]
  have hlen := encode_length_off m
  have hA := Aoff_eq m
  have hB := Boff_eq m
  have hAmod := Aoff_mod4 m
  rw [messageLengthU_header (encode_layout m rest) (magicU_msg m rest hwf hnb) hwf.addr_nonul
      (fun x hx => (isTag_ne_zero x (hwf.tags_ok x hx)).1) (by omega) (by omega),
    ← hA, usub_align hAmod (Nat.le_refl _) hAmod (by omega), ← hB,
    lenLoopU_spec hAmod hwf.matches_ _ rest hwf.args_ok (drop_vals m rest) (Nat.le_add_right ..)
      (add_mod4 hAmod (padStr_length_mod _)) (by omega) (by omega), hlen]

end Rtosc.Osc
