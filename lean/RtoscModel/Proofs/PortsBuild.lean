/-
  C04 helper lemmas: the constructors `ClonePorts` / `MergePorts` (Ports/Build.lean)
  and the index computation of the enumerated recursion callbacks (Ports/Sugar.lean).
-/
import RtoscModel.Ports.DispatchSpec
namespace Rtosc.Ports.Sugar
open Rtosc Rtosc.Ports Rtosc.Match

theorem atoiRun_run (ds : Bytes) (c : UInt8) (tail : Bytes) (acc : Nat)
    (hds : ∀ x ∈ ds, isDigit x = true) (hc : isDigit c = false) :
    atoiRun (ds ++ c :: tail) acc = some (ds.foldl (fun acc c => acc * 10 + (c.toNat - 48)) acc) := by
  induction ds generalizing acc with
  | nil => simp [atoiRun, hc]
  | cons d r ih =>
    have hd : isDigit d = true := hds d List.mem_cons_self
    simp only [List.cons_append, atoiRun, hd, ↓reduceIte, List.foldl_cons]
    exact ih _ (fun x hx => hds x (List.mem_cons_of_mem _ hx))

theorem boilsScan_prefix (lit pp mm : Bytes) (hlit : ∀ x ∈ lit, x ≠ 35) :
    boilsScan (lit ++ pp) (lit ++ mm) = boilsScan pp mm := by
  induction lit with
  | nil => rfl
  | cons x r ih =>
    have hx : x ≠ 35 := hlit x List.mem_cons_self
    simp only [List.cons_append, boilsScan, hx, ↓reduceIte]
    exact ih (fun y hy => hlit y (List.mem_cons_of_mem _ hy))

theorem boilsScan_lit (lit rest mm : Bytes) (hlit : ∀ x ∈ lit, x ≠ 35) :
    boilsScan (lit ++ 35 :: rest) (lit ++ mm) = some (true, mm) := by
  rw [boilsScan_prefix lit _ _ hlit]
  simp [boilsScan]

end Rtosc.Ports.Sugar

namespace Rtosc.Ports
open Rtosc

theorem mergeOne_eq (acc ps : List Entry) :
    mergeOne acc ps = acc ++ keepNew (acc.map Entry.name) ps := by
  induction ps generalizing acc with
  | nil => simp [mergeOne, keepNew]
  | cons p r ih =>
    simp only [mergeOne, keepNew]
    by_cases h : acc.any (fun pp => pp.name = p.name) = true
    · have hm : p.name ∈ acc.map Entry.name := by
        obtain ⟨q, hq, hqn⟩ := List.any_eq_true.mp h
        exact List.mem_map.mpr ⟨q, hq, by simpa using hqn⟩
      simp only [h, ↓reduceIte, hm, ih]
    · have hm : ¬ p.name ∈ acc.map Entry.name := by
        intro hm
        obtain ⟨q, hq, hqn⟩ := List.mem_map.mp hm
        exact h (List.any_eq_true.mpr ⟨q, hq, by simp [hqn]⟩)
      simp only [h, hm, ↓reduceIte, ih, List.map_append, List.map_cons, List.map_nil, List.append_assoc,
        List.cons_append, List.nil_append, Bool.false_eq_true]

theorem keepNew_append (seen : List Bytes) (a b : List Entry) :
    keepNew seen (a ++ b) = keepNew seen a ++ keepNew (seen ++ (keepNew seen a).map Entry.name) b := by
  induction a generalizing seen with
  | nil => simp [keepNew]
  | cons e r ih =>
    simp only [List.cons_append, keepNew]
    by_cases h : e.name ∈ seen
    · simp only [h, ↓reduceIte, ih]
    · simp only [h, ↓reduceIte, ih, List.cons_append, List.map_cons, List.append_assoc, List.nil_append]

theorem foldl_mergeOne_eq (parts : List (List Entry)) (acc : List Entry) :
    parts.foldl mergeOne acc = acc ++ keepNew (acc.map Entry.name) parts.flatten := by
  induction parts generalizing acc with
  | nil => simp [keepNew]
  | cons p r ih =>
    simp only [List.foldl_cons, ih, mergeOne_eq, List.flatten_cons, keepNew_append, List.map_append,
      List.append_assoc]

theorem keepNew_find (seen : List Bytes) (l : List Entry) (n : Bytes) :
    (keepNew seen l).find? (fun e => e.name = n) =
      if n ∈ seen then none else l.find? (fun e => e.name = n) := by
  induction l generalizing seen with
  | nil => simp [keepNew]
  | cons e r ih =>
    simp only [keepNew]
    by_cases h : e.name ∈ seen
    · simp only [h, ↓reduceIte, ih]
      by_cases hn : n ∈ seen
      · simp [hn]
      · have : e.name ≠ n := fun he => hn (he ▸ h)
        simp [hn, this]
    · simp only [h, ↓reduceIte, List.find?_cons]
      by_cases hen : e.name = n
      · have : ¬ n ∈ seen := hen ▸ h
        simp [hen, this]
      · have hmem : (n ∈ seen ++ [e.name]) ↔ n ∈ seen := by
          simp [List.mem_append, Ne.symm hen]
        simp only [hen, decide_false, ih, hmem]

theorem keepNew_nodup (seen : List Bytes) (l : List Entry) :
    ((keepNew seen l).map Entry.name).Nodup ∧ ∀ n ∈ (keepNew seen l).map Entry.name, n ∉ seen := by
  induction l generalizing seen with
  | nil => simp [keepNew]
  | cons e r ih =>
    simp only [keepNew]
    split
    · exact ih seen
    · next h =>
      obtain ⟨hnd, hnew⟩ := ih (seen ++ [e.name])
      simp only [List.map_cons, List.nodup_cons, List.mem_cons, forall_eq_or_imp]
      exact ⟨⟨fun hm => hnew _ hm (by simp), hnd⟩, h, fun n hn hs => hnew n hn (List.mem_append_left _ hs)⟩

theorem keepNew_sublist (seen : List Bytes) (l : List Entry) : (keepNew seen l).Sublist l := by
  induction l generalizing seen with
  | nil => simp [keepNew]
  | cons e r ih =>
    simp only [keepNew]
    split
    · exact (ih _).cons _
    · exact (ih _).cons_cons _

/-- the last port of the source with the given name: `findClone`'s loop has no `break` -/
theorem findClone_eq (src : List Entry) (n : Bytes) :
    findClone src n = src.reverse.find? (fun p => p.name = n) := by
  unfold findClone
  suffices ∀ acc : Option Entry, src.foldl (fun acc p => if p.name = n then some p else acc) acc =
      (src.reverse.find? (fun p => p.name = n)).or acc from by simpa using this none
  induction src with
  | nil => intro acc; simp
  | cons a r ih =>
    intro acc
    simp only [List.foldl_cons, ih, List.reverse_cons, List.find?_append]
    by_cases h : a.name = n
    · simp [h]
    · simp [h]

end Rtosc.Ports
