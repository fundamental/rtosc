/-
  C10/C11 — the interface between the per-type token lemmas and the list-level proofs.

  A *token* is the text the printer writes for one scalar argument.  `C11.ValOK t c` is what is proved
  per type (`Proofs/PrettyTok*.lean`): the `switch(*src)` of the scanner and the one of the syntax
  checker read the text `t` as the scalar cell `c`, whatever follows it in printed text (`Sep`: nothing,
  white space and the next token, or a closing bracket) and whatever the handlers for nested values are.
  `TokOK t c` (`ValOK.tokOK`) says the same of C10's `rtosc_scan_arg_val` / `rtosc_skip_next_printed_arg`,
  `Arg11` (`Pretty/C11LayoutSpec.lean`) of C11's; `C11.ValOKW` is `ValOK` for a text that may also stand in front of
  an ellipsis.  `C11.PrintsVal opt c` / `PrintsTok opt c`: the printer, in any state, appends such a text and returns
  its length.  The prefix `C11.` of `ValOK`, `PrintsVal` and of the per-type `C11.valOK_*` / `C11.printsVal_*` marks the
  statements about the two `switch`es, which C10's and C11's model share (`c11_scanValue_eq`) and from which both
  `TokOK` and `Arg11` follow; it does not mean C11's model.
-/
import RtoscModel.Pretty.TokSpec
import RtoscModel.Proofs.PrettyLibc
namespace Rtosc.Pretty
open Rtosc Rtosc.Libc
open Rtosc.ArgVal (Cell)

theorem Sep.toW {rest : Bytes} (h : Sep rest) : SepW rest := ⟨h.1, h.2.1⟩

theorem sep_nil : Sep [] := ⟨Or.inl rfl, by decide, by decide⟩

/-- a character that can occur inside a numeric word and is not a dot: not one of the characters at
    which `scanf_fmtstr` ends the word (white space, ')' , ']', and the comment sign '%', fix C11-08; NUL is excluded too, which
    `numWordLen` does not need) -/
def wordChar (c : UInt8) : Bool := !isspace c && c ≠ 41 && c ≠ 93 && c ≠ 46 && c ≠ 0 && c ≠ 37

theorem numWordLen_sepW (rest : Bytes) (h : SepW rest) : numWordLen rest = 0 := by
  cases rest with
  | nil => rfl
  | cons c r =>
    rcases h.1 with h | h | h
    · cases h
    · simp only [hd_cons] at h; simp [numWordLen, h]
    · simp only [hd_cons] at h; simp [numWordLen, h]

theorem numWordLen_app (t r : Bytes) (ht : ∀ c ∈ t, wordChar c = true) :
    numWordLen (t ++ r) = t.length + numWordLen r := by
  induction t with
  | nil => simp
  | cons c t ih =>
    have hc := ht c (by simp)
    simp only [wordChar, Bool.and_eq_true, ne_eq, decide_eq_true_eq, Bool.not_eq_eq_eq_not, Bool.not_true] at hc
    obtain ⟨⟨⟨⟨⟨h1, h2⟩, h3⟩, h4⟩, _⟩, h37⟩ := hc
    have := ih (fun x hx => ht x (by simp [hx]))
    have h46 : ¬ (46 = c) := fun h => h4 h.symm
    simp [numWordLen, h1, h2, h3, h37, startsWith, List.isPrefixOf, this, h46]
    omega

theorem numWordLen_wordW (t rest : Bytes) (ht : ∀ c ∈ t, wordChar c = true) (h : SepW rest) :
    numWordLen (t ++ rest) = t.length := by
  rw [numWordLen_app t rest ht, numWordLen_sepW rest h]; rfl

theorem isxdigit_wordChar (c : UInt8) (h : isxdigit c = true) : wordChar c = true := by
  revert h; revert c; apply UInt8.forall_of_fin; decide +kernel

theorem lit_MIDI : lit "MIDI" = [77, 73, 68, 73] := by decide

/-- the character behind a token (NUL at the end, white space or ']') is none of those with which the token in front of
    it could go on -/
structure SepHd (c : UInt8) : Prop where
  notDigit : isdigit c = false
  ne120 : c ≠ 120
  ne88 : c ≠ 88
  ne45 : c ≠ 45
  ne104 : c ≠ 104
  ne46 : c ≠ 46
  notIdent : isIdentChar c = false
  notXdigit : isxdigit c = false
  ne39 : c ≠ 39
  ne34 : c ≠ 34
  ne40 : c ≠ 40
  ne105 : c ≠ 105
  ne100 : c ≠ 100
  ne102 : c ≠ 102
  ne58 : c ≠ 58
  ne92 : c ≠ 92
  ne83 : c ≠ 83

theorem sepHd_of_byte (c : UInt8) (h : c = 0 ∨ isspace c = true ∨ c = 93) : SepHd c := by
  have : ∀ c : UInt8, c = 0 ∨ isspace c = true ∨ c = 93 →
      isdigit c = false ∧ c ≠ 120 ∧ c ≠ 88 ∧ c ≠ 45 ∧ c ≠ 104 ∧ c ≠ 46 ∧ isIdentChar c = false ∧ isxdigit c = false ∧
      c ≠ 39 ∧ c ≠ 34 ∧ c ≠ 40 ∧ c ≠ 105 ∧ c ≠ 100 ∧ c ≠ 102 ∧ c ≠ 58 ∧ c ≠ 92 ∧ c ≠ 83 := by
    apply UInt8.forall_of_fin; decide +kernel
  obtain ⟨a1, a2, a3, a4, a5, a6, a7, a8, a9, a10, a11, a12, a13, a14, a15, a16, a17⟩ := this c h
  exact ⟨a1, a2, a3, a4, a5, a6, a7, a8, a9, a10, a11, a12, a13, a14, a15, a16, a17⟩

theorem sep_hd_factsW (rest : Bytes) (h : SepW rest) : SepHd (hd rest) :=
  sepHd_of_byte _ (h.1.imp (fun e => by rw [e]; rfl) id)

theorem sep_hd_facts (rest : Bytes) (h : Sep rest) : SepHd (hd rest) := sep_hd_factsW rest h.toW

theorem skipDigits_digits (ds rest : Bytes) (hds : ∀ c ∈ ds, isdigit c = true) (hr : isdigit (hd rest) = false) :
    skipDigits (ds ++ rest) = rest := by
  induction ds with
  | nil =>
    cases rest with
    | nil => rfl
    | cons c r => simp only [hd_cons] at hr; simp [skipDigits, hr]
  | cons c r ih =>
    simp [skipDigits, hds c (by simp), ih (fun x hx => hds x (by simp [hx]))]

theorem sscanfGo_int_some (conv : IntConv) (w : Option Nat) (sup : Bool) (ds : List Dir) (s : Bytes) (k : Nat)
    (acc : List SVal) (v : Int) (r : Bytes) (h : scanInt conv w s = some (v, r)) :
    sscanfGo (.int conv w sup :: ds) s k acc =
      sscanfGo ds r (k + (s.length - r.length)) (if sup then acc else .int v :: acc) := by
  simp [sscanfGo, h]

theorem sscanfGo_int_none (conv : IntConv) (w : Option Nat) (sup : Bool) (ds : List Dir) (s : Bytes) (k : Nat)
    (acc : List SVal) (h : scanInt conv w s = none) :
    sscanfGo (.int conv w sup :: ds) s k acc = acc.reverse := by
  simp [sscanfGo, h]

theorem sscanfGo_lit_ne (c : UInt8) (ds : List Dir) (s : Bytes) (k : Nat) (acc : List SVal) (h : hd s ≠ c) :
    sscanfGo (.lit c :: ds) s k acc = acc.reverse := by
  cases s with
  | nil => simp [sscanfGo]
  | cons x r => simp only [hd_cons] at h; simp [sscanfGo, h]

theorem sscanfGo_lit_eq (c : UInt8) (ds : List Dir) (r : Bytes) (k : Nat) (acc : List SVal) :
    sscanfGo (.lit c :: ds) (c :: r) k acc = sscanfGo ds r (k + 1) acc := by
  simp [sscanfGo]

theorem sscanfGo_ws_nospace (ds : List Dir) (c : UInt8) (r : Bytes) (k : Nat) (acc : List SVal)
    (h : isspace c = false) : sscanfGo (.ws :: ds) (c :: r) k acc = sscanfGo ds (c :: r) k acc := by
  simp [sscanfGo, skipSpace, h]

theorem sscanfGo_ws_space1 (ds : List Dir) (c : UInt8) (r : Bytes) (k : Nat) (acc : List SVal)
    (h : isspace c = false) : sscanfGo (.ws :: ds) (32 :: c :: r) k acc = sscanfGo ds (c :: r) (k + 1) acc := by
  have h32 : isspace 32 = true := by decide
  simp [sscanfGo, skipSpace, h, h32]

theorem sscanfGo_flt_some (dbl sup : Bool) (ds : List Dir) (s : Bytes) (k : Nat) (acc : List SVal) (v : Nat) (r : Bytes)
    (h : scanFloat (if dbl then f64 else f32) s = some (v, r)) :
    sscanfGo (.flt dbl sup :: ds) s k acc =
      sscanfGo ds r (k + (s.length - r.length)) (if sup then acc else .flt v :: acc) := by
  simp [sscanfGo, h]

theorem sscanfGo_lits (w : Bytes) : ∀ (ds : List Dir) (x : Bytes) (k : Nat) (acc : List SVal),
    sscanfGo (w.map Dir.lit ++ ds) x k acc =
      if startsWith x w then sscanfGo ds (x.drop w.length) (k + w.length) acc else acc.reverse := by
  induction w with
  | nil => intro ds x k acc; simp [startsWith]
  | cons a w' ih =>
    intro ds x k acc
    cases x with
    | nil => simp [sscanfGo, startsWith]
    | cons b r =>
      simp only [List.map_cons, List.cons_append, sscanfGo, startsWith, List.isPrefixOf]
      by_cases hab : b = a
      · subst hab
        simp only [↓reduceIte, ih, startsWith, BEq.rfl, Bool.true_and, List.length_cons,
          List.drop_succ_cons]
        have e : k + 1 + w'.length = k + (w'.length + 1) := by omega
        rw [e]
        by_cases hp : w'.isPrefixOf r = true
        · simp only [hp, if_true]
        · simp only [hp]
      · have : (a == b) = false := by simp [Ne.symm hab]
        simp [hab, this]

theorem hd_append_of_ne_nil (t r : Bytes) (h : t ≠ []) : hd (t ++ r) = hd t := by
  cases t with
  | nil => exact absurd rfl h
  | cons c t' => rfl

theorem hd_mem (t : Bytes) (h : t ≠ []) : hd t ∈ t := by
  cases t with
  | nil => exact absurd rfl h
  | cons c t' => simp

theorem scanValue_kw (se : ElemScanner) (s : Bytes) (prev : List Cell)
    (h : hd s = 116 ∨ hd s = 102 ∨ hd s = 110 ∨ hd s = 105) : scanValue se s prev = pure (scanKeyword s) := by
  unfold scanValue
  simp [h]

theorem skipValue_kw (sk : ArgSkipper) (s : Bytes) (ty : UInt8) (ib : Bool)
    (h : hd s = 116 ∨ hd s = 102 ∨ hd s = 110 ∨ hd s = 105) : skipValue sk s ty ib = pure (some (skipKeyword s)) := by
  unfold skipValue
  simp [h]

theorem scanValue_color (se : ElemScanner) (s : Bytes) (prev : List Cell) (h : hd s = 35) :
    scanValue se s prev = scanColor s := by
  unfold scanValue
  simp [h]

theorem skipValue_color (sk : ArgSkipper) (s : Bytes) (ty : UInt8) (ib : Bool) (h : hd s = 35) :
    skipValue sk s ty ib = .ok (some (skipColor s)) := by
  unfold skipValue
  simp [h, pure, Except.pure]

theorem scanValue_char (se : ElemScanner) (s : Bytes) (prev : List Cell) (h : hd s = 39) :
    scanValue se s prev = scanChar s := by
  unfold scanValue
  simp [h]

theorem skipValue_char (sk : ArgSkipper) (s : Bytes) (ty : UInt8) (ib : Bool) (h : hd s = 39) :
    skipValue sk s ty ib = .ok (skipChar s) := by
  unfold skipValue
  simp [h, pure, Except.pure]

theorem scanValue_quote (se : ElemScanner) (s : Bytes) (prev : List Cell) (h : hd s = 34) :
    scanValue se s prev = scanString s := by
  unfold scanValue
  simp [h]

theorem skipValue_quote (sk : ArgSkipper) (s : Bytes) (ty : UInt8) (ib : Bool) (h : hd s = 34) :
    skipValue sk s ty ib = (do let r ← skipString s; pure (some r)) := by
  unfold skipValue
  simp [h]

theorem scanValue_midi (se : ElemScanner) (s : Bytes) (prev : List Cell) (h : hd s = 77) :
    scanValue se s prev = scanMidi s := by
  unfold scanValue
  simp [h]

theorem skipValue_midi (sk : ArgSkipper) (s : Bytes) (ty : UInt8) (ib : Bool) (h : hd s = 77) :
    skipValue sk s ty ib = .ok (some (skipMidi s)) := by
  unfold skipValue
  simp [h, pure, Except.pure]

theorem scanValue_B (se : ElemScanner) (s : Bytes) (prev : List Cell) (h : hd s = 66) :
    scanValue se s prev = scanBlob s := by
  unfold scanValue
  simp [h]

theorem skipValue_B (sk : ArgSkipper) (s : Bytes) (ty : UInt8) (ib : Bool) (h : hd s = 66) :
    skipValue sk s ty ib = .ok (some (skipBlob s)) := by
  unfold skipValue
  simp [h, pure, Except.pure]

theorem scanValue_bracket (se : ElemScanner) (src : Bytes) (prev : List Cell) (h : hd src = 91) :
    scanValue se src prev = scanArray se src prev := by
  unfold scanValue
  simp [h]

theorem skipValue_bracket (sk : ArgSkipper) (src : Bytes) (ty : UInt8) (ib : Bool) (h : hd src = 91) :
    skipValue sk src ty ib = (do let r ← skipArray sk src; pure (some r)) := by
  unfold skipValue
  simp [h]

/-- `case '[':` once the element loop has stopped in front of the closing bracket -/
theorem scanValue_array (se : ElemScanner) (s : Bytes) (prev : List Cell) {rest : Bytes} {elems : List Cell} {aty : UInt8}
    (h : scanArrayElems se ((91 :: s).length + 1) (skipSpace s) (Cell.arr 32 0 :: prev) 0 true [] 32 =
      .ok (93 :: rest, elems, aty)) :
    scanValue se (91 :: s) prev = .ok ⟨rest, Cell.arr aty elems.length :: elems, true⟩ := by
  rw [scanValue_bracket _ _ _ (by simp)]
  unfold scanArray
  simp only [List.drop_succ_cons, List.drop_zero, h, bind, Except.bind]
  simp [advance, pure, Except.pure]

theorem skipValue_array (sk : ArgSkipper) (s : Bytes) (ty : UInt8) (ib : Bool) {rest : Bytes} {k : Int}
    (h : skipArrayElems sk ((91 :: s).length + 1) (some (skipSpace s)) none 0 1 = .ok (some (93 :: rest), k)) :
    skipValue sk (91 :: s) ty ib = .ok (some ⟨some rest, k, 97, 0⟩) := by
  rw [skipValue_bracket _ _ _ _ (by simp)]
  unfold skipArray
  simp only [List.drop_succ_cons, List.drop_zero, h, bind, Except.bind]
  simp [pure, Except.pure]

theorem numStart_facts (c : UInt8) (h : c = 45 ∨ isdigit c = true) :
    c ≠ 116 ∧ c ≠ 102 ∧ c ≠ 110 ∧ c ≠ 105 ∧ c ≠ 35 ∧ c ≠ 39 ∧ c ≠ 34 ∧ c ≠ 77 ∧ c ≠ 91 ∧ c ≠ 66 ∧
    isIdentStart c = false ∧ wordChar c = true ∧ isspace c = false ∧ c ≠ 0 ∧ c ≠ 40 ∧ c ≠ 46 ∧ c ≠ 37 ∧ c ≠ 47 ∧ c ≠ 93 := by
  revert h; revert c; apply UInt8.forall_of_fin; decide +kernel

theorem tokStart_num (t : Bytes) (hne : t ≠ []) (h : hd t = 45 ∨ isdigit (hd t) = true) : TokStart t ∧ hd t ≠ 91 := by
  obtain ⟨_, _, _, _, _, _, _, _, a91, _, _, _, b1, b2, b3, b4, b5, b6, b7⟩ := numStart_facts _ h
  exact ⟨⟨hne, b1, b2, b3, b4, b5, b6, b7⟩, a91⟩

theorem numStart_wordChar (c : UInt8) (h : c = 45 ∨ isdigit c = true) : wordChar c = true :=
  (numStart_facts c h).2.2.2.2.2.2.2.2.2.2.2.1

theorem numStart_not_space (c : UInt8) (h : c = 45 ∨ isdigit c = true) : isspace c = false :=
  (numStart_facts c h).2.2.2.2.2.2.2.2.2.2.2.2.1

/-- at '-' or a digit the `switch` has three cases left: `nx…`, a date (fix C10-02), a number -/
theorem scanValue_numStart (se : ElemScanner) (s : Bytes) (prev : List Cell) (hc : hd s = 45 ∨ isdigit (hd s) = true) :
    scanValue se s prev = if isRangeMultiplier s then scanMultiplier se s
      else if skipFmt fmtIsDate s ≠ 0 then scanDate s else scanNumeric s := by
  obtain ⟨a1, a2, a3, a4, a5, a6, a7, a8, a9, a10, a11, _⟩ := numStart_facts (hd s) hc
  unfold scanValue
  simp [a1, a2, a3, a4, a5, a6, a7, a8, a9, a10, a11]

theorem skipValue_numStart (sk : ArgSkipper) (s : Bytes) (ty : UInt8) (ib : Bool) (hc : hd s = 45 ∨ isdigit (hd s) = true) :
    skipValue sk s ty ib = if isRangeMultiplier s then (do let r ← skipMultiplier sk s ty ib; pure (some r))
      else if skipFmt fmtIsDate s ≠ 0 then pure (some (skipDate s (skipFmt fmtIsDate s)))
      else pure (some (skipNumericArg s ty)) := by
  obtain ⟨a1, a2, a3, a4, a5, a6, a7, a8, a9, a10, a11, _⟩ := numStart_facts (hd s) hc
  unfold skipValue
  simp [a1, a2, a3, a4, a5, a6, a7, a8, a9, a10, a11]

theorem scanValue_mult (se : ElemScanner) (s : Bytes) (prev : List Cell) (hd0 : isdigit (hd s) = true)
    (hm : isRangeMultiplier s = true) : scanValue se s prev = scanMultiplier se s := by
  simp [scanValue_numStart se s prev (Or.inr hd0), hm]

theorem skipValue_mult (sk : ArgSkipper) (s : Bytes) (ty : UInt8) (ib : Bool) (hd0 : isdigit (hd s) = true)
    (hm : isRangeMultiplier s = true) :
    skipValue sk s ty ib = (do let r ← skipMultiplier sk s ty ib; pure (some r)) := by
  simp [skipValue_numStart sk s ty ib (Or.inr hd0), hm]

theorem scanValue_num (se : ElemScanner) (s : Bytes) (prev : List Cell)
    (hc : hd s = 45 ∨ isdigit (hd s) = true) (hm : isRangeMultiplier s = false)
    (hdate : skipFmt fmtIsDate s = 0) : scanValue se s prev = scanNumeric s := by
  simp [scanValue_numStart se s prev hc, hm, hdate]

theorem skipValue_num (sk : ArgSkipper) (s : Bytes) (ty : UInt8) (ib : Bool)
    (hc : hd s = 45 ∨ isdigit (hd s) = true) (hm : isRangeMultiplier s = false)
    (hdate : skipFmt fmtIsDate s = 0) : skipValue sk s ty ib = .ok (some (skipNumericArg s ty)) := by
  simp [skipValue_numStart sk s ty ib hc, hm, hdate, pure, Except.pure]

theorem scanValue_date (se : ElemScanner) (s : Bytes) (prev : List Cell)
    (hc : hd s = 45 ∨ isdigit (hd s) = true) (hm : isRangeMultiplier s = false)
    (hdate : skipFmt fmtIsDate s ≠ 0) : scanValue se s prev = scanDate s := by
  simp [scanValue_numStart se s prev hc, hm, hdate]

theorem skipValue_date (sk : ArgSkipper) (s : Bytes) (ty : UInt8) (ib : Bool)
    (hc : hd s = 45 ∨ isdigit (hd s) = true) (hm : isRangeMultiplier s = false)
    (hdate : skipFmt fmtIsDate s ≠ 0) :
    skipValue sk s ty ib = .ok (some (skipDate s (skipFmt fmtIsDate s))) := by
  simp [skipValue_numStart sk s ty ib hc, hm, hdate, pure, Except.pure]

theorem identStart_facts (c : UInt8) (h : isIdentStart c = true) :
    isIdentChar c = true ∧ isdigit c = false ∧ c ≠ 35 ∧ c ≠ 39 ∧ c ≠ 34 ∧ c ≠ 91 ∧
    isspace c = false ∧ c ≠ 0 ∧ c ≠ 40 ∧ c ≠ 46 ∧ c ≠ 37 ∧ c ≠ 47 ∧ c ≠ 93 := by
  revert h; revert c; apply UInt8.forall_of_fin; decide +kernel

theorem isRangeMultiplier_ident (x : Bytes) (h : isIdentStart (hd x) = true) :
    isRangeMultiplier x = false := by
  unfold isRangeMultiplier
  simp [(identStart_facts _ h).2.1]

theorem tokStart_ident (t : Bytes) (hne : t ≠ []) (h : isIdentStart (hd t) = true) : TokStart t ∧ hd t ≠ 91 := by
  obtain ⟨_, _, _, _, _, a91, b1, b2, b3, b4, b5, b6, b7⟩ := identStart_facts _ h
  exact ⟨⟨hne, b1, b2, b3, b4, b5, b6, b7⟩, a91⟩

/-- at a letter or '_' four cases are left: a keyword letter, 'M', 'B' (each falls back to the identifier when its word
    does not follow), and the identifier -/
theorem scanValue_identStart (se : ElemScanner) (s : Bytes) (prev : List Cell) (h : isIdentStart (hd s) = true) :
    scanValue se s prev =
      if hd s = 116 ∨ hd s = 102 ∨ hd s = 110 ∨ hd s = 105 then pure (scanKeyword s)
      else if hd s = 77 then scanMidi s else if hd s = 66 then scanBlob s
      else pure ⟨(parseIdentifier s).1, [(parseIdentifier s).2], true⟩ := by
  obtain ⟨_, _, a35, a39, a34, a91, _⟩ := identStart_facts _ h
  unfold scanValue
  simp only [a35, a39, a34, a91, ↓reduceIte, isRangeMultiplier_ident s h, h, Bool.false_eq_true]

theorem skipValue_identStart (sk : ArgSkipper) (s : Bytes) (ty : UInt8) (ib : Bool) (h : isIdentStart (hd s) = true) :
    skipValue sk s ty ib =
      if hd s = 116 ∨ hd s = 102 ∨ hd s = 110 ∨ hd s = 105 then pure (some (skipKeyword s))
      else if hd s = 77 then pure (some (skipMidi s)) else if hd s = 66 then pure (some (skipBlob s))
      else pure (some ⟨some (skipIdentChars s), 1, 83, 0⟩) := by
  obtain ⟨_, _, a35, a39, a34, a91, _⟩ := identStart_facts _ h
  unfold skipValue
  simp only [a35, a39, a34, a91, ↓reduceIte, isRangeMultiplier_ident s h, h, Bool.false_eq_true]

theorem sep_skipSpace_facts (rest : Bytes) (h : Sep rest) :
    hd (skipSpace rest) ≠ 40 ∧ startsWith (skipSpace rest) [46, 46, 46] = false := h.2

theorem finishArg_plain (se : ElemScanner) (t rest : Bytes) (cells : List Cell) (av : Bool)
    (prev : List Cell) (ab : Nat) (fe : Bool) (hs : Sep rest) :
    finishArg se (t ++ rest) ⟨rest, cells, av⟩ prev ab fe = .ok (t.length, cells) := by
  have h3 := (sep_skipSpace_facts rest hs).2
  unfold finishArg
  simp [h3, pure, Except.pure]

/-- `rtosc_scan_arg_val` behind its `switch`, `rtosc_skip_next_printed_arg` behind its: the forward equations of the two
    recursive functions -/
theorem scanArgVal_value {f : Nat} {src : Bytes} {prev : List Cell} {v : ValRes} (ab : Nat) (fe : Bool)
    (h : scanValue (scanArgVal f) src prev = .ok v) :
    scanArgVal (f + 1) src prev ab fe = finishArg (scanArgVal f) src v prev ab fe := by
  unfold scanArgVal
  simp only [h, bind, Except.bind]

theorem skipNext_value {f : Nat} {oldSrc src : Bytes} {ty : UInt8} {ib : Bool} {sw : SwRes} (llhs : Option Bytes) (fe : Bool)
    (h : skipValue (skipNextPrintedArg f) oldSrc ty ib = .ok (some sw)) (hsrc : sw.src = some src) :
    skipNextPrintedArg (f + 1) oldSrc ty llhs fe ib =
      if fe = true ∧ startsWith (skipSpace src) [46, 46, 46] = true then
        ellipsisTail (skipNextPrintedArg f) oldSrc sw (skipSpace src) llhs ib
      else .ok ⟨some src, sw.skipped, sw.type⟩ := by
  unfold skipNextPrintedArg
  simp only [h, hsrc, bind, Except.bind]
  rfl

theorem scanArgVal_of_value (t rest : Bytes) (c : Cell) (fuel : Nat) (prev : List Cell) (ab : Nat) (hs : Sep rest)
    (h : scanValue (scanArgVal fuel) (t ++ rest) prev = .ok ⟨rest, [c], true⟩) :
    scanArgVal (fuel + 1) (t ++ rest) prev ab true = .ok (t.length, [c]) := by
  rw [scanArgVal_value ab true h]
  exact finishArg_plain _ t rest [c] true prev ab true hs

theorem skipNext_of_value (t rest : Bytes) (tyOut : UInt8) (dl : UInt8) (fuel : Nat) (ty : UInt8)
    (llhs : Option Bytes) (ib : Bool) (hs : Sep rest)
    (h : skipValue (skipNextPrintedArg fuel) (t ++ rest) ty ib = .ok (some ⟨some rest, 1, tyOut, dl⟩)) :
    ∃ r, skipNextPrintedArg (fuel + 1) (t ++ rest) ty llhs true ib = .ok r ∧
      r.src = some rest ∧ r.skipped = 1 ∧ r.type = tyOut := by
  refine ⟨⟨some rest, 1, tyOut⟩, ?_, rfl, rfl, rfl⟩
  rw [skipNext_value llhs true h rfl]
  simp [(sep_skipSpace_facts rest hs).2]

/-- scanner and checker read the text `t`, with nothing behind it, as the single cell `c`
    (weaker than `TokOK`; enough for the last token of a text) -/
structure TokEnd (t : Bytes) (c : Cell) : Prop where
  start : TokStart t
  scan : ∀ (fuel : Nat) (prev : List Cell) (ab : Nat),
    scanArgVal (fuel + 1) t prev ab true = .ok (t.length, [c])
  skip : ∀ (fuel : Nat) (ty : UInt8) (llhs : Option Bytes) (ib : Bool),
    ∃ r, skipNextPrintedArg (fuel + 1) t ty llhs true ib = .ok r ∧
      r.src = some [] ∧ r.skipped = 1 ∧ r.type = c.type

end Rtosc.Pretty

namespace Rtosc.Pretty.C11
open Rtosc Rtosc.Libc Rtosc.Pretty
open Rtosc.ArgVal (Cell)

theorem ValOK.of_value (t : Bytes) (c : Cell) (tyOut : UInt8) (htype : c.type = tyOut) (hsc : c.isScalar = true)
    (hstart : TokStart t) (h91 : hd t ≠ 91)
    (hscan : ∀ rest, Sep rest → ∀ se prev, Pretty.scanValue se (t ++ rest) prev = .ok ⟨rest, [c], true⟩)
    (hskip : ∀ rest, Sep rest → ∀ sk ty ib,
      Pretty.skipValue sk (t ++ rest) ty ib = .ok (some ⟨some rest, 1, tyOut, 0⟩)) : ValOK t c :=
  ⟨hstart, hsc, h91, fun se rest prev hs => hscan rest hs se prev,
    fun sk rest ty ib hs => ⟨0, htype ▸ hskip rest hs sk ty ib⟩⟩

/-- C10's model reads the same tokens the same way -/
theorem ValOK.tokOK {t : Bytes} {c : Cell} (h : ValOK t c) : TokOK t c := by
  refine ⟨h.start, ?_, ?_⟩
  · intro rest fuel prev ab hs
    exact scanArgVal_of_value t rest c fuel prev ab hs (h.scan _ rest prev hs)
  · intro rest fuel ty llhs ib hs
    obtain ⟨dl, hv⟩ := h.skip (Pretty.skipNextPrintedArg fuel) rest ty ib hs
    exact skipNext_of_value t rest c.type dl fuel ty llhs ib hs hv

/-- `ValOK` with the weaker condition `SepW` on what follows, so that the text may also stand in front of an
    ellipsis (`x ... z`), with the checker's `deltaless_range_type` left at 0 and the fact that the text is no range
    multiplier `nx…`: what the lemmas about compressed runs need of the tokens of a run (`IntKind.Codec`). -/
structure ValOKW (t : Bytes) (c : Cell) : Prop where
  start : TokStart t
  scalar : c.isScalar = true
  noBracket : hd t ≠ 91
  scan : ∀ (se : ElemScanner) (rest : Bytes) (prev : List Cell), SepW rest →
    Pretty.scanValue se (t ++ rest) prev = .ok ⟨rest, [c], true⟩
  skip : ∀ (sk : ArgSkipper) (rest : Bytes) (ty : UInt8) (ib : Bool), SepW rest →
    Pretty.skipValue sk (t ++ rest) ty ib = .ok (some ⟨some rest, 1, c.type, 0⟩)
  nomult : ∀ rest, SepW rest → isRangeMultiplier (t ++ rest) = false

theorem ValOKW.valOK {t : Bytes} {c : Cell} (h : ValOKW t c) : ValOK t c :=
  ⟨h.start, h.scalar, h.noBracket, fun se rest prev hs => h.scan se rest prev hs.toW,
    fun sk rest ty ib hs => ⟨0, h.skip sk rest ty ib hs.toW⟩⟩

theorem PrintsVal.printsTok {opt : POpt} {c : Cell} (h : PrintsVal opt c) : PrintsTok opt c := by
  intro fuel more prev st
  obtain ⟨t, cols', hp, hv⟩ := h fuel more prev st
  exact ⟨t, cols', hp, hv.tokOK⟩

theorem PrintsVal.of_eq {opt : POpt} {c : Cell} (t : Bytes) (cols' : PSt → Int) (hv : ValOK t c)
    (hp : ∀ fuel more prev st, Pretty.printArgVal (fuel + 1) opt (c :: more) prev st =
      .ok (⟨st.out ++ t, cols' st⟩, t.length)) : PrintsVal opt c :=
  fun fuel more prev st => ⟨t, cols' st, hp fuel more prev st, hv⟩

end Rtosc.Pretty.C11

