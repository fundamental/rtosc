/-
  C07: the reference decoder of `Osc/Decode.lean` is anchored to the OSC 1.0
  encoder `Spec.encode` of `Osc/Spec.lean` (C01's specification side, which shares no code with the
  decoder):

      Spec.decode bs = some m   ↔   Canon m ∧ Spec.encode m = bs            (decode_iff)

  and the padding-blind decoder returns a message whose canonical encoding has the same length as
  the buffer and can differ from it only where the canonical encoding has a NUL byte.
-/
import RtoscModel.Proofs.ValidDecode
import RtoscModel.Osc.MsgSpec
namespace Rtosc.Osc.V
open Rtosc Rtosc.Osc

theorem PadEq.refl (e : Bytes) : PadEq e e := by
  induction e with
  | nil => exact .nil
  | cons x xs ih => exact .cons (Or.inl rfl) ih

theorem PadEq.append {a b c d : Bytes} (h1 : PadEq a b) (h2 : PadEq c d) : PadEq (a ++ c) (b ++ d) := by
  induction h1 with
  | nil => exact h2
  | cons h _ ih => exact .cons h ih

theorem PadEq.zeros (p : Bytes) : PadEq p (zeros p.length) := by
  induction p with
  | nil => exact .nil
  | cons x xs ih => exact .cons (Or.inr rfl) ih

theorem PadEq.length {a b : Bytes} (h : PadEq a b) : a.length = b.length := by
  induction h with
  | nil => rfl
  | cons _ _ ih => simp [ih]

theorem PadEq.get {a b : Bytes} (h : PadEq a b) : ∀ (i : Nat) (x y : UInt8), a[i]? = some x → b[i]? = some y →
    x = y ∨ y = 0 := by
  induction h with
  | nil => intro i x y hx; simp at hx
  | cons h0 _ ih =>
    intro i x y hx hy
    cases i with
    | zero => simp only [List.getElem?_cons_zero, Option.some.injEq] at hx hy; subst hx hy; exact h0
    | succ i => simp only [List.getElem?_cons_succ] at hx hy; exact ih i x y hx hy

theorem tw_split (bs : Bytes) :
    bs = bs.takeWhile (· ≠ 0) ∨ ∃ r, bs = bs.takeWhile (· ≠ 0) ++ 0 :: r := by
  induction bs with
  | nil => left; rfl
  | cons b r ih =>
    by_cases hb : b = 0
    · subst hb; right; exact ⟨r, by rw [tw_nz_zero]; rfl⟩
    · rw [tw_nz_cons _ hb]
      rcases ih with h | ⟨r', h⟩
      · left; rw [← h]
      · right; exact ⟨r', by rw [List.cons_append, ← h]⟩

theorem allZero_eq_zeros (l : Bytes) (h : allZero l = true) : l = zeros l.length := by
  unfold zeros
  rw [List.eq_replicate_iff]
  refine ⟨rfl, ?_⟩
  intro x hx
  simp only [allZero, List.all_eq_true, decide_eq_true_eq] at h
  exact h x hx

theorem takeStr_inv {strict : Bool} {bs s r : Bytes} (h : takeStr strict bs = some (s, r)) :
    NoNul s ∧ ∃ pad, bs = s ++ 0 :: (pad ++ r) ∧ pad.length = 3 - s.length % 4 ∧
      (strict = true → pad = zeros (3 - s.length % 4)) := by
  unfold takeStr at h
  dsimp only at h
  split at h
  · next hc =>
    obtain ⟨hlen, hz⟩ := hc
    obtain ⟨hs, hr⟩ := Prod.mk.inj (Option.some.inj h)
    rw [hs] at hlen hz hr
    refine ⟨hs ▸ tw_noNul bs, ?_⟩
    -- the terminator and `k` bytes of padding
    rw [show s.length + (4 - s.length % 4) = s.length + ((3 - s.length % 4) + 1) from by omega] at hlen hz hr
    generalize 3 - s.length % 4 = k at hlen hz hr ⊢
    rcases tw_split bs with hb | ⟨r', hb⟩
    · rw [hs] at hb; rw [hb] at hlen; omega
    · rw [hs] at hb
      have hkl : k ≤ r'.length := by
        rw [hb, List.length_append, List.length_cons] at hlen; omega
      have hd : bs.drop (s.length + (k + 1)) = r'.drop k := by
        rw [hb, ← List.drop_drop, List.drop_left, List.drop_succ_cons]
      refine ⟨r'.take k, ?_, by rw [List.length_take]; exact Nat.min_eq_left hkl, fun hst => ?_⟩
      · rw [← hr, hd, List.take_append_drop]; exact hb
      · rcases hz with hz | hz
        · rw [hst] at hz; cases hz
        · have ht : (bs.take (s.length + (k + 1))).drop s.length = 0 :: r'.take k := by
            rw [hb, List.take_append, List.take_of_length_le (by omega), List.drop_left,
              Nat.add_sub_cancel_left, List.take_succ_cons]
          rw [ht] at hz
          have := allZero_eq_zeros _ hz
          simp only [List.length_cons, zeros_succ, List.cons.injEq, true_and] at this
          rw [this, List.length_take, Nat.min_eq_left hkl]
  · cases h

theorem be32_of_toNat_get32 {n : Nat} {b0 b1 b2 b3 : UInt8} (h : n = (get32 b0 b1 b2 b3).toNat) :
    be32 (UInt32.ofNat n) = [b0, b1, b2, b3] := by
  rw [h, UInt32.ofNat_toNat, be32_get32]

/-- What one argument taken off the head of a buffer looks like: it has the kind asked for, it is
    well-formed, the bytes consumed are a (lax) encoding of it, and under the strict decoder they
    are exactly its OSC 1.0 encoding. -/
theorem takeArg_inv {strict : Bool} {k : Kind} {bs : Bytes} {a : Arg} {r : Bytes}
    (h : takeArg strict k bs = some (a, r)) :
    a.kind = k ∧ a.WF ∧ ∃ e, bs = e ++ r ∧ LaxEnc a e ∧ (strict = true → e = encArg a) := by
  unfold takeArg at h
  split at h
  · rename_i b0 b1 b2 b3 r'
    simp only [Option.some.injEq, Prod.mk.injEq] at h
    obtain ⟨rfl, rfl⟩ := h
    refine ⟨rfl, trivial, [b0, b1, b2, b3], rfl, ⟨b0, b1, b2, b3, rfl, ofNat_beVal4 ..⟩, fun _ => ?_⟩
    simp only [encArg, ofNat_beVal4, be32_get32]
  · rename_i b0 b1 b2 b3 b4 b5 b6 b7 r'
    simp only [Option.some.injEq, Prod.mk.injEq] at h
    obtain ⟨rfl, rfl⟩ := h
    refine ⟨rfl, trivial, [b0, b1, b2, b3, b4, b5, b6, b7], rfl,
      ⟨b0, b1, b2, b3, b4, b5, b6, b7, rfl, ofNat_beVal8 ..⟩, fun _ => ?_⟩
    simp only [encArg, ofNat_beVal8, be64_get64]
  · rename_i b0 b1 b2 b3 r'
    simp only [Option.some.injEq, Prod.mk.injEq] at h
    obtain ⟨rfl, rfl⟩ := h
    exact ⟨rfl, trivial, [b0, b1, b2, b3], rfl, rfl, fun _ => rfl⟩
  · rename_i bs'
    simp only [Option.map_eq_some_iff, Prod.mk.injEq] at h
    obtain ⟨⟨s, r'⟩, hs, rfl, rfl⟩ := h
    obtain ⟨hnn, pad, hbs, hpl, hz⟩ := takeStr_inv hs
    refine ⟨rfl, hnn, s ++ 0 :: pad, by rw [hbs]; simp, ⟨hnn, pad, rfl, hpl⟩, fun hst => ?_⟩
    rw [hz hst]; simp only [encArg, padStr_eq]
  · rename_i b0 b1 b2 b3 r'
    simp only at h
    split at h
    · rename_i hc
      obtain ⟨hlt, hfit, hz⟩ := hc
      simp only [Option.some.injEq, Prod.mk.injEq] at h
      obtain ⟨rfl, rfl⟩ := h
      have hn : beVal [b0, b1, b2, b3] = (get32 b0 b1 b2 b3).toNat := (get32_beVal ..).symm
      generalize beVal [b0, b1, b2, b3] = n at *
      have hdl : (r'.take n).length = n := by rw [List.length_take]; omega
      have hpl : ((r'.drop n).take (pad4 n)).length = pad4 n := by
        rw [List.length_take, List.length_drop]; omega
      have hsplit : r' = r'.take n ++ ((r'.drop n).take (pad4 n) ++ r'.drop (n + pad4 n)) := by
        rw [← List.drop_drop, List.take_append_drop, List.take_append_drop]
      refine ⟨rfl, by simp only [Arg.WF, hdl]; omega,
        b0 :: b1 :: b2 :: b3 :: (r'.take n ++ (r'.drop n).take (pad4 n)), ?_,
        ⟨b0, b1, b2, b3, _, rfl, by rw [hdl, ← hn], by rw [hdl]; exact hlt, by rw [hdl, hpl]⟩, fun hst => ?_⟩
      · simp only [List.cons_append, List.append_assoc, List.cons.injEq, true_and]
        exact hsplit
      · rcases hz with hz | hz
        · rw [hst] at hz; cases hz
        · have ht : (r'.take (n + pad4 n)).drop n = (r'.drop n).take (pad4 n) := by
            rw [List.drop_take]; congr 1; omega
          rw [ht] at hz
          have := allZero_eq_zeros _ hz
          rw [hpl] at this
          simp only [encArg, hdl, this]
          rw [be32_of_toNat_get32 hn]; simp
    · cases h
  · cases h

theorem laxEnc_padEq {a : Arg} {e : Bytes} (he : LaxEnc a e) : PadEq e (encArg a) := by
  cases a with
  | w32 v =>
    obtain ⟨b0, b1, b2, b3, rfl, rfl⟩ := he
    simp only [encArg, be32_get32]; exact PadEq.refl _
  | w64 v =>
    obtain ⟨b0, b1, b2, b3, b4, b5, b6, b7, rfl, rfl⟩ := he
    simp only [encArg, be64_get64]; exact PadEq.refl _
  | midi x y z w =>
    have he' : e = [x, y, z, w] := he
    subst he'; exact PadEq.refl _
  | str s =>
    obtain ⟨_, pad, rfl, hpad⟩ := he
    simp only [encArg, padStr_eq]
    refine PadEq.append (PadEq.refl s) (.cons (Or.inl rfl) ?_)
    rw [← hpad]; exact PadEq.zeros pad
  | blob d =>
    obtain ⟨b0, b1, b2, b3, pad, rfl, hlen, _, hpad⟩ := he
    simp only [encArg, be32_of_toNat_get32 hlen.symm, List.cons_append, List.nil_append]
    refine .cons (Or.inl rfl) (.cons (Or.inl rfl) (.cons (Or.inl rfl) (.cons (Or.inl rfl) ?_)))
    refine PadEq.append (PadEq.refl d) ?_
    rw [← hpad]; exact PadEq.zeros pad

theorem decodeArgs_inv {strict : Bool} : ∀ (tags bs : Bytes) (args : List Arg) (r : Bytes),
    decodeArgs strict tags bs = some (args, r) →
    Matches tags args ∧ (∀ a ∈ args, a.WF) ∧ ∃ A, bs = A ++ r ∧ LaxArgs tags args A ∧
      PadEq A (args.flatMap encArg) ∧ (strict = true → A = args.flatMap encArg) := by
  intro tags
  induction tags with
  | nil =>
    intro bs args r h
    simp only [decodeArgs, Option.some.injEq, Prod.mk.injEq] at h
    obtain ⟨rfl, rfl⟩ := h
    exact ⟨rfl, by simp, [], rfl, .nil, .nil, fun _ => rfl⟩
  | cons t ts ih =>
    intro bs args r h
    unfold decodeArgs at h
    cases hk : kind t with
    | none =>
      simp only [hk] at h
      obtain ⟨hm, hw, A, hbs, hl, hp, hs⟩ := ih bs args r h
      exact ⟨(matches_skip hk).mpr hm, hw, A, hbs, .skip hk hl, hp, hs⟩
    | some k =>
      simp only [hk] at h
      cases ha : takeArg strict k bs with
      | none => simp [ha] at h
      | some y =>
        obtain ⟨a, r1⟩ := y
        simp only [ha] at h
        cases hr : decodeArgs strict ts r1 with
        | none => simp [hr] at h
        | some z =>
          obtain ⟨as, r'⟩ := z
          simp only [hr, Option.some.injEq, Prod.mk.injEq] at h
          obtain ⟨rfl, rfl⟩ := h
          obtain ⟨hkind, hwa, e, hbs, hle, hse⟩ := takeArg_inv ha
          obtain ⟨hm, hw, A, hr1, hl, hp, hs⟩ := ih r1 as r' hr
          refine ⟨?_, ?_, e ++ A, by rw [hbs, hr1]; simp, .take (by rw [hk, hkind]) hle hl, ?_, fun hst => ?_⟩
          · simp only [Matches, matchesB, hk, hkind, decide_true, Bool.true_and]; exact hm
          · intro x hx
            rcases List.mem_cons.mp hx with rfl | hx
            · exact hwa
            · exact hw x hx
          · rw [List.flatMap_cons]; exact PadEq.append (laxEnc_padEq hle) hp
          · rw [List.flatMap_cons, hse hst, hs hst]

theorem decodeArgs_strict : ∀ (tags : Bytes) (args : List Arg), Matches tags args → (∀ a ∈ args, a.WF) →
    ∀ R, decodeArgs true tags (args.flatMap encArg ++ R) = some (args, R) := by
  intro tags
  induction tags with
  | nil =>
    intro args hm _ R
    rw [matches_nil hm]; simp [decodeArgs]
  | cons t ts ih =>
    intro args hm hw R
    unfold decodeArgs
    cases hk : kind t with
    | none => simp only; exact ih args ((matches_skip hk).mp hm) hw R
    | some k =>
      obtain ⟨a, as', rfl, hkind, hm'⟩ := matches_take hk hm
      simp only [List.flatMap_cons, List.append_assoc]
      rw [← hkind, takeArg_enc true _ (laxEnc_encArg (hw a (by simp))) fun _ => rfl]
      simp only
      rw [ih as' hm' (fun x hx => hw x (by simp [hx])) R]

/-! ### strict ⇒ lax: what the strict decoder takes has the lax shape, which the lax decoder reads -/

theorem takeStr_mono {bs : Bytes} {x : Bytes × Bytes} (h : takeStr true bs = some x) : takeStr false bs = some x := by
  obtain ⟨hs, pad, rfl, hp, _⟩ := takeStr_inv (s := x.1) (r := x.2) h
  exact takeStr_pad false x.1 pad x.2 hs hp (.inl rfl)

theorem decodeArgs_mono (tags bs : Bytes) (x : List Arg × Bytes) (h : decodeArgs true tags bs = some x) :
    decodeArgs false tags bs = some x := by
  obtain ⟨_, _, A, rfl, hl, _⟩ := decodeArgs_inv tags bs x.1 x.2 h
  exact decodeArgs_lax hl x.2

theorem decode_strict_lax {bs : Bytes} {m : Msg} (h : Spec.decode bs = some m) : Spec.decodeLax bs = some m := by
  obtain ⟨r1, r2, h1, hc, h2, _, h3⟩ := decodeWith_eq_some.mp h
  exact decodeWith_eq_some.mpr ⟨r1, r2, h1, hc, takeStr_mono h2, .inl rfl, decodeArgs_mono _ _ _ h3⟩

theorem noNul_of_printable {s : Bytes} (h : s.all printable = true) : NoNul s := by
  intro x hx h0
  have := List.all_eq_true.mp h x hx
  rw [h0] at this; simp [printable] at this

theorem noNul_of_isTag {s : Bytes} (h : s.all isTag = true) : NoNul s := by
  intro x hx
  exact (isTag_ne_zero x (List.all_eq_true.mp h x hx)).1

/-- What either decoder returns: a `LaxCanon` message whose OSC 1.0 encoding has the length of
    the buffer and differs from it at most in bytes that are NUL in the encoding (padding); the
    strict decoder returns a `Canon` message whose encoding IS the buffer. -/
theorem decodeWith_inv {strict : Bool} {bs : Bytes} {m : Msg} (h : decodeWith strict bs = some m) :
    LaxCanon m ∧ PadEq bs (Spec.encode m) ∧ (strict = true → m.tags.all isTag = true ∧ bs = Spec.encode m) := by
  obtain ⟨r1, r2, h1, hc, h2, htg, h3⟩ := decodeWith_eq_some.mp h
  obtain ⟨_, pad1, hbs, _, hz1⟩ := takeStr_inv h1
  obtain ⟨hnn2, pad2, hr1, hp2, hz2⟩ := takeStr_inv h2
  obtain ⟨hm, hw, A, hr2, _, hpe, hse⟩ := decodeArgs_inv m.tags r2 m.args [] h3
  have hbs' : bs = padStr m.addr ++ ((44 :: m.tags) ++ 0 :: pad2 ++ A) := by
    rw [hbs, hr1, hz1 rfl, padStr_eq, hr2]; simp
  have henc : Spec.encode m = padStr m.addr ++ (padStr (44 :: m.tags) ++ m.args.flatMap encArg) := by
    simp [Spec.encode]
  refine ⟨⟨hc.1, hc.2, fun x hx => hnn2 x (List.mem_cons_of_mem _ hx), hm, hw⟩, ?_, fun hst => ?_⟩
  · rw [hbs', henc]
    refine PadEq.append (PadEq.refl _) (PadEq.append ?_ hpe)
    rw [padStr_eq]
    refine PadEq.append (PadEq.refl _) (.cons (Or.inl rfl) ?_)
    rw [← hp2]; exact PadEq.zeros pad2
  · rcases htg with htg | htg
    · rw [hst] at htg; cases htg
    · refine ⟨htg, ?_⟩
      rw [hbs', henc, hz2 hst, hse hst, padStr_eq (44 :: m.tags)]

/-- **decode ∘ encode**: the strict decoder reads the OSC 1.0 encoding of a canonical message back. -/
theorem decode_encode_canon {m : Msg} (hc : Canon m) : Spec.decode (Spec.encode m) = some m := by
  have hann : NoNul m.addr := noNul_of_printable hc.addr_print
  have htnn : NoNul (44 :: m.tags) := by
    intro x hx
    rcases List.mem_cons.mp hx with rfl | h
    · decide
    · exact hc.tags_nn x h
  have h1 : takeStr true (Spec.encode m) = some (m.addr, padStr (44 :: m.tags) ++ m.args.flatMap encArg) := by
    have := takeStr_pad true m.addr (zeros _) (padStr (44 :: m.tags) ++ m.args.flatMap encArg) hann
      (zeros_length _) (.inr (allZero_zeros _))
    rw [← this]; simp only [Spec.encode, padStr_eq]; simp
  have h2 : takeStr true (padStr (44 :: m.tags) ++ m.args.flatMap encArg) = some (44 :: m.tags, m.args.flatMap encArg) := by
    have := takeStr_pad true (44 :: m.tags) (zeros _) (m.args.flatMap encArg) htnn (zeros_length _)
      (.inr (allZero_zeros _))
    rw [← this]; simp only [padStr_eq]; simp
  have h3 : decodeArgs true m.tags (m.args.flatMap encArg) = some (m.args, []) := by
    have := decodeArgs_strict m.tags m.args hc.matches_ hc.args_ok []
    simpa using this
  unfold Spec.decode decodeWith
  simp only [h1, h2, h3, hc.addr_slash, hc.addr_print, hc.tags_ok, and_self, if_true, or_true]

/-- **the strict decoder is the inverse of the OSC 1.0 encoder**: it returns `m` for exactly one
    buffer, the encoding of `m`, and only for canonical `m`. -/
theorem decode_iff (bs : Bytes) (m : Msg) : Spec.decode bs = some m ↔ Canon m ∧ Spec.encode m = bs := by
  constructor
  · intro h
    obtain ⟨hl, _, hs⟩ := decodeWith_inv h
    obtain ⟨ht, he⟩ := hs rfl
    exact ⟨⟨hl, ht⟩, he.symm⟩
  · rintro ⟨hc, rfl⟩
    exact decode_encode_canon hc

theorem canon_of_wf {m : Msg} (h : m.WF) (hs : m.addr.head? = some 47) (hp : m.addr.all printable = true) : Canon m :=
  ⟨⟨hs, hp, fun x hx => (isTag_ne_zero x (h.tags_ok x hx)).1, h.matches_, h.args_ok⟩,
    List.all_eq_true.mpr h.tags_ok⟩

theorem wf_of_canon {m : Msg} (h : Canon m) (hsz : (Spec.encode m).length < 2 ^ 32) : m.WF where
  addr_ne := by intro h0; have := h.addr_slash; rw [h0] at this; cases this
  addr_nonul := noNul_of_printable h.addr_print
  tags_ok := fun t ht => List.all_eq_true.mp h.tags_ok t ht
  matches_ := h.matches_
  args_ok := h.args_ok
  size := hsz

/-- **syntactic form of the trigger of C07-K1**: given what the padding-blind decoder returns,
    the strict decoder fails exactly if the buffer is not the OSC 1.0 encoding of that message
    (i.e., by `decodeLax_padEq`, some padding byte is not NUL) or some tag is not one of the 17. -/
theorem decode_none_iff {bs : Bytes} {m : Msg} (hl : Spec.decodeLax bs = some m) :
    (Spec.decode bs).isSome = false ↔ (bs ≠ Spec.encode m ∨ ∃ t ∈ m.tags, isTag t = false) := by
  obtain ⟨hlc, _, _⟩ := decodeWith_inv hl
  constructor
  · intro hn
    by_cases he : bs = Spec.encode m
    · right
      by_cases ht : ∃ t ∈ m.tags, isTag t = false
      · exact ht
      · exfalso
        have hall : m.tags.all isTag = true := by
          rw [List.all_eq_true]
          intro t hmem
          cases hb : isTag t with
          | true => rfl
          | false => exact absurd ⟨t, hmem, hb⟩ ht
        have := decode_encode_canon ⟨hlc, hall⟩
        rw [← he] at this; rw [this] at hn; cases hn
    · exact Or.inl he
  · intro hor
    cases hd : Spec.decode bs with
    | none => rfl
    | some m' =>
      exfalso
      have hm' := decode_strict_lax hd
      rw [hl] at hm'; cases hm'
      obtain ⟨hc, he⟩ := (decode_iff bs m).mp hd
      rcases hor with hne | ⟨t, hmem, hf⟩
      · exact hne he.symm
      · have := List.all_eq_true.mp hc.tags_ok t hmem
        rw [hf] at this; cases this

theorem decodeLax_padEq {bs : Bytes} {m : Msg} (hl : Spec.decodeLax bs = some m) :
    LaxCanon m ∧ PadEq bs (Spec.encode m) := by
  obtain ⟨h1, h2, _⟩ := decodeWith_inv hl
  exact ⟨h1, h2⟩

end Rtosc.Osc.V
