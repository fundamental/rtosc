/-
  C10 — tier 3, compressed runs AND arrays: the syntax checker.

  The array loop of `rtosc_skip_next_printed_arg` over a body text of segments, the array as one
  argument, and the loop of `rtosc_count_printed_arg_vals` over a text of pieces: the text in front of
  any gap is a chain of arguments (Proofs/PrettyLoops.lean).

  Fuel.  `skipNextPrintedArg (fuel + 1)` hands `skipNextPrintedArg fuel` to everything it calls (the
  elements of an array, the operand of `nx`, the right-hand side of a range, the look-back into the
  text of the previous argument), so a statement asks for one unit per level of calls above an
  arbitrary `fuel`: `fuel + 1` for a token (`TokOK`), `fuel + 2` for an argument with its look at a
  following `...` (`ArgOK`), `F + 3` for an argument whose look-back re-reads the previous argument
  (`SkipsArg`; the re-reading alone takes `F + 2`, `CheckL`), `fuel + 4` for an array of such
  arguments (`skipNext_arrSegs`), `fuel + 5` for a run `nx[…]` of it (`skipNext_arunSegs`).  `F` is
  what re-reading the previous argument takes beyond a value: 0 for a value or a run of values, 3
  for an array or a run of arrays (`F + 2 = 5`, the five levels of `skipNext_arunSegs`); so `CheckInv 0` stands inside an array,
  whose elements are values and runs, and `CheckInv 3` at top level.  The scanner counts the same
  way (`fuel + 3` an array, `fuel + 4` a run of it, Proofs/PrettyRunsArrScan.lean) and has no `F`:
  it looks back into the cells read, not into text.
-/
import RtoscModel.Proofs.PrettyRunsArrDefs
namespace Rtosc.Pretty
open Rtosc Rtosc.Libc
open Rtosc.ArgVal (Cell)

/-- the invariant of the checker's `arraytype` in front of the original cells `cells` of the rest
    of the array: a range (matches everything), not yet set, or the type of all the cells -/
def ATy (aty : UInt8) (cells : List Cell) : Prop :=
  aty = 45 ∨ (aty = 0 ∧ ∀ e ∈ cells, typesMatch (cells.headD (Cell.flag .N)).type e.type = true) ∨
  (aty ≠ 0 ∧ ∀ e ∈ cells, typesMatch aty e.type = true)

theorem aTy_of_arrTypesOK {body : List RSeg} (h : ArrTypesOK body) : ATy 0 (cellsAll body) :=
  Or.inr (Or.inl ⟨rfl, h⟩)

/-- an element of type '-' (a range) -/
theorem aTy_range {aty : UInt8} (X more : List Cell) (h : ATy aty (X ++ more)) :
    (aty = 0 ∨ arraytypesMatch aty 45 = true) ∧ ATy (if aty = 0 then 45 else aty) more := by
  refine ⟨Or.inr (by simp [arraytypesMatch]), ?_⟩
  rcases h with h | ⟨h, _⟩ | ⟨h, h'⟩
  · subst h; exact Or.inl (by simp)
  · subst h; exact Or.inl (by simp)
  · simp only [h, ↓reduceIte]
    exact Or.inr (Or.inr ⟨h, fun e he => h' e (by simp [he])⟩)

/-- an element that is the value `c` -/
theorem aTy_tok {aty : UInt8} (c : Cell) (more : List Cell) (h : ATy aty (c :: more)) :
    (aty = 0 ∨ arraytypesMatch aty c.type = true) ∧ ATy (if aty = 0 then c.type else aty) more := by
  rcases h with h | ⟨h, h'⟩ | ⟨h, h'⟩
  · subst h
    exact ⟨Or.inr (by simp [arraytypesMatch]), Or.inl (by simp)⟩
  · subst h
    refine ⟨Or.inl rfl, Or.inr (Or.inr ⟨?_, fun e he => ?_⟩)⟩
    · simp only [↓reduceIte]; exact Cell.type_ne_zero c
    · simp only [↓reduceIte]
      have := h' e (by simp [he])
      simpa using this
  · refine ⟨Or.inr ?_, ?_⟩
    · simp [arraytypesMatch, h' c (by simp)]
    · simp only [h, ↓reduceIte]
      exact Or.inr (Or.inr ⟨h, fun e he => h' e (by simp [he])⟩)

/-- one turn of the checker's array loop over an element text `T` (the element is skipped with the
    type `20`, the value `char arraytype_cur = 20` has at the call, pretty-format.c:1303) -/
theorem skipArr_one (sk : ArgSkipper) (T sep next : Bytes) (hT : TokStart T) (htail : TailR sep next) (lf : Nat)
    (recent : Option Bytes) (aty : UInt8) (skipped k : Int) (ty : UInt8)
    (hskip : sk (T ++ (sep ++ next)) 20 recent true true = .ok ⟨some (sep ++ next), k, ty⟩)
    (hm : aty = 0 ∨ arraytypesMatch aty ty = true) :
    skipArrayElems sk (lf + 1) (some (T ++ (sep ++ next))) recent aty skipped =
      skipArrayElems sk lf (some next) (some (T ++ (sep ++ next))) (if aty = 0 then ty else aty) (skipped + k) := by
  rw [skipArrayElems_turn sk T (sep ++ next) k ty lf recent aty skipped hT ⟨_, hskip, rfl, rfl, rfl⟩ hm, htail.2]

theorem skipArr_seg (fuel : Nat) {L : Option Cell} {s : RSeg} {T : Bytes} (hT : SegText L s T) (sep next : Bytes)
    (htail : TailB sep next) (recent : Option Bytes) (hinv : CheckInv 0 L recent (T ++ (sep ++ next))) (lf : Nat)
    (aty : UInt8) (skipped : Int) (more : List Cell) (hty : ATy aty (s.cells ++ more)) :
    ∃ recent' aty', skipArrayElems (skipNextPrintedArg (fuel + 3)) (lf + s.nargs L) (some (T ++ (sep ++ next))) recent aty skipped =
        skipArrayElems (skipNextPrintedArg (fuel + 3)) lf (some next) recent' aty' (skipped + ((s.scanned L).length : Nat)) ∧
      CheckInv 0 (some s.last) recent' next ∧ ATy aty' more := by
  have hR := htail.toR
  rcases hT.skips (Nat.zero_le 3) with ⟨hn1, ty, hty1, hp⟩ | ⟨a, T', hn2, rfl, hlen, ⟨r, hcells⟩, hp1, hp2⟩
  · obtain ⟨hsk, hinv'⟩ := (hp L (rdCtx_refl L)).2 (sep ++ next) recent hR.1 hinv
    obtain ⟨hm, hty'⟩ : (aty = 0 ∨ arraytypesMatch aty ty = true) ∧ ATy (if aty = 0 then ty else aty) more := by
      rcases hty1 with rfl | ⟨c, hc, rfl⟩
      · exact aTy_range _ more hty
      · exact aTy_tok c more (by rwa [hc] at hty)
    refine ⟨_, _, ?_, hinv' sep next rfl htail.cur, hty'⟩
    rw [hn1]
    exact skipArr_one _ T sep next hsk.1 hR lf recent aty skipped _ ty (hsk.2 fuel 20 true (Or.inl (Nat.zero_le _))) hm
  · -- the value `a`, then the range behind it
    obtain ⟨hm1, hty1⟩ := aTy_tok (Cell.int .i a) (r ++ more) (by rw [hcells] at hty; exact hty)
    simp only [type_int_i] at hm1 hty1
    obtain ⟨hm2, hty2⟩ := aTy_range r more hty1
    have htail1 : TailR [32] (T' ++ (sep ++ next)) := tailR_sep _ _ (Or.inl rfl) (hp2.1.append _)
    have e : fmtDec a ++ ([32] ++ T') ++ (sep ++ next) = fmtDec a ++ ([32] ++ (T' ++ (sep ++ next))) := by
      simp only [List.append_assoc]
    rw [e] at hinv
    obtain ⟨hsk1, hinv1⟩ := (hp1 L).2 _ recent htail1.1 hinv
    obtain ⟨hsk2, hinv2⟩ := hp2.2 (sep ++ next) _ hR.1 (hinv1 [32] _ rfl (fun _ => Or.inl rfl))
    refine ⟨_, _, ?_, hinv2 sep next rfl htail.cur, hty2⟩
    rw [hn2, hlen, e,
      skipArr_one _ (fmtDec a) [32] _ hsk1.1 htail1 (lf + 1) recent aty skipped 1 105
        (hsk1.2 fuel 20 true (Or.inl (Nat.zero_le _))) hm1,
      skipArr_one _ T' sep next hsk2.1 hR lf _ _ (skipped + 1) 3 45 (hsk2.2 fuel 20 true (Or.inl (Nat.zero_le _))) hm2,
      Int.add_assoc]
    rfl

theorem skipArrayElems_segs (fuel : Nat) {L : Option Cell} {segs : List RSeg} {text : Bytes} (h : SegsText L segs text)
    (rest : Bytes) :
    ∀ (lf : Nat) (recent : Option Bytes) (aty : UInt8) (skipped : Int), nargsAll L segs + 1 ≤ lf →
      CheckInv 0 L recent (text ++ 93 :: rest) → ATy aty (cellsAll segs) →
      skipArrayElems (skipNextPrintedArg (fuel + 3)) lf (some (text ++ 93 :: rest)) recent aty skipped =
        .ok (some (93 :: rest), skipped + ((scannedAll L segs).length : Nat)) := by
  induction h with
  | nil L =>
    intro lf recent aty skipped hf _ _
    obtain ⟨g, rfl⟩ : ∃ g, lf = g + 1 := ⟨lf - 1, by omega⟩
    simp [skipArrayElems_close, scannedAll]
  | cons L s segs T sep text hT hrest h1 h2 ih =>
    intro lf recent aty skipped hf hinv hty
    have htail := hrest.tailB_end h1 h2 rest
    have e : T ++ (sep ++ text) ++ 93 :: rest = T ++ (sep ++ (text ++ 93 :: rest)) := by
      simp [List.append_assoc]
    simp only [nargsAll] at hf
    simp only [cellsAll] at hty
    rw [e] at hinv ⊢
    obtain ⟨g, rfl⟩ : ∃ g, lf = g + s.nargs L := ⟨lf - s.nargs L, by omega⟩
    obtain ⟨recent', aty', hstep, hinv', hty'⟩ :=
      skipArr_seg fuel hT sep (text ++ 93 :: rest) htail recent hinv g aty skipped (cellsAll segs) hty
    rw [hstep, ih g recent' aty' _ (by omega) hinv' hty']
    simp only [scannedAll, List.length_append, Int.natCast_add, Int.add_assoc]

/-- **`rtosc_skip_next_printed_arg` on `[` body `]`**, the body a text of segments -/
theorem skipNext_arrSegs (fuel : Nat) {body : List RSeg} {B : Bytes} (hB : SegsText none body B) (hty : ArrTypesOK body)
    (rest : Bytes) (hS : Sep rest) (ty : UInt8) (llhs : Option Bytes) (fe ib : Bool) :
    skipNextPrintedArg (fuel + 4) (91 :: (B ++ 93 :: rest)) ty llhs fe ib =
      .ok ⟨some rest, 1 + (((scannedAll none body).length : Nat) : Int), 97⟩ := by
  have hsp : skipSpace (B ++ 93 :: rest) = B ++ 93 :: rest := by
    by_cases hne : body = []
    · subst hne; cases hB; exact skipSpace_close rest
    · exact skipSpace_tokStart _ ((hB.start hne).append _)
  have hle := hB.nargs_le
  -- the loop starts with `skipped = 1`: the array header counts as one cell
  have hloop := skipArrayElems_segs fuel hB rest ((91 :: (B ++ 93 :: rest)).length + 1) none 0 1 (by
    simp only [List.length_cons, List.length_append]; omega) rfl (aTy_of_arrTypesOK hty)
  have h3 := (sep_skipSpace_facts rest hS).2
  rw [skipNext_value llhs fe (skipValue_array _ _ ty ib (by rw [hsp]; exact hloop)) rfl]
  simp [h3]

theorem type_arrHdrS (body : List RSeg) : (arrHdrS body).type = 97 := rfl

/-- an array in front of the range: the checker finds an 'a' -/
theorem checkL_arr {body : List RSeg} {B : Bytes} (hB : SegsText none body B) (hty : ArrTypesOK body)
    (sp cur tail : Bytes) (hsp : IsSepTxt sp) (hcur : TokStart cur) :
    CheckL 3 (91 :: (B ++ 93 :: (sp ++ cur))) tail (arrHdrS body) := by
  intro f ib hf
  obtain ⟨g, rfl⟩ : ∃ g, f = g + 2 := ⟨f - 2, by omega⟩
  have hS := sep_of_next sp cur hsp hcur
  have hskip : skipNextPrintedArg (g + 2 + 2) (91 :: (B ++ 93 :: (sp ++ cur))) 0 none false ib =
      .ok ⟨some (sp ++ cur), 1 + (((scannedAll none body).length : Nat) : Int), 97⟩ :=
    skipNext_arrSegs g hB hty (sp ++ cur) hS 0 none false ib
  have hpick : pickLl1 (91 :: (B ++ 93 :: (sp ++ cur))) (sp ++ cur) tail = 91 :: (B ++ 93 :: (sp ++ cur)) := by
    unfold pickLl1
    rw [skipSpace_sep sp cur hsp hcur, startsWith_ell_of_tokStart cur hcur]
    simp [isRangeMultiplier, show isdigit 91 = false from by decide]
  refine ⟨_, sp ++ cur, _, hskip, rfl, by rw [hpick]; exact hskip, rfl, ?_⟩
  intro hint
  rw [type_arrHdrS] at hint
  exact absurd hint (by decide)

/-- **`rtosc_skip_next_printed_arg` on `nx[` body `]`** -/
theorem skipNext_arunSegs (fuel : Nat) (n : Nat) (hn : 1 ≤ n) {body : List RSeg} {B : Bytes} (hB : SegsText none body B)
    (hty : ArrTypesOK body) (rest : Bytes) (hS : Sep rest) (ty : UInt8) (llhs : Option Bytes) (fe ib : Bool) :
    skipNextPrintedArg (fuel + 5) (runText n (91 :: (B ++ [93])) ++ rest) ty llhs fe ib =
      .ok ⟨some rest, 1 + (1 + (((scannedAll none body).length : Nat) : Int)), 45⟩ := by
  have hr' := skipNext_arrSegs fuel hB hty rest hS 0 none false ib
  have h3 := hS.2.2
  rw [← arr_text_append] at hr'
  rw [runText_append, skipNext_value llhs fe (skipValue_run _ n hn _ rest ty ib hr') rfl]
  simp [h3]

/-- `nx[…]` in front of the range: the checker finds an 'a' -/
theorem checkL_arun (n : Nat) (hn : 1 ≤ n) {body : List RSeg} {B : Bytes} (hB : SegsText none body B)
    (hty : ArrTypesOK body) (sp cur tail : Bytes) (hsp : IsSepTxt sp) (hcur : TokStart cur) :
    CheckL 3 (runText n (91 :: (B ++ [93])) ++ (sp ++ cur)) tail (arrHdrS body) := by
  intro f ib hf
  obtain ⟨g, rfl⟩ : ∃ g, f = g + 3 := ⟨f - 3, by omega⟩
  have hS := sep_of_next sp cur hsp hcur
  have hskip := skipNext_arunSegs g n hn hB hty (sp ++ cur) hS 0 none false ib
  have hskip2 : skipNextPrintedArg (g + 3 + 2) (91 :: (B ++ 93 :: (sp ++ cur))) 0 none false ib =
      .ok ⟨some (sp ++ cur), 1 + (((scannedAll none body).length : Nat) : Int), 97⟩ :=
    skipNext_arrSegs (g + 1) hB hty (sp ++ cur) hS 0 none false ib
  have hpick : pickLl1 (runText n (91 :: (B ++ [93])) ++ (sp ++ cur)) (sp ++ cur) tail = 91 :: (B ++ 93 :: (sp ++ cur)) := by
    unfold pickLl1
    rw [skipSpace_sep sp cur hsp hcur, startsWith_ell_of_tokStart cur hcur, runText_append,
      isRangeMultiplier_mult n hn, afterX_mult n hn, arr_text_append]
    simp
  refine ⟨_, sp ++ cur, _, hskip, rfl, by rw [hpick]; exact hskip2, rfl, ?_⟩
  intro hint
  rw [type_arrHdrS] at hint
  exact absurd hint (by decide)

/-- **an array block is a piece behind which the look-back finds the array**: a text that is skipped the same
    whatever stands in front of it (an array, `nx[…]`) and in which the checker finds the header `hdr` -/
theorem checkP_arrBlock (rL : Option Cell) {T : Bytes} {cs : List Cell} (hdr : Cell) (hT : TokStart T)
    (hL : ∀ (sp cur tail : Bytes), IsSepTxt sp → TokStart cur → CheckL 3 (T ++ (sp ++ cur)) tail hdr)
    (hskip : ∀ (X : Bytes) (recent : Option Bytes), Sep X →
      ∃ r, skipNextPrintedArg ((T ++ X).length + 2) (T ++ X) 0 recent true false = .ok r ∧ r.src = some X ∧
        r.skipped = cs.length) :
    CheckP rL T cs (some hdr) := by
  intro gp nx recent hgk _
  obtain ⟨r, hr, h1, h2⟩ := hskip (gp ++ nx) recent hgk.1.sep
  exact ⟨hT, ⟨_, rfl, fun hcur tail _ => hL gp nx tail (hgk.2 hcur) hcur⟩, r, skipNextPrintedArg_checkFuel hr, h1, h2⟩

/-- **a piece — a segment, an array, a repeated array — in front of a chain** of the loop of
    `rtosc_count_printed_arg_vals`; behind an array the look-back finds an 'a'.  The rest of the chain
    is asked for every reader context `rL'` behind the piece, since behind an array scanner and checker
    each have a different one (none / the array header) -/
theorem ASegText.checkChain {pL : Option Cell} {x : ASeg} {T : Bytes} (hT : ASegText pL x T) :
    ∃ css0, css0.flatten.length = (x.scanned pL).length ∧ css0.length = x.nargs pL ∧
      ∀ rL, RdCtx pL rL → ∀ {gap rest next : Bytes} {css : List (List Cell)}, GapK gap rest →
        (∀ rL', RdCtx (some x.plast) rL' → Chain CheckP (fun _ => GapK) rL' css rest next) →
        Chain CheckP (fun _ => GapK) rL (css0 ++ css) (T ++ (gap ++ rest)) next := by
  have hTs := hT.start
  cases hT with
  | seg s T hT =>
    obtain ⟨css0, e1, e2, hc⟩ := hT.checkChain
    exact ⟨css0, e1, e2, fun rL hctx _ _ _ _ hg hrest => hc rL hctx hg (hrest _ (Or.inl rfl))⟩
  | arr body B hB hty =>
    refine ⟨[arrHdrS body :: scannedAll none body], by simp [ASeg.scanned], rfl, fun rL hctx gap rest next css hg hrest =>
      .cons (checkP_arrBlock rL (arrHdrS body) hTs
        (fun sp cur tail hsp hcur => by rw [arr_text_append]; exact checkL_arr hB hty sp cur tail hsp hcur)
        (fun X recent hS => ?_)) hg (hrest _ (Or.inr (Or.inr ⟨_, _, rfl⟩)))⟩
    obtain ⟨f, hf⟩ : ∃ f, (91 :: (B ++ [93]) ++ X).length + 2 = f + 4 := ⟨(91 :: (B ++ [93]) ++ X).length - 2, by
      simp only [List.length_cons, List.length_append]; omega⟩
    rw [hf, arr_text_append]
    exact ⟨_, skipNext_arrSegs f hB hty X hS 0 recent true false, rfl, by simp; omega⟩
  | arun m body B hB hty hm1 hm2 =>
    refine ⟨[Cell.rep m 0 :: arrHdrS body :: scannedAll none body], by simp [ASeg.scanned], rfl,
      fun rL hctx gap rest next css hg hrest =>
        .cons (checkP_arrBlock rL (arrHdrS body) hTs (fun sp cur tail hsp hcur => checkL_arun m hm1 hB hty sp cur tail hsp hcur)
          (fun X recent hS => ?_)) hg (hrest _ (Or.inr (Or.inr ⟨_, _, rfl⟩)))⟩
    have hl4 := runText_arr_length m hm1 B
    obtain ⟨f, hf⟩ : ∃ f, (runText m (91 :: (B ++ [93])) ++ X).length + 2 = f + 5 :=
      ⟨(runText m (91 :: (B ++ [93])) ++ X).length - 3, by simp only [List.length_append] at hl4 ⊢; omega⟩
    rw [hf]
    exact ⟨_, skipNext_arunSegs f m hm1 hB hty X hS 0 recent true false, rfl, by simp; omega⟩

theorem ASegsText.checkChain {pL : Option Cell} {xs : List ASeg} {text : Bytes} (h : ASegsText pL xs text) (hne : xs ≠ [])
    {gap next : Bytes} (hg : GapK gap next) :
    ∃ css, css.flatten.length = (scannedAllA pL xs).length ∧ css.length = nargsAllA pL xs ∧
      ∀ rL, RdCtx pL rL → Chain CheckP (fun _ => GapK) rL css (text ++ (gap ++ next)) next := by
  induction h with
  | nil L => exact absurd rfl hne
  | cons L x xs T sep text hT hrest h1 h2 ih =>
    obtain ⟨css0, e1, e2, hc⟩ := hT.checkChain
    by_cases hxs : xs = []
    · subst hxs
      cases hrest
      obtain rfl := h1 rfl
      exact ⟨css0, by simpa [scannedAllA] using e1, by simpa [nargsAllA] using e2, fun rL hctx => by
        simpa using hc rL hctx (css := []) hg (fun rL' _ => .nil rL' next)⟩
    · obtain ⟨css1, f1, l1, hch⟩ := ih hxs
      refine ⟨css0 ++ css1, by simp [scannedAllA, e1, f1], by simp [nargsAllA, e2, l1], fun rL hctx => ?_⟩
      have := hc rL hctx (.sepTxt (h2 hxs) ((hrest.start hxs).append _)) hch
      simpa [List.append_assoc] using this

/-- `hnext` is the exit test of `for(; src && *src && *src != '/'; …)` (pretty-format.c:1627) -/
theorem countLoop_asegs {pL : Option Cell} {xs : List ASeg} {text : Bytes} (h : ASegsText pL xs text) (hne : xs ≠ [])
    {gap next : Bytes} (hg : GapK gap next) (hnext : hd next = 0 ∨ hd next = 47) (f : Nat) (recent : Option Bytes)
    (num : Int) (rL : Option Cell) (hctx : RdCtx pL rL) (hinv : CheckInv 3 rL recent (text ++ (gap ++ next)))
    (hf : nargsAllA pL xs + 1 ≤ f) :
    countLoop f (some (text ++ (gap ++ next))) recent num = .ok (num + ((scannedAllA pL xs).length : Nat)) := by
  obtain ⟨css, e1, e2, hch⟩ := h.checkChain hne hg
  rw [countLoop_chain (hch rL hctx) hnext f recent num hinv (by rw [e2]; exact hf), e1]

theorem countPrintedArgVals_asegs {xs : List ASeg} {text : Bytes} (h : ASegsText none xs text) (src : Bytes)
    (hsk : skipSpace src = text) :
    countPrintedArgVals src = .ok ((scannedAllA none xs).length : Int) := by
  by_cases hne : xs = []
  · subst hne; cases h
    simp [countPrintedArgVals_start hsk (Or.inl rfl), countLoopG_stop _ _ (src := []) (Or.inl rfl), scannedAllA]
  · have := countLoop_asegs h hne .nil (Or.inl rfl) (text.length + 1) none 0 none (rdCtx_refl none) rfl
      (by have := h.nargs_le; omega)
    rw [countPrintedArgVals_start hsk (Or.inr (h.start hne)), ← countLoop_eq]
    simpa using this

end Rtosc.Pretty
