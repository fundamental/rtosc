/-
  C19 — the default mapping (gain 100, offset 0) over any exact arithmetic: logarithmic scale,
  and linear scale over `exact` (`emit_default_linear`).

  `IsExact A` says that the carrier is an ordered field and every arithmetic operation of `A`
  is the exact field operation (no rounding); `roundf`, `(int)`, `logf`, `expf` stay whatever
  `A` says.  Under `IsExact` the control points at gain 100 / offset 0 are the stored bounds
  themselves and a slot value in [0,1] is never clamped, so that a log-scale automation emits
  `expf (logf lo + x·(logf hi − logf lo))`.  Instances: `exactLog lg ex` over `Rat` (here) and
  the real numbers with `Real.log`/`Real.exp` (Proofs/AutoExtReal.lean).
-/
import Mathlib.Tactic.Ring
import Mathlib.Tactic.NormNum
import Mathlib.Algebra.Order.Field.Basic
import RtoscModel.Proofs.AutoLemmas
namespace Rtosc.Auto
open Rtosc

variable {K : Type} [Field K] [LinearOrder K] [IsStrictOrderedRing K]

structure IsExact (A : Arith K) : Prop where
  le_iff : ∀ x y, A.le x y = true ↔ x ≤ y
  zero : A.zero = 0
  one : A.one = 1
  half : A.half = 1 / 2
  two : A.two = 2
  hundred : A.hundred = 100
  add32 : ∀ x y, A.add32 x y = x + y
  sub32 : ∀ x y, A.sub32 x y = x - y
  mul32 : ∀ x y, A.mul32 x y = x * y
  add64 : ∀ x y, A.add64 x y = x + y
  sub64 : ∀ x y, A.sub64 x y = x - y
  mul64 : ∀ x y, A.mul64 x y = x * y
  div64 : ∀ x y, A.div64 x y = x / y
  to32 : ∀ x, A.to32 x = x

omit [IsStrictOrderedRing K] in
theorem IsExact.le_false {A : Arith K} (hA : IsExact A) (x y : K) : A.le x y = false ↔ y < x := by
  rw [← not_le, ← hA.le_iff]; simp

theorem mapping_default_exact {A : Arith K} (hA : IsExact A) (mn mx : K) :
    mapping A mn mx 100 0 = (mn, mx) := by
  simp only [mapping, hA.add32, hA.sub32, hA.mul32, hA.add64, hA.sub64, hA.mul64, hA.div64, hA.to32,
    hA.half, hA.two, hA.hundred]
  refine Prod.ext ?_ ?_ <;> simp only <;> ring

/-- the message a log-scale automation must emit at slot value `x` (generic carrier) -/
def logMsgK (A : Arith K) (path : Bytes) (ty : Char) (lo hi x : K) : Msg K :=
  let a := A.logf lo + x * (A.logf hi - A.logf lo)
  if ty = 'i' then { addr := path, ty := 'i', val := .int (A.toInt (A.roundf (A.expf a))), expArg := some a }
  else { addr := path, ty := 'f', val := .flt (A.expf a), expArg := some a }

theorem interp_mem {a b x : K} (hab : a ≤ b) (hx0 : 0 ≤ x) (hx1 : x ≤ 1) :
    a ≤ a + x * (b - a) ∧ a + x * (b - a) ≤ b := by
  have hd : 0 ≤ b - a := sub_nonneg.2 hab
  exact ⟨le_add_of_nonneg_right (mul_nonneg hx0 hd), le_sub_iff_add_le'.1 (mul_le_of_le_one_left hd hx1)⟩

theorem default_value_exact {A : Arith K} (hA : IsExact A) (au : Automation K) (x : K)
    (hcp : (au.cp1, au.cp3) = mapping A au.pmin au.pmax 100 0) :
    A.add32 (A.mul32 x (A.sub32 au.cp3 au.cp1)) au.cp1 = au.pmin + x * (au.pmax - au.pmin) := by
  rw [mapping_default_exact hA] at hcp
  obtain ⟨h1, h3⟩ := Prod.mk.inj hcp
  rw [hA.add32, hA.mul32, hA.sub32, h1, h3, add_comm]

theorem default_arg_exact {A : Arith K} (hA : IsExact A) (au : Automation K) (x : K)
    (hcp : (au.cp1, au.cp3) = mapping A au.pmin au.pmax 100 0) (hm : au.pmin ≤ au.pmax)
    (hx0 : 0 ≤ x) (hx1 : x ≤ 1) :
    clamp A au.pmin au.pmax (A.add32 (A.mul32 x (A.sub32 au.cp3 au.cp1)) au.cp1) =
      au.pmin + x * (au.pmax - au.pmin) := by
  obtain ⟨h0, h1⟩ := interp_mem hm hx0 hx1
  rw [default_value_exact hA au x hcp]
  exact clamp_of_mem A ((hA.le_iff _ _).2 h0) ((hA.le_iff _ _).2 h1)

theorem portRange_ordered_exact {A : Arith K} (hA : IsExact A) (p : PortInfo K) (hw : PortWF A p)
    (lo hi : K) (hr : portRange A p = some (lo, hi)) : lo ≤ hi :=
  (hA.le_iff _ _).1 <| portRange_ordered A (by rw [hA.le_iff, hA.zero, hA.one]; exact zero_le_one)
    (fun x y h => by rwa [hA.to32, hA.to32]) p hw hr

/-- `fromPort_spec` for the automation whose ghost field names the log-scale port `p`: what it
    stores, in terms of `portType p` and `portRange A p` -/
theorem bound_log_facts {F : Type} (A : Arith F) (au : Automation F) (hgood : Good A au) (hu : au.used = true)
    (path : Bytes) (p : PortInfo F) (hbound : au.bound = some (path, p)) (hs : p.scaleLog = true) :
    ∃ lo hi, portRange A p = some (lo, hi) ∧ PortWF A p ∧ au.path = path ∧ au.ty = portType p ∧
      (portType p = 'i' ∨ portType p = 'f') ∧ au.logScale = true ∧
      au.pmin = A.logf lo ∧ au.pmax = A.logf hi := by
  obtain ⟨path', p', lo, hi, e0, hw, _, hr, e1, e2, e5, e3, e4⟩ := fromPort_spec A au (hgood.1 hu).1
  rw [hbound] at e0
  obtain ⟨rfl, rfl⟩ := Prod.mk.inj (Option.some.inj e0)
  rw [hs] at e5 e3 e4
  exact ⟨lo, hi, hr, hw, e1, e2, portType_log hw hs, e5, e3, e4⟩

/-- **the default mapping of a log-scale automation**, from the invariant `Good`: an
    automation bound to the log-scale port `p` under `path` has a declared range `lo..hi`
    (`portRange`) that is positive and ordered, and the emitted message is `logMsgK`. -/
theorem emit_default_log {A : Arith K} (hA : IsExact A)
    (hmono : ∀ a b : K, 0 < a → a ≤ b → A.logf a ≤ A.logf b)
    (au : Automation K) (hgood : Good A au) (hu : au.used = true) (hg : au.gain = 100) (ho : au.offset = 0)
    (path : Bytes) (p : PortInfo K) (hbound : au.bound = some (path, p)) (hs : p.scaleLog = true)
    (x : K) (hx0 : 0 ≤ x) (hx1 : x ≤ 1) :
    ∃ (lo hi : K),
      (portType p = 'i' ∨ portType p = 'f') ∧ portRange A p = some (lo, hi) ∧ 0 < lo ∧ lo ≤ hi ∧
      emit A au x = [logMsgK A path (portType p) lo hi x] := by
  obtain ⟨lo, hi, hr, hw, e1, e2, hty, hl, q1, q2⟩ := bound_log_facts A au hgood hu path p hbound hs
  have hcp := (hgood.1 hu).2
  have hpos : 0 < lo := by
    have := hw.2.2 hs lo hi hr
    rwa [hA.le_false, hA.zero] at this
  have hle : lo ≤ hi := portRange_ordered_exact hA p hw lo hi hr
  have hm : au.pmin ≤ au.pmax := by rw [q1, q2]; exact hmono lo hi hpos hle
  rw [hg, ho] at hcp
  refine ⟨lo, hi, hty, hr, hpos, hle, ?_⟩
  rw [emit_log A au x hu (e2 ▸ hty) hl, default_arg_exact hA au x hcp hm hx0 hx1]
  simp only [logMsgK, e1, e2, q1, q2]

theorem exactLog_isExact (lg ex : ℚ → ℚ) : IsExact (exactLog lg ex) := by
  constructor <;> intros
  · exact decide_eq_true_iff
  all_goals rfl

theorem logMsgK_exactLog (lg ex : ℚ → ℚ) (path : Bytes) (ty : Char) (lo hi x : ℚ) :
    logMsgK (exactLog lg ex) path ty lo hi x = logMsg lg ex path ty lo hi x := by
  unfold logMsgK logMsg exactLog; rfl

theorem exact_isExact : IsExact exact := exactLog_isExact id id

theorem emit_default_linear (au : Automation Rat) (x : Rat) (hu : au.used = true)
    (hty : au.ty = 'i' ∨ au.ty = 'f' ∨ au.ty = 'T') (hl : au.logScale = false)
    (hcp : (au.cp1, au.cp3) = mapping exact au.pmin au.pmax 100 0) (hm : au.pmin ≤ au.pmax)
    (hx0 : 0 ≤ x) (hx1 : x ≤ 1) : emit exact au x = [linearMsg au x] := by
  have hv := default_value_exact exact_isExact au x hcp
  have hc := default_arg_exact exact_isExact au x hcp hm hx0 hx1
  rcases hty with hi | hf | hT
  · rw [emit_int exact au x hu hi]
    simp only [hl, hc, Bool.false_eq_true, ↓reduceIte]
    simp [linearMsg, hi, exact]
  · rw [emit_flt exact au x hu hf]
    simp only [hl, hc, Bool.false_eq_true, ↓reduceIte]
    simp [linearMsg, hf]
  · rw [emit_toggle exact au x hu hT, hv]
    simp [linearMsg, hT, Arith.gt, exact]

theorem lg10_mono (a b : ℚ) (hab : a ≤ b) : lg10 a ≤ lg10 b := by
  simp only [lg10]
  by_cases h1 : b ≤ 1
  · have : a ≤ 1 := le_trans hab h1
    simp [h1, this]
  · by_cases h2 : b ≤ 10
    · have : a ≤ 10 := le_trans hab h2
      simp only [h1, h2, ↓reduceIte, this]
      split <;> decide
    · simp only [h1, h2, ↓reduceIte]
      split
      · decide
      · split <;> decide

theorem ex10_mono (a b : ℚ) (hab : a ≤ b) : ex10 a ≤ ex10 b := by
  simp only [ex10]
  by_cases h1 : b ≤ 0
  · have : a ≤ 0 := le_trans hab h1
    simp [h1, this]
  · by_cases h2 : b ≤ 1
    · have : a ≤ 1 := le_trans hab h2
      simp only [h1, h2, ↓reduceIte, this]
      split <;> decide
    · simp only [h1, h2, ↓reduceIte]
      split
      · decide
      · split <;> decide

theorem lgAbs_mono_pos (a b : ℚ) (ha : 0 < a) (hab : a ≤ b) : lgAbs a ≤ lgAbs b := by
  have hb : 0 < b := lt_of_lt_of_le ha hab
  have na : ¬ a < 0 := not_lt.mpr (le_of_lt ha)
  have nb : ¬ b < 0 := not_lt.mpr (le_of_lt hb)
  simp only [lgAbs, na, nb, ↓reduceIte]
  exact lg10_mono a b hab

/-- non-vacuity of the hypotheses of the default-mapping theorems: a fresh manager binds a
    float port -/
theorem bind_fresh {F : Type} (A : Arith F) (path : Bytes) (p : PortInfo F) (mn mx : F)
    (hF : p.hasF = true) (hmn : p.min = some mn) (hmx : p.max = some mx)
    (hi : p.internal = false) (hn : p.noLearn = false) :
    ∃ (m' : Mgr F) (sl : Slot F) (au : Automation F),
      step A (Mgr.init A 1 1) (.bind 0 path (some p) false) = some (m', []) ∧
      sl ∈ m'.slots ∧ au ∈ sl.autos ∧ au.used = true ∧ au.gain = A.hundred ∧ au.offset = A.zero ∧
      au.bound = some (path, p) := by
  have hu : portUsable (some p) = some p := by simp [portUsable, hmn, hmx, hi, hn]
  obtain ⟨r, hr⟩ : ∃ r, portRange A p = some r := by simp [portRange, portType, hF, hmn, hmx]
  have hb := bindInfo_eq A (Automation.init A) path p (fun h => by rw [hF] at h; cases h)
  rw [hr] at hb
  have hc := createBinding_bind A (Mgr.init A 1 1) 0 path (some p) false hu rfl
    (sl := Slot.init A 1) rfl (ind := 0) rfl (au := Automation.init A) rfl hb
  exact ⟨_, _, _, congrArg (Option.map (·, [])) hc, List.mem_cons_self, List.mem_cons_self, rfl, rfl, rfl, rfl⟩

theorem bind_fresh_reachable {F : Type} (A : Arith F) (path : Bytes) (p : PortInfo F) (mn mx : F)
    (hw : PortWF A p) (hlen : path.length ≤ 127)
    (hF : p.hasF = true) (hmn : p.min = some mn) (hmx : p.max = some mx)
    (hi : p.internal = false) (hn : p.noLearn = false) :
    ∃ (m : Mgr F) (sl : Slot F) (au : Automation F),
      Reachable A 1 1 m ∧ sl ∈ m.slots ∧ au ∈ sl.autos ∧ au.used = true ∧ au.gain = A.hundred ∧
      au.offset = A.zero ∧ au.bound = some (path, p) := by
  obtain ⟨m, sl, au, hs, h⟩ := bind_fresh A path p mn mx hF hmn hmx hi hn
  exact ⟨m, sl, au, Reachable.step (op := .bind 0 path (some p) false) Reachable.init
    ⟨hlen, fun _ hp => Option.some.inj hp ▸ hw⟩ hs, h⟩

end Rtosc.Auto
