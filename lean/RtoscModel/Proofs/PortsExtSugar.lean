/-
  C04 helper lemmas: the hand-down of the runtime object through the
  library's own recursion macros `rRecur` / `rRecurp` (`name/`: one sub-object) and `rRecurs` /
  `rRecursp` (`name#N/`: the array element `obj->name[idx]`, `idx` computed from the message by
  `rBOILS_BEGIN`), as modelled in Ports/Sugar.lean (`recursIdx`, `objIdx`).

  Specification (Ports/DispatchSpec.lean; independent of the code: no `boilsScan`, no `atoi`, no `SNIP`):
    `spelledElem segs a`   the element the remaining address `a` names for the first `#N` of a name:
                           (value of the run of digits found where the name has its `#N`, N);
    `PTable.elemsFrom`     for a path of table indices (the identity of a table's object in the
                           model of `dispatch`): per sub-tree port on the path its index and the
                           element it selects — the address split level by level with `levelTail`.
  Theorems: `recursIdx_of_match` (one name: what `rBOILS_BEGIN` computes on a message that
  `rtosc_match`es the name is that element, and it is below N) and `LogEntry.elems` (the whole chain:
  for every callback of a dispatch, `Sugar.objIdx` of the object it is handed is `elemsFrom`).
-/
import RtoscModel.Proofs.PortsEntry
import RtoscModel.Proofs.PortsBuild
namespace Rtosc.Ports
open Rtosc Rtosc.Match Rtosc.Ports.Sugar

theorem elemsFrom_nil (t : PTable) (i : Nat) (a : Bytes) : t.elemsFrom i a [] = some [] := by
  cases t <;> rfl

theorem spelledElem_lits : ∀ (segs : List Seg) (a : Bytes), allLit segs = true → spelledElem segs a = none := by
  intro segs
  induction segs with
  | nil => intro a _; rfl
  | cons s r ih =>
    intro a h
    simp only [allLit, List.all_cons, Bool.and_eq_true] at h
    cases s with
    | lit x => simp only [spelledElem]; exact ih _ (by simpa [allLit] using h.2)
    | enum ds => simp [Seg.isLit] at h
    | alts as => simp [Seg.isLit] at h

/-- `rBOILS_BEGIN`'s scan over a name that spells the address: it stops at the first `#N`, the message
    pointer where the address has its index -/
theorem boilsScan_segs {sub : Bool} : ∀ (segs : List Seg) (a t tl x : Bytes), segsWf sub segs = true →
    noAlts segs = true → greedy segs sub a = some t → allLit segs = false →
    ∃ a' n, spelledElem segs a = some (decVal (a'.takeWhile isDigit), n) ∧
      a'.takeWhile isDigit ≠ [] ∧ decVal (a'.takeWhile isDigit) < n ∧
      boilsScan (renderSegs segs ++ tl) (a ++ x) = some (true, a' ++ x) := by
  intro segs
  induction segs with
  | nil => intro a t tl x _ _ _ h; simp [allLit] at h
  | cons s r ih =>
    intro a t tl x hwf hna hg hl
    obtain ⟨hs, hr, _, _⟩ := segsWf_cons hwf
    simp only [noAlts, List.all_cons, Bool.and_eq_true] at hna
    cases s with
    | lit y =>
      simp only [greedy] at hg
      split at hg
      · next hp =>
        obtain ⟨a1, rfl⟩ := List.isPrefixOf_iff_prefix.mp hp
        have hd : (y ++ a1).drop y.length = a1 := List.drop_left' rfl
        rw [hd] at hg
        have hl' : allLit r = false := by
          simpa [allLit, Seg.isLit] using hl
        obtain ⟨a', n, h1, h2, h3, h4⟩ := ih a1 t tl x hr (by simpa [noAlts] using hna.2) hg hl'
        refine ⟨a', n, by simp only [spelledElem, hd]; exact h1, h2, h3, ?_⟩
        have hy : ∀ c ∈ y, c ≠ 35 := by
          simp only [Seg.wf, Bool.and_eq_true, List.all_eq_true] at hs
          intro c hc
          exact (litChar_ne (hs.2 c hc)).2.1
        simp only [renderSegs, Seg.render, List.append_assoc]
        rw [boilsScan_prefix y _ _ hy]
        exact h4
      · cases hg
    | enum ds =>
      simp only [greedy] at hg
      split at hg
      · next hc =>
        exact ⟨a, decVal ds, rfl, hc.1, hc.2, by simp [renderSegs, Seg.render, boilsScan]⟩
      · cases hg
    | alts as => simp [Seg.isAlts] at hna

theorem atoiRun_takeWhile (a ex : Bytes) :
    atoiRun (a ++ 0 :: ex) 0 = some (decVal (a.takeWhile isDigit)) := by
  have hsplit : a = a.takeWhile isDigit ++ a.dropWhile isDigit := (List.takeWhile_append_dropWhile).symm
  have hds : ∀ c ∈ a.takeWhile isDigit, isDigit c = true := mem_takeWhile isDigit a
  cases hdw : a.dropWhile isDigit with
  | nil =>
    rw [hdw, List.append_nil] at hsplit
    have := atoiRun_run (a.takeWhile isDigit) 0 ex 0 hds isDigit_zero
    rw [← hsplit] at this
    rw [this, decVal, ← hsplit]
  | cons c tl =>
    have hc : isDigit c = false := dropWhile_head_not hdw
    have := atoiRun_run (a.takeWhile isDigit) c (tl ++ 0 :: ex) 0 hds hc
    rw [hdw] at hsplit
    have e : a ++ 0 :: ex = a.takeWhile isDigit ++ c :: (tl ++ 0 :: ex) := by
      conv => lhs; rw [hsplit]
      simp
    rw [e, this, decVal]

theorem noHash_lits {sub : Bool} : ∀ {segs : List Seg}, segsWf sub segs = true → allLit segs = true →
    (35 : UInt8) ∉ renderSegs segs := by
  intro segs
  induction segs with
  | nil => intro _ _; simp [renderSegs]
  | cons s r ih =>
    intro hwf hl
    obtain ⟨hs, hr, _, _⟩ := segsWf_cons hwf
    simp only [allLit, List.all_cons, Bool.and_eq_true] at hl
    cases s with
    | lit y =>
      simp only [renderSegs, Seg.render, List.mem_append, not_or]
      refine ⟨?_, ih hr (by simpa [allLit] using hl.2)⟩
      simp only [Seg.wf, Bool.and_eq_true, List.all_eq_true] at hs
      intro hc
      exact (litChar_ne (hs.2 _ hc)).2.1 rfl
    | enum ds => simp [Seg.isLit] at hl
    | alts as => simp [Seg.isLit] at hl

/-- **what the enumerated recursion callbacks compute**: for a name of the documented form without
    type specification and a message that `rtosc_match`es it, the element index of `rBOILS_BEGIN`
    (none is computed for a name without '#': `rRecurCb` / `rRecurpCb`) is the element the address
    names for the name's first `#N`, and that element exists (index < N) -/
theorem recursIdx_of_match {p : Pat} (hnw : nameWf p = true) (hty : p.types = none) {a tags t : Bytes}
    (hm : matchB p a tags = some t) (ex : Bytes) :
    (if hasChar 35 p.render then (recursIdx p.render (a ++ 0 :: ex)).map some else some none) =
      some ((spelledElem p.segs a).map (·.1)) ∧
    ∀ v n, spelledElem p.segs a = some (v, n) → v < n := by
  obtain ⟨hp0, _, hpna⟩ := nameWf_unpack hnw
  have hg := matchB_greedy hm
  cases hl : allLit p.segs with
  | true =>
    have hno : hasChar 35 p.render = false := by
      have h1 := noHash_lits (wf0_segs hp0) hl
      have : (35 : UInt8) ∉ p.render := by
        simp only [Pat.render, Pat.tail, hty, renderTypes, List.append_nil, List.mem_append, not_or]
        refine ⟨h1, ?_⟩
        split <;> simp
      cases hh : hasChar 35 p.render with
      | false => rfl
      | true => exact absurd (List.contains_iff_mem.mp hh) this
    simp only [hno, Bool.false_eq_true, ↓reduceIte, spelledElem_lits _ a hl, Option.map_none, true_and]
    intro v n h; cases h
  | false =>
    obtain ⟨a', n, h1, h2, h3, h4⟩ := boilsScan_segs p.segs a t p.tail (0 :: ex) (wf0_segs hp0) hpna hg hl
    have hyes : hasChar 35 p.render = true := by
      cases hh : hasChar 35 p.render with
      | true => rfl
      | false => rw [allLit_of_noHash hpna hh] at hl; cases hl
    have hr : recursIdx p.render (a ++ 0 :: ex) = some (decVal (a'.takeWhile isDigit)) := by
      simp only [recursIdx, Pat.render, h4, atoiRun_takeWhile]
    simp only [hyes, ↓reduceIte, hr, h1, Option.map_some, true_and]
    intro v n' h
    simp only [Option.some.injEq, Prod.mk.injEq] at h
    rw [← h.1, ← h.2]
    exact h3

/-- the model's `objIdx`, for a table whose first port has index `i` -/
def objIdxFrom : Table → Nat → Bytes → List Nat → Option (List (Nat × Option Nat))
  | .nil, _, _, [] => some []
  | .nil, _, _, _ :: _ => none
  | .leaf _ _, _, _, [] => some []
  | .leaf _ r, i, m, j :: s => if j = i then none else objIdxFrom r (i + 1) m (j :: s)
  | .node _ _ _ _, _, _, [] => some []
  | .node name c _ r, i, m, j :: s =>
    if j = i then
      match (if hasChar 35 name then (recursIdx name m).map some else some none), snip m with
      | some ix, some m' => (objIdxFrom c 0 m' s).map ((i, ix) :: ·)
      | _, _ => none
    else objIdxFrom r (i + 1) m (j :: s)

theorem objIdxFrom_nil (t : Table) (i : Nat) (m : Bytes) : objIdxFrom t i m [] = some [] := by
  cases t <;> rfl

theorem objIdxFrom_entry : ∀ (t : Table) (i j : Nat) (m : Bytes) (s : List Nat), i ≤ j →
    objIdxFrom t i m (j :: s) =
      match entryAt t (j - i) with
      | some (name, some child) =>
        (match (if hasChar 35 name then (recursIdx name m).map some else some none), snip m with
         | some ix, some m' => (objIdxFrom child 0 m' s).map ((j, ix) :: ·)
         | _, _ => none)
      | _ => none := by
  intro t
  induction t with
  | nil => intro i j m s _; simp [objIdxFrom, entryAt]
  | leaf n r ih | node n c cd r _ ih =>
    intro i j m s hij
    by_cases h : j = i
    · subst h; simp [objIdxFrom, entryAt]
    · have hk : j - i = (j - (i + 1)) + 1 := by omega
      simp only [objIdxFrom, h, ↓reduceIte]
      rw [ih (i + 1) j m s (by omega), hk]
      simp only [entryAt]

theorem objIdxFrom_eq : ∀ (s : List Nat) (T : Table) (m : Bytes), objIdxFrom T 0 m s = objIdx T m s := by
  intro s
  induction s with
  | nil => intro T m; rw [objIdxFrom_nil]; rfl
  | cons j s ih =>
    intro T m
    rw [objIdxFrom_entry T 0 j m s (Nat.zero_le _), Nat.sub_zero]
    simp only [objIdx]
    cases he : entryAt T j with
    | none => rfl
    | some e =>
      obtain ⟨name, ch⟩ := e
      cases ch with
      | none => rfl
      | some child =>
        simp only
        split <;> simp_all

theorem elemsFrom_ge : ∀ (t : PTable) (i : Nat) (a : Bytes) (j : Nat) (s : List Nat) es,
    t.elemsFrom i a (j :: s) = some es → i ≤ j := by
  intro t
  induction t with
  | nil => intro i a j s es h; simp [PTable.elemsFrom] at h
  | leaf p r ih =>
    intro i a j s es h
    simp only [PTable.elemsFrom] at h
    split at h
    · cases h
    · have := ih _ _ _ _ _ h; omega
  | node p c cd r _ ih =>
    intro i a j s es h
    simp only [PTable.elemsFrom] at h
    split at h
    · omega
    · have := ih _ _ _ _ _ h; omega

def ElemsAgree (t : PTable) (i : Nat) (a ex : Bytes) (s : List Nat) : Prop :=
  ∃ es, t.elemsFrom i a s = some es ∧ objIdxFrom t.render i (a ++ 0 :: ex) s = some (stripN es) ∧
    ElemsInRange es

theorem elemsAgree_nil (t : PTable) (i : Nat) (a ex : Bytes) : ElemsAgree t i a ex [] :=
  ⟨[], elemsFrom_nil t i a, objIdxFrom_nil _ _ _, by intro e he; cases he⟩

theorem elemsAgree_leaf_rest {p0 : Pat} {r : PTable} {i : Nat} {a ex : Bytes} {s : List Nat}
    (h : ElemsAgree r (i + 1) a ex s) : ElemsAgree (.leaf p0 r) i a ex s := by
  cases s with
  | nil => exact elemsAgree_nil _ _ _ _
  | cons j s =>
    obtain ⟨es, h1, h2, h3⟩ := h
    have hge := elemsFrom_ge _ _ _ _ _ _ h1
    have hne : ¬ j = i := by omega
    exact ⟨es, by simp only [PTable.elemsFrom, hne, ↓reduceIte]; exact h1,
      by simp only [PTable.render, objIdxFrom, hne, ↓reduceIte]; exact h2, h3⟩

theorem elemsAgree_node_rest {p0 : Pat} {ch r : PTable} {cd : Bool} {i : Nat} {a ex : Bytes} {s : List Nat}
    (h : ElemsAgree r (i + 1) a ex s) : ElemsAgree (.node p0 ch cd r) i a ex s := by
  cases s with
  | nil => exact elemsAgree_nil _ _ _ _
  | cons j s =>
    obtain ⟨es, h1, h2, h3⟩ := h
    have hge := elemsFrom_ge _ _ _ _ _ _ h1
    have hne : ¬ j = i := by omega
    exact ⟨es, by simp only [PTable.elemsFrom, hne, ↓reduceIte]; exact h1,
      by simp only [PTable.render, objIdxFrom, hne, ↓reduceIte]; exact h2, h3⟩

theorem elemsAgree_node_child {p : Pat} {ch r : PTable} {cd : Bool} {i : Nat} {a tags t ex : Bytes} {s : List Nat}
    (hnw : nameWf p = true) (hty : p.types = none) (ha : NulFree a) (hm : matchB p a tags = some t)
    (h : ElemsAgree ch 0 (levelTail a) ex s) : ElemsAgree (.node p ch cd r) i a ex (i :: s) := by
  obtain ⟨es, h1, h2, h3⟩ := h
  obtain ⟨hidx, hbound⟩ := recursIdx_of_match hnw hty hm ex
  refine ⟨(i, spelledElem p.segs a) :: es, ?_, ?_, ?_⟩
  · simp only [PTable.elemsFrom, ↓reduceIte, h1, Option.map_some]
  · simp only [PTable.render, objIdxFrom, ↓reduceIte, hidx, snip_addr a ex ha, h2, Option.map_some, stripN,
      List.map_cons]
  · intro e he v n hv
    rcases List.mem_cons.mp he with rfl | he
    · exact hbound v n hv
    · exact h3 e he v n hv

section
variable {tags : Bytes} {t : PTable} {i : Nat} {a : Bytes} {q s : List Nat} {p : Pat} {lf : Bool} {pfx path t' a' : Bytes}

/-- along the way to a port the elements `rBOILS_BEGIN` computes level by level (`objIdxFrom` =
    `Sugar.objIdx`) are the ones the address names (`elemsFrom`), each of them in range -/
theorem Hit.elems (hwf : t.WF) (hsn : t.sugarNodes = true) (ha : NulFree a) (ex : Bytes)
    (h : Hit tags t i a q p lf pfx path t') : ElemsAgree t i a ex q.dropLast := by
  induction h with
  | leaf_here _ | node_here _ => exact elemsAgree_nil _ _ _ _
  | leaf_rest _ ih =>
    simp only [PTable.sugarNodes] at hsn
    exact elemsAgree_leaf_rest (ih hwf.leaf_rest hsn ha)
  | node_rest _ ih =>
    simp only [PTable.sugarNodes, Bool.and_eq_true] at hsn
    exact elemsAgree_node_rest (ih hwf.node_rest hsn.2 ha)
  | child hm h ih =>
    simp only [PTable.sugarNodes, Bool.and_eq_true, Option.isNone_iff_eq_none] at hsn
    obtain ⟨j, r, rfl, _⟩ := h.head
    exact elemsAgree_node_child (nodeNameWf_name hwf.node_name) hsn.1.1 ha hm
      (ih hwf.node_child hsn.1.2 (NulFree.levelTail ha))

theorem Reach.elems (hwf : t.WF) (hsn : t.sugarNodes = true) (ha : NulFree a) (ex : Bytes)
    (h : Reach tags t i a s pfx a') : ElemsAgree t i a ex s := by
  induction h with
  | here hm =>
    simp only [PTable.sugarNodes, Bool.and_eq_true, Option.isNone_iff_eq_none] at hsn
    exact elemsAgree_node_child (nodeNameWf_name hwf.node_name) hsn.1.1 ha hm (elemsAgree_nil _ _ _ _)
  | leaf_rest _ ih =>
    simp only [PTable.sugarNodes] at hsn
    exact elemsAgree_leaf_rest (ih hwf.leaf_rest hsn ha)
  | node_rest _ ih =>
    simp only [PTable.sugarNodes, Bool.and_eq_true] at hsn
    exact elemsAgree_node_rest (ih hwf.node_rest hsn.2 ha)
  | child hm _ ih =>
    simp only [PTable.sugarNodes, Bool.and_eq_true, Option.isNone_iff_eq_none] at hsn
    exact elemsAgree_node_child (nodeNameWf_name hwf.node_name) hsn.1.1 ha hm
      (ih hwf.node_child hsn.1.2 (NulFree.levelTail ha))

end

/-- **the object every callback of a dispatch is handed, through the recursion macros**: its path in
    the model continues the path of the table the dispatch started in, and along that continuation the
    elements the macros compute are the ones the address names -/
theorem LogEntry.elems {H : Prop} {tags : Bytes} {t : PTable} {i : Nat} {tp : List Nat} {L a ex : Bytes} {c : Call}
    (hwf : t.WF) (hsn : t.sugarNodes = true) (ha : NulFree a) (h : LogEntry H tags t i tp tp L a ex c) (hH : H) :
    ∃ s, c.obj = tp ++ s ∧ ElemsAgree t i a ex s := by
  rcases h with ⟨q, p, lf, pfx, path, t', h, e⟩ | ⟨s, pfx, a', h, e⟩
  · obtain ⟨j, r, rfl, _⟩ := h.head
    exact ⟨(j :: r).dropLast, by rw [e.obj hH rfl, List.dropLast_append_of_ne_nil (by simp)], h.elems hwf hsn ha ex⟩
  · exact ⟨s, e.obj, h.elems hwf hsn ha ex⟩

end Rtosc.Ports
