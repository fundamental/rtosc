/-
  C07: a buffer that `rtosc_valid_message_p` accepts (`validZ`) has the
  layout of an OSC message whose padding bytes are arbitrary (`Layout`, over `LaxArgs` of
  Proofs/OscLax.lean):

      '/' path  NUL  (0..3 NUL)  ','  tags  NUL  pad  arguments

  with one argument per payload tag, strings NUL-terminated inside the buffer, blobs with a length
  that fits.  On such a buffer every reader stays inside and returns the tags and values of the
  layout: `readers_of_layout` is `readers_lax` (Proofs/OscLax.lean) with nothing behind the message.
-/
import RtoscModel.Proofs.ValidCore
import RtoscModel.Proofs.OscLax
namespace Rtosc.Osc.V
open Rtosc Rtosc.Osc

/-- `s`: the path behind its '/', `j`: the NULs behind its terminator, `pad`: the padding behind the
    terminator of the tags, `A`: the argument bytes -/
structure Layout (bs s tags pad : Bytes) (j : Nat) (args : List Arg) (A : Bytes) : Prop where
  eq : bs = 47 :: (s ++ 0 :: (zeros j ++ 44 :: (tags ++ 0 :: (pad ++ A))))
  printable : ∀ x ∈ s, isprint x = true
  j3 : j ≤ 3
  align : (s.length + 2 + j) % 4 = 0
  tags_nn : NoNul tags
  pad_len : pad.length = 3 - (tags.length + 1) % 4
  args : LaxArgs tags args A

theorem tw_noNul (l : Bytes) : NoNul (l.takeWhile (· ≠ 0)) := by
  intro x hx
  have := mem_takeWhile _ l x hx
  simpa using this

theorem drop_mid (bs : Bytes) {a b : Nat} (hab : a ≤ b) (hb : b ≤ bs.length) :
    ∃ x, x.length = b - a ∧ bs.drop a = x ++ bs.drop b := by
  refine ⟨(bs.drop a).take (b - a), by rw [List.length_take, List.length_drop]; omega, ?_⟩
  have := List.take_append_drop (b - a) (bs.drop a)
  rw [List.drop_drop, show a + (b - a) = b by omega] at this
  exact this.symm

theorem drop_scan (bs : Bytes) (pos : Nat) :
    bs.drop pos = (bs.drop pos).takeWhile (· ≠ 0) ++ bs.drop (scanZ bs pos) := by
  have ht := List.prefix_iff_eq_take.mp
    (List.takeWhile_prefix (l := bs.drop pos) (fun b : UInt8 => decide (b ≠ 0)))
  conv => lhs; rw [← List.take_append_drop ((bs.drop pos).takeWhile (· ≠ 0)).length (bs.drop pos), ← ht,
    List.drop_drop]
  rfl

theorem drop_str (bs : Bytes) (pos : Nat) (h : scanZ bs pos < bs.length) :
    bs.drop pos = (bs.drop pos).takeWhile (· ≠ 0) ++ 0 :: bs.drop (scanZ bs pos + 1) := by
  have h0 := dz_scanZ bs pos
  rw [dz_of_lt h] at h0
  conv => lhs; rw [drop_scan bs pos, List.drop_eq_getElem_cons h, h0]

theorem scanZ_eq (bs : Bytes) (pos : Nat) :
    scanZ bs pos = pos + ((bs.drop pos).takeWhile (· ≠ 0)).length := rfl

theorem drop_zeros (bs : Bytes) : ∀ (n a : Nat), a + n ≤ bs.length → (∀ i, a ≤ i → i < a + n → dz bs i = 0) →
    bs.drop a = zeros n ++ bs.drop (a + n) := by
  intro n
  induction n with
  | zero => intro a _ _; rfl
  | succ n ih =>
    intro a hl h
    have h0 := h a (Nat.le_refl _) (by omega)
    rw [dz_of_lt (by omega)] at h0
    rw [List.drop_eq_getElem_cons (by omega), h0, zeros_succ, ih (a + 1) (by omega) (fun i h1 h2 => h i (by omega) (by omega))]
    simp only [List.cons_append, Nat.add_assoc, Nat.add_comm 1 n]

theorem drop4 (bs : Bytes) (pos : Nat) (h : pos + 4 ≤ bs.length) :
    bs.drop pos = dz bs pos :: dz bs (pos + 1) :: dz bs (pos + 2) :: dz bs (pos + 3) :: bs.drop (pos + 4) := by
  rw [List.drop_eq_getElem_cons (by omega : pos < bs.length), List.drop_eq_getElem_cons (by omega : pos + 1 < bs.length),
    List.drop_eq_getElem_cons (by omega : pos + 1 + 1 < bs.length), List.drop_eq_getElem_cons (by omega : pos + 1 + 1 + 1 < bs.length)]
  rw [dz_of_lt (by omega), dz_of_lt (by omega), dz_of_lt (by omega), dz_of_lt (by omega)]

theorem drop8 (bs : Bytes) (pos : Nat) (h : pos + 8 ≤ bs.length) :
    bs.drop pos = dz bs pos :: dz bs (pos + 1) :: dz bs (pos + 2) :: dz bs (pos + 3) ::
      dz bs (pos + 4) :: dz bs (pos + 5) :: dz bs (pos + 6) :: dz bs (pos + 7) :: bs.drop (pos + 8) := by
  rw [drop4 bs pos (by omega), drop4 bs (pos + 4) (by omega)]

theorem laxArgs_free : ∀ (tags : Bytes), nreserved tags = 0 → LaxArgs tags [] [] := by
  intro tags
  induction tags with
  | nil => intro _; exact .nil
  | cons t ts ih =>
    intro h
    rw [nreserved_cons] at h
    have hk : kind t = none := by
      cases hk : kind t with
      | none => rfl
      | some k => rw [hasReserved_eq, hk] at h; simp at h
    exact .skip hk (ih (by omega))

theorem argEnd_lax {bs : Bytes} {al : Nat} {t : UInt8} {pos q : Nat} (h31 : bs.length < 2147483648)
    (hal : al ≤ pos) (h4 : (pos - al) % 4 = 0) (h : argEnd bs al t pos = some q) (hq : q ≤ bs.length)
    {ts : Bytes} {args : List Arg} (ha : LaxArgs ts args (bs.drop q)) :
    ∃ args', LaxArgs (t :: ts) args' (bs.drop pos) := by
  unfold argEnd at h
  split at h
  next hk => cases h; exact ⟨args, .skip hk ha⟩
  next hk =>
    cases h; rw [drop8 bs pos hq]
    exact ⟨.w64 _ :: args, .take (e := [_, _, _, _, _, _, _, _]) hk ⟨_, _, _, _, _, _, _, _, rfl, rfl⟩ ha⟩
  next hk =>
    cases h
    -- measured from `al`, the terminator stands where it stands in the string, modulo 4
    have hm := add_sub_mod4 hal h4 ((bs.drop pos).takeWhile (· ≠ 0)).length
    rw [← scanZ_eq] at hm
    obtain ⟨pad, hpl, hd⟩ := drop_mid bs (a := scanZ bs pos + 1)
      (b := scanZ bs pos + (4 - (scanZ bs pos - al) % 4)) (by omega) hq
    have hs := drop_str bs pos (by omega)
    rw [hd] at hs
    rw [hs, ← List.cons_append, ← List.append_assoc]
    exact ⟨.str _ :: args, .take hk ⟨tw_noNul _, pad, rfl, by rw [hpl, hm]; omega⟩ ha⟩
  next hk =>
    generalize hi : (rdz bs pos).toNat = i at h
    dsimp only at h
    split at h
    · next hfit =>
      cases h
      have hp : pad4 (pos + 4 + i - al) = pad4 i := by
        rw [Nat.add_assoc, pad4, add_sub_mod4 hal h4, Nat.add_mod_left]; rfl
      rw [hp] at hq ha
      clear hp h4
      obtain ⟨d, hdl, hd⟩ := drop_mid bs (a := pos + 4) (b := pos + 4 + i) (by omega) hfit
      obtain ⟨pad, hpl, hd'⟩ := drop_mid bs (a := pos + 4 + i) (b := pos + 4 + i + pad4 i) (by omega) hq
      rw [drop4 bs pos (by omega), hd, hd', ← List.append_assoc]
      refine ⟨.blob d :: args, .take (e := _ :: _ :: _ :: _ :: (d ++ pad)) hk
        ⟨_, _, _, _, pad, rfl, ?_, ?_, ?_⟩ ha⟩
      · rw [hdl]; unfold rdz at hi; omega
      · omega
      · rw [hpl, hdl, Nat.add_sub_cancel_left, Nat.add_sub_cancel_left]
    · cases h
  next hk =>
    cases h; rw [drop4 bs pos hq]
    exact ⟨.w32 _ :: args, .take (e := [_, _, _, _]) hk ⟨_, _, _, _, rfl, rfl⟩ ha⟩
  next hk =>
    cases h; rw [drop4 bs pos hq]
    exact ⟨.midi _ _ _ _ :: args, .take (e := [_, _, _, _]) hk rfl ha⟩

theorem walk_lax (bs : Bytes) (c : Nat) (h31 : bs.length < 2147483648) : ∀ (tags : Bytes) (pos : Nat),
    c ≤ pos → (pos - c) % 4 = 0 → walk bs c tags pos = some bs.length →
    ∃ args, LaxArgs tags args (bs.drop pos) := by
  intro tags
  induction tags with
  | nil =>
    intro pos _ _ h
    simp only [walk, Option.some.injEq] at h
    rw [h, List.drop_length]; exact ⟨[], .nil⟩
  | cons t ts ih =>
    intro pos hc hal h
    unfold walk at h
    split at h
    · next h0 =>
      simp only [Option.some.injEq] at h
      rw [h, List.drop_length]; exact ⟨[], laxArgs_free _ h0⟩
    · split at h
      · cases h
      · obtain ⟨q, hq, hw⟩ := Option.bind_eq_some_iff.mp h
        obtain ⟨args, ha⟩ := ih q (Nat.le_trans hc (argEnd_ge hq)) ((argEnd_bounds hq).2 hc hal) hw
        exact argEnd_lax h31 hc hal hq (walk_ge _ _ _ _ _ hw) ha

theorem commaZ_eq (bs : Bytes) : ∀ (d o1 : Nat), (∀ j, o1 ≤ j → j < o1 + d → dz bs j ≠ 44) →
    o1 + d < bs.length → dz bs (o1 + d) = 44 → commaZ bs o1 = o1 + d := by
  intro d
  induction d with
  | zero =>
    intro o1 _ hl h
    apply commaZ_stop
    intro hl'
    rw [Nat.add_zero, dz_of_lt hl'] at h
    rw [List.getElem?_eq_getElem hl', h]
  | succ d ih =>
    intro o1 hne hl h
    have hl1 : o1 < bs.length := by omega
    have h1 := hne o1 (Nat.le_refl _) (by omega)
    rw [dz_of_lt hl1] at h1
    rw [commaZ_step hl1 h1, ih (o1 + 1) (fun j a b => hne j (by omega) (by omega)) (by omega)
      (by rw [← h]; congr 1; omega)]
    omega

theorem validZ_inv {bs : Bytes} (hv : validZ bs = true) :
    bs.length ≠ 0 ∧ dz bs 0 = 47 ∧ ∃ o1, pathZ bs 0 = some o1 ∧ commaZ bs o1 % 4 = 0 ∧
      msgLenZ bs = bs.length := by
  unfold validZ at hv
  split at hv; · cases hv
  split at hv; · cases hv
  split at hv; · cases hv
  split at hv; · cases hv
  split at hv; · cases hv
  rename_i hn h47 _ o1 hp _ hm
  exact ⟨hn, Decidable.not_not.mp h47, o1, hp, Decidable.not_not.mp hm, of_decide_eq_true hv⟩

theorem msgLenZ_inv {bs : Bytes} (h : msgLenZ bs = bs.length) (hn : bs.length ≠ 0) :
    dz bs (commaOf bs) = 44 ∧ walk bs (commaOf bs) (tagsOf bs) (argsOf bs) = some bs.length := by
  unfold msgLenZ at h
  split at h; · omega
  next h44 =>
    split at h; · omega
    next r hw =>
      split at h
      · exact ⟨by simpa using h44, by rw [hw, h]⟩
      · omega

/-- the head of an accepted buffer: '/' path NUL (0..3 NUL) ',' and the comma is the one the
    validator's second loop finds -/
theorem head_of_valid {bs : Bytes} {o1 : Nat} (hn : bs.length ≠ 0) (h47 : dz bs 0 = 47)
    (hp : pathZ bs 0 = some o1) (h44 : dz bs (commaOf bs) = 44) :
    ∃ s j, bs = 47 :: (s ++ 0 :: (zeros j ++ 44 :: bs.drop (commaOf bs + 1))) ∧
      (∀ x ∈ s, isprint x = true) ∧ j ≤ 3 ∧ commaOf bs = s.length + 2 + j ∧ commaZ bs o1 = commaOf bs := by
  -- the path: `o1` is its terminator
  obtain ⟨rfl, hprint⟩ : o1 = scanZ bs 0 ∧ ((bs.drop 0).takeWhile (· ≠ 0)).all isprint = true := by
    unfold pathZ at hp
    split at hp
    · next hall => exact ⟨(Option.some.inj hp).symm, hall⟩
    · cases hp
  have hl0 : 0 < bs.length := by omega
  have h47' : bs[0] = 47 := by rw [← dz_of_lt hl0]; exact h47
  have htw0 : (bs.drop 0).takeWhile (· ≠ 0) = 47 :: (bs.drop 1).takeWhile (· ≠ 0) := by
    rw [List.drop_eq_getElem_cons hl0, h47', tw_nz_cons _ (by decide)]
  have ho : scanZ bs 0 = ((bs.drop 1).takeWhile (· ≠ 0)).length + 1 := by
    rw [scanZ_eq, htw0, List.length_cons, Nat.zero_add]
  -- the comma: behind 1 to 4 NULs, and that is where `commaZ` finds it
  obtain ⟨_, hc2, hc3, hc4⟩ := nullWordZ_spec bs 4 (scanZ bs 0)
  rw [show nullWordZ bs 4 (scanZ bs 0) = commaOf bs from rfl] at hc2 hc3 hc4
  have hcl : commaOf bs < bs.length := lt_of_dz_ne (by rw [h44]; decide)
  have hzero : ∀ i, scanZ bs 0 ≤ i → i < commaOf bs → dz bs i = 0 := by
    intro i h1 h2
    by_cases hi : i = scanZ bs 0
    · rw [hi]; exact dz_scanZ bs 0
    · exact hc4 i (by omega) h2
  have hcomma : commaZ bs (scanZ bs 0) = commaOf bs := by
    rw [commaZ_eq bs (commaOf bs - scanZ bs 0) (scanZ bs 0)
      (fun j h1 h2 => by rw [hzero j h1 (by omega)]; decide) (by omega)
      (by rw [show scanZ bs 0 + (commaOf bs - scanZ bs 0) = commaOf bs by omega]; exact h44)]
    omega
  have e1 := drop_str bs 0 (by omega)
  have e2 := drop_zeros bs (commaOf bs - scanZ bs 0 - 1) (scanZ bs 0 + 1) (by omega)
    (fun i h1 h2 => hzero i (by omega) (by omega))
  have e3 : bs.drop (commaOf bs) = 44 :: bs.drop (commaOf bs + 1) := by
    rw [List.drop_eq_getElem_cons hcl, ← dz_of_lt hcl, h44]
  rw [show scanZ bs 0 + 1 + (commaOf bs - scanZ bs 0 - 1) = commaOf bs by omega, e3] at e2
  rw [htw0, e2] at e1
  rw [htw0, List.all_cons, Bool.and_eq_true, List.all_eq_true] at hprint
  exact ⟨_, commaOf bs - scanZ bs 0 - 1, e1, hprint.2, by omega, by omega, hcomma⟩

theorem layout_of_valid (bs : Bytes) (h31 : bs.length < 2147483648) (hv : validZ bs = true) :
    ∃ s tags pad j args A, Layout bs s tags pad j args A := by
  obtain ⟨hn, h47, o1, hp, hm, hlen⟩ := validZ_inv hv
  obtain ⟨h44, hw⟩ := msgLenZ_inv hlen hn
  obtain ⟨s, j, hbs, hprint, hj, hc, hcz⟩ := head_of_valid hn h47 hp h44
  -- the type tags end inside the buffer, the arguments start aligned behind them
  have hge := walk_ge _ _ _ _ _ hw
  have hz1 := scanZ_ge bs (commaOf bs + 1)
  obtain ⟨args, hargs⟩ := walk_lax bs (commaOf bs) h31 _ (argsOf bs)
    (show commaOf bs ≤ scanZ bs (commaOf bs + 1) + _ by omega) (align_sub (by omega)) hw
  have ha : argsOf bs = scanZ bs (commaOf bs + 1) + (4 - (scanZ bs (commaOf bs + 1) - commaOf bs) % 4) := rfl
  have e4 := drop_str bs (commaOf bs + 1) (by omega)
  obtain ⟨pad, hpl, e5⟩ := drop_mid bs (a := scanZ bs (commaOf bs + 1) + 1) (b := argsOf bs) (by omega) hge
  have hts : scanZ bs (commaOf bs + 1) - commaOf bs =
      ((bs.drop (commaOf bs + 1)).takeWhile (· ≠ 0)).length + 1 := by rw [scanZ_eq]; omega
  rw [e4, e5] at hbs
  exact ⟨s, tagsOf bs, pad, j, args, bs.drop (argsOf bs), hbs, hprint, hj, hc ▸ hcz ▸ hm, tw_noNul _,
    by rw [hpl, ha, hts]; unfold tagsOf; omega, hargs⟩

theorem kind_none_of_not_reserved {t : UInt8} (hr : hasReserved t = false) : kind t = none := by
  have := hasReserved_eq t; rw [hr] at this
  cases hk : kind t with
  | none => rfl
  | some k => rw [hk] at this; simp at this

theorem isprint_ne_zero {x : UInt8} (h : isprint x = true) : x ≠ 0 := by
  intro h0; rw [h0] at h; simp [isprint] at h

theorem readers_of_layout {bs s tags pad : Bytes} {j : Nat} {args : List Arg} {A : Bytes}
    (L : Layout bs s tags pad j args A) :
    Reads bs (s.length + 2 + j + 1) bs.length tags (Spec.valuesOf tags args) := by
  have hlen : bs.length = s.length + 2 + j + 1 + tags.length + 1 + pad.length + A.length := by
    have := congrArg List.length L.eq
    simp only [List.length_cons, List.length_append, zeros_length] at this
    omega
  have R := readers_lax (bs := bs) (R := []) (by rw [List.append_nil]; exact L.eq)
    (fun x hx => isprint_ne_zero (L.printable x hx)) L.tags_nn L.pad_len L.args
  rw [← hlen] at R
  exact R

end Rtosc.Osc.V
