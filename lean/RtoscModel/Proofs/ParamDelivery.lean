/-
  C14 — helper lemmas about the restricted matcher of RtoscModel/Param/Port.lean: a pattern
  `name:…` whose name consists of literal characters matches exactly the path `name`.
-/
import RtoscModel.Param.PortSpec
namespace Rtosc.Param
open Rtosc

theorem PlainName.head {c : UInt8} {r : Bytes} (h : PlainName (c :: r)) :
    c ≠ 58 ∧ c ≠ 123 ∧ c ≠ 42 ∧ c ≠ 47 ∧ c ≠ 35 := h c List.mem_cons_self

theorem PlainName.tail {c : UInt8} {r : Bytes} (h : PlainName (c :: r)) : PlainName r :=
  fun x hx => h x (List.mem_cons_of_mem _ hx)

/-! The branch equations of `matchPath` for the characters the port macros write.  They are the equations Lean
derives from the definition, `matchPath.eq_n` for the `n`-th line of its `match` in Param/Port.lean counted from
the fuel-0 line (2, 3: ':'; 7, 8: '#'; 10: two characters; 11: the last line), so that no use has to go through
the other lines of the `match`. -/

theorem matchPath_lit (f : Nat) (c m : UInt8) (p ms : Bytes)
    (hc : c ≠ 58 ∧ c ≠ 123 ∧ c ≠ 42 ∧ c ≠ 47 ∧ c ≠ 35) :
    matchPath (f + 1) (c :: p) (m :: ms) = if c = m then matchPath f p ms else .ok none :=
  matchPath.eq_10 f c p m ms hc.1 hc.2.1 hc.2.2.1 hc.2.2.2.1 hc.2.2.2.2

theorem matchPath_lit_nil (f : Nat) (c : UInt8) (p : Bytes)
    (hc : c ≠ 58 ∧ c ≠ 123 ∧ c ≠ 42 ∧ c ≠ 47 ∧ c ≠ 35) :
    matchPath (f + 1) (c :: p) [] = .ok none := by
  obtain ⟨h1, h2, h3, h4, h5⟩ := hc
  apply matchPath.eq_11 <;> simp [*]

theorem matchPath_colon (f : Nat) (p msg : Bytes) :
    matchPath (f + 1) (58 :: p) msg = if msg = [] then .ok (some (58 :: p)) else .ok none := by
  cases msg with
  | nil => exact matchPath.eq_2 f p
  | cons m ms => exact matchPath.eq_3 f p m ms

theorem matchPath_walk (name pat rest : Bytes) (hn : PlainName name) (f : Nat) :
    matchPath (f + name.length) (name ++ pat) (name ++ rest) = matchPath f pat rest := by
  induction name with
  | nil => rfl
  | cons c r ih =>
    rw [List.length_cons, ← Nat.add_assoc, List.cons_append, List.cons_append,
      matchPath_lit _ _ _ _ _ hn.head, if_pos rfl]
    exact ih hn.tail

theorem matchPath_not_prefix (name pat path : Bytes) (hn : PlainName name)
    (hnp : ¬ name <+: path) (f : Nat) :
    matchPath (f + name.length) (name ++ pat) path = .ok none := by
  induction name generalizing path with
  | nil => exact absurd List.nil_prefix hnp
  | cons c r ih =>
    rw [List.length_cons, ← Nat.add_assoc, List.cons_append]
    cases path with
    | nil => exact matchPath_lit_nil _ _ _ hn.head
    | cons m ms =>
      rw [matchPath_lit _ _ _ _ _ hn.head]
      split
      · subst c
        exact ih ms hn.tail (fun hp => hnp ((List.cons_prefix_cons).mpr ⟨rfl, hp⟩))
      · rfl

theorem matchPath_plain (name spec path : Bytes) (hn : PlainName name) (f : Nat) :
    matchPath (f + 1 + name.length) (name ++ 58 :: spec) path =
      if path = name then .ok (some (58 :: spec)) else .ok none := by
  by_cases hp : name <+: path
  · obtain ⟨rest, rfl⟩ := hp
    rw [matchPath_walk name _ _ hn, matchPath_colon]
    simp
  · rw [matchPath_not_prefix name _ path hn hp, if_neg]
    rintro rfl
    exact hp (List.prefix_refl _)

/-- `rtosc_match` on a scalar macro port `name::tags…`: the path must be exactly the name,
    then the type alternatives decide. -/
theorem portMatches_scalar (name spec path tags : Bytes) (hn : PlainName name) :
    portMatches (name ++ 58 :: spec) path tags =
      .ok (decide (path = name) && matchArgs ((58 :: spec).length + 2) (58 :: spec) tags) := by
  have hf : (name ++ 58 :: spec).length + path.length + 2 =
      (spec.length + path.length + 2) + 1 + name.length := by
    simp only [List.length_append, List.length_cons]; omega
  rw [portMatches, hf, matchPath_plain name spec path hn]
  by_cases h : path = name <;> simp [h]

end Rtosc.Param
