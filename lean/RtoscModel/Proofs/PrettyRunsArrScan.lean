/-
  C10 — tier 3, compressed runs AND arrays: the scanner.

  The element loop of the array scanner over a body text of segments — values, `nxT`, `a ... z`,
  `a b ... z` — with the look-back through the cells written so far in the array
  (`args_before = num_read`, fix C11-06); `[` body `]` and `nx[` body `]` as one argument; the loop of
  `rtosc_scan_arg_vals` over pieces (segments, arrays, runs of equal arrays): behind an array the scanner has
  `args_before = 0` (fix C11-04) while the printer looked at the array's last element (`RdCtx`).
  A text of pieces in front of any gap is a chain of arguments (Proofs/PrettyLoops.lean).
-/
import RtoscModel.Proofs.PrettyRunsArrDefs
namespace Rtosc.Pretty
open Rtosc Rtosc.Libc
open Rtosc.ArgVal (Cell)

theorem lookL_append {p : List Cell} {ab : Nat} {L : Option Cell} (h : LookL p ab L) (hab : ab ≤ p.length)
    (X : List Cell) : LookL (p ++ X) ab L := by
  cases h with
  | zero => exact LookL.zero _
  | head _ _ c hpos hhead hcond =>
    refine LookL.head _ _ c hpos ?_ ?_
    · cases p with
      | nil => simp at hab; omega
      | cons x xs => simpa using hhead
    · by_cases h2 : ab > 2
      · have hd2 : (p ++ X).drop 2 = p.drop 2 ++ X := List.drop_append_of_le_length (by omega)
        rw [hd2]
        have hne : p.drop 2 ≠ [] := by
          intro e
          have := List.drop_eq_nil_iff.mp e
          omega
        obtain ⟨y, ys, hy⟩ := List.exists_cons_of_ne_nil hne
        rw [hy] at hcond ⊢
        simpa using hcond
      · simp [h2]
  | range s d num more _ v hab' hv => exact LookL.range s d num (more ++ X) _ v hab' hv

/-- the look-back stays inside the cells `acc` read so far in the array, so the cells `outer` in
    front of them (the provisional header and what precedes the array) are arbitrary -/
theorem ScanInv.lookA {L : Option Cell} {acc : List Cell} (h : ScanInv L acc true) (outer : List Cell) :
    LookL (acc.reverse ++ outer) acc.length L := by
  have := h.look
  simp only [↓reduceIte] at this
  exact lookL_append this (by simp) outer

theorem scanArr_arg (fuel : Nat) {T : Bytes} {cells : List Cell} {ty' : UInt8} {prev acc : List Cell}
    (h : ScansArg prev acc.length T cells ty') (sep next : Bytes) (htail : TailR sep next) (lf i : Nat) (ty : UInt8) :
    scanArrayElems (scanArgVal (fuel + 2)) (lf + 1) (T ++ (sep ++ next)) prev i true acc ty =
      scanArrayElems (scanArgVal (fuel + 2)) lf next (cells.reverse ++ prev) (i + 1) true (acc ++ cells) ty' := by
  obtain ⟨hT, hshape, hscan⟩ := h
  have hscan := hscan fuel _ htail.1
  obtain ⟨_, hb, hty, hoff⟩ := hshape.facts
  rw [scanArrayElems_turn _ T cells (sep ++ next) lf prev i true acc ty true ty' hT hscan hb hty hoff, htail.2]

theorem scanArr_seg (fuel : Nat) {L : Option Cell} {s : RSeg} {T : Bytes} (hT : SegText L s T) {acc : List Cell}
    (hinv : ScanInv L acc true) (outer : List Cell) (sep next : Bytes) (htail : TailR sep next) (lf i : Nat) (ty : UInt8) :
    scanArrayElems (scanArgVal (fuel + 2)) (lf + s.nargs L) (T ++ (sep ++ next)) (acc.reverse ++ outer) i true acc ty =
      scanArrayElems (scanArgVal (fuel + 2)) lf next ((acc ++ s.scanned L).reverse ++ outer) (i + s.nargs L) true
        (acc ++ s.scanned L) s.last.type ∧
    ScanInv (some s.last) (acc ++ s.scanned L) true := by
  rcases hT.scans with ⟨hn1, hp⟩ | ⟨a, T2, cells2, hn2, rfl, hcells, hty, hp1, hp2⟩
  · obtain ⟨_, hsc, hstep⟩ := hp L (rdCtx_refl L)
    refine ⟨?_, hstep acc true hinv⟩
    rw [hn1, scanArr_arg fuel (hsc _ _ (hinv.lookA outer)) sep next htail lf i ty]
    simp only [List.reverse_append, List.append_assoc]
  · have hinv1 := (hp1 L).2.2 acc true hinv
    have h2 := hp2.2.1 _ _ (hinv1.lookA outer)
    have htail1 : TailR [32] (T2 ++ (sep ++ next)) := tailR_sep _ _ (Or.inl rfl) (hp2.1.append _)
    refine ⟨?_, by simpa [hcells, List.append_assoc] using hp2.2.2 _ true hinv1⟩
    rw [hn2, hcells, hty, show fmtDec a ++ ([32] ++ T2) ++ (sep ++ next) = fmtDec a ++ ([32] ++ (T2 ++ (sep ++ next))) by
        simp only [List.append_assoc],
      scanArr_arg fuel ((hp1 L).2.1 _ _ (hinv.lookA outer)) [32] _ htail1 (lf + 1) i ty,
      show [Cell.int .i a].reverse ++ (acc.reverse ++ outer) = (acc ++ [Cell.int .i a]).reverse ++ outer by simp,
      scanArr_arg fuel h2 sep next htail lf (i + 1) 105]
    simp only [List.reverse_append, List.append_assoc, List.reverse_cons, List.cons_append,
      List.nil_append, List.reverse_nil, Nat.add_assoc]

theorem scanArrayElems_segs (fuel : Nat) {L : Option Cell} {segs : List RSeg} {text : Bytes} (h : SegsText L segs text)
    (rest : Bytes) (outer : List Cell) :
    ∀ (lf : Nat) (acc : List Cell) (i : Nat) (ty : UInt8), ScanInv L acc true → nargsAll L segs + 1 ≤ lf →
      scanArrayElems (scanArgVal (fuel + 2)) lf (text ++ 93 :: rest) (acc.reverse ++ outer) i true acc ty =
        .ok (93 :: rest, acc ++ scannedAll L segs, lastTyS segs ty) ∧
      ∃ L', ScanInv L' (acc ++ scannedAll L segs) true := by
  induction h with
  | nil L =>
    intro lf acc i ty hinv hf
    obtain ⟨g, rfl⟩ : ∃ g, lf = g + 1 := ⟨lf - 1, by omega⟩
    refine ⟨?_, L, by simpa [scannedAll] using hinv⟩
    simp [scanArrayElems_close, scannedAll, lastTyS]
  | cons L s segs T sep text hT hrest h1 h2 ih =>
    intro lf acc i ty hinv hf
    have htail := (hrest.tailB_end h1 h2 rest).toR
    simp only [nargsAll] at hf
    obtain ⟨g, rfl⟩ : ∃ g, lf = g + s.nargs L := ⟨lf - s.nargs L, by omega⟩
    obtain ⟨hstep, hinv'⟩ := scanArr_seg fuel hT hinv outer sep (text ++ 93 :: rest) htail g i ty
    have e : T ++ (sep ++ text) ++ 93 :: rest = T ++ (sep ++ (text ++ 93 :: rest)) := by simp [List.append_assoc]
    obtain ⟨hrun, L', hfin⟩ := ih g (acc ++ s.scanned L) (i + s.nargs L) s.last.type hinv' (by omega)
    rw [e, hstep, hrun]
    refine ⟨by simp [scannedAll, lastTyS, List.append_assoc], L', by simpa [scannedAll, List.append_assoc] using hfin⟩

theorem scanArgVal_arrSegs (fuel : Nat) {body : List RSeg} {B : Bytes} (hB : SegsText none body B) (rest : Bytes)
    (hS : Sep rest) (prev : List Cell) (ab : Nat) (fe : Bool := true) :
    scanArgVal (fuel + 3) (91 :: (B ++ 93 :: rest)) prev ab fe =
      .ok ((91 :: (B ++ [93])).length, arrHdrS body :: scannedAll none body) ∧
    ∃ L', ScanInv L' (scannedAll none body) true := by
  have hnl := hB.nargs_le
  -- `Cell.arr 32 0`: the provisional header; `32` (' '): the element type before the first element
  obtain ⟨hloop, L', hfin⟩ := scanArrayElems_segs fuel hB rest (Cell.arr 32 0 :: prev)
    ((91 :: (B ++ 93 :: rest)).length + 1) [] 0 32 scanInv_start
    (by simp only [List.length_cons, List.length_append]; omega)
  simp only [List.reverse_nil, List.nil_append] at hloop hfin
  refine ⟨?_, L', hfin⟩
  have hsp : skipSpace (B ++ 93 :: rest) = B ++ 93 :: rest := by
    by_cases hne : body = []
    · subst hne; cases hB; exact skipSpace_close rest
    · exact skipSpace_tokStart _ ((hB.start hne).append _)
  rw [scanArgVal_value ab fe (scanValue_array _ _ prev (by rw [hsp]; exact hloop)), ← arr_text_append]
  exact finishArg_plain _ _ rest _ true prev ab fe hS

/-- `nx[` body `]` as one argument -/
theorem scanArgVal_arunSegs (fuel : Nat) (n : Nat) (hn : 1 ≤ n) (hn2 : n ≤ 2147483647) {body : List RSeg} {B : Bytes}
    (hB : SegsText none body B) (rest : Bytes) (hS : Sep rest) (prev : List Cell) (ab : Nat) :
    scanArgVal (fuel + 4) (runText n (91 :: (B ++ [93])) ++ rest) prev ab true =
      .ok ((runText n (91 :: (B ++ [93]))).length, Cell.rep n 0 :: arrHdrS body :: scannedAll none body) := by
  have hse := (scanArgVal_arrSegs fuel hB rest hS [] 0 false).1
  rw [← arr_text_append] at hse
  have hfa := finishArg_plain (scanArgVal (fuel + 3)) (runText n (91 :: (B ++ [93]))) rest
    (Cell.rep n 0 :: arrHdrS body :: scannedAll none body) false prev ab true hS
  rw [runText_append] at hfa ⊢
  rw [scanArgVal_value ab true (by
    rw [scanValue_mult _ _ _ (hd_mult n hn _) (isRangeMultiplier_mult n hn _)]
    exact scanMultiplier_runG _ n hn hn2 _ rest _ hse)]
  exact hfa

/-- behind an array the scanner knows no left neighbour; the last two cells are no headers of
    ranges with a delta -/
theorem scanInv_arr {done : List Cell} (o1 : isDeltaHdr done.reverse.head? = false) (hdr : Cell)
    (hh : isDeltaHdr (some hdr) = false) {L' : Option Cell} {elems : List Cell} (he : ScanInv L' elems true) :
    ScanInv none (done ++ hdr :: elems) false := by
  have e : (done ++ hdr :: elems).reverse = elems.reverse ++ hdr :: done.reverse := by simp
  have t1 := he.t1
  have t2 := he.t2
  refine ⟨?_, ?_, ?_⟩
  · simp only [Bool.false_eq_true, ↓reduceIte]
    exact LookL.zero _
  · rw [e]
    generalize elems.reverse = r at t1 t2
    rcases r with _ | ⟨e1, r'⟩
    · simpa using hh
    · simpa using t1
  · rw [e]
    generalize elems.reverse = r at t1 t2
    rcases r with _ | ⟨e1, _ | ⟨e2, r'⟩⟩
    · simpa using o1
    · simpa using hh
    · simpa using t2

theorem nextArgOffset_arunBlock (n : Int) (ety : UInt8) (elems : List Cell) :
    nextArgOffset ((Cell.rep n 0 :: Cell.arr ety elems.length :: elems).length + 1)
        (Cell.rep n 0 :: Cell.arr ety elems.length :: elems) =
      .ok (Cell.rep n 0 :: Cell.arr ety elems.length :: elems).length := by
  have hne : ¬ ((elems.length : Int) < 0) := by omega
  simp only [List.length_cons]
  unfold nextArgOffset
  simp only [deref, bind, Except.bind, List.drop_succ_cons, List.drop_zero]
  unfold nextArgOffset
  simp only [deref, bind, Except.bind, hne, ↓reduceIte, pure, Except.pure, Int.toNat_natCast, Int.toNat_zero]
  congr 1
  omega

/-- `nextArgOffset_argCells` (Proofs/PrettyArg.lean) at an array whose elements need not be scalars:
    a scanned body holds range blocks -/
theorem nextArgOffset_arrBlock (ety : UInt8) (elems : List Cell) :
    nextArgOffset ((Cell.arr ety elems.length :: elems).length + 1) (Cell.arr ety elems.length :: elems) =
      .ok (Cell.arr ety elems.length :: elems).length := by
  unfold nextArgOffset
  have : ¬ ((elems.length : Int) < 0) := by omega
  simp [deref, bind, Except.bind, pure, Except.pure, this]

/-- **an array block is a piece that leaves no left neighbour**: a text that is read behind any cells as an
    array (`pre = []`) or a repeated array (`pre = [rep m 0]`) whose elements end like a scanned body -/
theorem scanP_arrBlock (sL : Option Cell) {T : Bytes} {pre : List Cell} (hpre : pre = [] ∨ ∃ m : Int, pre = [Cell.rep m 0])
    (ety : UInt8) {elems : List Cell} {L' : Option Cell} (he : ScanInv L' elems true)
    (hscan : ∀ (rs : Bytes) (prev : List Cell) (ab : Nat), Sep rs →
      scanArgVal ((T ++ rs).length + 2) (T ++ rs) prev ab true = .ok (T.length, pre ++ Cell.arr ety elems.length :: elems)) :
    ScanP sL T (pre ++ Cell.arr ety elems.length :: elems) none := by
  intro done pok hi
  refine ⟨fun rs hS => hscan rs _ _ hS, by simp only [List.length_append, List.length_cons]; omega, ?_, false, ?_, ?_⟩
  · rcases hpre with rfl | ⟨m, rfl⟩
    · exact nextArgOffset_arrBlock ety elems
    · exact nextArgOffset_arunBlock m ety elems
  · rcases hpre with rfl | ⟨m, rfl⟩ <;>
      simp [canPrecedeRange, deref, bind, Except.bind, pure, Except.pure, ArgVal.Cell.type]
  · rcases hpre with rfl | ⟨m, rfl⟩
    · exact scanInv_arr hi.t1 _ rfl he
    · have := scanInv_arr (done := done ++ [Cell.rep m 0]) (by simp [isDeltaHdr]) (Cell.arr ety elems.length) rfl he
      simpa [List.append_assoc] using this

/-- **a piece — a segment, an array, a repeated array — in front of a chain** of the loop of
    `rtosc_scan_arg_vals`; behind an array the scanner knows no left neighbour -/
theorem ASegText.scanChain {pL : Option Cell} {x : ASeg} {T : Bytes} (hT : ASegText pL x T) :
    ∃ css0, css0.flatten = x.scanned pL ∧ css0.length = x.nargs pL ∧
      ∀ sL, RdCtx pL sL → ∀ {gap rest next : Bytes} {css : List (List Cell)}, GapOK gap rest →
        (∀ sL', RdCtx (some x.plast) sL' → Chain ScanP (fun _ => GapOK) sL' css rest next) →
        Chain ScanP (fun _ => GapOK) sL (css0 ++ css) (T ++ (gap ++ rest)) next := by
  cases hT with
  | seg s T hT =>
    obtain ⟨css0, e1, e2, hc⟩ := hT.scanChain
    exact ⟨css0, e1, e2, fun sL hctx _ _ _ _ hg hrest => hc sL hctx hg (hrest _ (Or.inl rfl))⟩
  | arr body B hB hty =>
    obtain ⟨_, L', hfin⟩ := scanArgVal_arrSegs 0 hB [] sep_nil [] 0
    refine ⟨[arrHdrS body :: scannedAll none body], by simp [ASeg.scanned], rfl, fun sL hctx gap rest next css hg hrest =>
      .cons (s' := none) (scanP_arrBlock sL (pre := []) (Or.inl rfl) (lastTyS body 32) hfin fun rs prev ab hS => ?_) hg
        (hrest none (Or.inr (Or.inl rfl)))⟩
    obtain ⟨f, hf⟩ : ∃ f, (91 :: (B ++ [93]) ++ rs).length + 2 = f + 3 := ⟨(91 :: (B ++ [93]) ++ rs).length - 1, by
      simp only [List.length_cons, List.length_append]; omega⟩
    rw [hf, arr_text_append]
    exact (scanArgVal_arrSegs f hB rs hS prev ab).1
  | arun m body B hB hty hm1 hm2 =>
    obtain ⟨_, L', hfin⟩ := scanArgVal_arrSegs 0 hB [] sep_nil [] 0
    refine ⟨[Cell.rep m 0 :: arrHdrS body :: scannedAll none body], by simp [ASeg.scanned], rfl,
      fun sL hctx gap rest next css hg hrest =>
        .cons (s' := none) (scanP_arrBlock sL (pre := [Cell.rep m 0]) (Or.inr ⟨m, rfl⟩) (lastTyS body 32) hfin
          fun rs prev ab hS => ?_) hg (hrest none (Or.inr (Or.inl rfl)))⟩
    have hl4 := runText_arr_length m hm1 B
    obtain ⟨f, hf⟩ : ∃ f, (runText m (91 :: (B ++ [93])) ++ rs).length + 2 = f + 4 :=
      ⟨(runText m (91 :: (B ++ [93])) ++ rs).length - 2, by simp only [List.length_append] at hl4 ⊢; omega⟩
    rw [hf]
    exact scanArgVal_arunSegs f m hm1 hm2 hB rs hS prev ab

theorem ASegsText.scanChain {pL : Option Cell} {xs : List ASeg} {text : Bytes} (h : ASegsText pL xs text) (hne : xs ≠ [])
    {gap next : Bytes} (hg : GapOK gap next) :
    ∃ css, css.flatten = scannedAllA pL xs ∧ css.length = nargsAllA pL xs ∧
      ∀ sL, RdCtx pL sL → Chain ScanP (fun _ => GapOK) sL css (text ++ (gap ++ next)) next := by
  induction h with
  | nil L => exact absurd rfl hne
  | cons L x xs T sep text hT hrest h1 h2 ih =>
    obtain ⟨css0, e1, e2, hc⟩ := hT.scanChain
    by_cases hxs : xs = []
    · subst hxs
      cases hrest
      obtain rfl := h1 rfl
      exact ⟨css0, by simpa [scannedAllA] using e1, by simpa [nargsAllA] using e2, fun sL hctx => by
        simpa using hc sL hctx (css := []) hg (fun sL' _ => .nil sL' next)⟩
    · obtain ⟨css1, f1, l1, hch⟩ := ih hxs
      refine ⟨css0 ++ css1, by simp [scannedAllA, e1, f1], by simp [nargsAllA, e2, l1], fun sL hctx => ?_⟩
      have := hc sL hctx (.sepTxt (h2 hxs) ((hrest.start hxs).append _)) hch
      simpa [List.append_assoc] using this

theorem scanLoop_asegs {pL : Option Cell} {xs : List ASeg} {text : Bytes} (h : ASegsText pL xs text) (hne : xs ≠ [])
    {gap next : Bytes} (hg : GapOK gap next) (f n : Nat) (done : List Cell) (pok : Bool) (rd : Nat) (sL : Option Cell)
    (hctx : RdCtx pL sL) (hinv : ScanInv sL done pok) (hn : n = done.length + (scannedAllA pL xs).length)
    (hf : nargsAllA pL xs + 1 ≤ f) :
    scanArgValsLoop f (text ++ (gap ++ next)) n done.length pok done rd =
      .ok (rd + text.length + gap.length, done ++ scannedAllA pL xs) := by
  obtain ⟨css, e1, e2, hch⟩ := h.scanChain hne hg
  rw [scanLoop_chain (hch sL hctx) f n done pok rd hinv (by rw [e1]; exact hn) (by rw [e2]; exact hf), e1]
  simp only [List.length_append, ← Nat.add_assoc, Nat.add_sub_cancel]

theorem scanArgVals_asegs {xs : List ASeg} {text : Bytes} (h : ASegsText none xs text) :
    scanArgVals text (scannedAllA none xs).length = .ok (text.length, scannedAllA none xs) := by
  by_cases hne : xs = []
  · subst hne; cases h
    simp [scanArgVals_start (Or.inl rfl), scanLoopG_done, scannedAllA]
  · have := scanLoop_asegs h hne .nil ((scannedAllA none xs).length + 1) (scannedAllA none xs).length [] true 0 none
      (rdCtx_refl none) scanInv_start (by simp) (by have := scannedAllA_nargs_le none xs; omega)
    rw [scanArgVals_start (Or.inr (h.start hne)), ← scanArgValsLoop_eq]
    simpa using this

end Rtosc.Pretty
