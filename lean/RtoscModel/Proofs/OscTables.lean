/-
  C01: what the regenerated per-tag switch tables of src/rtosc.c (Generated/OscTables.lean)
  are compared against.  The theorem `tables_agree` is in Props/C01Tables.lean.
-/
import RtoscModel.Osc.Spec
namespace Rtosc.Osc
open Rtosc

/-- class of a tag according to the *specification* (`kind`): 8 / 4 = fixed payload of that many
    bytes, 1 = padded string, 2 = blob, 0 = no payload -/
def classOf (t : UInt8) : Nat :=
  match kind t with
  | some .w32 => 4
  | some .w64 => 8
  | some .midi => 4
  | some .str => 1
  | some .blob => 2
  | none => 0

/-- class a switch table assigns to a tag (0: no `case` label, i.e. `default`) -/
def tabClass (tab : List (Nat × Nat)) (t : Nat) : Nat :=
  match tab.find? (fun r => r.1 == t) with
  | some r => r.2
  | none => 0

/-- a switch table agrees with the specification on all 256 bytes -/
def TabAgrees (tab : List (Nat × Nat)) : Prop :=
  ∀ n, n < 256 → tabClass tab n = classOf (UInt8.ofNat n)

instance (tab : List (Nat × Nat)) : Decidable (TabAgrees tab) := by
  unfold TabAgrees; exact inferInstance

end Rtosc.Osc
