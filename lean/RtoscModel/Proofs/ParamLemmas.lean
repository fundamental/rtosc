/-
  C14 — the building blocks of RtoscModel/Param: wrapping into a C integer type, `rLIMIT` as a
  clamp into the declared range and its repaired form with converted bounds, what a set message
  leaves in the field and which events it sends per kind of numeric callback, and `atoi` on the
  digit runs of port names and option keys.
-/
import RtoscModel.Param.PortSpec
namespace Rtosc.Param
open Rtosc

theorem wrapInto_of_mem {lo hi v : Int} (h : lo ≤ v ∧ v ≤ hi) : (v - lo) % (hi - lo + 1) + lo = v := by
  rw [Int.emod_eq_of_lt (by omega) (by omega)]; omega

theorem wrapInto_mem {lo hi : Int} (h : lo ≤ hi) (v : Int) :
    lo ≤ (v - lo) % (hi - lo + 1) + lo ∧ (v - lo) % (hi - lo + 1) + lo ≤ hi := by
  have h0 := Int.emod_nonneg (v - lo) (show hi - lo + 1 ≠ 0 by omega)
  have h1 := Int.emod_lt_of_pos (v - lo) (show 0 < hi - lo + 1 by omega)
  omega

theorem IntTy.modulus_eq (t : IntTy) : t.modulus = t.max - t.min + 1 := by cases t <;> rfl

theorem IntTy.min_le_max (t : IntTy) : t.min ≤ t.max := by cases t <;> decide

theorem IntTy.wrap_of_inRange (t : IntTy) (v : Int) (h : t.InRange v) : t.wrap v = v := by
  rw [IntTy.wrap, IntTy.modulus_eq]; exact wrapInto_of_mem h

theorem IntTy.wrap_inRange (t : IntTy) (v : Int) : t.InRange (t.wrap v) := by
  rw [IntTy.InRange, IntTy.wrap, IntTy.modulus_eq]; exact wrapInto_mem t.min_le_max v

theorem IntTy.Sub.inRange {a b : IntTy} (h : a.Sub b) {v : Int} (hv : a.InRange v) : b.InRange v :=
  ⟨Int.le_trans h.1 hv.1, Int.le_trans hv.2 h.2⟩

theorem IntTy.sub_refl (a : IntTy) : a.Sub a := by unfold IntTy.Sub; omega

theorem IntTy.sub_i32 (a : IntTy) : a.Sub .i32 := by
  unfold IntTy.Sub; cases a <;> simp [IntTy.min, IntTy.max]

theorem intOps_lt (a b : Int) : intOps.lt a b = true ↔ a < b := by simp [intOps]
theorem intOps_ne (a b : Int) : intOps.ne a b = true ↔ a ≠ b := by simp [intOps]

theorem intOps_ordered : Ordered intOps (fun _ => True) where
  lt_trans := by intro a b c; simp only [intOps_lt]; omega
  lt_irrefl := by intro a; simp [intOps]
  ne_iff := by intro a b _ _; simp only [intOps_lt, intOps_ne]; omega

theorem fLt_iff (a b : UInt32) :
    fLt a b = true ↔ isNaN a = false ∧ isNaN b = false ∧ fKey a < fKey b := by
  simp [fLt, and_assoc]

theorem fNe_iff (a b : UInt32) :
    fNe a b = true ↔ isNaN a = true ∨ isNaN b = true ∨ fKey a ≠ fKey b := by
  simp [fNe, or_assoc]

/-- The order the float clauses assume, for the bit-pattern model: `<` is transitive and
    irreflexive on all patterns, and on non-NaN patterns `!=` is "smaller or greater". -/
theorem fltOps_ordered : Ordered fltOps (fun b => isNaN b = false) where
  lt_trans := by
    intro a b c h1 h2
    simp only [fltOps, fLt_iff] at *
    exact ⟨h1.1, h2.2.1, by omega⟩
  lt_irrefl := by
    intro a
    cases h : fltOps.lt a a
    · rfl
    · simp only [fltOps, fLt_iff] at h; omega
  ne_iff := by
    intro a b ha hb
    simp only [fltOps, fLt_iff, fNe_iff, ha, hb]
    simp only [Bool.false_eq_true, false_or, true_and]
    omega

theorem limit_cases {α : Type} (N : NumOps α) (lo hi : Option α) (v : α) :
    limit N lo hi v = v ∨ lo = some (limit N lo hi v) ∨ hi = some (limit N lo hi v) := by
  cases lo with
  | none =>
    cases hi with
    | none => exact .inl rfl
    | some h => by_cases c : N.lt h v = true <;> simp [limit, c]
  | some l =>
    cases hi with
    | none => by_cases c : N.lt v l = true <;> simp [limit, c]
    | some h =>
      by_cases c1 : N.lt v l = true
      · by_cases c2 : N.lt h l = true <;> simp [limit, c1, c2]
      · by_cases c2 : N.lt h v = true <;> simp [limit, c1, c2]

/-- Clamping twice is clamping once, for any `<` that is irreflexive: the second pass compares
    a bound with itself, or repeats a comparison the first pass has made. -/
theorem limit_idem {α : Type} (N : NumOps α) (hirr : ∀ a, N.lt a a = false) (lo hi : Option α) (v : α) :
    limit N lo hi (limit N lo hi v) = limit N lo hi v := by
  cases lo with
  | none =>
    cases hi with
    | none => rfl
    | some h => by_cases c : N.lt h v = true <;> simp [limit, c, hirr]
  | some l =>
    cases hi with
    | none => by_cases c : N.lt v l = true <;> simp [limit, c, hirr]
    | some h =>
      by_cases c1 : N.lt v l = true
      · by_cases c2 : N.lt h l = true <;> simp [limit, c1, c2, hirr]
      · by_cases c3 : N.lt h v = true
        · by_cases c2 : N.lt h l = true <;> simp [limit, c1, c2, c3, hirr]
        · simp [limit, c1, c3]

theorem bound_ok_some {α : Type} {conv : Bytes → Option α} {pm : Meta.Ptr} {key : Bytes} {b : α}
    (h : bound conv pm key = .ok (some b)) : ∃ s, conv s = some b := by
  unfold bound at h
  split at h
  · cases h
  · cases h
  · rename_i s _
    split at h
    · cases h
    · rename_i v hv
      refine ⟨s, ?_⟩
      simp only [Except.ok.injEq, Option.some.injEq] at h
      rw [hv, h]

theorem atoiBody_i32 {neg : Bool} {s : Bytes} {v : Int} (h : atoiBody neg s = some v) : IntTy.i32.InRange v := by
  unfold atoiBody at h
  by_cases hr : IntTy.i32.min ≤ (if neg = true then -(((takeDigits s 0).1 : Nat) : Int) else (((takeDigits s 0).1 : Nat) : Int)) ∧
      (if neg = true then -(((takeDigits s 0).1 : Nat) : Int) else (((takeDigits s 0).1 : Nat) : Int)) ≤ IntTy.i32.max
  · simp only [hr, and_self, ↓reduceIte, Option.some.injEq] at h
    rw [← h]; exact hr
  · simp only [hr, ↓reduceIte] at h; cases h

theorem atoi_i32 {s : Bytes} {v : Int} (h : atoi s = some v) : IntTy.i32.InRange v := by
  unfold atoi at h
  split at h <;> exact atoiBody_i32 h

theorem limit_mem {α : Type} (N : NumOps α) {P : α → Prop} (lo hi : Option α) (v : α) (hv : P v)
    (hlo : ∀ l, lo = some l → P l) (hhi : ∀ h, hi = some h → P h) : P (limit N lo hi v) := by
  rcases limit_cases N lo hi v with h | h | h
  · rw [h]; exact hv
  · exact hlo _ h
  · exact hhi _ h

theorem limit_inRange (ty : IntTy) (lo hi : Option Int) (raw : Int) (hraw : ty.InRange raw)
    (hlo : ∀ l, lo = some l → ty.InRange l) (hhi : ∀ h, hi = some h → ty.InRange h) :
    ty.InRange (limit intOps lo hi raw) :=
  limit_mem intOps lo hi raw hraw hlo hhi

theorem undoEvents_set {α : Type} (N : NumOps α) (old new : α) (loc : Bytes) (oa na : Arg)
    (bargs : List Arg) (hloc : loc ≠ undoAddr) {P : Prop} [Decidable P]
    (h : N.ne old new = true ↔ P) :
    undoEvents (undoEvent N old new loc oa na ++ [broadcast loc bargs]) =
      if P then [reply undoAddr [.s loc, oa, na]] else [] := by
  have hb : (loc == undoAddr) = false := by simpa using hloc
  by_cases hp : P
  · have := h.mpr hp
    simp [undoEvents, undoEvent, this, hp, reply, broadcast, hb]
  · have : N.ne old new = false := by
      cases hn : N.ne old new
      · rfl
      · exact absurd (h.mp hn) hp
    simp [undoEvents, undoEvent, this, hp, broadcast, hb]

/-! ### rLIMIT on integers, with the conversions of the bounds explicit

`rLIMIT` where a declared bound `m` is compared as `c m` and assigned as `w m`, as its two
statements.  `limit intOps` (no conversion), `limitInt` and `limitIntW` are instances. -/

def limitLo (c w : Int → Int) (mn : Option Int) (v : Int) : Int :=
  match mn with
  | some m => if v < c m then w m else v
  | none => v

def limitHi (c w : Int → Int) (mx : Option Int) (v : Int) : Int :=
  match mx with
  | some M => if c M < v then w M else v
  | none => v

def limitConv (c w : Int → Int) (mn mx : Option Int) (v : Int) : Int :=
  limitHi c w mx (limitLo c w mn v)

theorem limit_intOps (lo hi : Option Int) (v : Int) : limit intOps lo hi v = limitConv id id lo hi v := by
  cases lo <;> cases hi <;> simp only [limit, limitConv, limitLo, limitHi, intOps_lt] <;> rfl

theorem limitLo_cases (c w : Int → Int) (lo : Option Int) (v : Int) :
    limitLo c w lo v = v ∨ ∃ l, lo = some l ∧ limitLo c w lo v = w l := by
  cases lo with
  | none => exact .inl rfl
  | some l =>
    dsimp only [limitLo]
    split
    · exact .inr ⟨l, rfl, rfl⟩
    · exact .inl rfl

theorem limitHi_cases (c w : Int → Int) (hi : Option Int) (v : Int) :
    limitHi c w hi v = v ∨ ∃ h, hi = some h ∧ limitHi c w hi v = w h := by
  cases hi with
  | none => exact .inl rfl
  | some h =>
    dsimp only [limitHi]
    split
    · exact .inr ⟨h, rfl, rfl⟩
    · exact .inl rfl

theorem limitConv_cases (c w : Int → Int) (lo hi : Option Int) (v : Int) :
    limitConv c w lo hi v = v ∨ (∃ l, lo = some l ∧ limitConv c w lo hi v = w l) ∨
      (∃ h, hi = some h ∧ limitConv c w lo hi v = w h) := by
  rcases limitHi_cases c w hi (limitLo c w lo v) with e | e
  · rw [limitConv, e]; exact (limitLo_cases c w lo v).imp id .inl
  · exact .inr (.inr e)

theorem limitConv_mem {P : Int → Prop} {c w : Int → Int} {v : Int} (lo hi : Option Int)
    (hv : P v) (hw : ∀ b, P (w b)) : P (limitConv c w lo hi v) := by
  rcases limitConv_cases c w lo hi v with h | ⟨l, _, h⟩ | ⟨h', _, h⟩
  · rw [h]; exact hv
  · rw [h]; exact hw l
  · rw [h]; exact hw h'

/-- On `[a, b]` the lower statement is the plain one when the comparison keeps the bound, the
    assignment keeps the values of `[a, b]` and the bound is not above `b`: it is only assigned
    when it lies between the value and `b`. -/
theorem limitLo_eq {c w : Int → Int} {lo : Option Int} {v a b : Int} (hv : a ≤ v ∧ v ≤ b)
    (hc : ∀ l, lo = some l → c l = l) (hw : ∀ m, a ≤ m ∧ m ≤ b → w m = m)
    (hlo : ∀ l, lo = some l → l ≤ b) :
    limitLo c w lo v = limitLo id id lo v ∧ a ≤ limitLo id id lo v ∧ limitLo id id lo v ≤ b := by
  cases lo with
  | none => exact ⟨rfl, hv⟩
  | some l =>
    have hl := hlo l rfl
    simp only [limitLo, hc l rfl, id]
    split
    · exact ⟨hw l ⟨by omega, hl⟩, by omega, hl⟩
    · exact ⟨rfl, hv⟩

theorem limitHi_eq {c w : Int → Int} {hi : Option Int} {v a b : Int} (hv : a ≤ v ∧ v ≤ b)
    (hc : ∀ h, hi = some h → c h = h) (hw : ∀ m, a ≤ m ∧ m ≤ b → w m = m)
    (hhi : ∀ h, hi = some h → a ≤ h) :
    limitHi c w hi v = limitHi id id hi v := by
  cases hi with
  | none => rfl
  | some h =>
    simp only [limitHi, hc h rfl, id]
    split
    · exact hw h ⟨hhi h rfl, by omega⟩
    · rfl

theorem limitConv_eq_limit {c w : Int → Int} {lo hi : Option Int} {v a b : Int} (hv : a ≤ v ∧ v ≤ b)
    (hcl : ∀ l, lo = some l → c l = l) (hch : ∀ h, hi = some h → c h = h)
    (hw : ∀ m, a ≤ m ∧ m ≤ b → w m = m)
    (hlo : ∀ l, lo = some l → l ≤ b) (hhi : ∀ h, hi = some h → a ≤ h) :
    limitConv c w lo hi v = limit intOps lo hi v := by
  obtain ⟨e, hr⟩ := limitLo_eq hv hcl hw hlo
  rw [limit_intOps, limitConv, e, limitHi_eq hr hch hw hhi, limitConv]

/-- what the repaired `rLIMIT` leaves in a variable of type `ty` is a value of `ty` -/
theorem limitInt_inRange (ty : IntTy) (lo hi : Option Int) (v : Int) (hv : ty.InRange v) :
    ty.InRange (limitInt ty lo hi v) :=
  limitConv_mem (c := id) lo hi hv (IntTy.wrap_inRange ty)

/-- When the declared range meets the variable's type (minimum not above the type's
    largest value, maximum not below its smallest, minimum ≤ maximum), the repaired
    `rLIMIT` is the mathematical clamp; no bound is narrowed. -/
theorem limitInt_eq_limit (ty : IntTy) (lo hi : Option Int) (v : Int) (hv : ty.InRange v)
    (hlo : ∀ l, lo = some l → l ≤ ty.max) (hhi : ∀ h, hi = some h → ty.min ≤ h)
    (hord : ∀ l h, lo = some l → hi = some h → l ≤ h) :
    limitInt ty lo hi v = limit intOps lo hi v :=
  limitConv_eq_limit (c := id) hv (fun _ _ => rfl) (fun _ _ => rfl) (IntTy.wrap_of_inRange ty) hlo hhi

/-! ### the set branch of a callback, once its reads have succeeded

One equation per callback of Param/Sugar.lean: the argument and the two declared bounds are read, the rest
is computed.  No range hypothesis: the wraps of the model stand as they are. -/

theorem intCb_set (varTy storeTy : IntTy) (tag : Int → Arg) (pm : Meta.Ptr) (loc : Bytes) (old : Int)
    {a : Arg} (args : List Arg) {raw : Int} {lo hi : Option Int}
    (harg : argI a = .ok raw) (hmn : bound atoi pm kMin = .ok lo) (hmx : bound atoi pm kMax = .ok hi) :
    intCb varTy storeTy tag pm loc old (a :: args) =
      let var := limitInt varTy lo hi (varTy.wrap raw)
      .ok (storeTy.wrap var,
        undoEvent intOps (varTy.wrap old) var loc (tag (varTy.wrap old)) (tag (IntTy.i32.wrap var)) ++
          [broadcast loc [tag (IntTy.i32.wrap (storeTy.wrap var))]]) := by
  simp only [intCb, harg, hmn, hmx, bind, Except.bind, pure, Except.pure]

theorem fltCb_set (pm : Meta.Ptr) (loc : Bytes) (old : UInt32) {a : Arg} (args : List Arg) {raw : UInt32}
    {lo hi : Option UInt32}
    (harg : argF a = .ok raw) (hmn : bound atofF32 pm kMin = .ok lo) (hmx : bound atofF32 pm kMax = .ok hi) :
    fltCb pm loc old (a :: args) =
      let var := limit fltOps lo hi raw
      .ok (var, undoEvent fltOps old var loc (fArg old) (fArg var) ++ [broadcast loc [fArg var]]) := by
  simp only [fltCb, harg, hmn, hmx, bind, Except.bind, pure, Except.pure]

/-- an integer argument (`i` or `c`): clamped, applied, broadcast with the tag of the argument that was read -/
theorem optCb_int_set (storeTy : IntTy) (pm : Meta.Ptr) (loc : Bytes) (old : Int) {a : Arg} (rest : List Arg)
    {raw : Int} {lo hi : Option Int} (harg : a = .i raw ∨ a = .c raw)
    (hmn : bound atoi pm kMin = .ok lo) (hmx : bound atoi pm kMax = .ok hi) :
    optCb storeTy pm loc old (a :: rest) =
      .ok (optApply storeTy loc old (limit intOps lo hi raw) (if a = .c raw then Arg.c else Arg.i)) := by
  rcases harg with rfl | rfl <;>
    simp only [optCb, argI, hmn, hmx, bind, Except.bind, pure, Except.pure, reduceCtorEq, if_false, if_true]

/-- a symbol (`S` or `s`): its index is applied unclamped -/
theorem optCb_sym_set (storeTy : IntTy) (pm : Meta.Ptr) (loc : Bytes) (old : Int) {a : Arg} (rest : List Arg)
    {sym : Bytes} {k : Int} (ha : a = .S sym ∨ a = .s sym) (hkey : enumKey pm sym = .ok k) :
    optCb storeTy pm loc old (a :: rest) = .ok (optApply storeTy loc old k Arg.i) := by
  rcases ha with rfl | rfl <;> simp only [optCb, hkey, bind, Except.bind, pure, Except.pure]

theorem intCb_set_result (varTy storeTy : IntTy) (tag : Int → Arg) (pm : Meta.Ptr) (loc : Bytes)
    (old raw new : Int) (a : Arg) (args : List Arg) (lo hi : Option Int) (ev : List Event)
    (harg : argI a = .ok raw) (hsub : varTy.Sub storeTy)
    (hmn : bound atoi pm kMin = .ok lo) (hmx : bound atoi pm kMax = .ok hi)
    (hres : intCb varTy storeTy tag pm loc old (a :: args) = .ok (new, ev)) :
    new = limitInt varTy lo hi (varTy.wrap raw) ∧
    ev = undoEvent intOps (varTy.wrap old) new loc (tag (varTy.wrap old)) (tag new)
          ++ [broadcast loc [tag new]] := by
  have hvr : varTy.InRange (limitInt varTy lo hi (varTy.wrap raw)) :=
    limitInt_inRange varTy lo hi _ (IntTy.wrap_inRange varTy raw)
  have hs := IntTy.wrap_of_inRange _ _ (hsub.inRange hvr)
  have h32 := IntTy.wrap_of_inRange _ _ ((IntTy.sub_i32 varTy).inRange hvr)
  rw [intCb_set varTy storeTy tag pm loc old args harg hmn hmx] at hres
  simp only [hs, h32, Except.ok.injEq, Prod.mk.injEq] at hres
  obtain ⟨h1, h2⟩ := hres
  subst h1
  exact ⟨rfl, h2.symm⟩

/-- a non-NaN float travels through the variadic call unchanged -/
theorem fArg_of_not_nan (b : UInt32) (h : isNaN b = false) : fArg b = .f b := by
  simp [fArg, viaDouble, h]

theorem fltCb_set_result (pm : Meta.Ptr) (loc : Bytes) (old raw new : UInt32) (a : Arg)
    (args : List Arg) (lo hi : Option UInt32) (ev : List Event)
    (harg : argF a = .ok raw)
    (hmn : bound atofF32 pm kMin = .ok lo) (hmx : bound atofF32 pm kMax = .ok hi)
    (hres : fltCb pm loc old (a :: args) = .ok (new, ev)) :
    new = limit fltOps lo hi raw ∧
    ev = undoEvent fltOps old new loc (fArg old) (fArg new) ++ [broadcast loc [fArg new]] := by
  rw [fltCb_set pm loc old args harg hmn hmx] at hres
  simp only [Except.ok.injEq, Prod.mk.injEq] at hres
  obtain ⟨h1, h2⟩ := hres
  subst h1
  exact ⟨rfl, h2.symm⟩

theorem atoiBound_i32 {pm : Meta.Ptr} {key : Bytes} {b : Int}
    (h : bound atoi pm key = .ok (some b)) : IntTy.i32.InRange b := by
  obtain ⟨s, hc⟩ := bound_ok_some h
  exact atoi_i32 hc

theorem optCb_int_result (storeTy : IntTy) (pm : Meta.Ptr) (loc : Bytes)
    (old raw new : Int) (a : Arg) (rest : List Arg) (lo hi : Option Int) (ev : List Event)
    (harg : a = .i raw ∨ a = .c raw) (hraw : storeTy.InRange raw)
    (hmn : bound atoi pm kMin = .ok lo) (hmx : bound atoi pm kMax = .ok hi)
    (hlo : ∀ l, lo = some l → storeTy.InRange l) (hhi : ∀ h, hi = some h → storeTy.InRange h)
    (hres : optCb storeTy pm loc old (a :: rest) = .ok (new, ev)) :
    new = limit intOps lo hi raw ∧
    ev = undoEvent intOps (IntTy.i32.wrap old) new loc (.i (IntTy.i32.wrap old)) (.i new)
          ++ [broadcast loc [if a = .c raw then .c new else .i new]] := by
  have hvr : storeTy.InRange (limit intOps lo hi raw) := limit_inRange storeTy lo hi raw hraw hlo hhi
  have hs := IntTy.wrap_of_inRange _ _ hvr
  have h32 := IntTy.wrap_of_inRange _ _ ((IntTy.sub_i32 storeTy).inRange hvr)
  rw [optCb_int_set storeTy pm loc old rest harg hmn hmx] at hres
  simp only [optApply, hs, h32, Except.ok.injEq, Prod.mk.injEq] at hres
  obtain ⟨h1, h2⟩ := hres
  subst h1
  refine ⟨rfl, ?_⟩
  rw [← h2]
  split <;> rfl

theorem stops_cons {c : UInt8} (r : Bytes) (h : isDigit c = false) : Stops (c :: r) := .inr ⟨c, r, rfl, h⟩
theorem stops_nil : Stops [] := Or.inl rfl

theorem takeDigits_stop (ds tail : Bytes) (acc : Nat) (h : AllDigits ds) (ht : Stops tail) :
    takeDigits (ds ++ tail) acc = (ds.foldl (fun a c => a * 10 + (c.toNat - 48)) acc, tail) := by
  induction ds generalizing acc with
  | nil =>
    rcases ht with rfl | ⟨c, r, rfl, hc⟩
    · rfl
    · simp [takeDigits, hc]
  | cons c r ih =>
    have hc : isDigit c = true := h c (List.mem_cons_self)
    have hr : AllDigits r := fun x hx => h x (List.mem_cons_of_mem _ hx)
    simp only [List.cons_append, takeDigits, hc, ↓reduceIte, List.foldl_cons]
    exact ih _ hr

theorem atoiBody_run (neg : Bool) (ds tail : Bytes) (h : AllDigits ds) (ht : Stops tail) :
    atoiBody neg (ds ++ tail) =
      if IntTy.i32.min ≤ (if neg then -(digitsVal ds : Int) else (digitsVal ds : Int)) ∧
          (if neg then -(digitsVal ds : Int) else (digitsVal ds : Int)) ≤ IntTy.i32.max
      then some (if neg then -(digitsVal ds : Int) else (digitsVal ds : Int)) else none := by
  unfold atoiBody
  rw [takeDigits_stop ds tail 0 h ht]
  rfl

theorem atoiBody_stop (neg : Bool) (ds tail : Bytes) (h : AllDigits ds) (ht : Stops tail)
    (hv : digitsVal ds ≤ 2147483647) :
    atoiBody neg (ds ++ tail) = some (if neg then -(digitsVal ds : Int) else (digitsVal ds : Int)) := by
  rw [atoiBody_run neg ds tail h ht, if_pos]
  cases neg <;> simp only [IntTy.min, IntTy.max, Bool.false_eq_true, ↓reduceIte] <;> omega

theorem isDigit_not_space {c : UInt8} (h : isDigit c = true) : isSpace c = false := by
  simp only [isDigit, Bool.and_eq_true, decide_eq_true_eq] at h
  simp only [isSpace, Bool.or_eq_false_iff, Bool.and_eq_false_iff, beq_eq_false_iff_ne, ne_eq,
    decide_eq_false_iff_not]
  obtain ⟨h1, h2⟩ := h
  have h1' : (48 : UInt8).toNat ≤ c.toNat := UInt8.le_iff_toNat_le.mp h1
  have h2' : c.toNat ≤ (57 : UInt8).toNat := UInt8.le_iff_toNat_le.mp h2
  constructor
  · intro hc; subst hc; simp at h1'
  · right
    intro hc
    have := UInt8.le_iff_toNat_le.mp hc
    simp at h1' this; omega

/-- a text that begins with a digit has neither white space nor a sign to skip -/
theorem atoi_digit_head {c : UInt8} (r : Bytes) (hc : isDigit c = true) :
    atoi (c :: r) = atoiBody false (c :: r) := by
  have hs := isDigit_not_space hc
  have hne1 : c ≠ 45 := by rintro rfl; exact absurd hc (by decide)
  have hne2 : c ≠ 43 := by rintro rfl; exact absurd hc (by decide)
  unfold atoi
  simp only [skipSpaces, hs, Bool.false_eq_true, ↓reduceIte]
  split
  · rename_i heq; exact absurd (List.cons.inj heq).1 hne1
  · rename_i heq; exact absurd (List.cons.inj heq).1 hne2
  · rfl

/-- `atoi` of a non-empty digit run followed by a stop: its value, or `none` (undefined in C)
    when that does not fit an `int`.  This is what sets `Param.atoi` apart from the other models of `atoi`:
    `Match.atoiU` and `Walk.atoiC` wrap as glibc does, `Path.atoi` and `Ports.Sugar.atoiRun` read digits only
    and leave the bound to their callers; `Param.atoi` and `Walk.atoiC` also skip white space and read a sign. -/
theorem atoi_run (ds tail : Bytes) (h : AllDigits ds) (hne : ds ≠ []) (ht : Stops tail) :
    atoi (ds ++ tail) = if digitsVal ds ≤ 2147483647 then some (digitsVal ds : Int) else none := by
  obtain ⟨c, r, rfl⟩ := List.exists_cons_of_ne_nil hne
  rw [List.cons_append, atoi_digit_head _ (h c List.mem_cons_self), ← List.cons_append]
  by_cases hv : digitsVal (c :: r) ≤ 2147483647
  · rw [atoiBody_stop false _ tail h ht hv, if_pos hv]; rfl
  · rw [atoiBody_run false _ tail h ht, if_neg hv, if_neg]
    simp only [IntTy.max, Bool.false_eq_true, ↓reduceIte]
    omega

theorem atoi_digits (ds : Bytes) (h : AllDigits ds) (hv : digitsVal ds ≤ 2147483647) :
    atoi ds = some (digitsVal ds : Int) := by
  cases ds with
  | nil => rfl
  | cons c r =>
    have := atoi_run (c :: r) [] h (List.cons_ne_nil _ _) stops_nil
    rwa [List.append_nil, if_pos hv] at this

theorem walkPrefix_name (name rest ds : Bytes) (hn : ∀ c ∈ name, c ≠ 35) :
    walkPrefix (name ++ 35 :: rest) (name ++ ds) = (35 :: rest, ds) := by
  induction name with
  | nil =>
    cases ds with
    | nil => simp [walkPrefix]
    | cons d r => simp [walkPrefix]
  | cons c r ih =>
    have hc : c ≠ 35 := hn c (List.mem_cons_self)
    have hr : ∀ x ∈ r, x ≠ 35 := fun x hx => hn x (List.mem_cons_of_mem _ hx)
    simp only [List.cons_append, walkPrefix, ne_eq, hc, not_false_eq_true, and_self, ↓reduceIte]
    exact ih hr

/-! ### atoi of a decimal literal (finding C14-K1) -/

theorem atoi_decLit (l : DecLit) (hwf : l.WF) :
    atoi l.bytes = some (if l.neg then -(digitsVal l.ip : Int) else (digitsVal l.ip : Int)) := by
  have ht : Stops (if l.fp.isEmpty then ([] : Bytes) else 46 :: l.fp) := by
    cases hfp : l.fp.isEmpty
    · right; exact ⟨46, l.fp, by simp, by decide⟩
    · left; simp
  cases hn : l.neg
  · simp only [DecLit.bytes, hn, Bool.false_eq_true, ↓reduceIte, List.nil_append]
    rw [atoi_run l.ip _ hwf.ip_digits hwf.ip_ne ht, if_pos hwf.fits]
  · have hb := atoiBody_stop true l.ip _ hwf.ip_digits ht hwf.fits
    simp only [DecLit.bytes, hn, ↓reduceIte, List.cons_append, List.nil_append]
    unfold atoi
    have : isSpace 45 = false := by decide
    simp only [skipSpaces, this, Bool.false_eq_true, ↓reduceIte]
    simpa using hb

theorem hasMap_mapPrefix (num : Bytes) : hasMap (mapPrefix ++ num) = true := by
  simp [mapPrefix, hasMap]

theorem enumKeyLoop_pre (pre : List Meta.Pair) (num post sym) (k : Int) (hnum : atoi num = some k)
    (hpre : ∀ p ∈ pre, hasMap p.1 = true → ∃ v, p.2 = some v ∧ v ≠ sym) :
    enumKeyLoop sym (pre ++ (mapPrefix ++ num, some sym) :: post) = .ok k := by
  induction pre with
  | nil =>
    simp only [List.nil_append, enumKeyLoop, hasMap_mapPrefix, ↓reduceIte]
    have : (mapPrefix ++ num).drop 4 = num := by simp [mapPrefix]
    simp [this, hnum]
  | cons p r ih =>
    obtain ⟨t, v⟩ := p
    have hr : ∀ q ∈ r, hasMap q.1 = true → ∃ w, q.2 = some w ∧ w ≠ sym :=
      fun q hq => hpre q (List.mem_cons_of_mem _ hq)
    have hp := hpre (t, v) (List.mem_cons_self)
    simp only [List.cons_append, enumKeyLoop]
    cases hm : hasMap t with
    | false => simp only [Bool.false_eq_true, ↓reduceIte]; exact ih hr
    | true =>
      obtain ⟨w, hw, hne⟩ := hp hm
      simp only at hw
      subst hw
      simp only [↓reduceIte, hne]
      exact ih hr

theorem enumKeyLoop_declares (ps : List Meta.Pair) (sym : Bytes) (k : Int) (h : Declares ps sym k) :
    enumKeyLoop sym ps = .ok k := by
  obtain ⟨pre, num, post, hps, hnum, hpre⟩ := h.split
  subst hps
  exact enumKeyLoop_pre pre num post sym k hnum hpre

end Rtosc.Param
