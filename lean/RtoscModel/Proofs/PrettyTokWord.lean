/-
  C10/C11 — tokens that are keywords: `true` `false` `nil` `inf` (the value-less types T F N I),
  `immediately` and `now` (the time tag 1; the printer writes `immediately`): `C11.valOK_kw`.
  Scanner case `scanKeyword`, checker case `skipKeyword`.
-/
import RtoscModel.Proofs.PrettyTok
import RtoscModel.Pretty.C11Spec
namespace Rtosc.Pretty
open Rtosc Rtosc.Libc
open Rtosc.ArgVal (Cell)

theorem lit_true : lit "true" = [116, 114, 117, 101] := by decide
theorem lit_false : lit "false" = [102, 97, 108, 115, 101] := by decide
theorem lit_nil : lit "nil" = [110, 105, 108] := by decide
theorem lit_inf : lit "inf" = [105, 110, 102] := by decide
theorem lit_now : lit "now" = [110, 111, 119] := by decide
theorem lit_immediately : lit "immediately" = [105, 109, 109, 101, 100, 105, 97, 116, 101, 108, 121] := by decide

theorem sep_wordEnd (rest : Bytes) (h : Sep rest) :
    (hd rest = 0 || hd rest = 47 || hd rest = 93 || hd rest = 46 || hd rest = 37 || isspace (hd rest)) = true := by
  rcases h.1 with h | h | h
  · subst h; decide
  · simp [h]
  · rw [h]; decide

theorem skipWord_self (w rest : Bytes) (h : Sep rest) : skipWord w (w ++ rest) = some rest := by
  have := sep_wordEnd rest h
  unfold skipWord
  simp [startsWith, this]

theorem skipWord_ne (w s : Bytes) (h : startsWith s w = false) : skipWord w s = none := by
  unfold skipWord; simp [h]

theorem C11.valOK_of_keyword (w : Bytes) (c : Cell) (hne : w ≠ []) (hsc : c.isScalar = true)
    (h1 : hd w = 116 ∨ hd w = 102 ∨ hd w = 110 ∨ hd w = 105)
    (hscan : ∀ rest, Sep rest → scanKeyword (w ++ rest) = ⟨rest, [c], true⟩)
    (hskip : ∀ rest, Sep rest → skipKeyword (w ++ rest) = ⟨some rest, 1, c.type, 0⟩) : C11.ValOK w c := by
  have hh : ∀ rest, hd (w ++ rest) = 116 ∨ hd (w ++ rest) = 102 ∨ hd (w ++ rest) = 110 ∨ hd (w ++ rest) = 105 :=
    fun rest => by rw [hd_append_of_ne_nil _ _ hne]; exact h1
  refine .of_value w c _ rfl hsc ⟨hne, ?_⟩ ?_ (fun rest hs se prev => ?_) (fun rest hs sk ty ib => ?_)
  · rcases h1 with h | h | h | h <;> rw [h] <;> decide
  · rcases h1 with h | h | h | h <;> rw [h] <;> decide
  · rw [scanValue_kw _ _ _ (hh rest), hscan rest hs]; rfl
  · rw [skipValue_kw _ _ _ _ (hh rest), hskip rest hs]; rfl

/-- **the six keywords**: each is found by `skip_word` in its turn, the words tried before it do not match -/
theorem C11.valOK_kw (k : C11.Kw) : C11.ValOK k.text k.cell := by
  refine C11.valOK_of_keyword _ _ (by cases k <;> decide) (by cases k <;> rfl) (by cases k <;> decide) ?_ ?_
  · intro rest hs
    have hw := skipWord_self k.text rest hs
    unfold scanKeyword
    cases k <;> simp only [C11.Kw.text, C11.Kw.cell] at hw ⊢ <;> rw [hw] <;>
      simp [lit_true, lit_false, lit_nil, lit_inf, lit_immediately, lit_now, skipWord_ne, startsWith, List.isPrefixOf]
  · intro rest hs
    have hw := skipWord_self k.text rest hs
    unfold skipKeyword
    cases k <;> simp only [C11.Kw.text, C11.Kw.cell] at hw ⊢ <;> rw [hw] <;>
      simp [lit_true, lit_false, lit_nil, lit_inf, lit_immediately, lit_now, skipWord_ne, startsWith, List.isPrefixOf] <;> rfl

/-- the four value-less types print as `true` `false` `nil` `inf` and scan back -/
theorem C11.printsVal_flag (opt : POpt) (f : Rtosc.ArgVal.FlagTy) : C11.PrintsVal opt (Cell.flag f) := by
  intro fuel more prev st
  cases f
  · exact ⟨lit "true", _, by simp [printArgVal, deref, bind, Except.bind, pure, Except.pure]; rfl, C11.valOK_kw .true_⟩
  · exact ⟨lit "false", _, by simp [printArgVal, deref, bind, Except.bind, pure, Except.pure]; rfl, C11.valOK_kw .false_⟩
  · exact ⟨lit "nil", _, by simp [printArgVal, deref, bind, Except.bind, pure, Except.pure]; rfl, C11.valOK_kw .nil⟩
  · exact ⟨lit "inf", _, by simp [printArgVal, deref, bind, Except.bind, pure, Except.pure]; rfl, C11.valOK_kw .inf⟩

/-- the time tag `immediately` (val.t = 1) -/
theorem C11.printsVal_immediately (opt : POpt) : C11.PrintsVal opt (Cell.time 1) := by
  intro fuel more prev st
  exact ⟨lit "immediately", _, by simp [printArgVal, deref, bind, Except.bind, pure, Except.pure]; rfl, C11.valOK_kw .immediately⟩

end Rtosc.Pretty
