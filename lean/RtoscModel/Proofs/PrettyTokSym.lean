/-
  C10/C11 — the symbol token printed without quotes: an identifier `[A-Za-z_][A-Za-z0-9_]*` that is
  not a reserved word.  Scanner cases `scanKeyword` (t f n i), `scanMidi` (M), `scanBlob` (B) and
  the identifier branch of the `switch`; checker cases `skipKeyword`, `skipMidi`, `skipBlob` and
  the identifier branch.  The text is read by `parse_identifier` / `skip_identifier`, in the checker's identifier
  branch by a loop of its own (`skipIdentChars`).
-/
import RtoscModel.Proofs.PrettyTok
namespace Rtosc.Pretty
open Rtosc Rtosc.Libc
open Rtosc.ArgVal (Cell)

/-- a letter, digit or '_' ends no word (`skip_word`), is no white space and no '[', and is printed as it is -/
structure IdentCharFacts (c : UInt8) : Prop where
  ne0 : c ≠ 0
  ne47 : c ≠ 47
  ne93 : c ≠ 93
  ne46 : c ≠ 46
  ne37 : c ≠ 37
  notSpace : isspace c = false
  ne91 : c ≠ 91
  noEscape : asEscapedChar c false = none

theorem identChar_facts (c : UInt8) (h : isIdentChar c = true) : IdentCharFacts c := by
  have : ∀ c : UInt8, isIdentChar c = true → c ≠ 0 ∧ c ≠ 47 ∧ c ≠ 93 ∧ c ≠ 46 ∧ c ≠ 37 ∧ isspace c = false ∧ c ≠ 91 ∧
      asEscapedChar c false = none := by
    apply UInt8.forall_of_fin; decide +kernel
  obtain ⟨a1, a2, a3, a4, a5, a6, a7, a8⟩ := this c h
  exact ⟨a1, a2, a3, a4, a5, a6, a7, a8⟩

/-- an identifier: what `symbolPlain` says about the characters -/
def IdentText (s : Bytes) : Prop := isIdentStart (hd s) = true ∧ ∀ x ∈ s, isIdentChar x = true

theorem symbolPlain_ident (s : Bytes) (hq : symbolPlain s = true) :
    IdentText s ∧ ∀ w ∈ reservedWords, s ≠ w := by
  unfold symbolPlain at hq
  simp only [Bool.and_eq_true, Bool.not_eq_eq_eq_not, Bool.not_true, List.all_eq_true] at hq
  obtain ⟨⟨h1, h2⟩, h3⟩ := hq
  refine ⟨⟨h1, ?_⟩, ?_⟩
  · cases s with
    | nil => simp
    | cons c t =>
      intro x hx
      simp only [List.mem_cons] at hx
      rcases hx with rfl | hx
      · exact (identStart_facts _ h1).1
      · exact h2 x (by simpa using hx)
  · intro w hw he
    subst he
    have : reservedWords.contains s = true := List.contains_iff_mem.mpr hw
    rw [this] at h3; cases h3

theorem identText_ne_nil (s : Bytes) (h : IdentText s) : s ≠ [] := by
  intro he; subst he; exact absurd h.1 (by decide)

theorem takeIdentChars_append (s rest : Bytes) (hs : ∀ x ∈ s, isIdentChar x = true)
    (hr : isIdentChar (hd rest) = false) : takeIdentChars (s ++ rest) = s := by
  induction s with
  | nil =>
    cases rest with
    | nil => rfl
    | cons c r => simp only [hd_cons] at hr; simp [takeIdentChars, hr]
  | cons c t ih =>
    simp [takeIdentChars, hs c (by simp), ih (fun x hx => hs x (by simp [hx]))]

theorem skipIdentChars_append (s rest : Bytes) (hs : ∀ x ∈ s, isIdentChar x = true)
    (hr : isIdentChar (hd rest) = false) : skipIdentChars (s ++ rest) = rest := by
  induction s with
  | nil =>
    cases rest with
    | nil => rfl
    | cons c r => simp only [hd_cons] at hr; simp [skipIdentChars, hr]
  | cons c t ih =>
    simp [skipIdentChars, hs c (by simp), ih (fun x hx => hs x (by simp [hx]))]

theorem parseIdentifier_append (s rest : Bytes) (hs : ∀ x ∈ s, isIdentChar x = true)
    (hr : isIdentChar (hd rest) = false) :
    parseIdentifier (s ++ rest) = (rest, Cell.str .S (some s)) := by
  unfold parseIdentifier
  simp [takeIdentChars_append s rest hs hr]

theorem skipIdentifier_append (s rest : Bytes) (h : IdentText s)
    (hr : isIdentChar (hd rest) = false) : skipIdentifier (s ++ rest) = some rest := by
  have hne := identText_ne_nil s h
  cases s with
  | nil => exact absurd rfl hne
  | cons c t =>
    have h1 : isIdentStart c = true := h.1
    unfold skipIdentifier
    simp [h1, skipIdentChars_append t rest (fun x hx => h.2 x (by simp [hx])) hr]

/-- if the text `s ++ rest` starts with a word `w ≠ s` made of identifier characters, the
    character behind the word is an identifier character (of `s`) -/
theorem prefix_ident (w : Bytes) : ∀ (s rest : Bytes), (∀ x ∈ w, isIdentChar x = true) →
    (∀ x ∈ s, isIdentChar x = true) → s ≠ w → isIdentChar (hd rest) = false →
    startsWith (s ++ rest) w = true → isIdentChar (hd ((s ++ rest).drop w.length)) = true := by
  induction w with
  | nil =>
    intro s rest _ hs hne _ _
    cases s with
    | nil => exact absurd rfl hne
    | cons c t => simpa using hs c (by simp)
  | cons a w' ih =>
    intro s rest hw hs hne hr hst
    cases s with
    | nil =>
      cases rest with
      | nil => simp [startsWith] at hst
      | cons b r =>
        simp only [hd_cons] at hr
        simp only [startsWith, List.nil_append, List.isPrefixOf, Bool.and_eq_true, beq_iff_eq] at hst
        have := hw a (by simp)
        rw [hst.1, hr] at this; cases this
    | cons c t =>
      simp only [startsWith, List.cons_append, List.isPrefixOf, Bool.and_eq_true, beq_iff_eq] at hst
      obtain ⟨hac, hst'⟩ := hst
      subst hac
      have := ih t rest (fun x hx => hw x (by simp [hx])) (fun x hx => hs x (by simp [hx]))
        (by intro he; exact hne (by rw [he])) hr hst'
      simpa using this

theorem skipWord_ident (w s rest : Bytes) (hw : ∀ x ∈ w, isIdentChar x = true)
    (hs : ∀ x ∈ s, isIdentChar x = true) (hne : s ≠ w) (hr : isIdentChar (hd rest) = false) :
    skipWord w (s ++ rest) = none := by
  unfold skipWord
  by_cases hst : startsWith (s ++ rest) w = true
  · have q := identChar_facts _ (prefix_ident w s rest hw hs hne hr hst)
    simp [hst, q.ne0, q.ne47, q.ne93, q.ne46, q.ne37, q.notSpace]
  · simp [hst]

theorem lit_BLOB : lit "BLOB" = [66, 76, 79, 66] := by decide

theorem reserved_ident : ∀ w ∈ reservedWords, ∀ x ∈ w, isIdentChar x = true := by decide

theorem skipWord_keywords (s rest : Bytes) (hs : IdentText s) (hne : ∀ w ∈ reservedWords, s ≠ w)
    (hr : isIdentChar (hd rest) = false) :
    skipWord (lit "immediately") (s ++ rest) = none ∧ skipWord (lit "now") (s ++ rest) = none ∧
    skipWord (lit "true") (s ++ rest) = none ∧ skipWord (lit "false") (s ++ rest) = none ∧
    skipWord (lit "nil") (s ++ rest) = none ∧ skipWord (lit "inf") (s ++ rest) = none := by
  have k := fun w hw => skipWord_ident w s rest (reserved_ident w hw) hs.2 (hne w hw) hr
  exact ⟨k _ (by decide), k _ (by decide), k _ (by decide), k _ (by decide), k _ (by decide), k _ (by decide)⟩

theorem scanKeyword_ident (s rest : Bytes) (hs : IdentText s) (hne : ∀ w ∈ reservedWords, s ≠ w)
    (hr : isIdentChar (hd rest) = false) :
    scanKeyword (s ++ rest) = ⟨rest, [Cell.str .S (some s)], true⟩ := by
  obtain ⟨k1, k2, k3, k4, k5, k6⟩ := skipWord_keywords s rest hs hne hr
  unfold scanKeyword
  simp only [k1, k2, k3, k4, k5, k6, parseIdentifier_append s rest hs.2 hr]

theorem skipKeyword_ident (s rest : Bytes) (hs : IdentText s) (hne : ∀ w ∈ reservedWords, s ≠ w)
    (hr : isIdentChar (hd rest) = false) :
    skipKeyword (s ++ rest) = ⟨some rest, 1, 83, 0⟩ := by
  obtain ⟨k1, k2, k3, k4, k5, k6⟩ := skipWord_keywords s rest hs hne hr
  unfold skipKeyword
  simp only [k1, k2, k3, k4, k5, k6, skipIdentifier_append s rest hs hr]
  split
  · rfl
  · split
    · rfl
    · split <;> rfl

theorem midi_cond_false (s rest : Bytes) (hs : IdentText s) (hne : ∀ w ∈ reservedWords, s ≠ w)
    (hr : isIdentChar (hd rest) = false) :
    ¬ (startsWith (s ++ rest) (lit "MIDI") = true ∧
        (isspace (hd ((s ++ rest).drop 4)) = true ∨ hd ((s ++ rest).drop 4) = 91)) := by
  intro ⟨h1, h2⟩
  have := prefix_ident (lit "MIDI") s rest (reserved_ident _ (by decide)) hs.2 (hne _ (by decide)) hr h1
  have a6 := (identChar_facts _ this).notSpace
  have a7 := (identChar_facts _ this).ne91
  have hl : (lit "MIDI").length = 4 := by decide
  rw [hl] at a6 a7
  rcases h2 with h2 | h2
  · rw [a6] at h2; cases h2
  · exact a7 h2

theorem scanMidi_ident (s rest : Bytes) (hs : IdentText s) (hne : ∀ w ∈ reservedWords, s ≠ w)
    (hr : isIdentChar (hd rest) = false) :
    scanMidi (s ++ rest) = .ok ⟨rest, [Cell.str .S (some s)], true⟩ := by
  unfold scanMidi
  rw [if_neg (midi_cond_false s rest hs hne hr)]
  simp only [parseIdentifier_append s rest hs.2 hr]
  rfl

theorem skipMidi_ident (s rest : Bytes) (hs : IdentText s) (hne : ∀ w ∈ reservedWords, s ≠ w)
    (hr : isIdentChar (hd rest) = false) :
    skipMidi (s ++ rest) = ⟨some rest, 1, 83, 0⟩ := by
  unfold skipMidi
  rw [if_neg (midi_cond_false s rest hs hne hr)]
  rw [skipIdentifier_append s rest hs hr]

theorem blobOpen_fails (ds : List Dir) (s rest : Bytes) (hs : IdentText s)
    (hne : ∀ w ∈ reservedWords, s ≠ w) (hr : isIdentChar (hd rest) = false) :
    sscanf (lits "BLOB" ++ .ws :: .lit 91 :: ds) (s ++ rest) = [] := by
  unfold sscanf lits
  rw [sscanfGo_lits]
  by_cases hst : startsWith (s ++ rest) (lit "BLOB") = true
  · have := prefix_ident (lit "BLOB") s rest (reserved_ident _ (by decide)) hs.2 (hne _ (by decide)) hr hst
    have a0 := (identChar_facts _ this).ne0
    have a6 := (identChar_facts _ this).notSpace
    have a7 := (identChar_facts _ this).ne91
    rw [if_pos hst]
    cases hx : (s ++ rest).drop (lit "BLOB").length with
    | nil => rw [hx] at a0; exact absurd rfl a0
    | cons c r =>
      rw [hx] at a6 a7
      simp only [hd_cons] at a6 a7
      simp [sscanfGo, skipSpace, a6, a7]
  · simp [hst]

theorem scanBlob_ident (s rest : Bytes) (hs : IdentText s) (hne : ∀ w ∈ reservedWords, s ≠ w)
    (hr : isIdentChar (hd rest) = false) :
    scanBlob (s ++ rest) = .ok ⟨rest, [Cell.str .S (some s)], true⟩ := by
  have h : sscanf fmtBlobOpenLen (s ++ rest) = [] := by
    have := blobOpen_fails [.ws, .int .i none false, .ws, .n] s rest hs hne hr
    simpa [fmtBlobOpenLen] using this
  unfold scanBlob
  rw [h]
  simp only [parseIdentifier_append s rest hs.2 hr]
  rfl

theorem skipBlob_ident (s rest : Bytes) (hs : IdentText s) (hne : ∀ w ∈ reservedWords, s ≠ w)
    (hr : isIdentChar (hd rest) = false) :
    skipBlob (s ++ rest) = ⟨some rest, 1, 83, 0⟩ := by
  have h : skipFmt fmtBlobOpen (s ++ rest) = 0 := by
    have := blobOpen_fails [.ws, .n] s rest hs hne hr
    unfold skipFmt scanRd
    have e : fmtBlobOpen = lits "BLOB" ++ [.ws, .lit 91, .ws, .n] := rfl
    rw [e, this]
  unfold skipBlob
  simp only [h, ne_eq, not_true_eq_false, ↓reduceIte, skipIdentifier_append s rest hs hr]

theorem scanValue_ident (se : ElemScanner) (s rest : Bytes) (prev : List Cell) (hs : IdentText s)
    (hne : ∀ w ∈ reservedWords, s ≠ w) (hr : isIdentChar (hd rest) = false) :
    scanValue se (s ++ rest) prev = .ok ⟨rest, [Cell.str .S (some s)], true⟩ := by
  have h1 : isIdentStart (hd (s ++ rest)) = true := by
    rw [hd_append_of_ne_nil _ _ (identText_ne_nil s hs)]; exact hs.1
  rw [scanValue_identStart se _ prev h1]
  split
  · rw [scanKeyword_ident s rest hs hne hr]; rfl
  · split
    · exact scanMidi_ident s rest hs hne hr
    · split
      · exact scanBlob_ident s rest hs hne hr
      · rw [parseIdentifier_append s rest hs.2 hr]; rfl

theorem skipValue_ident (sk : ArgSkipper) (s rest : Bytes) (ty : UInt8) (ib : Bool) (hs : IdentText s)
    (hne : ∀ w ∈ reservedWords, s ≠ w) (hr : isIdentChar (hd rest) = false) :
    skipValue sk (s ++ rest) ty ib = .ok (some ⟨some rest, 1, 83, 0⟩) := by
  have h1 : isIdentStart (hd (s ++ rest)) = true := by
    rw [hd_append_of_ne_nil _ _ (identText_ne_nil s hs)]; exact hs.1
  rw [skipValue_identStart sk _ ty ib h1]
  split
  · rw [skipKeyword_ident s rest hs hne hr]; rfl
  · split
    · rw [skipMidi_ident s rest hs hne hr]; rfl
    · split
      · rw [skipBlob_ident s rest hs hne hr]; rfl
      · rw [skipIdentChars_append s rest hs.2 hr]; rfl

theorem C11.valOK_ident (s : Bytes) (hq : symbolPlain s = true) : C11.ValOK s (Cell.str .S (some s)) := by
  obtain ⟨hs, hne⟩ := symbolPlain_ident s hq
  obtain ⟨hst, a91⟩ := tokStart_ident s (identText_ne_nil s hs) hs.1
  refine .of_value _ _ 83 rfl rfl hst a91
    (fun rest hsep se prev => ?_) (fun rest hsep sk ty ib => ?_)
  · have hr := (sep_hd_facts rest hsep).notIdent
    exact scanValue_ident _ s rest prev hs hne hr
  · have hr := (sep_hd_facts rest hsep).notIdent
    exact skipValue_ident _ s rest ty ib hs hne hr

theorem printStrChars_plain (ll : Int) (s : Bytes) (hs : ∀ x ∈ s, isIdentChar x = true) :
    ∀ st : PSt, printStrChars true ll s st = ⟨st.out ++ s, st.cols + s.length⟩ := by
  induction s with
  | nil => intro st; simp [printStrChars]
  | cons c t ih =>
    intro st
    have hc := (identChar_facts c (hs c (by simp))).noEscape
    simp only [printStrChars, hc, Bool.not_true, Bool.false_and, Bool.false_eq_true, ↓reduceIte]
    rw [ih (fun x hx => hs x (by simp [hx]))]
    simp only [List.append_assoc, List.singleton_append, List.length_cons, PSt.mk.injEq, true_and]
    push_cast
    omega

/-- 'S' printed without quotes: an identifier `[A-Za-z_][A-Za-z0-9_]*` that is not one of the
    reserved words (true false nil inf immediately now MIDI BLOB) scans back as the same symbol -/
theorem C11.printsVal_symbol_plain (opt : POpt) (s : Bytes) (hq : symbolPlain s = true) :
    C11.PrintsVal opt (Cell.str .S (some s)) := by
  intro fuel more prev st
  obtain ⟨hs, _⟩ := symbolPlain_ident s hq
  refine ⟨s, st.cols + s.length, ?_, C11.valOK_ident s hq⟩
  have htw : s.takeWhile (fun x => !decide (x = 0)) = s :=
    takeWhile_all _ s (fun x hx => by simp [(identChar_facts x (hs.2 x hx)).ne0])
  simp [printArgVal, deref, bind, Except.bind, pure, Except.pure, htw, hq,
    printStrChars_plain _ s hs.2]

end Rtosc.Pretty
