/-
  C15 — the scalar parameter macros of C14 satisfy `PortSem` (RtoscModel/UndoPortsSpec.lean): per
  kind, what a message does to the field and which `/undo_change` replies it sends is taken
  from C14's theorems (`undo_event_iff_changed_*`, `stored_toggle`, `dispatch_scalar_at_address`)
  and the callback equations of Proofs/ParamLemmas.lean (`intCb_set_result`,
  `fltCb_set_result`, `optCb_int_result`).
-/
import RtoscModel.Proofs.UndoPorts
import RtoscModel.Props.C14
namespace Rtosc.Undo
open Rtosc Rtosc.Param

theorem s32_w32 (v : Int) (h : IntTy.i32.InRange v) : s32 (w32 v) = v := by
  obtain ⟨h1, h2⟩ := h
  simp only [IntTy.min, IntTy.max] at h1 h2
  have e : (w32 v).toNat = (v % 4294967296).toNat := by
    rw [w32, UInt32.toNat_ofNat']; exact Nat.mod_eq_of_lt (by omega)
  rw [s32, e]
  omega

theorem w32_inj (a b : Int) (ha : IntTy.i32.InRange a) (hb : IntTy.i32.InRange b) (h : w32 a = w32 b) : a = b := by
  rw [← s32_w32 a ha, ← s32_w32 b hb, h]

/-- the sign-magnitude key determines the pattern, `-0` apart -/
theorem fKey_inj (a b : UInt32) (ha : FltOK a) (hb : FltOK b) (h : fKey a = fKey b) : a = b := by
  have ha' : a.toNat ≠ 2147483648 := fun h' => ha.2 (UInt32.toNat_inj.mp h')
  have hb' : b.toNat ≠ 2147483648 := fun h' => hb.2 (UInt32.toNat_inj.mp h')
  have := a.toNat_lt
  have := b.toNat_lt
  apply UInt32.toNat_inj.mp
  simp only [fKey] at h
  generalize a.toNat = x at *
  generalize b.toNat = y at *
  omega

theorem stableI_iff (ty : IntTy) (lo hi : Option Int) (f : Field) :
    StableI ty lo hi f ↔ ∃ x, f = .ints [x] ∧ ty.InRange x ∧ limit intOps lo hi x = x := by
  cases f with
  | ints xs =>
    cases xs with
    | nil => simp [StableI]
    | cons x r => cases r <;> simp [StableI]
  | _ => simp [StableI]

theorem stableF_iff (lo hi : Option UInt32) (f : Field) :
    StableF lo hi f ↔ ∃ b, f = .flts [b] ∧ FltOK b ∧ limit fltOps lo hi b = b := by
  cases f with
  | flts xs =>
    cases xs with
    | nil => simp [StableF]
    | cons x r => cases r <;> simp [StableF]
  | _ => simp [StableF]

theorem stableT_iff (f : Field) : StableT f ↔ ∃ b, f = .bools [b] := by
  cases f with
  | bools xs =>
    cases xs with
    | nil => simp [StableT]
    | cons x r => cases r <;> simp [StableT]
  | _ => simp [StableT]

theorem dispatch_accept (c : PStat) (h : PortOK c) (f : Field) (args : List Arg)
    (hm : matchArgs ((58 :: specOf c.port.kind).length + 2) (58 :: specOf c.port.kind) (args.map Arg.tag) = true) :
    Param.dispatch c.port c.pfx c.path f args =
      match callback c.port c.loc c.path f args with
      | .error e => .error e
      | .ok r => .ok (some r) :=
  (dispatch_scalar_at_address c.port c.path _ c.pfx c.path f args h.pat h.name).2 rfl hm

theorem dispatch_cases (c : PStat) (h : PortOK c) (f : Field) (args : List Arg) :
    Param.dispatch c.port c.pfx c.path f args = .ok none ∨
    Param.dispatch c.port c.pfx c.path f args =
      match callback c.port c.loc c.path f args with
      | .error e => .error e
      | .ok r => .ok (some r) := by
  cases hm : matchArgs ((58 :: specOf c.port.kind).length + 2) (58 :: specOf c.port.kind) (args.map Arg.tag) with
  | true => exact Or.inr (dispatch_accept c h f args hm)
  | false =>
    left
    simp only [Param.dispatch, h.pat, portMatches_scalar c.path _ c.path _ h.name, decide_true, Bool.true_and, hm]

theorem undoReplies_of_undoEvents (ev L : List Param.Event) (h : undoEvents ev = L)
    (hL : ∀ e ∈ L, e.bcast = false) : undoReplies ev = L := by
  have : undoReplies ev = (undoEvents ev).filter (fun e => !e.bcast) := by
    simp only [undoReplies, undoEvents, List.filter_filter]
  rw [this, h, List.filter_eq_self]
  intro e he; simp [hL e he]

/-- the `/undo_change` reply of an integer port, as the history's event: the two values are
    `int`s, so their payloads differ iff they do -/
theorem decode_int_event (tagf : Int → Arg) (tg : UInt8)
    (htp : ∀ v, payload (tagf v) = some (w32 v)) (htt : ∀ v, (tagf v).tag = tg)
    (loc : Bytes) (old new : Int) (ev : List Param.Event)
    (ho : IntTy.i32.InRange old) (hn : IntTy.i32.InRange new)
    (hue : undoEvents ev = if new ≠ old then [reply undoAddr [.s loc, tagf old, tagf new]] else []) :
    decodeAll (undoReplies ev) =
      some (if w32 new ≠ w32 old then [⟨loc, tg, w32 old, w32 new⟩] else []) := by
  by_cases hc : new = old
  · rw [if_neg (by simpa using hc)] at hue
    rw [undoReplies_of_undoEvents ev [] hue (by simp), hc]
    simp [decodeAll]
  · rw [if_pos hc] at hue
    rw [undoReplies_of_undoEvents ev _ hue (by simp [reply])]
    have hw : w32 new ≠ w32 old := fun h => hc (w32_inj new old hn ho h)
    simp [decodeAll, decodeUndo, reply, htp, htt, hw]

theorem undoReplies_query (loc : Bytes) (args : List Arg) (hloc : loc ≠ undoAddr) :
    undoReplies [reply loc args] = [] := by
  have : (loc == undoAddr) = false := by simpa using hloc
  simp [undoReplies, reply, this]

theorem undoReplies_bcast (loc : Bytes) (args : List Arg) :
    undoReplies [broadcast loc args] = [] := by
  simp [undoReplies, broadcast]


/-! ### an undoable scalar port: the three facts of `PortSem` from its callback

  The field holds one value `x : α` (`mk x`), the stable fields are those with `St x`, and
  `cb` is the callback on `α`.  `PortSem` needs: a query replies and changes nothing; a set
  message in the domain leaves a stable value and reports exactly the change of the encoded
  value; the set-message of an undo step that carries a stable value is accepted and stored. -/

theorem scalar_portSem (c : PStat) (h : PortOK c) (hun : c.undoable = true) {α : Type}
    (mk : α → Field) (St : α → Prop) (cb : α → List Arg → Except Err (α × List Param.Event))
    (hst : ∀ f, Stable c f ↔ ∃ x, f = mk x ∧ St x)
    (hcb : ∀ x args new ev, cb x args = .ok (new, ev) →
      callback c.port c.loc c.path (mk x) args = .ok (mk new, ev))
    (hq : ∀ x, ∃ ra, cb x [] = .ok (x, [reply c.loc ra]))
    (hset : ∀ x a rest, St x → ArgsOK c (a :: rest) →
      ∃ new ev, cb x (a :: rest) = .ok (new, ev) ∧ St new ∧
        decodeAll (undoReplies ev) =
          some (if encFld (mk new) ≠ encFld (mk x)
                then [⟨c.loc, c.tag, encFld (mk x), encFld (mk new)⟩] else []))
    (hback : ∀ x w, St x → St w → ∃ a ev, msgArg ⟨c.loc, c.tag, encFld (mk w)⟩ = some a ∧
      matchArgs ((58 :: specOf c.port.kind).length + 2) (58 :: specOf c.port.kind) [a.tag] = true ∧
      cb x [a] = .ok (w, ev)) :
    PortSem Stable ArgsOK c := by
  refine ⟨?_, ?_, fun _ => h.fit⟩
  · intro f args hf hargs
    obtain ⟨x, rfl, hx⟩ := (hst f).mp hf
    rcases dispatch_cases c h (mk x) args with hd | hd
    · exact Or.inl hd
    · right
      cases args with
      | nil =>
        obtain ⟨ra, hqx⟩ := hq x
        refine ⟨mk x, _, by rw [hd, hcb x [] x _ hqx], hf, ?_⟩
        rw [undoReplies_query _ _ h.notUndo]
        simp [decodeAll]
      | cons a rest =>
        obtain ⟨new, ev, hres, hnew, hdec⟩ := hset x a rest hx hargs
        refine ⟨mk new, ev, by rw [hd, hcb x _ new ev hres], (hst _).mpr ⟨new, rfl, hnew⟩, ?_⟩
        rw [hdec]; simp [hun]
  · intro _ f v hf hv
    obtain ⟨x, rfl, hx⟩ := (hst f).mp hf
    obtain ⟨w, rfl, hw⟩ := (hst v).mp hv
    obtain ⟨a, ev, hm, hma, hres⟩ := hback x w hx hw
    exact ⟨a, ev, hm, by rw [dispatch_accept c h _ [a] hma, hcb x _ w ev hres]⟩

theorem intCb_sem (ty : IntTy) (tagf : Int → Arg) (tg : UInt8)
    (htp : ∀ v, payload (tagf v) = some (w32 v)) (htt : ∀ v, (tagf v).tag = tg)
    (pm : Meta.Ptr) (loc : Bytes) (old raw : Int) (a : Arg) (rest : List Arg) (lo hi : Option Int)
    (harg : argI a = .ok raw) (hold : ty.InRange old) (hloc : loc ≠ undoAddr)
    (hmn : bound atoi pm kMin = .ok lo) (hmx : bound atoi pm kMax = .ok hi)
    (hlo : ∀ l, lo = some l → l ≤ ty.max) (hhi : ∀ h, hi = some h → ty.min ≤ h)
    (hord : ∀ l h, lo = some l → hi = some h → l ≤ h) :
    ∃ new ev, intCb ty ty tagf pm loc old (a :: rest) = .ok (new, ev) ∧
      new = limit intOps lo hi (ty.wrap raw) ∧ ty.InRange new ∧
      decodeAll (undoReplies ev) =
        some (if w32 new ≠ w32 old then [⟨loc, tg, w32 old, w32 new⟩] else []) := by
  obtain ⟨new, ev, hres⟩ : ∃ new ev, intCb ty ty tagf pm loc old (a :: rest) = .ok (new, ev) :=
    ⟨_, _, intCb_set ty ty tagf pm loc old rest harg hmn hmx⟩
  have hsr := intCb_set_result ty ty tagf pm loc old raw new a rest lo hi ev harg (IntTy.sub_refl _) hmn hmx hres
  have hin : ty.InRange new :=
    stored_int_in_var_type ty ty tagf pm loc old raw new a rest ev harg (IntTy.sub_refl _) hres
  have hnew : new = limit intOps lo hi (ty.wrap raw) := by
    rw [hsr.1, limitInt_eq_limit ty lo hi _ (IntTy.wrap_inRange ty raw) hlo hhi hord]
  have hue := undo_event_iff_changed_int ty ty tagf pm loc old raw new a rest lo hi ev harg
    (IntTy.sub_refl _) hold hloc hmn hmx hres
  refine ⟨new, ev, hres, hnew, hin, ?_⟩
  exact decode_int_event tagf tg htp htt loc old new ev ((IntTy.sub_i32 ty).inRange hold)
    ((IntTy.sub_i32 ty).inRange hin) hue

theorem int_portSem (c : PStat) (h : PortOK c) (tagf : Int → Arg) (tg : UInt8)
    (htp : ∀ v, payload (tagf v) = some (w32 v)) (htt : ∀ v, (tagf v).tag = tg)
    (hai : ∀ v, argI (tagf v) = .ok v)
    (hcb : ∀ x args new ev, intCb c.port.ty c.port.ty tagf (pmOf c) c.loc x args = .ok (new, ev) →
      callback c.port c.loc c.path (.ints [x]) args = .ok (.ints [new], ev))
    (hq : ∀ x, ∃ ra, intCb c.port.ty c.port.ty tagf (pmOf c) c.loc x [] = .ok (x, [reply c.loc ra]))
    (hmatch : matchArgs ((58 :: specOf c.port.kind).length + 2) (58 :: specOf c.port.kind) [tg] = true)
    (hmsg : ∀ w, msgArg ⟨c.loc, tg, w⟩ = some (tagf (s32 w)))
    (htag : c.tag = tg) (hun : c.undoable = true)
    (hst : ∀ f, Stable c f ↔ StableI c.port.ty (iLo c) (iHi c) f)
    (hao : ∀ args, ArgsOK c args ↔ (args = [] ∨ ∃ a rest raw, args = a :: rest ∧ argI a = .ok raw))
    (hk : bound atoi (pmOf c) kMin = .ok (iLo c) ∧ bound atoi (pmOf c) kMax = .ok (iHi c) ∧
      (∀ l, iLo c = some l → l ≤ c.port.ty.max) ∧ (∀ h, iHi c = some h → c.port.ty.min ≤ h) ∧
      (∀ l h, iLo c = some l → iHi c = some h → l ≤ h)) :
    PortSem Stable ArgsOK c := by
  obtain ⟨hmn, hmx, hlo, hhi, hord⟩ := hk
  have hsem := fun x raw a rest (hx : c.port.ty.InRange x) harg =>
    intCb_sem c.port.ty tagf tg htp htt (pmOf c) c.loc x raw a rest (iLo c) (iHi c) harg hx
      h.notUndo hmn hmx hlo hhi hord
  refine scalar_portSem c h hun (fun x => .ints [x])
    (fun x => c.port.ty.InRange x ∧ limit intOps (iLo c) (iHi c) x = x) _
    (fun f => (hst f).trans (stableI_iff _ _ _ _)) hcb hq ?_ ?_
  · intro x a rest hx hargs
    obtain ⟨a', rest', raw, he, harg⟩ := ((hao _).mp hargs).resolve_left (List.cons_ne_nil _ _)
    cases he
    obtain ⟨new, ev, hres, hnew, hin, hdec⟩ := hsem x raw a rest hx.1 harg
    exact ⟨new, ev, hres, ⟨hin, by rw [hnew, limit_idem _ intOps_ordered.lt_irrefl]⟩, by rw [hdec, htag]; rfl⟩
  · intro x w hx hw
    obtain ⟨new, ev, hres, hnew, _, _⟩ := hsem x w (tagf w) [] hx.1 (hai w)
    rw [IntTy.wrap_of_inRange _ _ hw.1, hw.2] at hnew
    subst hnew
    refine ⟨tagf new, ev, ?_, by rw [htt]; exact hmatch, hres⟩
    rw [htag]; simp only [encFld]; rw [hmsg, s32_w32 _ ((IntTy.sub_i32 _).inRange hw.1)]

def tagFn : Kind → Int → Arg
  | .param => Arg.c
  | _ => Arg.i

theorem param_portSem (c : PStat) (h : PortOK c) (hk : c.port.kind = .param) : PortSem Stable ArgsOK c := by
  have hko := h.kind
  simp only [KindOK, hk] at hko
  refine int_portSem c h Arg.c 99 (fun _ => rfl) (fun _ => rfl) (fun _ => rfl) ?_ ?_ ?_ ?_ ?_ ?_ ?_ ?_ hko
  · intro x args new ev hr
    simp only [callback, h.blk, hk, rParamCb, hr]; rfl
  · intro x; exact ⟨_, rfl⟩
  · rw [hk]; decide
  · intro w; rfl
  · simp [PStat.tag, hk]
  · simp [PStat.undoable, hk]
  · intro f; simp only [Stable, hk]
  · intro args; simp only [ArgsOK, hk]

theorem paramI_portSem (c : PStat) (h : PortOK c) (hk : c.port.kind = .paramI) : PortSem Stable ArgsOK c := by
  have hko := h.kind
  simp only [KindOK, hk] at hko
  refine int_portSem c h Arg.i 105 (fun _ => rfl) (fun _ => rfl) (fun _ => rfl) ?_ ?_ ?_ ?_ ?_ ?_ ?_ ?_ hko
  · intro x args new ev hr
    simp only [callback, h.blk, hk, rParamICb, hr]; rfl
  · intro x; exact ⟨_, rfl⟩
  · rw [hk]; decide
  · intro w; rfl
  · simp [PStat.tag, hk]
  · simp [PStat.undoable, hk]
  · intro f; simp only [Stable, hk]
  · intro args; simp only [ArgsOK, hk]


theorem fltCb_sem (pm : Meta.Ptr) (loc : Bytes) (old raw : UInt32) (rest : List Arg) (lo hi : Option UInt32)
    (hold : FltOK old) (hraw : FltOK raw) (hloc : loc ≠ undoAddr)
    (hmn : bound atofF32 pm kMin = .ok lo) (hmx : bound atofF32 pm kMax = .ok hi)
    (hlo : ∀ l, lo = some l → FltOK l) (hhi : ∀ h, hi = some h → FltOK h) :
    ∃ new ev, fltCb pm loc old (.f raw :: rest) = .ok (new, ev) ∧
      new = limit fltOps lo hi raw ∧ FltOK new ∧
      decodeAll (undoReplies ev) = some (if new ≠ old then [⟨loc, 102, old, new⟩] else []) := by
  obtain ⟨new, ev, hres⟩ : ∃ new ev, fltCb pm loc old (.f raw :: rest) = .ok (new, ev) :=
    ⟨_, _, fltCb_set pm loc old rest rfl hmn hmx⟩
  have hsr := fltCb_set_result pm loc old raw new (.f raw) rest lo hi ev rfl hmn hmx hres
  have hok : FltOK new := hsr.1 ▸ limit_mem fltOps lo hi raw hraw hlo hhi
  have hue := undo_event_iff_changed_float pm loc old raw new (.f raw) rest lo hi ev rfl hloc hold.1 hraw.1
    hmn hmx (fun l hl => (hlo l hl).1) (fun h hh => (hhi h hh).1) hres
  refine ⟨new, ev, hres, hsr.1, hok, ?_⟩
  by_cases hc : new = old
  · rw [if_neg (by rw [hc]; simp)] at hue
    rw [undoReplies_of_undoEvents ev [] hue (by simp), hc]
    simp [decodeAll]
  · have hk : fKey new ≠ fKey old := fun h => hc (fKey_inj new old hok hold h)
    rw [if_pos hk] at hue
    rw [undoReplies_of_undoEvents ev _ hue (by simp [reply])]
    simp [decodeAll, decodeUndo, reply, payload, Arg.tag, hc]

theorem paramF_portSem (c : PStat) (h : PortOK c) (hk : c.port.kind = .paramF) : PortSem Stable ArgsOK c := by
  have hko := h.kind
  simp only [KindOK, hk] at hko
  obtain ⟨hmn, hmx, hlo, hhi⟩ := hko
  have htag : c.tag = 102 := by simp [PStat.tag, hk]
  have hsem := fun x raw rest (hx : FltOK x) (hraw : FltOK raw) =>
    fltCb_sem (pmOf c) c.loc x raw rest (fLo c) (fHi c) hx hraw h.notUndo hmn hmx hlo hhi
  refine scalar_portSem c h (by simp [PStat.undoable, hk]) (fun b => .flts [b])
    (fun b => FltOK b ∧ limit fltOps (fLo c) (fHi c) b = b) (fltCb (pmOf c) c.loc)
    (fun f => by simp only [Stable, hk]; exact stableF_iff _ _ _) ?_ (fun x => ⟨_, rfl⟩) ?_ ?_
  · intro x args new ev hr
    simp only [callback, h.blk, hk, rParamFCb, hr]; rfl
  · intro x a rest hx hargs
    simp only [ArgsOK, hk] at hargs
    obtain ⟨rest', b, he, hb⟩ := hargs.resolve_left (List.cons_ne_nil _ _)
    cases he
    obtain ⟨new, ev, hres, hnew, hok, hdec⟩ := hsem x b rest hx.1 hb
    exact ⟨new, ev, hres, ⟨hok, by rw [hnew, limit_idem _ fltOps_ordered.lt_irrefl]⟩, by rw [hdec, htag]; rfl⟩
  · intro x w hx hw
    obtain ⟨new, ev, hres, hnew, _, _⟩ := hsem x w [] hx.1 hw.1
    rw [hw.2] at hnew
    subst hnew
    exact ⟨.f new, ev, by rw [htag]; rfl, by rw [hk]; simp only [Arg.tag]; decide, hres⟩

theorem optCb_sem (ty : IntTy) (pm : Meta.Ptr) (loc : Bytes) (old raw : Int) (a : Arg) (rest : List Arg)
    (lo hi : Option Int) (harg : a = .i raw ∨ a = .c raw) (hraw : ty.InRange raw) (hold : ty.InRange old)
    (hloc : loc ≠ undoAddr)
    (hmn : bound atoi pm kMin = .ok lo) (hmx : bound atoi pm kMax = .ok hi)
    (hlo : ∀ l, lo = some l → ty.InRange l) (hhi : ∀ h, hi = some h → ty.InRange h) :
    ∃ new ev, optCb ty pm loc old (a :: rest) = .ok (new, ev) ∧
      new = limit intOps lo hi raw ∧ ty.InRange new ∧
      decodeAll (undoReplies ev) =
        some (if w32 new ≠ w32 old then [⟨loc, 105, w32 old, w32 new⟩] else []) := by
  obtain ⟨new, ev, hres⟩ : ∃ new ev, optCb ty pm loc old (a :: rest) = .ok (new, ev) :=
    ⟨_, _, optCb_int_set ty pm loc old rest harg hmn hmx⟩
  have hsr := optCb_int_result ty pm loc old raw new a rest lo hi ev harg hraw hmn hmx hlo hhi hres
  have hin : ty.InRange new := by rw [hsr.1]; exact limit_inRange ty lo hi raw hraw hlo hhi
  have h32o := (IntTy.sub_i32 ty).inRange hold
  have h32n := (IntTy.sub_i32 ty).inRange hin
  have hue := undo_event_iff_changed_option ty pm loc old raw new a rest lo hi ev harg hraw h32o hloc
    hmn hmx hlo hhi hres
  exact ⟨new, ev, hres, hsr.1, hin,
    decode_int_event Arg.i 105 (fun _ => rfl) (fun _ => rfl) loc old new ev h32o h32n hue⟩

theorem option_portSem (c : PStat) (h : PortOK c) (hk : c.port.kind = .option) : PortSem Stable ArgsOK c := by
  have hko := h.kind
  simp only [KindOK, hk] at hko
  obtain ⟨hmn, hmx, hlo, hhi⟩ := hko
  have htag : c.tag = 105 := by simp [PStat.tag, hk]
  have hsem := fun x raw a rest harg (hraw : c.port.ty.InRange raw) (hx : c.port.ty.InRange x) =>
    optCb_sem c.port.ty (pmOf c) c.loc x raw a rest (iLo c) (iHi c) harg hraw hx h.notUndo hmn hmx hlo hhi
  refine scalar_portSem c h (by simp [PStat.undoable, hk]) (fun x => .ints [x])
    (fun x => c.port.ty.InRange x ∧ limit intOps (iLo c) (iHi c) x = x) (optCb c.port.ty (pmOf c) c.loc)
    (fun f => by simp only [Stable, hk]; exact stableI_iff _ _ _ _) ?_ (fun x => ⟨_, rfl⟩) ?_ ?_
  · intro x args new ev hr
    simp only [callback, h.blk, hk, rOptionCb, hr]; rfl
  · intro x a rest hx hargs
    simp only [ArgsOK, hk] at hargs
    obtain ⟨a', rest', raw, he, harg, hraw⟩ := hargs.resolve_left (List.cons_ne_nil _ _)
    cases he
    obtain ⟨new, ev, hres, hnew, hin, hdec⟩ := hsem x raw a rest harg hraw hx.1
    exact ⟨new, ev, hres, ⟨hin, by rw [hnew, limit_idem _ intOps_ordered.lt_irrefl]⟩, by rw [hdec, htag]; rfl⟩
  · intro x w hx hw
    obtain ⟨new, ev, hres, hnew, _, _⟩ := hsem x w (.i w) [] (Or.inl rfl) hw.1 hx.1
    rw [hw.2] at hnew
    subst hnew
    refine ⟨.i new, ev, ?_, by rw [hk]; simp only [Arg.tag]; decide, hres⟩
    rw [htag]
    show some (Arg.i (s32 (w32 new))) = _
    rw [s32_w32 _ ((IntTy.sub_i32 _).inRange hw.1)]

/-! ### toggle ports (rToggle): no `rCAPPLY`, no `/undo_change` event -/

theorem toggle_portSem (c : PStat) (h : PortOK c) (hk : c.port.kind = .toggle) : PortSem Stable ArgsOK c := by
  have hun : c.undoable = false := by simp [PStat.undoable, hk]
  have hcb : ∀ x args new ev, rToggleCb c.loc x args = .ok (new, ev) →
      callback c.port c.loc c.path (.bools [x]) args = .ok (.bools [new], ev) := by
    intro x args new ev hr
    simp only [callback, h.blk, hk, hr]; rfl
  refine ⟨?_, (fun hu => by rw [hun] at hu; cases hu), (fun hu => by rw [hun] at hu; cases hu)⟩
  intro f args hf hargs
  simp only [Stable, hk] at hf
  obtain ⟨x, rfl⟩ := (stableT_iff _).mp hf
  rcases dispatch_cases c h (.bools [x]) args with hd | hd
  · exact Or.inl hd
  · right
    simp only [ArgsOK, hk] at hargs
    rcases hargs with rfl | ⟨a, rest, v, rfl, harg⟩
    · refine ⟨.bools [x], _, by rw [hd, hcb x [] x _ rfl], by simp only [Stable, hk]; exact hf, ?_⟩
      rw [undoReplies_query _ _ h.notUndo]
      simp [decodeAll, hun]
    · have hr := (stored_toggle c.loc x v a rest harg).1
      refine ⟨.bools [v], _, by rw [hd, hcb x _ v _ hr], by simp only [Stable, hk]; exact (stableT_iff _).mpr ⟨v, rfl⟩, ?_⟩
      by_cases hxv : x = v
      · simp [hxv, undoReplies, decodeAll, hun]
      · simp [hxv, undoReplies_bcast, decodeAll, hun]

theorem portSem_of_portOK (c : PStat) (h : PortOK c) : PortSem Stable ArgsOK c := by
  have hko := h.kind
  cases hk : c.port.kind with
  | param => exact param_portSem c h hk
  | paramI => exact paramI_portSem c h hk
  | paramF => exact paramF_portSem c h hk
  | option => exact option_portSem c h hk
  | toggle => exact toggle_portSem c h hk
  | _ => simp [KindOK, hk] at hko


/-- on the stable values of an undoable port the 4-byte encoding determines the field -/
theorem encFld_inj (c : PStat) (hu : c.undoable = true) (f g : Field) (hf : Stable c f) (hg : Stable c g)
    (h : encFld f = encFld g) : f = g := by
  have hint : ∀ f g, StableI c.port.ty (iLo c) (iHi c) f → StableI c.port.ty (iLo c) (iHi c) g →
      encFld f = encFld g → f = g := by
    intro f g hf hg h
    obtain ⟨x, rfl, hx, _⟩ := (stableI_iff _ _ _ _).mp hf
    obtain ⟨y, rfl, hy, _⟩ := (stableI_iff _ _ _ _).mp hg
    have := w32_inj x y ((IntTy.sub_i32 _).inRange hx) ((IntTy.sub_i32 _).inRange hy) h
    rw [this]
  cases hk : c.port.kind <;> simp only [Stable, hk] at hf hg <;> simp [PStat.undoable, hk] at hu
  · exact hint f g hf hg h
  · obtain ⟨x, rfl, _, _⟩ := (stableF_iff _ _ _).mp hf
    obtain ⟨y, rfl, _, _⟩ := (stableF_iff _ _ _).mp hg
    have : x = y := h
    rw [this]
  · exact hint f g hf hg h
  · exact hint f g hf hg h

theorem blk_of_isSome (c : PStat) (h : (Meta.container c.port.block).isSome = true) :
    Meta.container c.port.block = some (pmOf c) := by
  unfold pmOf
  cases hc : Meta.container c.port.block with
  | none => rw [hc] at h; cases h
  | some pm => rfl

theorem ok_of_toOption {ε α : Type} {e : Except ε α} {v : α} (h : e.toOption = some v) : e = .ok v := by
  cases e with
  | error _ => cases h
  | ok w => cases h; rfl

theorem iLo_ok (c : PStat) (v : Option Int) (h : (bound atoi (pmOf c) kMin).toOption = some v) :
    bound atoi (pmOf c) kMin = .ok (iLo c) ∧ iLo c = v := by
  have e : iLo c = v := by rw [iLo, ok_of_toOption h]
  exact ⟨e ▸ ok_of_toOption h, e⟩

theorem iHi_ok (c : PStat) (v : Option Int) (h : (bound atoi (pmOf c) kMax).toOption = some v) :
    bound atoi (pmOf c) kMax = .ok (iHi c) ∧ iHi c = v := by
  have e : iHi c = v := by rw [iHi, ok_of_toOption h]
  exact ⟨e ▸ ok_of_toOption h, e⟩

theorem fLo_ok (c : PStat) (v : Option UInt32) (h : (bound atofF32 (pmOf c) kMin).toOption = some v) :
    bound atofF32 (pmOf c) kMin = .ok (fLo c) ∧ fLo c = v := by
  have e : fLo c = v := by rw [fLo, ok_of_toOption h]
  exact ⟨e ▸ ok_of_toOption h, e⟩

theorem fHi_ok (c : PStat) (v : Option UInt32) (h : (bound atofF32 (pmOf c) kMax).toOption = some v) :
    bound atofF32 (pmOf c) kMax = .ok (fHi c) ∧ fHi c = v := by
  have e : fHi c = v := by rw [fHi, ok_of_toOption h]
  exact ⟨e ▸ ok_of_toOption h, e⟩

end Rtosc.Undo
