/-
  C11 — arrays: `[` blank, good arguments separated by white space, blank `]` is a good argument
  when the element types match the type of the first element (the checker's
  `arraytypes_match`).  The cells are the array header (element type of the last element, number
  of cells) followed by the cells of the elements.  Elements may be any good arguments — scalars
  in proved spellings, `nxA`, arrays again —, so nesting comes for free.
  Here: the elements (`ArrBody`, defined in `Pretty/C11LayoutSpec.lean` with the types `lastTy`, `skipTy`, `TypesOK`,
  `ElemTypesOK` and the text `arrText`) and the brackets around a body both element loops run over
  (`arg11_brackets`).
-/
import RtoscModel.Proofs.ScanList
import RtoscModel.Proofs.ScanTransfer
import RtoscModel.Proofs.PrettyTokArray
namespace Rtosc.Pretty.C11
open Rtosc Rtosc.Libc Rtosc.Pretty
open Rtosc.ArgVal (Cell)

theorem skipSpace_close (w rest : Bytes) (hw : AllWs w) : skipSpace (w ++ 93 :: rest) = 93 :: rest := by
  rw [skipSpace_append w _ hw]; exact Pretty.skipSpace_close rest

theorem sep_close (w rest : Bytes) (hw : AllWs w) : Sep (w ++ 93 :: rest) := by
  have hs := skipSpace_close w rest hw
  refine ⟨?_, by rw [hs]; simp, by rw [hs]; rfl⟩
  cases w with
  | nil => right; right; rfl
  | cons c r => right; left; simpa using hw c (by simp)

theorem lastTy_single (ty : UInt8) (t : Bytes) (cs : List Cell) (ty' : UInt8) (h : elemTy cs = .ok ty') :
    lastTy ty [(t, cs)] = ty' := by
  simp [lastTy, h]

theorem lastTy_cons (ty : UInt8) (p : Bytes × List Cell) (more : List (Bytes × List Cell)) (h : more ≠ []) :
    lastTy ty (p :: more) = lastTy ty more := by
  cases more with
  | nil => exact absurd rfl h
  | cons q r => cases p; rfl

/-- the start type only matters for the empty list -/
theorem lastTy_ne (a b : UInt8) : ∀ (more : List (Bytes × List Cell)), more ≠ [] → lastTy a more = lastTy b more := by
  intro more
  induction more with
  | nil => intro h; exact absurd rfl h
  | cons p r ih =>
    intro _
    cases r with
    | nil => cases p; rfl
    | cons q r' =>
      rw [lastTy_cons a p (q :: r') (by simp), lastTy_cons b p (q :: r') (by simp)]
      exact ih (by simp)

theorem skipTy_ne_zero {cs : List Cell} (h : cs ≠ []) : skipTy cs ≠ 0 := by
  obtain ⟨c, r, hc⟩ := List.exists_cons_of_ne_nil h
  simp only [skipTy, hc, List.headD_cons]
  exact Pretty.Cell.type_ne_zero c

/-- the array type after a turn of the checker's loop is recorded -/
theorem aty_step_ne {aty : UInt8} {cs : List Cell} (h : cs ≠ []) : (if aty = 0 then skipTy cs else aty) ≠ 0 := by
  by_cases ha : aty = 0
  · simp only [ha, ↓reduceIte]; exact skipTy_ne_zero h
  · simp only [ha, ↓reduceIte]; exact ha

/-- the first element of an array records the array type, the others are compared with it -/
theorem typesOK_tail {aty : UInt8} {p : Bytes × List Cell} {more : List (Bytes × List Cell)}
    (h : if aty = 0 then ElemTypesOK (p :: more) else TypesOK aty (p :: more)) :
    (aty = 0 ∨ arraytypesMatch aty (skipTy p.2) = true) ∧ TypesOK (if aty = 0 then skipTy p.2 else aty) more := by
  by_cases ha : aty = 0
  · simp only [ha, ↓reduceIte] at h ⊢
    exact ⟨Or.inl trivial, h⟩
  · simp only [ha, ↓reduceIte] at h ⊢
    exact ⟨Or.inr (h p (by simp)), fun q hq => h q (by simp [hq])⟩

theorem allCells_ne {tcs : List (Bytes × List Cell)} {body : Bytes} (h : ArrBody tcs body) (hne : tcs ≠ []) :
    allCells tcs ≠ [] := by
  cases h with
  | nil => exact absurd rfl hne
  | last t cs w ht _ => simpa [allCells] using ht.ne
  | cons t cs w more body ht _ _ _ _ => simp [allCells, ht.ne]

/-- the text `[`, blank, body, `]` is a good argument with the cells `cells` of the element type `ty`,
    once both element loops run over the body up to the closing bracket -/
theorem arg11_brackets (b0 body : Bytes) (cells : List Cell) (ty : UInt8) (hb0 : AllWs b0)
    (hsk : ∀ rest, skipSpace (body ++ 93 :: rest) = body ++ 93 :: rest)
    (hscan : ∀ (rest : Bytes) (fuel : Nat) (prev : List Cell), (arrText b0 body).length ≤ fuel →
      C11.scanArrayElems (C11.scanArgVal fuel) ((arrText b0 body ++ rest).length + 1) (body ++ 93 :: rest)
        (Cell.arr 32 0 :: prev) 0 true [] 32 = .ok (93 :: rest, cells, ty))
    (hskip : ∀ (rest : Bytes) (fuel : Nat), (arrText b0 body).length ≤ fuel →
      skipArrayElems (C11.skipNextPrintedArg fuel) ((arrText b0 body ++ rest).length + 1) (some (body ++ 93 :: rest))
        none 0 1 = .ok (some (93 :: rest), 1 + cells.length)) :
    Arg11 (arrText b0 body) (Cell.arr ty cells.length :: cells) := by
  have hstart : TokStart (arrText b0 body) := ⟨by simp [arrText], by simp only [arrText, hd_cons]; decide⟩
  have happ : ∀ rest, arrText b0 body ++ rest = 91 :: (b0 ++ (body ++ 93 :: rest)) := by
    intro rest; simp [arrText]
  have hsk0 : ∀ rest, skipSpace (b0 ++ (body ++ 93 :: rest)) = body ++ 93 :: rest := by
    intro rest
    rw [skipSpace_append b0 _ hb0, hsk]
  refine ⟨hstart, by simp, ?_, ⟨false, canPrecedeRange_arr _ _ _⟩, ⟨97, elemTy_arr _ _ _⟩, ?_, ?_⟩
  · unfold nextArgOffset
    have : ¬ ((cells.length : Int) < 0) := by omega
    simp [deref, bind, Except.bind, pure, Except.pure, this]
  · intro rest fuel prev ab fe hs hf
    have hloop := hscan rest fuel prev hf
    rw [happ, c11_scanArrayElems_eq] at hloop
    rw [C11.scanArgVal_value ab fe (happ rest ▸ scanValue_array _ _ prev (by rw [hsk0]; exact hloop))]
    exact finishArg_plain _ _ rest _ true prev ab fe hs
  · intro rest fuel ty' llhs fe ib hs hf
    refine ⟨⟨some rest, 1 + cells.length, 97⟩, ?_, rfl, by simp; omega, by simp [ArgVal.Cell.type, ArgVal.tyA]⟩
    have hloop := hskip rest fuel hf
    rw [happ] at hloop
    exact skipNext_plain llhs fe hs (happ rest ▸ skipValue_array _ _ ty' ib (by rw [hsk0]; exact hloop)) rfl

end Rtosc.Pretty.C11
