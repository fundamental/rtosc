/-
  C09 helper lemmas: a reported address against C05's model of `rtosc_match_path`.  `WName.toPat` is the
  table string, every expansion spells it, hence the matcher accepts it; `Reported` describes a pair of
  `enumerate` level by level along its index path.
-/
import RtoscModel.Proofs.WalkTree
import RtoscModel.Props.C05
namespace Rtosc.Walk
open Rtosc Rtosc.Path Rtosc.Match

theorem renderSegs_append (a b : List Seg) : renderSegs (a ++ b) = renderSegs a ++ renderSegs b := by
  induction a with
  | nil => rfl
  | cons s r ih => simp [renderSegs, ih]

theorem renderSegs_litSeg (t : Bytes) : renderSegs (litSeg t) = t := by
  cases t with
  | nil => rfl
  | cons c r => simp [litSeg, renderSegs, Seg.render]

theorem renderSegs_partSegs (ps : List (Bytes × Bytes)) : renderSegs (partSegs ps) = renderParts ps := by
  induction ps with
  | nil => rfl
  | cons p r ih =>
    obtain ⟨ds, t⟩ := p
    simp [partSegs, renderSegs, Seg.render, renderSegs_append, renderSegs_litSeg, ih, renderParts]

/-- the pattern C05 talks about is the string in the port table -/
theorem toPat_cstr (w : WName) : w.toPat.cstr = w.render ++ [0] := by
  obtain ⟨head, parts, slash, types⟩ := w
  cases slash <;>
    simp [Pat.cstr, Pat.render, WName.toPat, Pat.tail, renderSegs_append, renderSegs_litSeg,
      renderSegs_partSegs, WName.render, WName.body, slashIf]

theorem litSeg_wf {t : Bytes} (h : textOk t = true) : ∀ s ∈ litSeg t, s.wf = true := by
  intro s hs
  cases t with
  | nil => simp [litSeg] at hs
  | cons c r =>
    simp only [litSeg, List.isEmpty_cons, Bool.false_eq_true, ↓reduceIte, List.mem_singleton] at hs
    subst hs
    simpa [Seg.wf, textOk] using h

theorem numOk_wf {ds : Bytes} (h : numOk ds = true) : (Seg.enum ds).wf = true := by
  simpa [Seg.wf, numOk] using h

theorem lit_wf {t : Bytes} (h : textOk t = true) (hne : t ≠ []) : (Seg.lit t).wf = true := by
  cases t with
  | nil => exact absurd rfl hne
  | cons c r => simpa [Seg.wf, textOk] using h

theorem segsWf_parts (sub : Bool) : ∀ (ps : List (Bytes × Bytes)), partsOk ps = true →
    (sub = true ∨ ∀ p, ps.getLast? = some p → p.2.getLast? ≠ some 47) →
    segsWf sub (partSegs ps) = true := by
  intro ps
  induction ps with
  | nil => intros; rfl
  | cons p r ih =>
    obtain ⟨ds, t⟩ := p
    intro hok hlast
    obtain ⟨hnum, htext, htd, htr, hrest⟩ := partsOk_cons hok
    have hsub : (sub || decide (t.getLast? ≠ some 47)) = true ∨ r ≠ [] := by
      cases r with
      | cons _ _ => exact Or.inr (by simp)
      | nil =>
        left
        rcases hlast with h | h
        · simp [h]
        · have := h (ds, t) (by simp)
          simp [this]
    cases t with
    | nil =>
      have hr : r = [] := by
        rcases htr with h | h
        · exact absurd rfl h
        · exact h
      subst hr
      simp [partSegs, litSeg, segsWf, numOk_wf hnum]
    | cons c tr =>
      have hlw := lit_wf htext (by simp : c :: tr ≠ [])
      have hsd : (Seg.lit (c :: tr)).startsWithDigit = false := by simpa [Seg.startsWithDigit, startsWithDigit] using htd
      cases r with
      | nil =>
        rcases hsub with h | h
        · simp only [Bool.or_eq_true, decide_eq_true_eq] at h
          simp only [partSegs, litSeg, List.isEmpty_cons, Bool.false_eq_true, ↓reduceIte, List.append_nil,
            segsWf, numOk_wf hnum, hsd, Bool.not_false, Bool.and_self, hlw, Bool.true_and,
            Bool.or_eq_true, bne_iff_ne, ne_eq]
          rcases h with h | h
          · exact Or.inl h
          · exact Or.inr h
        · exact absurd rfl h
      | cons p' r' =>
        obtain ⟨ds', t'⟩ := p'
        have := ih hrest (by
          rcases hlast with h | h
          · exact Or.inl h
          · right; intro p hp; exact h p (by simpa [List.getLast?_cons_cons] using hp))
        simp only [partSegs] at this
        simp only [partSegs, litSeg, List.isEmpty_cons, Bool.false_eq_true, ↓reduceIte,
          List.cons_append, List.nil_append, segsWf, numOk_wf hnum, hsd, Bool.not_false, Bool.and_self, hlw,
          Bool.true_and]
        exact this

theorem typesOk_wf {ty : Option (List Bytes)} (h : typesOk ty = true) : typesWf ty = true := by
  cases ty with
  | none => rfl
  | some ts =>
    simp only [typesOk, Bool.and_eq_true] at h
    simp only [typesWf, Bool.and_eq_true]
    refine ⟨h.1, ?_⟩
    apply List.all_eq_true.mpr
    intro t ht
    apply List.all_eq_true.mpr
    intro c hc
    have := List.all_eq_true.mp (List.all_eq_true.mp h.2 t ht) c hc
    simp only [Bool.and_eq_true] at this
    exact this.1

theorem toPat_wf0 {w : WName} (h : w.ok = true) : w.toPat.WF0 := by
  obtain ⟨hhead, hparts, htypes⟩ := WName.ok_spec h
  have hl : w.slash = true ∨ w.lastText.getLast? ≠ some 47 := by
    simp only [WName.ok, Bool.and_eq_true, Bool.or_eq_true, bne_iff_ne, ne_eq] at h
    exact h.2
  have hps : segsWf w.slash (partSegs w.parts) = true := by
    apply segsWf_parts _ _ hparts
    rcases hl with h1 | h1
    · exact Or.inl h1
    · right
      intro p hp
      simpa [WName.lastText, hp] using h1
  simp only [Pat.WF0, Pat.wf0, WName.toPat, Bool.and_eq_true]
  refine ⟨?_, typesOk_wf htypes⟩
  cases hh : w.head with
  | nil => simpa [litSeg] using hps
  | cons c tr =>
    have hlw : (Seg.lit (c :: tr)).wf = true := lit_wf (by rw [← hh]; exact hhead) (by simp)
    cases hp : w.parts with
    | nil =>
      simp only [litSeg, List.isEmpty_cons, Bool.false_eq_true, ↓reduceIte, partSegs, List.append_nil, segsWf,
        hlw, Bool.true_and, Bool.or_eq_true, bne_iff_ne, ne_eq]
      rcases hl with h1 | h1
      · exact Or.inl h1
      · right; simpa [WName.lastText, hp, hh] using h1
    | cons p r =>
      obtain ⟨ds, t⟩ := p
      rw [hp] at hps
      have hps' : segsWf w.slash (Seg.enum ds :: (litSeg t ++ partSegs r)) = true := by
        simpa [partSegs] using hps
      show segsWf w.slash (litSeg (c :: tr) ++ partSegs ((ds, t) :: r)) = true
      have e : litSeg (c :: tr) ++ partSegs ((ds, t) :: r) = Seg.lit (c :: tr) :: Seg.enum ds :: (litSeg t ++ partSegs r) := by
        simp [litSeg, partSegs]
      rw [e]
      simp only [segsWf, hlw, Bool.true_and, Bool.and_true]
      exact hps'

theorem spells_litSeg (t : Bytes) {segs : List Seg} {a r : Bytes} (h : SpellsAll segs a r) :
    SpellsAll (litSeg t ++ segs) (t ++ a) r := by
  cases t with
  | nil => simpa [litSeg] using h
  | cons c tr => simpa [litSeg] using SpellsAll.lit (c :: tr) h

theorem spells_parts : ∀ (ps : List (Bytes × Bytes)) (a x : Bytes), partsOk ps = true →
    a ∈ expandParts ps → startsWithDigit x = false → SpellsAll (partSegs ps) (a ++ x) x := by
  intro ps
  induction ps with
  | nil =>
    intro a x _ ha _
    simp [expandParts] at ha
    subst ha
    exact SpellsAll.nil x
  | cons p r ih =>
    obtain ⟨ds, t⟩ := p
    intro a x hok ha hx
    obtain ⟨i, hi, a', ha', rfl⟩ := mem_expandParts_cons.mp ha
    have hsp := spells_litSeg t (ih a' x (partsOk_cons hok).rest ha' hx)
    have e : natDigits i ++ t ++ a' ++ x = natDigits i ++ (t ++ (a' ++ x)) := by simp
    rw [e]
    refine SpellsAll.enum ds (natDigits i) (natDigits_ne_nil i) (natDigits_digits i) ?_
      (by rw [decVal_natDigits]; exact hi) hsp
    intro c tl hc
    have hsd : startsWithDigit (t ++ (a' ++ x)) = false := by
      simpa only [List.append_assoc] using startsWithDigit_tail hok ha' hx
    rw [hc] at hsd
    simpa [startsWithDigit] using hsd

theorem litSeg_all {f : Seg → Bool} (t : Bytes) (h : f (.lit t) = true) : (litSeg t).all f = true := by
  cases t with
  | nil => rfl
  | cons c r => simp [litSeg, h]

theorem partSegs_all {f : Seg → Bool} (hf : ∀ ds, f (.enum ds) = true) : ∀ (ps : List (Bytes × Bytes)),
    (∀ p ∈ ps, f (.lit p.2) = true) → (partSegs ps).all f = true := by
  intro ps
  induction ps with
  | nil => intro _; rfl
  | cons p r ih =>
    obtain ⟨ds, t⟩ := p
    intro h
    simp only [partSegs, List.all_cons, List.all_append, hf, Bool.true_and, Bool.and_eq_true]
    exact ⟨litSeg_all t (h (ds, t) List.mem_cons_self), ih (fun p hp => h p (List.mem_cons_of_mem _ hp))⟩

theorem noAlts_toPat (w : WName) : ∀ s ∈ w.toPat.segs, ∀ as, s ≠ .alts as := by
  have h : w.toPat.segs.all (fun s => match s with | .alts _ => false | _ => true) = true := by
    simp only [WName.toPat, List.all_append, Bool.and_eq_true]
    exact ⟨litSeg_all _ rfl, partSegs_all (fun _ => rfl) _ (fun _ _ => rfl)⟩
  intro s hs as e
  subst e
  cases List.all_eq_true.mp h _ hs

theorem toPat_prefixFree (w : WName) : segsPrefixFree w.toPat.segs = true := by
  refine List.all_eq_true.mpr fun s hs => ?_
  cases s with
  | alts as => exact absurd rfl (noAlts_toPat w _ hs as)
  | _ => rfl

theorem spells_name (w : WName) (hok : w.ok = true) (a x : Bytes) (ha : a ∈ expandParts w.parts)
    (hx : startsWithDigit x = false) : SpellsAll w.toPat.segs (w.head ++ a ++ x) x := by
  obtain ⟨_, hparts, _⟩ := WName.ok_spec hok
  have := spells_litSeg w.head (spells_parts w.parts a x hparts ha hx)
  simpa [WName.toPat] using this

/-- `rtosc_match_path` on a sub-tree port and an address that continues behind its '/':
    accepted, `*path_end` is the rest -/
theorem path_sub (w : WName) (hok : w.ok = true) (hslash : w.slash = true) (a rest ex : Bytes)
    (ha : a ∈ expandParts w.parts) (hnul : NulFree (w.head ++ a ++ 47 :: rest))
    (hb : IdxBounded (w.head ++ a ++ 47 :: rest)) :
    Match.path (w.render ++ [0]) ((w.head ++ a ++ 47 :: rest) ++ 0 :: ex) =
      .ok (renderTypes w.types ++ [0], rest ++ 0 :: ex) := by
  have hsp := spells_name w hok a (47 :: rest) ha (startsWithDigit_slash rest)
  have hg := greedy_complete w.toPat.sub [] hsp (toPat_prefixFree w)
  rw [List.append_nil] at hg
  rw [← toPat_cstr, path_rendered_enum (toPat_wf0 hok) ex hnul (idxBounded_enumIdx _ hb), hg]
  simp [greedy, WName.toPat, hslash]

/-- … and on a leaf port and its whole address -/
theorem path_leaf (w : WName) (hok : w.ok = true) (a ex : Bytes)
    (ha : a ∈ expandParts w.parts) (hnul : NulFree (w.head ++ a ++ slashIf w.slash))
    (hb : IdxBounded (w.head ++ a ++ slashIf w.slash)) :
    Accepts w.render (w.head ++ a ++ slashIf w.slash) ex := by
  have hsp := spells_name w hok a (slashIf w.slash) ha (startsWithDigit_slashIf _)
  have hg := greedy_complete w.toPat.sub [] hsp (toPat_prefixFree w)
  rw [List.append_nil] at hg
  unfold Accepts
  rw [← toPat_cstr, path_rendered_enum (toPat_wf0 hok) ex hnul (idxBounded_enumIdx _ hb), hg]
  cases hs : w.slash <;> simp [greedy, WName.toPat, hs, slashIf]

theorem toPorts_getElem? (ts : List STree) (n : Nat) : (toPorts ts)[n]? = (ts[n]?).map STree.toPort := by
  induction ts generalizing n with
  | nil => simp [toPorts]
  | cons t r ih =>
    cases n with
    | zero => simp [toPorts]
    | succ n => simp [toPorts, ih]

theorem toPort_name (t : STree) : t.toPort.name = t.name.render := by
  cases t <;> simp [STree.toPort, STree.name, PortT.name]

theorem toPort_hasPorts_leaf (w : WName) (md : Option Bytes) : (STree.leaf w md).toPort.hasPorts = false := by
  simp [STree.toPort, PortT.hasPorts]

theorem toPort_sub (w : WName) (md : Option Bytes) (kids : List STree) :
    (STree.sub w md kids).toPort.hasPorts = true ∧ (STree.sub w md kids).toPort.children = toPorts kids := by
  simp [STree.toPort, PortT.hasPorts, PortT.children]

/-- what holds of a table row by row (`fl (t :: r) = (f t && fl r)`) holds of each of its rows -/
theorem rows_get {f : STree → Bool} {fl : List STree → Bool} (hcons : ∀ t r, fl (t :: r) = (f t && fl r))
    {ts : List STree} (h : fl ts = true) {n : Nat} {t : STree} (ht : ts[n]? = some t) : f t = true := by
  induction ts generalizing n with
  | nil => simp at ht
  | cons u r ih =>
    rw [hcons, Bool.and_eq_true] at h
    cases n with
    | zero => simp at ht; subst ht; exact h.1
    | succ n => simp at ht; exact ih h.2 ht

theorem wfList_get {ts : List STree} (h : wfList ts = true) {n : Nat} {t : STree} (ht : ts[n]? = some t) :
    t.wf = true :=
  rows_get (fl := wfList) (fun _ _ => by rw [wfList]) h ht

theorem wf_name_ok {t : STree} (h : t.wf = true) : t.name.ok = true := by
  cases t with
  | leaf w md => exact STree.wf_leaf.mp h
  | sub w md kids =>
    rw [STree.wf_sub] at h
    exact (WName.subOk_spec h.1).ok

theorem kidsApart_get {ts : List STree} (h : kidsApart ts) {n : Nat} {w : WName} {md : Option Bytes}
    {kids : List STree} (ht : ts[n]? = some (.sub w md kids)) : SiblingsApart kids := by
  induction ts generalizing n with
  | nil => simp at ht
  | cons u r ih =>
    cases n with
    | zero =>
      simp at ht; subst ht
      simp only [kidsApart] at h
      exact h.1
    | succ n =>
      simp at ht
      cases u with
      | leaf _ _ => simp only [kidsApart] at h; exact ih h ht
      | sub _ _ _ => simp only [kidsApart] at h; exact ih h.2 ht

theorem siblingsApart_spec {ts : List STree} (h : SiblingsApart ts) :
    (∀ (i j : Nat) (t u : STree), i ≠ j → ts[i]? = some t → ts[j]? = some u → Apart t.name u.name) ∧ kidsApart ts := by
  unfold SiblingsApart at h
  exact h

theorem other_rows_apart {tab : List STree} (hs : SiblingsApart tab) {n : Nat} {t : STree} (ht : tab[n]? = some t)
    {rel : Bytes} (hspec : PathSpec t.name.toPat rel) {j : Nat} {u : STree} (hj : j ≠ n) (hu : tab[j]? = some u) :
    ¬ PathSpec u.name.toPat rel :=
  fun h => (siblingsApart_spec hs).1 n j t u (Ne.symm hj) ht hu rel ⟨hspec, h⟩

/-- the rows of a table are gone through with a running index: what holds of rows `i0, i0+1, …`
    holds of the `n`-th of them, which has index `i0 + n` -/
theorem rows_iff {α : Type} {P : List α → Nat → Prop} {R : Nat → α → Prop} (hnil : ∀ i, ¬ P [] i)
    (hcons : ∀ t r i, P (t :: r) i ↔ R i t ∨ P r (i + 1)) :
    ∀ (ts : List α) (i0 : Nat), P ts i0 ↔ ∃ n t, ts[n]? = some t ∧ R (i0 + n) t := by
  intro ts
  induction ts with
  | nil => intro i0; simp [hnil]
  | cons u r ih =>
    intro i0
    rw [hcons, ih]
    constructor
    · rintro (h | ⟨n, t, h1, h2⟩)
      · exact ⟨0, u, rfl, h⟩
      · exact ⟨n + 1, t, h1, by rwa [Nat.add_assoc, Nat.add_comm 1] at h2⟩
    · rintro ⟨n, t, h1, h2⟩
      cases n with
      | zero => cases h1; exact Or.inl h2
      | succ n => exact Or.inr ⟨n, t, h1, by rwa [Nat.add_assoc, Nat.add_comm 1]⟩

theorem mem_enumList (pre : Bytes) (path : List Nat) (c : Call) : ∀ (ts : List STree) (i0 : Nat),
    c ∈ enumList pre path ts i0 ↔ ∃ n t, ts[n]? = some t ∧ c ∈ enumTree pre (path ++ [i0 + n]) t :=
  rows_iff (P := fun ts i => c ∈ enumList pre path ts i) (R := fun i t => c ∈ enumTree pre (path ++ [i]) t)
    (fun _ h => nomatch h) (fun _ _ _ => by rw [enumList, List.mem_append])

/-- a member of `enumerate` behind the table's address, described along its index path `n :: ixr`:
    at every level the row, the expansion of its name that was taken, and what follows -/
inductive Reported : List STree → Nat → List Nat → Bytes → Prop
  | leaf {tab : List STree} {n : Nat} {w : WName} {md : Option Bytes} {a : Bytes} :
      tab[n]? = some (.leaf w md) → a ∈ expandParts w.parts →
      Reported tab n [] (w.head ++ a ++ slashIf w.slash)
  | sub {tab : List STree} {n : Nat} {w : WName} {md : Option Bytes} {kids : List STree} {a : Bytes}
      {m : Nat} {ixr : List Nat} {rel : Bytes} :
      tab[n]? = some (.sub w md kids) → a ∈ expandParts w.parts → Reported kids m ixr rel →
      Reported tab n (m :: ixr) (w.head ++ a ++ 47 :: rel)

/-- what row `n` of `tab` contributes to the enumeration, whatever index path `ixp` it is given -/
theorem reported_tree : ∀ (t : STree) (tab : List STree) (n : Nat) (pre : Bytes) (ixp ix : List Nat)
    (addr : Bytes), tab[n]? = some t → (ix, addr) ∈ enumTree pre ixp t →
    ∃ ixr rel, ix = ixp ++ ixr ∧ addr = pre ++ rel ∧ Reported tab n ixr rel := by
  intro t
  induction t using STree.induction_mem with
  | leaf w md =>
    intro tab n pre ixp ix addr ht h
    simp only [enumTree, List.mem_map, Prod.mk.injEq] at h
    obtain ⟨a, ha, rfl, rfl⟩ := h
    exact ⟨[], _, (List.append_nil _).symm, by simp only [List.append_assoc], .leaf ht ha⟩
  | sub w md kids ih =>
    intro tab n pre ixp ix addr ht h
    simp only [enumTree, List.mem_flatMap] at h
    obtain ⟨a, ha, h⟩ := h
    obtain ⟨m, t', hm, h⟩ := (mem_enumList _ _ _ kids 0).mp h
    rw [Nat.zero_add] at h
    obtain ⟨ixr, rel, rfl, rfl, hr⟩ := ih t' (List.mem_of_getElem? hm) kids m _ _ ix addr hm h
    exact ⟨m :: ixr, w.head ++ a ++ 47 :: rel, by simp only [List.append_assoc, List.cons_append, List.nil_append],
      by simp only [List.append_assoc, List.cons_append, List.nil_append], .sub ht ha hr⟩

theorem reported_of_mem {ts : List STree} {pre : Bytes} {ix : List Nat} {addr : Bytes}
    (h : (ix, addr) ∈ enumerate ts pre) :
    ∃ n ixr rel, ix = n :: ixr ∧ addr = pre ++ rel ∧ Reported ts n ixr rel := by
  obtain ⟨n, t, hn, h⟩ := (mem_enumList pre [] _ ts 0).mp h
  rw [Nat.zero_add] at h
  exact ⟨n, reported_tree t ts n pre [n] ix addr hn h⟩

/-- a leaf row a reported pair ends in: its name is well formed and spells the address -/
theorem leaf_row {tab : List STree} {n : Nat} {w : WName} {md : Option Bytes} {a : Bytes}
    (ht : tab[n]? = some (.leaf w md)) (ha : a ∈ expandParts w.parts) (hwf : wfList tab = true) :
    w.ok = true ∧ PathSpec (STree.leaf w md).name.toPat (w.head ++ a ++ slashIf w.slash) := by
  have hok : w.ok = true := wf_name_ok (wfList_get hwf ht)
  refine ⟨hok, slashIf w.slash, spells_name w hok a _ ha (startsWithDigit_slashIf _), ?_⟩
  cases hsl : w.slash <;> simp [WName.toPat, STree.name, hsl, slashIf]

/-- a sub-tree row a reported pair goes through, `rel` being what follows its '/' -/
theorem sub_row {only : Bool} {tab : List STree} {n : Nat} {w : WName} {md : Option Bytes} {kids : List STree}
    {a : Bytes} (ht : tab[n]? = some (.sub w md kids)) (ha : a ∈ expandParts w.parts) (hwf : wfList tab = true)
    (hs : only = true → SiblingsApart tab) (rel : Bytes) :
    w.subOk = true ∧ wfList kids = true ∧ (only = true → SiblingsApart kids) ∧
      PathSpec (STree.sub w md kids).name.toPat (w.head ++ a ++ 47 :: rel) := by
  have hwft := wfList_get hwf ht
  rw [STree.wf_sub] at hwft
  obtain ⟨hok, _, hslash, _⟩ := WName.subOk_spec hwft.1
  exact ⟨hwft.1, hwft.2, fun ho => kidsApart_get (siblingsApart_spec (hs ho)).2 ht, 47 :: rel,
    spells_name w hok a _ ha (startsWithDigit_slash rel), by simp [WName.toPat, STree.name, hslash]⟩

theorem Reported.nulFree {tab : List STree} {n : Nat} {ixr : List Nat} {rel : Bytes} (h : Reported tab n ixr rel)
    (hwf : wfList tab = true) : NulFree rel := by
  induction h with
  | @leaf _ _ w md a ht ha =>
    exact NulFree.append (name_nulfree (wf_name_ok (wfList_get hwf ht)) ha) (nulFree_slashIf _)
  | @sub _ _ w md kids a m ixr rel ht ha _ ih =>
    have hwft := wfList_get hwf ht
    have hna := name_nulfree (wf_name_ok hwft) ha
    rw [STree.wf_sub] at hwft
    exact NulFree.append hna (NulFree.append nulFree_slash (ih hwft.2))

/-- the "no other row accepts" half, from `Apart` -/
theorem no_other (only : Bool) (ex : Bytes) (tab : List STree) (n : Nat) (t : STree) (rel : Bytes)
    (ht : tab[n]? = some t) (hwf : wfList tab = true) (hs : only = true → SiblingsApart tab)
    (hspec : PathSpec t.name.toPat rel) (hnul : NulFree rel) (hb : IdxBounded rel) :
    only = true → ∀ j q, j ≠ n → (toPorts tab)[j]? = some q → ¬ Accepts q.name rel ex := by
  intro ho j q hj hq hacc
  rw [toPorts_getElem?] at hq
  cases hu : tab[j]? with
  | none => simp [hu] at hq
  | some u =>
    simp only [hu, Option.map_some, Option.some.injEq] at hq
    subst hq
    rw [toPort_name] at hacc
    have huok := wf_name_ok (wfList_get hwf hu)
    have hm : PathMatches u.name.toPat.cstr (rel ++ 0 :: ex) := by
      rw [toPat_cstr]; exact hacc
    exact other_rows_apart (hs ho) ht hspec hj hu (match_sound (toPat_wf0 huok) ex hnul hb hm)

theorem nulFree_append_left {a b : Bytes} (h : NulFree (a ++ b)) : NulFree a :=
  fun c hc => h c (List.mem_append_left _ hc)

theorem Reported.delivers (only : Bool) (ex : Bytes) {tab : List STree} {n : Nat} {ixr : List Nat} {rel : Bytes}
    (h : Reported tab n ixr rel) (hwf : wfList tab = true) (hs : only = true → SiblingsApart tab)
    (hb : IdxBounded rel) : Delivers only ex (n :: ixr) (toPorts tab) rel := by
  induction h with
  | @leaf tab n w md a ht ha =>
    obtain ⟨hok, hspec⟩ := leaf_row ht ha hwf
    have hnul := (Reported.leaf ht ha).nulFree hwf
    refine ⟨(STree.leaf w md).toPort, by simp [toPorts_getElem?, ht], toPort_hasPorts_leaf w md, ?_,
      no_other only ex tab n _ _ ht hwf hs hspec hnul hb⟩
    rw [toPort_name]; exact path_leaf w hok a ex ha hnul hb
  | @sub tab n w md kids a m ixr rel ht ha hr ih =>
    obtain ⟨hsub, hwfk, hsk, hspec⟩ := sub_row ht ha hwf hs rel
    have hnul := (Reported.sub ht ha hr).nulFree hwf
    have hb' : IdxBounded rel := IdxBounded.suffix (x := [47]) hb.suffix
    refine ⟨(STree.sub w md kids).toPort, renderTypes w.types ++ [0], rel, by simp [toPorts_getElem?, ht],
      (toPort_sub w md kids).1, ?_, no_other only ex tab n _ _ ht hwf hs hspec hnul hb, ?_⟩
    · rw [toPort_name]; exact path_sub w (WName.subOk_spec hsub).ok (WName.subOk_spec hsub).slash a rel ex ha hnul hb
    · rw [(toPort_sub w md kids).2]
      exact ih hwfk hsk hb'

theorem delivers_tree (only : Bool) (ex : Bytes) : ∀ (t : STree) (tab : List STree) (n : Nat) (pre : Bytes)
    (path ix : List Nat) (addr : Bytes), tab[n]? = some t → wfList tab = true →
    (only = true → SiblingsApart tab) → (ix, addr) ∈ enumTree pre (path ++ [n]) t →
    ∃ ixr rel, ix = path ++ n :: ixr ∧ addr = pre ++ rel ∧ NulFree rel ∧
      (IdxBounded rel → Delivers only ex (n :: ixr) (toPorts tab) rel) := by
  intro t tab n pre path ix addr ht hwf hs h
  obtain ⟨ixr, rel, h1, h2, hr⟩ := reported_tree t tab n pre _ ix addr ht h
  exact ⟨ixr, rel, by rw [h1, List.append_assoc]; rfl, h2, hr.nulFree hwf, hr.delivers only ex hwf hs⟩

theorem head_prefix {w : WName} {a : Bytes} (h : PathSpec w.toPat a) : w.head <+: a := by
  obtain ⟨rest, hsp, _⟩ := h
  cases hh : w.head with
  | nil => exact List.nil_prefix
  | cons c tr =>
    simp only [WName.toPat, hh, litSeg, List.isEmpty_cons, Bool.false_eq_true, ↓reduceIte,
      List.singleton_append] at hsp
    cases hsp with
    | lit s _ => exact List.prefix_append _ _

theorem apart_of_heads {w v : WName} (h : headsApart w v = true) : Apart w v := by
  intro a ⟨h1, h2⟩
  simp only [headsApart, Bool.and_eq_true, Bool.not_eq_eq_eq_not, Bool.not_true] at h
  have p1 := head_prefix h1
  have p2 := head_prefix h2
  rcases Nat.le_total w.head.length v.head.length with hl | hl
  · have := List.isPrefixOf_iff_prefix.mpr (List.prefix_of_prefix_length_le p1 p2 hl)
    rw [this] at h; exact absurd h.1 (by simp)
  · have := List.isPrefixOf_iff_prefix.mpr (List.prefix_of_prefix_length_le p2 p1 hl)
    rw [this] at h; exact absurd h.2 (by simp)

mutual
theorem codeList_eq_enumList : ∀ (ts : List STree) (pre : Bytes) (path : List Nat) (i : Nat),
    multiHashLeafList ts = false → codeList pre path ts i = enumList pre path ts i
  | [], _, _, _, _ => rfl
  | t :: r, pre, path, i, h => by
    simp only [multiHashLeafList, Bool.or_eq_false_iff] at h
    simp only [codeList, enumList, codeTree_eq_enumTree t pre (path ++ [i]) h.1, codeList_eq_enumList r pre path (i + 1) h.2]
theorem codeTree_eq_enumTree : ∀ (t : STree) (pre : Bytes) (ix : List Nat),
    t.multiHashLeaf = false → codeTree pre ix t = enumTree pre ix t
  | .leaf w md, pre, ix, h => by
    simp only [STree.multiHashLeaf, decide_eq_false_iff_not, Nat.not_le] at h
    simp only [codeTree, enumTree, expandFirst_eq_expandParts w.parts (by omega)]
  | .sub w md kids, pre, ix, h => by
    simp only [STree.multiHashLeaf] at h
    simp only [codeTree, enumTree]
    congr 1
    funext a
    exact codeList_eq_enumList kids _ ix 0 h
end

theorem length_flatMap_const {α β : Type} (l : List α) (f : α → List β) (c : Nat) (h : ∀ a ∈ l, (f a).length = c) :
    (l.flatMap f).length = l.length * c := by
  induction l with
  | nil => simp
  | cons x r ih =>
    simp only [List.flatMap_cons, List.length_append, List.length_cons, h x List.mem_cons_self,
      ih (fun a ha => h a (List.mem_cons_of_mem _ ha))]
    rw [Nat.add_mul, Nat.one_mul, Nat.add_comm]

theorem expandParts_length (ps : List (Bytes × Bytes)) : (expandParts ps).length = partsCount ps := by
  induction ps with
  | nil => rfl
  | cons p r ih =>
    obtain ⟨ds, t⟩ := p
    simp only [expandParts, partsCount]
    rw [length_flatMap_const _ _ (partsCount r) (by intro i _; simp [ih])]
    simp

mutual
theorem enumList_length : ∀ (ts : List STree) (pre : Bytes) (path : List Nat) (i : Nat),
    (enumList pre path ts i).length = countList ts
  | [], _, _, _ => rfl
  | t :: r, pre, path, i => by
    simp only [enumList, countList, List.length_append, enumTree_length t pre (path ++ [i]), enumList_length r pre path (i + 1)]
theorem enumTree_length : ∀ (t : STree) (pre : Bytes) (ix : List Nat), (enumTree pre ix t).length = countTree t
  | .leaf w md, pre, ix => by simp [enumTree, countTree, expandParts_length]
  | .sub w md kids, pre, ix => by
    simp only [enumTree, countTree]
    rw [length_flatMap_const _ _ (countList kids) (fun a _ => enumList_length kids _ ix 0), expandParts_length]
end

end Rtosc.Walk
