/-
  C12 — reachable states satisfy `App.Inv` (`inv_reachable`): it holds in a fresh instance and `setParam`,
  `dispatch`, `run` keep it.  What a dispatch does behind the address look-up is an `Outcome`, decided by what the
  port reads (`outcome`); `dispatchAt` runs it.
-/
import RtoscModel.Proofs.SaveFrame
import RtoscModel.Proofs.SaveStorable

namespace Rtosc.Save

namespace App
variable {app : App}

theorem inv_setParam (hwf : app.WF) (s : State) (hs : app.Inv s) (i : Nat) (hi : i < app.size)
    (v : Val) (hv : Storable (app.param i).kind v) (hg : guardsOn (app.param i) s = true) :
    app.Inv (app.setParam i v s) := by
  have hQ : app.Local fun k t => Storable (app.param k).kind (t k) ∧
      (guardsOn (app.param k) t = false → t k = (app.param k).canon) := by
    intro k hk s t e ha h
    rw [← e, ← guardsOn_frame hwf hk s t ha]; exact h
  have h := setParam_pointwise hwf hQ hi v s (fun k hk _ => ⟨hs.storable k hk, hs.hidden_canon k hk⟩)
    (fun t ht ha => ⟨ht ▸ hv, fun hf => by rw [guardsOn_frame hwf hi t s ha, hg] at hf; cases hf⟩)
    (fun k hd t ht => ⟨ht ▸ storable_expected hwf ((mem_desc app).mp hd).1 t,
      fun hf => by rw [ht]; unfold expected; rw [hf]; rfl⟩)
  exact ⟨fun j hj => (h j hj).1, fun j hj => (h j hj).2,
    fun j hj => by rw [setParam_not_wr app i v s (not_wr_outside hi hj)]; exact hs.outside j hj⟩

end App

theorem inv_init (app : App) (hwf : app.WF) : app.Inv app.init := by
  refine ⟨?_, fun _ _ _ => rfl, fun _ _ => rfl⟩
  intro i hi
  show Storable _ (app.param i).canon
  rw [hwf.canon_ok i hi]
  exact App.storable_evalDflt hwf hi _

namespace App

/-- the outcome of `dispatchAt` is decided by what the port reads: no match, matched without a change, or a
    `setParam` -/
inductive Outcome where
  | miss
  | same
  | set (v : Val)

def outcome (app : App) (i : Nat) (args : List Val) (s : State) : Outcome :=
  let p := app.param i
  if ptrOff p s then .miss
  else match args with
    | [] => .same
    | v :: rest =>
      if !rest.isEmpty && !lastAlt p.kind v then .miss
      else match store p.kind v with
      | none => .miss
      | some v' => if guardsOn p s then .set v' else .same

def Outcome.run (app : App) (i : Nat) (s : State) : Outcome → Option State
  | .miss => none
  | .same => some s
  | .set v => some (app.setParam i v s)

/-- the part of `dispatch` behind the address look-up -/
def dispatchAt (app : App) (i : Nat) (args : List Val) (s : State) : Option State :=
  (app.outcome i args s).run app i s

theorem dispatch_eq (app : App) (addr : Path) (args : List Val) (s : State) :
    app.dispatch addr args s = (app.findAddr addr).bind fun i => app.dispatchAt i args s := by
  unfold dispatch
  cases app.findAddr addr with
  | none => rfl
  | some i =>
    simp only [Option.bind_some]
    unfold dispatchAt outcome
    simp only
    by_cases hp : ptrOff (app.param i) s = true
    · rw [if_pos hp, if_pos hp]; rfl
    · rw [if_neg hp, if_neg hp]
      match args with
      | [] => rfl
      | v :: rest =>
        simp only
        by_cases hl : (!rest.isEmpty && !lastAlt (app.param i).kind v) = true
        · rw [if_pos hl, if_pos hl]; rfl
        · rw [if_neg hl, if_neg hl]
          cases store (app.param i).kind v with
          | none => rfl
          | some v' =>
            simp only
            by_cases hg : guardsOn (app.param i) s = true
            · rw [if_pos hg, if_pos hg]; rfl
            · rw [if_neg hg, if_neg hg]; rfl

end App

theorem inv_dispatch (app : App) (hwf : app.WF) (s s' : State) (hs : app.Inv s) (addr : Path)
    (args : List Val) (h : app.dispatch addr args s = some s') : app.Inv s' := by
  rw [App.dispatch_eq] at h
  cases hf : app.findAddr addr with
  | none => rw [hf] at h; cases h
  | some i =>
    rw [hf, Option.bind_some] at h
    have hi := (App.findAddr_some app hf).1
    revert h
    unfold App.dispatchAt
    fun_cases App.outcome app i args s <;> intro h <;> simp only [App.Outcome.run, Option.some.injEq, reduceCtorEq] at h <;> subst h
    · exact hs
    · exact App.inv_setParam hwf s hs i hi _ (storable_of_store _ (hwf.kind_ok i hi) _ _ ‹_›) ‹_›
    · exact hs

theorem inv_run (app : App) (hwf : app.WF) (msgs : List (Path × List Val)) (s : State)
    (hs : app.Inv s) : app.Inv (app.run msgs s) := by
  induction msgs generalizing s with
  | nil => exact hs
  | cons m r ih =>
    show app.Inv (app.run r ((app.dispatch m.1 m.2 s).getD s))
    apply ih
    cases hd : app.dispatch m.1 m.2 s with
    | none => exact hs
    | some s' => exact inv_dispatch app hwf s s' hs _ _ hd

theorem inv_reachable (app : App) (hwf : app.WF) (s : State) (h : app.Reachable s) : app.Inv s := by
  obtain ⟨msgs, rfl⟩ := h
  exact inv_run app hwf msgs _ (inv_init app hwf)

end Rtosc.Save
