/-
  C09 helper lemmas: the gates of the walk with a runtime object on trees *with* "enabled by"
  properties, the whole pruning clause.  No buffer here: `absList` (Proofs/WalkRuntime.lean) is shown
  to be `fullList`, and `walk_abs` carries that to the walk.
-/
import RtoscModel.Proofs.WalkRuntime
import RtoscModel.Props.C18
import RtoscModel.Walk.PropsSpec
namespace Rtosc.Walk
open Rtosc Rtosc.Path Rtosc.Match

theorem foldl_stackStep_plain : ∀ (cs st : List Bytes), (∀ c ∈ cs, c ≠ DOTDOT) →
    cs.foldl stackStep st = cs.reverse ++ st
  | [], st, _ => by simp
  | c :: r, st, h => by
    have hc : c ≠ DOTDOT := h c List.mem_cons_self
    simp only [List.foldl_cons, stackStep, hc, ↓reduceIte]
    rw [foldl_stackStep_plain r (c :: st) (fun x hx => h x (List.mem_cons_of_mem _ hx))]
    simp

theorem cancel_plain (cs : List Bytes) (h : ∀ c ∈ cs, c ≠ DOTDOT) : cancel cs = cs := by
  simp [cancel, foldl_stackStep_plain cs [] h]

theorem cancel_dotdot (cs es : List Bytes) (x : Bytes) (h : ∀ c ∈ cs, c ≠ DOTDOT) (hx : x ≠ DOTDOT)
    (he : ∀ c ∈ es, c ≠ DOTDOT) : cancel (cs ++ [x, DOTDOT] ++ es) = cs ++ es := by
  simp only [cancel, List.foldl_append, foldl_stackStep_plain cs [] h, List.foldl_cons, List.foldl_nil,
    stackStep, hx, ↓reduceIte, List.drop_one, List.tail_cons, List.append_nil]
  rw [foldl_stackStep_plain es _ he]
  simp

theorem compWF_dotdot : CompWF DOTDOT := by
  intro x hx
  simp only [DOTDOT, DOT, List.mem_cons, List.not_mem_nil, or_false, or_self] at hx
  subst hx
  exact ⟨by decide, by decide⟩

theorem render_snoc (cs : List Bytes) (c : Bytes) : render (cs ++ [c]) = render cs ++ 47 :: c := by
  rw [render_append, render_cons]
  simp [render, SLASH]

theorem render_nil : render [] = [] := rfl

/-- `collapsePath(pre ++ x ++ "/../" ++ rel)`, `rel` the relative path of the ordinary components
    `fs`: `x` and the ".." cancel -/
theorem collapse_dotdot (cs fs : List Bytes) (x rel : Bytes) (hcs : ∀ c ∈ cs, CompOk c) (hx : CompOk x)
    (hfs : ∀ c ∈ fs, CompOk c) (hrel : render fs = 47 :: rel) :
    ∃ off, collapseStr (render cs ++ [47] ++ x ++ [47] ++ DOTDOTSLASH ++ rel ++ [0]) =
      some (off, render (cs ++ fs)) := by
  have hstr : render cs ++ [47] ++ x ++ [47] ++ DOTDOTSLASH ++ rel = render (cs ++ [x, DOTDOT] ++ fs) := by
    rw [render_append, render_append, render_cons, render_cons, render_nil, hrel]
    simp [SLASH, DOTDOTSLASH, DOTDOT, DOT]
  have hall : ∀ c ∈ cs ++ [x, DOTDOT] ++ fs, CompWF c := by
    intro c hc
    rcases List.mem_append.mp hc with h | h
    · rcases List.mem_append.mp h with h | h
      · exact (hcs c h).1
      · simp only [List.mem_cons, List.not_mem_nil, or_false] at h
        rcases h with rfl | rfl
        · exact hx.1
        · exact compWF_dotdot
    · exact (hfs c h).1
  have h := collapse_eq_spec (cs ++ [x, DOTDOT] ++ fs) [] hall
  rw [cancel_dotdot cs fs x (fun c hc => (hcs c hc).2) hx.2 (fun c hc => (hfs c hc).2)] at h
  rw [hstr, h]
  exact ⟨_, rfl⟩

/-- a table's own toggle: `collapsePath(pre ++ ep)` leaves the address as it is -/
theorem collapse_self (cs : List Bytes) (ep : Bytes) (hcs : ∀ c ∈ cs, CompOk c) (hep : CompOk ep) :
    ∃ off, collapseStr (render cs ++ [47] ++ [] ++ ep ++ [0]) = some (off, render cs ++ [47] ++ ep) := by
  have hall : ∀ c ∈ cs ++ [ep], CompOk c := List.forall_mem_append.mpr ⟨hcs, List.forall_mem_singleton.mpr hep⟩
  have h := collapse_eq_spec (cs ++ [ep]) [] (fun c hc => (hall c hc).1)
  rw [cancel_plain _ (fun c hc => (hall c hc).2), render_snoc] at h
  exact ⟨_, by simpa using h⟩

/-- a sibling toggle: `collapsePath(pre ++ x ++ "/../" ++ ep)` -/
theorem collapse_sibling (cs : List Bytes) (x ep : Bytes) (hcs : ∀ c ∈ cs, CompOk c) (hx : CompOk x) (hep : CompOk ep) :
    ∃ off, collapseStr (render cs ++ [47] ++ x ++ [47] ++ DOTDOTSLASH ++ ep ++ [0]) = some (off, render cs ++ [47] ++ ep) := by
  obtain ⟨off, h⟩ := collapse_dotdot cs [ep] x ep hcs hx (by simpa using hep) (by simp [render, SLASH])
  exact ⟨off, by simpa [render_snoc] using h⟩

/-- a toggle of the sub-tree itself: `collapsePath(pre ++ x ++ "/../" ++ h ++ "/" ++ t)` -/
theorem collapse_inner (cs : List Bytes) (x h t : Bytes) (hcs : ∀ c ∈ cs, CompOk c) (hx : CompOk x) (hh : CompOk h)
    (ht : CompOk t) :
    ∃ off, collapseStr (render cs ++ [47] ++ x ++ [47] ++ DOTDOTSLASH ++ (h ++ 47 :: t) ++ [0]) =
      some (off, render cs ++ [47] ++ h ++ [47] ++ t) := by
  obtain ⟨off, hc⟩ := collapse_dotdot cs [h, t] x (h ++ 47 :: t) hcs hx (by
    intro c hc
    simp only [List.mem_cons, List.not_mem_nil, or_false] at hc
    rcases hc with rfl | rfl
    · exact hh
    · exact ht) (by simp [render, SLASH])
  exact ⟨off, by simpa [render_append, render_cons, render_nil, SLASH, List.append_assoc] using hc⟩

theorem guardOf_some {md : Option Bytes} {ep : Bytes} (h : guardOf md = some ep) :
    ∃ m, Meta.portMeta md = some m ∧ Meta.lookup m ENABLED_BY = some (some ep) := by
  simp only [guardOf] at h
  cases hm : Meta.portMeta md with
  | none => simp [hm] at h
  | some m =>
    simp only [hm] at h
    cases hl : Meta.lookup m ENABLED_BY with
    | none => simp [hl] at h
    | some v =>
      cases v with
      | none => simp [hl] at h
      | some e => simp only [hl, Option.some.injEq] at h; subst h; exact ⟨m, rfl, hl⟩

/-- an "enabled by" value without '/' never denotes a port inside the guarded sub-tree -/
theorem subportScan_flat : ∀ (n e : Bytes), (∀ c ∈ e, c ≠ 47) → (subportScan n e).1 = false
  | [], e, _ => by unfold subportScan; rfl
  | c :: nr, [], _ => by unfold subportScan; rfl
  | c :: nr, d :: er, h => by
    unfold subportScan
    by_cases hc : c = d ∧ c ≠ 47
    · show (if c = d ∧ c ≠ 47 then subportScan nr er else (decide (c = 47 ∧ d = 47), d :: er)).1 = false
      rw [if_pos hc]
      exact subportScan_flat nr er (fun x hx => h x (List.mem_cons_of_mem _ hx))
    · have hd : d ≠ 47 := h d List.mem_cons_self
      simp [hc, hd]

/-- `name/port`: the first component of the guard is the first component of the port's name -/
theorem subportScan_inner : ∀ (h x t : Bytes), (∀ c ∈ h, c ≠ 47) →
    subportScan (h ++ 47 :: x) (h ++ 47 :: t) = (true, 47 :: t)
  | [], x, t, _ => by unfold subportScan; simp
  | c :: r, x, t, hh => by
    have hc : c ≠ 47 := hh c List.mem_cons_self
    unfold subportScan
    simp only [List.cons_append, hc, ne_eq, not_false_eq_true, and_self, ↓reduceIte]
    exact subportScan_inner r x t (fun y hy => hh y (List.mem_cons_of_mem _ hy))

theorem portIsEnabled_toggle (i : Nat) (p : PortT) (b : Buf) (base : List PortT) (path : List Nat)
    (obj : Obj) (rel : Bool) (portRt : Option Obj) (mptr : Meta.Ptr) (ep loc collapsed : Bytes) (off k : Nat)
    (ask : PortT) (v : Bool)
    (hm : Meta.portMeta p.metadata = some mptr) (hl : Meta.lookup mptr ENABLED_BY = some (some ep))
    (hsub : (subportScan p.name ep).1 = false) (hk : index base ep = some k) (hask : base[k]? = some ask)
    (hloc : cstrAt b 0 = .ok loc)
    (hcol : collapseStr (loc ++ (if rel then DOTDOTSLASH else []) ++ ep ++ [0]) = some (off, collapsed))
    (hv : obj.toggle (lit ask.name) = some v) :
    portIsEnabled (some (i, p)) b base path (some obj) rel portRt =
      .ok (v, if !v && !rel then [(path ++ [k], collapsed)] else []) := by
  have hs : subportScan p.name ep = (false, (subportScan p.name ep).2) := by
    rw [← hsub]
  simp only [portIsEnabled, hm, hl]
  rw [hs]
  simp only [Bool.false_eq_true, ↓reduceIte, hk, hask, hloc, hcol, hv, Bool.false_or]
  cases v <;> cases rel <;> rfl

theorem portIsEnabled_subport_toggle (i : Nat) (p : PortT) (b : Buf) (base : List PortT) (path : List Nat)
    (obj child : Obj) (mptr : Meta.Ptr) (ep e loc collapsed : Bytes) (off j k : Nat) (q ask : PortT) (v : Bool)
    (hm : Meta.portMeta p.metadata = some mptr) (hl : Meta.lookup mptr ENABLED_BY = some (some ep))
    (hsub : subportScan p.name ep = (true, e)) (hj : index base p.name = some j) (hq : base[j]? = some q)
    (hqp : q.hasPorts = true) (hk : index q.children (e.drop 1) = some k) (hask : q.children[k]? = some ask)
    (hloc : cstrAt b 0 = .ok loc)
    (hcol : collapseStr (loc ++ DOTDOTSLASH ++ ep ++ [0]) = some (off, collapsed))
    (hv : child.toggle (lit ask.name) = some v) :
    portIsEnabled (some (i, p)) b base path (some obj) true (some child) =
      .ok (v, if !v then [(path ++ [j] ++ [k], collapsed)] else []) := by
  simp only [portIsEnabled, hm, hl, hsub, ↓reduceIte, hj, hq, hqp, hk, hask, hloc, hcol, Option.getD_some, hv,
    Bool.true_or]
  cases v <;> rfl

/-- a port guarded by a toggle `ep` of the table `base` it stands in, the table's address `pre`: the `self:` port
    (`rel = false`, the buffer holds `pre`; a toggle that answers false is reported under its own address) or a
    sub-tree port `x/` (`rel = true`, the buffer holds `pre ++ x ++ "/"`; nothing is reported).  The toggle is asked on
    the table's object. -/
theorem portIsEnabled_flat (i : Nat) (p : PortT) (b : Buf) (base : List PortT) (path : List Nat) (obj : Obj)
    (rel : Bool) (portRt : Option Obj) (pre x ep : Bytes) (k : Nat) (ask : PortT) (v : Bool)
    (hg : guardOf p.metadata = some ep)
    (hk : index base ep = some k) (hask : base[k]? = some ask) (hlit : lit ask.name = ep)
    (hv : obj.toggle ep = some v) (hloc : cstrAt b 0 = .ok (if rel then pre ++ x ++ [47] else pre))
    (hpp : PathPrefix pre) (hx : rel = true → CompOk x) (hep : CompOk ep) :
    portIsEnabled (some (i, p)) b base path (some obj) rel portRt =
      .ok (v, if !v && !rel then [(path ++ [k], pre ++ ep)] else []) := by
  obtain ⟨m, hm, hl⟩ := guardOf_some hg
  obtain ⟨cs, hcs, rfl⟩ := hpp
  have hflat := subportScan_flat p.name ep fun c hc => (hep.1 c hc).2
  cases rel with
  | false =>
    obtain ⟨off, hcol⟩ := collapse_self cs ep hcs hep
    exact portIsEnabled_toggle i p b base path obj false portRt m ep _ _ off k ask v hm hl hflat hk hask hloc hcol
      (hlit ▸ hv)
  | true =>
    obtain ⟨off, hcol⟩ := collapse_sibling cs x ep hcs (hx rfl) hep
    rw [portIsEnabled_toggle i p b base path obj true portRt m ep _ _ off k ask v hm hl hflat hk hask hloc hcol
      (hlit ▸ hv)]

/-- a sub-tree port `h/` guarded by `h/t`, a toggle of its own table: asked on the sub-tree's
    object; if it answers false it is reported under its own address -/
theorem portIsEnabled_inner (i : Nat) (h ty : Bytes) (md : Option Bytes) (sub : List PortT) (b : Buf)
    (base : List PortT) (path : List Nat) (obj child : Obj) (pre t : Bytes) (k : Nat) (ask : PortT) (v : Bool)
    (hg : guardOf md = some (h ++ 47 :: t))
    (hj : index base (h ++ 47 :: ty) = some i) (hq : base[i]? = some (.mk (h ++ 47 :: ty) md true sub))
    (hk : index sub t = some k) (hask : sub[k]? = some ask) (hlit : lit ask.name = t)
    (hv : child.toggle t = some v) (hloc : cstrAt b 0 = .ok (pre ++ h ++ [47]))
    (hpp : PathPrefix pre) (hh : CompOk h) (ht : CompOk t) :
    portIsEnabled (some (i, .mk (h ++ 47 :: ty) md true sub)) b base path (some obj) true (some child) =
      .ok (v, if v then [] else [(path ++ [i] ++ [k], pre ++ h ++ [47] ++ t)]) := by
  obtain ⟨m, hm, hl⟩ := guardOf_some hg
  obtain ⟨cs, hcs, rfl⟩ := hpp
  obtain ⟨off, hcol⟩ := collapse_inner cs h h t hcs hh hh ht
  rw [portIsEnabled_subport_toggle i (.mk (h ++ 47 :: ty) md true sub) b base path obj child m _ (47 :: t) _ _ off
    i k (.mk (h ++ 47 :: ty) md true sub) ask v hm hl (subportScan_inner h ty t fun c hc => (hh.1 c hc).2) hj hq rfl
    hk hask hloc hcol (hlit ▸ hv)]
  cases v <;> rfl

theorem compOk_of_B {c : Bytes} (h : compOkB c = true) : CompOk c := by
  simp only [compOkB, Bool.and_eq_true, List.all_eq_true, bne_iff_ne, ne_eq] at h
  exact ⟨fun x hx => ⟨(h.1 x hx).1, (h.1 x hx).2⟩, h.2⟩

theorem unguarded_guardOf {md : Option Bytes} (h : unguarded md = true) : guardOf md = none := by
  obtain ⟨m, hm, hl⟩ := unguarded_spec h
  simp [guardOf, hm, hl]

theorem metaOk_cases {md : Option Bytes} (h : metaOk md = true) :
    unguarded md = true ∨ ∃ ep, guardOf md = some ep := by
  simp only [metaOk, Bool.or_eq_true] at h
  rcases h with h | h
  · exact Or.inl h
  · right
    cases hg : guardOf md with
    | none => simp [hg] at h
    | some ep => exact ⟨ep, rfl⟩

theorem toggleOk_spec {tab : List PortT} {obj : Obj} {ep : Bytes} (h : toggleOk tab obj ep = true) :
    CompOk ep ∧ ∃ k ask v, index tab ep = some k ∧ tab[k]? = some ask ∧ lit ask.name = ep ∧ obj.toggle ep = some v := by
  simp only [toggleOk, Bool.and_eq_true] at h
  refine ⟨compOk_of_B h.1, ?_⟩
  cases hk : index tab ep with
  | none => simp [hk] at h
  | some k =>
    cases ha : tab[k]? with
    | none => simp [hk, ha] at h
    | some ask =>
      simp only [hk, ha, Bool.and_eq_true, beq_iff_eq] at h
      cases hv : obj.toggle ep with
      | none => simp [hv] at h
      | some v => exact ⟨k, ask, v, rfl, ha, h.2.1, rfl⟩

theorem expandParts_flat : ∀ (ps : List (Bytes × Bytes)), (∀ p ∈ ps, ∀ c ∈ p.2, c ≠ 47) →
    ∀ a ∈ expandParts ps, ∀ c ∈ a, c ≠ 47
  | [], _, a, ha, c, hc => by rw [expandParts_nil_mem.mp ha] at hc; exact nomatch hc
  | (ds, t) :: r, h, a, ha, c, hc => by
    obtain ⟨i, _, b, hb, rfl⟩ := mem_expandParts_cons.mp ha
    simp only [List.mem_append] at hc
    rcases hc with (hc | hc) | hc
    · exact digit_ne (natDigits_digits i c hc) (by decide)
    · exact h _ List.mem_cons_self c hc
    · exact expandParts_flat r (fun p hp => h p (List.mem_cons_of_mem _ hp)) b hb c hc

theorem expandParts_head_digit : ∀ (ps : List (Bytes × Bytes)) (a : Bytes), a ∈ expandParts ps →
    a = [] ∨ ∃ d r, a = d :: r ∧ Match.isDigit d = true
  | [], a, ha => by rw [expandParts_nil_mem] at ha; exact Or.inl ha
  | (ds, t) :: r, a, ha => by
    obtain ⟨i, _, b, _, rfl⟩ := mem_expandParts_cons.mp ha
    right
    cases hn : natDigits i with
    | nil => exact absurd hn (natDigits_ne_nil i)
    | cons d q =>
      refine ⟨d, q ++ t ++ b, by simp, ?_⟩
      exact natDigits_digits i d (by rw [hn]; exact List.mem_cons_self)

/-- the one path component a sub-tree port adds to the address -/
theorem flat_comp {w : WName} (hflat : flatName w = true) (hok : w.ok = true)
    {a : Bytes} (ha : a ∈ expandParts w.parts) : CompOk (w.head ++ a) := by
  simp only [flatName, Bool.and_eq_true, List.all_eq_true, bne_iff_ne, ne_eq] at hflat
  refine ⟨?_, ?_⟩
  · intro c hc
    refine ⟨name_nulfree hok ha c hc, ?_⟩
    rcases List.mem_append.mp hc with h | h
    · exact hflat.1.1 c h
    · exact expandParts_flat w.parts hflat.1.2 a ha c h
  · intro he
    rcases expandParts_head_digit w.parts a ha with rfl | ⟨d, r, rfl, hd⟩
    · exact hflat.2 (by simpa using he)
    · -- the digit `d` would be one of the two '.'
      have hm : d ∈ DOTDOT := he ▸ List.mem_append_right _ List.mem_cons_self
      simp only [DOTDOT, DOT, List.mem_cons, List.not_mem_nil, or_false, or_self] at hm
      exact absurd (hm ▸ hd) (by decide)

theorem render_snoc_slash (cs : List Bytes) (c : Bytes) : render cs ++ [47] ++ c ++ [47] = render (cs ++ [c]) ++ [47] := by
  rw [render_snoc]; simp

theorem PathPrefix.nulFree {pre : Bytes} (h : PathPrefix pre) : NulFree pre := by
  obtain ⟨cs, hcs, rfl⟩ := h
  exact NulFree.append (render_no_nul cs (fun c hc => (hcs c hc).1)) nulFree_slash

/-- the address of a sub-table -/
theorem PathPrefix.snoc {pre x : Bytes} (h : PathPrefix pre) (hx : CompOk x) : PathPrefix (pre ++ x ++ [47]) := by
  obtain ⟨cs, hcs, rfl⟩ := h
  exact ⟨cs ++ [x], List.forall_mem_append.mpr ⟨hcs, List.forall_mem_singleton.mpr hx⟩, render_snoc_slash cs x⟩

/-- the test of a table's own `self:` port with the table's address in the buffer, in front of the
    rows: what `tableGate` says -/
theorem selfGate (tab : List PortT) (path : List Nat) (c : Obj) (pre : Bytes) (body : List Call)
    (hpp : PathPrefix pre) (hself : selfOk tab c = true) :
    absTable tab pre path (some c) (.ok body) = .ok (tableGate tab path pre (some c) body) := by
  have hloc := cstrAt_zero pre [] hpp.nulFree
  simp only [selfOk] at hself
  simp only [absTable, tableGate, selfRow]
  cases hi : index tab SELF with
  | none => simp [portIsEnabled, gated]
  | some j =>
    cases hj : tab[j]? with
    | none => simp [portIsEnabled, hj, gated]
    | some sp =>
      simp only [hi, Option.bind_some, hj, Bool.and_eq_true] at hself
      simp only [Option.bind_some, hj, Option.map_some]
      rcases metaOk_cases hself.1 with hu | ⟨ep, hg⟩
      · simp [portIsEnabled_unguarded j sp _ _ _ _ _ _ hu, unguarded_guardOf hu, gated]
      · simp only [hg] at hself
        obtain ⟨hep, k, ask, v, hk, hask, hlit, hv⟩ := toggleOk_spec hself.2
        rw [portIsEnabled_flat j sp _ tab path c false none pre [] ep k ask v hg hk hask hlit hv hloc hpp nofun hep]
        simp only [hg, hv, hk]
        cases v <;> simp [gated]

/-- what the pruning clause says about one concrete address `Q = pre ++ rel` of a sub-tree port: the body
    of the sub-tree case of `fullTree` (Walk/Spec.lean) with the address as a variable (`fullTree_sub`), so
    that the statements about one gate need not carry `pre ++ w.head ++ a ++ [47]` at every occurrence -/
def subBody (obj : Obj) (w : WName) (md : Option Bytes) (kids : List STree) (ix : List Nat) (Q rel : Bytes) : List Call :=
  match obj.kid rel with
  | some (some c) =>
    let below := tableGate (toPorts kids) ix Q (some c) (fullList Q ix (some c) kids 0)
    match guardOf md with
    | none => below
    | some ep =>
      let (sub, e) := subportScan w.render ep
      if sub then
        if c.toggle (e.drop 1) == some true then below
        else match index (toPorts kids) (e.drop 1) with
          | some k => [(ix ++ [k], Q ++ e.drop 1)]
          | none => []
      else if obj.toggle ep == some true then below else []
  | _ => []

theorem fullTree_sub (pre : Bytes) (ix : List Nat) (obj : Obj) (w : WName) (md : Option Bytes) (kids : List STree) :
    fullTree pre ix (some obj) (.sub w md kids) =
      (expandParts w.parts).flatMap fun a => subBody obj w md kids ix (pre ++ w.head ++ a ++ [47]) (w.head ++ a ++ [47]) := by
  simp only [fullTree, subBody]
  congr 1

/-- the "enabled by" test of a sub-tree port whose child object is `c`, with the sub-tree's address
    in the buffer: what it answers and reports is what `subBody` says -/
theorem subGate (base : List PortT) (path : List Nat) (obj c : Obj) (i : Nat) (w : WName) (md : Option Bytes)
    (kids : List STree) (pre a Q : Bytes) (b : Buf)
    (hw : w.subOk = true) (ha : a ∈ expandParts w.parts) (hnm : CompOk (w.head ++ a)) (hpp : PathPrefix pre)
    (hmeta : metaOk md = true) (hsg : subGuardOk base obj i w md (toPorts kids) c = true)
    (hrow : base[i]? = some (STree.sub w md kids).toPort)
    (hkid : obj.kid (w.head ++ a ++ [47]) = some (some c))
    (hQ : Q = pre ++ w.head ++ a ++ [47]) (hloc : cstrAt b 0 = .ok Q) :
    ∃ en ex, portIsEnabled (some (i, (STree.sub w md kids).toPort)) b base path (some obj) true (some c) =
        .ok (en, ex) ∧
      subBody obj w md kids (path ++ [i]) Q (w.head ++ a ++ [47]) =
        (if en then ex ++ tableGate (toPorts kids) (path ++ [i]) Q (some c) (fullList Q (path ++ [i]) (some c) kids 0)
        else ex) := by
  subst hQ
  rw [STree.toPort] at hrow
  simp only [subBody, hkid, STree.toPort]
  rcases metaOk_cases hmeta with hu | ⟨ep, hgd⟩
  · exact ⟨true, [], portIsEnabled_unguarded i _ _ base path (some obj) true (some c) hu,
      by simp [unguarded_guardOf hu]⟩
  · simp only [subGuardOk, hgd] at hsg
    by_cases hsl : ep.contains 47 = true
    · -- `name/port`: the name has no '#', the guard is `head/t`
      simp only [hsl, ↓reduceIte, Bool.and_eq_true, List.isEmpty_iff, beq_iff_eq] at hsg
      obtain ⟨⟨⟨hp0, hidx⟩, htake⟩, htog⟩ := hsg
      have hep : ep = w.head ++ 47 :: ep.drop (w.head.length + 1) := by
        have := List.take_append_drop (w.head.length + 1) ep
        rw [htake] at this
        simpa using this.symm
      generalize ep.drop (w.head.length + 1) = t at htog hep
      subst hep
      obtain ⟨hct, kk, ask, v, hkk, hask, hlit, hv⟩ := toggleOk_spec htog
      obtain rfl : a = [] := by rw [hp0] at ha; exact expandParts_nil_mem.mp ha
      have hren : w.render = w.head ++ 47 :: renderTypes w.types := by
        rw [WName.render_sub (WName.subOk_spec hw).slash, hp0, renderParts, List.append_nil]
      rw [hren] at hidx hrow ⊢
      rw [List.append_nil] at hnm hloc ⊢
      refine ⟨v, _, portIsEnabled_inner i w.head (renderTypes w.types) md (toPorts kids) _ base path obj c pre t kk ask v
        hgd hidx hrow hkk hask hlit hv hloc hpp hnm hct, ?_⟩
      simp only [hgd, subportScan_inner w.head _ t (fun c hc => (hnm.1 c hc).2), ↓reduceIte, List.drop_one,
        List.tail_cons, hv, hkk]
      cases v <;> simp
    · -- a toggle of the table that contains the port
      simp only [hsl, Bool.false_eq_true, ↓reduceIte] at hsg
      obtain ⟨hce, kk, ask, v, hkk, hask, hlit, hv⟩ := toggleOk_spec hsg
      refine ⟨v, [], ?_, ?_⟩
      · refine (portIsEnabled_flat i _ _ base path obj true (some c) pre (w.head ++ a) ep kk ask v
          ?_ hkk hask hlit hv (by rw [hloc, List.append_assoc pre]; rfl) hpp (fun _ => hnm) hce).trans ?_
        · exact hgd
        · cases v <;> rfl
      have hscan : subportScan w.render ep = (false, (subportScan w.render ep).2) := by
        rw [← subportScan_flat w.render ep (fun c hc => (hce.1 c hc).2)]
      simp only [hgd]
      rw [hscan]
      simp only [Bool.false_eq_true, ↓reduceIte, hv]
      cases v <;> simp

/-- under `guardsTree`, on a tree whose leaves have at most one '#', the calls are those of the
    pruning clause; `base` is the table the port is row `i` of: `port_is_enabled` looks the guard
    up there -/
theorem abs_full :
    (∀ (t : STree) (base : List PortT) (path : List Nat) (obj : Obj) (i : Nat) (pre : Bytes),
      t.wf = true → t.multiHashLeaf = false → guardsTree base obj i t = true → base[i]? = some t.toPort →
      PathPrefix pre → absTree base pre path (some obj) i t = .ok (fullTree pre (path ++ [i]) (some obj) t)) ∧
    (∀ (ts : List STree) (base : List PortT) (path : List Nat) (obj : Obj) (i : Nat) (pre : Bytes),
      wfList ts = true → multiHashLeafList ts = false → guardsList base obj ts i = true → base.drop i = toPorts ts →
      PathPrefix pre → absList base pre path (some obj) ts i = .ok (fullList pre path (some obj) ts i)) := by
  apply STree.induction
  · intro w md base path obj i pre _ hmh _ _ _
    have hle : w.parts.length ≤ 1 := by
      simp only [STree.multiHashLeaf, decide_eq_false_iff_not] at hmh
      omega
    simp only [absTree, codeTree, fullTree, expandFirst_eq_expandParts w.parts hle]
  · intro w md kids ih base path obj i pre hwf hmh hg hrow hpp
    rw [STree.wf_sub] at hwf
    simp only [STree.multiHashLeaf] at hmh
    simp only [guardsTree, Bool.and_eq_true, List.all_eq_true] at hg
    obtain ⟨⟨hflat, hmeta⟩, hkids⟩ := hg
    rw [absTree, fullTree_sub]
    refine flatMapM_of fun a ha => ?_
    have hnm : CompOk (w.head ++ a) := flat_comp hflat (WName.subOk_spec hwf.1).ok ha
    have eQ : pre ++ w.head ++ a ++ [47] = pre ++ (w.head ++ a) ++ [47] := by rw [List.append_assoc pre]
    have hpp' : PathPrefix (pre ++ w.head ++ a ++ [47]) := eQ ▸ hpp.snoc hnm
    have hd := hkids a ha
    simp only [gateAt]
    cases hkid : obj.kid (w.head ++ a ++ [47]) with
    | none => rw [hkid] at hd; cases hd
    | some v =>
      cases v with
      | none => simp only [subBody, hkid]
      | some c =>
        simp only [hkid, Bool.and_eq_true] at hd
        obtain ⟨⟨hsg, hself⟩, hgk⟩ := hd
        obtain ⟨en, ex, hen, hcalls⟩ := subGate base path obj c i w md kids pre a _ _ hwf.1 ha hnm hpp hmeta hsg hrow
          hkid rfl (cstrAt_zero _ [] hpp'.nulFree)
        dsimp only
        rw [hen, hcalls]
        cases en with
        | false => rfl
        | true =>
          simp only [↓reduceIte, ih (toPorts kids) (path ++ [i]) c 0 _ hwf.2 hmh hgk List.drop_zero hpp',
            selfGate (toPorts kids) (path ++ [i]) c _ _ hpp' hself]
          rfl
  · intro base path obj i pre _ _ _ _ _
    rfl
  · intro t r iht ihr base path obj i pre hwf hmh hg hbase hpp
    simp only [wfList, Bool.and_eq_true] at hwf
    simp only [multiHashLeafList, Bool.or_eq_false_iff] at hmh
    simp only [guardsList, Bool.and_eq_true] at hg
    rw [toPorts] at hbase
    have hrow := getElem?_of_drop hbase
    have hrest := drop_succ_of_drop_cons hbase
    rw [absList, fullList, iht base path obj i pre hwf.1 hmh.1 hg.1 hrow hpp,
      ihr base path obj (i + 1) pre hwf.2 hmh.2 hg.2 hrest hpp]

theorem walkPort_full : ∀ (t : STree) (base : List PortT) (path : List Nat) (obj : Obj) (i : Nat)
    (cs : List Bytes) (J : Buf), t.wf = true → t.multiHashLeaf = false →
    guardsTree base obj i t = true → base[i]? = some t.toPort → (∀ c ∈ cs, CompOk c) →
    t.need ≤ J.length → (render cs ++ [47]).length + t.need + 10 ≤ SCRATCH →
    ∃ s J', NulFree s ∧
      walkPort {} base path (some obj) (render cs ++ [47]).length i t.toPort ((render cs ++ [47]) ++ 0 :: J) =
        .ok (fullTree (render cs ++ [47]) (path ++ [i]) (some obj) t, (render cs ++ [47]) ++ s ++ 0 :: J') ∧
      s.length + J'.length = J.length :=
  fun t base path obj i cs J hwf hmh hg hrow hcs hcap hlen =>
    walkPort_abs t base path (some obj) i _ J _ hwf (PathPrefix.nulFree ⟨cs, hcs, rfl⟩) hcap (fun _ => hlen)
      (abs_full.1 t base path obj i _ hwf hmh hg hrow ⟨cs, hcs, rfl⟩)

end Rtosc.Walk
