/-
  C11 — a text of pieces separated by gaps, once for the four loops (the two list loops, the two element
  loops of an array) and for every layout (`ArgsLay`, `ArrBody`, `LayR`, `ArrR`, a leading range with `Follow`).

  `Piece K ctx t cs o`: the text `t` is one piece with the cells `cs` in the left context `ctx` — a good argument,
  a provider, or a range — and offers `o` to what follows (`none`: nothing is known, no range may follow).
  `Piece.scan` / `Piece.skip`: what ONE call of `rtosc_scan_arg_val` / `rtosc_skip_next_printed_arg` does on a piece,
  and that the loop invariant (`SInv` / `CInv`) holds behind it; the loops never look inside a piece again.
  `K` says whether ranges may still occur: only then the cells written so far must keep `TailOK` (the scanner's
  look at `arg[-3]`), and only then the invariants are carried.  `K` can be given up along a text and not
  regained: it is `True` throughout for `LayR` / `ArrR`, `False` throughout for `ArgsLay` / `ArrBody` (whose
  arguments are not known to keep `TailOK`), and `True` for the first piece only in a leading range with `Follow`.
-/
import RtoscModel.Proofs.ScanRangeArr
namespace Rtosc.Pretty.C11
open Rtosc Rtosc.Libc Rtosc.Pretty
open Rtosc.ArgVal (Cell)

/-- the context behind a piece that offers `o` and is followed by the gaps `g` -/
def nextCtx (t : Bytes) (g : List Gap) (cs : List Cell) : Option (Option Int) → Ctx
  | none => .any
  | some nb => .after t g cs nb

inductive Piece (K : Prop) : Ctx → Bytes → List Cell → Option (Option Int) → Prop
  | arg (ctx : Ctx) (t : Bytes) (cs : List Cell) : Arg11 t cs → Piece K ctx t cs none
  | prov (ctx : Ctx) (t : Bytes) (cs : List Cell) (nb : Option Int) : K → Arg11 t cs → Prov t cs nb →
      Piece K ctx t cs (some nb)
  | range (ctx : Ctx) (x z : Int) (w1 w2 : Bytes) : K → ctx ≠ .any → RangeOK ctx.nb x z → AllWs w1 → w1 ≠ [] →
      AllWs w2 → Piece K ctx (rangeTok x z w1 w2) (rangeCellsNb ctx.nb x z) (some (some z))

theorem Piece.start {K : Prop} {ctx : Ctx} {t : Bytes} {cs : List Cell} {o : Option (Option Int)} (h : Piece K ctx t cs o) :
    TokStart t := by
  cases h with
  | arg _ _ ht => exact ht.start
  | prov _ _ _ _ ht _ => exact ht.start
  | range x z w1 w2 _ _ hr _ _ _ => exact rangeTok_tokStart x z hr.hx1 hr.hx2 w1 w2

theorem Piece.cells_pos {K : Prop} {ctx : Ctx} {t : Bytes} {cs : List Cell} {o : Option (Option Int)}
    (h : Piece K ctx t cs o) : 0 < cs.length := by
  cases h with
  | arg _ _ ht => exact ht.length_pos
  | prov _ _ _ _ ht _ => exact ht.length_pos
  | range x z w1 w2 _ _ hr _ _ _ => simp [rangeCellsNb]

/-- **one call of the scanner on a piece**: the cells, what the two loops compute from them, and the
    invariant behind the piece (the invariant is only kept where ranges take part) -/
theorem Piece.scan {K : Prop} {ctx : Ctx} {t : Bytes} {cs : List Cell} {o : Option (Option Int)} (h : Piece K ctx t cs o)
    {done : List Cell} {pok : Bool} (hinv : K → SInv ctx done pok) (extra : List Cell) (rest : Bytes) (f : Nat)
    (hs : Sep rest) (hf : t.length ≤ f + 1) :
    C11.scanArgVal (f + 2) (t ++ rest) (done.reverse ++ extra) (if pok then done.length else 0) true = .ok (t.length, cs) ∧
    nextArgOffset (cs.length + 1) cs = .ok cs.length ∧
    ∃ b ty, canPrecedeRange cs = .ok b ∧ elemTy cs = .ok ty ∧ ∀ g, K → TailKeep cs → SInv (nextCtx t g cs o) (done ++ cs) b := by
  cases h with
  | arg _ _ ht =>
    obtain ⟨b, hb⟩ := ht.cpr
    obtain ⟨ty, hty⟩ := ht.ety
    exact ⟨ht.scan rest (f + 1) _ _ true hs hf, ht.off, b, ty, hb, hty, fun _ k hnd => ⟨hnd _ (hinv k).1, trivial⟩⟩
  | prov _ _ nb k ht hp =>
    obtain ⟨b, hb⟩ := ht.cpr
    obtain ⟨ty, hty⟩ := ht.ety
    exact ⟨ht.scan rest (f + 1) _ _ true hs hf, ht.off, b, ty, hb, hty,
      fun _ _ hnd => ⟨hnd _ (hinv k).1, hp, done, rfl, (hinv k).1, hb⟩⟩
  | range x z w1 w2 k hctx hr hw1 hne hw2 =>
    exact ⟨scan_rangeHead ctx hctx x z hr w1 w2 rest hw1 hne hw2 hs done pok (hinv k) extra f, off_rangeCells _ _ _,
      true, 105, cpr_rangeCells _ _ _, ety_rangeCells _ _ _,
      fun _ _ hnd => ⟨hnd _ (hinv k).1, Prov.range ctx.nb x z w1 w2 hr hw1 hne hw2, done, rfl, (hinv k).1,
        cpr_rangeCells _ _ _⟩⟩

/-- **one call of the checker on a piece** -/
theorem Piece.skip {K : Prop} {ctx : Ctx} {t : Bytes} {cs : List Cell} {o : Option (Option Int)} (h : Piece K ctx t cs o)
    {recent : Option Bytes} (rest : Bytes) (F : Nat) (ty : UInt8) (ib : Bool) (hs : Sep rest) (hf : t.length ≤ F + 1)
    (hinv : K → CInvF ctx recent (t ++ rest) (F + 1)) :
    ∃ r, C11.skipNextPrintedArg (F + 2) (t ++ rest) ty recent true ib = .ok r ∧ r.src = some rest ∧
      r.skipped = cs.length ∧ r.type = skipTy cs := by
  cases h with
  | arg _ _ ht => exact ht.skip rest (F + 1) ty recent true ib hs hf
  | prov _ _ nb k ht hp => exact ht.skip rest (F + 1) ty recent true ib hs hf
  | range x z w1 w2 k hctx hr hw1 hne hw2 =>
    have := rangeTok_length_ge x z hr.hx1 hr.hx2 w1 w2 hne
    obtain ⟨f, rfl⟩ : ∃ f, F = f + 1 := ⟨F - 1, by omega⟩
    exact ⟨_, skip_rangeHead ctx hctx x z hr w1 w2 rest hw1 hne hw2 hs recent f ty ib (hinv k), rfl, rfl,
      (skipTy_rangeCells _ _ _).symm⟩

theorem Piece.cinv {K : Prop} {ctx : Ctx} {t : Bytes} {cs : List Cell} {o : Option (Option Int)} (h : Piece K ctx t cs o)
    {g : List Gap} (hg : SepGaps g) (text : Bytes) :
    CInv (nextCtx t g cs o) (some (t ++ (gapsBytes g ++ text))) text := by
  cases h with
  | arg _ _ ht => trivial
  | prov _ _ nb k ht hp => exact ⟨hp, hg, rfl⟩
  | range x z w1 w2 k hctx hr hw1 hne hw2 => exact ⟨Prov.range ctx.nb x z w1 w2 hr hw1 hne hw2, hg, rfl⟩

/-- a recursion bound that covers the previous argument and a non-empty text covers the provider -/
theorem CInv.toF {ctx : Ctx} {recent : Option Bytes} {text : Bytes} (h : CInv ctx recent text) (hne : text ≠ []) (lf : Nat)
    (hlf : ∀ r, recent = some r → r.length ≤ lf) : CInvF ctx recent text (lf + 1) := by
  refine ⟨h, ?_⟩
  cases ctx with
  | after tp g csp nb =>
    have := hlf _ h.2.2
    have := List.length_pos_iff.mpr hne
    simp only [List.length_append] at *
    omega
  | _ => trivial

/-- pieces separated by gaps of the class `G`, with a tail of the class `T`.  `K`: ranges may still occur (the
    cells so far keep `TailOK`); it can only be given up along the text, never regained -/
inductive Seq (G : List Gap → Prop) (T : Bytes → Prop) : Prop → Ctx → List (Bytes × List Cell) → Bytes → Prop
  | one (K : Prop) (ctx : Ctx) (t : Bytes) (cs : List Cell) (o : Option (Option Int)) (tail : Bytes) :
      Piece K ctx t cs o → T tail → Seq G T K ctx [(t, cs)] (t ++ tail)
  | cons (K K' : Prop) (ctx : Ctx) (t : Bytes) (cs : List Cell) (o : Option (Option Int)) (g : List Gap)
      (more : List (Bytes × List Cell)) (text : Bytes) :
      Piece K ctx t cs o → (K' → K ∧ TailKeep cs) → G g → Seq G T K' (nextCtx t g cs o) more text →
      Seq G T K ctx ((t, cs) :: more) (t ++ (gapsBytes g ++ text))

theorem Seq.start {K : Prop} {G : List Gap → Prop} {T : Bytes → Prop} {ctx : Ctx} {tcs : List (Bytes × List Cell)}
    {text : Bytes} (h : Seq G T K ctx tcs text) (rest : Bytes) : TokStart (text ++ rest) := by
  cases h with
  | one _ _ t cs o tail hi _ => rw [List.append_assoc]; exact TokStart.append hi.start _
  | cons _ _ _ t cs o g more text hi _ _ _ => rw [List.append_assoc]; exact TokStart.append hi.start _

theorem Seq.ne {K : Prop} {G : List Gap → Prop} {T : Bytes → Prop} {ctx : Ctx} {tcs : List (Bytes × List Cell)}
    {text : Bytes} (h : Seq G T K ctx tcs text) : tcs ≠ [] := by
  cases h <;> simp

theorem Seq.length_le {G : List Gap → Prop} {T : Bytes → Prop} {K : Prop} {ctx : Ctx}
    {tcs : List (Bytes × List Cell)} {text : Bytes} (h : Seq G T K ctx tcs text) : tcs.length ≤ text.length := by
  induction h with
  | one K ctx t cs o tail hi _ =>
    have := List.length_pos_iff.mpr hi.start.1
    simp only [List.length_singleton, List.length_append]; omega
  | cons K K' ctx t cs o g more text hi _ _ _ ih =>
    have := List.length_pos_iff.mpr hi.start.1
    simp only [List.length_cons, List.length_append]; omega

theorem Seq.length_le_cells {G : List Gap → Prop} {T : Bytes → Prop} {K : Prop} {ctx : Ctx}
    {tcs : List (Bytes × List Cell)} {text : Bytes} (h : Seq G T K ctx tcs text) : tcs.length ≤ (allCells tcs).length := by
  induction h with
  | one K ctx t cs o tail hi _ => have := hi.cells_pos; simp [allCells]; omega
  | cons K K' ctx t cs o g more text hi _ _ _ ih =>
    have := hi.cells_pos
    simp only [allCells, List.map_cons, List.flatten_cons, List.length_cons, List.length_append] at ih ⊢
    omega

theorem nextCtx_after {t : Bytes} {g : List Gap} {cs : List Cell} {o : Option (Option Int)} {tp : Bytes} {g' : List Gap}
    {csp : List Cell} {nb : Option Int} (h : nextCtx t g cs o = .after tp g' csp nb) : g' = g := by
  cases o with
  | none => cases h
  | some nb' => cases h; rfl

/-- a piece of a sequence as a piece of a chain (`Proofs/PrettyLoops.lean`): the contexts are `(K, ctx)`, the
    one behind the piece is `nextCtx` for the gaps that follow -/
def PieceP (s : Prop × Ctx) (t : Bytes) (cs : List Cell) (s' : Prop × Ctx) : Prop :=
  ∃ o g, Piece s.1 s.2 t cs o ∧ (s'.1 → s.1 ∧ TailKeep cs) ∧ s'.2 = nextCtx t g cs o

/-- the gap behind a piece is the one its context names, where it names one (`CInv` speaks of it) -/
def GapP (s' : Prop × Ctx) (gap next : Bytes) : Prop :=
  GapOK gap next ∧ (s'.1 → ∀ tp g csp nb, s'.2 = .after tp g csp nb → SepGaps g ∧ gap = gapsBytes g)

theorem Seq.chain {K : Prop} {ctx : Ctx} {tcs : List (Bytes × List Cell)} {text : Bytes}
    (h : Seq SepGaps Tail K ctx tcs text) : Chain PieceP GapP (K, ctx) (tcs.map (·.2)) text [] := by
  induction h with
  | one K ctx t cs o tail hi htail =>
    simpa using Chain.cons (P := PieceP) (G := GapP) (s := (K, ctx)) (s' := (False, nextCtx t [] cs o))
      ⟨o, [], hi, fun k => k.elim, rfl⟩ ⟨gapOK_tail htail, fun k => k.elim⟩ (.nil _ [])
  | cons K K' ctx t cs o g more text hi hnd hg hmore ih =>
    exact .cons ⟨o, g, hi, hnd, rfl⟩ ⟨gapOK_gaps hg (by simpa using hmore.start []), fun _ tp g' csp nb h => by
      obtain rfl := nextCtx_after h; exact ⟨hg, rfl⟩⟩ ih

theorem PieceP.scan {s s' : Prop × Ctx} {t : Bytes} {cs : List Cell} (hp : PieceP s t cs s') (gap next : Bytes) (i : Nat)
    (pok : Bool) (done : List Cell) (hg : GapP s' gap next) (hI : i = done.length ∧ (s.1 → SInv s.2 done pok)) :
    C11.scanArgVal ((t ++ (gap ++ next)).length + 2) (t ++ (gap ++ next)) done.reverse (if pok then i else 0) true =
      .ok (t.length, cs) ∧
    0 < cs.length ∧ nextArgOffset (cs.length + 1) cs = .ok cs.length ∧
    ∃ b, Pretty.canPrecedeRange cs = .ok b ∧ i + cs.length = (done ++ cs).length ∧ (s'.1 → SInv s'.2 (done ++ cs) b) := by
  obtain ⟨o, g, hi, hnd, hs'⟩ := hp
  obtain ⟨rfl, hinv⟩ := hI
  obtain ⟨hscan, hoff, b, _, hb, _, hnext⟩ := hi.scan hinv [] (gap ++ next) (t ++ (gap ++ next)).length hg.1.sep
    (by simp only [List.length_append]; omega)
  rw [List.append_nil] at hscan
  exact ⟨hscan, hi.cells_pos, hoff, b, hb, by simp, fun k => hs' ▸ hnext g (hnd k).1 (hnd k).2⟩

theorem PieceP.skip {s s' : Prop × Ctx} {t : Bytes} {cs : List Cell} (hp : PieceP s t cs s') (gap next : Bytes)
    (recent : Option Bytes) (hg : GapP s' gap next) (hJ : s.1 → CInv s.2 recent (t ++ (gap ++ next))) :
    TokStart t ∧ (s'.1 → CInv s'.2 (some (t ++ (gap ++ next))) next) ∧
    ∃ r, C11.skipNextPrintedArg (checkFuel (t ++ (gap ++ next)) recent) (t ++ (gap ++ next)) 0 recent true false = .ok r ∧
      r.src = some (gap ++ next) ∧ r.skipped = cs.length := by
  obtain ⟨o, g, hi, hnd, hs'⟩ := hp
  refine ⟨hi.start, fun k => ?_, ?_⟩
  · -- the context behind the piece names this gap
    cases o with
    | none => rw [hs']; trivial
    | some nb =>
      obtain ⟨hsg, rfl⟩ := hg.2 k t g cs nb hs'
      rw [hs']; exact hi.cinv hsg next
  · -- the loop's own recursion bound (`checkFuel` in the shared loop, which is C11's `lookBackFuel`) covers the
    -- piece and the provider
    obtain ⟨lf, hlf, hlf1, hlf2⟩ := lookBackFuel_ge (t ++ (gap ++ next)) recent
    rw [List.length_append] at hlf1
    obtain ⟨r, hr, hsrc, hsk, _⟩ := hi.skip (gap ++ next) lf 0 false hg.1.sep (by omega)
      (fun k => (hJ k).toF (by simp [hi.start.1]) lf hlf2)
    exact ⟨r, by rw [← c11_lookBackFuel_eq, hlf]; exact hr, hsrc, hsk⟩

/-- the scanner's loop reads a sequence of pieces back as their cells -/
theorem Seq.scanLoop {K : Prop} {ctx : Ctx} {tcs : List (Bytes × List Cell)} {text : Bytes}
    (h : Seq SepGaps Tail K ctx tcs text) :
    ∀ (fuel n : Nat) (pok : Bool) (done : List Cell) (rd : Nat),
      n = done.length + (allCells tcs).length → tcs.length + 1 ≤ fuel → (K → SInv ctx done pok) →
      C11.scanArgValsLoop fuel text n done.length pok done rd = .ok (rd + text.length, done ++ allCells tcs) := by
  intro fuel n pok done rd hn hf hinv
  rw [c11_scanArgValsLoop_eq, h.chain.scanLoop C11.scanArgVal
    (fun s i pok done => i = done.length ∧ (s.1 → SInv s.2 done pok)) (fun hg => hg.1) (fun hp => hp.scan)
    fuel n done.length pok done rd ⟨rfl, hinv⟩ hn (by simpa using hf)]
  simp [allCells]

/-- the checker's loop counts the cells of a sequence of pieces -/
theorem Seq.countLoop {K : Prop} {ctx : Ctx} {tcs : List (Bytes × List Cell)} {text : Bytes}
    (h : Seq SepGaps Tail K ctx tcs text) :
    ∀ (fuel : Nat) (recent : Option Bytes) (num : Int), tcs.length + 1 ≤ fuel → (K → CInv ctx recent text) →
      C11.countLoop fuel (some text) recent num = .ok (num + (allCells tcs).length) := by
  intro fuel recent num hf hinv
  rw [c11_countLoop_eq]
  exact h.chain.countLoop C11.skipNextPrintedArg (fun s recent text => s.1 → CInv s.2 recent text) (fun hg => hg.1)
    (fun hp => hp.skip) (Or.inl rfl) fuel recent num hinv (by simpa using hf)

theorem scanArgVals_seq (lead : List Gap) {K : Prop} {tcs : List (Bytes × List Cell)} {text : Bytes}
    (h : Seq SepGaps Tail K .first tcs text) :
    C11.scanArgVals (gapsBytes lead ++ text) (allCells tcs).length =
      .ok ((gapsBytes lead ++ text).length, allCells tcs) := by
  rw [scanArgVals_lead lead text _ (by simpa using Stop.of_tokStart (h.start []) [])]
  have hle := h.length_le_cells
  have := h.scanLoop ((allCells tcs).length + 1) (allCells tcs).length true [] (gapsBytes lead).length
    (by simp) (by omega) (fun _ => ⟨tailOK_nil, rfl⟩)
  simpa using this

theorem countPrintedArgVals_seq (lead : List Gap) {K : Prop} {tcs : List (Bytes × List Cell)} {text : Bytes}
    (h : Seq SepGaps Tail K .first tcs text) :
    C11.countPrintedArgVals (gapsBytes lead ++ text) = .ok ((allCells tcs).length : Int) := by
  rw [countPrintedArgVals_lead lead text (by simpa using Stop.of_tokStart (h.start []) []),
    h.countLoop (text.length + 1) none 0 (by have := h.length_le; omega) (fun _ => rfl), Int.zero_add]

theorem Seq.scanElems {K : Prop} {ctx : Ctx} {tcs : List (Bytes × List Cell)} {body : Bytes}
    (h : Seq WsGaps AllWs K ctx tcs body) :
    ∀ (rest : Bytes) (f lf : Nat) (outer : List Cell) (i : Nat) (pok : Bool) (acc : List Cell) (ty : UInt8),
      tcs.length + 1 ≤ lf → body.length ≤ f + 1 → (K → SInv ctx acc pok) →
      C11.scanArrayElems (C11.scanArgVal (f + 2)) lf (body ++ 93 :: rest) (acc.reverse ++ outer) i pok acc ty =
        .ok (93 :: rest, acc ++ allCells tcs, lastTy ty tcs) := by
  rw [c11_scanArrayElems_eq]
  induction h with
  | one K ctx t cs o w hi hw =>
    intro rest f lf outer i pok acc ty hlf hf hinv
    obtain ⟨l, rfl⟩ : ∃ l, lf = l + 2 := ⟨lf - 2, by simp at hlf; omega⟩
    rw [List.length_append] at hf
    obtain ⟨hscan, hoff, b, ty', hb, hty, _⟩ := hi.scan hinv outer (w ++ 93 :: rest) f (sep_close w rest hw) (by omega)
    rw [List.append_assoc, scanArrayElems_turn _ t cs _ (l + 1) _ i pok acc ty b ty' hi.start hscan hb hty hoff,
      skipSpace_close w rest hw, scanArrayElems_close, allCells_single, lastTy_single ty t cs ty' hty]
  | cons K K' ctx t cs o g more body hi hnd hg hmore ih =>
    intro rest f lf outer i pok acc ty hlf hf hinv
    obtain ⟨l, rfl⟩ : ∃ l, lf = l + 1 := ⟨lf - 1, by simp at hlf; omega⟩
    have hstart := hmore.start (93 :: rest)
    have hsk : skipSpace (gapsBytes g ++ (body ++ 93 :: rest)) = body ++ 93 :: rest :=
      skipSpace_lead _ _ hg.allWs (Or.inr hstart.notSpace)
    simp only [List.length_append, List.length_cons] at hf hlf
    obtain ⟨hscan, hoff, b, ty', hb, hty, hnext⟩ := hi.scan hinv outer (gapsBytes g ++ (body ++ 93 :: rest)) f
      (sep_gaps g hg.sepGaps _ (by simpa using Body.of_tokStart hstart [])) (by omega)
    have e2 : cs.reverse ++ (acc.reverse ++ outer) = (acc ++ cs).reverse ++ outer := by simp
    rw [List.append_assoc, List.append_assoc, scanArrayElems_turn _ t cs _ l _ i pok acc ty b ty' hi.start hscan hb hty hoff,
      hsk, e2, ih rest f l outer (i + 1) b (acc ++ cs) ty' (by omega) (by omega) (fun k => hnext g (hnd k).1 (hnd k).2),
      lastTy_cons _ _ _ hmore.ne, lastTy_ne ty' ty more hmore.ne, allCells_cons, List.append_assoc]

theorem Seq.skipElems {K : Prop} {ctx : Ctx} {tcs : List (Bytes × List Cell)} {body : Bytes}
    (h : Seq WsGaps AllWs K ctx tcs body) :
    ∀ (rest : Bytes) (F lf : Nat) (recent : Option Bytes) (aty : UInt8) (skipped : Int),
      tcs.length + 1 ≤ lf → body.length ≤ F + 1 → (if aty = 0 then ElemTypesOK tcs else TypesOK aty tcs) →
      (K → CInvF ctx recent (body ++ 93 :: rest) (F + 1)) →
      skipArrayElems (C11.skipNextPrintedArg (F + 2)) lf (some (body ++ 93 :: rest)) recent aty skipped =
        .ok (some (93 :: rest), skipped + (allCells tcs).length) := by
  induction h with
  | one K ctx t cs o w hi hw =>
    intro rest F lf recent aty skipped hlf hF htys hinv
    obtain ⟨l, rfl⟩ : ∃ l, lf = l + 2 := ⟨lf - 2, by simp at hlf; omega⟩
    rw [List.length_append] at hF
    rw [List.append_assoc] at hinv ⊢
    -- 20: the loop's `char arraytype_cur = 20`, the type handed to the skipper for every element
    rw [skipArrayElems_turn _ t _ cs.length (skipTy cs) (l + 1) recent aty skipped hi.start
      (hi.skip (w ++ 93 :: rest) F 20 true (sep_close w rest hw) (by omega) hinv) (typesOK_tail htys).1,
      skipSpace_close w rest hw, skipArrayElems_close, allCells_single]
  | cons K K' ctx t cs o g more body hi hnd hg hmore ih =>
    intro rest F lf recent aty skipped hlf hF htys hinv
    obtain ⟨l, rfl⟩ : ∃ l, lf = l + 1 := ⟨lf - 1, by simp at hlf; omega⟩
    have hstart := hmore.start (93 :: rest)
    have hsk : skipSpace (gapsBytes g ++ (body ++ 93 :: rest)) = body ++ 93 :: rest :=
      skipSpace_lead _ _ hg.allWs (Or.inr hstart.notSpace)
    simp only [List.length_append, List.length_cons] at hF hlf
    obtain ⟨ht1, ht2⟩ := typesOK_tail htys
    have hb1 : 0 < body.length := List.length_pos_iff.mpr (by simpa using (hmore.start []).1)
    have hg1 := List.length_pos_iff.mpr hg.bytes_ne
    rw [List.append_assoc, List.append_assoc] at hinv ⊢
    -- 20: `arraytype_cur`, as above
    rw [skipArrayElems_turn _ t _ cs.length (skipTy cs) l recent aty skipped hi.start
        (hi.skip _ F 20 true (sep_gaps g hg.sepGaps _ (by simpa using Body.of_tokStart hstart [])) (by omega) hinv) ht1, hsk,
      ih rest F l _ _ _ (by omega) (by omega)
        (by rw [if_neg (aty_step_ne (List.length_pos_iff.mp hi.cells_pos))]; exact ht2)
        (fun _ => ⟨hi.cinv hg.sepGaps _, by
          cases o with
          | none => trivial
          | some nb => show t.length + 2 ≤ F + 1; omega⟩),
      allCells_cons, List.length_append, Int.natCast_add, Int.add_assoc]

/-- the text `[`, blank, elements, blank `]` is a good argument -/
theorem Seq.arg11 {K : Prop} {tcs : List (Bytes × List Cell)} {body : Bytes} (hs : Seq WsGaps AllWs K .first tcs body)
    (b0 : Bytes) (hb0 : AllWs b0) (htys : ElemTypesOK tcs) :
    Arg11 (arrText b0 body) (Cell.arr (lastTy 32 tcs) (allCells tcs).length :: allCells tcs) := by
  have hlen1 := hs.length_le
  have htl : (arrText b0 body).length = b0.length + body.length + 2 := by simp [arrText]; omega
  refine arg11_brackets b0 body _ _ hb0 (fun rest => skipSpace_tokStart _ (hs.start (93 :: rest))) ?_ ?_
  · intro rest fuel prev hf
    obtain ⟨f, rfl⟩ : ∃ f, fuel = f + 2 := ⟨fuel - 2, by omega⟩
    simpa using hs.scanElems rest f ((arrText b0 body ++ rest).length + 1) (Cell.arr 32 0 :: prev) 0 true [] 32
      (by simp only [List.length_append]; omega) (by omega) (fun _ => ⟨tailOK_nil, rfl⟩)
  · intro rest fuel hf
    obtain ⟨F, rfl⟩ : ∃ F, fuel = F + 2 := ⟨fuel - 2, by omega⟩
    exact hs.skipElems rest F ((arrText b0 body ++ rest).length + 1) none 0 1
      (by simp only [List.length_append]; omega) (by omega) (by simpa using htys) (fun _ => ⟨rfl, trivial⟩)

theorem LayR.seq {ctx : Ctx} {tcs : List (Bytes × List Cell)} {text : Bytes} (h : LayR ctx tcs text) :
    Seq SepGaps Tail True ctx tcs text := by
  induction h with
  | oneA ctx t cs tail ht htail => exact .one _ ctx t cs none tail (.arg ctx t cs ht) htail
  | oneR ctx x z w1 w2 tail hctx hr hw1 hne hw2 htail =>
    exact .one _ ctx _ _ _ tail (.range ctx x z w1 w2 trivial hctx hr hw1 hne hw2) htail
  | consA ctx t cs g more text ht hnd hg _ ih => exact .cons _ _ ctx t cs none g more text (.arg ctx t cs ht) (fun k => ⟨k, hnd⟩) hg ih
  | consP ctx t cs nb g more text ht hnd hp hg _ ih =>
    exact .cons _ _ ctx t cs (some nb) g more text (.prov ctx t cs nb trivial ht hp) (fun k => ⟨k, hnd⟩) hg ih
  | consR ctx x z w1 w2 g more text hctx hr hw1 hne hw2 hg _ ih =>
    exact .cons _ _ ctx _ _ _ g more text (.range ctx x z w1 w2 trivial hctx hr hw1 hne hw2)
      (fun k => ⟨k, tailKeep_rangeCells _ _ _⟩) hg ih

theorem ArgsLay.seq {tcs : List (Bytes × List Cell)} {text : Bytes} (h : ArgsLay tcs text) (ctx : Ctx) :
    Seq SepGaps Tail False ctx tcs text := by
  induction h generalizing ctx with
  | one t cs tail ht htail => exact .one _ ctx t cs none tail (.arg ctx t cs ht) htail
  | cons t cs g more text ht hg _ ih => exact .cons _ _ ctx t cs none g more text (.arg ctx t cs ht) (fun h => h.elim) hg (ih _)

theorem Follow.seq {tcs : List (Bytes × List Cell)} {rest : Bytes} (hf : Follow tcs rest) {K : Prop} {t : Bytes}
    {cs : List Cell} {o : Option (Option Int)} (hi : Piece K .first t cs o) :
    Seq SepGaps Tail K .first ((t, cs) :: tcs) (t ++ rest) := by
  cases hf with
  | tail _ ht => exact .one K .first t cs o _ hi ht
  | more g tcs text hg hl => exact .cons K False .first t cs o g tcs text hi (fun h => h.elim) hg (hl.seq _)

theorem ArrR.seq {ctx : Ctx} {tcs : List (Bytes × List Cell)} {body : Bytes} (h : ArrR ctx tcs body) :
    Seq WsGaps AllWs True ctx tcs body := by
  induction h with
  | lastA ctx t cs w ht hw => exact .one _ ctx t cs none w (.arg ctx t cs ht) hw
  | lastR ctx x z w1 w2 w hctx hr hw1 hne hw2 hw =>
    exact .one _ ctx _ _ _ w (.range ctx x z w1 w2 trivial hctx hr hw1 hne hw2) hw
  | consA ctx t cs g more body ht hnd hg _ ih => exact .cons _ _ ctx t cs none g more body (.arg ctx t cs ht) (fun k => ⟨k, hnd⟩) hg ih
  | consP ctx t cs nb g more body ht hnd hp hg _ ih =>
    exact .cons _ _ ctx t cs (some nb) g more body (.prov ctx t cs nb trivial ht hp) (fun k => ⟨k, hnd⟩) hg ih
  | consR ctx x z w1 w2 g more body hctx hr hw1 hne hw2 hg _ ih =>
    exact .cons _ _ ctx _ _ _ g more body (.range ctx x z w1 w2 trivial hctx hr hw1 hne hw2)
      (fun k => ⟨k, tailKeep_rangeCells _ _ _⟩) hg ih

theorem ws_of_isspace : ∀ c : UInt8, isspace c = true → ∃ v : Ws, v.byte = c := by
  have : ∀ c : UInt8, isspace c = true → c = 32 ∨ c = 9 ∨ c = 10 ∨ c = 11 ∨ c = 12 ∨ c = 13 := by
    apply UInt8.forall_of_fin; decide +kernel
  intro c hc
  rcases this c hc with rfl | rfl | rfl | rfl | rfl | rfl
  · exact ⟨.sp, rfl⟩
  · exact ⟨.tab, rfl⟩
  · exact ⟨.nl, rfl⟩
  · exact ⟨.vt, rfl⟩
  · exact ⟨.ff, rfl⟩
  · exact ⟨.cr, rfl⟩

theorem allWs_gaps : ∀ {w : Bytes}, AllWs w → ∃ g, (∀ x ∈ g, ∃ v, x = Gap.ws v) ∧ gapsBytes g = w
  | [], _ => ⟨[], by simp, rfl⟩
  | c :: r, h => by
    obtain ⟨v, rfl⟩ := ws_of_isspace c (h c (by simp))
    obtain ⟨g, hg, rfl⟩ := allWs_gaps (w := r) (fun y hy => h y (by simp [hy]))
    exact ⟨Gap.ws v :: g, by simpa using hg, by simp [gapsBytes, Gap.bytes]⟩

theorem ArrBody.seq {tcs : List (Bytes × List Cell)} {body : Bytes} (h : ArrBody tcs body) (hne : tcs ≠ []) (ctx : Ctx) :
    Seq WsGaps AllWs False ctx tcs body := by
  induction h generalizing ctx with
  | nil => exact absurd rfl hne
  | last t cs w ht hw => exact .one _ ctx t cs none w (.arg ctx t cs ht) hw
  | cons t cs w more body ht hw hwne hmore _ ih =>
    obtain ⟨g, hg, rfl⟩ := allWs_gaps hw
    exact .cons _ _ ctx t cs none g more body (.arg ctx t cs ht) (fun h => h.elim)
      ⟨by rintro rfl; exact hwne rfl, hg⟩ (ih hmore _)

/-- the scanner's loop reads a text of arguments and ranges back as their cells -/
theorem scanLoop_layR {ctx : Ctx} {tcs : List (Bytes × List Cell)} {text : Bytes} (h : LayR ctx tcs text) :
    ∀ (fuel n : Nat) (pok : Bool) (done : List Cell) (rd : Nat),
      n = done.length + (allCells tcs).length → tcs.length + 1 ≤ fuel → SInv ctx done pok →
      C11.scanArgValsLoop fuel text n done.length pok done rd = .ok (rd + text.length, done ++ allCells tcs) :=
  fun fuel n pok done rd hn hf hinv => h.seq.scanLoop fuel n pok done rd hn hf (fun _ => hinv)

/-- the checker's loop counts the cells of a text of arguments and ranges -/
theorem countLoop_layR {ctx : Ctx} {tcs : List (Bytes × List Cell)} {text : Bytes} (h : LayR ctx tcs text) :
    ∀ (fuel : Nat) (recent : Option Bytes) (num : Int), tcs.length + 1 ≤ fuel → CInv ctx recent text →
      C11.countLoop fuel (some text) recent num = .ok (num + (allCells tcs).length) :=
  fun fuel recent num hf hinv => h.seq.countLoop fuel recent num hf (fun _ => hinv)

/-- **`rtosc_count_printed_arg_vals`** on gaps, arguments and ranges, tail: the number of cells -/
theorem countPrintedArgVals_layR (lead : List Gap) {tcs : List (Bytes × List Cell)} {text : Bytes}
    (h : LayR .first tcs text) :
    C11.countPrintedArgVals (gapsBytes lead ++ text) = .ok ((allCells tcs).length : Int) :=
  countPrintedArgVals_seq lead h.seq

/-- **`rtosc_scan_arg_vals`** on the same text: the cells, and the whole text is consumed -/
theorem scanArgVals_layR (lead : List Gap) {tcs : List (Bytes × List Cell)} {text : Bytes}
    (h : LayR .first tcs text) :
    C11.scanArgVals (gapsBytes lead ++ text) (allCells tcs).length =
      .ok ((gapsBytes lead ++ text).length, allCells tcs) :=
  scanArgVals_seq lead h.seq

/-- **`rtosc_count_printed_arg_vals`** on gaps, arguments, tail: the number of cells -/
theorem countPrintedArgVals_lay (lead : List Gap) {tcs : List (Bytes × List Cell)} {text : Bytes}
    (h : ArgsLay tcs text) :
    C11.countPrintedArgVals (gapsBytes lead ++ text) = .ok ((allCells tcs).length : Int) :=
  countPrintedArgVals_seq lead (h.seq .first)

/-- **`rtosc_scan_arg_vals`** on gaps, arguments, tail: the cells, and the whole text is consumed -/
theorem scanArgVals_lay (lead : List Gap) {tcs : List (Bytes × List Cell)} {text : Bytes}
    (h : ArgsLay tcs text) :
    C11.scanArgVals (gapsBytes lead ++ text) (allCells tcs).length =
      .ok ((gapsBytes lead ++ text).length, allCells tcs) :=
  scanArgVals_seq lead (h.seq .first)

/-- without a left neighbour the step is ±1: the bounds of `range_first_lay` in the terms of `RangeOK` -/
theorem rangeOK_first {x z : Int} (hx1 : -2147483648 ≤ x) (hx2 : x ≤ 2147483647)
    (hz1 : -2147483648 ≤ z) (hz2 : z ≤ 2147483647) (hxz : x ≠ z) (hwid : (z - x).natAbs ≤ 2147483646) :
    RangeOK none x z ∧ rangeCellsNb none x z = rangeCells x z := by
  have hstep : rangeStepI none x z = if x < z then 1 else -1 := rfl
  have hq : (z - x) / rangeStepI none x z = ((z - x).natAbs : Int) ∧ (z - x) % rangeStepI none x z = 0 := by
    rw [hstep]
    by_cases h : x < z
    · rw [if_pos h, Int.ediv_one, Int.emod_one]; exact ⟨by omega, rfl⟩
    · rw [if_neg h, Int.ediv_neg, Int.ediv_one, Int.emod_neg, Int.emod_one]; exact ⟨by omega, rfl⟩
  refine ⟨⟨hx1, hx2, hz1, hz2, by omega, by omega, hq.2, by rw [hq.1]; omega, by rw [hq.1]; omega, by omega, by omega⟩, ?_⟩
  unfold rangeCellsNb rangeCells
  rw [hq.1, hstep, Int.toNat_natCast, Int.natCast_add, Int.natCast_one]

/-- checker and scanner on gaps, `b ... c` (decimal 'i' integers, at least one white-space
    character in front of the dots), and what follows -/
theorem range_first_lay (x z : Int) (hx1 : -2147483648 ≤ x) (hx2 : x ≤ 2147483647)
    (hz1 : -2147483648 ≤ z) (hz2 : z ≤ 2147483647) (hxz : x ≠ z) (hwid : (z - x).natAbs ≤ 2147483646)
    (lead : List Gap) (w1 w2 : Bytes) (hw1 : AllWs w1) (hne : w1 ≠ []) (hw2 : AllWs w2)
    {tcs : List (Bytes × List Cell)} {rest : Bytes} (hf : Follow tcs rest) :
    C11.countPrintedArgVals (gapsBytes lead ++ (rangeTok x z w1 w2 ++ rest)) =
      .ok ((rangeCells x z ++ allCells tcs).length : Int) ∧
    C11.scanArgVals (gapsBytes lead ++ (rangeTok x z w1 w2 ++ rest)) (rangeCells x z ++ allCells tcs).length =
      .ok ((gapsBytes lead ++ (rangeTok x z w1 w2 ++ rest)).length, rangeCells x z ++ allCells tcs) := by
  obtain ⟨hr, hc⟩ := rangeOK_first hx1 hx2 hz1 hz2 hxz hwid
  have hseq := hf.seq (Piece.range .first x z w1 w2 trivial (by simp) hr hw1 hne hw2)
  have h1 := countPrintedArgVals_seq lead hseq
  have h2 := scanArgVals_seq lead hseq
  rw [allCells_cons, show Ctx.first.nb = none from rfl, hc] at h1 h2
  exact ⟨h1, h2⟩

/-- **the scanner's element loop** over the elements of an array with ranges -/
theorem scanElemsR {ctx : Ctx} {tcs : List (Bytes × List Cell)} {body : Bytes} (h : ArrR ctx tcs body) :
    ∀ (rest : Bytes) (f lf : Nat) (outer : List Cell) (i : Nat) (pok : Bool) (acc : List Cell) (ty : UInt8),
      tcs.length + 1 ≤ lf → body.length ≤ f + 1 → SInv ctx acc pok →
      C11.scanArrayElems (C11.scanArgVal (f + 2)) lf (body ++ 93 :: rest) (acc.reverse ++ outer) i pok acc ty =
        .ok (93 :: rest, acc ++ allCells tcs, lastTy ty tcs) :=
  fun rest f lf outer i pok acc ty hlf hf hinv => h.seq.scanElems rest f lf outer i pok acc ty hlf hf (fun _ => hinv)

/-- **the checker's element loop** over the elements of an array with ranges -/
theorem skipElemsR {ctx : Ctx} {tcs : List (Bytes × List Cell)} {body : Bytes} (h : ArrR ctx tcs body) :
    ∀ (rest : Bytes) (F lf : Nat) (recent : Option Bytes) (aty : UInt8) (skipped : Int),
      tcs.length + 1 ≤ lf → body.length ≤ F + 1 → (if aty = 0 then ElemTypesOK tcs else TypesOK aty tcs) →
      CInvF ctx recent (body ++ 93 :: rest) (F + 1) →
      skipArrayElems (C11.skipNextPrintedArg (F + 2)) lf (some (body ++ 93 :: rest)) recent aty skipped =
        .ok (some (93 :: rest), skipped + (allCells tcs).length) :=
  fun rest F lf recent aty skipped hlf hF htys hinv =>
    h.seq.skipElems rest F lf recent aty skipped hlf hF htys (fun _ => hinv)

/-- **arrays with ranges**: the text `[`, blank, elements (ranges among them), `]` is a good argument -/
theorem arg11_arrayR {tcs : List (Bytes × List Cell)} {body : Bytes} (h : ArrR .first tcs body) (b0 : Bytes)
    (hb0 : AllWs b0) (htys : ElemTypesOK tcs) :
    Arg11 (arrText b0 body) (Cell.arr (lastTy 32 tcs) (allCells tcs).length :: allCells tcs) :=
  h.seq.arg11 b0 hb0 htys

/-- **arrays**: the text `[`, blank, elements, `]` is a good argument -/
theorem arg11_array {tcs : List (Bytes × List Cell)} {body : Bytes} (h : ArrBody tcs body) (b0 : Bytes)
    (hb0 : AllWs b0) (htys : ElemTypesOK tcs) :
    Arg11 (arrText b0 body) (Cell.arr (lastTy 32 tcs) (allCells tcs).length :: allCells tcs) := by
  by_cases hne : tcs = []
  · -- `[ ]`: both element loops stop at once
    subst hne
    cases h
    refine arg11_brackets b0 [] [] 32 hb0 (fun rest => by simp [skipSpace, isspace]) ?_ ?_
    · intro rest fuel prev _
      rw [List.nil_append, c11_scanArrayElems_eq, scanArrayElems_close]
    · intro rest fuel _
      rw [List.nil_append, skipArrayElems_close]
      rfl
  · exact (h.seq hne .first).arg11 b0 hb0 htys

end Rtosc.Pretty.C11
