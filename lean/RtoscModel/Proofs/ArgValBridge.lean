/-
  C16 — helper lemmas: the iterator / loop structure of the model (Itr.lean, Cmp.lean, Msg.lean)
  on the flat layout `flatList s` computes the specification (Expand.lean) on `expandList s`; last the
  message clause: when the denoted list holds no NULL string, `msgArgs` (what `rtosc_avmessage` hands to
  `rtosc_amessage`) is defined, one type character per top-level value and one `rtosc_arg_t` per payload.
-/
import RtoscModel.Proofs.ArgValOrder
namespace Rtosc.ArgVal
open Rtosc

theorem flatList_append (a b : List Item) : flatList (a ++ b) = flatList a ++ flatList b := by
  induction a with
  | nil => simp [flatList]
  | cons x xs ih => simp [flatList, ih]

theorem Item.flat_ne_nil (x : Item) : x.flat ≠ [] := by
  cases x <;> simp [Item.flat]

def Item.isRange : Item → Bool
  | .rep .. => true
  | .range .. => true
  | _ => false

theorem fop32_scalar {r : Option Nat} {v : Cell} (h : fop32 r = .ok v) : v.isScalar = true := by
  cases r <;> simp [fop32] at h; subst h; rfl
theorem fop64_scalar {r : Option Nat} {v : Cell} (h : fop64 r = .ok v) : v.isScalar = true := by
  cases r <;> simp [fop64] at h; subst h; rfl
theorem add_scalar {a b : Cell} {v : Cell} (h : add a b = some (.ok v)) : v.isScalar = true := by
  simp only [add] at h
  split at h
  · split at h <;> simp at h <;> subst h <;> rfl
  · split at h <;> simp at h
    · exact fop64_scalar h
    · exact fop32_scalar h
    · subst h; rfl
    · subst h; rfl
    · subst h; rfl
    · subst h; rfl
    · subst h; rfl

theorem rangeVal_scalar {d s : Cell} {i : Nat} {v : Cell} (h : rangeVal d s i = .ok v) :
    v.isScalar = true := by
  simp only [rangeVal] at h
  split at h
  · cases h
  · split at h
    · cases h
    · cases h
    · split at h
      · cases h
      · rename_i r hr
        subst h
        exact add_scalar hr

theorem wrapI32_id {v : Int} (h1 : -2147483648 ≤ v) (h2 : v < 2147483648) : wrapI32 v = v := by
  unfold wrapI32; omega

theorem wrapI64_id {v : Int} (h1 : -9223372036854775808 ≤ v) (h2 : v < 9223372036854775808) :
    wrapI64 v = v := by
  unfold wrapI64; omega

theorem rangeVals_spec (d s : Cell) : ∀ (m i : Nat) (r : List Val), rangeVals d s i m = some r →
    r.length = m ∧ ∀ k, k < m → ∃ v, rangeVal d s (i + k) = .ok v ∧ r[k]? = some (.sc v)
  | 0, i, r, h => by
    simp only [rangeVals, Option.some.injEq] at h; subst h; simp
  | m + 1, i, r, h => by
    simp only [rangeVals] at h
    split at h
    · rename_i v r' hv hr
      simp only [Option.some.injEq] at h; subst h
      obtain ⟨hl, hk⟩ := rangeVals_spec d s m (i + 1) r' hr
      refine ⟨by simp [hl], ?_⟩
      intro k hkm
      cases k with
      | zero => exact ⟨v, by simpa using hv, by simp⟩
      | succ k =>
        obtain ⟨v', h1, h2⟩ := hk k (by omega)
        refine ⟨v', ?_, by simpa using h2⟩
        rw [← h1]; congr 1; omega
    · cases h

/-- what `x.expand = some vx` says, case by case -/
inductive Shape : Item → List Val → Prop
  | val (c : Cell) : c.isScalar = true → Shape (.val c) [.sc c]
  | arr (ety : UInt8) (es : List Item) (vs : List Val) : expandList es = some vs →
      Shape (.arr ety es) [.arr ety vs]
  | repVal (n : Nat) (c : Cell) : 1 ≤ n → c.isScalar = true →
      Shape (.rep n (.val c)) (List.replicate n (.sc c))
  | repArr (n : Nat) (ety : UInt8) (es : List Item) (vs : List Val) : 1 ≤ n → expandList es = some vs →
      Shape (.rep n (.arr ety es)) (List.replicate n (.arr ety vs))
  | range (n : Nat) (d s : Cell) (vx : List Val) : 1 ≤ n → d.isScalar = true → s.isScalar = true →
      vx.length = n →
      (∀ k, k < n → ∃ v, rangeVal d s k = .ok v ∧ vx[k]? = some (.sc v)) →
      Shape (.range n d s) vx

theorem expand_shape {x : Item} {vx : List Val} (h : x.expand = some vx) : Shape x vx := by
  cases x with
  | val c =>
    simp only [Item.expand] at h
    split at h
    · simp only [Option.some.injEq] at h; subst h; exact .val c (by assumption)
    · cases h
  | arr ety es =>
    simp only [Item.expand, Option.map_eq_some_iff] at h
    obtain ⟨vs, h1, h2⟩ := h
    subst h2
    exact .arr ety es vs h1
  | rep n x =>
    cases x with
    | val c =>
      simp only [Item.expand] at h
      split at h
      · rename_i hc
        simp only [Option.some.injEq] at h; subst h; exact .repVal n c hc.1 hc.2
      · cases h
    | arr ety es =>
      simp only [Item.expand] at h
      split at h
      · rename_i hn
        simp only [Option.map_eq_some_iff] at h
        obtain ⟨vs, h1, h2⟩ := h
        subst h2
        exact .repArr n ety es vs hn h1
      · cases h
    | rep _ _ => simp [Item.expand] at h
    | range _ _ _ => simp [Item.expand] at h
  | range n d s =>
    simp only [Item.expand] at h
    split at h
    · rename_i hn
      obtain ⟨hl, hk⟩ := rangeVals_spec d s n 0 vx h
      exact .range n d s vx hn.1 hn.2.1 hn.2.2 hl (by simpa using hk)
    · cases h

theorem Shape.length_pos {x : Item} {vx : List Val} (h : Shape x vx) : 0 < vx.length := by
  cases h with
  | val => simp
  | arr => simp
  | repVal => simp; omega
  | repArr => simp; omega
  | range _ _ _ _ hn _ _ hl => omega

theorem expandList_cons {x : Item} {xs : List Item} {vs : List Val}
    (h : expandList (x :: xs) = some vs) :
    ∃ vx vr, x.expand = some vx ∧ expandList xs = some vr ∧ vs = vx ++ vr := by
  simp only [expandList] at h
  split at h
  · rename_i a b ha hb
    simp only [Option.some.injEq] at h
    exact ⟨a, b, ha, hb, h.symm⟩
  · cases h

/-- The iterator `it`, walking a list of `size` cells, still has to yield exactly `vals`. -/
def Cur (it : Itr) (size : Nat) (vals : List Val) : Prop :=
  (vals = [] ∧ it.i = size ∧ it.rangeI = 0) ∨
  ∃ (x : Item) (rest : List Item) (tail : List Cell) (k : Nat) (vx vrest : List Val),
    Shape x vx ∧ expandList rest = some vrest ∧ k < vx.length ∧ (k = 0 ∨ x.isRange = true) ∧
    it.i + (x.flat ++ flatList rest).length = size ∧
    it.av = x.flat ++ flatList rest ++ tail ∧ it.rangeI = k ∧ vals = vx.drop k ++ vrest

theorem cur_at (rest : List Item) (tail : List Cell) (i size : Nat) (vrest : List Val)
    (h : expandList rest = some vrest) (hs : i + (flatList rest).length = size) :
    Cur ⟨flatList rest ++ tail, i, 0⟩ size vrest := by
  cases rest with
  | nil =>
    simp only [expandList, Option.some.injEq] at h
    subst h
    left; simp [flatList] at hs; simp [hs]
  | cons x xs =>
    obtain ⟨vx, vr, hx, hxs, hv⟩ := expandList_cons h
    right
    refine ⟨x, xs, tail, 0, vx, vr, expand_shape hx, hxs, (expand_shape hx).length_pos, Or.inl rfl, ?_, ?_, rfl, ?_⟩
    · simpa [flatList] using hs
    · simp [flatList]
    · simp [hv]

theorem cur_init (xs : List Item) (tail : List Cell) (vs : List Val) (h : expandList xs = some vs) :
    Cur (Itr.init (flatList xs ++ tail)) (flatList xs).length vs :=
  cur_at xs tail 0 _ vs h (by simp)

theorem Cur.nil_i {it : Itr} {size : Nat} (h : Cur it size []) : it.i = size := by
  rcases h with ⟨_, h, _⟩ | ⟨x, rest, tail, k, vx, vrest, _, _, hk, _, _, _, _, hv⟩
  · exact h
  · exfalso
    have : (vx.drop k ++ vrest).length = 0 := by rw [← hv]; rfl
    simp at this; omega

theorem asRange_scalar {c : Cell} (h : c.isScalar = true) : c.asRange = none := by
  cases c <;> simp [Cell.isScalar] at h <;> rfl
theorem asArr_scalar {c : Cell} (h : c.isScalar = true) : c.asArr = none := by
  cases c <;> simp [Cell.isScalar] at h <;> rfl

theorem Itr.next_inside (n : Nat) (hd : Int) (r : List Cell) (i ri : Nat) (h : ri + 1 < n) :
    Itr.next ⟨.rep n hd :: r, i, ri⟩ = .ok ⟨.rep n hd :: r, i, ri + 1⟩ := by
  have h1 : ¬ ((n : Int) ≤ (ri : Int) + 1 ∧ ¬ n = 0) := by omega
  simp [Itr.next, deref, Cell.asRange, bind, Except.bind, pure, Except.pure, h1]

theorem Shape.isRange_of_length {x : Item} {vx : List Val} (h : Shape x vx) (hl : 1 < vx.length) :
    x.isRange = true := by
  cases h <;> first | rfl | simp at hl

/-- One item in front of an arbitrary tail `t`, the iterator at its `k`-th value: the cell under
    the iterator, what `get` yields, and where `next` goes (on inside the item, or behind it). -/
theorem Shape.step {x : Item} {vx : List Val} (h : Shape x vx) (t : List Cell) (i k : Nat)
    (hk : k < vx.length) :
    (∃ c, deref (x.flat ++ t) = .ok c ∧ ∀ num hd, c.asRange = some (num, hd) → num ≠ 0) ∧
    (∃ p, Itr.get ⟨x.flat ++ t, i, k⟩ = .ok p ∧ Denotes p vx[k]) ∧
    Itr.next ⟨x.flat ++ t, i, k⟩ =
      .ok (if k + 1 < vx.length then ⟨x.flat ++ t, i, k + 1⟩ else ⟨t, i + x.flat.length, 0⟩) := by
  cases h with
  | val c hc =>
    obtain rfl : k = 0 := by simpa using hk
    refine ⟨⟨c, rfl, by simp [asRange_scalar hc]⟩, ⟨c :: t, ?_, .sc c _ hc⟩, ?_⟩
    · simp [Item.flat, Itr.get, deref, asRange_scalar hc, bind, Except.bind, pure, Except.pure]
    · simp [Item.flat, Itr.next, deref, asRange_scalar hc, asArr_scalar hc, bind, Except.bind, pure, Except.pure]
  | arr ety es ves hes =>
    obtain rfl : k = 0 := by simpa using hk
    refine ⟨⟨_, rfl, by simp [Cell.asRange]⟩, ⟨_, ?_, .arr ety es ves t hes⟩, ?_⟩
    · simp [Item.flat, Itr.get, deref, Cell.asRange, bind, Except.bind, pure, Except.pure]
    · have : ¬ ((flatList es).length : Int) < 0 := by omega
      simp [Item.flat, Itr.next, deref, Cell.asRange, Cell.asArr, bind, Except.bind, pure, Except.pure, this,
        Nat.add_assoc]
  | repVal n c hn hc =>
    simp only [List.length_replicate] at hk ⊢
    refine ⟨⟨_, rfl, fun _ _ h => by cases h; omega⟩,
      ⟨c :: t, ?_, by simp only [List.getElem_replicate]; exact .sc c _ hc⟩, ?_⟩
    · simp [Item.flat, Itr.get, deref, Cell.asRange, bind, Except.bind, pure, Except.pure]
    · by_cases hlast : k + 1 < n
      · rw [if_pos hlast]; exact Itr.next_inside n _ _ i k hlast
      · have h1 : ((n : Int) ≤ (k : Int) + 1 ∧ ¬ n = 0) := by omega
        simp [Item.flat, Itr.next, deref, Cell.asRange, asArr_scalar hc, bind, Except.bind, pure, Except.pure, h1, hlast]
  | repArr n ety es ves hn hes =>
    simp only [List.length_replicate] at hk ⊢
    refine ⟨⟨_, rfl, fun _ _ h => by cases h; omega⟩,
      ⟨_, ?_, by simp only [List.getElem_replicate]; exact .arr ety es ves t hes⟩, ?_⟩
    · simp [Item.flat, Itr.get, deref, Cell.asRange, bind, Except.bind, pure, Except.pure]
    · by_cases hlast : k + 1 < n
      · rw [if_pos hlast]; exact Itr.next_inside n _ _ i k hlast
      · have h1 : ((n : Int) ≤ (k : Int) + 1 ∧ ¬ n = 0) := by omega
        have : ¬ ((flatList es).length : Int) < 0 := by omega
        simp [Item.flat, Itr.next, deref, Cell.asRange, Cell.asArr, bind, Except.bind, pure, Except.pure, h1, hlast,
          this, Nat.add_assoc]
        omega
  | range n d s vx hn hd hs' hl hr =>
    subst hl
    obtain ⟨v, hv, hvk⟩ := hr k hk
    have hvk' : vx[k] = .sc v := by
      rw [List.getElem?_eq_getElem hk] at hvk; simpa using hvk
    refine ⟨⟨_, rfl, fun _ _ h => by cases h; omega⟩,
      ⟨[v], ?_, by rw [hvk']; exact .sc v _ (rangeVal_scalar hv)⟩, ?_⟩
    · simp [Item.flat, Itr.get, deref, Cell.asRange, rangeArg, hv, bind, Except.bind, pure, Except.pure]
    · by_cases hlast : k + 1 < vx.length
      · rw [if_pos hlast]; exact Itr.next_inside _ _ _ i k hlast
      · have h1 : ((vx.length : Int) ≤ (k : Int) + 1 ∧ ¬ vx.length = 0) := by omega
        simp [Item.flat, Itr.next, deref, Cell.asRange, asArr_scalar hs', bind, Except.bind, pure, Except.pure, h1, hlast]

theorem cur_step {it : Itr} {size : Nat} {v : Val} {vs : List Val} (h : Cur it size (v :: vs)) :
    it.i < size ∧
    (∃ c, deref it.av = .ok c ∧ ∀ num hd, c.asRange = some (num, hd) → num ≠ 0) ∧
    (∃ p, it.get = .ok p ∧ Denotes p v) ∧
    (∃ it', it.next = .ok it' ∧ Cur it' size vs) := by
  rcases h with ⟨h, _⟩ | ⟨x, rest, tail, k, vx, vrest, hs, hrest, hk, _, hsz, hav, hri, hv⟩
  · cases h
  obtain ⟨av, i, ri⟩ := it
  simp only [List.append_assoc] at hsz hav hri
  subst hav hri
  rw [List.drop_eq_getElem_cons hk, List.cons_append, List.cons.injEq] at hv
  obtain ⟨rfl, rfl⟩ := hv
  have hlen : 0 < x.flat.length := List.length_pos_iff.mpr x.flat_ne_nil
  simp only [List.length_append] at hsz
  obtain ⟨hd, hg, hn⟩ := hs.step (flatList rest ++ tail) i ri hk
  refine ⟨by show i < size; omega, hd, hg, _, hn, ?_⟩
  by_cases hlast : ri + 1 < vx.length
  · rw [if_pos hlast]
    exact .inr ⟨x, rest, tail, ri + 1, vx, vrest, hs, hrest, hlast, .inr (hs.isRange_of_length (by omega)),
      by simp only [List.length_append]; exact hsz, (List.append_assoc ..).symm, rfl, rfl⟩
  · rw [if_neg hlast, List.drop_eq_nil_of_le (by omega)]
    exact cur_at rest tail _ size vrest hrest (by omega)

theorem Cur.i_le {it : Itr} {size : Nat} {vals : List Val} (h : Cur it size vals) : it.i ≤ size := by
  cases vals with
  | nil => exact Nat.le_of_eq h.nil_i
  | cons v vs => exact Nat.le_of_lt (cur_step h).1

theorem sideDone_cur {it : Itr} {size : Nat} {vals : List Val} (h : Cur it size vals) :
    sideDone it size = .ok vals.isEmpty := by
  cases vals with
  | nil => simp [sideDone, h.nil_i, pure, Except.pure]
  | cons v vs =>
    obtain ⟨hi, ⟨c, hc, hnum⟩, _, _⟩ := cur_step h
    have : ¬ it.i = size := by omega
    simp only [sideDone, this, ↓reduceIte, hc, bind, Except.bind, List.isEmpty_cons]
    cases hr : c.asRange with
    | none => simp [pure, Except.pure]
    | some nh =>
      obtain ⟨num, hd⟩ := nh
      have := hnum num hd hr
      simp [pure, Except.pure, this]

theorem eqAfterAbort_cur {l r : Itr} {ls rs : Nat} {vl vr : List Val} (hl : Cur l ls vl)
    (hr : Cur r rs vr) : eqAfterAbort l r ls rs = .ok (vl.isEmpty && vr.isEmpty) := by
  simp only [eqAfterAbort, sideDone_cur hl, sideDone_cur hr, bind, Except.bind]
  cases vl.isEmpty <;> simp [pure, Except.pure]

theorem hasNext_cur {l r : Itr} {ls rs : Nat} {vl vr : List Val} (hl : Cur l ls vl)
    (hr : Cur r rs vr) : hasNext l r ls rs = .ok (!vl.isEmpty && !vr.isEmpty) := by
  cases vl with
  | nil => simp [hasNext, hl.nil_i, pure, Except.pure]
  | cons v vs =>
    obtain ⟨hi, ⟨c, hc, hnum⟩, _, _⟩ := cur_step hl
    cases vr with
    | nil => simp [hasNext, hi, hr.nil_i, pure, Except.pure]
    | cons w ws =>
      obtain ⟨hi', ⟨c', hc', _⟩, _, _⟩ := cur_step hr
      simp only [hasNext, hi, hi', ↓reduceIte, hc, hc', bind, Except.bind, List.isEmpty_cons]
      cases h1 : c.asRange with
      | none => simp [pure, Except.pure]
      | some nh =>
        obtain ⟨num, hd⟩ := nh
        cases h2 : c'.asRange with
        | none => simp [pure, Except.pure]
        | some nh' =>
          obtain ⟨num', hd'⟩ := nh'
          have := hnum num hd h1
          simp [pure, Except.pure, this]

theorem cmpScalar_arr_right (c : Cell) (hc : c.isScalar = true) (ety : UInt8) (len len' : Int) :
    cmpScalar c (.arr ety len) = cmpScalar c (.arr ety len') := by
  have h : c.type ≠ tyA := scalar_type_ne_a c hc
  rw [cmpScalar_of_type_ne (b := .arr ety len) h, cmpScalar_of_type_ne (b := .arr ety len') h]
  rfl

theorem cmpScalar_arr_left (c : Cell) (hc : c.isScalar = true) (ety : UInt8) (len len' : Int) :
    cmpScalar (.arr ety len) c = cmpScalar (.arr ety len') c := by
  have h : tyA ≠ c.type := (scalar_type_ne_a c hc).symm
  rw [cmpScalar_of_type_ne (a := .arr ety len) h, cmpScalar_of_type_ne (a := .arr ety len') h]
  rfl

theorem asArr_arr (e : UInt8) (l : Int) : (Cell.arr e l).asArr = some (e, l) := rfl

theorem Val.size_pos (v : Val) : 1 ≤ v.size := by
  cases v <;> simp [Val.size] <;> omega

theorem cmpLoop_nonzero {f : Nat} {l r : Itr} {ls rs : Nat} {vl vr : List Val} (hl : Cur l ls vl)
    (hr : Cur r rs vr) (rv : Int) (hrv : rv ≠ 0) : cmpLoop (f + 1) l r ls rs rv = .ok rv := by
  simp only [cmpLoop, hasNext_cur hl hr, bind, Except.bind]
  have : (rv == 0) = false := by simpa using hrv
  simp [this, hrv, pure, Except.pure]

/-- `rtosc_arg_vals_cmp` on the flat layout computes `Val.cmpList` of the denoted values.  Its three
    functions call each other through arrays, so the three statements — whole lists (`cmp`), the loop at any
    pair of iterator positions (`cmpLoop`, `Cur`), two single values (`cmpSingle`, `Denotes`) — go through one
    induction on the fuel; the bound of the first is `fuelFor` (ArgVal/Expand.lean), what Props/C16 assumes. -/
theorem cmp_bridge : ∀ f : Nat,
    (∀ xs ys tx ty vx vy, expandList xs = some vx → expandList ys = some vy →
      fuelFor vx vy ≤ f →
      cmp f (flatList xs ++ tx) (flatList ys ++ ty) (flatList xs).length (flatList ys).length
        = .ok (Val.cmpList vx vy)) ∧
    (∀ l r ls rs vl vr, Cur l ls vl → Cur r rs vr → Val.sizeList vl + Val.sizeList vr + 1 ≤ f →
      cmpLoop f l r ls rs 0 = .ok (Val.cmpList vl vr)) ∧
    (∀ p q v w, Denotes p v → Denotes q w → v.size + w.size ≤ f →
      cmpSingle f p q = .ok (Val.cmp v w)) := by
  intro f
  induction f with
  | zero =>
    refine ⟨fun _ _ _ _ _ _ _ _ h => by simp only [fuelFor] at h; omega, fun _ _ _ _ _ _ _ _ h => by omega,
      fun _ _ v w _ _ h => ?_⟩
    have := v.size_pos; omega
  | succ f ih =>
    obtain ⟨ihA, ihB, ihC⟩ := ih
    refine ⟨?_, ?_, ?_⟩
    · intro xs ys tx ty vx vy hx hy hb
      simp only [fuelFor] at hb
      simp only [cmp]
      exact ihB _ _ _ _ vx vy (cur_init xs tx vx hx) (cur_init ys ty vy hy) (by omega)
    · intro l r ls rs vl vr hl hr hb
      simp only [cmpLoop, hasNext_cur hl hr, bind, Except.bind]
      cases vl with
      | nil =>
        simp only [List.isEmpty_nil, Bool.not_true, Bool.false_and, Bool.false_eq_true, ↓reduceIte,
          ne_eq, not_true_eq_false, eqAfterAbort_cur hl hr, Bool.true_and]
        cases vr with
        | nil => simp [Val.cmpList, pure, Except.pure]
        | cons w ws =>
          have h1 := hl.nil_i
          simp [Val.cmpList, pure, Except.pure, h1, hr.i_le]
      | cons v vs =>
        cases vr with
        | nil =>
          have h1 := hr.nil_i
          have h2 := (cur_step hl).1
          have h3 : rs - r.i < ls - l.i := by omega
          simp [eqAfterAbort_cur hl hr, Val.cmpList, pure, Except.pure, h1, hl.i_le]
          omega
        | cons w ws =>
          obtain ⟨_, _, ⟨p, hp, hpd⟩, ⟨l', hl', hcl⟩⟩ := cur_step hl
          obtain ⟨_, _, ⟨q, hq, hqd⟩, ⟨r', hr', hcr⟩⟩ := cur_step hr
          simp only [Val.sizeList] at hb
          have hC := ihC p q v w hpd hqd (by omega)
          simp only [List.isEmpty_cons, Bool.not_false, Bool.and_self, beq_self_eq_true, ↓reduceIte,
            hp, hq, hC, hl', hr', Val.cmpList]
          by_cases h0 : Val.cmp v w = 0
          · rw [h0]; simp only [↓reduceIte]
            exact ihB _ _ _ _ vs ws hcl hcr (by have := v.size_pos; omega)
          · simp only [h0, ↓reduceIte]
            cases f with
            | zero => have := v.size_pos; omega
            | succ f => exact cmpLoop_nonzero hcl hcr _ h0
    · intro p q v w hp hq hb
      cases hp with
      | sc c rest hc =>
        cases hq with
        | sc c' rest' hc' =>
          simp [cmpSingle, deref, asArr_scalar hc, Val.cmp, Val.head, bind, Except.bind, pure, Except.pure]
        | arr ety es ves rest' hes =>
          simp [cmpSingle, deref, asArr_scalar hc, Val.cmp, Val.head, bind, Except.bind, pure, Except.pure]
          exact cmpScalar_arr_right c hc ety _ _
      | arr ety es ves rest hes =>
        cases hq with
        | sc c' rest' hc' =>
          simp [cmpSingle, deref, asArr_scalar hc', Val.cmp, asArr_arr, bind, Except.bind, pure, Except.pure]
          exact cmpScalar_arr_left c' hc' ety _ _
        | arr ety' es' ves' rest' hes' =>
          simp only [Val.size] at hb
          have hA := ihA es es' rest rest' ves ves' hes hes' (by simp only [fuelFor]; omega)
          simp only [cmpSingle, deref, asArr_arr, bind, Except.bind, Val.cmp]
          by_cases hn : normTy ety = normTy ety'
          · simp [hn, hA]
          · simp [hn, pure, Except.pure]

theorem eq_arr_test (lt rt : UInt8) :
    (lt ≠ rt ∧ ¬ (lt = tyT ∧ rt = tyF) ∧ ¬ (lt = tyF ∧ rt = tyT)) ↔ normTy lt ≠ normTy rt := by
  simp only [normTy, tyT, tyF]
  by_cases h1 : lt = 84
  · subst h1
    by_cases h2 : rt = 84
    · subst h2; simp
    · have h2' : ¬ (84 : UInt8) = rt := fun e => h2 e.symm
      simp only [ne_eq, h2', not_false_eq_true, true_and, h2, and_false, ↓reduceIte]
      constructor
      · intro h e; exact h.1 e.symm
      · intro h; exact ⟨fun e => h e.symm, by decide⟩
  · by_cases h2 : rt = 84
    · subst h2
      simp only [ne_eq, h1, not_false_eq_true, false_and, and_true, true_and, ↓reduceIte]
    · simp only [ne_eq, h1, false_and, not_false_eq_true, h2, and_false, and_self, and_true, ↓reduceIte]

theorem eqLoop_false {f : Nat} {l r : Itr} {ls rs : Nat} {vl vr : List Val} (hl : Cur l ls vl)
    (hr : Cur r rs vr) : eqLoop (f + 1) l r ls rs false = .ok false := by
  simp [eqLoop, hasNext_cur hl hr, bind, Except.bind, pure, Except.pure]

/-- The same for `rtosc_arg_vals_eq`: it computes "`Val.cmpList` says equal" (`eq`, `eqLoop`, `eqSingle`). -/
theorem eq_bridge : ∀ f : Nat,
    (∀ xs ys tx ty vx vy, expandList xs = some vx → expandList ys = some vy →
      fuelFor vx vy ≤ f →
      eq f (flatList xs ++ tx) (flatList ys ++ ty) (flatList xs).length (flatList ys).length
        = .ok (decide (Val.cmpList vx vy = 0))) ∧
    (∀ l r ls rs vl vr, Cur l ls vl → Cur r rs vr → Val.sizeList vl + Val.sizeList vr + 1 ≤ f →
      eqLoop f l r ls rs true = .ok (decide (Val.cmpList vl vr = 0))) ∧
    (∀ p q v w, Denotes p v → Denotes q w → v.size + w.size ≤ f →
      eqSingle f p q = .ok (decide (Val.cmp v w = 0))) := by
  intro f
  induction f with
  | zero =>
    refine ⟨fun _ _ _ _ _ _ _ _ h => by simp only [fuelFor] at h; omega, fun _ _ _ _ _ _ _ _ h => by omega,
      fun _ _ v w _ _ h => ?_⟩
    have := v.size_pos; omega
  | succ f ih =>
    obtain ⟨ihA, ihB, ihC⟩ := ih
    refine ⟨?_, ?_, ?_⟩
    · intro xs ys tx ty vx vy hx hy hb
      simp only [fuelFor] at hb
      simp only [eq]
      exact ihB _ _ _ _ vx vy (cur_init xs tx vx hx) (cur_init ys ty vy hy) (by omega)
    · intro l r ls rs vl vr hl hr hb
      simp only [eqLoop, hasNext_cur hl hr, bind, Except.bind]
      cases vl with
      | nil =>
        cases vr with
        | nil => simp [eqAfterAbort_cur hl hr, Val.cmpList]
        | cons w ws => simp [eqAfterAbort_cur hl hr, Val.cmpList]
      | cons v vs =>
        cases vr with
        | nil => simp [eqAfterAbort_cur hl hr, Val.cmpList]
        | cons w ws =>
          obtain ⟨_, _, ⟨p, hp, hpd⟩, ⟨l', hl', hcl⟩⟩ := cur_step hl
          obtain ⟨_, _, ⟨q, hq, hqd⟩, ⟨r', hr', hcr⟩⟩ := cur_step hr
          simp only [Val.sizeList] at hb
          have hC := ihC p q v w hpd hqd (by omega)
          simp only [List.isEmpty_cons, Bool.not_false, Bool.and_self, ↓reduceIte,
            hp, hq, hC, hl', hr', Val.cmpList]
          by_cases h0 : Val.cmp v w = 0
          · simp only [h0, ↓reduceIte, decide_true]
            exact ihB _ _ _ _ vs ws hcl hcr (by have := v.size_pos; omega)
          · simp only [h0, ↓reduceIte, decide_false]
            cases f with
            | zero => have := v.size_pos; omega
            | succ f => exact eqLoop_false hcl hcr
    · intro p q v w hp hq hb
      cases hp with
      | sc c rest hc =>
        cases hq with
        | sc c' rest' hc' =>
          simp [eqSingle, deref, asArr_scalar hc, Val.cmp, Val.head, bind, Except.bind,
            eqScalar_cmpScalar c c' (Or.inl hc)]
          congr
        | arr ety es ves rest' hes =>
          simp [eqSingle, deref, asArr_scalar hc, Val.cmp, Val.head, bind, Except.bind,
            eqScalar_cmpScalar c _ (Or.inl hc), cmpScalar_arr_right c hc ety _ 0]
          congr
      | arr ety es ves rest hes =>
        cases hq with
        | sc c' rest' hc' =>
          simp [eqSingle, deref, asArr_scalar hc', Val.cmp, asArr_arr, bind, Except.bind,
            eqScalar_cmpScalar _ c' (Or.inr hc'), cmpScalar_arr_left c' hc' ety _ 0]
          congr
        | arr ety' es' ves' rest' hes' =>
          simp only [Val.size] at hb
          have hA := ihA es es' rest rest' ves ves' hes hes' (by simp only [fuelFor]; omega)
          simp only [eqSingle, deref, asArr_arr, bind, Except.bind, Val.cmp, eq_arr_test]
          by_cases hn : normTy ety = normTy ety'
          · simp [hn, hA]
          · simp only [ne_eq, hn, not_false_eq_true, ↓reduceIte, pure, Except.pure]
            congr 1
            split <;> simp

theorem iterate_cur : ∀ (vs : List Val) (f : Nat) (it : Itr) (size : Nat), Cur it size vs →
    vs.length + 1 ≤ f → ∃ ps, iterate f it size = .ok ps ∧ AllDenote ps vs
  | [], f, it, size, h, hf => by
    cases f with
    | zero => omega
    | succ f =>
      refine ⟨[], ?_, .nil⟩
      simp [iterate, h.nil_i, pure, Except.pure]
  | v :: vs, f, it, size, h, hf => by
    cases f with
    | zero => omega
    | succ f =>
      obtain ⟨hi, _, ⟨p, hp, hpd⟩, ⟨it', hn, hc⟩⟩ := cur_step h
      obtain ⟨ps, hps, hfa⟩ := iterate_cur vs f it' size hc (by simpa using hf)
      refine ⟨p :: ps, ?_, .cons hpd hfa⟩
      simp [iterate, hi, hp, hn, hps, bind, Except.bind, pure, Except.pure]

theorem countLoop_cur : ∀ (vs : List Val) (f : Nat) (it : Itr) (size : Nat), Cur it size vs →
    vs.length + 1 ≤ f → countLoop f it size = .ok vs.length
  | [], f, it, size, h, hf => by
    cases f with
    | zero => omega
    | succ f => simp [countLoop, h.nil_i, pure, Except.pure]
  | v :: vs, f, it, size, h, hf => by
    cases f with
    | zero => omega
    | succ f =>
      obtain ⟨hi, _, _, ⟨it', hn, hc⟩⟩ := cur_step h
      have := countLoop_cur vs f it' size hc (by simpa using hf)
      simp [countLoop, hi, hn, this, bind, Except.bind, pure, Except.pure]

theorem collect_cur : ∀ (vs : List Val) (it : Itr) (size : Nat), Cur it size vs →
    collect vs.length it = msgArgs vs
  | [], it, size, h => by simp [collect, msgArgs]
  | v :: vs, it, size, h => by
    obtain ⟨_, _, ⟨p, hp, hpd⟩, ⟨it', hn, hc⟩⟩ := cur_step h
    have ih := collect_cur vs it' size hc
    simp only [List.length_cons, collect, msgArgs, hp, hn, ih, bind, Except.bind]
    cases hpd with
    | sc c rest hc' => simp [deref, Val.head]; rfl
    | arr ety es ves rest hes =>
      have : Osc.hasReserved tyA = false := by decide
      simp [deref, Val.head, Cell.type, this]

theorem avmessage_bridge (xs : List Item) (vs : List Val) (h : expandList xs = some vs)
    (f : Nat) (hf : vs.length + 1 ≤ f) (buffer : Option Bytes) (addr : Bytes) :
    avmessage f buffer addr (flatList xs).length (flatList xs) = msgOf buffer addr vs := by
  have hc := cur_init xs [] vs h
  simp only [List.append_nil] at hc
  simp only [avmessage, countLoop_cur vs f _ _ hc hf, bind, Except.bind, msgOf]
  cases vs with
  | nil => simp [msgArgs, pure, Except.pure]
  | cons v vs' =>
    have := collect_cur (v :: vs') _ _ hc
    simp only [List.length_cons] at this
    simp [this]

theorem expandList_replicate_gen (x : Item) (vx : List Val) (h : x.expand = some vx) (m : Nat) :
    expandList (List.replicate m x) = some (List.replicate m vx).flatten := by
  induction m with
  | zero => simp [expandList]
  | succ m ih => simp [List.replicate_succ, expandList, h, ih]

theorem rangeVals_of_rangeVal (d s : Cell) (v : Nat → Cell) : ∀ (m i : Nat),
    (∀ k, i ≤ k → k < i + m → rangeVal d s k = .ok (v k)) →
    rangeVals d s i m = some ((List.range' i m).map fun j => .sc (v j)) := by
  intro m
  induction m with
  | zero => intro i _; simp [rangeVals]
  | succ m ih =>
    intro i h
    simp [rangeVals, h i (by omega) (by omega), ih (i + 1) (fun k h1 h2 => h k (by omega) (by omega)),
      List.range'_succ]

theorem expandList_append (a b : List Item) :
    expandList (a ++ b) = (match expandList a, expandList b with
                           | some va, some vb => some (va ++ vb)
                           | _, _ => none) := by
  induction a with
  | nil => cases h : expandList b <;> simp [expandList, h]
  | cons x xs ih =>
    simp only [List.cons_append, expandList, ih]
    cases x.expand <;> cases expandList xs <;> cases expandList b <;> simp

theorem leavesList_append (a b : List Val) :
    Val.leavesList (a ++ b) = (Val.leavesList a && Val.leavesList b) := by
  induction a with
  | nil => simp [Val.leavesList]
  | cons x xs ih => simp [Val.leavesList, ih, Bool.and_assoc]

theorem leavesList_replicate (n : Nat) (v : Val) (h : v.leaves = true) :
    Val.leavesList (List.replicate n v) = true := by
  induction n with
  | zero => simp [Val.leavesList]
  | succ n ih => simp [List.replicate_succ, Val.leavesList, h, ih]

theorem rangeVals_leaves (d s : Cell) : ∀ (m i : Nat) (r : List Val), rangeVals d s i m = some r →
    Val.leavesList r = true
  | 0, i, r, h => by simp only [rangeVals, Option.some.injEq] at h; subst h; rfl
  | m + 1, i, r, h => by
    simp only [rangeVals] at h
    split at h
    · rename_i v r' hv hr
      simp only [Option.some.injEq] at h; subst h
      simp [Val.leavesList, Val.leaves, rangeVal_scalar hv, rangeVals_leaves d s m (i + 1) r' hr]
    · cases h

mutual
theorem expand_leaves : ∀ (x : Item) (vx : List Val), x.expand = some vx → Val.leavesList vx = true
  | x, vx, h => by
    cases expand_shape h with
    | val c hc => simp [Val.leavesList, Val.leaves, hc]
    | arr ety es vs h1 => simp [Val.leavesList, Val.leaves, expandList_leaves es vs h1]
    | repVal n c hn hc => exact leavesList_replicate n _ (by simp [Val.leaves, hc])
    | repArr n ety es vs hn h1 =>
      exact leavesList_replicate n _ (by simp [Val.leaves, expandList_leaves es vs h1])
    | range n d s vx hn hd hs hl hr =>
      simp only [Item.expand] at h
      split at h
      · exact rangeVals_leaves d s n 0 vx h
      · cases h
theorem expandList_leaves : ∀ (xs : List Item) (vs : List Val), expandList xs = some vs →
    Val.leavesList vs = true
  | [], vs, h => by simp only [expandList, Option.some.injEq] at h; subst h; rfl
  | x :: xs, vs, h => by
    obtain ⟨vx, vr, hx, hxs, hv⟩ := expandList_cons h
    subst hv
    rw [leavesList_append, expand_leaves x vx hx, expandList_leaves xs vr hxs]; rfl
end

mutual
theorem ok_of_leaves_noNaN : ∀ (v : Val), v.leaves = true → v.noNaN = true → v.ok = true
  | .sc c, h1, h2 => by simp_all [Val.leaves, Val.noNaN, Val.ok]
  | .arr _ es, h1, h2 => by
    simp only [Val.leaves, Val.noNaN, Val.ok] at *
    exact okList_of_leaves_noNaN es h1 h2
theorem okList_of_leaves_noNaN : ∀ (vs : List Val), Val.leavesList vs = true →
    Val.noNaNList vs = true → Val.okList vs = true
  | [], _, _ => rfl
  | v :: vs, h1, h2 => by
    simp only [Val.leavesList, Val.noNaNList, Val.okList, Bool.and_eq_true] at *
    exact ⟨ok_of_leaves_noNaN v h1.1 h2.1, okList_of_leaves_noNaN vs h1.2 h2.2⟩
end

theorem length_le_sizeList (vs : List Val) : vs.length ≤ Val.sizeList vs := by
  induction vs with
  | nil => simp [Val.sizeList]
  | cons v vs ih => have := v.size_pos; simp [Val.sizeList]; omega

theorem cmp_flat_spec (s t : List Item) (vs vt : List Val)
    (hs : expandList s = some vs) (ht : expandList t = some vt)
    (fuel : Nat) (hf : fuelFor vs vt ≤ fuel) :
    cmp fuel (flatList s) (flatList t) (flatList s).length (flatList t).length
      = .ok (Val.cmpList vs vt) := by
  have := (cmp_bridge fuel).1 s t [] [] vs vt hs ht hf
  simpa using this

theorem okList_of_expand {s : List Item} {vs : List Val} (hs : expandList s = some vs)
    (hn : Val.noNaNList vs = true) : Val.okList vs = true :=
  okList_of_leaves_noNaN vs (expandList_leaves s vs hs) hn

/-- `rtosc_arg_vals_cmp` on two one-value lists -/
theorem cmp_single_value (a b : Cell) (ha : a.isScalar = true) (hb : b.isScalar = true)
    (fuel : Nat) (hf : 4 ≤ fuel) : cmp fuel [a] [b] 1 1 = .ok (cmpScalar a b) := by
  have h := cmp_flat_spec [.val a] [.val b] [.sc a] [.sc b]
    (by simp [expandList, Item.expand, ha]) (by simp [expandList, Item.expand, hb]) fuel
    (by simpa [fuelFor, Val.sizeList, Val.size] using hf)
  rw [show (flatList [Item.val a]) = [a] from rfl, show (flatList [Item.val b]) = [b] from rfl] at h
  simp only [List.length_cons, List.length_nil, Nat.zero_add] at h
  rw [h]
  simp only [Val.cmpList, Val.cmp, Val.head]
  by_cases e : cmpScalar a b = 0 <;> simp [e]

theorem lexCmp_prefix (a : Bytes) (x : UInt8) (r : Bytes) :
    lexCmp a (a ++ x :: r) = -1 ∧ lexCmp (a ++ x :: r) a = 1 := by
  induction a with
  | nil => simp [lexCmp]
  | cons y ys ih => simp [lexCmp, ih]

theorem head_carg (v : Val) (hl : v.leaves = true) (hn : noNullTop [v] = true)
    (hr : Osc.hasReserved v.head.type = true) : ∃ a, v.head.toCArg = .ok a := by
  cases v with
  | arr t es => simp [Val.head, Cell.type, Osc.hasReserved, tyA] at hr
  | sc c =>
    have hc : c.isScalar = true := by simpa [Val.leaves] using hl
    cases c with
    | arr _ _ => simp [Cell.isScalar] at hc
    | rep _ _ => simp [Cell.isScalar] at hc
    | str ty s =>
      cases s with
      | none => simp [noNullTop] at hn
      | some b => exact ⟨_, rfl⟩
    | flag ty => cases ty <;> simp [Val.head, Cell.type, FlagTy.char, Osc.hasReserved] at hr
    | _ => exact ⟨_, rfl⟩

theorem noNullTop_cons (v : Val) (vs : List Val) :
    noNullTop (v :: vs) = (noNullTop [v] && noNullTop vs) := by
  cases v with
  | arr t es => simp [noNullTop]
  | sc c =>
    cases c with
    | str ty s => cases s <;> simp [noNullTop]
    | _ => simp [noNullTop]

theorem msgArgs_defined : ∀ (vs : List Val), Val.leavesList vs = true → noNullTop vs = true →
    msgArgs vs = .ok (vs.map (fun v => v.head.type), vs.flatMap Val.payload) := by
  intro vs
  induction vs with
  | nil => intro _ _; rfl
  | cons v vs ih =>
    intro hl hn
    have hl' : v.leaves = true ∧ Val.leavesList vs = true := by
      simpa [Val.leavesList] using hl
    rw [noNullTop_cons] at hn
    have hn' : noNullTop [v] = true ∧ noNullTop vs = true := by simpa using hn
    have h1 := ih hl'.2 hn'.2
    by_cases hr : Osc.hasReserved v.head.type = true
    · obtain ⟨a, ha⟩ := head_carg v hl'.1 hn'.1 hr
      simp [msgArgs, h1, hr, ha, bind, Except.bind, pure, Except.pure, Val.payload]
    · simp [msgArgs, h1, hr, bind, Except.bind, pure, Except.pure, Val.payload]

end Rtosc.ArgVal
