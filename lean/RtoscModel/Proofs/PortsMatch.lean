/-
  C04 helper lemmas: `rtosc_match` on the suffix of a message that a nested
  dispatch sees, for port names of the documented form without `{}` groups; from C05's `full_suffix`
  (Proofs/MatchExtLeft.lean).
-/
import RtoscModel.Proofs.MatchExtLeft
import RtoscModel.Ports.DispatchSpec
namespace Rtosc.Ports
open Rtosc Rtosc.Match

def noAlts (segs : List Seg) : Bool := segs.all (fun s => !Seg.isAlts s)

theorem greedy_ne_nil {sub : Bool} : ∀ {segs : List Seg} {a t : Bytes}, segs ≠ [] → noAlts segs = true →
    segsWf sub segs = true → greedy segs sub a = some t → a ≠ [] := by
  intro segs a t hne hna hwf hg
  cases segs with
  | nil => exact absurd rfl hne
  | cons s r =>
    obtain ⟨hs, _, _, _⟩ := segsWf_cons hwf
    cases s with
    | lit x =>
      simp only [Seg.wf, Bool.and_eq_true, Bool.not_eq_eq_eq_not, Bool.not_true, List.isEmpty_eq_false_iff] at hs
      simp only [greedy] at hg
      split at hg
      · next hp =>
        intro h; subst h
        have := List.isPrefixOf_iff_prefix.mp hp
        exact hs.1 (List.prefix_nil.mp this)
      · cases hg
    | enum ds =>
      simp only [greedy] at hg
      split at hg
      · next hp => intro h; subst h; simp at hp
      · cases hg
    | alts as => simp [noAlts, Seg.isAlts] at hna

theorem nameWf_unpack {p : Pat} (h : nameWf p = true) :
    p.WF0 ∧ p.segs ≠ [] ∧ noAlts p.segs = true := by
  simp only [nameWf, Bool.and_eq_true, Bool.not_eq_eq_eq_not, Bool.not_true, List.isEmpty_eq_false_iff] at h
  exact ⟨h.1.1, h.1.2, h.2⟩

/-- the model's `Match.full (name ++ [0])` is `full p.cstr` -/
theorem full_render {p : Pat} (hnw : nameWf p = true)
    {a tags : Bytes} (k : Nat) (rest : Bytes)
    (ha : NulFree a) (hb : IdxBounded a) (ht : NulFree tags) :
    ∃ e, full (p.render ++ [0]) (msgBuf a tags k rest) = some ((matchB p a tags).isSome, e) ∧
      ∀ t, matchB p a tags = some t → e = some (t ++ 0 :: msgTail k tags rest) := by
  obtain ⟨hwf, hne, hna⟩ := nameWf_unpack hnw
  -- a name with at least one segment accepts no empty address, so the type string is behind the address
  have h := full_suffix hwf k rest ha hb ht fun _ hg => .inr (.inl (greedy_ne_nil hne hna (wf0_segs hwf) hg))
  simp only [Pat.cstr] at h
  rw [msgBuf, msgTail, h]
  unfold matchB
  cases hg : greedy p.segs p.sub a with
  | none => exact ⟨none, rfl, by intro t ht; cases ht⟩
  | some t =>
    cases hty : p.types with
    | none => exact ⟨_, rfl, by intro t' ht'; cases ht'; rfl⟩
    | some ts =>
      by_cases hc : typesCode ts tags = true
      · simp only [hc, ↓reduceIte]
        exact ⟨_, rfl, by intro t' ht'; cases ht'; rfl⟩
      · have hc' : typesCode ts tags = false := by simpa using hc
        simp only [hc', Bool.false_eq_true, ↓reduceIte]
        exact ⟨some (t ++ 0 :: msgTail k tags rest), rfl, by intro t' ht'; cases ht'⟩

/-- `SNIP` (the model's `snip`, Ports/Dispatch.lean; C09's `Walk.snip`, Walk/Dispatch.lean, is the same macro
    applied `k` times) on a message pointer -/
theorem snip_addr (a ex : Bytes) (ha : NulFree a) :
    snip (a ++ 0 :: ex) = some (levelTail a ++ 0 :: ex) := by
  induction a with
  | nil => simp [snip, levelTail]
  | cons c r ih =>
    have hc : c ≠ 0 := ha.head
    by_cases h47 : c = 47
    · subst h47; simp [snip, levelTail]
    · have : (c != 47) = true := by simp [h47]
      simp only [List.cons_append, snip, hc, ↓reduceIte, h47, ih ha.tail, levelTail, List.dropWhile_cons, this]

theorem levelTail_suffix (a : Bytes) : ∃ pre, a = pre ++ levelTail a := by
  have h1 : (levelTail a) <:+ a :=
    (List.drop_suffix _ _).trans (List.dropWhile_suffix _)
  obtain ⟨pre, hpre⟩ := h1
  exact ⟨pre, hpre.symm⟩

theorem NulFree.levelTail {a : Bytes} (h : NulFree a) : NulFree (levelTail a) :=
  h.suffix ((List.drop_suffix _ _).trans (List.dropWhile_suffix _))

end Rtosc.Ports
