/-
  C06 — the lookahead clause under concurrency: what a read returns.

  `Pend` follows one read operation from its linearisation point (the load of the write index) to
  its completion, through every step of either thread; the cursors are those computed from the
  reader's log (`curAt`, Ring/ConcSpec.lean).  Also: a state in which the writer is idle is a
  sequential ThreadLink with the sequential invariant (`Inv.toSeq_at`).
-/
import RtoscModel.Proofs.RingConc
namespace Rtosc.Ring
open Rtosc

theorem wStep_reader {frame : Bytes → Nat} {s s' : Conc} {e : Ev} (h : s.wStep frame = some (s', e)) :
    s'.rlog = s.rlog ∧ s'.rpc = s.rpc ∧ s'.N = s.N ∧
    ∃ ext, pubOf s'.wlog = pubOf s.wlog ++ ext := by
  cases wStep_act h with
  | accept | copy => exact ⟨rfl, rfl, rfl, [], (List.append_nil _).symm⟩
  | reject => exact ⟨rfl, rfl, rfl, _, pubOf_wNext ..⟩
  | @publish m data k =>
    refine ⟨rfl, rfl, rfl, ?_⟩
    split
    · exact ⟨_, pubOf_wNext ..⟩
    · exact ⟨_, pubOf_wNext ..⟩

theorem Inv.toSeq_at {frame : Bytes → Nat} {IsMsg : Bytes → Prop} {s : Conc} (inv : Inv frame IsMsg s)
    (li : LInv s) (hw : s.wpc = .idle) :
    SInv IsMsg s.toSeq (pubOf s.wlog) (retOf s.rlog).length (laOf s.rlog) := by
  unfold Inv at inv
  rw [hw] at inv
  have hsp := inv.hspace
  have hc := inv.hcontent
  simp only [WPc.inflight, WPc.prog, List.length_nil, Nat.add_zero, List.append_nil] at hsp hc
  exact {
    hN := inv.hN, hbuf := inv.hbuf, hrbuf := inv.hrbuf, hfault := inv.hfault, hP := inv.hP
    hCL := li.hlo, hL := li.hhi, hw := inv.hw, hr := inv.hr, hla := li.hla, hspace := hsp, hcontent := hc }

theorem headAt_prefix (P0 ext : List Bytes) (X : Nat) :
    headAt (P0 ++ ext) P0.length X = (P0[X]?).getD [] := by
  unfold headAt; rw [List.take_left' rfl]

theorem getElem_prefix {P P0 ext : List Bytes} (hP : P = P0 ++ ext) {X : Nat} (hx : X < P.length)
    (h : ((P0[X]?).getD []).length = P[X].length) : P[X] = (P0[X]?).getD [] := by
  subst hP
  by_cases h0 : X < P0.length
  · rw [List.getElem_append_left h0, List.getElem?_eq_getElem h0]; rfl
  · rw [List.getElem?_eq_none (by omega)] at h ⊢
    exact List.length_eq_zero_iff.mp h.symm

/-- The reader has loaded the write index (value `w0`) for a `read(l)` at a moment when the
    published messages were `P0` and its log was `log0`.  Whatever both threads do from there:
    the operation is still framing, or copying a message of the announced length, or it has
    completed and returned `P0[cursor]` — nothing (`[]`) when the cursor was at the end of `P0`. -/
def Pend (P0 : List Bytes) (log0 : List ROut) (l : Bool) (w0 N0 : Nat) (s : Conc) : Prop :=
  s.N = N0 ∧ (∃ ext, pubOf s.wlog = P0 ++ ext) ∧
  ((s.rlog = log0 ∧ s.rpc = .framing l w0) ∨
   (s.rlog = log0 ∧ ∃ k, s.rpc = .copying l ((P0[curAt l log0]?).getD []).length k) ∨
   (∃ more, s.rlog = log0 ++ .read l ((P0[curAt l log0]?).getD []) :: more))

theorem step_pend {frame : Bytes → Nat} {IsMsg : Bytes → Prop} (fr : Framing frame IsMsg)
    {P0 : List Bytes} {log0 : List ROut} {l : Bool} {w0 N0 : Nat}
    (hX : curAt l log0 ≤ P0.length) (hw0 : w0 = P0.flatten.length % N0)
    {s s' : Conc} {e : Ev} (t : Tid) (I : InvL frame IsMsg s)
    (p : Pend P0 log0 l w0 N0 s) (h : s.step frame t = some (s', e)) : Pend P0 log0 l w0 N0 s' := by
  obtain ⟨pN, ⟨ext, pP⟩, pc⟩ := p
  cases t with
  | writer =>
    obtain ⟨h1, h2, h6, ext', h7⟩ := wStep_reader h
    refine ⟨by rw [h6]; exact pN, ⟨ext ++ ext', by rw [h7, pP, List.append_assoc]⟩, ?_⟩
    rw [h1, h2]; exact pc
  | reader =>
    obtain ⟨hw, -, -, hNs, ext', hlog'⟩ := rStep_writer h
    refine ⟨by rw [hNs]; exact pN, ⟨ext, by rw [hw]; exact pP⟩, ?_⟩
    obtain ⟨inv, li, hR⟩ := I
    have hcur := inv.cursor li.hlo li.hla l
    rcases pc with ⟨plog, ppc⟩ | ⟨plog, k, ppc⟩ | ⟨more, plog⟩
    · -- framing: the view ends where the published messages ended at the load
      have hj3 : w0 = offs (pubOf s.wlog) P0.length % s.N := by
        rw [pP, offs_append ext (Nat.le_refl _), offs_length, pN]; exact hw0
      have hj1 : (if l = true then laOf s.rlog else (retOf s.rlog).length) ≤ P0.length := by
        rw [plog]; exact hX
      have hj2 : P0.length ≤ (pubOf s.wlog).length := by rw [pP, List.length_append]; omega
      have hview : ∀ {d0 d1 ok}, readVector s.buf s.N w0 (if l = true then s.la else s.r) = (d0, d1, ok) →
          frame (d0 ++ d1) = ((P0[curAt l log0]?).getD []).length := fun hrv => by
        rw [(inv.frame_view fr hcur.1 hj1 hj2 (hj3 ▸ hcur.2 ▸ hrv)).2, pP, headAt_prefix, plog]; rfl
      cases rStep_act h with
      | hasNext hpc | load hpc | copy hpc | copyLast hpc | store hpc => rw [ppc] at hpc; cases hpc
      | frameNone hpc hrv hlen =>
        rw [ppc] at hpc; cases hpc
        refine Or.inr (Or.inr ⟨[], ?_⟩)
        rw [plog, List.length_eq_zero_iff.mp ((hview hrv).symm.trans hlen)]
      | frame hpc hrv hgo =>
        rw [ppc] at hpc; cases hpc
        exact Or.inr (Or.inl ⟨plog, 0, by rw [hview hrv]⟩)
    · subst plog
      rw [ppc] at hR
      obtain ⟨hkle, hmsg⟩ := hR
      cases rStep_act h with
      | hasNext hpc | load hpc | frameNone hpc | frame hpc => rw [ppc] at hpc; cases hpc
      | copy hpc =>
        rw [ppc] at hpc; cases hpc
        exact Or.inr (Or.inl ⟨rfl, _, rfl⟩)
      | @copyLast len k' off c hpc hk hoc hfin =>
        rw [ppc] at hpc; cases hpc
        obtain ⟨hx, hlen, hrb⟩ := hmsg.resolve_left (by omega)
        simp only [if_true] at hx hlen hrb
        obtain ⟨hc1, hsl, rb, hbl, -, hrbt⟩ := inv.copy_chunk li.hlo hx hlen hrb hk (li.hla ▸ hoc)
        refine Or.inr (Or.inr ⟨[], ?_⟩)
        simp only [hsl, hbl]
        rw [show ((P0[curAt true s.rlog]?).getD []).length = k + c by omega, hrbt,
          show k + c = ((P0[curAt true s.rlog]?).getD []).length by omega, hlen, List.take_length]
        rw [getElem_prefix pP hx hlen]; rfl
      | @store len k' hpc hk =>
        rw [ppc] at hpc; cases hpc
        refine Or.inr (Or.inr ⟨[], ?_⟩)
        obtain rfl : k = _ := Nat.le_antisymm hkle hk
        simp only [curAt, Bool.false_eq_true, if_false] at hmsg ⊢
        rcases hmsg with h0 | ⟨hx, hlen, hrb⟩
        · rw [h0, List.take_zero, List.length_eq_zero_iff.mp h0]
        · rw [hrb, hlen, List.take_length, getElem_prefix pP hx hlen]
    · exact Or.inr (Or.inr ⟨more ++ ext', by rw [hlog', plog]; simp⟩)

theorem reach_pend {frame : Bytes → Nat} {IsMsg : Bytes → Prop} (fr : Framing frame IsMsg)
    {P0 : List Bytes} {log0 : List ROut} {l : Bool} {w0 N0 : Nat}
    (hX : curAt l log0 ≤ P0.length) (hw0 : w0 = P0.flatten.length % N0)
    {s1 s : Conc} (I1 : InvL frame IsMsg s1) (p1 : Pend P0 log0 l w0 N0 s1)
    (h : Conc.Reach frame s1 s) : Pend P0 log0 l w0 N0 s :=
  (h.invariant (I := fun s => InvL frame IsMsg s ∧ Pend P0 log0 l w0 N0 s) ⟨I1, p1⟩
    fun t I hs => ⟨step_invL fr t I.1 hs, step_pend fr hX hw0 t I.1 I.2 hs⟩).2

/-- the state right after the load of the write index that starts a `read(l)` -/
theorem pend_start {frame : Bytes → Nat} {IsMsg : Bytes → Prop} {s : Conc}
    (inv : Inv frame IsMsg s) (li : LInv s) (l : Bool) (rest : List ROp) :
    curAt l s.rlog ≤ (pubOf s.wlog).length ∧ s.w = (pubOf s.wlog).flatten.length % s.N ∧
    Pend (pubOf s.wlog) s.rlog l s.w s.N { s with rops := rest, rpc := .framing l s.w } := by
  refine ⟨?_, inv.hw, rfl, ⟨[], (List.append_nil _).symm⟩, Or.inl ⟨rfl, rfl⟩⟩
  unfold curAt; split
  · exact li.hhi
  · exact inv.hC

/-- `hasNext` answers `true` exactly below the bound of its cursor, hence `false` exactly at it -/
theorem eq_false_iff_eq_of_eq_true_iff_lt {b : Bool} {a c : Nat} (hle : a ≤ c) (h : b = true ↔ a < c) :
    b = false ↔ a = c := by
  rw [← Bool.not_eq_true, h]; omega

theorem run_reach {frame : Bytes → Nat} {s0 : Conc} (sched : List Tid) :
    ∀ s, Conc.Reach frame s0 s → Conc.Reach frame s0 (Conc.run frame sched s).1 := by
  induction sched with
  | nil => intro s h; exact h
  | cons t ts ih =>
    intro s h
    unfold Conc.run
    cases hs : s.step frame t with
    | none => exact ih s h
    | some p =>
      obtain ⟨s1, e⟩ := p
      exact ih s1 (Conc.Reach.step t h hs)

end Rtosc.Ring
