/-
  C20 — `MidiMapperRT::PendingQueue` (include/rtosc/miditable.h) as the code has it: a ring of
  32 `int` cells (`-1` = free), a read cursor, a write cursor and a size; `has` scans all 32
  cells (`Ring`, RtoscModel/MidiSpec.lean).  The model (`RtoscModel/Midi.lean`) uses the FIFO list of the occupied
  cells (`pendInsert`, `List.drop 1`, `List.contains`).  Here: the list is a sound abstraction of the
  ring — for every sequence of insert / pop from the initial state, in particular when the
  cursors wrap around (more than 32 pops in one session).
-/
import RtoscModel.MidiSpec
namespace Rtosc.Midi

theorem ringOk_init : RingOk Ring.init [] :=
  ⟨by decide, rfl, by decide, rfl, fun i h => absurd h (Nat.not_lt_zero i), fun _ _ _ => rfl⟩

theorem Ring.has_eq {r : Ring} {l : List Nat} (h : RingOk r l) (x : Nat) : r.has x = l.contains x := by
  rw [Bool.eq_iff_iff]
  simp only [Ring.has, List.any_eq_true, List.mem_range, beq_iff_eq, List.contains_iff_mem]
  constructor
  · rintro ⟨j, hj, hv⟩
    by_cases hex : ∃ i, i < r.size ∧ j = (r.posR + i) % 32
    · obtain ⟨i, hi, rfl⟩ := hex
      rw [h.cells i hi] at hv
      exact List.mem_of_getElem? hv
    · have := h.free j hj (fun i hi e => hex ⟨i, hi, e⟩)
      rw [this] at hv; cases hv
  · intro hm
    obtain ⟨i, hi, rfl⟩ := List.getElem_of_mem hm
    have hi' : i < r.size := h.len ▸ hi
    refine ⟨(r.posR + i) % 32, Nat.mod_lt _ (by decide), ?_⟩
    rw [h.cells i hi', List.getElem?_eq_getElem hi]

theorem ring_idx_inj {p i k : Nat} (hi : i < 32) (hk : k < 32) (h : (p + i) % 32 = (p + k) % 32) : i = k := by
  omega

theorem ring_idx_succ (p i : Nat) : ((1 + p) % 32 + i) % 32 = (p + (i + 1)) % 32 := by
  rw [Nat.mod_add_mod, Nat.add_comm 1 p, Nat.add_assoc, Nat.add_comm 1 i]

theorem ringOk_insert {r : Ring} {l : List Nat} (h : RingOk r l) (x : Nat) :
    RingOk (r.insert x) (pendInsert l x) := by
  unfold Ring.insert pendInsert
  rw [Ring.has_eq h, h.len]
  by_cases hc : l.contains x = true ∨ r.size > 31
  · simp only [hc, if_true]; exact h
  · simp only [hc, if_false]
    have hs : r.size < 32 := by omega
    have hW := h.posW
    refine ⟨h.posR, by simp [h.len], hs, ?_, ?_, ?_⟩
    · show (r.posW + 1) % 32 = (r.posR + (r.size + 1)) % 32
      rw [hW, Nat.mod_add_mod, Nat.add_assoc]
    · intro i hi
      dsimp only at hi ⊢
      by_cases hlast : i = r.size
      · subst hlast
        rw [if_pos hW.symm, ← h.len]; simp
      · have hi' : i < r.size := by omega
        have hne : (r.posR + i) % 32 ≠ r.posW := fun e =>
          hlast (ring_idx_inj (Nat.lt_trans hi' hs) hs (e.trans hW))
        rw [if_neg hne, h.cells i hi', List.getElem?_append_left (by rw [h.len]; exact hi')]
    · intro j hj hfree
      dsimp only at hfree ⊢
      rw [if_neg (hW ▸ hfree r.size (Nat.lt_succ_self _))]
      exact h.free j hj (fun i hi => hfree i (Nat.lt_succ_of_lt hi))

theorem ringOk_pop {r : Ring} {l : List Nat} (h : RingOk r l) : RingOk r.pop (l.drop 1) := by
  unfold Ring.pop
  by_cases hz : r.size = 0
  · simp only [hz, if_true]
    have : l = [] := List.eq_nil_of_length_eq_zero (by rw [h.len, hz])
    subst this; exact h
  · simp only [hz, if_false]
    have hR := h.posR
    obtain ⟨n, hn⟩ : ∃ n, r.size = n + 1 := ⟨r.size - 1, by omega⟩
    refine ⟨Nat.mod_lt _ (by decide), by simp [h.len], Nat.le_trans (Nat.sub_le _ _) h.size, ?_, ?_, ?_⟩
    · show r.posW = ((1 + r.posR) % 32 + (r.size - 1)) % 32
      rw [ring_idx_succ, hn]; exact hn ▸ h.posW
    · intro i hi
      dsimp only at hi ⊢
      have hne : (r.posR + (i + 1)) % 32 ≠ r.posR := fun e =>
        Nat.succ_ne_zero i (ring_idx_inj (k := 0) (by have := h.size; omega) (by decide)
          (e.trans (Nat.mod_eq_of_lt hR).symm))
      rw [ring_idx_succ, if_neg hne, h.cells (i + 1) (by omega), List.getElem?_drop, Nat.add_comm 1 i]
    · intro j hj hfree
      dsimp only at hfree ⊢
      by_cases hjr : j = r.posR
      · rw [if_pos hjr]
      · rw [if_neg hjr]
        apply h.free j hj
        intro i hi
        cases i with
        | zero => rw [Nat.add_zero, Nat.mod_eq_of_lt hR]; exact hjr
        | succ i => rw [← ring_idx_succ]; exact hfree i (by omega)

theorem pending_list_refines_ring (ops : List QOp) :
    RingOk (ops.foldl Ring.apply Ring.init) (ops.foldl pendApply []) ∧
    ∀ x, (ops.foldl Ring.apply Ring.init).has x = (ops.foldl pendApply []).contains x := by
  have key : ∀ (ops : List QOp) r l, RingOk r l → RingOk (ops.foldl Ring.apply r) (ops.foldl pendApply l) := by
    intro ops
    induction ops with
    | nil => intro r l h; exact h
    | cons op rest ih =>
      intro r l h
      simp only [List.foldl_cons]
      apply ih
      cases op with
      | insert x => exact ringOk_insert h x
      | pop => exact ringOk_pop h
  have h := key ops _ _ ringOk_init
  exact ⟨h, fun x => Ring.has_eq h x⟩

end Rtosc.Midi
