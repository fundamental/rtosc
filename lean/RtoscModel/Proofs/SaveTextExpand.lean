/-
  C12, text level — what the dispatch loop of `dispatch_printed_messages` takes out of the scanned
  cells of an array with compressed runs: `rtosc_arg_val_itr` (C16's model `ArgVal.iterate`)
  expands the repetition blocks `5x7` and the range blocks `1 ... 6` back to the values the
  printer was given.  C16's bridge (`iterate_cur`: the iterator on a flat layout yields the values
  of the specification `expandList`) and C10's `expandList_itemsAll` / `flatList_itemsAll` (the
  scanned cells of a list of segments are the flat layout of items that expand to the original
  values) are composed (`expandCells_flatList`, `expandCells_scannedAll`).  A list of scalars is
  the layout of plain items: nothing is expanded (`expandCells_scalars`).
-/
import RtoscModel.Save.Text
import RtoscModel.Proofs.ArgValBridge
import RtoscModel.Proofs.PrettyRunsExtItems
namespace Rtosc.Save.Text
open Rtosc Rtosc.Libc Rtosc.Pretty
open Rtosc.ArgVal (Cell)

theorem mapM_headCell_allDenote : ∀ (cs : List Cell) (ps : List (List Cell)),
    ArgVal.AllDenote ps (cs.map ArgVal.Val.sc) → ps.mapM headCell = .ok cs
  | [], ps, h => by
    cases h
    rfl
  | c :: r, ps, h => by
    simp only [List.map_cons] at h
    cases h with
    | cons hd hr =>
      have ih := mapM_headCell_allDenote r _ hr
      cases hd with
      | sc _ rest _ =>
        simp only [List.mapM_cons, headCell, ih, bind, Except.bind, pure, Except.pure]

theorem iterFuel_cons (c : Cell) (r : List Cell) : 1 + iterFuel r ≤ iterFuel (c :: r) := by
  cases c <;> simp only [iterFuel] <;> omega

theorem iterFuel_ge (cs : List Cell) : cs.length + 1 ≤ iterFuel cs := by
  induction cs with
  | nil => exact Nat.le_refl 1
  | cons c r ih =>
    have := iterFuel_cons c r
    simp only [List.length_cons]
    omega

/-- the iteration bound of Save/Text.lean covers the expansion of the scanned cells: a range header
    pays for the values it stands for -/
theorem iterFuel_scannedAll : ∀ (segs : List RSeg) (L : Option Cell),
    (cellsAll segs).length + 1 ≤ iterFuel (scannedAll L segs)
  | [], L => Nat.le_refl 1
  | s :: r, L => by
    have ih := iterFuel_scannedAll r (some s.last)
    cases s with
    | tok c =>
      have := iterFuel_cons c (scannedAll (some c) r)
      simp only [cellsAll, scannedAll, RSeg.cells, RSeg.scanned, RSeg.last, List.cons_append, List.nil_append,
        List.length_cons] at ih ⊢
      omega
    | crun n c =>
      have := iterFuel_cons c (scannedAll (some c) r)
      simp only [cellsAll, scannedAll, RSeg.cells, RSeg.scanned, RSeg.last, List.cons_append, List.nil_append,
        List.length_append, List.length_replicate, iterFuel] at ih ⊢
      omega
    | irun a d n =>
      simp only [cellsAll, scannedAll, RSeg.cells, RSeg.scanned, List.length_append, arithRun_length]
      split <;> simp only [List.cons_append, List.nil_append, iterFuel] <;> omega

theorem expandCells_flatList (xs : List ArgVal.Item) (cs : List Cell)
    (hexp : ArgVal.expandList xs = some (cs.map ArgVal.Val.sc))
    (hf : cs.length + 1 ≤ iterFuel (ArgVal.flatList xs)) : expandCells (ArgVal.flatList xs) = .ok cs := by
  have hcur := ArgVal.cur_init xs [] _ hexp
  simp only [List.append_nil] at hcur
  obtain ⟨ps, hps, hden⟩ := ArgVal.iterate_cur _ (iterFuel (ArgVal.flatList xs)) _ _ hcur (by simpa using hf)
  unfold expandCells
  simp only [hps, liftAV, bind, Except.bind]
  exact mapM_headCell_allDenote _ _ hden

theorem expandCells_scannedAll {opt : POpt} {segs : List RSeg} (h : Segmented opt segs) :
    expandCells (scannedAll none segs) = .ok (cellsAll segs) := by
  rw [← flatList_itemsAll h none]
  exact expandCells_flatList _ _ (expandList_itemsAll h none)
    (by rw [flatList_itemsAll h none]; exact iterFuel_scannedAll segs none)

/-- without ranges there is nothing to expand: the cells are the layout of plain items -/
theorem expandCells_scalars (cs : List Cell) (h : ∀ c ∈ cs, c.isScalar = true) : expandCells cs = .ok cs := by
  have := expandCells_flatList _ cs (expandList_vals cs h)
  rw [flatList_vals] at this
  exact this (iterFuel_ge cs)

end Rtosc.Save.Text
