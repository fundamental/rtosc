/-
  C10 — tier 3: arithmetic runs of characters.  With range compression on, a list that is one
  arithmetic run of `n ≥ 5` printable chars is printed as `'a' ... 'e'` (step ±1) or
  `'a' 'c' ... 'i'` (other steps); checker and scanner read the text back as the range block.
  The chain of `PrettyRunArith` for `Cell.int .c`, type letter 99 and `charText`.
  `charRun` and `CharRunRoundTrips` are defined in Pretty/RunSpec.lean, `CharOK` in Pretty/TokSpec.lean.
-/
import RtoscModel.Proofs.PrettyTokChar
import RtoscModel.Proofs.PrettyRunArithRead
namespace Rtosc.Pretty
open Rtosc Rtosc.Libc
open Rtosc.ArgVal (Cell)

/-! the arithmetic of `delta_from_arg_vals` (`Pretty/C11Float.lean`) on char cells is the integer one -/
theorem fromIntF_char (x k : Int) : C11.fromIntF (Cell.int .c x) k = fromInt (Cell.int .c x) k := rfl
theorem negateF_char (x : Int) : C11.negateF (Cell.int .c x) = negate (Cell.int .c x) := rfl
theorem roundF_char (x : Int) : C11.roundF (Cell.int .c x) = roundAV (Cell.int .c x) := rfl
theorem subF_char (x y : Int) : C11.subF (Cell.int .c x) (Cell.int .c y) = subAV (Cell.int .c x) (Cell.int .c y) := rfl
theorem multF_char (x y : Int) : C11.multF (Cell.int .c x) (Cell.int .c y) = multAV (Cell.int .c x) (Cell.int .c y) := rfl
theorem divF_char (x y : Int) : C11.divF (Cell.int .c x) (Cell.int .c y) = divAV (Cell.int .c x) (Cell.int .c y) := rfl
theorem toIntF_char (x : Int) : C11.toIntF (Cell.int .c x) = toIntAV (Cell.int .c x) := rfl
theorem eqTolCell_char (x y : Int) : C11.eqTolCell (Cell.int .c x) (Cell.int .c y) = eqCell (Cell.int .c x) (Cell.int .c y) := rfl

/-- 'c': the token is the quoted character or escape sequence, which reads back for the values of `CharOK` -/
def charCodec : IntKind.c.Codec where
  tok := charText
  Ok := CharOK
  print_cell := printArgVal_char
  val := C11.valOKW_charText

theorem charOK_bounds (v : Int) (h : CharOK v) : 0 ≤ v ∧ v ≤ 126 := by
  unfold CharOK at h; omega

theorem charRun_width (a d : Int) (n : Nat) (hn : 5 ≤ n)
    (hchars : ∀ k : Nat, k < n → CharOK (a + (k : Int) * d)) : ((n : Int) - 1) * d.natAbs ≤ 126 := by
  have h0 := charOK_bounds _ (hchars 0 (by omega))
  have hz := charOK_bounds _ (hchars (n - 1) (by omega))
  simp only [Int.natCast_zero, Int.zero_mul, Int.add_zero] at h0
  rw [show ((n - 1 : Nat) : Int) = (n : Int) - 1 from by omega] at hz
  obtain ⟨m, rfl | rfl⟩ := Int.eq_nat_or_neg d
  · simp only [Int.natAbs_natCast]; omega
  · simp only [Int.natAbs_neg, Int.natAbs_natCast]
    rw [Int.mul_neg] at hz
    omega

/-- the int32 hypotheses hold with a wide margin -/
theorem charRun_mk (a d : Int) (n : Nat) (hn : 5 ≤ n) (hd : d ≠ 0)
    (hchars : ∀ k : Nat, k < n → CharOK (a + (k : Int) * d)) : charCodec.Run a d n := by
  have hw := charRun_width a d n hn hchars
  have h0 := hchars 0 (by omega)
  have h1 := hchars 1 (by omega)
  simp only [Int.natCast_zero, Int.zero_mul, Int.add_zero, Int.natCast_one, Int.one_mul] at h0 h1
  have b0 := charOK_bounds _ h0
  have b1 := charOK_bounds _ h1
  have habs : (1 : Int) ≤ (d.natAbs : Int) := by omega
  have hnw := Int.mul_le_mul_of_nonneg_left habs (show (0 : Int) ≤ (n : Int) - 1 by omega)
  refine ⟨hn, hd, ?_, ?_, ?_, h0, h1, hchars (n - 1) (by omega)⟩
  · intro k hk
    show -2147483648 ≤ a + (k : Int) * d ∧ a + (k : Int) * d ≤ 2147483647
    by_cases hkn : k = n
    · subst hkn
      have hm := mul_bound_of_width k d 126 hw (k - 1) (by omega)
      have hs : (k : Int) * d = ((k - 1 : Nat) : Int) * d + d := by
        rw [show k = (k - 1) + 1 from by omega]; simpa using succ_mul' (k - 1) d
      omega
    · have hm := mul_bound_of_width n d 126 hw k (by omega)
      omega
  · show ((n : Int) - 1) * d.natAbs ≤ 2147483647
    omega
  · omega

/-- **Tier 3, arithmetic runs of chars.**  With range compression on, one arithmetic run of
    `n ≥ 5` chars of the domain (`CharOK`: NUL, the C escapes, printable ASCII) is printed as
    `'a' ... 'z'` (step ±1) or `'a' 'b' ... 'z'`; the checker counts the cells of the range block,
    the scanner returns the block.  No overflow hypotheses: all values lie in 0..126.
    What the proof uses is less (`IntKind.run_roundtrip` at `charCodec.Run`): the int32 hypotheses of
    the integer run and `CharOK` of the three values that are PRINTED (first, second, last); the
    values in between need not be chars of the domain (`'\0' '\b' ... ' '` = 0, 8, 16, 24, 32). -/
theorem char_run_roundtrip (opt : POpt) (hc : opt.compress = true) (a d : Int) (n : Nat) (hn : 5 ≤ n) (hd : d ≠ 0)
    (hchars : ∀ k : Nat, k < n → CharOK (a + (k : Int) * d)) :
    ∃ (st : PSt) (ret : Nat) (cells : List Cell),
      printArgVals opt (charRun a d n) ⟨[], 0⟩ = .ok (st, ret) ∧ ret = st.out.length ∧
      countPrintedArgVals st.out = .ok (cells.length : Int) ∧
      scanArgVals st.out cells.length = .ok (st.out.length, cells) ∧
      cells = (if d = 1 ∨ d = -1 then [Cell.rep n 1, Cell.int .c d, Cell.int .c a]
               else [Cell.int .c a, Cell.rep ((n : Int) - 1) 1, Cell.int .c d, Cell.int .c (a + d)]) :=
  IntKind.run_roundtrip opt hc (charRun_mk a d n hn hd hchars)

/-- the printed text, for reference: `'a' ... 'z'` or `'a' 'b' ... 'z'` -/
theorem char_run_text (opt : POpt) (hc : opt.compress = true) (a d : Int) (n : Nat) (hn : 5 ≤ n) (hd : d ≠ 0)
    (hchars : ∀ k : Nat, k < n → CharOK (a + (k : Int) * d)) :
    ∃ (st : PSt) (ret : Nat) (sep : Bytes), IsSepTxt sep ∧
      printArgVals opt (charRun a d n) ⟨[], 0⟩ = .ok (st, ret) ∧
      st.out = (if d = 1 ∨ d = -1 then charText a else charText a ++ lit " " ++ charText (a + d)) ++ lit " ..." ++ sep ++
        charText (a + ((n : Int) - 1) * d) := by
  obtain ⟨sep, cols', hsep, hpr⟩ := IntKind.printArgVals_run opt hc (charRun_mk a d n hn hd hchars)
  exact ⟨_, _, sep, hsep, hpr, charCodec.runText_eq a d n sep (by omega)⟩

/-- `'a' ... 'g'` -/
example := char_run_roundtrip defaultOpt rfl 97 1 7 (by decide) (by decide) (by intro k hk; unfold CharOK; omega)
/-- `'z' 'x' ... 'r'` -/
example := char_run_roundtrip defaultOpt rfl 122 (-2) 5 (by decide) (by decide) (by intro k hk; unfold CharOK; omega)
/-- `'\a' ... '\r'` -/
example := char_run_roundtrip defaultOpt rfl 7 1 7 (by decide) (by decide) (by intro k hk; unfold CharOK; omega)
/-- `'~' ... 'z'` -/
example := char_run_roundtrip defaultOpt rfl 126 (-1) 5 (by decide) (by decide) (by intro k hk; unfold CharOK; omega)

/-! Outside the domain, a value above 127: `val.i` of a 'c' argument is an `int32_t`; the printer writes
its low byte, the scanner reads the byte back as a (signed) `char`.  The run 124, 125, …, 128 is
printed as `'|' ... '\x80'`; the scanner reads the right-hand side as -128 and returns a run of 253
chars going DOWN from 124.  Some bound on the values (here `CharOK`, 0..126) is necessary. -/
theorem char_run_signed_counterexample : ¬ CharRunRoundTrips defaultOpt 124 1 5 := by
  rintro ⟨st, ret, cells, h1, _, _, h4, h5⟩
  have hp : (printArgVals defaultOpt (charRun 124 1 5) ⟨[], 0⟩).toOption =
      some (⟨[39, 124, 39, 32, 46, 46, 46, 32, 39, 128, 39], 12⟩, 11) := by decide +kernel
  have hs : (scanArgVals [39, 124, 39, 32, 46, 46, 46, 32, 39, 128, 39] 3).toOption =
      some (11, [Cell.rep 253 1, Cell.int .c (-1), Cell.int .c 124]) := by decide +kernel
  rw [h1] at hp
  simp only [Except.toOption, Option.some.injEq, Prod.mk.injEq] at hp
  obtain ⟨rfl, _⟩ := hp
  simp only [Int.reduceNeg, true_or, ↓reduceIte] at h5
  subst h5
  simp only [List.length_cons, List.length_nil, Nat.zero_add, Nat.reduceAdd] at h4
  rw [h4] at hs
  simp [Except.toOption] at hs

end Rtosc.Pretty
