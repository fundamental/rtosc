/-
  C12 / C13 — a concrete application for the non-vacuity examples of Props/C12.lean and
  Props/C13.lean: two mutually independent ports that share a dependant (the shape of the
  generated applications A6-A9: an `rDepends` list naming independent ports), and an array port
  whose per-element defaults are selected by a preset port (A9, A10).  It satisfies every
  hypothesis of the theorems (App.WF, MetaCovers, MetaRanked); `App.AncChain` fails for it (`d_not_chain`).
-/
import RtoscModel.Proofs.SaveWfBool
namespace Rtosc.Save.DiamondExample
open Rtosc.Save

/-- A five-instance application:
      /p     rParamI, rDefault(0)                                              (a preset port)
      /q     rParamI, rDefault(0)
      /d     rParamI, rDefaultDepends(p) rPreset(1, 10) rDefault(3), rDepends(q)
      /a#2   rArrayI, rDefaultDepends(p) rPreset(1, [7 8]) rDefault([1 2])
    `/p` and `/q` are independent of each other and both re-apply the default of `/d`. -/
def dParams : List Param := [
  { addr := "/p".toList, kind := .int none none, dflt := .const (.int 0), guards := [], anc := [], canon := .int 0 },
  { addr := "/q".toList, kind := .int none none, dflt := .const (.int 0), guards := [], anc := [], canon := .int 0 },
  { addr := "/d".toList, kind := .int none none, dflt := .preset 0 [(1, .int 10)] (.int 3), guards := [], anc := [0, 1],
    canon := .int 3 },
  { addr := "/a0".toList, kind := .int none none, dflt := .preset 0 [(1, .int 7)] (.int 1), guards := [], anc := [0],
    canon := .int 1 },
  { addr := "/a1".toList, kind := .int none none, dflt := .preset 0 [(1, .int 8)] (.int 2), guards := [], anc := [0],
    canon := .int 2 } ]

def dKeys : List Path := ["/d".toList, "/a".toList, "/a0".toList, "/a1".toList]

def dApropos (p : Path) : Option DepMeta :=
  if p = "/d".toList then some ⟨none, some "q".toList, some "p".toList⟩
  else if p = "/a".toList ∨ p = "/a0".toList ∨ p = "/a1".toList then some ⟨none, none, some "p".toList⟩
  else none

def dApp : App :=
  { name := "diamond".toList, params := dParams,
    walk := [.scalar 0, .scalar 1, .scalar 2, .array "/a".toList 3 2], apropos := dApropos }

/-- `/p` and `/q` are both ancestors of `/d` and neither is an ancestor of the other: `App.AncChain`
    (Save/Spec.lean; no theorem assumes it) fails -/
theorem d_not_chain : ¬ dApp.AncChain := by
  intro h
  have := h 2 (by decide) 0 (by decide) 1 (by decide)
  revert this
  decide

theorem d_wf : dApp.WF :=
  App.WF.of_checks dApp (by decide +kernel) (by decide +kernel) (by decide +kernel) (by decide +kernel)
    (by decide +kernel) (by decide +kernel) (by decide +kernel) (by decide +kernel) (by decide +kernel)
    (by decide +kernel) (by decide +kernel)

theorem d_covers : dApp.MetaCovers :=
  App.MetaCovers.of_checks dApp (by decide +kernel) (by decide +kernel)

theorem d_ranked : MetaRanked dApropos :=
  MetaRanked.of_keys dKeys
    (fun p h => by
      unfold dApropos at h
      split at h
      · simp [dKeys, *]
      · split at h
        · next h' => rcases h' with rfl | rfl | rfl <;> decide
        · exact absurd rfl h)
    (by decide) (dKeys.map fun k => (k, 1)) 0 (by decide +kernel) (by decide +kernel) (by decide) (by decide)

/-- `/p := 1` selects the presets (`/d` 10, `/a` [7 8]); `/d := 6`; `/q := 5` re-applies `/d`'s default (10);
    `/d := 4`; `/a1 := 9` -/
def dState : State :=
  dApp.run [("/p".toList, [.int 1]), ("/d".toList, [.int 6]), ("/q".toList, [.int 5]), ("/d".toList, [.int 4]),
    ("/a1".toList, [.int 9])] dApp.init

theorem d_save : dApp.save dState = [⟨"/p".toList, .plain [.int 1]⟩, ⟨"/q".toList, .plain [.int 5]⟩,
    ⟨"/d".toList, .plain [.int 4]⟩, ⟨"/a".toList, .arr [.int 7, .int 9]⟩] := by decide +kernel

/-- a file with a line for every port: the shared dependant first, the array line before the preset port -/
def dFile : List Line :=
  [⟨"/d".toList, .plain [.int 4]⟩, ⟨"/a".toList, .arr [.int 7, .int 9]⟩, ⟨"/q".toList, .plain [.int 5]⟩,
   ⟨"/p".toList, .plain [.int 1]⟩]

theorem dFile_ok : dApp.FileOK dFile where
  addr_nodup := by decide +kernel
  line_ok := by
    intro l hl
    simp [dFile] at hl
    rcases hl with rfl | rfl | rfl | rfl
    · trivial
    · exact ⟨3, 2, List.mem_cons_of_mem _ (List.mem_cons_of_mem _ (List.mem_cons_of_mem _ List.mem_cons_self)), by decide⟩
    · trivial
    · trivial
  disjoint := by decide +kernel

end Rtosc.Save.DiamondExample
