/-
  C12 / C13 — the Bool versions of `WF.kind_ok` and `WF.walk_tiles` (Save/WfBool.lean) imply the clauses;
  `WF.of_checks`, `MetaCovers.of_checks`, `MetaRanked.of_keys`: the three hypotheses of the C12/C13 theorems for a
  concrete application from statements that evaluate.
-/
import RtoscModel.Save.WfBool
import RtoscModel.Proofs.SaveFrame
namespace Rtosc.Save

theorem nodupB_sound (l : List Path) (h : nodupB l = true) : l.Nodup := by
  induction l with
  | nil => exact List.nodup_nil
  | cons a r ih =>
    simp only [nodupB, Bool.and_eq_true, Bool.not_eq_true', List.contains_eq_mem, decide_eq_false_iff_not] at h
    exact List.nodup_cons.mpr ⟨h.1, ih h.2⟩

theorem kindOkB_sound (k : Kind) (h : kindOkB k = true) : KindOK k := by
  cases k with
  | opt names => exact nodupB_sound names h
  | flt mn mx =>
    simp only [kindOkB, Bool.and_eq_true] at h
    obtain ⟨⟨h1, h2⟩, h3⟩ := h
    refine ⟨?_, ?_, ?_⟩
    · intro a ha; subst ha; simpa [notNaNB] using h1
    · intro b hb; subst hb; simpa [notNaNB] using h2
    · intro a b ha hb; subst ha; subst hb; simpa using h3
  | ichar mn mx =>
    simp only [kindOkB, Bool.and_eq_true] at h
    refine ⟨?_, ?_⟩
    · intro a ha; subst ha; simpa [inCharB] using h.1
    · intro b hb; subst hb; simpa [inCharB] using h.2
  | int mn mx => trivial
  | chr => trivial
  | tog => trivial
  | str len => trivial

theorem tilingB_sound (a b : Nat) (l : List Item) (h : tilingB a l b = true) : Tiling a l b := by
  induction l generalizing a with
  | nil =>
    simp only [tilingB, beq_iff_eq] at h
    exact h
  | cons it r ih =>
    simp only [tilingB, Bool.and_eq_true, beq_iff_eq, decide_eq_true_eq] at h
    exact ⟨h.1.1, h.1.2, ih _ h.2⟩

theorem insertLo_perm (it : Item) (l : List Item) : (insertLo it l).Perm (it :: l) := by
  induction l with
  | nil => exact List.Perm.refl _
  | cons x r ih =>
    unfold insertLo
    split
    · exact List.Perm.refl _
    · exact (List.Perm.cons x ih).trans (List.Perm.swap it x r)

theorem sortLo_perm (l : List Item) : (sortLo l).Perm l := by
  induction l with
  | nil => exact List.Perm.refl _
  | cons it r ih => exact (insertLo_perm it (sortLo r)).trans (List.Perm.cons it ih)

instance (k : Kind) (v : Val) : Decidable (Storable k v) :=
  inferInstanceAs (Decidable (store k (mapArgVal k v) = some v))

namespace App

theorem kindOkB_sound (app : App) (h : app.kindOkB = true) : ∀ i, i < app.size → KindOK (app.param i).kind := by
  intro i hi
  unfold App.kindOkB at h
  rw [List.all_eq_true] at h
  rw [param_eq_getElem app hi]
  exact Rtosc.Save.kindOkB_sound _ (h _ (List.getElem_mem hi))

theorem walkTilesB_sound (app : App) (h : app.walkTilesB = true) :
    ∃ rw : List Item, rw.Perm app.walk ∧ Tiling 0 rw app.size :=
  ⟨sortLo app.walk, sortLo_perm app.walk, tilingB_sound _ _ _ h⟩

/-- the array ports of the walk: base address, first instance, length -/
def arrayItems (app : App) : List (Path × Nat × Nat) :=
  app.walk.filterMap fun | .array base first len => some (base, first, len) | .scalar _ => none

theorem mem_arrayItems {app : App} {base : Path} {first len : Nat} (h : Item.array base first len ∈ app.walk) :
    (base, first, len) ∈ app.arrayItems :=
  List.mem_filterMap.2 ⟨_, h, rfl⟩

/-- **`App.WF` by evaluation.**  Every hypothesis is decidable for a concrete application: the clauses of
    `WF` that quantify over the shape of a default (`preset_anc`) or of a walk item (`array_ok`) are
    stated over the parent a default names and over the array items of the walk, `kind_ok` and
    `walk_tiles` in their Bool versions; the other clauses are `WF`'s own. -/
theorem WF.of_checks (app : App)
    (addr_nodup : (app.params.map (·.addr)).Nodup)
    (anc_lt : ∀ i, i < app.size → ∀ a ∈ (app.param i).anc, a < i)
    (anc_closed : ∀ i, i < app.size → ∀ a ∈ (app.param i).anc, ∀ b ∈ (app.param a).anc, b ∈ (app.param i).anc)
    (guards_anc : ∀ i, i < app.size → ∀ g ∈ (app.param i).guards, g.1 ∈ (app.param i).anc)
    (preset_anc : ∀ i, i < app.size →
      ∀ par ∈ (match (app.param i).dflt with | .preset par _ _ => [par] | .const _ => []), par ∈ (app.param i).anc)
    (kind_ok : app.kindOkB = true)
    (dflt_storable : ∀ i, i < app.size → ∀ v ∈ (app.param i).dflt.vals,
      Storable (app.param i).kind (canonicalize (app.param i).kind v))
    (canon_ok : ∀ i, i < app.size → (app.param i).canon = evalDflt (app.param i) app.init)
    (walk_tiles : app.walkTilesB = true)
    (item_addr_nodup : (app.walk.map app.itemAddr).Nodup)
    (array_ok : ∀ x ∈ app.arrayItems,
      app.findAddr x.1 = none ∧
      ∀ k, k < x.2.2 →
        (app.param (x.2.1 + k)).addr = x.1 ++ natDigits k ∧
        (app.param (x.2.1 + k)).guards = (app.param x.2.1).guards ∧
        (app.param (x.2.1 + k)).anc = (app.param x.2.1).anc ∧
        ∀ j, j < app.size → x.2.1 + k ∉ (app.param j).anc) : app.WF where
  addr_nodup := addr_nodup
  anc_lt := anc_lt
  anc_closed := anc_closed
  guards_anc := guards_anc
  preset_anc := fun i hi par tbl fb h => preset_anc i hi par (by rw [h]; exact List.mem_singleton_self par)
  kind_ok := app.kindOkB_sound kind_ok
  dflt_storable := dflt_storable
  canon_ok := canon_ok
  walk_tiles := app.walkTilesB_sound walk_tiles
  item_addr_nodup := item_addr_nodup
  array_ok := fun _ _ _ h => array_ok _ (mem_arrayItems h)

/-- **`App.MetaCovers` by evaluation**: the clause about array ports stated over `arrayItems` -/
theorem MetaCovers.of_checks (app : App)
    (params : ∀ d, d < app.size → ∀ a ∈ (app.param d).anc,
      (app.param a).addr ∈ refsOf app.apropos (app.param d).addr ∨
      ∃ m ∈ (app.param d).anc, a ∈ (app.param m).anc ∧ (app.param m).addr ∈ refsOf app.apropos (app.param d).addr)
    (arrays : ∀ x ∈ app.arrayItems, ∀ a ∈ (app.param x.2.1).anc,
      (app.param a).addr ∈ refsOf app.apropos x.1 ∨
      ∃ m ∈ (app.param x.2.1).anc, a ∈ (app.param m).anc ∧ (app.param m).addr ∈ refsOf app.apropos x.1) :
    app.MetaCovers :=
  ⟨params, fun _ _ _ h => arrays _ (mem_arrayItems h)⟩

end App

theorem levels_head (n : Nat) (X l : Path) (r : List Path) (h : levels (n + 1) X = l :: r) : l = X := by
  unfold levels at h
  split at h
  · cases h
  · split at h
    · cases h
    · cases h; rfl

/-- where a reference found along `X` comes from when no table has a `self:` port: from the metadata
    of `X` itself, or from that of a parent level `p/` -/
theorem mem_rawRefs {ap : Path → Option DepMeta} (hself : ∀ q, ap (q ++ selfName) = none) {X Y : Path}
    (h : Y ∈ rawRefs ap X) :
    (∃ m, ap X = some m ∧ Y ∈ metaRefs m X) ∨ ∃ p m, ap (p ++ ['/']) = some m ∧ Y ∈ metaRefs m p := by
  have hsm : ∀ l, selfMeta ap l = none := fun l => by unfold selfMeta; rw [hself]
  unfold rawRefs lvlArgs at h
  cases hl : levels (X.length + 1) X with
  | nil => rw [hl] at h; cases h
  | cons l r =>
    rw [hl] at h
    obtain rfl := levels_head _ _ _ _ hl
    simp only [List.flatMap_cons, List.mem_append, List.mem_flatMap, List.mem_map, refsAt, hsm, List.append_nil] at h
    rcases h with h | ⟨la, ⟨p, _, rfl⟩, h⟩
    · cases hm : ap l with
      | none => rw [hm] at h; cases h
      | some m => rw [hm] at h; exact Or.inl ⟨m, rfl, h⟩
    · cases hm : ap (p ++ ['/']) with
      | none => simp only [hm] at h; cases h
      | some m => simp only [hm] at h; exact Or.inr ⟨p, m, hm, h⟩

/-- a rank given by a table, with a value for every path the table does not list -/
def rankOf (rk : List (Path × Nat)) (D : Nat) (X : Path) : Nat := ((rk.find? (·.1 = X)).map (·.2)).getD D

theorem rankOf_of_not_mem {rk : List (Path × Nat)} {D : Nat} {X : Path} (h : X ∉ rk.map (·.1)) : rankOf rk D X = D := by
  unfold rankOf
  rw [List.find?_eq_none.2 fun e he => by simpa using fun hx => h (List.mem_map.2 ⟨e, he, hx⟩)]
  rfl

theorem rankOf_lt {rk : List (Path × Nat)} {D n : Nat} (hD : D < n) (hrk : ∀ e ∈ rk, e.2 < n) (X : Path) :
    rankOf rk D X < n := by
  unfold rankOf
  cases h : rk.find? (·.1 = X) with
  | none => exact hD
  | some e => exact hrk e (List.mem_of_find?_eq_some h)

/-- **metadata with finitely many keys, none of them a `self:` port, is ranked** when a rank given by a table
    decreases along the references of every listed path (an evaluation: `refsOf` of a given path computes) and
    every reference found at a parent level `p/` lies below the rank of the paths that are not listed: a path
    that is not listed has no metadata of its own (`mem_rawRefs`) -/
theorem MetaRanked.of_keys {ap : Path → Option DepMeta} (keys : List Path) (hkeys : ∀ p, ap p ≠ none → p ∈ keys)
    (hself : ∀ k ∈ keys, k.getLast? ≠ some ':') (rk : List (Path × Nat)) (D : Nat)
    (hlisted : ∀ X ∈ keys ++ rk.map (·.1), ∀ Y ∈ refsOf ap X, rankOf rk D Y < rankOf rk D X)
    (hparent : ∀ k ∈ keys, k.getLast? = some '/' →
      ∀ Y ∈ ((ap k).map fun m => metaRefs m k.dropLast).getD [], rankOf rk D Y < D)
    (hD : D < scanFuel) (hrk : ∀ e ∈ rk, e.2 < scanFuel) : MetaRanked ap := by
  refine ⟨rankOf rk D, fun X Y hY => ?_, rankOf_lt hD hrk⟩
  by_cases hX : X ∈ keys ++ rk.map (·.1)
  · exact hlisted X hX Y hY
  · rw [List.mem_append, not_or] at hX
    have hself' : ∀ q, ap (q ++ selfName) = none := fun q => by
      refine Classical.byContradiction fun h => hself _ (hkeys _ h) ?_
      simp [selfName]
    rw [rankOf_of_not_mem hX.2]
    rcases mem_rawRefs hself' (List.mem_filter.1 hY).1 with ⟨m, hm, _⟩ | ⟨p, m, hm, hYm⟩
    · exact absurd (hkeys X (by rw [hm]; exact Option.some_ne_none m)) hX.1
    · have := hparent (p ++ ['/']) (hkeys _ (by rw [hm]; exact Option.some_ne_none m)) (by simp) Y
      rw [hm] at this
      exact this (by simpa using hYm)

end Rtosc.Save
