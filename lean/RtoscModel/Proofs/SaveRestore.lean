/-
  C12 — loading the saved lines in index order into a fresh instance restores the state (`restore_sorted`).  The
  loop keeps `Mid s k t`; `k` moves by `Mid.send` (the saved value of parameter `k` is dispatched) or `Mid.skip` (a
  stretch of parameters for which nothing was saved); a scalar port is one such move, an array line as many turns of
  the former as it has elements, the rest of the port skipped.
-/
import RtoscModel.Proofs.SaveShape
import RtoscModel.Proofs.SaveInv
import RtoscModel.Proofs.SaveTopo

namespace Rtosc.Save

namespace App
variable {app : App}

/-- state while the lines of `s` are loaded in index order into a fresh instance: below
    `lo` it is `s` already, from `lo` on every parameter holds its `expected` value -/
structure Mid (app : App) (s : State) (lo : Nat) (t : State) : Prop where
  below : ∀ i, i < lo → t i = s i
  above : ∀ i, lo ≤ i → i < app.size → t i = expected (app.param i) t
  outside : ∀ i, app.size ≤ i → t i = s i

theorem mid_init (hwf : app.WF) (s : State) (hs : app.Inv s) : app.Mid s 0 app.init :=
  ⟨fun _ h => by omega, fun i _ hi => (expected_init hwf hi).symm, fun i hi => (hs.outside i hi).symm⟩

theorem Mid.extend {s t : State} {lo hi : Nat} (hm : app.Mid s lo t) (hle : lo ≤ hi)
    (h : ∀ i, lo ≤ i → i < hi → t i = s i) : app.Mid s hi t :=
  ⟨fun i hi' => if hlt : i < lo then hm.below i hlt else h i (by omega) hi',
   fun i h1 h2 => hm.above i (by omega) h2, hm.outside⟩

theorem Mid.final {s t : State} (hm : app.Mid s app.size t) : t = s := by
  apply State.ext
  intro i
  by_cases hi : i < app.size
  · exact hm.below i hi
  · exact hm.outside i (by omega)

def stepItem (app : App) (o : Option Line) (t : State) : Option State :=
  match o with
  | none => some t
  | some l => app.applyLine l t

theorem mid_setParam (hwf : app.WF) {s t : State} {k : Nat} (hk : k < app.size) (hm : app.Mid s k t) :
    app.Mid s (k + 1) (app.setParam k (s k) t) := by
  have hQ : app.Local fun j u => (j < k + 1 → u j = s j) ∧ (k + 1 ≤ j → u j = expected (app.param j) u) := by
    intro j hj u u' e ha h
    rw [← e, ← expected_frame hwf hj u u' ha]; exact h
  have h := setParam_pointwise hwf hQ hk (s k) t
    (fun j hj hw => ⟨fun hlt => by
        by_cases hjk : j = k
        · subst hjk; exact hw.resolve_left (fun h => h (Or.inl rfl))
        · exact hm.below j (by omega),
      fun hle => hm.above j (by omega) hj⟩)
    (fun u hu _ => ⟨fun _ => hu, fun hle => by omega⟩)
    (fun j hd u hu => ⟨fun hlt => by
        have h' := (mem_desc app).mp hd
        have := hwf.anc_lt j h'.1 k h'.2
        omega, fun _ => hu⟩)
  exact ⟨fun j hj => (h j (by omega)).1 hj, fun j h1 h2 => (h j h2).2 h1,
    fun j hj => by rw [setParam_not_wr app k _ t (not_wr_outside hk hj)]; exact hm.outside j hj⟩

theorem dispatch_saved (hwf : app.WF) {s : State} (hs : app.Inv s) {k : Nat} (hk : k < app.size) {t : State}
    (hgt : guardsOn (app.param k) t = true) :
    app.dispatch (app.param k).addr [mapArgVal (app.param k).kind (s k)] t = some (app.setParam k (s k) t) := by
  rw [dispatch_eq, findAddr_param app hwf.addr_nodup hk, Option.bind_some]
  unfold dispatchAt outcome
  have hst : store (app.param k).kind (mapArgVal (app.param k).kind (s k)) = some (s k) := hs.storable k hk
  simp only [ptrOff_of_guardsOn _ _ hgt, hst, hgt, if_true, Bool.false_eq_true, if_false, List.isEmpty_nil,
    Bool.not_true, Bool.false_and, Outcome.run]

theorem Mid.reads (hwf : app.WF) {s t : State} {k : Nat} (hk : k < app.size) (hm : app.Mid s k t) :
    ∀ a ∈ (app.param k).anc, t a = s a :=
  fun a ha => hm.below a (hwf.anc_lt k hk a ha)

theorem Mid.skip (hwf : app.WF) {s t : State} {lo hi : Nat} (hm : app.Mid s lo t) (hle : lo ≤ hi)
    (hhi : hi ≤ app.size)
    (h : ∀ i, lo ≤ i → i < hi → s i = expected (app.param i) s ∧ ∀ a ∈ (app.param i).anc, a < lo) :
    app.Mid s hi t := by
  apply hm.extend hle
  intro i h1 h2
  rw [hm.above i h1 (by omega), (h i h1 h2).1]
  exact expected_frame hwf (by omega) t s fun a ha => hm.below a ((h i h1 h2).2 a ha)

theorem Mid.send (hwf : app.WF) {s t : State} (hs : app.Inv s) {k : Nat} (hk : k < app.size)
    (hm : app.Mid s k t) (hg : guardsOn (app.param k) s = true) :
    app.dispatch (app.param k).addr [mapArgVal (app.param k).kind (s k)] t = some (app.setParam k (s k) t) ∧
      app.Mid s (k + 1) (app.setParam k (s k) t) :=
  ⟨dispatch_saved hwf hs hk ((guardsOn_frame hwf hk t s (hm.reads hwf hk)).trans hg), mid_setParam hwf hk hm⟩

theorem Inv.expected_of_off {s : State} (hs : app.Inv s) {i : Nat} (hi : i < app.size)
    (hg : guardsOn (app.param i) s = false) : s i = expected (app.param i) s := by
  rw [hs.hidden_canon i hi hg]; unfold expected; rw [hg]; rfl

theorem expected_of_on {p : Param} {s : State} (hg : guardsOn p s = true) : expected p s = evalDflt p s := by
  unfold expected; rw [if_pos hg]

theorem step_scalar (hwf : app.WF) {s : State} (hs : app.Inv s) {k : Nat} (hk : k < app.size)
    {t : State} (hm : app.Mid s k t) :
    ∃ t', app.stepItem (app.saveItem s (.scalar k)) t = some t' ∧ app.Mid s (k + 1) t' := by
  have hskip : s k = expected (app.param k) s → app.Mid s (k + 1) t := fun h =>
    hm.skip hwf (Nat.le_succ k) hk fun i h1 h2 => by
      obtain rfl : i = k := by omega
      exact ⟨h, hwf.anc_lt i hk⟩
  rw [saveItem_scalar]
  split
  · next hgs =>
    split
    · next heq => exact ⟨t, rfl, hskip (by rw [expected_of_on hgs, heq])⟩
    · exact ⟨_, hm.send hwf hs hk hgs⟩
  · next hgs => exact ⟨t, rfl, hskip (hs.expected_of_off hk (by simpa using hgs))⟩

theorem applyLine_arr_ne (app : App) (a : Path) (vs : List Val) (h : vs ≠ []) (t : State) :
    app.applyLine ⟨a, .arr vs⟩ t = app.dispatchArr a vs 0 t := by
  cases vs with
  | nil => exact absurd rfl h
  | cons v r => rfl

theorem array_elem (hwf : app.WF) {base : Path} {first len : Nat} (hw : Item.array base first len ∈ app.walk)
    {k : Nat} (hk : k < len) (hsz : first + len ≤ app.size) :
    (app.param (first + k)).addr = base ++ natDigits k ∧
    (∀ u, guardsOn (app.param (first + k)) u = guardsOn (app.param first) u) ∧
    ∀ a ∈ (app.param (first + k)).anc, a < first := by
  obtain ⟨haddr, hguards, hanc, _⟩ := (hwf.array_ok base first len hw).2 k hk
  refine ⟨haddr, fun u => by unfold guardsOn; rw [hguards], fun a ha => ?_⟩
  rw [hanc] at ha
  exact hwf.anc_lt first (by omega) a ha

theorem arr_run (hwf : app.WF) {s : State} (hs : app.Inv s) {base : Path} {first len : Nat}
    (hw : Item.array base first len ∈ app.walk) (hsz : first + len ≤ app.size)
    (hgs : guardsOn (app.param first) s = true) (m i : Nat) (him : i + m ≤ len) (cur : State)
    (hm : app.Mid s (first + i) cur) :
    ∃ r, app.dispatchArr base
          ((List.range' i m).map fun k => mapArgVal (app.param (first + k)).kind (s (first + k))) i cur
        = some r ∧ app.Mid s (first + i + m) r := by
  induction m generalizing i cur with
  | zero => exact ⟨cur, rfl, hm⟩
  | succ m ih =>
    obtain ⟨haddr, hg, _⟩ := array_elem hwf hw (k := i) (by omega) hsz
    obtain ⟨hd, hm'⟩ := hm.send hwf hs (by omega) ((hg s).trans hgs)
    obtain ⟨r, hr, hmr⟩ := ih (i + 1) (by omega) _ hm'
    refine ⟨r, ?_, by rwa [show first + i + (m + 1) = first + (i + 1) + m by omega]⟩
    rw [List.range'_succ, List.map_cons]
    unfold dispatchArr
    rw [← haddr, hd]
    exact hr

theorem step_array (hwf : app.WF) {s : State} (hs : app.Inv s) {base : Path} {first len : Nat}
    (hw : Item.array base first len ∈ app.walk) (hsz : first + len ≤ app.size)
    {t : State} (hm : app.Mid s first t) :
    ∃ t', app.stepItem (app.saveItem s (.array base first len)) t = some t' ∧
      app.Mid s (first + len) t' := by
  -- elements from `lo` on that hold their `expected` value are not sent
  have hskip : ∀ {lo r}, lo ≤ len → app.Mid s (first + lo) r →
      (∀ k, lo ≤ k → k < len → s (first + k) = expected (app.param (first + k)) s) →
      app.Mid s (first + len) r := fun {lo r} hlo hr h =>
    hr.skip hwf (by omega) hsz fun i h1 h2 => by
      obtain ⟨k, rfl⟩ : ∃ k, i = first + k := ⟨i - first, by omega⟩
      exact ⟨h k (by omega) (by omega),
        fun a ha => Nat.lt_of_lt_of_le ((array_elem hwf hw (k := k) (by omega) hsz).2.2 a ha) (Nat.le_add_right _ _)⟩
  have hgk : ∀ k, k < len → guardsOn (app.param (first + k)) s = guardsOn (app.param first) s :=
    fun k hk => (array_elem hwf hw hk hsz).2.1 s
  rcases saveItem_array_spec app s base first len with ⟨h, hno⟩ | ⟨n, h1, h2, hg, _, h, _, hsuf⟩
  · refine ⟨t, by rw [h]; rfl, hskip (lo := 0) (Nat.zero_le _) hm fun k _ hk => ?_⟩
    cases hg : guardsOn (app.param first) s with
    | false => exact hs.expected_of_off (by omega) ((hgk k hk).trans hg)
    | true =>
      rw [expected_of_on ((hgk k hk).trans hg)]
      exact (hno.resolve_left (by rw [hg]; exact Bool.noConfusion)) k hk
  · obtain ⟨r, hr, hmr⟩ := arr_run hwf hs hw hsz hg n 0 (by omega) t hm
    refine ⟨r, ?_, hskip (lo := n) h2 (by rwa [Nat.add_zero] at hmr) fun k hk1 hk => ?_⟩
    · rw [h]
      show app.applyLine ⟨base, .arr _⟩ t = some r
      rw [applyLine_arr_ne _ _ _ fun h => by simpa [Nat.ne_of_gt h1] using congrArg List.length h,
        List.range_eq_range']
      exact hr
    · rw [expected_of_on ((hgk k hk).trans hg)]; exact hsuf k hk1 hk

theorem runSteps_filterMap_cons (app : App) (s : State) (it : Item) (r : List Item) (t : State) :
    runSteps app.applyLine ((it :: r).filterMap (app.saveItem s)) t
      = (app.stepItem (app.saveItem s it) t).bind
          (runSteps app.applyLine (r.filterMap (app.saveItem s))) := by
  rw [List.filterMap_cons]
  cases app.saveItem s it <;> rfl

theorem restore_aux (hwf : app.WF) {s : State} (hs : app.Inv s) (l : List Item) (lo : Nat)
    (ht : Tiling lo l app.size) (hw : ∀ it ∈ l, it ∈ app.walk) (t : State) (hm : app.Mid s lo t) :
    runSteps app.applyLine (l.filterMap (app.saveItem s)) t = some s := by
  induction l generalizing lo t with
  | nil =>
    have : lo = app.size := ht
    subst this
    rw [hm.final]
    rfl
  | cons it r ih =>
    obtain ⟨h1, h2, h3⟩ := ht
    have hhi : it.hi ≤ app.size := (tiling_facts h3).1
    have hw' : ∀ x ∈ r, x ∈ app.walk := fun x hx => hw x (List.mem_cons_of_mem _ hx)
    rw [runSteps_filterMap_cons]
    cases it with
    | scalar k =>
      simp only [Item.lo, Item.hi] at h1 h2 h3 hhi
      subst h1
      obtain ⟨t', he, hm'⟩ := step_scalar hwf hs (show k < app.size by omega) hm
      rw [he, Option.bind_some]
      exact ih (k + 1) h3 hw' t' hm'
    | array base first len =>
      simp only [Item.lo, Item.hi] at h1 h2 h3 hhi
      subst h1
      obtain ⟨t', he, hm'⟩ := step_array hwf hs (hw _ List.mem_cons_self) hhi hm
      rw [he, Option.bind_some]
      exact ih (first + len) h3 hw' t' hm'

end App

theorem restore_sorted (app : App) (hwf : app.WF) (s : State) (hs : app.Inv s)
    (rw : List Item) (hperm : rw.Perm app.walk) (htile : Tiling 0 rw app.size) :
    runSteps app.applyLine (app.saveFrom s rw []) app.init = some s := by
  rw [App.saveFrom_perm_eq hwf s rw hperm]
  exact App.restore_aux hwf hs rw 0 htile (fun it hit => hperm.subset hit) app.init
    (App.mid_init hwf s hs)

end Rtosc.Save
