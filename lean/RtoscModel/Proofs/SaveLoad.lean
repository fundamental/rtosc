/-
  C12 / C13 — assembly: `load` dispatches a dependence-respecting permutation of the file
  (dependency scan + Kahn), any two such orders give the same result (independent lines
  commute), and the saved lines in index order rebuild the saved state.
-/
import RtoscModel.Save.Spec
import RtoscModel.Proofs.SaveTopo
import RtoscModel.Proofs.SaveScan
import RtoscModel.Proofs.SaveCommute
import RtoscModel.Proofs.SaveRestore
import RtoscModel.Proofs.BasicLemmas
namespace Rtosc.Save

/-- the messages in dispatch order -/
def pick (ls : List Line) (order : List Nat) : List Line := order.map fun i => ls.getD i default

theorem applyOrder_eq_runSteps (app : App) (ls : List Line) (order : List Nat) (h : ∀ i ∈ order, i < ls.length)
    (s : State) : app.applyOrder ls order s = runSteps app.applyLine (pick ls order) s := by
  induction order generalizing s with
  | nil => rfl
  | cons i r ih =>
    have hi : i < ls.length := h i (by simp)
    have hr : ∀ j ∈ r, j < ls.length := fun j hj => h j (by simp [hj])
    simp only [App.applyOrder, pick, List.map_cons, runSteps]
    rw [List.getElem?_eq_getElem hi]
    have : ls.getD i default = ls[i] := by simp [List.getD, List.getElem?_eq_getElem hi]
    rw [this]
    cases hl : app.applyLine ls[i] s with
    | none => simp [hl]
    | some s' => simp only [hl, Option.bind_some]; exact ih hr s'

theorem pick_perm (ls : List Line) (order : List Nat) (h : order.Perm (List.range ls.length)) :
    (pick ls order).Perm ls := by
  have := h.map (fun i => ls.getD i default)
  rwa [map_getD_range] at this

theorem pairwise_of_mem {α : Type} {R : α → α → Prop} (hs : ∀ a b, R a b → R b a) {l : List α}
    (h : l.Pairwise R) {a b : α} (ha : a ∈ l) (hb : b ∈ l) (hne : a ≠ b) : R a b := by
  induction h with
  | nil => cases ha
  | cons hx _ ih =>
    simp only [List.mem_cons] at ha hb
    rcases ha with rfl | ha <;> rcases hb with rfl | hb
    · exact absurd rfl hne
    · exact hx _ hb
    · exact hs _ _ (hx _ ha)
    · exact ih ha hb

/-- the result of `load` in terms of the dispatched sequence -/
def resOf (app : App) (n : Nat) (l : List Line) (s : State) : LoadRes :=
  match runSteps app.applyLine l s with
  | some s' => .ok s' n
  | none => .fail

theorem load_eq (app : App) (hwf : app.WF) (hcov : app.MetaCovers) (hrank : MetaRanked app.apropos)
    (ls : List Line) (hf : app.FileOK ls) (s : State) :
    ∃ l, l.Perm ls ∧ l.Pairwise (fun a b => ¬ app.lineLt b a) ∧ app.load ls s = resOf app ls.length l s := by
  obtain ⟨deps, order, hd, hk, hperm, hresp⟩ := kahn_order_respects app hwf hcov hrank ls hf.addr_nodup hf.line_ok
  have hlt : ∀ i ∈ order, i < ls.length := fun i hi => by
    have := (hperm.mem_iff).1 hi; simpa using this
  refine ⟨pick ls order, pick_perm ls order hperm, ?_, ?_⟩
  · rw [List.pairwise_iff_getElem]
    intro p q hp hq hpq hcontra
    simp only [pick, List.length_map] at hp hq
    simp only [pick, List.getElem_map] at hcontra
    have hip := hlt _ (List.getElem_mem hp)
    have hiq := hlt _ (List.getElem_mem hq)
    have h1 : ls[order[q]]? = some (ls.getD order[q] default) := by
      simp [List.getD, List.getElem?_eq_getElem hiq]
    have h2 : ls[order[p]]? = some (ls.getD order[p] default) := by
      simp [List.getD, List.getElem?_eq_getElem hip]
    have := hresp order[q] order[p] _ _ h1 h2 hcontra q p (List.getElem?_eq_getElem hq) (List.getElem?_eq_getElem hp)
    omega
  · simp only [App.load, hd, hk, resOf]
    rw [applyOrder_eq_runSteps app ls order hlt s]
    cases runSteps app.applyLine (pick ls order) s <;> rfl

theorem fileOK_perm (app : App) (ls ls' : List Line) (hp : ls.Perm ls') (hf : app.FileOK ls) : app.FileOK ls' := by
  refine ⟨(hp.map _).nodup_iff.1 hf.addr_nodup, fun l hl => hf.line_ok l ((hp.mem_iff).2 hl), ?_⟩
  have hsymm : ∀ a b : Line, (∀ p ∈ app.lineParams a, p ∉ app.lineParams b) →
      (∀ p ∈ app.lineParams b, p ∉ app.lineParams a) := fun a b h p hp hpa => h p hpa hp
  exact (hp.pairwise_iff (fun {a b} h => hsymm a b h)).1 hf.disjoint

theorem runSteps_file_agree (app : App) (hwf : app.WF) (ls l₁ l₂ : List Line) (hf : app.FileOK ls)
    (h₁ : l₁.Perm ls) (h₂ : l₂.Perm ls)
    (t₁ : l₁.Pairwise (fun a b => ¬ app.lineLt b a)) (t₂ : l₂.Pairwise (fun a b => ¬ app.lineLt b a))
    (s : State) : runSteps app.applyLine l₁ s = runSteps app.applyLine l₂ s := by
  have hnd : ls.Nodup := nodup_of_map _ hf.addr_nodup
  apply runSteps_topo_agree app.applyLine app.lineLt l₁ l₂ ?_ (h₁.trans h₂.symm) (h₁.nodup_iff.2 hnd) t₁ t₂
  intro a ha b hb hne hnab hnba s
  have hdis : ∀ p ∈ app.lineParams a, p ∉ app.lineParams b :=
    pairwise_of_mem (fun a b h p hp hpa => h p hpa hp) hf.disjoint (h₁.mem_iff.1 ha) (h₁.mem_iff.1 hb) hne
  apply independent_lines_commute app hwf a b
  intro pa hpa pb hpb
  refine ⟨?_, fun h => hnab ⟨pa, hpa, pb, hpb, h⟩, fun h => hnba ⟨pb, hpb, pa, hpa, h⟩⟩
  intro heq; subst heq
  exact hdis pa hpa hpb

theorem load_save' (app : App) (hwf : app.WF) (hcov : app.MetaCovers) (hrank : MetaRanked app.apropos)
    (s : State) (hs : app.Inv s) : app.load (app.save s) app.init = .ok s (app.save s).length := by
  obtain ⟨rw, hrw, htile⟩ := hwf.walk_tiles
  have hf := save_fileOK app hwf s
  obtain ⟨l, hl, tl, el⟩ := load_eq app hwf hcov hrank (app.save s) hf app.init
  rw [el, resOf, runSteps_file_agree app hwf (app.save s) l (app.saveFrom s rw []) hf hl
      (saveFrom_perm app hwf s rw hrw) tl (saveFrom_topo app hwf s rw hrw htile) app.init,
      restore_sorted app hwf s hs rw hrw htile]

theorem scanBody_none (body : List (Option Line)) (h : none ∈ body) : (scanBody body).2 = false := by
  induction body with
  | nil => cases h
  | cons a r ih =>
    cases a with
    | none => rfl
    | some l =>
      simp only [List.mem_cons] at h
      rcases h with h | h
      · cases h
      · simp only [scanBody]; exact ih h

theorem scanBody_some (ls : List Line) : scanBody (ls.map some) = (ls, true) := by
  induction ls with
  | nil => rfl
  | cons a r ih => simp [scanBody, ih]

theorem loadFile_saveFile (app : App) (hwf : app.WF) (hcov : app.MetaCovers) (hrank : MetaRanked app.apropos)
    (rv av : Nat × Nat × Nat) (hrv : verOk rv = true) (hav : verOk av = true)
    (s : State) (hs : app.Inv s) :
    app.loadFile (app.saveFile rv av s) app.init = .ok s (app.save s).length := by
  simp only [App.loadFile, App.saveFile, hrv, hav, scanBody_some, ne_eq, not_true_eq_false, decide_false,
    Bool.not_true, Bool.or_false, Bool.false_eq_true, ↓reduceIte]
  exact load_save' app hwf hcov hrank s hs

theorem runSteps_fail_mem {σ ι : Type} (step : ι → σ → Option σ) (l : List ι) (x : ι) (hx : x ∈ l)
    (hfail : ∀ s, step x s = none) (s : σ) : runSteps step l s = none := by
  induction l generalizing s with
  | nil => cases hx
  | cons a r ih =>
    simp only [runSteps]
    cases h : step a s with
    | none => rfl
    | some s' =>
      simp only [Option.bind_some]
      rcases List.mem_cons.1 hx with rfl | hr
      · rw [hfail] at h; cases h
      · exact ih hr s'

/-- a line that no port accepts in any state makes `load` fail, wherever it stands (C12 `rejects_unmatched`) -/
theorem load_unmatched' (app : App) (hrank : MetaRanked app.apropos) (ls : List Line)
    (hnd : (ls.map (·.addr)).Nodup) (l : Line) (hl : l ∈ ls) (hun : ∀ s, app.applyLine l s = none) (s : State) :
    app.load ls s = .fail := by
  obtain ⟨deps, order, hd, hk, hperm, _⟩ := kahn_scan app.apropos hrank (ls.map (·.addr)) hnd
  rw [List.length_map] at hperm
  have hlt : ∀ i ∈ order, i < ls.length := fun i hi => by
    have := (hperm.mem_iff).1 hi; simpa using this
  simp only [App.load, hd, hk]
  rw [applyOrder_eq_runSteps app ls order hlt s,
    runSteps_fail_mem app.applyLine _ l ((pick_perm ls order hperm).mem_iff.2 hl) hun s]

theorem mem_save_item (app : App) (hwf : app.WF) (s : State) {it : Item} (hi : it ∈ app.walk) {l : Line}
    (hl : l ∈ app.save s) (ha : l.addr = app.itemAddr it) : app.saveItem s it = some l := by
  obtain ⟨it', hit, hs⟩ := (mem_save_iff app hwf s l).1 hl
  obtain rfl : it' = it :=
    inj_of_nodup_map hwf.item_addr_nodup hit hi (by rw [← App.saveItem_addr hs, ha])
  exact hs

theorem saved_iff (app : App) (hwf : app.WF) (s : State) {it : Item} (hi : it ∈ app.walk) :
    (∃ l ∈ app.save s, l.addr = app.itemAddr it) ↔ ∃ l, app.saveItem s it = some l :=
  ⟨fun ⟨l, hl, ha⟩ => ⟨l, mem_save_item app hwf s hi hl ha⟩,
   fun ⟨l, h⟩ => ⟨l, (mem_save_iff app hwf s l).2 ⟨it, hi, h⟩, App.saveItem_addr h⟩⟩

end Rtosc.Save
