/-
  C10/C11 — tokens of the string types: 's' (always quoted) and 'S' when it needs quotes.
  A string may be written in parts, `"…"\ "…"`, with any white space behind the backslash;
  `C11.StrBodyW text content` describes the text between the outer quotes (parts without a break, `Seg`,
  joined that way), and scanner and checker read every such text back (`C11.valOK_stringW`,
  `C11.valOK_symbol_quotedW`).  The printed text depends on the printer state: `printStrChars` inserts
  `breakText` (`"\` newline, four spaces, `"`) before a character when the line is full and after
  every `\n` escape; these are such texts (`StrBodyW.consBrk`, `printStrChars_body`).
-/
import RtoscModel.Proofs.PrettyTokSym
namespace Rtosc.Pretty
open Rtosc Rtosc.Libc
open Rtosc.ArgVal (Cell)

/-- one part of a printed string (no line break inside): text and the content it stands for -/
inductive Seg : Bytes → Bytes → Prop
  | nil : Seg [] []
  | plain (c : UInt8) (t k : Bytes) : c ≠ 34 → c ≠ 92 → Seg t k → Seg (c :: t) (c :: k)
  | esc (e : UInt8) (t k : Bytes) : getEscapedChar e false ≠ 0 → Seg t k →
      Seg (92 :: e :: t) (getEscapedChar e false :: k)

/-- the text between the first opening and the last closing quote: parts joined by
    `"`, `\`, any white space, `"` -/
inductive C11.StrBodyW : Bytes → Bytes → Prop
  | last (t k : Bytes) : Seg t k → C11.StrBodyW t k
  | brk (t k ws t' k' : Bytes) : Seg t k → (∀ c ∈ ws, isspace c = true) → C11.StrBodyW t' k' →
      C11.StrBodyW (t ++ 34 :: 92 :: ws ++ 34 :: t') (k ++ k')

theorem C11.StrBodyW.consPlain (c : UInt8) (t k : Bytes) (h34 : c ≠ 34) (h92 : c ≠ 92) (h : C11.StrBodyW t k) :
    C11.StrBodyW (c :: t) (c :: k) := by
  cases h with
  | last _ _ hs => exact .last _ _ (.plain c _ _ h34 h92 hs)
  | brk t1 k1 ws t2 k2 hs hws hb => exact .brk (c :: t1) (c :: k1) ws t2 k2 (.plain c _ _ h34 h92 hs) hws hb

theorem C11.StrBodyW.consEsc (e : UInt8) (t k : Bytes) (hne : getEscapedChar e false ≠ 0) (h : C11.StrBodyW t k) :
    C11.StrBodyW (92 :: e :: t) (getEscapedChar e false :: k) := by
  cases h with
  | last _ _ hs => exact .last _ _ (.esc e _ _ hne hs)
  | brk t1 k1 ws t2 k2 hs hws hb => exact .brk (92 :: e :: t1) (_ :: k1) ws t2 k2 (.esc e _ _ hne hs) hws hb

theorem C11.StrBodyW.consBrk (t k : Bytes) (h : C11.StrBodyW t k) : C11.StrBodyW (breakText ++ t) k := by
  simpa [breakText] using C11.StrBodyW.brk [] [] [10, 32, 32, 32, 32] t k .nil (by decide) h

theorem strByte_facts (c : UInt8) (h : StrByteOK c) :
    c ≠ 0 ∧
    ((asEscapedChar c false = none ∧ c ≠ 34 ∧ c ≠ 92) ∨
     (asEscapedChar c false = some ((asEscapedChar c false).getD 0) ∧
      getEscapedChar ((asEscapedChar c false).getD 0) false = c)) := by
  unfold StrByteOK at h
  revert h; revert c; apply UInt8.forall_of_fin; decide +kernel

theorem at?_one (c : UInt8) (r : Bytes) : at? (c :: r) 1 = some (hd r) := by
  cases r <;> simp [at?]

theorem scanStrPart_seg (t k : Bytes) (h : Seg t k) (r : Bytes) :
    ∀ fuel, t.length + 1 ≤ fuel → scanStrPart fuel (t ++ 34 :: r) = .ok (k, 34 :: r) := by
  induction h with
  | nil =>
    intro fuel hf
    obtain ⟨f, rfl⟩ : ∃ f, fuel = f + 1 := ⟨fuel - 1, by omega⟩
    simp [scanStrPart]
  | plain c t k h34 h92 _ ih =>
    intro fuel hf
    obtain ⟨f, rfl⟩ : ∃ f, fuel = f + 1 := ⟨fuel - 1, by omega⟩
    have := ih f (by simp at hf; omega)
    simp [scanStrPart, h34, h92, this, bind, Except.bind, pure, Except.pure]
  | esc e t k hne _ ih =>
    intro fuel hf
    obtain ⟨f, rfl⟩ : ∃ f, fuel = f + 1 := ⟨fuel - 1, by omega⟩
    have := ih f (by simp at hf; omega)
    simp [scanStrPart, this, bind, Except.bind, pure, Except.pure]

theorem skipFmt_contW (ws x : Bytes) (h : ∀ c ∈ ws, isspace c = true) :
    skipFmt fmtStrCont (34 :: 92 :: (ws ++ 34 :: x)) = ws.length + 3 := by
  simp [skipFmt, scanRd, sscanf, fmtStrCont, sscanfGo, skipSpace_lead ws (34 :: x) h (Or.inr (by rw [hd_cons]; decide))]
  omega

theorem scanStrParts_body (t k : Bytes) (h : C11.StrBodyW t k) (r : Bytes) (hr : hd r ≠ 92) :
    ∀ fuel, t.length + 1 ≤ fuel → scanStrParts fuel (t ++ 34 :: r) = .ok (k, 34 :: r) := by
  induction h with
  | last t k hs =>
    intro fuel hf
    obtain ⟨f, rfl⟩ : ∃ f, fuel = f + 1 := ⟨fuel - 1, by omega⟩
    unfold scanStrParts
    rw [scanStrPart_seg t k hs r _ (by simp)]
    simp [bind, Except.bind, at?_one, hr, pure, Except.pure]
  | brk t k ws t' k' hs hws _ ih =>
    intro fuel hf
    obtain ⟨f, rfl⟩ : ∃ f, fuel = f + 1 := ⟨fuel - 1, by omega⟩
    have e1 : t ++ 34 :: 92 :: ws ++ 34 :: t' ++ 34 :: r =
        t ++ 34 :: (92 :: (ws ++ 34 :: (t' ++ 34 :: r))) := by simp
    have := ih f (by simp at hf; omega)
    rw [e1]
    unfold scanStrParts
    rw [scanStrPart_seg t k hs _ _ (by simp)]
    simp [bind, Except.bind, at?_one, skipFmt_contW ws _ hws, this, pure, Except.pure]

theorem scanString_s (t k rest : Bytes) (h : C11.StrBodyW t k) (hs : Sep rest) :
    scanString (34 :: t ++ 34 :: rest) = .ok ⟨rest, [Cell.str .s (some k)], true⟩ := by
  have h92 := (sep_hd_facts rest hs).ne92
  have h83 := (sep_hd_facts rest hs).ne83
  unfold scanString
  have := scanStrParts_body t k h rest h92 ((34 :: t ++ 34 :: rest).length + 1) (by simp; omega)
  simp only [List.cons_append, List.drop_succ_cons, List.drop_zero] at this ⊢
  rw [this]
  simp [bind, Except.bind, h83, pure, Except.pure]

theorem scanString_S (t k rest : Bytes) (h : C11.StrBodyW t k) :
    scanString (34 :: t ++ 34 :: 83 :: rest) = .ok ⟨rest, [Cell.str .S (some k)], true⟩ := by
  unfold scanString
  have := scanStrParts_body t k h (83 :: rest) (by simp) ((34 :: t ++ 34 :: 83 :: rest).length + 1) (by simp; omega)
  simp only [List.cons_append, List.drop_succ_cons, List.drop_zero] at this ⊢
  rw [this]
  simp [bind, Except.bind, pure, Except.pure]

theorem strBody_seg (t k : Bytes) (h : Seg t k) (r : Bytes) :
    strBody (t ++ 34 :: r) false = some (34 :: r) := by
  induction h with
  | nil => simp [strBody]
  | plain c t k h34 h92 _ ih => simp [strBody, h34, h92, ih]
  | esc e t k hne _ ih => simp [strBody, hne, ih]

theorem eosLoop_body (t k : Bytes) (h : C11.StrBodyW t k) (r : Bytes) (hr : hd r ≠ 92) :
    ∀ fuel, t.length + 1 ≤ fuel → eosLoop fuel (t ++ 34 :: r) = .ok (some r) := by
  induction h with
  | last t k hs =>
    intro fuel hf
    obtain ⟨f, rfl⟩ : ∃ f, fuel = f + 1 := ⟨fuel - 1, by omega⟩
    unfold eosLoop
    rw [strBody_seg t k hs r]
    simp [hr]
  | brk t k ws t' k' hs hws _ ih =>
    intro fuel hf
    obtain ⟨f, rfl⟩ : ∃ f, fuel = f + 1 := ⟨fuel - 1, by omega⟩
    have e1 : t ++ 34 :: 92 :: ws ++ 34 :: t' ++ 34 :: r =
        t ++ 34 :: (92 :: (ws ++ 34 :: (t' ++ 34 :: r))) := by simp
    have := ih f (by simp at hf; omega)
    rw [e1]
    unfold eosLoop
    rw [strBody_seg t k hs _]
    simp [skipFmt_contW ws _ hws, this]

theorem skipString_s (t k rest : Bytes) (h : C11.StrBodyW t k) (hs : Sep rest) :
    skipString (34 :: t ++ 34 :: rest) = .ok ⟨some rest, 1, 115, 0⟩ := by
  have h92 := (sep_hd_facts rest hs).ne92
  have h83 := (sep_hd_facts rest hs).ne83
  unfold skipString endOfPrintedString
  have := eosLoop_body t k h rest h92 (34 :: t ++ 34 :: rest).length (by simp <;> omega)
  simp only [List.cons_append, List.drop_succ_cons, List.drop_zero] at this ⊢
  rw [this]
  simp [bind, Except.bind, h83, pure, Except.pure]

theorem skipString_S (t k rest : Bytes) (h : C11.StrBodyW t k) :
    skipString (34 :: t ++ 34 :: 83 :: rest) = .ok ⟨some rest, 1, 83, 0⟩ := by
  unfold skipString endOfPrintedString
  have := eosLoop_body t k h (83 :: rest) (by simp) (34 :: t ++ 34 :: 83 :: rest).length (by simp <;> omega)
  simp only [List.cons_append, List.drop_succ_cons, List.drop_zero] at this ⊢
  rw [this]
  simp [bind, Except.bind, pure, Except.pure]

theorem tokStart_quote (t : Bytes) : TokStart (34 :: t) := by
  refine ⟨by simp, ?_, ?_, ?_, ?_, ?_, ?_, ?_⟩ <;> simp only [hd_cons] <;> decide

/-- **string token, any concatenation**: `"` body `"` reads back as the 's' value -/
theorem C11.valOK_stringW (t k : Bytes) (h : C11.StrBodyW t k) :
    C11.ValOK (34 :: t ++ [34]) (Cell.str .s (some k)) := by
  have e : ∀ rest, (34 :: t ++ [34]) ++ rest = 34 :: t ++ 34 :: rest := by simp
  refine .of_value _ _ 115 rfl rfl (tokStart_quote _) (by simp only [List.cons_append, hd_cons]; decide)
    (fun rest hs se prev => ?_) (fun rest hs sk ty ib => ?_)
  · rw [e, scanValue_quote _ _ _ (by simp)]
    exact scanString_s t k rest h hs
  · rw [e, skipValue_quote _ _ _ _ (by simp), skipString_s t k rest h hs]
    rfl

theorem C11.valOK_symbol_quotedW (t k : Bytes) (h : C11.StrBodyW t k) :
    C11.ValOK (34 :: t ++ [34, 83]) (Cell.str .S (some k)) := by
  have e : ∀ rest, (34 :: t ++ [34, 83]) ++ rest = 34 :: t ++ 34 :: 83 :: rest := by simp
  refine .of_value _ _ 83 rfl rfl (tokStart_quote _) (by simp only [List.cons_append, hd_cons]; decide)
    (fun rest hs se prev => ?_) (fun rest hs sk ty ib => ?_)
  · rw [e, scanValue_quote _ _ _ (by simp)]
    exact scanString_S t k rest h
  · rw [e, skipValue_quote _ _ _ _ (by simp), skipString_S t k rest h]
    rfl

theorem printStrChars_body (ll : Int) (s : Bytes) (h : ∀ b ∈ s, StrByteOK b) :
    ∀ st : PSt, ∃ body, (printStrChars false ll s st).out = st.out ++ body ∧ C11.StrBodyW body s := by
  induction s with
  | nil => intro st; exact ⟨[], by simp [printStrChars], .last _ _ .nil⟩
  | cons c r ih =>
    intro st
    have ihr := ih (fun b hb => h b (by simp [hb]))
    obtain ⟨hc0, hc⟩ := strByte_facts c (h c (by simp))
    -- the optional break in front of the character
    have front : ∀ (st1 : PSt) (pre : Bytes), st1.out = st.out ++ pre → (pre = [] ∨ pre = breakText) →
        (∃ body, (match asEscapedChar c false with
          | some e =>
            let st2 : PSt := { out := st1.out ++ [92, e], cols := st1.cols + 2 }
            let st3 : PSt := if !false && e = 110 then { out := st2.out ++ breakText, cols := 5 } else st2
            printStrChars false ll r st3
          | none => printStrChars false ll r { out := st1.out ++ [c], cols := st1.cols + 1 }).out = st.out ++ body ∧
          C11.StrBodyW body (c :: r)) := by
      intro st1 pre hout hpre
      have wrap : ∀ body, C11.StrBodyW body (c :: r) → C11.StrBodyW (pre ++ body) (c :: r) := by
        intro body hb
        rcases hpre with rfl | rfl
        · simpa using hb
        · exact hb.consBrk
      rcases hc with ⟨hnone, h34, h92⟩ | ⟨hsome, hget⟩
      · rw [hnone]
        obtain ⟨body, hb, hB⟩ := ihr { out := st1.out ++ [c], cols := st1.cols + 1 }
        refine ⟨pre ++ c :: body, ?_, wrap _ (hB.consPlain c _ _ h34 h92)⟩
        rw [hb]; simp [hout]
      · rw [hsome]
        generalize (asEscapedChar c false).getD 0 = e at hget
        have hne : getEscapedChar e false ≠ 0 := by rw [hget]; exact hc0
        by_cases h110 : e = 110
        · obtain ⟨body, hb, hB⟩ := ihr { out := st1.out ++ [92, e] ++ breakText, cols := 5 }
          refine ⟨pre ++ 92 :: e :: (breakText ++ body), ?_, wrap _ ?_⟩
          · simp only [h110, Bool.not_false, Bool.true_and, decide_true, ↓reduceIte] at hb ⊢
            rw [hb]; simp [hout]
          · have := hB.consBrk.consEsc e _ _ hne
            rwa [hget] at this
        · obtain ⟨body, hb, hB⟩ := ihr { out := st1.out ++ [92, e], cols := st1.cols + 2 }
          refine ⟨pre ++ 92 :: e :: body, ?_, wrap _ ?_⟩
          · simp only [h110, Bool.not_false, Bool.true_and, decide_false, Bool.false_eq_true, ↓reduceIte] at hb ⊢
            rw [hb]; simp [hout]
          · have := hB.consEsc e _ _ hne
            rwa [hget] at this
    unfold printStrChars
    by_cases hbrk : st.cols > ll - 3
    · simp only [Bool.not_false, Bool.true_and, hbrk, decide_true, ↓reduceIte]
      exact front { out := st.out ++ breakText, cols := 5 } breakText rfl (Or.inr rfl)
    · simp only [Bool.not_false, Bool.true_and, hbrk, decide_false, Bool.false_eq_true, ↓reduceIte]
      exact front st [] (by simp) (Or.inl rfl)

theorem takeWhile_ok (s : Bytes) (h : ∀ b ∈ s, StrByteOK b) : s.takeWhile (· ≠ 0) = s :=
  takeWhile_all _ s (fun b hb => by simp [(strByte_facts b (h b hb)).1])

theorem printArgVal_str_quoted (fuel : Nat) (opt : POpt) (ty : Rtosc.ArgVal.StrTy) (s : Bytes)
    (h : ∀ b ∈ s, StrByteOK b) (hq : (ty == .S && symbolPlain s) = false)
    (more : List Cell) (prev : Option Cell) (st : PSt) :
    ∃ (body : Bytes) (cols' : Int), C11.StrBodyW body s ∧
      printArgVal (fuel + 1) opt (Cell.str ty (some s) :: more) prev st =
        .ok (⟨st.out ++ (34 :: body ++ 34 :: (if ty == Rtosc.ArgVal.StrTy.S then [83] else [])), cols'⟩,
             (34 :: body ++ 34 :: (if ty == Rtosc.ArgVal.StrTy.S then [83] else [])).length) := by
  obtain ⟨body, hb, hB⟩ := printStrChars_body opt.linelength s h { out := st.out ++ [34], cols := st.cols + 1 }
  refine ⟨body, (printStrChars false opt.linelength s { out := st.out ++ [34], cols := st.cols + 1 }).cols + 1, hB, ?_⟩
  simp only [printArgVal, deref, bind, Except.bind, pure, Except.pure, takeWhile_ok s h, hq,
    Bool.false_eq_true, ↓reduceIte]
  rw [hb]
  simp

/-- a concrete instance: a break because the line is full and a break behind `\n` -/
example : (printStrChars false 10 [97, 10, 98] ⟨[], 9⟩).out = breakText ++ [97, 92, 110] ++ breakText ++ [98] := by
  decide +kernel

/-- 's': a quoted string with escapes, broken into `"…"\` newline `    "…"` pieces at any line length -/
theorem C11.printsVal_string (opt : POpt) (s : Bytes) (h : ∀ b ∈ s, StrByteOK b) :
    C11.PrintsVal opt (Cell.str .s (some s)) := by
  intro fuel more prev st
  obtain ⟨body, cols', hB, hp⟩ := printArgVal_str_quoted fuel opt .s s h (by simp) more prev st
  exact ⟨34 :: body ++ [34], cols', by simpa using hp, C11.valOK_stringW body s hB⟩

/-- 'S' that needs quotes: the same text followed by `S` -/
theorem C11.printsVal_symbol_quoted (opt : POpt) (s : Bytes) (h : ∀ b ∈ s, StrByteOK b)
    (hq : symbolPlain s = false) : C11.PrintsVal opt (Cell.str .S (some s)) := by
  intro fuel more prev st
  obtain ⟨body, cols', hB, hp⟩ := printArgVal_str_quoted fuel opt .S s h (by simp [hq]) more prev st
  exact ⟨34 :: body ++ [34, 83], cols', by simpa using hp, C11.valOK_symbol_quotedW body s hB⟩

/-- 'S', with or without quotes -/
theorem C11.printsVal_symbol (opt : POpt) (s : Bytes) (h : ∀ b ∈ s, StrByteOK b) :
    C11.PrintsVal opt (Cell.str .S (some s)) := by
  by_cases hq : symbolPlain s = true
  · exact C11.printsVal_symbol_plain opt s hq
  · exact C11.printsVal_symbol_quoted opt s h (by simpa using hq)

end Rtosc.Pretty
