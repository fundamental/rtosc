/-
  C20 — the value a controller last sent, as a function of the HISTORY (`lastVals`), and
  the invariant that ties it to the value slots of the realtime half (`Track`): along a hazard-free
  history each mapping entry's half of its value slot holds the last value its controller sent while
  bound (0 if none), and a half nobody owns holds 0.
-/
import RtoscModel.Proofs.MidiClone
namespace Rtosc.Midi

theorem lastVals_cc (s : Sys) (id v : Nat) (h) (x : Nat) :
    lastVals ((s, .cc id v) :: h) x = if x = id ∧ (s.rt.binding id).isSome then v else lastVals h x := rfl

theorem lastVals_map (s : Sys) (a k h) : lastVals ((s, .map a k) :: h) = lastVals h := rfl
theorem lastVals_unmap (s : Sys) (a k h) : lastVals ((s, .unmap a k) :: h) = lastVals h := rfl
theorem lastVals_clear (s : Sys) (h) : lastVals ((s, .clear) :: h) = lastVals h := rfl
theorem lastVals_deliverNRT (s : Sys) (h) : lastVals ((s, .deliverNRT) :: h) = lastVals h := rfl

theorem lastVals_bind {s : Sys} {ns ans rest} (hq : s.toRT = .bind ns ans :: rest) (h) (x : Nat) :
    lastVals ((s, .deliverRT) :: h) x = if (ns.binding x).isSome then lastVals h x else 0 := by
  simp only [lastVals, hq]

theorem lastVals_nobind {s : Sys} (hq : ∀ ns ans rest, s.toRT ≠ .bind ns ans :: rest) (h) :
    lastVals ((s, .deliverRT) :: h) = lastVals h := by
  cases hto : s.toRT with
  | nil => simp only [lastVals, hto]
  | cons m rest =>
    cases m with
    | addWatch => simp only [lastVals, hto]
    | bind ns ans => exact absurd hto (hq ns ans rest)

theorem lastVals_lt {P h s} (t : Trace P h s) : ∀ x, lastVals h x < 128 := by
  induction t with
  | init => intro x; simp [lastVals]
  | step t hwf hs ih =>
    rename_i h0 s0 s1 op out
    intro x
    cases op with
    | cc id v =>
      rw [lastVals_cc]; split
      · simp only [Op.wf] at hwf; omega
      · exact ih x
    | deliverRT =>
      cases hto : s0.toRT with
      | nil => rw [lastVals_nobind (by simp [hto])]; exact ih x
      | cons m rest =>
        cases m with
        | addWatch => rw [lastVals_nobind (by simp [hto])]; exact ih x
        | bind ns ans =>
          rw [lastVals_bind hto]; split
          · exact ih x
          · decide
    | map a k => exact ih x
    | unmap a k => exact ih x
    | clear => exact ih x
    | deliverNRT => exact ih x

theorem rt_view_ok {P h s} (t : Trace P h s) (hf : HazardFree h) :
    ∃ n, NrtOk P n ∧ viewOf s.rt.storage = viewOf n.storage := by
  obtain ⟨⟨n, hn, hv⟩, _⟩ := views_are_past t
  exact ⟨n, past_nrtOk t hf n hn, hv⟩

theorem pairInj_of_view {P n} (hok : NrtOk P n) {st : Storage} (hv : viewOf (some st) = viewOf n.storage) :
    PairInj st.mapping :=
  (view_eq hv).1 ▸ pairInj_of_nrtOk hok

theorem rt_pairInj {P h s} (t : Trace P h s) (hf : HazardFree h) {st} (hst : s.rt.storage = some st) :
    PairInj st.mapping := by
  obtain ⟨n, hok, hv⟩ := rt_view_ok t hf
  rw [hst] at hv
  exact pairInj_of_view hok hv

theorem flight_pairInj {P h s} (t : Trace P h s) (hf : HazardFree h) {ns ans} (hin : RtMsg.bind ns ans ∈ s.toRT) :
    PairInj ns.mapping := by
  obtain ⟨n, hn, hview⟩ := (views_are_past t).2 ns ans hin
  exact pairInj_of_view (past_nrtOk t hf n hn) hview

/-- **A controller's 7-bit half survives every `midi-bind`** (hazard-free histories): when the
    realtime half, acting on snapshot `old`, receives the snapshot `ns`, the step does not crash,
    the new snapshot it acts on has `ns`'s mapping, and for every controller that has an entry in
    both mappings (`d` in the new, `e` in the old one) the half of `d`'s value slot that `d` owns
    (coarse: upper 7 bits, fine: lower 7 bits) holds exactly what `e`'s half of `e`'s slot held —
    the last value the controller sent — whatever slots and halves the two snapshots assign. -/
theorem half_survives_bind {P h s} (t : Trace P h s) (hf : HazardFree h) {ns ans rest old}
    (hq : s.toRT = .bind ns ans :: rest) (hold : s.rt.storage = some old)
    (hz : hazard s .deliverRT = false) :
    ∃ s' ns', step P s .deliverRT = some (s', []) ∧ s'.rt.storage = some ns' ∧ ns'.mapping = ns.mapping ∧
      ∀ d ∈ ns.mapping, ∀ e ∈ old.mapping, d.id = e.id →
        ∃ sv, old.values[e.slot]? = some sv ∧ halfAt d.slot d.coarse ns'.values = some (half e.coarse sv) :=
  half_survives_bind_of_wellformed (reach_of_trace t) hq hold
    ((inv_of_trace t hf).fl (ns, ans) (by simp [hq, flightOf])) ((inv_of_trace t hf).rts old hold)
    (flight_pairInj t hf (by rw [hq]; exact List.mem_cons_self))

/-- What the value slots of the realtime half hold, in terms of the history. -/
structure Track (h : List (Sys × Op)) (s : Sys) : Prop where
  zero : ∀ st ans, RtMsg.bind st ans ∈ s.toRT → ∃ len, st.values = List.replicate len 0
  unb : ∀ id, s.rt.binding id = none → lastVals h id = 0
  own : ∀ st, s.rt.storage = some st → ∀ e ∈ st.mapping,
    halfAt e.slot e.coarse st.values = some (lastVals h e.id)
  free : ∀ st, s.rt.storage = some st → ∀ slot c, slot < st.values.length →
    (∀ e ∈ st.mapping, ¬(e.slot = slot ∧ e.coarse = c)) → halfAt slot c st.values = some 0

theorem track_init : Track [] Sys.init := by
  constructor
  · intro st ans hin; cases hin
  · intro id _; rfl
  · intro st hst; cases hst
  · intro st hst; cases hst

/-- a step that leaves the snapshot of the realtime half and the last values as they are; the snapshots sent are
    zeroed -/
theorem track_nrt {h0 : List (Sys × Op)} {s0 s1 : Sys} {op : Op} (T : Track h0 s0)
    (hl : lastVals ((s0, op) :: h0) = lastVals h0) (hrt : s1.rt.storage = s0.rt.storage) (ms : List RtMsg)
    (hto : s1.toRT = s0.toRT ++ ms) (hz : ∀ st ans, RtMsg.bind st ans ∈ ms → ∃ len, st.values = List.replicate len 0) :
    Track ((s0, op) :: h0) s1 := by
  constructor
  · intro st ans hin
    rw [hto, List.mem_append] at hin
    rcases hin with hin | hin
    · exact T.zero st ans hin
    · exact hz st ans hin
  · intro id hb; rw [hl]; rw [RT.binding_congr hrt] at hb; exact T.unb id hb
  · intro st hst; rw [hl]; rw [hrt] at hst; exact T.own st hst
  · intro st hst; rw [hrt] at hst; exact T.free st hst

end Rtosc.Midi
