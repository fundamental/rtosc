/-
  C11 — `nxA`: a repetition of any good argument `A` (a scalar in a proved spelling, an array …)
  is a good argument: the cells are the range header `n, no delta` followed by the cells of `A`.
  The number lemmas on the multiplier text are C10's; the text `repText` is defined in `Pretty/C11LayoutSpec.lean`.
-/
import RtoscModel.Proofs.ScanTransfer
import RtoscModel.Proofs.PrettyRunConst
namespace Rtosc.Pretty.C11
open Rtosc Rtosc.Libc Rtosc.Pretty
open Rtosc.ArgVal (Cell)

theorem repText_length (n : Nat) (t : Bytes) : (repText n t).length = (fmtDec (n : Int)).length + 1 + t.length := by
  simp [repText]; omega

theorem Arg11.rep {t : Bytes} {cs : List Cell} (h : Arg11 t cs) (n : Nat) (hn : 1 ≤ n) (hn2 : n ≤ 2147483647) :
    Arg11 (repText n t) (Cell.rep n 0 :: cs) := by
  have hdig : ∀ r, isdigit (hd (fmtDec (n : Int) ++ 120 :: r)) = true := fun r => hd_mult n hn r
  have hstart : TokStart (repText n t) := (tokStart_num _ (by simp) (Or.inr (hdig t))).1
  have happ : ∀ rest, repText n t ++ rest = fmtDec (n : Int) ++ 120 :: (t ++ rest) := by
    intro rest; simp [repText]
  have hlen := repText_length n t
  refine ⟨hstart, by simp, ?_, ?_, ?_, ?_, ?_⟩
  · have := h.off
    unfold nextArgOffset
    simp only [List.length_cons, deref, bind, Except.bind, List.drop_succ_cons, List.drop_zero, this, pure, Except.pure]
    congr 1
    simp; omega
  · obtain ⟨c, r, hc⟩ := List.exists_cons_of_ne_nil h.ne
    exact ⟨decide (c.type ≠ ArgVal.tyA), by rw [hc]; exact canPrecedeRange_rep0 n c r⟩
  · -- the element type: the type of the repeated value's first cell
    obtain ⟨c, r, hc⟩ := List.exists_cons_of_ne_nil h.ne
    exact ⟨c.type, by rw [hc]; exact elemTy_rep0 n c r⟩
  · intro rest fuel prev ab fe hs hf
    obtain ⟨f, rfl⟩ : ∃ f, fuel = f + 1 := ⟨fuel - 1, by omega⟩
    have hse := h.scan rest f [] 0 false hs (by omega)
    have hv : Pretty.scanValue (C11.scanArgVal (f + 1)) (fmtDec (n : Int) ++ 120 :: (t ++ rest)) prev =
        .ok ⟨rest, Cell.rep n 0 :: cs, false⟩ := by
      rw [scanValue_mult _ _ _ (hdig _) (isRangeMultiplier_mult n hn _), scanMultiplier_runG _ n hn hn2 t rest cs hse]
    rw [happ, C11.scanArgVal_value ab fe hv]
    have := finishArg_plain (C11.scanArgVal (f + 1)) (repText n t) rest (Cell.rep n 0 :: cs) false prev ab fe hs
    rw [happ] at this
    exact this
  · intro rest fuel ty llhs fe ib hs hf
    obtain ⟨f, rfl⟩ : ∃ f, fuel = f + 1 := ⟨fuel - 1, by omega⟩
    obtain ⟨r, hr, hsrc, hsk, hty⟩ := h.skip rest f 0 none false ib hs (by omega)
    obtain ⟨src, k, rty⟩ := r
    cases hsrc
    refine ⟨⟨some rest, 1 + k, 45⟩, ?_, rfl, by simp at hsk ⊢; omega, rfl⟩
    rw [happ]
    exact skipNext_plain llhs fe hs (skipValue_run _ n hn t rest ty ib hr) rfl

end Rtosc.Pretty.C11
