/-
  C20 — `Track` is an invariant of hazard-free histories, and the end-to-end theorem it
  gives: the message a bound controller produces carries the value composed from the incoming value
  and the LAST value of the address's other controller.
-/
import RtoscModel.Proofs.MidiExtTrack
namespace Rtosc.Midi

/-- a handled controller value: its own half takes the value, every other half is untouched -/
theorem track_cc_handled {P h0 s0 s1 id val m} (t : Trace P h0 s0) (hf : HazardFree h0) (hv : val ≤ 127)
    (hs : step P s0 (.cc id val) = some (s1, [m])) (T : Track h0 s0) :
    Track ((s0, .cc id val) :: h0) s1 := by
  have hi := inv_of_trace t hf
  rcases cc_step_spec hs with ⟨_, hout⟩ | ⟨st, e, old, cb, hst, hfind, hold, hcb, hb, _, hst1, hto⟩
  · cases hout
  · have hok : StOk st := hi.rts st hst
    have hinj := rt_pairInj t hf hst
    have hsmall : Small st.values := ((inv0_of_reach (reach_of_trace t)).rt st hst).2
    have hem : e ∈ st.mapping := List.mem_of_find?_eq_some hfind
    have hid : e.id = id := by have := List.find?_some hfind; simpa using this
    have holdlt : old < 16384 := hsmall old (List.mem_of_getElem? hold)
    have hl : ∀ x, lastVals ((s0, .cc id val) :: h0) x = if x = id then val else lastVals h0 x := by
      intro x; rw [lastVals_cc]; simp [hb]
    have hbind : s1.rt.binding = s0.rt.binding := by
      rw [RT.binding_eq hst, RT.binding_eq hst1]; rfl
    constructor
    · intro st' ans hin; rw [hto] at hin; exact T.zero st' ans hin
    · intro x hx
      rw [hbind] at hx
      rw [hl]
      have : x ≠ id := by intro e'; subst e'; rw [hb] at hx; cases hx
      simp only [this, if_false]; exact T.unb x hx
    · intro st' hst' e' he'
      rw [hst1] at hst'; cases hst'
      simp only at he' ⊢
      rw [halfAt_set_blit e.coarse (by omega) hold holdlt, hl]
      by_cases hc : e'.slot = e.slot ∧ e'.coarse = e.coarse
      · have : e' = e := hinj e' he' e hem hc.1 hc.2
        subst this
        simp [hid]
      · have hne : e'.id ≠ id := by
          intro heq
          have : e' = e := eq_of_mem_nodup hok.nodup he' hem (heq.trans hid.symm)
          exact hc (by rw [this]; exact ⟨rfl, rfl⟩)
        simp only [hc, hne, if_false]
        exact T.own st hst e' he'
    · intro st' hst' slot c hsl hfree
      rw [hst1] at hst'; cases hst'
      simp only at hsl hfree ⊢
      rw [halfAt_set_blit e.coarse (by omega) hold holdlt]
      have hc : ¬(slot = e.slot ∧ c = e.coarse) := fun h => hfree e hem ⟨h.1.symm, h.2.symm⟩
      simp only [hc, if_false]
      exact T.free st hst slot c (by simpa using hsl) hfree

/-- a controller value the realtime half does not handle leaves its snapshot alone -/
theorem track_cc_unhandled {h0 : List (Sys × Op)} {s0 s1 : Sys} {id val : Nat} (T : Track h0 s0)
    (hb : s0.rt.binding id = none) (hst : s1.rt.storage = s0.rt.storage) (hto : s1.toRT = s0.toRT) :
    Track ((s0, .cc id val) :: h0) s1 :=
  track_nrt T (by funext x; rw [lastVals_cc]; simp [hb]) hst [] (by simp [hto]) (by simp)

theorem binding_isSome_of_mem {st : Storage} (hs : StOk st) {e : MapEnt} (he : e ∈ st.mapping) :
    (st.binding e.id).isSome = true := by
  cases hb : st.binding e.id with
  | none => exact absurd (mem_ids.mpr ⟨e, he, rfl⟩) (not_mem_of_binding_none hs hb)
  | some b => rfl

theorem track_bind {P h0 s0 ns ans rest ns'} (t : Trace P h0 s0) (hf : HazardFree h0)
    (hq : s0.toRT = .bind ns ans :: rest) (hr : RecvBind s0.rt.storage ns ns') (T : Track h0 s0) :
    Track ((s0, .deliverRT) :: h0)
      { s0 with rt := { s0.rt with pending := s0.rt.pending.drop 1, storage := some ns' }, toRT := rest } := by
  have hi := inv_of_trace t hf
  have hin : RtMsg.bind ns ans ∈ s0.toRT := by rw [hq]; exact List.mem_cons_self
  have hns : StOk ns := hi.fl (ns, ans) (by simp [hq, flightOf])
  have hinj := flight_pairInj t hf hin
  obtain ⟨len, hzero⟩ := T.zero ns ans hin
  have halfAt_zero : ∀ {slot : Nat} (c : Bool), slot < ns.values.length → halfAt slot c ns.values = some 0 := by
    intro slot c h; rw [hzero] at h ⊢; exact halfAt_replicate c (by simpa using h)
  have hl := lastVals_bind (h := h0) hq
  have hrest : ∀ st a, RtMsg.bind st a ∈ rest → ∃ len, st.values = List.replicate len 0 :=
    fun st a h' => T.zero st a (by rw [hq]; exact List.mem_cons_of_mem _ h')
  rcases hr with ⟨hold, rfl⟩ | ⟨old, hold, hc⟩
  · have hnone : ∀ x, lastVals h0 x = 0 := fun x => T.unb x (RT.binding_none hold x)
    constructor
    · exact hrest
    · intro x hx; rw [hl, hnone]; simp
    · intro st hst e he
      simp at hst; subst hst
      rw [hl, hnone]; simp only [ite_self]
      exact halfAt_zero _ (by rw [hns.vals]; exact hns.slots e he)
    · intro st hst slot c hsl _
      simp at hst; subst hst
      exact halfAt_zero _ hsl
  · have hok : StOk old := hi.rts old hold
    have hsmall : Small old.values := ((inv0_of_reach (reach_of_trace t)).rt old hold).2
    obtain ⟨hm, hcb, hlen, hkeep, hnew, hfree⟩ := cloneValues_track hns hok hsmall hinj hc
    have hbind : ns'.binding = ns.binding := binding_congr hm hcb
    constructor
    · exact hrest
    · intro x hx
      rw [RT.binding_eq rfl, hbind] at hx
      rw [hl, hx]; rfl
    · intro st hst e he
      simp at hst; subst hst
      rw [hm] at he
      rw [hl, binding_isSome_of_mem hns he]; simp only [if_true]
      by_cases hmem : e.id ∈ ids old.mapping
      · obtain ⟨e0, he0, hid0⟩ := mem_ids.mp hmem
        obtain ⟨sv, hsv, hhalf⟩ := hkeep e he e0 he0 hid0.symm
        rw [hhalf]
        have := T.own old hold e0 he0
        simp only [halfAt, hsv, Option.map_some, Option.some.injEq] at this
        rw [this, hid0]
      · rw [hnew e he hmem]
        have : s0.rt.binding e.id = none := by
          rw [RT.binding_eq hold]; exact binding_none_of_not_mem hmem
        rw [T.unb _ this]
    · intro st hst slot c hsl hfr
      simp at hst; subst hst
      rw [hm] at hfr
      exact hfree slot c (by rw [← hlen]; exact hsl) hfr

theorem track_step {P h0 s0 s1 op out} (t : Trace P h0 s0) (hf : HazardFree h0) (hwf : op.wf P)
    (hs : step P s0 op = some (s1, out)) (T : Track h0 s0) : Track ((s0, op) :: h0) s1 := by
  cases step_iff.mp hs with
  | nrt hn =>
    refine track_nrt T ?_ rfl _ rfl fun st ans hin => (hn.sends.bind_mem hin).2
    cases hn <;> rfl
  | ccHit => exact track_cc_handled t hf hwf hs T
  | ccAsk hf' => exact track_cc_unhandled T (RT.binding_of_miss hf') rfl rfl
  | ccDrop hf' => exact track_cc_unhandled T (RT.binding_of_miss hf') rfl rfl
  | idle hc =>
    refine track_nrt T ?_ rfl [] (by simp) (by simp)
    rcases hc with ⟨rfl, hq⟩ | ⟨rfl, -⟩
    · exact lastVals_nobind (by simp [hq]) _
    · rfl
  | bind hq hr => exact track_bind t hf hq hr T
  | watch hq =>
    have hl : lastVals ((s0, .deliverRT) :: h0) = lastVals h0 := lastVals_nobind (by simp [hq]) _
    exact { T with
      zero := fun st ans hin => T.zero st ans (by rw [hq]; exact List.mem_cons_of_mem _ hin)
      unb := fun x hx => by rw [hl]; exact T.unb x (RT.binding_congr (r := s0.rt) rfl ▸ hx)
      own := fun st hst => by rw [hl]; exact T.own st hst }

theorem track_of_trace {P h s} (t : Trace P h s) (hf : HazardFree h) : Track h s := by
  induction t with
  | init => exact track_init
  | step t hwf hs ih =>
    have hf0 : HazardFree _ := fun x hx => hf x (List.mem_cons_of_mem _ hx)
    exact track_step t hf0 hwf hs (ih hf0)

/-- two mapping entries that drive the same address share its value slot -/
theorem slot_of_addr {P n} (h : NrtOk P n) {e1 e2 : MapEnt} (h1 : e1 ∈ n.mapping) (h2 : e2 ∈ n.mapping)
    {cb1 cb2 : Cb} (c1 : n.callbacks[e1.slot]? = some cb1) (c2 : n.callbacks[e2.slot]? = some cb2)
    (ha : cb1.addr = cb2.addr) : e1.slot = e2.slot := by
  obtain ⟨cb1', im1, hcb1, hl1, hs1, _⟩ := h.map_inv e1 h1
  obtain ⟨cb2', im2, hcb2, hl2, hs2, _⟩ := h.map_inv e2 h2
  rw [c1] at hcb1; cases hcb1
  rw [c2] at hcb2; cases hcb2
  rw [ha, hl2] at hl1; cases hl1
  omega

/-- the first two clauses of `EmitsComposed` (RtoscModel/MidiSpec.lean): which message goes out, before anything is
    said about its type and range -/
theorem cc_emits_composed {P h s} (t : Trace P h s) (hf : HazardFree h) {id val s' out} (hv : val ≤ 127)
    (hs : step P s (.cc id val) = some (s', out)) :
    (s.rt.binding id = none → out = []) ∧
    ∀ a k, s.rt.binding id = some (a, k) →
      ∃ p o, P[a]? = some p ∧ o < 128 ∧
        (∀ id', s.rt.binding id' = some (a, !k) → o = lastVals h id') ∧
        ((∀ id', s.rt.binding id' ≠ some (a, !k)) → o = 0) ∧
        out = [(portCb a p).fire (compose14 k val o)] := by
  have hi := inv_of_trace t hf
  have T := track_of_trace t hf
  rcases cc_step_spec hs with ⟨hb, hout⟩ | ⟨st, e, old, cb, hst, hfind, hold, hcb, hb, hout, _⟩
  · exact ⟨fun _ => hout, fun a k h' => (by rw [hb] at h'; cases h')⟩
  · refine ⟨fun h' => (by rw [hb] at h'; cases h'), ?_⟩
    intro a k hb'
    rw [hb] at hb'; cases hb'
    have hok : StOk st := hi.rts st hst
    obtain ⟨hcbs, hsmall⟩ := (inv0_of_reach (reach_of_trace t)).rt st hst
    obtain ⟨p, hp, hcbeq⟩ := hcbs cb (List.mem_of_getElem? hcb)
    have holdlt : old < 16384 := hsmall old (List.mem_of_getElem? hold)
    have hem : e ∈ st.mapping := List.mem_of_find?_eq_some hfind
    have hblit := blit_compose e.coarse val old hv holdlt
    have ho := half_lt (!e.coarse) old holdlt
    have hat : halfAt e.slot (!e.coarse) st.values = some (half (!e.coarse) old) := by simp [halfAt, hold]
    generalize half (!e.coarse) old = o at hblit ho hat
    obtain ⟨n, hnok, hview⟩ := rt_view_ok t hf
    rw [hst] at hview
    obtain ⟨hvm, hvc⟩ := view_eq hview
    refine ⟨p, o, hp, ho, ?_, ?_, by rw [hout, hblit]; congr 2⟩
    · intro id' hb2
      simp only [RT.binding_eq hst, Storage.binding] at hb2
      cases hf2 : st.mapping.find? (fun x => x.id == id') with
      | none => simp [hf2] at hb2
      | some e' =>
        simp only [hf2] at hb2
        cases hcb2 : st.callbacks[e'.slot]? with
        | none => simp [hcb2] at hb2
        | some cb' =>
          simp only [hcb2, Option.map_some, Option.some.injEq, Prod.mk.injEq] at hb2
          have hem' : e' ∈ st.mapping := List.mem_of_find?_eq_some hf2
          have hid' : e'.id = id' := by have := List.find?_some hf2; simpa using this
          have hslot : e'.slot = e.slot :=
            slot_of_addr hnok (by rw [hvm]; exact hem') (by rw [hvm]; exact hem)
              (by rw [hvc]; exact hcb2) (by rw [hvc]; exact hcb) hb2.1
          have := T.own st hst e' hem'
          rw [hslot, hb2.2, hat, hid'] at this
          exact Option.some.inj this
    · intro hno
      have := T.free st hst e.slot (!e.coarse) (List.getElem?_eq_some_iff.mp hold).1 (by
        intro e2 he2 hc
        apply hno e2.id
        have hf2 := find?_of_mem_nodup hok.nodup he2
        simp [RT.binding_eq hst, Storage.binding, hf2, hc.1, hcb, hc.2])
      rw [hat] at this
      exact Option.some.inj this

end Rtosc.Midi
