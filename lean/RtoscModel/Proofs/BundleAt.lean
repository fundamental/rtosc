/-
  C02: a constructor that obeys the fixed-buffer discipline on buffers of every length
  (`Disciplined`), called by an owner of a block `b` who claims `len ≤ b.length` bytes (`callAt`).
-/
import RtoscModel.Osc.Bundle
namespace Rtosc.Osc
open Rtosc

/-- the fixed-buffer discipline of a message constructor whose result is `enc` -/
def Disciplined (call : Option Bytes → Option AResult) (enc : Bytes) : Prop :=
  call none = some ⟨none, enc.length, false⟩ ∧
  ∀ buf : Bytes, call (some buf) =
    some (if enc.length ≤ buf.length then ⟨some (enc ++ buf.drop enc.length), enc.length, false⟩
          else ⟨some (zeros buf.length), 0, false⟩)

theorem drop_take_append_drop (b : Bytes) (k len : Nat) (hk : k ≤ len) :
    (b.take len).drop k ++ b.drop len = b.drop k := by
  rw [List.drop_take]
  have : b.drop len = (b.drop k).drop (len - k) := by rw [List.drop_drop]; congr 1; omega
  rw [this, List.take_append_drop]

/-- the caller's claim is honest (`len ≤ b.length`): nothing outside the block is stored, the
    bytes behind `len` keep their values, and inside `len` the constructor's discipline holds -/
theorem callAt_fixed (call : Option Bytes → Option AResult) (enc b : Bytes) (len : Nat)
    (hc : Disciplined call enc) (hlen : len ≤ b.length) :
    callAt call (some b) len =
      some (if enc.length ≤ len then ⟨some (enc ++ b.drop enc.length), enc.length, false⟩
            else ⟨some (zeros len ++ b.drop len), 0, false⟩) := by
  have h0 : len - b.length = 0 := by omega
  have hl : (b.take len ++ zeros (len - b.length)).length = len := by
    simp [zeros]; omega
  unfold callAt
  simp only [hc.1, hc.2, hl]
  by_cases hfit : enc.length ≤ len
  · simp only [if_pos hfit, Option.map_some]
    have hnot : ¬ enc.length > len := by omega
    simp only [if_neg hnot]
    have hd : decide (b.length < enc.length) = false := by simp; omega
    rw [hd]
    simp only [h0, zeros, List.replicate_zero, List.append_nil, Bool.or_false]
    have hx : (enc ++ (b.take len).drop enc.length).length ≤ b.length := by
      simp [List.length_take]; omega
    rw [List.take_of_length_le hx, List.append_assoc, drop_take_append_drop b _ _ hfit]
  · simp only [if_neg hfit, Option.map_some]
    have hgt : enc.length > len := by omega
    simp only [if_pos hgt]
    have hd : decide (b.length < len) = false := by simp; omega
    rw [hd]
    have hx : (zeros len).length ≤ b.length := by simp [zeros]; omega
    rw [List.take_of_length_le hx]
    simp

theorem callAt_null (call : Option Bytes → Option AResult) (len : Nat) :
    callAt call none len = call none := rfl

end Rtosc.Osc
