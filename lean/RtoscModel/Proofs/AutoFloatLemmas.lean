/-
  C19 — the driver's arithmetic (`IEEE.ieee`: IEEE-754 binary32/binary64 round-to-nearest-
  even over `Rat`, RtoscModel/AutoFloat.lean) satisfies the order laws `Rtosc.Auto.Laws`
  that `emit_in_range_right_type` and `emit_monotone` assume: `ilog2` is the binary
  exponent, round-half-even is monotone and fixes integers, hence `rnd` is monotone,
  sign-preserving and maps 0 to 0.
-/
import Mathlib.Tactic.Linarith
import Mathlib.Tactic.Positivity
import Mathlib.Tactic.Ring
import Mathlib.Tactic.NormNum
import Mathlib.Algebra.Order.Field.Power
import Mathlib.Data.Rat.Floor
import RtoscModel.AutoFloat
import RtoscModel.Proofs.AutoLemmas
namespace Rtosc.Auto.IEEE

theorem pow2_eq (k : Int) : pow2 k = (2:ℚ)^k := by
  unfold pow2
  split
  · rename_i h
    obtain ⟨n, rfl⟩ := Int.eq_ofNat_of_zero_le h
    simp
  · rename_i h
    obtain ⟨n, hn⟩ : ∃ n : ℕ, k = -(n : Int) := ⟨(-k).toNat, by omega⟩
    subst hn
    simp [zpow_neg]

theorem pow2_pos (k : Int) : 0 < pow2 k := by rw [pow2_eq]; positivity

theorem pow2_lt_iff (a b : Int) : pow2 a < pow2 b ↔ a < b := by
  rw [pow2_eq, pow2_eq]; exact zpow_lt_zpow_iff_right₀ (by norm_num)

theorem pow2_le_iff (a b : Int) : pow2 a ≤ pow2 b ↔ a ≤ b := by
  rw [pow2_eq, pow2_eq]; exact zpow_le_zpow_iff_right₀ (by norm_num)

theorem pow2_add (a b : Int) : pow2 (a + b) = pow2 a * pow2 b := by
  simp only [pow2_eq]; exact zpow_add₀ (by norm_num) a b

theorem pow2_sub (a b : Int) : pow2 (a - b) = pow2 a / pow2 b := by
  simp only [pow2_eq]; exact zpow_sub₀ (by norm_num) a b

theorem pow2_nat (n : ℕ) : pow2 (n : Int) = ((2 ^ n : ℕ) : ℚ) := by
  rw [pow2_eq]; simp

theorem pow2_half (k : Int) : pow2 k / 2 = pow2 (k - 1) := by
  rw [pow2_sub, show pow2 1 = 2 by decide +kernel]

theorem pow2_div_nat (a b : Int) (h : b ≤ a) : pow2 a / pow2 b = ((2 ^ (a - b).toNat : ℕ) : ℚ) := by
  rw [← pow2_sub, ← pow2_nat]; exact congrArg pow2 (by omega)

theorem ite_neg_eq_abs (x : ℚ) : (if x < 0 then -x else x) = |x| := by
  split
  · rw [abs_of_neg ‹_›]
  · rw [abs_of_nonneg (le_of_not_gt ‹_›)]

theorem ilog2_spec (x : ℚ) (hx : x ≠ 0) : pow2 (ilog2 x) ≤ |x| ∧ |x| < pow2 (ilog2 x + 1) := by
  have hn : x.num.natAbs ≠ 0 := by simpa using (Rat.num_ne_zero.mpr hx)
  have hd : x.den ≠ 0 := x.den_nz
  have habs : |x| = (x.num.natAbs : ℚ) / (x.den : ℚ) := by
    rw [Rat.abs_def, Rat.divInt_eq_div]
    simp
  set n := x.num.natAbs with hn_def
  set d := x.den with hd_def
  have succ_cast : ∀ k : ℕ, (k : ℤ) + 1 = ((k + 1 : ℕ) : ℤ) := fun k => by push_cast; rfl
  have h1 : pow2 n.log2 ≤ n := by rw [pow2_nat]; exact_mod_cast Nat.log2_self_le hn
  have h2 : (n : ℚ) < pow2 (n.log2 + 1) := by rw [succ_cast, pow2_nat]; exact_mod_cast Nat.lt_log2_self
  have h3 : pow2 d.log2 ≤ d := by rw [pow2_nat]; exact_mod_cast Nat.log2_self_le hd
  have h4 : (d : ℚ) < pow2 (d.log2 + 1) := by rw [succ_cast, pow2_nat]; exact_mod_cast Nat.lt_log2_self
  have hdpos : (0:ℚ) < d := by exact_mod_cast Nat.pos_of_ne_zero hd
  have hnpos : (0:ℚ) < n := by exact_mod_cast Nat.pos_of_ne_zero hn
  -- divide the bounds of the numerator by those of the denominator
  have hlow : pow2 ((n.log2 : Int) - (d.log2 : Int) - 1) < |x| := by
    rw [habs]
    calc pow2 ((n.log2 : Int) - (d.log2 : Int) - 1) = pow2 n.log2 / pow2 (d.log2 + 1) := by
          rw [← pow2_sub]; exact congrArg pow2 (by ring)
      _ ≤ n / pow2 (d.log2 + 1) := div_le_div_of_nonneg_right h1 (pow2_pos _).le
      _ < n / d := div_lt_div_of_pos_left hnpos hdpos h4
  have hhigh : |x| < pow2 ((n.log2 : Int) - (d.log2 : Int) + 1) := by
    rw [habs]
    calc (n : ℚ) / d ≤ n / pow2 d.log2 := div_le_div_of_nonneg_left hnpos.le (pow2_pos _) h3
      _ < pow2 (n.log2 + 1) / pow2 d.log2 := div_lt_div_of_pos_right h2 (pow2_pos _)
      _ = pow2 ((n.log2 : Int) - (d.log2 : Int) + 1) := by rw [← pow2_sub]; exact congrArg pow2 (by ring)
  unfold ilog2
  simp only [← hn_def, ← hd_def, ite_neg_eq_abs]
  split
  · rename_i h
    exact ⟨h, hhigh⟩
  · rename_i h
    refine ⟨le_of_lt hlow, ?_⟩
    have : (n.log2 : Int) - (d.log2 : Int) - 1 + 1 = (n.log2 : Int) - (d.log2 : Int) := by ring
    rw [this]; exact lt_of_not_ge h

/-- both cases with non-strict bounds on the fractional part, so that the tie (decided by parity)
    falls under either and needs no case of its own -/
theorem rhe_cases (q : ℚ) (hq : 0 ≤ q) :
    ∃ f : ℕ, (f : ℚ) ≤ q ∧ q < f + 1 ∧
      ((roundHalfEven q = f ∧ q - f ≤ 1/2) ∨ (roundHalfEven q = f + 1 ∧ 1/2 ≤ q - f)) := by
  have hc : ((⌊q⌋.toNat : ℕ) : ℚ) = (⌊q⌋ : ℚ) := by
    exact_mod_cast congrArg (Int.cast (R := ℚ)) (Int.toNat_of_nonneg (Int.floor_nonneg.mpr hq))
  refine ⟨⌊q⌋.toNat, hc ▸ Int.floor_le q, hc ▸ Int.lt_floor_add_one q, ?_⟩
  unfold roundHalfEven; simp only [show q.floor = ⌊q⌋ from rfl]
  split
  · exact Or.inl ⟨rfl, le_of_lt ‹_›⟩
  · split
    · exact Or.inr ⟨rfl, le_of_lt ‹_›⟩
    · have hr : q - (⌊q⌋.toNat : ℚ) = 1/2 := le_antisymm (not_lt.1 ‹_›) (not_lt.1 ‹_›)
      split
      · exact Or.inl ⟨rfl, hr.le⟩
      · exact Or.inr ⟨rfl, hr.ge⟩

theorem rhe_err (q : ℚ) (hq : 0 ≤ q) : |((roundHalfEven q : ℕ) : ℚ) - q| ≤ 1/2 := by
  obtain ⟨f, l, u, ⟨e, h⟩ | ⟨e, h⟩⟩ := rhe_cases q hq
  · rw [e, abs_sub_comm, abs_of_nonneg (sub_nonneg.2 l)]; exact h
  · rw [e, Nat.cast_succ, abs_of_nonneg (sub_nonneg.2 u.le)]; linarith

theorem rhe_mono (q1 q2 : ℚ) (h0 : 0 ≤ q1) (h : q1 ≤ q2) : roundHalfEven q1 ≤ roundHalfEven q2 := by
  obtain ⟨f1, l1, _, c1⟩ := rhe_cases q1 h0
  obtain ⟨f2, _, u2, c2⟩ := rhe_cases q2 (h0.trans h)
  have hf : f1 < f2 + 1 := by exact_mod_cast (l1.trans h).trans_lt u2
  rcases c1 with ⟨e1, _⟩ | ⟨e1, g1⟩ <;> rcases c2 with ⟨e2, g2⟩ | ⟨e2, _⟩
  · omega
  · omega
  · -- rounded up, then down: impossible with equal integer parts, since then `q1 = q2`
    rcases Nat.lt_or_ge f1 f2 with hlt | hge
    · omega
    · obtain rfl : f1 = f2 := by omega
      obtain rfl : q1 = q2 := le_antisymm h (by linarith)
      omega
  · omega

theorem rhe_nat (n : ℕ) : roundHalfEven (n : ℚ) = n := by
  unfold roundHalfEven
  have e : (n : ℚ).floor = (n : ℤ) := by
    show ⌊(n : ℚ)⌋ = (n : ℤ)
    exact Int.floor_natCast n
  simp [e]


theorem rhe_le_nat {q : ℚ} (hq : 0 ≤ q) {n : ℕ} (h : q ≤ n) : roundHalfEven q ≤ n := by
  have := rhe_mono q n hq h; rwa [rhe_nat] at this

theorem nat_le_rhe {q : ℚ} {n : ℕ} (h : (n : ℚ) ≤ q) : n ≤ roundHalfEven q := by
  have := rhe_mono n q (Nat.cast_nonneg n) h; rwa [rhe_nat] at this

/-- exponent of the unit in the last place used for `x` -/
def ueOf (p : ℕ) (emin : ℤ) (x : ℚ) : ℤ := max (ilog2 x - ((p : ℤ) - 1)) emin

theorem rnd_pos_eq (p : ℕ) (emin : ℤ) (x : ℚ) (hx : 0 < x) :
    rnd p emin x = ((roundHalfEven (x / pow2 (ueOf p emin x)) : ℕ) : ℚ) * pow2 (ueOf p emin x) := by
  unfold rnd ueOf
  have h1 : ¬ x = 0 := ne_of_gt hx
  have h2 : ¬ x < 0 := not_lt.mpr (le_of_lt hx)
  simp only [h1, h2, ↓reduceIte]

theorem ilog2_neg (x : ℚ) : ilog2 (-x) = ilog2 x := by
  unfold ilog2
  have e1 : (-x).num.natAbs = x.num.natAbs := by simp
  have e2 : (-x).den = x.den := by simp
  simp only [e1, e2, ite_neg_eq_abs, abs_neg]

theorem rnd_neg (p : ℕ) (emin : ℤ) (x : ℚ) : rnd p emin (-x) = - rnd p emin x := by
  rcases lt_trichotomy x 0 with h | h | h
  · have h1 : ¬ (-x = 0) := neg_ne_zero.2 h.ne
    have h2 : ¬ (-x < 0) := not_lt.2 (neg_nonneg.2 h.le)
    have h3 : ¬ (x = 0) := ne_of_lt h
    unfold rnd
    simp only [h1, h2, h3, h, ↓reduceIte, ilog2_neg, neg_neg]
  · subst h; simp [rnd]
  · have h1 : ¬ (-x = 0) := neg_ne_zero.2 h.ne'
    have h2 : (-x < 0) := neg_lt_zero.2 h
    have h3 : ¬ (x = 0) := ne_of_gt h
    have h4 : ¬ (x < 0) := not_lt.2 h.le
    unfold rnd
    simp only [h1, h2, h3, h4, ↓reduceIte, ilog2_neg, neg_neg]

theorem rnd_zero (p : ℕ) (emin : ℤ) : rnd p emin 0 = 0 := by simp [rnd]

theorem rnd_nonneg (p : ℕ) (emin : ℤ) (x : ℚ) (hx : 0 ≤ x) : 0 ≤ rnd p emin x := by
  rcases eq_or_lt_of_le hx with h | h
  · rw [← h, rnd_zero]
  · rw [rnd_pos_eq p emin x h]
    exact mul_nonneg (Nat.cast_nonneg _) (le_of_lt (pow2_pos _))

theorem ilog2_mono (x y : ℚ) (hx : 0 < x) (hxy : x ≤ y) : ilog2 x ≤ ilog2 y := by
  have sx := ilog2_spec x (ne_of_gt hx)
  have sy := ilog2_spec y (ne_of_gt (lt_of_lt_of_le hx hxy))
  rw [abs_of_pos hx] at sx
  rw [abs_of_pos (lt_of_lt_of_le hx hxy)] at sy
  have : pow2 (ilog2 x) < pow2 (ilog2 y + 1) := lt_of_le_of_lt (le_trans sx.1 hxy) sy.2
  have := (pow2_lt_iff _ _).mp this
  omega

theorem rnd_mono_pos (p : ℕ) (hp : 1 ≤ p) (emin : ℤ) (x y : ℚ) (hx : 0 < x) (hxy : x ≤ y) :
    rnd p emin x ≤ rnd p emin y := by
  have hy : 0 < y := lt_of_lt_of_le hx hxy
  rw [rnd_pos_eq p emin x hx, rnd_pos_eq p emin y hy]
  have he := ilog2_mono x y hx hxy
  have sx := ilog2_spec x (ne_of_gt hx)
  have sy := ilog2_spec y (ne_of_gt hy)
  rw [abs_of_pos hx] at sx
  rw [abs_of_pos hy] at sy
  have hux : ueOf p emin x ≤ ueOf p emin y := by unfold ueOf; omega
  rcases eq_or_lt_of_le hux with heq | hlt
  · rw [heq]
    apply mul_le_mul_of_nonneg_right _ (le_of_lt (pow2_pos _))
    have : x / pow2 (ueOf p emin y) ≤ y / pow2 (ueOf p emin y) :=
      div_le_div_of_nonneg_right hxy (le_of_lt (pow2_pos _))
    exact_mod_cast rhe_mono _ _ (div_nonneg (le_of_lt hx) (le_of_lt (pow2_pos _))) this
  · -- the ulp grows: the power of two `B = 2^(ilog2 y)` lies between `x` and `y` and is a
    -- multiple of both ulps, so both roundings stay on their side of it
    have huy : ueOf p emin y = ilog2 y - ((p : ℤ) - 1) := by unfold ueOf at hlt ⊢; omega
    have hexy : ilog2 x + 1 ≤ ilog2 y := by unfold ueOf at hlt; omega
    have hxB : x ≤ pow2 (ilog2 y) := le_trans (le_of_lt sx.2) ((pow2_le_iff _ _).mpr hexy)
    have hpx := pow2_pos (ueOf p emin x)
    have hpy := pow2_pos (ueOf p emin y)
    have hB1 := pow2_div_nat (ilog2 y) (ueOf p emin x) (by omega)
    have hB2 := pow2_div_nat (ilog2 y) (ueOf p emin y) (by omega)
    calc _ ≤ ((2 ^ (ilog2 y - ueOf p emin x).toNat : ℕ) : ℚ) * pow2 (ueOf p emin x) :=
          mul_le_mul_of_nonneg_right (by
            exact_mod_cast rhe_le_nat (div_nonneg hx.le hpx.le) (hB1 ▸ div_le_div_of_nonneg_right hxB hpx.le)) hpx.le
      _ = pow2 (ilog2 y) := ((div_eq_iff hpx.ne').1 hB1).symm
      _ = ((2 ^ (ilog2 y - ueOf p emin y).toNat : ℕ) : ℚ) * pow2 (ueOf p emin y) := (div_eq_iff hpy.ne').1 hB2
      _ ≤ _ := mul_le_mul_of_nonneg_right (by
            exact_mod_cast nat_le_rhe (hB2 ▸ div_le_div_of_nonneg_right sy.1 hpy.le)) hpy.le

theorem rnd_mono (p : ℕ) (hp : 1 ≤ p) (emin : ℤ) (x y : ℚ) (hxy : x ≤ y) : rnd p emin x ≤ rnd p emin y := by
  rcases lt_trichotomy x 0 with hx | hx | hx
  · rcases lt_or_ge y 0 with hy | hy
    · have := rnd_mono_pos p hp emin (-y) (-x) (neg_pos.2 hy) (neg_le_neg hxy)
      rw [rnd_neg, rnd_neg] at this
      exact neg_le_neg_iff.1 this
    · have h1 := rnd_nonneg p emin (-x) (neg_nonneg.2 hx.le)
      rw [rnd_neg] at h1
      exact (neg_nonneg.1 h1).trans (rnd_nonneg p emin y hy)
  · subst hx; rw [rnd_zero]; exact rnd_nonneg p emin y hxy
  · exact rnd_mono_pos p hp emin x y hx hxy


theorem logFold_mono (tab : List (ℚ × ℚ)) (x y a b : ℚ) (hxy : x ≤ y) (hab : a ≤ b) :
    tab.foldl (fun a kv => if kv.1 ≤ x then (if a ≤ kv.2 then kv.2 else a) else a) a ≤
    tab.foldl (fun a kv => if kv.1 ≤ y then (if a ≤ kv.2 then kv.2 else a) else a) b := by
  induction tab generalizing a b with
  | nil => exact hab
  | cons kv r ih =>
    simp only [List.foldl_cons]
    apply ih
    -- the inner step is `max a kv.2`
    by_cases h1 : kv.1 ≤ x
    · simp only [h1, le_trans h1 hxy, ↓reduceIte, ← max_def]
      exact max_le_max_right _ hab
    · simp only [h1, ↓reduceIte]
      split
      · rw [← max_def]; exact le_max_of_le_left hab
      · exact hab

theorem logOfTable_mono (tab : List (ℚ × ℚ)) (x y : ℚ) (hxy : x ≤ y) :
    logOfTable tab x ≤ logOfTable tab y := by
  unfold logOfTable
  exact logFold_mono tab x y _ _ hxy (le_refl _)

theorem roundAway_eq : IEEE.roundAway = Rtosc.Auto.roundAway := by
  funext x; rfl
theorem trunc_eq : IEEE.trunc = Rtosc.Auto.truncInt := by
  funext x; rfl

theorem ieee_laws (tab : List (ℚ × ℚ)) : Laws (ieee tab) := by
  constructor <;> simp only [ieee, decide_eq_true_eq, rnd32, rnd64]
  case le_total => intro x y; exact le_total x y
  case le_trans => intro x y z; exact le_trans
  case zero_le_one => exact zero_le_one
  case zero_le_two => exact zero_le_two
  case zero_le_hundred => norm_num
  case sub32_nonneg => intro x y h; exact rnd_nonneg _ _ _ (sub_nonneg.2 h)
  case mul32_nonneg => intro x y hx hy; exact rnd_nonneg _ _ _ (mul_nonneg hx hy)
  case mul32_mono => intro x y c h hc; exact rnd_mono _ (by decide) _ _ _ (mul_le_mul_of_nonneg_right h hc)
  case add32_mono => intro x y c h; exact rnd_mono _ (by decide) _ _ _ (add_le_add h le_rfl)
  case div64_nonneg => intro x y hx hy; exact rnd_nonneg _ _ _ (div_nonneg hx hy)
  case sub64_le_add64 => intro c h hh; exact rnd_mono _ (by decide) _ _ _ ((sub_le_self c hh).trans (le_add_of_nonneg_right hh))
  case to32_mono => intro x y h; exact rnd_mono _ (by decide) _ _ _ h
  case to32_zero => exact rnd_zero _ _
  case roundf_mono => intro x y h; exact Rtosc.Auto.roundAway_mono h
  case toInt_mono => intro x y h; exact Rtosc.Auto.truncInt_mono h
  case logf_mono => intro x y _ h; exact logOfTable_mono tab x y h
  case expf_mono => intro x y h; exact h

end Rtosc.Auto.IEEE
