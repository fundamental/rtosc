/-
  C12, text level — criteria on the VALUES of an array line for `ArrCutOK` (RtoscModel/Save/TextSpec.lean):
  which arrays, of any length up to 2^31-1, the printer cuts into plain values, constant runs and int32
  arithmetic runs.
  A cut is extended to the left segment by segment (`ArrCutOK.cons_*`).
-/
import RtoscModel.Proofs.SaveText
namespace Rtosc.Save.Text
open Rtosc Rtosc.Libc Rtosc.Pretty Rtosc.Save
open Rtosc.ArgVal (Cell)

theorem selfIdentical_cellOfVal (v : Val) (h : ValTextOK v) : SelfIdentical (cellOfVal v) := by
  cases v with
  | int i => exact selfIdentical_int _ _
  | chr c => exact selfIdentical_int _ _
  | flt b => exact selfIdentical_flt b (feq_self_f32 b h)
  | bool b => cases b <;> exact selfIdentical_flag _
  | sym s => exact selfIdentical_str _ _
  | str bs => exact selfIdentical_str _ _

theorem cellsAll_scalar_of_arrCut {vs : List Val} {body : List RSeg} (h : ArrCutOK vs body) :
    ∀ x ∈ cellsAll body, x.isScalar = true := by
  rw [h.1]; exact cells_scalar vs

theorem ArrCutOK.cons_seg {vs ws : List Val} {body : List RSeg} {s : RSeg} (h : ArrCutOK vs body)
    (hs : s.cells = ws.map cellOfVal) (hstep : SegStep s (vs.map cellOfVal)) : ArrCutOK (ws ++ vs) (s :: body) := by
  refine ⟨by simp [cellsAll, hs, h.1], .cons s body ?_ h.2⟩
  rw [h.1]; exact hstep

theorem ArrCutOK.cons_tok {vs : List Val} {body : List RSeg} (h : ArrCutOK vs body) (v : Val)
    (hshort : shortRun (cellOfVal v :: vs.map cellOfVal) = true) :
    ArrCutOK (v :: vs) (.tok (cellOfVal v) :: body) := by
  have := h.cons_seg (ws := [v]) (s := .tok (cellOfVal v)) rfl
    (SegStep.tok_of_short _ _ (cells_scalar (v :: vs)) hshort)
  simpa using this

theorem ArrCutOK.cons_crun {vs : List Val} {body : List RSeg} (h : ArrCutOK vs body) (n : Nat) (v : Val)
    (hv : ValTextOK v) (h5 : 5 ≤ n) (h2 : n ≤ 2147483647)
    (hnext : vs = [] ∨ ∀ more, rangeArgsIdentical (cellOfVal v :: more) (vs.map cellOfVal) = .ok false) :
    ArrCutOK (List.replicate n v ++ vs) (.crun n (cellOfVal v) :: body) := by
  refine h.cons_seg (by simp [RSeg.cells]) ?_
  exact SegStep.crun_of_next n _ _ (cellOfVal_scalar v) (selfIdentical_cellOfVal v hv) h5 h2 (cells_scalar vs)
    (hnext.imp (congrArg _) id)

theorem arithVals_cells (a d : Int) (n : Nat) : (arithVals a d n).map cellOfVal = arithRun a d n := by
  simp [arithVals, arithRun, cellOfVal]

theorem ArrCutOK.cons_irun {vs : List Val} {body : List RSeg} (h : ArrCutOK vs body) {a d : Int} {n : Nat}
    (hr : RunHyp a d n)
    (hnext : vs = [] ∨ eqSingle [Cell.int .i (a + (n : Int) * d)] (vs.map cellOfVal) = .ok false) :
    ArrCutOK (arithVals a d n ++ vs) (.irun a d n :: body) := by
  refine h.cons_seg (by simp [RSeg.cells, arithVals_cells]) ?_
  exact SegStep.irun_of_next hr _ (cells_scalar vs) (hnext.imp (congrArg _) id)

theorem arrCutOK_nil : ArrCutOK [] [] := ⟨rfl, .nil⟩

theorem arrCutOK_const (n : Nat) (v : Val) (hv : ValTextOK v) (h5 : 5 ≤ n) (h2 : n ≤ 2147483647) :
    ArrCutOK (List.replicate n v) [.crun n (cellOfVal v)] := by
  simpa using arrCutOK_nil.cons_crun n v hv h5 h2 (Or.inl rfl)

theorem arrCutOK_arith {a d : Int} {n : Nat} (hr : RunHyp a d n) : ArrCutOK (arithVals a d n) [.irun a d n] := by
  simpa using arrCutOK_nil.cons_irun hr (Or.inl rfl)

end Rtosc.Save.Text
