/-
  Generic lemma: two topological orderings of the same duplicate-free set of
  partial steps give the same result when unrelated steps commute.
-/
namespace Rtosc.Save

/-- run partial steps left to right, stopping at the first failure -/
def runSteps {σ ι : Type} (step : ι → σ → Option σ) : List ι → σ → Option σ
  | [], s => some s
  | a :: r, s => (step a s).bind (runSteps step r)

theorem runSteps_append {σ ι : Type} (step : ι → σ → Option σ) (l₁ l₂ : List ι) (s : σ) :
    runSteps step (l₁ ++ l₂) s = (runSteps step l₁ s).bind (runSteps step l₂) := by
  induction l₁ generalizing s with
  | nil => simp [runSteps]
  | cons a r ih =>
    simp only [List.cons_append, runSteps]
    cases step a s with
    | none => rfl
    | some s' => simp [ih]

theorem runSteps_map {σ ι κ : Type} (step : ι → σ → Option σ) (f : κ → ι) (l : List κ) (s : σ) :
    runSteps step (l.map f) s = runSteps (fun k => step (f k)) l s := by
  induction l generalizing s with
  | nil => rfl
  | cons a r ih =>
    simp only [List.map_cons, runSteps]
    cases step (f a) s with
    | none => rfl
    | some s' => simp [ih]

theorem runSteps_move_front {σ ι : Type} (step : ι → σ → Option σ) (x : ι)
    (pre post : List ι)
    (hc : ∀ y, y ∈ pre → ∀ s, (step x s).bind (step y) = (step y s).bind (step x))
    (s : σ) :
    runSteps step (pre ++ x :: post) s = runSteps step (x :: (pre ++ post)) s := by
  induction pre generalizing s with
  | nil => rfl
  | cons y r ih =>
    have ih' : runSteps step (r ++ x :: post) = runSteps step (x :: (r ++ post)) :=
      funext fun s => ih (fun z hz => hc z (List.mem_cons_of_mem _ hz)) s
    -- lhs: step y, then (r ++ x :: post);  rhs: step x, then step y, then r ++ post
    show (step y s).bind (runSteps step (r ++ x :: post))
        = (step x s).bind (fun s' => (step y s').bind (runSteps step (r ++ post)))
    rw [ih', ← Option.bind_assoc, hc y List.mem_cons_self s]
    exact (Option.bind_assoc ..).symm

theorem runSteps_topo_agree {σ ι : Type} (step : ι → σ → Option σ) (lt : ι → ι → Prop)
    (l₁ l₂ : List ι)
    (hcomm : ∀ a ∈ l₁, ∀ b ∈ l₁, a ≠ b → ¬ lt a b → ¬ lt b a →
        ∀ s, (step a s).bind (step b) = (step b s).bind (step a))
    (hperm : l₁.Perm l₂) (hnd : l₁.Nodup)
    (h₁ : l₁.Pairwise (fun a b => ¬ lt b a)) (h₂ : l₂.Pairwise (fun a b => ¬ lt b a))
    (s : σ) : runSteps step l₁ s = runSteps step l₂ s := by
  induction l₁ generalizing l₂ s with
  | nil =>
    have : l₂ = [] := List.Perm.eq_nil hperm.symm
    subst this; rfl
  | cons x t ih =>
    have hx : x ∈ l₂ := hperm.subset List.mem_cons_self
    obtain ⟨pre, post, rfl⟩ := List.append_of_mem hx
    have hperm' : t.Perm (pre ++ post) :=
      (hperm.trans List.perm_middle).cons_inv
    have hxt : x ∉ t := (List.nodup_cons.mp hnd).1
    have hndt : t.Nodup := (List.nodup_cons.mp hnd).2
    have h₁x : ∀ y, y ∈ t → ¬ lt y x := (List.pairwise_cons.mp h₁).1
    have h₁t := (List.pairwise_cons.mp h₁).2
    have h₂' := List.pairwise_append.mp h₂
    have h₂pre := h₂'.1
    have h₂xpost := List.pairwise_cons.mp h₂'.2.1
    have h₂cross := h₂'.2.2
    have hpp : (pre ++ post).Pairwise (fun a b => ¬ lt b a) :=
      List.pairwise_append.mpr ⟨h₂pre, h₂xpost.2,
        fun a ha b hb => h₂cross a ha b (List.mem_cons_of_mem _ hb)⟩
    have hc : ∀ y, y ∈ pre → ∀ s, (step x s).bind (step y) = (step y s).bind (step x) := by
      intro y hy
      have hyt : y ∈ t := hperm'.symm.subset (List.mem_append_left _ hy)
      have hne : x ≠ y := fun e => hxt (e ▸ hyt)
      exact hcomm x List.mem_cons_self y (List.mem_cons_of_mem _ hyt) hne (h₂cross y hy x List.mem_cons_self) (h₁x y hyt)
    rw [runSteps_move_front step x pre post hc s]
    show (step x s).bind (runSteps step t) = (step x s).bind (runSteps step (pre ++ post))
    cases step x s with
    | none => rfl
    | some s' =>
      simp only [Option.bind_some]
      exact ih (pre ++ post) (fun a ha b hb => hcomm a (List.mem_cons_of_mem _ ha) b (List.mem_cons_of_mem _ hb))
        hperm' hndt h₁t hpp s'

end Rtosc.Save
