/-
  C12 / C13 — three concrete applications used for the non-vacuity examples: `exApp`, `sApp` for Props/C12.lean and
  Props/C13.lean; `rApp`, one array port `/a#6` of ints without dependency metadata, for the text-level theorems
  (Props/C12Text.lean) on array lines with compressed runs.  They satisfy every hypothesis of the theorems (App.WF,
  MetaCovers, MetaRanked).
-/
import RtoscModel.Proofs.SaveWfBool
namespace Rtosc.Save.Example
open Rtosc.Save

/-- A three-parameter application:
      /p    rParamI, rDefault(0)                                   (a preset port)
      /t    rToggle, rDefaultDepends(p) rPreset(1, true) rDefault(false)
      /s/   rRecurp(s, rEnabledBy(t))  — pointer sub-tree allocated by t's change callback
      /s/a  rParamI, rDefault(5)
-/
def exParams : List Param := [
  { addr := "/p".toList, kind := .int none none, dflt := .const (.int 0), guards := [], anc := [], canon := .int 0 },
  { addr := "/t".toList, kind := .tog, dflt := .preset 0 [(1, .bool true)] (.bool false), guards := [], anc := [0],
    canon := .bool false },
  { addr := "/s/a".toList, kind := .int none none, dflt := .const (.int 5), guards := [(1, true)], anc := [0, 1],
    canon := .int 5 } ]

def exApropos (p : Path) : Option DepMeta :=
  if p = "/t".toList then some ⟨none, none, some "p".toList⟩
  else if p = "/s/".toList then some ⟨some "t".toList, none, none⟩
  else none

def exApp : App :=
  { name := "ex".toList, params := exParams, walk := [.scalar 0, .scalar 1, .scalar 2], apropos := exApropos }

theorem ex_wf : exApp.WF :=
  App.WF.of_checks exApp (by decide +kernel) (by decide +kernel) (by decide +kernel) (by decide +kernel)
    (by decide +kernel) (by decide +kernel) (by decide +kernel) (by decide +kernel) (by decide +kernel)
    (by decide +kernel) (by decide +kernel)

theorem ex_covers : exApp.MetaCovers :=
  App.MetaCovers.of_checks exApp (by decide +kernel) (by decide +kernel)

theorem ex_ranked : MetaRanked exApropos :=
  MetaRanked.of_keys ["/t".toList, "/s/".toList]
    (fun p h => by
      unfold exApropos at h
      split at h
      · simp [*]
      · split at h
        · simp [*]
        · exact absurd rfl h)
    (by decide) [("/p".toList, 0), ("/t".toList, 1), ("/s/".toList, 3)] 2 (by decide +kernel) (by decide +kernel)
    (by decide) (by decide)

end Rtosc.Save.Example

namespace Rtosc.Save.SelfExample
open Rtosc.Save Rtosc.Save.Example

/-- A sub-tree enabled by a toggle of its own:
      /s/    rRecur(s, rEnabledBy(s/t))
      /s/t   rToggle, rDefault(false)
      /s/a   rParamI, rDefault(5)        (visible while /s/t is on) -/
def sParams : List Param := [
  { addr := "/s/t".toList, kind := .tog, dflt := .const (.bool false), guards := [], anc := [], canon := .bool false },
  { addr := "/s/a".toList, kind := .int none none, dflt := .const (.int 5), guards := [(0, false)], anc := [0],
    canon := .int 5 } ]

def sApropos (p : Path) : Option DepMeta :=
  if p = "/s/".toList then some ⟨some "s/t".toList, none, none⟩ else none

def sApp : App := { name := "self".toList, params := sParams, walk := [.scalar 1, .scalar 0], apropos := sApropos }

theorem s_wf : sApp.WF :=
  App.WF.of_checks sApp (by decide +kernel) (by decide +kernel) (by decide +kernel) (by decide +kernel)
    (by decide +kernel) (by decide +kernel) (by decide +kernel) (by decide +kernel) (by decide +kernel)
    (by decide +kernel) (by decide +kernel)

/-- the toggle's own path is found along its address, and dropped: it does not wait for itself -/
theorem s_raw_t : rawRefs sApropos "/s/t".toList = ["/s/t".toList] := by decide +kernel
theorem s_refs_t : refsOf sApropos "/s/t".toList = [] := by decide +kernel
theorem s_covers : sApp.MetaCovers :=
  App.MetaCovers.of_checks sApp (by decide +kernel) (by decide +kernel)

theorem s_ranked : MetaRanked sApropos :=
  MetaRanked.of_keys ["/s/".toList]
    (fun p h => by
      unfold sApropos at h
      split at h
      · simp [*]
      · exact absurd rfl h)
    (by decide) [("/s/t".toList, 0), ("/s/".toList, 2)] 1 (by decide +kernel) (by decide +kernel) (by decide) (by decide)

/-- the file as `save_to_file` writes it after `/s/t := true`, `/s/a := 7`: `/s/a` first (table order) -/
def sFile : List Line := [⟨"/s/a".toList, .plain [.int 7]⟩, ⟨"/s/t".toList, .plain [.bool true]⟩]

theorem sFile_ok : sApp.FileOK sFile where
  addr_nodup := by decide +kernel
  line_ok := by intro l hl; simp [sFile] at hl; rcases hl with rfl | rfl <;> trivial
  disjoint := by decide +kernel

end Rtosc.Save.SelfExample

namespace Rtosc.Save.RunsExample
open Rtosc.Save

/-- `/a#6`  rArrayI, rDefault(0) -/
def rParams : List Param := [
  { addr := "/a0".toList, kind := .int none none, dflt := .const (.int 0), guards := [], anc := [], canon := .int 0 },
  { addr := "/a1".toList, kind := .int none none, dflt := .const (.int 0), guards := [], anc := [], canon := .int 0 },
  { addr := "/a2".toList, kind := .int none none, dflt := .const (.int 0), guards := [], anc := [], canon := .int 0 },
  { addr := "/a3".toList, kind := .int none none, dflt := .const (.int 0), guards := [], anc := [], canon := .int 0 },
  { addr := "/a4".toList, kind := .int none none, dflt := .const (.int 0), guards := [], anc := [], canon := .int 0 },
  { addr := "/a5".toList, kind := .int none none, dflt := .const (.int 0), guards := [], anc := [], canon := .int 0 } ]

def rApp : App :=
  { name := "runs".toList, params := rParams, walk := [.array "/a".toList 0 6], apropos := fun _ => none }

theorem r_wf : rApp.WF :=
  App.WF.of_checks rApp (by decide +kernel) (by decide +kernel) (by decide +kernel) (by decide +kernel)
    (by decide +kernel) (by decide +kernel) (by decide +kernel) (by decide +kernel) (by decide +kernel)
    (by decide +kernel) (by decide +kernel)

theorem r_covers : rApp.MetaCovers :=
  App.MetaCovers.of_checks rApp (by decide +kernel) (by decide +kernel)

theorem r_ranked : MetaRanked rApp.apropos :=
  MetaRanked.of_keys [] (fun _ h => absurd rfl h) (by simp) [] 0 (by simp) (by simp) (by decide) (by simp)

/-- the first five elements set to 7, the last one to 1 -/
def rState : State :=
  rApp.run [("/a0".toList, [.int 7]), ("/a1".toList, [.int 7]), ("/a2".toList, [.int 7]), ("/a3".toList, [.int 7]),
    ("/a4".toList, [.int 7]), ("/a5".toList, [.int 1])] rApp.init

theorem r_save : rApp.save rState = [⟨"/a".toList, .arr [.int 7, .int 7, .int 7, .int 7, .int 7, .int 1]⟩] := by
  decide +kernel

end Rtosc.Save.RunsExample
