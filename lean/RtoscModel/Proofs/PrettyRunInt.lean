/-
  C10 — tier 3: integer arithmetic runs.  With range compression on, a list that is one
  arithmetic run of `n ≥ 5` int32 values is printed as `a ... z` (step ±1) or `a b ... z`
  (other steps); checker and scanner read the text back as the range block.
  The chain of `PrettyRunArith` for `Cell.int .i`, type letter 105 and `fmtDec`.
  `arithRun` and the hypotheses `RunHyp` are defined in Pretty/RunSpec.lean.
-/
import RtoscModel.Proofs.PrettyRunArithRead
import RtoscModel.Proofs.PrettyTokNum
namespace Rtosc.Pretty
open Rtosc Rtosc.Libc
open Rtosc.ArgVal (Cell)

theorem eqSingle_int (x y : Int) (l r : List Cell) :
    eqSingle (Cell.int .i x :: l) (Cell.int .i y :: r) = .ok (decide (x = y)) :=
  IntKind.i.eqSingle_cell x y l r

/-! the arithmetic of `delta_from_arg_vals` (`Pretty/C11Float.lean`) on int32 cells is the integer one -/
theorem fromIntF_int (x k : Int) : C11.fromIntF (Cell.int .i x) k = fromInt (Cell.int .i x) k := rfl
theorem negateF_int (x : Int) : C11.negateF (Cell.int .i x) = negate (Cell.int .i x) := rfl
theorem roundF_int (x : Int) : C11.roundF (Cell.int .i x) = roundAV (Cell.int .i x) := rfl
theorem subF_int (x y : Int) : C11.subF (Cell.int .i x) (Cell.int .i y) = subAV (Cell.int .i x) (Cell.int .i y) := rfl
theorem multF_int (x y : Int) : C11.multF (Cell.int .i x) (Cell.int .i y) = multAV (Cell.int .i x) (Cell.int .i y) := rfl
theorem divF_int (x y : Int) : C11.divF (Cell.int .i x) (Cell.int .i y) = divAV (Cell.int .i x) (Cell.int .i y) := rfl
theorem toIntF_int (x : Int) : C11.toIntF (Cell.int .i x) = toIntAV (Cell.int .i x) := rfl
theorem eqTolCell_int (x y : Int) : C11.eqTolCell (Cell.int .i x) (Cell.int .i y) = eqCell (Cell.int .i x) (Cell.int .i y) := rfl

theorem tokStart_fmtDec (v : Int) (h1 : -2147483648 ≤ v) (h2 : v ≤ 2147483647) : TokStart (fmtDec v) :=
  (C11.valOKW_int v h1 h2).start

/-- 'i': printed with `%d` -/
def intCodec : IntKind.i.Codec where
  tok := fmtDec
  Ok v := -2147483648 ≤ v ∧ v ≤ 2147483647
  print_cell := printArgVal_int
  val v h := C11.valOKW_int v h.1 h.2

theorem skipValue_intW (sk : ArgSkipper) (v : Int) (rest : Bytes) (hs : SepW rest) (ty : UInt8) (ib : Bool)
    (h1 : -2147483648 ≤ v) (h2 : v ≤ 2147483647) :
    skipValue sk (fmtDec v ++ rest) ty ib = .ok (some ⟨some rest, 1, 105, 0⟩) :=
  intCodec.skipValue_tok sk v ⟨h1, h2⟩ rest hs ty ib

theorem arithRun_length (a d : Int) (n : Nat) : (arithRun a d n).length = n :=
  IntKind.i.run_length a d n

theorem arithRun_cons (a d : Int) (n : Nat) (hn : 0 < n) :
    arithRun a d n = Cell.int .i a :: (arithRun a d n).drop 1 :=
  IntKind.i.run_cons a d n hn

theorem RunHyp.toKind {a d : Int} {n : Nat} (h : RunHyp a d n) : intCodec.Run a d n where
  hn := h.hn
  hd := h.hd
  hrange := h.hrange
  hwidth := h.hwidth
  hn32 := h.hn32
  ok0 := (by simpa using h.hrange 0 (Nat.zero_le _) : -2147483648 ≤ a ∧ a ≤ 2147483647)
  ok1 := (by simpa using h.hrange 1 (by have := h.hn; omega) : -2147483648 ≤ a + d ∧ a + d ≤ 2147483647)
  okz := h.hrange (n - 1) (Nat.sub_le _ _)

theorem RunHyp.mul {a d : Int} {n : Nat} (h : RunHyp a d n) (k : Nat) (hk : k + 1 ≤ n) :
    -2147483647 ≤ (k : Int) * d ∧ (k : Int) * d ≤ 2147483647 :=
  h.toKind.mul k hk

theorem delta_run_unit {a d : Int} {n : Nat} (h : RunHyp a d n) (hu : d = 1 ∨ d = -1) :
    C11.deltaFromArgVals none (Cell.int .i a) (some (Cell.int .i (a + ((n - 1 : Nat) : Int) * d))) true =
      .ok ((n : Int), Cell.int .i d) :=
  IntKind.delta_run_unit h.toKind hu none

theorem delta_run_step {a d : Int} {n : Nat} (h : RunHyp a d n) :
    C11.deltaFromArgVals (some (Cell.int .i a)) (Cell.int .i (a + d)) (some (Cell.int .i (a + ((n - 1 : Nat) : Int) * d)))
      false = .ok ((n : Int) - 1, Cell.int .i d) :=
  IntKind.delta_run_step h.toKind

/-- for steps other than ±1 the width bound already limits the length of the run -/
theorem n32_of_width (n : Nat) (d : Int) (hwidth : ((n : Int) - 1) * d.natAbs ≤ 2147483647) (hn : 5 ≤ n)
    (hd : d ≠ 0) (hu : ¬ (d = 1 ∨ d = -1)) : (n : Int) ≤ 2147483647 := by
  have h2 : (2 : Int) ≤ (d.natAbs : Int) := by omega
  have := Int.mul_le_mul_of_nonneg_left h2 (show (0 : Int) ≤ (n : Int) - 1 by omega)
  omega

theorem runHyp_mk (a d : Int) (n : Nat) (hn : 5 ≤ n) (hd : d ≠ 0)
    (hrange : ∀ k : Nat, k ≤ n → -2147483648 ≤ a + (k : Int) * d ∧ a + (k : Int) * d ≤ 2147483647)
    (hwidth : ((n : Int) - 1) * d.natAbs ≤ 2147483647)
    (hn32 : (d = 1 ∨ d = -1) → (n : Int) ≤ 2147483647) : RunHyp a d n := by
  refine ⟨hn, hd, hrange, hwidth, ?_⟩
  by_cases hu : d = 1 ∨ d = -1
  · exact hn32 hu
  · exact n32_of_width n d hwidth hn hd hu

/-- For reference (the property theorem for int32 runs is `range_roundtrip_int`, Props/C10.lean): integer
    runs with step ±1 are printed as `a ... z`. -/
theorem int_run_roundtrip_unit (opt : POpt) (hc : opt.compress = true) (a d : Int) (n : Nat) (hn : 5 ≤ n)
    (hu : d = 1 ∨ d = -1)
    (hrange : ∀ k : Nat, k ≤ n → -2147483648 ≤ a + (k : Int) * d ∧ a + (k : Int) * d ≤ 2147483647)
    (hn32 : (n : Int) ≤ 2147483647) :
    ∃ (st : PSt) (ret : Nat) (sep : Bytes), IsSepTxt sep ∧
      st.out = fmtDec a ++ lit " ..." ++ sep ++ fmtDec (a + ((n : Int) - 1) * d) ∧
      printArgVals opt (arithRun a d n) ⟨[], 0⟩ = .ok (st, ret) ∧ ret = st.out.length ∧
      countPrintedArgVals st.out = .ok 3 ∧
      scanArgVals st.out 3 = .ok (st.out.length, [Cell.rep n 1, Cell.int .i d, Cell.int .i a]) := by
  have hd : d ≠ 0 := by omega
  have hw : ((n : Int) - 1) * d.natAbs ≤ 2147483647 := by
    rcases hu with rfl | rfl <;> simp <;> omega
  have h := (runHyp_mk a d n hn hd hrange hw (fun _ => hn32)).toKind
  obtain ⟨sep, cols', hsep, hpr⟩ := IntKind.printArgVals_run opt hc h
  refine ⟨_, _, sep, hsep, ?_, hpr, rfl, IntKind.count_run_unit h hu sep hsep, IntKind.scan_run_unit h hu sep hsep⟩
  have ht := intCodec.runText_eq a d n sep (by omega)
  rw [if_pos hu] at ht
  exact ht

/-- For reference (the property theorem for int32 runs is `range_roundtrip_int`, Props/C10.lean, which goes
    through `IntKind.range_roundtrip`).  With range compression on, one arithmetic run of
    `n ≥ 5` int32 values is printed as `a ... z` (step ±1) or `a b ... z`; the checker counts the
    cells of the range block, the scanner returns the block.
    `hrange` includes `k = n`: the step behind the last element must not overflow, else the
    printer cuts the run one element short.  `hwidth`: fix C10-15.  `hn32`: for steps ±1 the
    count itself must be an `int32_t` (for other steps this follows from `hwidth`). -/
theorem int_run_roundtrip (opt : POpt) (hc : opt.compress = true) (a d : Int) (n : Nat) (hn : 5 ≤ n) (hd : d ≠ 0)
    (hrange : ∀ k : Nat, k ≤ n → -2147483648 ≤ a + (k : Int) * d ∧ a + (k : Int) * d ≤ 2147483647)
    (hwidth : ((n : Int) - 1) * d.natAbs ≤ 2147483647)
    (hn32 : (d = 1 ∨ d = -1) → (n : Int) ≤ 2147483647) :
    ∃ (st : PSt) (ret : Nat) (cells : List Cell),
      printArgVals opt (arithRun a d n) ⟨[], 0⟩ = .ok (st, ret) ∧ ret = st.out.length ∧
      countPrintedArgVals st.out = .ok (cells.length : Int) ∧
      scanArgVals st.out cells.length = .ok (st.out.length, cells) ∧
      cells = (if d = 1 ∨ d = -1 then [Cell.rep n 1, Cell.int .i d, Cell.int .i a]
               else [Cell.int .i a, Cell.rep ((n : Int) - 1) 1, Cell.int .i d, Cell.int .i (a + d)]) :=
  IntKind.run_roundtrip opt hc (runHyp_mk a d n hn hd hrange hwidth hn32).toKind

/-- the printed text of the general case, for reference: `a b ... z` -/
theorem int_run_text (opt : POpt) (hc : opt.compress = true) (a d : Int) (n : Nat) (hn : 5 ≤ n) (hd : d ≠ 0)
    (hrange : ∀ k : Nat, k ≤ n → -2147483648 ≤ a + (k : Int) * d ∧ a + (k : Int) * d ≤ 2147483647)
    (hwidth : ((n : Int) - 1) * d.natAbs ≤ 2147483647)
    (hn32 : (d = 1 ∨ d = -1) → (n : Int) ≤ 2147483647) :
    ∃ (st : PSt) (ret : Nat) (sep : Bytes), IsSepTxt sep ∧
      printArgVals opt (arithRun a d n) ⟨[], 0⟩ = .ok (st, ret) ∧
      st.out = (if d = 1 ∨ d = -1 then fmtDec a else fmtDec a ++ lit " " ++ fmtDec (a + d)) ++ lit " ..." ++ sep ++
        fmtDec (a + ((n : Int) - 1) * d) := by
  obtain ⟨sep, cols', hsep, hpr⟩ :=
    IntKind.printArgVals_run opt hc (runHyp_mk a d n hn hd hrange hwidth hn32).toKind
  exact ⟨_, _, sep, hsep, hpr, intCodec.runText_eq a d n sep (by omega)⟩

example := int_run_roundtrip defaultOpt rfl 1 1 7 (by decide) (by decide) (by intro k hk; omega) (by decide)
  (fun _ => by decide)
example := int_run_roundtrip defaultOpt rfl 10 (-2) 5 (by decide) (by decide) (by intro k hk; omega) (by decide)
  (fun _ => by decide)
example := int_run_roundtrip defaultOpt rfl (-1000000000) 500000000 5 (by decide) (by decide) (by intro k hk; omega)
  (by decide) (fun _ => by decide)

end Rtosc.Pretty
