/-
  C04 helper lemmas: what `Ports::dispatch` with a location buffer computes on a well-formed
  tree, as a pure function over the structured tree (`semLoc`, Ports/DispatchSpec.lean), and what both
  ways of appending to `loc` append.
-/
import RtoscModel.Proofs.PortsLookup
namespace Rtosc.Ports
open Rtosc Rtosc.Match Rtosc.Ports.Hash

def PTable.pats : PTable → List Pat
  | .nil => []
  | .leaf p r => p :: r.pats
  | .node p _ _ r => p :: r.pats

theorem render_names (t : PTable) : t.render.names = t.pats.map Pat.render := by
  induction t with
  | nil => rfl
  | leaf p r ih | node p c d r _ ih => simp [PTable.render, Table.names, PTable.pats, ih]

section
variable {p : Pat} {c r : PTable} {cd : Bool}

theorem PTable.WF.leaf_name (h : (PTable.leaf p r).WF) : nameWf p = true := by
  simp only [PTable.WF, PTable.wf, Bool.and_eq_true] at h; exact h.1

theorem PTable.WF.leaf_rest (h : (PTable.leaf p r).WF) : r.WF := by
  simp only [PTable.WF, PTable.wf, Bool.and_eq_true] at h; exact h.2

theorem PTable.WF.node_name (h : (PTable.node p c cd r).WF) : nodeNameWf p = true := by
  simp only [PTable.WF, PTable.wf, Bool.and_eq_true] at h; exact h.1.1

theorem PTable.WF.node_child (h : (PTable.node p c cd r).WF) : c.WF := by
  simp only [PTable.WF, PTable.wf, Bool.and_eq_true] at h; exact h.1.2

theorem PTable.WF.node_rest (h : (PTable.node p c cd r).WF) : r.WF := by
  simp only [PTable.WF, PTable.wf, Bool.and_eq_true] at h; exact h.2

theorem nodeNameWf_name (h : nodeNameWf p = true) : nameWf p = true := by
  simp only [nodeNameWf, Bool.and_eq_true] at h; exact h.1.1

end

/-- the hypotheses on a message: the remaining address and the type string are C strings,
    indices below 2^31 -/
structure MsgOK (a tags : Bytes) : Prop where
  a_nul : NulFree a
  a_idx : IdxBounded a
  t_nul : NulFree tags

theorem MsgOK.suffix {pre a tags : Bytes} (h : MsgOK (pre ++ a) tags) : MsgOK a tags :=
  ⟨fun c hc => h.a_nul c (List.mem_append_right _ hc), h.a_idx.suffix, h.t_nul⟩

theorem MsgOK.next {a tags : Bytes} (h : MsgOK a tags) : MsgOK (levelTail a) tags := by
  obtain ⟨pre, hpre⟩ := levelTail_suffix a
  exact (hpre ▸ h).suffix

/-- `finishNoLoc` of the model on a scan that stayed inside its buffers (no `Option`); `finLoc`
    (Ports/DispatchSpec.lean) is the same for `finishLoc` -/
def finNo (dflt : Bool) (tp obj : List Nat) (m : Bytes) (r : List Call × RtData × Bool) : List Call × RtData :=
  if !r.2.2 && dflt then (r.1 ++ [dfltCallOf tp m r.2.1], { r.2.1 with obj := obj }) else (r.1, r.2.1)

theorem finishNoLoc_some (dflt : Bool) (tp obj : List Nat) (m : Bytes) (r : List Call × RtData × Bool) :
    finishNoLoc dflt tp obj m (some r) = some (finNo dflt tp obj m r) := by
  obtain ⟨l, d, b⟩ := r
  simp only [finishNoLoc, finNo]
  split <;> rfl

theorem finishLoc_some (dflt : Bool) (tp obj : List Nat) (m : Bytes) (r : List Call × RtData × Bool) :
    finishLoc dflt tp obj m (some r) = some (finLoc dflt tp obj m r) := by
  obtain ⟨l, d, b⟩ := r
  simp only [finishLoc, finLoc]
  split <;> rfl

theorem prepend_some (c : Call) (r : List Call × RtData × Bool) :
    prepend c (some r) = some (c :: r.1, r.2.1, r.2.2) := by
  obtain ⟨l, d, b⟩ := r; rfl

theorem andThen_some (r : List Call × RtData) (cont : RtData → ScanOut) (r' : List Call × RtData × Bool)
    (h : cont r.2 = some r') : andThen (some r) cont = some (r.1 ++ r'.1, r'.2.1, r'.2.2) := by
  obtain ⟨l, d⟩ := r
  obtain ⟨l', d', b⟩ := r'
  simp only [andThen, h]

theorem finLoc_loc (dflt : Bool) (tp obj : List Nat) (m : Bytes) (r : List Call × RtData × Bool) :
    (finLoc dflt tp obj m r).2.loc = r.2.1.loc := by
  simp only [finLoc]; split <;> rfl

theorem finNo_obj (cd : Bool) (tp obj : List Nat) (m : Bytes) (r : List Call × RtData × Bool)
    (h : r.2.1.obj = obj) : (finNo cd tp obj m r).2.obj = obj := by
  simp only [finNo]; split
  · rfl
  · exact h

theorem finLoc_obj (cd : Bool) (tp obj : List Nat) (m : Bytes) (r : List Call × RtData × Bool)
    (h : r.2.1.obj = obj) : (finLoc cd tp obj m r).2.obj = obj := by
  simp only [finLoc]; split
  · rfl
  · exact h

theorem finLoc_locSize (cd : Bool) (tp obj : List Nat) (m : Bytes) (r : List Call × RtData × Bool) :
    (finLoc cd tp obj m r).2.locSize = r.2.1.locSize := by
  simp only [finLoc]; split <;> rfl

theorem finNo_loc (cd : Bool) (tp obj : List Nat) (m : Bytes) (r : List Call × RtData × Bool) :
    (finNo cd tp obj m r).2.loc = r.2.1.loc := by
  simp only [finNo]; split <;> rfl

theorem finLoc_high (cd : Bool) (tp obj : List Nat) (m : Bytes) (r : List Call × RtData × Bool) :
    (finLoc cd tp obj m r).2.locHigh = r.2.1.locHigh := by
  simp only [finLoc]; split <;> rfl

theorem finLoc_count (cd : Bool) (tp obj : List Nat) (m : Bytes) (r : List Call × RtData × Bool) (n0 : Nat)
    (h : r.2.1.nmatches = n0 + leafCount r.1) :
    (finLoc cd tp obj m r).2.nmatches = n0 + leafCount (finLoc cd tp obj m r).1 := by
  simp only [finLoc]
  split
  · simp [leafCount, dfltCallOf, h]
    omega
  · exact h

theorem spellsAll_slash_last {segs : List Seg} {mid rest : Bytes} (h : SpellsAll segs (mid ++ rest) (47 :: rest)) :
    mid.getLast? = some 47 := by
  obtain ⟨pre, hpre⟩ := spellsAll_suffix h
  have : mid = pre ++ [47] := List.append_cancel_right (hpre.trans (by simp) : mid ++ rest = (pre ++ [47]) ++ rest)
  rw [this]; simp

theorem consumed_append (pre t : Bytes) : consumed (pre ++ t) t = pre := by
  simp [consumed]

theorem copyTo_eq (pre t ex : Bytes) (h : NulFree (pre ++ t)) :
    copyTo (pre ++ t ++ 0 :: ex) (t ++ 0 :: ex) = pre := by
  have hl : (pre ++ t ++ 0 :: ex).length - (t ++ 0 :: ex).length = pre.length := by
    simp only [List.length_append, List.length_cons]; omega
  unfold copyTo
  rw [hl, List.append_assoc, List.take_left' rfl]
  have : ∀ c ∈ pre, (c != 0) = true := fun c hc => by
    have := h c (List.mem_append_left _ hc); simp [this]
  simpa using List.takeWhile_append_of_pos (l₂ := []) this

theorem upToColon_render {p : Pat} (hwf : p.WF0) (hna : noAlts p.segs = true) :
    upToColon p.render = keyOf p := by
  have hk := keyOf_chars hwf hna
  have hty := renderTypes_head p.types
  rw [upToColon, render_eq]
  exact takeWhile_key (keyOf p) (renderTypes p.types) (fun c hc => (hk c hc).2) hty

theorem consumed_lit {p : Pat} (hl : allLit p.segs = true) {a t : Bytes}
    (hg : greedy p.segs p.sub a = some t) : consumed a t = keyOf p := by
  obtain ⟨rfl, _⟩ := greedy_lit_split hl hg
  exact consumed_append _ _

/-- both ways of appending the matched part to `loc` append the same text -/
theorem locAppend_eq {p : Pat} (hnw : nameWf p = true) {a tags t : Bytes} (ha : NulFree a)
    (hm : matchB p a tags = some t) (L ex : Bytes) (X : RtData) (hX : X.loc = some L) :
    (if hasChar 35 p.render then X.setLoc (X.locStr.take L.length ++ copyTo (a ++ 0 :: ex) (t ++ 0 :: ex))
     else X.setLoc (X.locStr ++ upToColon p.render)) = X.setLoc (L ++ consumed a t) := by
  obtain ⟨hp0, _, hpna⟩ := nameWf_unpack hnw
  have hg := matchB_greedy hm
  obtain ⟨pre, rfl⟩ := greedy_suffix _ hg
  have hls : X.locStr = L := by simp [RtData.locStr, hX]
  rw [hls, consumed_append]
  cases hh : hasChar 35 p.render with
  | true =>
    simp only [↓reduceIte, List.take_length, copyTo_eq pre t ex ha]
  | false =>
    have hl := allLit_of_noHash hpna hh
    have := consumed_lit hl hg
    rw [consumed_append] at this
    simp only [Bool.false_eq_true, ↓reduceIte, upToColon_render hp0 hpna, this]

end Rtosc.Ports
