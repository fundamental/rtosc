/-
  C19 — the functions of the model read as equations.  Every invariant looks at the manager
  through the bookkeeping `keys`/`learnLen` or through the table of automations `autosOf`; for
  each function of the model this file says what it does to the two and where its messages
  come from; at the end `run`/`step` forwards and `handleMidi` on the three register messages of
  an NRPN sequence.  Core has no lemma about `map` past `List.modify`; those come first.
-/
import RtoscModel.AutoSpec
import RtoscModel.Proofs.BasicLemmas
namespace Rtosc.Auto
open Rtosc
variable {F : Type}

theorem map_modify_comm_at {α β} (g : α → β) (f : α → α) (f' : β → β) (l : List α) (i : Nat)
    (h : ∀ x, l[i]? = some x → g (f x) = f' (g x)) : (l.modify i f).map g = (l.map g).modify i f' := by
  apply List.ext_getElem?
  intro j
  simp only [List.getElem?_map, List.getElem?_modify]
  by_cases hij : i = j
  · subst hij
    cases hx : l[i]? with
    | none => simp
    | some x => simp [h x hx]
  · simp [hij]

theorem map_modify_inv {α β} (g : α → β) (f : α → α) (h : ∀ x, g (f x) = g x) (l : List α) (i : Nat) :
    (l.modify i f).map g = l.map g :=
  (map_modify_comm_at g f id l i fun x _ => h x).trans (List.modify_id ..)

theorem modify_eq_set {α} (l : List α) (i : Nat) (f : α → α) (x : α) (h : l[i]? = some x) :
    l.modify i f = l.set i (f x) := by
  apply List.ext_getElem?
  intro j
  simp only [List.getElem?_modify, List.getElem?_set]
  by_cases hij : i = j
  · subst hij
    obtain ⟨hlt, hx⟩ := List.getElem?_eq_some_iff.1 h
    simp [hlt, hx]
  · simp [hij]

theorem map_modify_set_at {α β} (g : α → β) (f : α → α) (c : β) (l : List α) (i : Nat)
    (h : ∀ x, l[i]? = some x → g (f x) = c) : (l.modify i f).map g = (l.map g).set i c := by
  cases hx : l[i]? with
  | none =>
    have hle : l.length ≤ i := List.getElem?_eq_none_iff.1 hx
    rw [List.modify_eq_self hle, List.set_eq_of_length_le (by simpa using hle)]
  | some x => rw [modify_eq_set l i f x hx, List.map_set, h x hx]

theorem map_set_inv {α β} (g : α → β) (l : List α) (i : Nat) (x y : α) (hx : l[i]? = some x) (h : g y = g x) :
    (l.set i y).map g = l.map g := by
  rw [← modify_eq_set l i (fun _ => y) x hx]
  exact (map_modify_comm_at g _ id l i fun x' hx' => by cases hx.symm.trans hx'; exact h).trans (List.modify_id ..)

theorem mem_modify_cases {α} (l : List α) (i : Nat) (f : α → α) (y : α) (hy : y ∈ l.modify i f) :
    y ∈ l ∨ ∃ x, l[i]? = some x ∧ y = f x := by
  obtain ⟨j, hj, rfl⟩ := List.getElem_of_mem hy
  have hj' : j < l.length := by simpa using hj
  by_cases hij : i = j
  · subst hij
    right
    exact ⟨l[i], by simp, by simp⟩
  · left
    simp only [List.getElem_modify, hij, ↓reduceIte]
    exact List.getElem_mem hj'

theorem all_modify {α} {P : α → Prop} {l : List α} (h : ∀ x ∈ l, P x) (j : Nat) {f : α → α}
    (hf : ∀ x, P x → P (f x)) : ∀ x ∈ l.modify j f, P x := by
  intro x hx
  rcases mem_modify_cases _ _ _ _ hx with h1 | ⟨a0, h0, rfl⟩
  · exact h x h1
  · exact hf a0 (h a0 (List.mem_of_getElem? h0))

theorem all_modify₂ {α} {P : α → Prop} {T : List (List α)} (h : ∀ row ∈ T, ∀ a ∈ row, P a) (s j : Nat)
    {f : α → α} (hf : ∀ a, P a → P (f a)) : ∀ row ∈ T.modify s fun row => row.modify j f, ∀ a ∈ row, P a :=
  all_modify (P := fun row => ∀ a ∈ row, P a) h s fun _ hr => all_modify hr j hf

theorem modify_id_at {α} (l : List α) (i : Nat) (f : α → α) (h : ∀ x, l[i]? = some x → f x = x) :
    l.modify i f = l := by
  have := map_modify_comm_at id f id l i h
  rwa [List.map_id, List.map_id, List.modify_id] at this

def autosOf (m : Mgr F) : List (List (Automation F)) := m.slots.map (·.autos)

theorem keys_getElem? {m : Mgr F} {i : Nat} {sl : Slot F} (h : m.slots[i]? = some sl) :
    (keys m)[i]? = some (key sl) := by
  simp [keys, h]

theorem autosOf_getElem? {m : Mgr F} {i : Nat} {sl : Slot F} (h : m.slots[i]? = some sl) :
    (autosOf m)[i]? = some sl.autos := by
  simp [autosOf, h]

theorem slotOob_false_iff (m : Mgr F) (s : Int) :
    m.slotOob s = false ↔ 0 ≤ s ∧ s.toNat < m.slots.length := by
  simp only [Mgr.slotOob, Bool.or_eq_false_iff, decide_eq_false_iff_not]; omega

theorem slot_of_not_oob {m : Mgr F} {s : Int} (h : m.slotOob s = false) : ∃ sl, m.slots[s.toNat]? = some sl :=
  ⟨_, List.getElem?_eq_getElem ((slotOob_false_iff m s).1 h).2⟩

/-- a slot index that is out of range without being negative addresses no row of the table -/
theorem autosOf_modify_oob {m : Mgr F} {s : Int} (hoob : m.slotOob s = true) (hneg : ¬ s < 0)
    (f : List (Automation F) → List (Automation F)) : (autosOf m).modify s.toNat f = autosOf m := by
  refine List.modify_eq_self ?_
  simp only [Mgr.slotOob, Bool.or_eq_true, decide_eq_true_eq] at hoob
  simp only [autosOf, List.length_map]; omega

theorem keys_modifyAuto (m : Mgr F) (s j : Nat) (f : Automation F → Automation F) :
    keys (modifyAuto m s j f) = keys m :=
  map_modify_inv key (fun sl => { sl with autos := sl.autos.modify j f }) (fun _ => rfl) _ _

theorem autosOf_modifyAuto (m : Mgr F) (s j : Nat) (f : Automation F → Automation F) :
    autosOf (modifyAuto m s j f) = (autosOf m).modify s fun row => row.modify j f :=
  map_modify_comm_at Slot.autos _ _ _ _ fun _ _ => rfl

theorem modifyAuto_modifyAuto (m : Mgr F) (s j : Nat) (f g : Automation F → Automation F) :
    modifyAuto (modifyAuto m s j f) s j g = modifyAuto m s j (fun au => g (f au)) := by
  simp only [modifyAuto, List.modify_modify_eq, Function.comp_def]

theorem slotOob_modifyAuto (m : Mgr F) (s j : Nat) (f : Automation F → Automation F) (x : Int) :
    (modifyAuto m s j f).slotOob x = m.slotOob x := by
  simp [Mgr.slotOob, modifyAuto]

theorem subOob_modifyAuto (m : Mgr F) (s j : Nat) (f : Automation F → Automation F) (x : Int) :
    (modifyAuto m s j f).subOob x = m.subOob x := by
  simp [Mgr.subOob, modifyAuto]

/-- updateMapping after an in-range update of the same automation (setSlotSubGain, setSlotSubOffset) -/
theorem updateMapping_modifyAuto (A : Arith F) (m : Mgr F) (s j : Int) (g : Automation F → Automation F) :
    updateMapping A (if m.slotOob s || m.subOob j then m else modifyAuto m s.toNat j.toNat g) s j =
      if m.slotOob s || m.subOob j then m
      else modifyAuto m s.toNat j.toNat (fun au => Automation.remap A (g au)) := by
  by_cases h : (m.slotOob s || m.subOob j) = true
  · simp [updateMapping, h]
  · have h' : (m.slotOob s || m.subOob j) = false := by simpa using h
    simp only [h', Bool.false_eq_true, ↓reduceIte, updateMapping, slotOob_modifyAuto, subOob_modifyAuto,
      modifyAuto_modifyAuto]

/-- the shape of clearSlotSub and of setSlotSubGain, setSlotSubOffset followed by updateMapping: the
    bookkeeping stays, and in the table of automations the range test is the one of `absBind` -/
theorem views_ite_modifyAuto (m : Mgr F) (s j : Int) (f : Automation F → Automation F) :
    keys (if m.slotOob s || m.subOob j then m else modifyAuto m s.toNat j.toNat f) = keys m ∧
    (if m.slotOob s || m.subOob j then m else modifyAuto m s.toNat j.toNat f).learnLen = m.learnLen ∧
    autosOf (if m.slotOob s || m.subOob j then m else modifyAuto m s.toNat j.toNat f) =
      if s < 0 ∨ j < 0 ∨ j ≥ (m.perSlot : Int) then autosOf m
      else (autosOf m).modify s.toNat fun row => row.modify j.toNat f := by
  by_cases hg : s < 0 ∨ j < 0 ∨ j ≥ (m.perSlot : Int)
  · have : (m.slotOob s || m.subOob j) = true := by
      simp only [Mgr.slotOob, Mgr.subOob, Bool.or_eq_true, decide_eq_true_eq]; omega
    simp only [if_pos hg, if_pos this, and_self]
  · rw [if_neg hg]
    split
    · rename_i hoob
      refine ⟨rfl, rfl, (autosOf_modify_oob ?_ (by omega) _).symm⟩
      simp only [Mgr.slotOob, Mgr.subOob, Bool.or_eq_true, decide_eq_true_eq] at hoob ⊢
      omega
    · exact ⟨keys_modifyAuto .., rfl, autosOf_modifyAuto ..⟩

/-- where messages come from: each is `emit` of an automation of the table at some slot value -/
def MsgsFrom (A : Arith F) (T : List (List (Automation F))) (ms : List (Msg F)) : Prop :=
  ∀ msg ∈ ms, ∃ l ∈ T, ∃ au ∈ l, ∃ x, msg ∈ emit A au x

theorem msgsFrom_nil (A : Arith F) (T : List (List (Automation F))) : MsgsFrom A T [] :=
  fun _ h => absurd h List.not_mem_nil

theorem MsgsFrom.of_eq {A : Arith F} {T T' : List (List (Automation F))} {ms : List (Msg F)} (h : T' = T)
    (hm : MsgsFrom A T' ms) : MsgsFrom A T ms := h ▸ hm

theorem slotMsgs_from (A : Arith F) (m : Mgr F) (sl : Slot F) (hsl : sl ∈ m.slots) (x : F) :
    MsgsFrom A (autosOf m) (slotMsgs A sl x) := by
  intro msg hmsg
  simp only [slotMsgs, List.mem_flatMap] at hmsg
  obtain ⟨au, hau, hm⟩ := hmsg
  exact ⟨sl.autos, List.mem_map.mpr ⟨sl, hsl, rfl⟩, au, hau, x, hm⟩

theorem setSlotSub_eq (A : Arith F) (m : Mgr F) {s j : Int} {sl : Slot F} {au : Automation F}
    (h1 : m.slotOob s = false) (h2 : m.subOob j = false) (hsl : m.slots[s.toNat]? = some sl)
    (hau : sl.autos[j.toNat]? = some au) (x : F) : setSlotSub A m s j x = emit A au x := by
  simp [setSlotSub, h1, h2, hsl, hau]

theorem setSlotSub_msgs (A : Arith F) (m : Mgr F) (s j : Int) (x : F) :
    MsgsFrom A (autosOf m) (setSlotSub A m s j x) := by
  unfold setSlotSub
  split
  · exact msgsFrom_nil A _
  · split
    · exact msgsFrom_nil A _
    · rename_i sl hsl
      split
      · exact msgsFrom_nil A _
      · rename_i au hau
        exact fun msg hmsg => ⟨sl.autos, List.mem_map.mpr ⟨sl, List.mem_of_getElem? hsl, rfl⟩, au,
          List.mem_of_getElem? hau, x, hmsg⟩

theorem setSlot_view {β} (π : Slot F → β) (hπ : ∀ (sl : Slot F) (x : F), π { sl with current := x } = π sl)
    (A : Arith F) (m : Mgr F) (s : Int) (x : F) :
    (setSlot A m s x).1.slots.map π = m.slots.map π ∧ (setSlot A m s x).1.learnLen = m.learnLen ∧
    MsgsFrom A (autosOf m) (setSlot A m s x).2 := by
  unfold setSlot; split
  · exact ⟨rfl, rfl, msgsFrom_nil A _⟩
  · split
    · exact ⟨rfl, rfl, msgsFrom_nil A _⟩
    · rename_i sl hsl
      exact ⟨map_set_inv π _ _ sl _ hsl (hπ sl x), rfl, slotMsgs_from A m sl (List.mem_of_getElem? hsl) x⟩

theorem driveBound_eq (A : Arith F) (sel : Slot F → Int) (id : Int) (x : F) (l : List (Slot F)) :
    driveBound A sel id x l =
      (l.map fun sl => if sel sl = id then { sl with current := x } else sl,
       (l.filter fun sl => sel sl = id).flatMap fun sl => slotMsgs A sl x) := by
  induction l with
  | nil => rfl
  | cons sl r ih =>
    simp only [driveBound, ih, List.map_cons, List.filter_cons]
    split <;> simp [*]

theorem driveBound_view {β} (π : Slot F → β) (hπ : ∀ (sl : Slot F) (x : F), π { sl with current := x } = π sl)
    (A : Arith F) (sel : Slot F → Int) (id : Int) (x : F) (l : List (Slot F)) :
    (driveBound A sel id x l).1.map π = l.map π := by
  rw [driveBound_eq, List.map_map]
  exact List.map_congr_left fun sl _ => by simp only [Function.comp]; split <;> first | exact hπ sl x | rfl

theorem driveBound_none (A : Arith F) (sel : Slot F → Int) (id : Int) (x : F) (l : List (Slot F))
    (h : ∀ sl ∈ l, sel sl ≠ id) : driveBound A sel id x l = (l, []) := by
  rw [driveBound_eq, List.filter_eq_nil_iff.2 (by simpa using h)]
  exact Prod.ext ((List.map_congr_left fun sl hsl => if_neg (h sl hsl)).trans (List.map_id' l)) rfl

theorem driveBound_unique (A : Arith F) (sel : Slot F → Int) (id : Int) (x : F) (l : List (Slot F))
    (i : Nat) (sl : Slot F) (hi : l[i]? = some sl) (hm : sel sl = id)
    (hu : ∀ (j : Nat) (sl' : Slot F), l[j]? = some sl' → sel sl' = id → j = i) :
    driveBound A sel id x l = (l.set i { sl with current := x }, slotMsgs A sl x) := by
  induction l generalizing i with
  | nil => simp at hi
  | cons s0 r ih =>
    simp only [driveBound]
    cases i with
    | zero =>
      simp only [List.getElem?_cons_zero, Option.some.injEq] at hi
      subst hi
      rw [driveBound_none A sel id x r (by
        intro s hs hsel
        obtain ⟨j, hj, rfl⟩ := List.getElem_of_mem hs
        have := hu (j + 1) r[j] (by simp [hj]) hsel
        omega)]
      simp [hm]
    | succ i' =>
      have hne : sel s0 ≠ id := by
        intro h0
        have := hu 0 s0 (by simp) h0
        omega
      rw [ih i' (by simpa using hi) (by
        intro j sl' hj hs
        have := hu (j + 1) sl' (by simpa using hj) hs
        omega)]
      simp [hne]

theorem driveBound_msgs (A : Arith F) (m : Mgr F) (sel : Slot F → Int) (id : Int) (x : F) :
    MsgsFrom A (autosOf m) (driveBound A sel id x m.slots).2 := by
  intro msg hmsg
  rw [driveBound_eq] at hmsg
  obtain ⟨sl, hsl, hm⟩ := List.mem_flatMap.1 hmsg
  exact slotMsgs_from A m sl (List.mem_filter.1 hsl).1 x msg hm

theorem setSlotSubPath_cases (A : Arith F) (m m' : Mgr F) (s j : Int) (path : Bytes) (port : Option (PortInfo F))
    (h : setSlotSubPath A m s j path port = some m') :
    (m' = m ∧ (m.slotOob s = true ∨ portUsable port = none)) ∨
    ∃ p sl au au1, m.slotOob s = false ∧ portUsable port = some p ∧ m.slots[s.toNat]? = some sl ∧
      sl.autos[j.toNat]? = some au ∧ bindInfo A au path p = some au1 ∧
      m' = { m with
        slots := m.slots.set s.toNat
          { sl with used := true, autos := sl.autos.set j.toNat (Automation.remap A au1) } } := by
  unfold setSlotSubPath at h
  split at h
  · exact Or.inl ⟨(Option.some.inj h).symm, Or.inl ‹_›⟩
  · rename_i hoob
    split at h
    · exact Or.inl ⟨(Option.some.inj h).symm, Or.inr ‹_›⟩
    · rename_i p hp
      split at h
      · cases h
      · split at h
        · cases h
        · rename_i sl hsl
          split at h
          · cases h
          · rename_i au hau
            split at h
            · cases h
            · rename_i au1 hbi
              exact Or.inr ⟨p, sl, au, au1, by simpa using hoob, hp, hsl, hau, hbi, (Option.some.inj h).symm⟩

/-- the learn condition of createBinding -/
def startLearn (learn : Bool) (sl : Slot F) : Bool :=
  learn && decide (sl.learning = -1) && decide (sl.midiCC = -1)

theorem bindInfo_bound (A : Arith F) (au au1 : Automation F) (path : Bytes) (p : PortInfo F)
    (hb : bindInfo A au path p = some au1) : au1.bound = some (path, p) ∧ au1.used = true := by
  simp only [bindInfo] at hb
  split at hb
  · cases hb
  · split at hb <;> cases hb <;> exact ⟨rfl, rfl⟩

theorem createBinding_inv (A : Arith F) (m m' : Mgr F) (s : Int) (path : Bytes)
    (port : Option (PortInfo F)) (learn : Bool) (h : createBinding A m s path port learn = some m') :
    (m' = m ∧ (portUsable port = none ∨ ∃ p sl, portUsable port = some p ∧ m.slots[s.toNat]? = some sl ∧
        firstFree sl.autos 0 = none)) ∨
    ∃ p sl ind au au1, portUsable port = some p ∧ m.slotOob s = false ∧ m.slots[s.toNat]? = some sl ∧
      firstFree sl.autos 0 = some ind ∧ sl.autos[ind]? = some au ∧ bindInfo A au path p = some au1 ∧
      m' = { m with
        slots := m.slots.set s.toNat
          { sl with used := true,
                    autos := sl.autos.set ind (Automation.remap A { au1 with gain := A.hundred, offset := A.zero }),
                    learning := if startLearn learn sl then m.learnLen + 1 else sl.learning },
        learnLen := if startLearn learn sl then m.learnLen + 1 else m.learnLen } := by
  unfold createBinding at h
  split at h
  · cases h; exact Or.inl ⟨rfl, Or.inl ‹_›⟩
  · rename_i p hp
    split at h
    · cases h
    · rename_i hoob
      split at h
      · cases h
      · rename_i sl hsl
        split at h
        · cases h; exact Or.inl ⟨rfl, Or.inr ⟨p, sl, hp, hsl, ‹_›⟩⟩
        · rename_i ind hff
          split at h
          · cases h
          · rename_i au hau
            split at h
            · cases h
            · rename_i au1 hb
              cases h
              exact Or.inr ⟨p, sl, ind, au, au1, hp, by simpa using hoob, hsl, hff, hau, hb, rfl⟩

theorem createBinding_bind (A : Arith F) (m : Mgr F) (s : Int) (path : Bytes) (port : Option (PortInfo F))
    (learn : Bool) {p : PortInfo F} {sl : Slot F} {ind : Nat} {au au1 : Automation F}
    (hp : portUsable port = some p) (hoob : m.slotOob s = false) (hsl : m.slots[s.toNat]? = some sl)
    (hff : firstFree sl.autos 0 = some ind) (hau : sl.autos[ind]? = some au)
    (hbi : bindInfo A au path p = some au1) :
    createBinding A m s path port learn = some { m with
      slots := m.slots.set s.toNat
        { sl with used := true,
                  autos := sl.autos.set ind (Automation.remap A { au1 with gain := A.hundred, offset := A.zero }),
                  learning := if startLearn learn sl then m.learnLen + 1 else sl.learning },
      learnLen := if startLearn learn sl then m.learnLen + 1 else m.learnLen } := by
  simp [createBinding, hp, hoob, hsl, hff, hau, hbi, startLearn]

/-- `decAbove` on the bookkeeping -/
def decK (L : Int) (k : Key) : Key := if k.1 > L then (k.1 - 1, k.2) else k

theorem key_decAbove (L : Int) (sl : Slot F) : key (decAbove L sl) = decK L (key sl) := by
  unfold decAbove decK key
  split <;> rfl

theorem autos_decAbove (L : Int) (sl : Slot F) : (decAbove L sl).autos = sl.autos := by
  unfold decAbove; split <;> rfl

theorem clearSlot_oob (A : Arith F) (m : Mgr F) (s : Int) (h : m.slotOob s = true) : clearSlot A m s = m := by
  simp [clearSlot, h]

theorem clearSlot_views (A : Arith F) (m : Mgr F) (s : Int) (sl : Slot F) (hoob : m.slotOob s = false)
    (hsl : m.slots[s.toNat]? = some sl) :
    keys (clearSlot A m s) =
        ((if sl.learning > 0 then (keys m).map (decK sl.learning) else keys m).set s.toNat (-1, -1, -1)) ∧
    (clearSlot A m s).learnLen = (if sl.learning > 0 then m.learnLen - 1 else m.learnLen) ∧
    autosOf (clearSlot A m s) = (autosOf m).modify s.toNat (List.map (Automation.clear A)) := by
  unfold clearSlot
  simp only [hoob, Bool.false_eq_true, ↓reduceIte, hsl]
  refine ⟨?_, ?_, ?_⟩
  · simp only [keys]
    rw [map_modify_set_at key _ (-1, -1, -1) _ _ fun _ _ => rfl]
    by_cases hw : sl.learning > 0
    · simp only [hw, decide_true, ↓reduceIte, List.map_map]
      exact congrArg (List.set · _ _) (List.map_congr_left fun x _ => key_decAbove _ x)
    · simp [hw]
  · by_cases hw : sl.learning > 0 <;> simp [hw]
  · simp only [autosOf]
    rw [map_modify_comm_at Slot.autos _ (List.map (Automation.clear A)) _ _ fun _ _ => rfl]
    congr 1
    split
    · rw [List.map_map]; exact List.map_congr_left fun y _ => autos_decAbove _ y
    · rfl

theorem setParameterNumber_slots (m : Mgr F) (t v : Int) :
    (setParameterNumber m t v).slots = m.slots ∧ (setParameterNumber m t v).learnLen = m.learnLen := by
  simp only [setParameterNumber, apply_ite Mgr.slots, apply_ite Mgr.learnLen, ite_self, and_self]

theorem regs_slots (m : Mgr F) (t v : Int) :
    (regs m t v).slots = m.slots ∧ (regs m t v).learnLen = m.learnLen := by
  unfold regs; split
  · exact setParameterNumber_slots m t v
  · exact ⟨rfl, rfl⟩

theorem bindingOf_true (sl : Slot F) : bindingOf true sl = sl.midiNrpn := by simp [bindingOf]
theorem bindingOf_false (sl : Slot F) : bindingOf false sl = sl.midiCC := by simp [bindingOf]

theorem handleMidi_eq (A : Arith F) (m : Mgr F) (c t v : Int) :
    handleMidi A m c t v =
      match controllerOf m c t v with
      | none => (regs m t v, [])
      | some (n, id) =>
        if isBoundTo m n id then
          ({ regs m t v with
              slots := (driveBound A (bindingOf n) id (midiValue A (regs m t v) n v) m.slots).1 },
           (driveBound A (bindingOf n) id (midiValue A (regs m t v) n v) m.slots).2)
        else serveLearn A (regs m t v) n id v := by
  have sel_nrpn : (fun (sl : Slot F) => sl.midiNrpn) = bindingOf true := funext fun sl => (bindingOf_true sl).symm
  have sel_cc : (fun (sl : Slot F) => sl.midiCC) = bindingOf false := funext fun sl => (bindingOf_false sl).symm
  unfold handleMidi controllerOf regs
  by_cases ht : t = C_dataentryhi ∨ t = C_dataentrylo ∨ t = C_nrpnhi ∨ t = C_nrpnlo
  · simp only [ht, ↓reduceIte]
    have hs := (setParameterNumber_slots m t v).1
    by_cases hc : nrpnComplete (setParameterNumber m t v) = true
    · simp only [hc, ↓reduceIte, anyBound, isBoundTo, hs, sel_nrpn, midiValue, bindingOf_true]
    · simp [hc]
  · simp only [ht, ↓reduceIte, anyBound, isBoundTo, sel_cc, midiValue, bindingOf_false]
    split <;> simp

/-- effect of being served on the bookkeeping of the head slot -/
def bindK (n : Bool) (id : Int) (k : Key) : Key := (-1, if n then k.2.1 else id, if n then id else k.2.2)

/-- `findHead` on the bookkeeping (`findHead_eq`) -/
def headOf (ks : List Key) : Option Nat := ks.findIdx? fun k => decide (k.1 = 1)

theorem findHead_eq (l : List (Slot F)) (i : Nat) : findHead l i = (headOf (l.map key)).map (· + i) := by
  induction l generalizing i with
  | nil => rfl
  | cons a r ih =>
    simp only [findHead, headOf, List.map_cons, List.findIdx?_cons, ih, key, decide_eq_true_eq]
    split
    · simp
    · simp [key, Nat.add_assoc, Nat.add_comm 1, Function.comp_def]

/-- teaching slot `i` the controller and renumbering the queue leaves every automation alone -/
theorem autos_served (l : List (Slot F)) (n : Bool) (id : Int) (i : Nat) :
    ((l.modify i (fun sl =>
        if n then { sl with learning := -1, midiNrpn := id } else { sl with learning := -1, midiCC := id })).map
      (fun sl => if sl.learning > 1 then { sl with learning := sl.learning - 1 } else sl)).map (·.autos) =
    l.map (·.autos) := by
  rw [List.map_map, ← map_modify_inv (·.autos) (fun sl : Slot F =>
      if n = true then { sl with learning := -1, midiNrpn := id } else { sl with learning := -1, midiCC := id })
      (by intro x; split <;> rfl) l i]
  apply List.map_congr_left
  intro x _
  simp only [Function.comp]
  split <;> rfl

theorem serveLearn_views (A : Arith F) (m : Mgr F) (n : Bool) (id v : Int) :
    keys (serveLearn A m n id v).1 =
      (match headOf (keys m) with
       | none => keys m
       | some i => ((keys m).modify i (bindK n id)).map (decK 1)) ∧
    (serveLearn A m n id v).1.learnLen =
      (match headOf (keys m) with
       | none => m.learnLen
       | some _ => m.learnLen - 1) ∧
    autosOf (serveLearn A m n id v).1 = autosOf m ∧
    MsgsFrom A (autosOf m) (serveLearn A m n id v).2 := by
  have hh : findHead m.slots 0 = headOf (keys m) := by rw [findHead_eq]; simp [keys]
  unfold serveLearn
  rw [hh]
  cases headOf (keys m) with
  | none => exact ⟨rfl, rfl, rfl, msgsFrom_nil A _⟩
  | some i =>
    simp only []
    have hk := setSlot_view key (fun _ _ => rfl) A
    have ha := setSlot_view Slot.autos (fun _ _ => rfl) A
    have h2 : ∀ sl : Slot F, key (if n = true then { sl with learning := -1, midiNrpn := id }
        else { sl with learning := -1, midiCC := id }) = bindK n id (key sl) := by
      intro sl; unfold bindK key; cases n <;> simp
    refine ⟨?_, (hk _ _ _).2.1, (ha _ _ _).1.trans (autos_served m.slots n id i),
      MsgsFrom.of_eq (autos_served m.slots n id i) (ha _ _ _).2.2⟩
    simp only [keys]
    rw [(hk _ _ _).1, ← map_modify_comm_at key _ (bindK n id) _ _ fun sl _ => h2 sl, List.map_map, List.map_map]
    exact List.map_congr_left fun sl _ => by simp only [Function.comp]; unfold decK key; split <;> rfl

theorem step_inv {A : Arith F} {m m' : Mgr F} {op : Op F} {ms : List (Msg F)} (hs : step A m op = some (m', ms)) :
    match op with
    | .bind s path port learn => createBinding A m s path port learn = some m' ∧ ms = []
    | .setPath s j path port => setSlotSubPath A m s j path port = some m' ∧ ms = []
    | .clearSlot s => m' = clearSlot A m s ∧ ms = []
    | .clearSub s j => m' = clearSlotSub A m s j ∧ ms = []
    | .gain s j x => m' = updateMapping A (setSlotSubGain m s j x) s j ∧ ms = []
    | .offset s j x => m' = updateMapping A (setSlotSubOffset m s j x) s j ∧ ms = []
    | .setSlot s x => m' = (setSlot A m s x).1 ∧ ms = (setSlot A m s x).2
    | .setSub s j x => m' = m ∧ ms = setSlotSub A m s j x
    | .midi c t v => m' = (handleMidi A m c t v).1 ∧ ms = (handleMidi A m c t v).2 := by
  cases op <;> simp only [step, Option.map_eq_some_iff, Option.some.injEq, Prod.mk.injEq] at hs ⊢
  case bind => obtain ⟨_, h, rfl, rfl⟩ := hs; exact ⟨h, rfl⟩
  case setPath => obtain ⟨_, h, rfl, rfl⟩ := hs; exact ⟨h, rfl⟩
  case setSlot => rw [hs]; exact ⟨rfl, rfl⟩
  case midi => rw [hs]; exact ⟨rfl, rfl⟩
  all_goals exact ⟨hs.1.symm, hs.2.symm⟩

theorem step_midi (A : Arith F) (m : Mgr F) (c t v : Int) :
    step A m (.midi c t v) = some (handleMidi A m c t v) := rfl

theorem run_cons (A : Arith F) (m : Mgr F) (op : Op F) (ops : List (Op F)) :
    run A m (op :: ops) = (step A m op).bind fun r => (run A r.1 ops).map fun r2 => (r2.1, r.2 :: r2.2) := by
  simp only [run]
  cases step A m op with
  | none => rfl
  | some r => obtain ⟨m1, ms⟩ := r; simp only [Option.bind_some]; cases run A m1 ops <;> rfl

theorem run_append (A : Arith F) (m m1 : Mgr F) (ops1 ops2 : List (Op F)) (mss1 : List (List (Msg F)))
    (h : run A m ops1 = some (m1, mss1)) :
    run A m (ops1 ++ ops2) = (run A m1 ops2).map (fun r => (r.1, mss1 ++ r.2)) := by
  induction ops1 generalizing m mss1 with
  | nil => cases h; cases hr : run A m1 ops2 <;> simp [hr]
  | cons op ops ih =>
    rw [run_cons] at h
    obtain ⟨⟨m2, ms⟩, hs, h⟩ := Option.bind_eq_some_iff.mp h
    obtain ⟨⟨m3, mss⟩, hr, h⟩ := Option.map_eq_some_iff.mp h
    cases h
    rw [List.cons_append, run_cons, hs, Option.bind_some, ih m2 mss hr]
    cases run A m3 ops2 <;> simp

/-! The learn-queue clause for NRPN controllers on the wire (CC 99 = parameter MSB, CC 98 = parameter
    LSB, CC 6 = data MSB, CC 38 = data LSB): the first three messages only fill the NRPN registers
    (nothing is emitted, no slot and no queue entry changes), the fourth completes the controller
    `msb*128+lsb`. -/

theorem handleMidi_nrpnhi (A : Arith F) (m : Mgr F) (c a : Int) :
    handleMidi A m c 99 a = ({ m with parhi := a, valhi := -1, vallo := -1 }, []) := by
  simp [handleMidi_eq, controllerOf, regs, setParameterNumber, nrpnComplete, C_dataentryhi, C_dataentrylo, C_nrpnhi, C_nrpnlo]

theorem handleMidi_nrpnlo (A : Arith F) (m : Mgr F) (c b : Int) :
    handleMidi A m c 98 b = ({ m with parlo := b, valhi := -1, vallo := -1 }, []) := by
  simp [handleMidi_eq, controllerOf, regs, setParameterNumber, nrpnComplete, C_dataentryhi, C_dataentrylo, C_nrpnhi, C_nrpnlo]

theorem handleMidi_datahi (A : Arith F) (m : Mgr F) (c v : Int) (h1 : 0 ≤ m.parhi) (h2 : 0 ≤ m.parlo)
    (h3 : m.vallo = -1) :
    handleMidi A m c 6 v = ({ m with valhi := v }, []) := by
  simp [handleMidi_eq, controllerOf, regs, setParameterNumber, nrpnComplete, C_dataentryhi, C_dataentrylo, C_nrpnhi, C_nrpnlo, h1, h2, h3]

/-- the registers after CC 99 = `a`, CC 98 = `b`, CC 6 = `v1` -/
def afterThree (m : Mgr F) (a b v1 : Int) : Mgr F :=
  { m with parhi := a, parlo := b, valhi := v1, vallo := -1 }

theorem nrpn_prefix (A : Arith F) (m : Mgr F) (c a b v1 v2 : Int) (ha : 0 ≤ a) (hb : 0 ≤ b)
    (h1 : 0 ≤ v1) (h2 : 0 ≤ v2) :
    run A m [.midi c 99 a, .midi c 98 b, .midi c 6 v1] = some (afterThree m a b v1, [[], [], []]) ∧
    controllerOf (afterThree m a b v1) c 38 v2 = some (true, a * 128 + b) := by
  refine ⟨?_, ?_⟩
  · simp only [run, step_midi, handleMidi_nrpnhi, handleMidi_nrpnlo]
    rw [handleMidi_datahi A _ c v1 ha hb rfl]
    rfl
  · simp [controllerOf, afterThree, setParameterNumber, nrpnComplete, C_dataentryhi, C_dataentrylo,
      C_nrpnhi, C_nrpnlo, ha, hb]
    omega

end Rtosc.Auto
