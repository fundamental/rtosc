/-
  C10 — lemmas about the libc float model: exactness of `roundPos`/`hexToBits` on representable
  values, the shape of `%a` and `%#.Nf` output, `scanFloat` on such texts, and the lossless
  round trip: `scanFloat F` reads the `%a` text of a finite double back as the datum of format `F`
  with the same sign and value (`scanFloat_fmtA_value`; floats and doubles are its two cases).
  Values are compared as `m · 2^x = M · 2^E` (`DyEq`): what a text denotes, what a datum denotes,
  what `(double)f` preserves.
-/
import RtoscModel.Proofs.PrettyLibc
namespace Rtosc.Libc
open Rtosc

theorem log2_eq_of_bounds (n k : Nat) (h1 : 2 ^ k ≤ n) (h2 : n < 2 ^ (k + 1)) : Nat.log2 n = k := by
  have hn : n ≠ 0 := by omega
  have a : k ≤ n.log2 := (Nat.le_log2 hn).mpr h1
  have b : n.log2 < k + 1 := (Nat.log2_lt hn).mpr h2
  omega

theorem log2_mul_pow2 (n k : Nat) (hn : n ≠ 0) : Nat.log2 (n * 2 ^ k) = Nat.log2 n + k := by
  apply log2_eq_of_bounds
  · rw [Nat.pow_add]; exact Nat.mul_le_mul_right _ (Nat.log2_self_le hn)
  · have : n < 2 ^ (n.log2 + 1) := Nat.lt_log2_self
    calc n * 2 ^ k < 2 ^ (n.log2 + 1) * 2 ^ k := Nat.mul_lt_mul_of_pos_right this (Nat.two_pow_pos _)
      _ = 2 ^ (n.log2 + k + 1) := by rw [← Nat.pow_add, Nat.add_right_comm]

theorem ratLog2_pow2 (num j : Nat) (hn : num ≠ 0) : ratLog2 num (2 ^ j) = (Nat.log2 num : Int) - j := by
  unfold ratLog2
  simp only [Nat.log2_two_pow]
  have hle := Nat.log2_self_le hn
  have hge : (if (Nat.log2 num : Int) - (j : Int) ≥ 0
      then decide (num ≥ 2 ^ j * 2 ^ ((Nat.log2 num : Int) - (j : Int)).toNat)
      else decide (num * 2 ^ (-((Nat.log2 num : Int) - (j : Int))).toNat ≥ 2 ^ j)) = true := by
    split
    · next h =>
      have : j + ((Nat.log2 num : Int) - (j : Int)).toNat = Nat.log2 num := by omega
      rw [← Nat.pow_add, this]; simpa using hle
    · next h =>
      have : Nat.log2 num + (-((Nat.log2 num : Int) - (j : Int))).toNat = j := by omega
      simp only [ge_iff_le, decide_eq_true_eq]
      calc 2 ^ j = 2 ^ Nat.log2 num * 2 ^ (-((Nat.log2 num : Int) - (j : Int))).toNat := by rw [← Nat.pow_add, this]
        _ ≤ _ := Nat.mul_le_mul_right _ hle
  simp only [hge, ↓reduceIte]

/-- the encoding of the representable value `M · 2^E` -/
def encBits (F : FFmt) (M : Nat) (E : Int) : Nat :=
  if M < 2 ^ F.mbits then M else (E - F.qmin + 1).toNat * 2 ^ F.mbits + (M - 2 ^ F.mbits)

/-- `m · 2^x = M · 2^E` as rational numbers -/
def DyEq (m : Nat) (x : Int) (M : Nat) (E : Int) : Prop :=
  ∃ p q : Nat, m * 2 ^ p = M * 2 ^ q ∧ x + q = E + p

/-- the equation holds with every pair of exponents that balances `x` against `E` -/
theorem DyEq.cross {m M : Nat} {x E : Int} (h : DyEq m x M E) (a b : Nat) (hab : x + b = E + a) :
    m * 2 ^ a = M * 2 ^ b := by
  obtain ⟨p, q, hm, hx⟩ := h
  have hs : p + b = q + a := by omega
  have h1 : m * 2 ^ a * 2 ^ (p + b) = M * 2 ^ b * 2 ^ (p + b) := by
    calc m * 2 ^ a * 2 ^ (p + b) = (m * 2 ^ p) * 2 ^ (a + b) := by
          rw [Nat.pow_add, Nat.pow_add]; ac_rfl
      _ = (M * 2 ^ q) * 2 ^ (a + b) := by rw [hm]
      _ = M * 2 ^ b * 2 ^ (q + a) := by rw [Nat.pow_add, Nat.pow_add]; ac_rfl
      _ = M * 2 ^ b * 2 ^ (p + b) := by rw [hs]
  exact Nat.eq_of_mul_eq_mul_right (Nat.two_pow_pos _) h1

theorem DyEq.symm {m M : Nat} {x E : Int} (h : DyEq m x M E) : DyEq M E m x := by
  obtain ⟨p, q, hm, hx⟩ := h
  exact ⟨q, p, hm.symm, hx.symm⟩

theorem DyEq.trans {a b c : Nat} {x y z : Int} (h1 : DyEq a x b y) (h2 : DyEq b y c z) : DyEq a x c z := by
  obtain ⟨p, q, hm, hx⟩ := h1
  obtain ⟨p', q', hm', hx'⟩ := h2
  exact ⟨p + p', q + q', by
    rw [Nat.pow_add, ← Nat.mul_assoc, hm, Nat.mul_right_comm, hm', Nat.pow_add]; ac_rfl, by push_cast; omega⟩

theorem DyEq.zero (x E : Int) : DyEq 0 x 0 E :=
  ⟨(x - E).toNat, (E - x).toNat, by simp, by omega⟩

theorem DyEq.mul_pow {m M : Nat} {x E : Int} (h : DyEq m x M E) (k : Nat) : DyEq (m * 2 ^ k) (x - k) M E := by
  obtain ⟨p, q, hm, hx⟩ := h
  exact ⟨p, q + k, by rw [Nat.mul_right_comm, hm, Nat.pow_add, Nat.mul_assoc], by push_cast; omega⟩

theorem DyEq.ne_zero {m M : Nat} {x E : Int} (h : DyEq m x M E) (hM0 : M ≠ 0) : m ≠ 0 := by
  obtain ⟨p, q, hm, _⟩ := h
  rintro rfl
  have : 0 < M * 2 ^ q := Nat.mul_pos (by omega) (Nat.two_pow_pos _)
  omega

theorem DyEq.log2 {m M : Nat} {x E : Int} (h : DyEq m x M E) (hM0 : M ≠ 0) :
    (Nat.log2 m : Int) + x = Nat.log2 M + E := by
  have hm0 := h.ne_zero hM0
  obtain ⟨p, q, hm, hx⟩ := h
  have h1 := log2_mul_pow2 m p hm0
  have h2 := log2_mul_pow2 M q hM0
  rw [hm] at h1
  omega

theorem roundPos_exact (F : FFmt) (num j M : Nat) (E : Int)
    (hM0 : M ≠ 0) (hM : M < 2 ^ (F.mbits + 1)) (hE : F.qmin ≤ E) (hnorm : 2 ^ F.mbits ≤ M ∨ E = F.qmin)
    (hef : (E - F.qmin + 1).toNat < F.expMax) (hrel : DyEq num (-(j : Int)) M E) :
    roundPos F num (2 ^ j) = encBits F M E := by
  have hnum0 := hrel.ne_zero hM0
  have hlog := hrel.log2 hM0
  unfold roundPos
  rw [if_neg hnum0]
  -- the `let`s of `roundPos` stay local definitions, each gets its value by an equation of its own
  extract_lets l e n2 d2 q r q1 q2 e2
  have he : e = E := by
    have hlogM : Nat.log2 M ≤ F.mbits := by have := (Nat.log2_lt hM0).mpr hM; omega
    simp only [e, l, ratLog2_pow2 num j hnum0]
    rcases hnorm with h | h
    · have := (Nat.le_log2 hM0).mpr h; omega
    · omega
  have hpos : 0 < d2 := by
    simp only [d2]; split
    · exact Nat.mul_pos (Nat.two_pow_pos _) (Nat.two_pow_pos _)
    · exact Nat.two_pow_pos _
  have hn : n2 = M * d2 := by
    simp only [n2, d2, he]
    split
    · next h =>
      have := hrel.cross 0 (j + E.toNat) (by omega)
      rw [Nat.pow_zero, Nat.mul_one] at this
      rw [this, Nat.pow_add]
    · next h => exact hrel.cross (-E).toNat j (by omega)
  have hq : q = M := by simp only [q, hn]; exact Nat.mul_div_cancel _ hpos
  have hr : r = 0 := by simp only [r, hn]; exact Nat.mul_mod_left _ _
  have hq1 : q1 = M := by simp only [q1, hq, hr]; exact if_neg (by omega)
  have hq2 : q2 = M := by simp only [q2, hq1]; exact if_neg (by omega)
  have he2 : e2 = E := by simp only [e2, hq1, he]; exact if_neg (by omega)
  clear_value q2 e2
  subst hq2 he2
  unfold encBits
  split
  · rfl
  · exact if_neg (Nat.not_le.mpr hef)

/-- rounding `m · 2^x` when that value is the representable `M · 2^E` -/
theorem scaled_exact (F : FFmt) (m : Nat) (x : Int) (M : Nat) (E : Int) (h : DyEq m x M E)
    (hM0 : M ≠ 0) (hM : M < 2 ^ (F.mbits + 1)) (hE : F.qmin ≤ E) (hnorm : 2 ^ F.mbits ≤ M ∨ E = F.qmin)
    (hef : (E - F.qmin + 1).toNat < F.expMax) :
    (if x ≥ 0 then roundPos F (m * 2 ^ x.toNat) 1 else roundPos F m (2 ^ (-x).toNat)) = encBits F M E := by
  split
  · next hx0 =>
    have h' := h.mul_pow x.toNat
    rw [show x - (x.toNat : Int) = -((0 : Nat) : Int) by omega] at h'
    exact roundPos_exact F _ 0 M E hM0 hM hE hnorm hef h'
  · next hx0 =>
    rw [show x = -(((-x).toNat : Nat) : Int) by omega] at h
    exact roundPos_exact F _ _ M E hM0 hM hE hnorm hef h

theorem hexToBits_exact (F : FFmt) (m : Nat) (x : Int) (M : Nat) (E : Int) (h : DyEq m x M E)
    (hM0 : M ≠ 0) (hM : M < 2 ^ (F.mbits + 1)) (hE : F.qmin ≤ E) (hnorm : 2 ^ F.mbits ≤ M ∨ E = F.qmin)
    (hef : (E - F.qmin + 1).toNat < F.expMax)
    (hlo : -1200 ≤ E) (hhi : E + F.mbits ≤ 1100) :
    hexToBits F m x = encBits F M E := by
  have hl := h.log2 hM0
  have hlogM : Nat.log2 M ≤ F.mbits := by
    have := (Nat.log2_lt hM0).mpr hM; omega
  unfold hexToBits
  rw [if_neg (h.ne_zero hM0), if_neg (by omega), if_neg (by omega)]
  exact scaled_exact F m x M E h hM0 hM hE hnorm hef

theorem hexToBits_zero (F : FFmt) (x : Int) : hexToBits F 0 x = 0 := by simp [hexToBits]

theorem digitsVal_zeros_left (b k : Nat) (s : Bytes) : digitsVal b (List.replicate k 48 ++ s) = digitsVal b s := by
  induction k with
  | zero => simp
  | succ k ih => rw [List.replicate_succ, List.cons_append, digitsVal_cons_zero, ih]

theorem digitsVal_zeros (b k : Nat) : digitsVal b (List.replicate k 48) = 0 := by
  have := digitsVal_zeros_left b k []
  simpa [digitsVal] using this

theorem digitsVal_zeros_right (b k : Nat) (s : Bytes) :
    digitsVal b (s ++ List.replicate k 48) = digitsVal b s * b ^ k := by
  rw [digitsVal_append, digitsVal_zeros]; simp

theorem padZero_length (w : Nat) (s : Bytes) (h : s.length ≤ w) : (padZero w s).length = w := by
  simp [padZero]; omega

theorem padZero_all (P : UInt8 → Prop) (w : Nat) (s : Bytes) (h48 : P 48) (hs : ∀ c ∈ s, P c) :
    ∀ c ∈ padZero w s, P c := by
  intro c hc
  simp only [padZero, List.mem_append, List.mem_replicate] at hc
  rcases hc with ⟨_, rfl⟩ | hc
  · exact h48
  · exact hs c hc

theorem stripZeros_split (s : Bytes) : ∃ z, s = stripZeros s ++ List.replicate z 48 := by
  unfold stripZeros
  refine ⟨(s.reverse.takeWhile (· = 48)).length, ?_⟩
  have h := @List.takeWhile_append_dropWhile _ (fun c : UInt8 => decide (c = 48)) s.reverse
  have h2 : (s.reverse.takeWhile (fun c : UInt8 => decide (c = 48))) =
      List.replicate (s.reverse.takeWhile (fun c : UInt8 => decide (c = 48))).length 48 := by
    apply List.eq_replicate_of_mem
    intro c hc
    have hall := @List.all_takeWhile _ (fun c : UInt8 => decide (c = 48)) s.reverse
    rw [List.all_eq_true] at hall
    simpa using hall c hc
  have h3 : s = (s.reverse.dropWhile (fun c : UInt8 => decide (c = 48))).reverse ++
      (s.reverse.takeWhile (fun c : UInt8 => decide (c = 48))).reverse := by
    rw [← List.reverse_append, h, List.reverse_reverse]
  rw [h2, List.reverse_replicate] at h3
  simpa using h3

theorem dropWhile_idem {α} (p : α → Bool) (l : List α) : (l.dropWhile p).dropWhile p = l.dropWhile p := by
  induction l with
  | nil => rfl
  | cons a t ih =>
    by_cases h : p a = true
    · simp [List.dropWhile, h, ih]
    · simp [List.dropWhile, h]

theorem stripZeros_idem (s : Bytes) : stripZeros (stripZeros s) = stripZeros s := by
  unfold stripZeros
  rw [List.reverse_reverse, dropWhile_idem]

theorem stripZeros_mem (s : Bytes) (c : UInt8) (h : c ∈ stripZeros s) : c ∈ s := by
  obtain ⟨z, hz⟩ := stripZeros_split s
  rw [hz]; simp [h]

theorem hexFixed_facts (w n : Nat) (h : n < 16 ^ w) :
    (hexFixed w n).length = w ∧ (∀ c ∈ hexFixed w n, isxdigit c = true) ∧ digitsVal 16 (hexFixed w n) = n := by
  unfold hexFixed
  by_cases h0 : n = 0
  · subst h0
    simp only [↓reduceIte]
    refine ⟨padZero_length _ _ (by simp), padZero_all _ _ _ (by decide) (by simp), ?_⟩
    simp [padZero, digitsVal_zeros]
  · simp only [h0, ↓reduceIte]
    refine ⟨padZero_length _ _ (hexDigits_length w n h), padZero_all _ _ _ (by decide) (hexDigits_all n), ?_⟩
    unfold padZero
    rw [digitsVal_zeros_left, digitsVal_hexDigits]

theorem takeHex_run (xs r : Bytes) (hxs : ∀ c ∈ xs, isxdigit c = true) (hr : isxdigit (hd r) = false) :
    ∀ v k, takeHex (xs ++ r) v k = (v * 16 ^ xs.length + digitsVal 16 xs, k + xs.length, r) := by
  induction xs with
  | nil =>
    intro v k
    cases r with
    | nil => simp [takeHex, digitsVal]
    | cons c t => simp only [hd_cons] at hr; simp [takeHex, hr, digitsVal]
  | cons c xs ih =>
    intro v k
    have hc := hxs c (by simp)
    simp only [List.cons_append, takeHex, hc, ↓reduceIte]
    rw [ih (fun x hx => hxs x (by simp [hx])), digitsVal_cons]
    simp only [List.length_cons, Prod.mk.injEq, and_true]
    constructor
    · rw [Nat.add_mul, Nat.mul_assoc, Nat.pow_succ', Nat.add_assoc]
    · omega

theorem takeDec_run (xs r : Bytes) (hxs : ∀ c ∈ xs, isdigit c = true) (hr : isdigit (hd r) = false) :
    ∀ v k, takeDec (xs ++ r) v k = (v * 10 ^ xs.length + digitsVal 10 xs, k + xs.length, r) := by
  induction xs with
  | nil =>
    intro v k
    cases r with
    | nil => simp [takeDec, digitsVal]
    | cons c t => simp only [hd_cons] at hr; simp [takeDec, hr, digitsVal]
  | cons c xs ih =>
    intro v k
    have hc := hxs c (by simp)
    have hxv := (isdigit_facts c hc).xval_eq
    simp only [List.cons_append, takeDec, hc, ↓reduceIte]
    rw [ih (fun x hx => hxs x (by simp [hx])), digitsVal_cons, hxv]
    simp only [List.length_cons, Prod.mk.injEq, and_true]
    constructor
    · rw [Nat.add_mul, Nat.mul_assoc, Nat.pow_succ', Nat.add_assoc]
    · omega

/-- decimal digits are collected in every state -/
theorem collectFloat_digits (ds r : Bytes) (hds : ∀ c ∈ ds, isdigit c = true) :
    ∀ gd ge gdot hx le, collectFloat (ds ++ r) ⟨gd, ge, gdot, hx, le⟩ =
      (ds ++ (collectFloat r ⟨gd || !ds.isEmpty, ge, gdot, hx, le && ds.isEmpty⟩).1,
        (collectFloat r ⟨gd || !ds.isEmpty, ge, gdot, hx, le && ds.isEmpty⟩).2) := by
  induction ds with
  | nil => intro gd ge gdot hx le; simp
  | cons c ds ih =>
    intro gd ge gdot hx le
    have hc := hds c (by simp)
    simp only [List.cons_append, collectFloat, hc, ↓reduceIte]
    rw [ih (fun x hx => hds x (by simp [hx]))]
    simp

/-- hexadecimal digits are collected in a hexadecimal number before the exponent -/
theorem collectFloat_xdigits (xs r : Bytes) (hxs : ∀ c ∈ xs, isxdigit c = true) :
    ∀ gd gdot le, collectFloat (xs ++ r) ⟨gd, false, gdot, true, le⟩ =
      (xs ++ (collectFloat r ⟨gd || !xs.isEmpty, false, gdot, true, le && xs.isEmpty⟩).1,
        (collectFloat r ⟨gd || !xs.isEmpty, false, gdot, true, le && xs.isEmpty⟩).2) := by
  induction xs with
  | nil => intro gd gdot le; simp
  | cons c xs ih =>
    intro gd gdot le
    have hc := hxs c (by simp)
    simp only [List.cons_append, collectFloat, hc]
    by_cases hd : isdigit c = true
    · simp only [hd, ↓reduceIte]
      rw [ih (fun x hx => hxs x (by simp [hx]))]
      simp
    · simp only [hd, Bool.false_eq_true, ↓reduceIte, Bool.not_false, Bool.and_self]
      rw [ih (fun x hx => hxs x (by simp [hx]))]
      simp

/-- the text of a `%a` conversion: sign, `0x`, leading digit, fraction digits, `p`, exponent -/
def hexTxt (neg : Bool) (lead : UInt8) (fr : Bytes) (eneg : Bool) (eds : Bytes) : Bytes :=
  (if neg then [45] else []) ++ [48, 120, lead] ++ (if fr.isEmpty then [] else 46 :: fr) ++ [112] ++
    (if eneg then 45 else 43) :: eds

/-- fraction and exponent of a hexadecimal float text: `[.hhh]p±ddd` -/
def hexRest (fr : Bytes) (eneg : Bool) (eds : Bytes) : Bytes :=
  (if fr.isEmpty then [] else 46 :: fr) ++ 112 :: (if eneg then 45 else 43) :: eds

/-- the part of a hexadecimal float text behind `0x`: integer digits, optional fraction, exponent -/
def hexGen (xs fr : Bytes) (eneg : Bool) (eds : Bytes) : Bytes := xs ++ hexRest fr eneg eds

/-- the `m` that `strtod` hands to `hexToBits` for `xs[.fr]p±eds`: all hexadecimal digits read as one integer -/
def hexSig (xs fr : Bytes) : Nat := digitsVal 16 xs * 16 ^ fr.length + digitsVal 16 fr
/-- the `x` that goes with `hexSig`: the written exponent, less 4 for each digit behind the point -/
def hexExp (fr : Bytes) (eneg : Bool) (eds : Bytes) : Int :=
  (if eneg then -(digitsVal 10 eds : Int) else (digitsVal 10 eds : Int)) - 4 * (fr.length : Int)

theorem hexSig_nil (xs : Bytes) : hexSig xs [] = digitsVal 16 xs := by simp [hexSig, digitsVal]

theorem hexTxt_eq (neg : Bool) (lead : UInt8) (fr : Bytes) (eneg : Bool) (eds : Bytes) :
    hexTxt neg lead fr eneg eds = (if neg then [45] else []) ++ 48 :: 120 :: lead :: hexRest fr eneg eds := by
  simp [hexTxt, hexRest]

/-- hypotheses on the parts of a hexadecimal float text -/
structure HNum (lead : UInt8) (fr eds : Bytes) : Prop where
  hlead : isdigit lead = true
  hfr : ∀ c ∈ fr, isxdigit c = true
  hne : eds ≠ []
  heds : ∀ c ∈ eds, isdigit c = true

theorem collectFloat_stop_exp (tail : Bytes) (gd : Bool) (h : isdigit (hd tail) = false) :
    collectFloat tail ⟨gd, true, true, true, false⟩ = ([], tail) := by
  cases tail with
  | nil => rfl
  | cons c r => simp only [hd_cons] at h; simp [collectFloat, h]

theorem collectFloat_expTail (eneg : Bool) (eds tail : Bytes) (heds : ∀ c ∈ eds, isdigit c = true)
    (ht : isdigit (hd tail) = false) (gdot : Bool) :
    collectFloat (112 :: (if eneg then 45 else 43) :: (eds ++ tail)) ⟨true, false, gdot, true, false⟩ =
      (112 :: (if eneg then 45 else 43) :: eds, tail) := by
  have h1 : isdigit 112 = false := by decide
  have h2 : isxdigit 112 = false := by decide
  have h3 : tolower 112 = 112 := by decide
  have hstop := fun gd' => collectFloat_stop_exp tail gd' ht
  cases eneg
  · have b1 : isdigit 43 = false := by decide
    simp [collectFloat, h1, h2, h3, b1, collectFloat_digits eds tail heds, hstop]
  · have b1 : isdigit 45 = false := by decide
    simp [collectFloat, h1, h2, h3, b1, collectFloat_digits eds tail heds, hstop]

theorem collectFloat_dot (r : Bytes) (gd hx : Bool) :
    collectFloat (46 :: r) ⟨gd, false, false, hx, false⟩ =
      (46 :: (collectFloat r ⟨gd, false, true, hx, false⟩).1, (collectFloat r ⟨gd, false, true, hx, false⟩).2) := by
  have h46a : isdigit 46 = false := by decide
  have h46b : isxdigit 46 = false := by decide
  have h46c : tolower 46 = 46 := by decide
  cases hx <;> simp [collectFloat, h46a, h46b, h46c]

theorem collectFloat_hexGen (xs fr : Bytes) (eneg : Bool) (eds tail : Bytes)
    (hxs : ∀ c ∈ xs, isxdigit c = true) (hne : xs ≠ []) (hfr : ∀ c ∈ fr, isxdigit c = true)
    (heds : ∀ c ∈ eds, isdigit c = true) (ht : isdigit (hd tail) = false) :
    collectFloat (hexGen xs fr eneg eds ++ tail) ⟨false, false, false, true, false⟩ =
      (hexGen xs fr eneg eds, tail) := by
  have hxe : xs.isEmpty = false := by cases xs <;> simp at hne ⊢
  unfold hexGen hexRest
  rw [List.append_assoc, collectFloat_xdigits xs _ hxs]
  simp only [hxe, Bool.not_false, Bool.or_true, Bool.and_false]
  by_cases hfe : fr.isEmpty = true
  · simp only [hfe, ↓reduceIte, List.nil_append, List.cons_append]
    rw [collectFloat_expTail eneg eds tail heds ht false]
  · have : (fr.isEmpty) = false := by simpa using hfe
    simp only [hfe, Bool.false_eq_true, ↓reduceIte, List.cons_append, List.append_assoc]
    rw [collectFloat_dot, collectFloat_xdigits fr _ hfr]
    simp only [this, Bool.not_false, Bool.or_true, Bool.and_false]
    rw [collectFloat_expTail eneg eds tail heds ht true]

theorem takeExp_p (eneg : Bool) (eds : Bytes) (hne : eds ≠ []) (heds : ∀ c ∈ eds, isdigit c = true) :
    takeExp 112 (112 :: (if eneg then 45 else 43) :: eds) =
      ((if eneg then -(digitsVal 10 eds : Int) else (digitsVal 10 eds : Int)), []) := by
  have h := takeDec_run eds [] heds (by decide) 0 0
  simp only [List.append_nil, Nat.zero_mul, Nat.zero_add] at h
  have hlen : eds.length ≠ 0 := by
    intro h0; exact hne (List.length_eq_zero_iff.mp h0)
  have h3 : tolower 112 = 112 := by decide
  cases eneg <;> simp [takeExp, h3, h, hlen]

theorem strtodMag_hexGen (F : FFmt) (xs fr : Bytes) (eneg : Bool) (eds : Bytes)
    (hxs : ∀ c ∈ xs, isxdigit c = true) (hxne : xs ≠ []) (hfr : ∀ c ∈ fr, isxdigit c = true)
    (hne : eds ≠ []) (heds : ∀ c ∈ eds, isdigit c = true) :
    ∃ n, strtodMag F (48 :: 120 :: hexGen xs fr eneg eds) =
      some (hexToBits F (hexSig xs fr) (hexExp fr eneg eds), n) := by
  have h120 : tolower 120 = 120 := by decide
  have hxl : xs.length ≠ 0 := by
    intro h0; exact hxne (List.length_eq_zero_iff.mp h0)
  unfold strtodMag hexGen hexRest hexSig hexExp
  simp only [h120, ↓reduceIte]
  by_cases hfe : fr.isEmpty = true
  · have hnil : fr = [] := by simpa using hfe
    subst hnil
    have h1 := takeHex_run xs (112 :: (if eneg then 45 else 43) :: eds) hxs (by rw [hd_cons]; decide) 0 0
    simp only [Nat.zero_mul, Nat.zero_add] at h1
    simp only [List.isEmpty_nil, ↓reduceIte, List.nil_append, h1]
    simp [takeExp_p eneg eds hne heds, digitsVal, hxl]
  · have hfe' : fr.isEmpty = false := by simpa using hfe
    have h1 := takeHex_run xs (46 :: (fr ++ 112 :: (if eneg then 45 else 43) :: eds)) hxs (by rw [hd_cons]; decide) 0 0
    simp only [Nat.zero_mul, Nat.zero_add] at h1
    have h2 := takeHex_run fr (112 :: (if eneg then 45 else 43) :: eds) hfr (by rw [hd_cons]; decide) (digitsVal 16 xs) 0
    simp only [Nat.zero_add] at h2
    simp only [hfe', Bool.false_eq_true, ↓reduceIte, List.cons_append, h1, h2, takeExp_p eneg eds hne heds]
    simp [hxne]

/-- `%f` / `%lf` of sscanf on a hexadecimal float that is followed by a non-digit -/
theorem scanFloat_hexGen (F : FFmt) (neg : Bool) (xs fr : Bytes) (eneg : Bool) (eds tail : Bytes)
    (hxs : ∀ c ∈ xs, isxdigit c = true) (hxne : xs ≠ []) (hfr : ∀ c ∈ fr, isxdigit c = true)
    (hne : eds ≠ []) (heds : ∀ c ∈ eds, isdigit c = true) (ht : isdigit (hd tail) = false) :
    scanFloat F ((if neg then [45] else []) ++ 48 :: 120 :: (hexGen xs fr eneg eds ++ tail)) =
      some ((if neg then F.signBit else 0) + hexToBits F (hexSig xs fr) (hexExp fr eneg eds), tail) := by
  obtain ⟨n, hn⟩ := strtodMag_hexGen F xs fr eneg eds hxs hxne hfr hne heds
  have hcf := collectFloat_hexGen xs fr eneg eds tail hxs hxne hfr heds ht
  have hlen2 : (hexGen xs fr eneg eds).length + 2 ≠ 2 := by
    have : 0 < xs.length := List.length_pos_iff.mpr hxne
    rw [hexGen, List.length_append]; omega
  have h48 : isspace 48 = false := by decide
  have h45 : isspace 45 = false := by decide
  have ht48 : tolower 48 = 48 := by decide
  have ht120 : tolower 120 = 120 := by decide
  unfold scanFloat
  cases neg
  · simp [skipSpace, h48, ht48, ht120, hcf, hn, hlen2]
  · simp [skipSpace, h45, ht48, ht120, hcf, hn, hlen2]

theorem scanFloat_hexTxt_tail (F : FFmt) (neg : Bool) (lead : UInt8) (fr : Bytes) (eneg : Bool) (eds tail : Bytes)
    (h : HNum lead fr eds) (ht : isdigit (hd tail) = false) :
    scanFloat F (hexTxt neg lead fr eneg eds ++ tail) =
      some ((if neg then F.signBit else 0) + hexToBits F (hexSig [lead] fr) (hexExp fr eneg eds), tail) := by
  have hxl : isxdigit lead = true := by simp [isxdigit, h.hlead]
  rw [hexTxt_eq, List.append_assoc]
  exact scanFloat_hexGen F neg [lead] fr eneg eds tail (by simpa using hxl) (by simp) h.hfr h.hne h.heds ht

theorem scanFloat_hexTxt (F : FFmt) (neg : Bool) (lead : UInt8) (fr : Bytes) (eneg : Bool) (eds rest : Bytes)
    (h : HNum lead fr eds) :
    scanFloat F (hexTxt neg lead fr eneg eds ++ 41 :: rest) =
      some ((if neg then F.signBit else 0) + hexToBits F (hexSig [lead] fr) (hexExp fr eneg eds), 41 :: rest) :=
  scanFloat_hexTxt_tail F neg lead fr eneg eds (41 :: rest) h (by rw [hd_cons]; decide)

/-- the integer significand of a finite datum (0 for ±0) -/
def FFmt.sig (F : FFmt) (b : Nat) : Nat := (if F.expField b = 0 then 0 else 2 ^ F.mbits) + F.frac b
/-- the exponent of the unit in the last place of a finite datum -/
def FFmt.exq (F : FFmt) (b : Nat) : Int :=
  if F.expField b = 0 then F.qmin else (F.expField b : Int) - (F.bias : Int) - (F.mbits : Int)

theorem classify_fin (F : FFmt) (b : Nat) (hfin : F.expField b ≠ F.expMax) :
    (F.sig b = 0 ∧ F.classify b = .zero) ∨ (F.sig b ≠ 0 ∧ F.classify b = .fin (F.sig b) (F.exq b)) := by
  have hp : 0 < 2 ^ F.mbits := Nat.two_pow_pos _
  unfold FFmt.classify FFmt.sig FFmt.exq
  simp only [hfin, ↓reduceIte]
  by_cases h0 : F.expField b = 0
  · simp only [h0, ↓reduceIte, Nat.zero_add]
    by_cases hf : F.frac b = 0
    · left; simp [hf]
    · right; simp [hf]
  · right
    simp only [h0, ↓reduceIte]
    refine ⟨by omega, ?_⟩
    first | rfl | trivial

theorem fmtNat_facts (n : Nat) :
    fmtNat n ≠ [] ∧ (∀ c ∈ fmtNat n, isdigit c = true) ∧ digitsVal 10 (fmtNat n) = n := by
  unfold fmtNat
  by_cases h : n = 0
  · subst h; simp only [↓reduceIte]; decide
  · simp only [h, ↓reduceIte]
    obtain ⟨d, ds, he, _, _⟩ := decDigits_head n (by omega)
    exact ⟨by rw [he]; simp, decDigits_all_digit n, digitsVal_decDigits n⟩

theorem FFmt.signBit_eq (F : FFmt) : F.signBit = 2 ^ F.mbits * 2 ^ F.ebits := Nat.pow_add ..

theorem FFmt.fields (F : FFmt) (b : Nat) :
    F.sig b < 2 ^ (F.mbits + 1) ∧ F.frac b < 2 ^ F.mbits ∧ F.expField b < 2 ^ F.ebits ∧
    F.mag b = F.expField b * 2 ^ F.mbits + F.frac b ∧
    b % (F.signBit * 2) = (if F.sign b then F.signBit else 0) + F.mag b := by
  have hP : 0 < 2 ^ F.mbits := Nat.two_pow_pos _
  have hS := F.signBit_eq
  have hfr : F.frac b < 2 ^ F.mbits := Nat.mod_lt _ hP
  refine ⟨?_, hfr, ?_, ?_, ?_⟩
  · unfold FFmt.sig; rw [Nat.pow_succ]; split <;> omega
  · exact Nat.div_lt_of_lt_mul (hS ▸ Nat.mod_lt _ (Nat.two_pow_pos _))
  · have : F.frac b = F.mag b % 2 ^ F.mbits := (Nat.mod_mod_of_dvd b ⟨_, hS⟩).symm
    rw [this]; exact (Nat.div_add_mod' _ _).symm
  · unfold FFmt.sign FFmt.mag
    rw [Nat.mod_mul]
    by_cases h : b / F.signBit % 2 = 1
    · simp [h, Nat.add_comm]
    · have : b / F.signBit % 2 = 0 := by omega
      simp [this]

theorem f64_fields (b : Nat) :
    f64.sig b < 2 ^ 53 ∧ f64.frac b < 2 ^ 52 ∧ f64.expField b < 2048 ∧
    b % 2 ^ 64 = (if f64.sign b then 2 ^ 63 else 0) + f64.mag b :=
  ⟨(f64.fields b).1, (f64.fields b).2.1, (f64.fields b).2.2.1, (f64.fields b).2.2.2.2⟩

theorem f32_fields (b : Nat) : b % 2 ^ 32 = (if f32.sign b then 2 ^ 31 else 0) + f32.mag b := (f32.fields b).2.2.2.2

/-- `%a` output of a finite double as a hexadecimal float text of the same value -/
theorem fmtA_fin (B : Nat) (hfin : f64.expField B ≠ 2047) :
    ∃ lead fr eneg eds, fmtA B = hexTxt (f64.sign B) lead fr eneg eds ∧
      HNum lead fr eds ∧ stripZeros fr = fr ∧
      DyEq (hexSig [lead] fr) (hexExp fr eneg eds) (f64.sig B) (f64.exq B) := by
  have hmax : f64.expMax = 2047 := by decide
  rcases classify_fin f64 B (by rw [hmax]; exact hfin) with ⟨hs, hc⟩ | ⟨hs, hc⟩
  · refine ⟨48, [], false, [48], ?_, ⟨by decide, by simp, by simp, by decide⟩, by decide, ?_⟩
    · unfold fmtA
      simp only [hc]
      cases f64.sign B <;> decide
    · rw [hs, show hexSig [48] [] = 0 by decide]; exact DyEq.zero _ _
  · obtain ⟨hsig, hfrac, hef, _⟩ := f64_fields B
    obtain ⟨hflen, hfall, hfval⟩ := hexFixed_facts 13 (f64.frac B) (by
      have : (16 : Nat) ^ 13 = 2 ^ 52 := by decide
      rw [this]; exact hfrac)
    obtain ⟨z, hz⟩ := stripZeros_split (hexFixed 13 (f64.frac B))
    generalize hfr : stripZeros (hexFixed 13 (f64.frac B)) = fr at hz
    generalize hex : (if f64.expField B = 0 then (-1022 : Int) else (f64.expField B : Int) - 1023) = ex
    obtain ⟨hn1, hn2, hn3⟩ := fmtNat_facts ex.natAbs
    refine ⟨if f64.expField B = 0 then 48 else 49, fr, decide (ex < 0), fmtNat ex.natAbs, ?_, ⟨?_, ?_, hn1, hn2⟩, ?_, ?_⟩
    · unfold fmtA hexTxt
      simp only [hc, hfr, hex]
      by_cases hneg : ex < 0 <;> simp [hneg]
    · split <;> decide
    · intro c hc'
      rw [← hfr] at hc'
      exact hfall c (stripZeros_mem _ c hc')
    · rw [← hfr]; exact stripZeros_idem _
    · refine ⟨4 * z, 0, ?_, ?_⟩
      · rw [Nat.pow_zero, Nat.mul_one]
        have hlen : fr.length + z = 13 := by
          have := congrArg List.length hz
          rw [hflen] at this; simp at this; omega
        have hv : f64.frac B = digitsVal 16 fr * 16 ^ z := by
          rw [← hfval, hz, digitsVal_zeros_right]
        have h16 : (2 : Nat) ^ (4 * z) = 16 ^ z := by
          rw [Nat.pow_mul]
        unfold hexSig FFmt.sig
        rw [h16, Nat.add_mul, Nat.mul_assoc, ← Nat.pow_add, hlen, ← hv]
        have h52 : f64.mbits = 52 := rfl
        rw [h52]
        split
        · simp [show digitsVal 16 [48] = 0 by decide]
        · have : digitsVal 16 [49] = 1 := by decide
          rw [this, Nat.one_mul, show (16 : Nat) ^ 13 = 2 ^ 52 by decide]
      · have hlen : (fr.length : Int) + z = 13 := by
          have := congrArg List.length hz
          rw [hflen] at this; simp at this; omega
        have hexv : (if decide (ex < 0) = true then -(digitsVal 10 (fmtNat ex.natAbs) : Int) else (digitsVal 10 (fmtNat ex.natAbs) : Int)) = ex := by
          rw [hn3]
          by_cases hneg : ex < 0
          · simp only [hneg, decide_true, ↓reduceIte]; omega
          · simp only [hneg, decide_false, Bool.false_eq_true, ↓reduceIte]; omega
        unfold hexExp FFmt.exq
        rw [hexv, ← hex]
        have hq : f64.qmin = -1074 := by decide
        have hb : (f64.bias : Int) = 1023 := by decide
        have hm : (f64.mbits : Int) = 52 := by decide
        rw [hq, hb, hm]
        split <;> push_cast <;> omega

theorem FFmt.sig_exq (F : FFmt) (b : Nat) :
    (F.expField b = 0 ∧ F.sig b = F.frac b ∧ F.exq b = F.qmin) ∨
    (F.expField b ≠ 0 ∧ F.sig b = 2 ^ F.mbits + F.frac b ∧ F.exq b = F.qmin + ((F.expField b - 1 : Nat) : Int)) := by
  unfold FFmt.sig FFmt.exq FFmt.qmin
  by_cases h0 : F.expField b = 0
  · exact Or.inl ⟨h0, by simp [h0], by simp [h0]⟩
  · exact Or.inr ⟨h0, by simp [h0], by simp only [h0, ↓reduceIte]; omega⟩

theorem FFmt.mag_of_sig_zero (F : FFmt) (b : Nat) (hs : F.sig b = 0) : F.mag b = 0 := by
  obtain ⟨_, _, _, hmag, _⟩ := F.fields b
  rcases F.sig_exq b with ⟨h0, e1, _⟩ | ⟨_, e1, _⟩
  · rw [hmag, h0, ← e1, hs, Nat.zero_mul]
  · omega

theorem FFmt.encBits_fin (F : FFmt) (he : 2 ≤ F.ebits) (b : Nat) (hfin : F.expField b ≠ F.expMax) (hs : F.sig b ≠ 0) :
    F.sig b < 2 ^ (F.mbits + 1) ∧ F.qmin ≤ F.exq b ∧
    (2 ^ F.mbits ≤ F.sig b ∨ F.exq b = F.qmin) ∧
    (F.exq b - F.qmin + 1).toNat < F.expMax ∧ F.exq b + F.mbits < (F.expMax : Int) - F.bias ∧
    encBits F (F.sig b) (F.exq b) = F.mag b := by
  obtain ⟨hsig, hfrac, hef, hmag, _⟩ := F.fields b
  have hx : F.expField b < F.expMax ∧ 1 < F.expMax := by
    have h4 : 2 ^ 2 ≤ 2 ^ F.ebits := Nat.pow_le_pow_right (by decide) he
    have hmax : F.expMax = 2 ^ F.ebits - 1 := rfl
    omega
  have hq : F.qmin + F.mbits = 1 - (F.bias : Int) := by unfold FFmt.qmin; omega
  refine ⟨hsig, ?_⟩
  rw [hmag]
  clear hmag hsig hef hfin hs he
  unfold encBits
  rcases F.sig_exq b with ⟨h0, e1, e2⟩ | ⟨h0, e1, e2⟩ <;> rw [e1, e2] <;> clear e1 e2
  · refine ⟨Int.le_refl _, Or.inr rfl, by omega, by omega, ?_⟩
    rw [if_pos hfrac, h0, Nat.zero_mul, Nat.zero_add]
  · have hE : (F.qmin + ((F.expField b - 1 : Nat) : Int) - F.qmin + 1).toNat = F.expField b := by omega
    refine ⟨by omega, Or.inl (Nat.le_add_right _ _), by omega, by omega, ?_⟩
    rw [if_neg (by omega), hE, Nat.add_sub_cancel_left]

/-- `strtod` of a hexadecimal text whose value is that of the finite datum `b` gives the magnitude
    of `b`; the bounds on the format keep the exponent inside the clamps of `hexToBits` -/
theorem hexToBits_fin (F : FFmt) (he : 2 ≤ F.ebits) (he' : F.ebits ≤ 11) (hm' : F.mbits ≤ 52)
    (m : Nat) (x : Int) (b : Nat) (hfin : F.expField b ≠ F.expMax) (h : DyEq m x (F.sig b) (F.exq b)) :
    hexToBits F m x = F.mag b := by
  by_cases hs : F.sig b = 0
  · obtain ⟨p, q, hm, _⟩ := h
    rw [hs, Nat.zero_mul] at hm
    rw [(Nat.mul_eq_zero.mp hm).resolve_right (Nat.ne_of_gt (Nat.two_pow_pos _)), hexToBits_zero, F.mag_of_sig_zero b hs]
  · have hclamp : -1200 ≤ F.qmin ∧ (F.expMax : Int) - F.bias ≤ 1100 := by
      have hb : 2 ^ (F.ebits - 1) ≤ 2 ^ 10 := Nat.pow_le_pow_right (by decide) (by omega)
      have hpow : 2 ^ F.ebits = 2 * 2 ^ (F.ebits - 1) := by rw [← Nat.pow_succ']; congr 1; omega
      simp only [FFmt.qmin, FFmt.bias, FFmt.expMax]
      clear hfin hs h
      omega
    obtain ⟨a1, a2, a3, a4, a5, a6⟩ := F.encBits_fin he b hfin hs
    rw [hexToBits_exact F m x (F.sig b) (F.exq b) h hs a1 a2 a3 a4 (by omega) (by omega), a6]

/-- **lossless round trip**: `%f` / `%lf` of sscanf reads the `%la` text of a finite double `B` as the
    datum `b` of format `F` that has the sign and the value of `B`, whatever non-digit follows -/
theorem scanFloat_fmtA_value (F : FFmt) (he : 2 ≤ F.ebits) (he' : F.ebits ≤ 11) (hm' : F.mbits ≤ 52)
    (B b : Nat) (hfin : f64.expField B ≠ 2047) (hbfin : F.expField b ≠ F.expMax)
    (hv : DyEq (f64.sig B) (f64.exq B) (F.sig b) (F.exq b)) (tail : Bytes) (ht : isdigit (hd tail) = false) :
    scanFloat F (fmtA B ++ tail) = some ((if f64.sign B then F.signBit else 0) + F.mag b, tail) := by
  obtain ⟨lead, fr, eneg, eds, htxt, h, _, hval⟩ := fmtA_fin B hfin
  rw [htxt, scanFloat_hexTxt_tail F _ lead fr eneg eds tail h ht,
    hexToBits_fin F he he' hm' _ _ b hbfin (hval.trans hv)]

theorem scanFloat_fmtA_tail (B : Nat) (hB : B < 2 ^ 64) (hfin : f64.expField B ≠ 2047)
    (tail : Bytes) (ht : isdigit (hd tail) = false) :
    scanFloat f64 (fmtA B ++ tail) = some (B, tail) := by
  obtain ⟨_, _, _, hsplit⟩ := f64_fields B
  rw [Nat.mod_eq_of_lt hB] at hsplit
  rw [scanFloat_fmtA_value f64 (by decide) (by decide) (by decide) B B hfin hfin ⟨0, 0, rfl, rfl⟩ tail ht]
  exact congrArg (fun v => some (v, tail)) hsplit.symm

/-- libc-level statement of the lossless round trip of a finite `double` -/
theorem double_lossless_roundtrip (b : UInt64) (hfin : f64.expField b.toNat ≠ 2047) (rest : Bytes) :
    scanFloat f64 (fmtA b.toNat ++ 41 :: rest) = some (b.toNat, 41 :: rest) :=
  scanFloat_fmtA_tail b.toNat b.toNat_lt hfin (41 :: rest) (by rw [hd_cons]; decide)

theorem FFmt.mag_lt (F : FFmt) (ef fr : Nat) (hef : ef < 2 ^ F.ebits) (hfr : fr < 2 ^ F.mbits) :
    ef * 2 ^ F.mbits + fr < F.signBit := by
  rw [F.signBit_eq, Nat.mul_comm (2 ^ F.mbits)]
  calc ef * 2 ^ F.mbits + fr < ef * 2 ^ F.mbits + 2 ^ F.mbits := by omega
    _ = (ef + 1) * 2 ^ F.mbits := by rw [Nat.add_mul, Nat.one_mul]
    _ ≤ 2 ^ F.ebits * 2 ^ F.mbits := Nat.mul_le_mul_right _ hef

/-- the fields of a datum assembled from sign, exponent field and fraction -/
theorem FFmt.assemble (F : FFmt) (s : Bool) (ef fr : Nat) (hef : ef < 2 ^ F.ebits) (hfr : fr < 2 ^ F.mbits) :
    F.sign ((if s then F.signBit else 0) + (ef * 2 ^ F.mbits + fr)) = s ∧
    F.expField ((if s then F.signBit else 0) + (ef * 2 ^ F.mbits + fr)) = ef ∧
    F.frac ((if s then F.signBit else 0) + (ef * 2 ^ F.mbits + fr)) = fr := by
  have hP : 0 < 2 ^ F.mbits := Nat.two_pow_pos _
  have hS := F.signBit_eq
  have hlt := F.mag_lt ef fr hef hfr
  have hmag : F.mag ((if s then F.signBit else 0) + (ef * 2 ^ F.mbits + fr)) = ef * 2 ^ F.mbits + fr := by
    unfold FFmt.mag
    cases s
    · simpa using Nat.mod_eq_of_lt hlt
    · simpa using Nat.mod_eq_of_lt hlt
  refine ⟨?_, ?_, ?_⟩
  · unfold FFmt.sign
    cases s
    · simp [Nat.div_eq_of_lt hlt]
    · simp [Nat.add_div_left _ (Nat.lt_of_le_of_lt (Nat.zero_le _) hlt), Nat.div_eq_of_lt hlt]
  · unfold FFmt.expField
    rw [hmag, Nat.mul_comm ef, Nat.mul_add_div hP, Nat.div_eq_of_lt hfr, Nat.add_zero]
  · unfold FFmt.frac
    cases s
    · simp [Nat.mul_comm ef, Nat.mod_eq_of_lt hfr]
    · rw [if_pos rfl, hS, Nat.mul_comm ef, ← Nat.add_assoc, ← Nat.mul_add, Nat.mul_add_mod,
        Nat.mod_eq_of_lt hfr]

theorem f64_assemble (s : Bool) (ef fr : Nat) (hef : ef < 2048) (hfr : fr < 2 ^ 52) :
    f64.sign ((if s then 2 ^ 63 else 0) + (ef * 2 ^ 52 + fr)) = s ∧
    f64.expField ((if s then 2 ^ 63 else 0) + (ef * 2 ^ 52 + fr)) = ef ∧
    f64.frac ((if s then 2 ^ 63 else 0) + (ef * 2 ^ 52 + fr)) = fr := f64.assemble s ef fr hef hfr

theorem FFmt.encBits_lt (F : FFmt) (M : Nat) (E : Int)
    (hlo : 2 ^ F.mbits ≤ M) (hhi : M < 2 ^ (F.mbits + 1)) (hef : (E - F.qmin + 1).toNat < F.expMax) :
    encBits F M E < F.signBit := by
  have hmax : F.expMax = 2 ^ F.ebits - 1 := rfl
  rw [Nat.pow_succ] at hhi
  rw [show encBits F M E = (E - F.qmin + 1).toNat * 2 ^ F.mbits + (M - 2 ^ F.mbits) from if_neg (by omega)]
  exact F.mag_lt _ _ (by omega) (by omega)

/-- the datum with sign `s` whose magnitude encodes the normal value `M · 2^E` -/
theorem FFmt.fields_encBits (F : FFmt) (s : Bool) (M : Nat) (E : Int)
    (hlo : 2 ^ F.mbits ≤ M) (hhi : M < 2 ^ (F.mbits + 1)) (hE : F.qmin ≤ E)
    (hef : (E - F.qmin + 1).toNat < F.expMax) :
    F.sign ((if s then F.signBit else 0) + encBits F M E) = s ∧
    F.expField ((if s then F.signBit else 0) + encBits F M E) = (E - F.qmin + 1).toNat ∧
    F.sig ((if s then F.signBit else 0) + encBits F M E) = M ∧
    F.exq ((if s then F.signBit else 0) + encBits F M E) = E := by
  have henc : encBits F M E = (E - F.qmin + 1).toNat * 2 ^ F.mbits + (M - 2 ^ F.mbits) :=
    if_neg (by omega)
  have hmax : F.expMax = 2 ^ F.ebits - 1 := rfl
  rw [Nat.pow_succ] at hhi
  obtain ⟨a1, a2, a3⟩ := F.assemble s (E - F.qmin + 1).toNat (M - 2 ^ F.mbits) (by omega) (by omega)
  rw [henc]
  refine ⟨a1, a2, ?_, ?_⟩
  · rw [FFmt.sig, a2, a3, if_neg (by omega)]; omega
  · rw [FFmt.exq, a2, if_neg (by omega)]; unfold FFmt.qmin at hE ⊢; omega

/-- a non-zero significand below `2^(P+1)` shifted up to exactly `P + 1` bits -/
theorem sig_normalize (m P : Nat) (hm0 : m ≠ 0) (hm : m < 2 ^ (P + 1)) :
    ∃ t, t ≤ P ∧ 2 ^ P ≤ m * 2 ^ t ∧ m * 2 ^ t < 2 ^ (P + 1) := by
  have hL : Nat.log2 m ≤ P := by have := (Nat.log2_lt hm0).mpr hm; omega
  refine ⟨P - Nat.log2 m, Nat.sub_le _ _, ?_, ?_⟩
  · calc 2 ^ P = 2 ^ Nat.log2 m * 2 ^ (P - Nat.log2 m) := by rw [← Nat.pow_add]; congr 1; omega
      _ ≤ _ := Nat.mul_le_mul_right _ (Nat.log2_self_le hm0)
  · calc m * 2 ^ (P - Nat.log2 m) < 2 ^ (Nat.log2 m + 1) * 2 ^ (P - Nat.log2 m) :=
          Nat.mul_lt_mul_of_pos_right Nat.lt_log2_self (Nat.two_pow_pos _)
      _ = 2 ^ (P + 1) := by rw [← Nat.pow_add]; congr 1; omega

/-- `(double)f` of a finite float: same sign, same value -/
theorem promote_fin (b : Nat) (hfin : f32.expField b ≠ 255) :
    f64.expField (promote b) ≠ 2047 ∧ promote b < 2 ^ 64 ∧ f64.sign (promote b) = f32.sign b ∧
    DyEq (f64.sig (promote b)) (f64.exq (promote b)) (f32.sig b) (f32.exq b) ∧
    (f32.sig b ≠ 0 → 2 ^ 52 ≤ f64.sig (promote b)) := by
  have hsb : f64.signBit = 2 ^ 63 := by decide
  unfold promote
  rcases classify_fin f32 b hfin with ⟨hs, hc⟩ | ⟨hs, hc⟩
  · rw [hc]
    simp only [FFmt.ofMag]
    rw [hsb]
    obtain ⟨a1, a2, a3⟩ := f64_assemble (f32.sign b) 0 0 (by omega) (by omega)
    simp only [Nat.zero_mul, Nat.add_zero] at a1 a2 a3
    have hs64 : f64.sig (if f32.sign b then 2 ^ 63 else 0) = 0 := by
      unfold FFmt.sig
      rw [a2, a3]; rfl
    refine ⟨by rw [a2]; omega, by split <;> omega, a1, ?_, fun h => absurd hs h⟩
    rw [hs, hs64]; exact DyEq.zero _ _
  · rw [hc]
    simp only [FFmt.ofMag, FFmt.ofScaled]
    obtain ⟨b1, b2, _, b4, _, _⟩ := f32.encBits_fin (by decide) b hfin hs
    have hq32 : f32.qmin = -149 := by decide
    have hx32 : f32.expMax = 255 := by decide
    rw [hq32] at b2 b4
    rw [hx32] at b4
    obtain ⟨t, ht, hMlo, hMhi⟩ := sig_normalize (f32.sig b) 52 hs
      (Nat.lt_of_lt_of_le b1 (Nat.pow_le_pow_right (by decide) (by decide)))
    have hq : f64.qmin = -1074 := by decide
    have hmax64 : f64.expMax = 2047 := by decide
    have hE : f64.qmin ≤ f32.exq b - (t : Int) := by rw [hq]; omega
    have hef : (f32.exq b - (t : Int) - f64.qmin + 1).toNat < f64.expMax := by rw [hq, hmax64]; omega
    rw [scaled_exact f64 (f32.sig b) (f32.exq b) (f32.sig b * 2 ^ t) (f32.exq b - (t : Int)) ⟨t, 0, by simp, by omega⟩
      (by omega) hMhi hE (Or.inl hMlo) hef]
    obtain ⟨c1, c2, c3, c4⟩ := f64.fields_encBits (f32.sign b) _ _ hMlo hMhi hE hef
    have hlt := f64.encBits_lt _ _ hMlo hMhi hef
    rw [hsb] at hlt
    refine ⟨by rw [c2]; omega, by split <;> omega, c1, ?_, fun _ => by rw [c3]; exact hMlo⟩
    rw [c3, c4]; exact ⟨0, t, by rw [Nat.pow_zero, Nat.mul_one], by push_cast; omega⟩

/-- libc-level statement of the lossless round trip of a finite `float`:
    `sscanf("%f")` of `printf("%a", (double)f)` followed by ")" gives `f` back bit-exactly -/
theorem float_lossless_roundtrip (b : UInt32) (hfin : f32.expField b.toNat ≠ 255) (rest : Bytes) :
    scanFloat f32 (fmtA (promote b.toNat) ++ 41 :: rest) = some (b.toNat, 41 :: rest) := by
  obtain ⟨hPfin, _, hPsign, hv, _⟩ := promote_fin b.toNat hfin
  have hsplit := f32_fields b.toNat
  rw [Nat.mod_eq_of_lt b.toNat_lt] at hsplit
  rw [scanFloat_fmtA_value f32 (by decide) (by decide) (by decide) (promote b.toNat) b.toNat hPfin hfin hv _
    (by rw [hd_cons]; decide), hPsign]
  exact congrArg (fun v => some (v, 41 :: rest)) hsplit.symm

theorem takeDec_count_le : ∀ (s : Bytes) (v k : Nat), k ≤ (takeDec s v k).2.1 := by
  intro s
  induction s with
  | nil => intro v k; simp [takeDec]
  | cons c r ih =>
    intro v k
    simp only [takeDec]
    split
    · have := ih (v * 10 + dval c) (k + 1); omega
    · simp

/-- the decimal branch of `strtodMag` -/
def strtodDec (F : FFmt) (buf : Bytes) : Option (Nat × Nat) :=
  let (ip, ik, r1) := takeDec buf 0 0
  let (m, fk, r2) := match r1 with
    | 46 :: r' => let (v, k, r'') := takeDec r' ip 0; (v, k, r'')
    | _ => (ip, 0, r1)
  if ik + fk = 0 then none
  else
    let (ex, r3) := takeExp 101 r2
    some (decToBits F m (ex - (fk : Int)), buf.length - r3.length)

theorem strtodMag_dec (F : FFmt) (buf : Bytes) :
    strtodMag F buf = strtodDec F buf ∨ ∃ v, strtodMag F buf = some v := by
  unfold strtodMag strtodDec
  simp only []
  split
  · right; exact ⟨_, rfl⟩
  · left; rfl

/-- `strtod` converts something when the buffer starts with a digit -/
theorem strtodMag_some (F : FFmt) (d : UInt8) (r : Bytes) (hd0 : isdigit d = true) :
    ∃ v, strtodMag F (d :: r) = some v := by
  have hk : 1 ≤ (takeDec (d :: r) 0 0).2.1 := by
    simp only [takeDec, hd0, ↓reduceIte]
    exact takeDec_count_le r _ _
  rcases strtodMag_dec F (d :: r) with h | h
  · rw [h]
    unfold strtodDec
    generalize takeDec (d :: r) 0 0 = t at hk
    obtain ⟨ip, ik, r1⟩ := t
    simp only at hk
    simp only []
    split <;> (simp only []; split <;> first | omega | exact ⟨_, rfl⟩)
  · exact h

theorem digit_or_dot_facts (c : UInt8) (h : isdigit c = true ∨ c = 46) :
    tolower c ≠ 120 ∧ tolower c ≠ 110 ∧ tolower c ≠ 105 ∧ isspace c = false ∧ c ≠ 45 ∧ c ≠ 43 := by
  revert h; revert c; apply UInt8.forall_of_fin; decide +kernel

theorem collectFloat_stop_dec (rest : Bytes) (gd : Bool)
    (h1 : isdigit (hd rest) = false) (h2 : tolower (hd rest) ≠ 101) :
    collectFloat rest ⟨gd, false, true, false, false⟩ = ([], rest) := by
  cases rest with
  | nil => rfl
  | cons c r =>
    simp only [hd_cons] at h1 h2
    simp [collectFloat, h1, h2]

theorem collectFloat_dec (ds fr rest : Bytes) (gd : Bool) (hds : ∀ c ∈ ds, isdigit c = true)
    (hfr : ∀ c ∈ fr, isdigit c = true)
    (h1 : isdigit (hd rest) = false) (h2 : tolower (hd rest) ≠ 101) :
    collectFloat (ds ++ 46 :: (fr ++ rest)) ⟨gd, false, false, false, false⟩ = (ds ++ 46 :: fr, rest) := by
  rw [collectFloat_digits ds _ hds]
  simp only [Bool.false_and]
  rw [collectFloat_dot, collectFloat_digits fr _ hfr]
  simp only [Bool.false_and]
  rw [collectFloat_stop_dec rest _ h1 h2]
  simp

/-- `%f` / `%lf` of sscanf on `[-]digits.digits`: everything is consumed and a value is delivered -/
theorem scanFloat_dec (F : FFmt) (neg : Bool) (d : UInt8) (ds fr rest : Bytes)
    (hd0 : isdigit d = true) (hds : ∀ c ∈ ds, isdigit c = true) (hfr : ∀ c ∈ fr, isdigit c = true)
    (h1 : isdigit (hd rest) = false) (h2 : tolower (hd rest) ≠ 101) :
    ∃ v, scanFloat F ((if neg then [45] else []) ++ d :: (ds ++ 46 :: (fr ++ rest))) = some (v, rest) := by
  obtain ⟨_, t110, t105, hsp, h45, h43⟩ := digit_or_dot_facts d (Or.inl hd0)
  have hnext : tolower (hd (ds ++ 46 :: (fr ++ rest))) ≠ 120 := by
    cases ds with
    | nil => simp; decide
    | cons c t => exact (digit_or_dot_facts c (Or.inl (hds c (by simp)))).1
  obtain ⟨v, hv⟩ := strtodMag_some F d (ds ++ 46 :: fr) hd0
  have hsp45 : isspace 45 = false := by decide
  have hall : ∀ c ∈ d :: ds, isdigit c = true := by
    intro c hc; simp at hc; rcases hc with rfl | hc; exact hd0; exact hds c hc
  have hcf1 := collectFloat_dec ds fr rest true hds hfr h1 h2
  have hcf2 := collectFloat_dec (d :: ds) fr rest false hall hfr h1 h2
  simp only [List.cons_append] at hcf2
  unfold scanFloat
  cases neg
  · simp only [Bool.false_eq_true, ↓reduceIte, List.nil_append, skipSpace, hsp]
    by_cases h48 : d = 48
    · subst h48
      refine ⟨v.1, ?_⟩
      simp [hnext, hcf1, hv, t110, t105]
    · refine ⟨v.1, ?_⟩
      simp [h48, h45, h43, t110, t105, hcf2, hv]
  · simp only [↓reduceIte, List.cons_append, List.nil_append, skipSpace, hsp45, Bool.false_eq_true]
    by_cases h48 : d = 48
    · subst h48
      refine ⟨F.signBit + v.1, ?_⟩
      simp [hnext, hcf1, hv, t110, t105]
    · refine ⟨F.signBit + v.1, ?_⟩
      simp [h48, t110, t105, hcf2, hv]

theorem fmtNat_shape (n : Nat) :
    ∃ d ds, fmtNat n = d :: ds ∧ isdigit d = true ∧ (∀ c ∈ ds, isdigit c = true) ∧ (d = 48 → ds = []) := by
  unfold fmtNat
  by_cases h : n = 0
  · subst h; exact ⟨48, [], by simp, by decide, by simp, fun _ => rfl⟩
  · simp only [h, ↓reduceIte]
    obtain ⟨d, ds, he, hd1, hd2⟩ := decDigits_head n (by omega)
    refine ⟨d, ds, he, hd1, ?_, fun h48 => absurd h48 hd2⟩
    intro c hc
    exact decDigits_all_digit n c (by rw [he]; simp [hc])

/-- the shape of `%#.Nf` output for a finite double: sign, integer part, ".", N digits -/
theorem fmtF_fin (p B : Nat) (hfin : f64.expField B ≠ 2047) :
    ∃ n fr, fmtF true p B = (if f64.sign B then [45] else []) ++ fmtNat n ++ 46 :: fr ∧
      (∀ c ∈ fr, isdigit c = true) ∧ fr.length = p := by
  have hmax : f64.expMax = 2047 := by decide
  have hbody : ∀ q : Nat, ∃ fr, (let ip := fmtNat (q / 10 ^ p)
      if p = 0 then (if true then ip ++ [46] else ip)
      else ip ++ 46 :: padZero p (if q % 10 ^ p = 0 then [] else decDigitsAux (q % 10 ^ p) [])) =
        fmtNat (q / 10 ^ p) ++ 46 :: fr ∧ (∀ c ∈ fr, isdigit c = true) ∧ fr.length = p := by
    intro q
    by_cases hp : p = 0
    · subst hp; exact ⟨[], by simp, by simp, rfl⟩
    · simp only [hp, ↓reduceIte]
      have hlt : q % 10 ^ p < 10 ^ p := Nat.mod_lt _ (Nat.pow_pos (by decide))
      by_cases h0 : q % 10 ^ p = 0
      · simp only [h0, ↓reduceIte]
        exact ⟨_, rfl, padZero_all _ _ _ (by decide) (by simp), padZero_length _ _ (by simp)⟩
      · simp only [h0, ↓reduceIte]
        exact ⟨_, rfl, padZero_all _ _ _ (by decide) (decDigits_all_digit _),
          padZero_length _ _ (decDigits_length p _ hlt)⟩
  unfold fmtF
  rcases classify_fin f64 B (by rw [hmax]; exact hfin) with ⟨_, hc⟩ | ⟨_, hc⟩
  · obtain ⟨fr, h1, h2, h3⟩ := hbody 0
    refine ⟨0 / 10 ^ p, fr, ?_, h2, h3⟩
    simp only [hc]
    simp only [] at h1
    rw [h1]; simp
  · obtain ⟨fr, h1, h2, h3⟩ := hbody (scaledRound (f64.sig B) (f64.exq B) p)
    refine ⟨scaledRound (f64.sig B) (f64.exq B) p / 10 ^ p, fr, ?_, h2, h3⟩
    simp only [hc]
    simp only [] at h1
    rw [h1]; simp

/-- "-0" with `%d` / `%i` -/
theorem scanInt_negzero (conv : IntConv) (hconv : conv ≠ .x) (r : Bytes)
    (h1 : isdigit (hd r) = false) (h2 : tolower (hd r) ≠ 120) :
    scanInt conv none (45 :: 48 :: r) = some (0, r) := by
  have h45sp : isspace 45 = false := by decide
  have hd8 : digitOk 8 (hd r) = false := by simp [digitOk, h1]
  unfold scanInt
  simp only [skipSpace, h45sp, Bool.false_eq_true, ↓reduceIte]
  cases conv with
  | x => exact absurd rfl hconv
  | d => simp [intPrefix10_zero r none rfl, wDec, takeDigits10_nondigit r h1, digitsVal, intValue, clampI64]
  | i => simp [intPrefix, wOk, wDec, h2, takeDigits_nondigit 8 r none hd8, digitsVal, intValue, clampI64]

theorem exists_of_map_snd {α β : Type} (o : Option (α × β)) (r : β) (h : o.map Prod.snd = some r) :
    ∃ v, o = some (v, r) := by
  cases o with
  | none => simp at h
  | some p => obtain ⟨a, b⟩ := p; simp at h; subst h; exact ⟨a, rfl⟩

theorem hexRest_hd (fr : Bytes) (eneg : Bool) (eds tail : Bytes) :
    hd (hexRest fr eneg eds ++ tail) = 46 ∨ hd (hexRest fr eneg eds ++ tail) = 112 := by
  unfold hexRest
  by_cases h : fr.isEmpty = true
  · right; simp [h]
  · left; simp [h]

theorem hexTxt_length (neg : Bool) (lead : UInt8) (fr : Bytes) (eneg : Bool) (eds : Bytes) :
    (hexTxt neg lead fr eneg eds).length = (if neg then 1 else 0) + 3 + (hexRest fr eneg eds).length ∧
    2 ≤ (hexRest fr eneg eds).length := by
  rw [hexTxt_eq]
  unfold hexRest
  cases neg <;> simp <;> omega

/-- `%i` on a hexadecimal float text reads `0x` and the leading digit -/
theorem scanInt_i_hexTxt (neg : Bool) (lead : UInt8) (fr : Bytes) (eneg : Bool) (eds tail : Bytes)
    (hlead : isdigit lead = true) :
    ∃ v, scanInt .i none (hexTxt neg lead fr eneg eds ++ tail) = some (v, hexRest fr eneg eds ++ tail) := by
  have h45sp : isspace 45 = false := by decide
  have h48sp : isspace 48 = false := by decide
  have ht120 : tolower 120 = 120 := by decide
  have hxl : isxdigit lead = true := by simp [isxdigit, hlead]
  have hnx : digitOk 16 (hd (hexRest fr eneg eds ++ tail)) = false := by
    rcases hexRest_hd fr eneg eds tail with h | h <;> rw [h] <;> decide
  have htd : takeDigits 16 (lead :: (hexRest fr eneg eds ++ tail)) none = ([lead], hexRest fr eneg eds ++ tail) := by
    simp [takeDigits, wOk, wDec, digitOk, hxl, takeDigits_nondigit 16 _ none hnx]
  rw [hexTxt_eq]
  unfold scanInt
  cases neg
  · simp only [Bool.false_eq_true, ↓reduceIte, List.nil_append, List.cons_append, skipSpace, h48sp]
    apply exists_of_map_snd
    simp [intPrefix, wOk, wDec, ht120, htd]
  · simp only [↓reduceIte, List.cons_append, List.nil_append, skipSpace, h45sp, Bool.false_eq_true]
    apply exists_of_map_snd
    simp [intPrefix, wOk, wDec, ht120, htd]

/-- `%d` on a hexadecimal float text reads the `0` -/
theorem scanInt_d_hexTxt (neg : Bool) (lead : UInt8) (fr : Bytes) (eneg : Bool) (eds tail : Bytes) :
    ∃ v, scanInt .d none (hexTxt neg lead fr eneg eds ++ tail) =
      some (v, 120 :: lead :: (hexRest fr eneg eds ++ tail)) := by
  have h45sp : isspace 45 = false := by decide
  have h48sp : isspace 48 = false := by decide
  have hnx : digitOk 10 (hd (120 :: lead :: (hexRest fr eneg eds ++ tail))) = false := by
    rw [hd_cons]; decide
  rw [hexTxt_eq]
  unfold scanInt
  cases neg
  · simp only [Bool.false_eq_true, ↓reduceIte, List.nil_append, List.cons_append, skipSpace, h48sp]
    apply exists_of_map_snd
    simp [intPrefix10_zero _ none rfl, wDec, takeDigits_nondigit 10 _ none hnx]
  · simp only [↓reduceIte, List.cons_append, List.nil_append, skipSpace, h45sp, Bool.false_eq_true]
    apply exists_of_map_snd
    simp [intPrefix10_zero _ none rfl, wDec, takeDigits_nondigit 10 _ none hnx]

end Rtosc.Libc
