/-
  C09 helper lemmas: the name buffer.  `Holds N X b`: the block `b` has `N` bytes and begins with
  `X`; what is behind `X` is junk nobody looks at.  Every primitive of Walk/Buf.lean, applied at
  offset `X.length`, is specified by what the block holds afterwards; `N` never changes, so room is
  always `X.length + … ≤ N`.
-/
import RtoscModel.Walk.Buf
import RtoscModel.Match.Spec
namespace Rtosc.Walk
open Rtosc Rtosc.Match

theorem rd_at (X Y : Buf) (d : UInt8) : rd (X ++ d :: Y) X.length = .ok d := by
  simp [rd]

theorem wr_at (X Y : Buf) (c d : UInt8) : wr (X ++ d :: Y) X.length c = .ok (X ++ c :: Y) := by
  simp [wr]

/-- what stands behind the literal part of a port name: nothing, or the type part `:…` -/
def TypeTail (tl : Bytes) : Prop := tl = [] ∨ ∃ r, tl = 58 :: r

/-- `while(*src && *src != ':') *dst++ = *src++` on `s ++ tl` where `s` has no ':': exactly `s` is
    stored -/
theorem copyName_eq_writeBytes : ∀ (s tl : Bytes) (b : Buf) (pos : Nat), (∀ c ∈ s, c ≠ 58) →
    TypeTail tl →
    copyName (s ++ tl) b pos = (writeBytes s b pos).map fun b' => (b', pos + s.length)
  | [], tl, b, pos, _, htl => by
    rcases htl with rfl | ⟨r, rfl⟩ <;> simp [copyName, writeBytes, Except.map]
  | c :: r, tl, b, pos, hs, htl => by
    have hc : c ≠ 58 := hs c List.mem_cons_self
    simp only [List.cons_append, copyName, hc, ↓reduceIte, writeBytes]
    cases wr b pos c with
    | error e => rfl
    | ok b' =>
      simp only [copyName_eq_writeBytes r tl b' (pos + 1) (fun x hx => hs x (List.mem_cons_of_mem _ hx)) htl,
        List.length_cons, Nat.add_assoc, Nat.add_comm 1]

theorem strlenGo_nulfree (s J : Buf) (hs : NulFree s) : strlenGo (s ++ 0 :: J) = .ok s.length := by
  induction s with
  | nil => simp [strlenGo]
  | cons c r ih =>
    have hc : c ≠ 0 := hs c List.mem_cons_self
    simp only [List.cons_append, strlenGo, hc, ↓reduceIte, ih (fun x hx => hs x (List.mem_cons_of_mem _ hx))]
    rfl

theorem cstrGo_nulfree (s J : Buf) (hs : NulFree s) : cstrGo (s ++ 0 :: J) = .ok s := by
  induction s with
  | nil => simp [cstrGo]
  | cons c r ih =>
    have hc : c ≠ 0 := hs c List.mem_cons_self
    simp only [List.cons_append, cstrGo, hc, ↓reduceIte, ih (fun x hx => hs x (List.mem_cons_of_mem _ hx))]
    rfl

theorem cstrAt_zero (s J : Buf) (hs : NulFree s) : cstrAt (s ++ 0 :: J) 0 = .ok s := by
  simp [cstrAt, cstrGo_nulfree s J hs]

theorem eraseGo_spec : ∀ (s : Buf) (f : Nat) (X J : Buf), NulFree s → s.length < f →
    eraseGo f (X ++ s ++ 0 :: J) X.length = .ok (X ++ List.replicate s.length 0 ++ 0 :: J) := by
  intro s
  induction s with
  | nil =>
    intro f X J _ hf
    cases f with
    | zero => simp at hf
    | succ f => simp [eraseGo, rd_at]
  | cons c r ih =>
    intro f X J hs hf
    cases f with
    | zero => simp at hf
    | succ f =>
      have hc : c ≠ 0 := hs c List.mem_cons_self
      simp only [List.length_cons, Nat.add_lt_add_iff_right] at hf
      have e1 : X ++ c :: r ++ 0 :: J = X ++ c :: (r ++ 0 :: J) := by simp
      have e2 : X ++ (0 : UInt8) :: (r ++ 0 :: J) = (X ++ [0]) ++ r ++ 0 :: J := by simp
      have hl : (X ++ [(0 : UInt8)]).length = X.length + 1 := by simp
      rw [eraseGo, e1, rd_at]
      simp only [hc, ↓reduceIte, wr_at]
      rw [e2, ← hl, ih f (X ++ [0]) J (fun x hx => hs x (List.mem_cons_of_mem _ hx)) hf]
      simp [List.replicate_succ]

def Holds (N : Nat) (X : Bytes) (b : Buf) : Prop := b.length = N ∧ X <+: b

namespace Holds
variable {N : Nat} {X Y : Bytes} {b : Buf}

theorem split (h : Holds N X b) : ∃ J, b = X ++ J ∧ X.length + J.length = N := by
  obtain ⟨hl, J, rfl⟩ := h
  exact ⟨J, rfl, by rw [← hl, List.length_append]⟩

theorem mono (h : Holds N (X ++ Y) b) : Holds N X b := ⟨h.1, (List.prefix_append X Y).trans h.2⟩

/- The offset is a variable `p` with `p = X.length`, so that a caller whose offset is written
   `X.length + s.length` and whose prefix is `X ++ s` discharges it by `simp`. -/
theorem wr (h : Holds N X b) (c : UInt8) {p : Nat} (hp : p = X.length) (hr : X.length < N) :
    ∃ b', Walk.wr b p c = .ok b' ∧ Holds N (X ++ [c]) b' := by
  obtain ⟨J, rfl, hl⟩ := h.split
  subst hp
  cases J with
  | nil => simp at hl; omega
  | cons d J =>
    refine ⟨_, wr_at X J c d, ?_, ?_⟩
    · simp only [List.length_append, List.length_cons] at hl ⊢; exact hl
    · exact ⟨J, by simp⟩

theorem rd {d : UInt8} (h : Holds N (X ++ [d]) b) {p : Nat} (hp : p = X.length) : Walk.rd b p = .ok d := by
  obtain ⟨J, rfl, _⟩ := h.split
  rw [hp, List.append_assoc]
  exact rd_at X J d

theorem writeBytes (h : Holds N X b) (s : Bytes) {p : Nat} (hp : p = X.length) (hr : X.length + s.length ≤ N) :
    ∃ b', Walk.writeBytes s b p = .ok b' ∧ Holds N (X ++ s) b' := by
  induction s generalizing X b p with
  | nil => exact ⟨b, rfl, by rwa [List.append_nil]⟩
  | cons c r ih =>
    rw [List.length_cons] at hr
    obtain ⟨b1, h1, H1⟩ := h.wr c hp (by omega)
    obtain ⟨b2, h2, H2⟩ := ih H1 (p := p + 1) (by simp [hp]) (by simp; omega)
    exact ⟨b2, by rw [Walk.writeBytes, h1]; exact h2, by simpa using H2⟩

theorem copyName (h : Holds N X b) (s tl : Bytes) {p : Nat} (hp : p = X.length) (hs : ∀ c ∈ s, c ≠ 58)
    (htl : TypeTail tl) (hr : X.length + s.length ≤ N) :
    ∃ b', Walk.copyName (s ++ tl) b p = .ok (b', p + s.length) ∧ Holds N (X ++ s) b' := by
  obtain ⟨b', h1, H1⟩ := h.writeBytes s hp hr
  exact ⟨b', by rw [copyName_eq_writeBytes s tl _ _ hs htl, h1]; rfl, H1⟩

theorem snprintf (h : Holds N X b) (s : Bytes) (size : Nat) {p : Nat} (hp : p = X.length) (hsz : s.length < size)
    (hr : X.length + s.length < N) :
    ∃ b', snprintfAt b p size s = .ok (b', s.length) ∧ Holds N (X ++ s ++ [0]) b' := by
  obtain ⟨b1, h1, H1⟩ := h.writeBytes s hp (by omega)
  obtain ⟨b2, h2, H2⟩ := H1.wr 0 (p := p + s.length) (by simp [hp]) (by simp; omega)
  refine ⟨b2, ?_, H2⟩
  have hsz0 : size ≠ 0 := by omega
  simp only [snprintfAt, hsz0, ↓reduceIte, List.take_of_length_le (show s.length ≤ size - 1 by omega), h1, h2]

theorem strlen (h : Holds N (X ++ [0]) b) (hX : NulFree X) : strlenAt b 0 = .ok X.length := by
  obtain ⟨J, rfl, _⟩ := h.split
  simp [strlenAt, strlenGo_nulfree X J hX]

theorem cstr (h : Holds N (X ++ [0]) b) (hX : NulFree X) : cstrAt b 0 = .ok X := by
  obtain ⟨J, rfl, _⟩ := h.split
  rw [List.append_assoc]
  exact cstrAt_zero X _ hX

theorem cstrMid {s : Bytes} (h : Holds N (X ++ s ++ [0]) b) (hs : NulFree s) {p : Nat} (hp : p = X.length) :
    cstrAt b p = .ok s := by
  obtain ⟨J, rfl, _⟩ := h.split
  simp [hp, cstrAt, cstrGo_nulfree s J hs]

/-- `scat(name_buffer, name)`: the literal part of the name is appended -/
theorem scat (h : Holds N (X ++ [0]) b) (hX : NulFree X) (s tl : Bytes) (hs : ∀ c ∈ s, c ≠ 58)
    (htl : TypeTail tl) (hr : X.length + s.length < N) :
    ∃ b', Walk.scat b (s ++ tl) = .ok b' ∧ Holds N (X ++ s ++ [0]) b' := by
  obtain ⟨b1, h1, H1⟩ := h.mono.copyName s tl rfl hs htl (by omega)
  obtain ⟨b2, h2, H2⟩ := H1.wr 0 (p := X.length + s.length) (by simp) (by simp; omega)
  exact ⟨b2, by simp only [Walk.scat, h.strlen hX, bind, Except.bind, h1, h2], H2⟩

/-- "remove the rest of the path": the block holds the prefix again -/
theorem erase {s : Bytes} (h : Holds N (X ++ s ++ [0]) b) (hs : NulFree s) :
    ∃ b', Walk.erase b X.length = .ok b' ∧ Holds N (X ++ [0]) b' := by
  obtain ⟨J, rfl, hl⟩ := h.split
  have e : X ++ s ++ [0] ++ J = X ++ s ++ 0 :: J := by simp
  rw [e]
  refine ⟨_, by rw [Walk.erase]; exact eraseGo_spec s _ X J hs (by simp; omega), ?_, ?_⟩
  · simp only [List.length_append, List.length_cons, List.length_nil, List.length_replicate] at hl ⊢
    omega
  · cases s.length with
    | zero => exact ⟨J, by simp⟩
    | succ n => exact ⟨List.replicate n 0 ++ 0 :: J, by simp [List.replicate_succ]⟩

/-- the block a run of `walk_ports` starts with … -/
theorem start (pre : Bytes) (J : Buf) : Holds (pre ++ 0 :: J).length (pre ++ [0]) (pre ++ 0 :: J) :=
  ⟨rfl, J, by simp⟩

/-- … and what `Holds` says of the block at its end: the text, a terminator, junk of the size left -/
theorem cutAt {pre s : Bytes} {J b' : Buf} (h : Holds (pre ++ 0 :: J).length (pre ++ s ++ [0]) b') :
    ∃ J', b' = pre ++ s ++ 0 :: J' ∧ s.length + J'.length = J.length := by
  obtain ⟨J', rfl, hl⟩ := h.split
  refine ⟨J', by simp, ?_⟩
  simp only [List.length_append, List.length_cons, List.length_nil] at hl
  omega

theorem cut {pre : Bytes} {J b' : Buf} (h : Holds (pre ++ 0 :: J).length (pre ++ [0]) b') :
    ∃ J', b' = pre ++ 0 :: J' ∧ J'.length = J.length := by
  obtain ⟨J', e, l⟩ := cutAt (s := []) (by rwa [List.append_nil])
  exact ⟨J', by simpa using e, by simpa using l⟩

theorem restored {pre : Bytes} (h : Holds N (pre ++ [0]) b) (hpre : NulFree pre) :
    cstrAt b 0 = .ok pre ∧ b.length = N := ⟨h.cstr hpre, h.1⟩

end Holds

end Rtosc.Walk
