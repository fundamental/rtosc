/-
  C09 helper lemmas: the pieces of the walk that do not depend on what the runtime object answers.
  Throughout, the buffer is a block of `N` bytes that holds the table's address and a terminator
  (`Holds N (pre ++ [0]) b`, Proofs/WalkBuf.lean).
-/
import RtoscModel.Proofs.WalkLeaf
namespace Rtosc.Walk
open Rtosc Rtosc.Path Rtosc.Match

theorem report_holds {N : Nat} {s : Bytes} {b : Buf} (ix : List Nat) (h : Holds N (s ++ [0]) b) (hs : NulFree s) :
    report ix b = .ok (ix, s) := by
  simp [report, h.cstr hs]

/-- the loop of `bundle_foreach` (expand_bundles, no ranges): one call per index; the block keeps
    its front part `P` -/
theorem bfLoop_spec {N : Nat} (ix : List Nat) (R tl P : Bytes) (max : Nat) (hP : NulFree P)
    (hR : ∀ c ∈ R, c ≠ 0 ∧ c ≠ 58) (htl : TypeTail tl) :
    ∀ (n i p2 : Nat) (b : Buf), i + n ≤ 2 ^ 31 → Holds N P b →
      (∀ j, i ≤ j → j < i + n → P.length + (natDigits j).length + R.length < N) →
      ∃ b' p2', bfLoop {} ix (R ++ tl) max P.length n i p2 b =
          .ok ((List.range' i n).map (fun j => (ix, P ++ natDigits j ++ R)), b', p2') ∧ Holds N P b' := by
  intro n
  induction n with
  | zero => intro i p2 b _ H _; exact ⟨b, p2, rfl, H⟩
  | succ n ih =>
    intro i p2 b hi H hcap
    have hilt : i < 2 ^ 31 := by omega
    have hc := hcap i (Nat.le_refl _) (by omega)
    have hdl := natDigits_length i hilt
    -- the index, the rest of the name, the terminator
    obtain ⟨b1, h1, H1⟩ := H.snprintf (natDigits i) 16 rfl (by omega) (by omega)
    obtain ⟨b2, h2, H2⟩ := H1.mono.copyName R tl (p := P.length + (natDigits i).length) (by simp only [List.length_append])
      (fun c hc => (hR c hc).2) htl (by simp; omega)
    obtain ⟨b3, h3, H3⟩ := H2.wr 0 (p := P.length + (natDigits i).length + R.length) (by simp only [List.length_append]) (by simp; omega)
    have hfull : NulFree (P ++ natDigits i ++ R) :=
      NulFree.append (NulFree.append hP (natDigits_nulfree i)) (fun c hc => (hR c hc).1)
    obtain ⟨b', p2', h4, H4⟩ := ih (i + 1) (P.length + (natDigits i).length + R.length) b3 (by omega)
      H3.mono.mono.mono (fun j hj1 hj2 => hcap j (by omega) (by omega))
    refine ⟨b', p2', ?_, H4⟩
    simp only [bfLoop, Bool.false_eq_true, ↓reduceIte, fmtD_small i hilt, bind, Except.bind, h1, pure,
      Except.pure, h2, h3, report_holds ix H3 hfull, h4, List.range'_succ, List.map_cons]

/-- `bundle_foreach` on a name `head #N R tl` (`tl` the type part): one call per index with the
    address `pre head i R`; afterwards the block is cut at `pre` again -/
theorem bundleForeach_spec {N : Nat} (ix : List Nat) (head ds R tl pre : Bytes) (b : Buf)
    (hhead : ∀ c ∈ head, c ≠ 0 ∧ c ≠ 35) (hnum : numOk ds = true) (hR : ∀ c ∈ R, c ≠ 0 ∧ c ≠ 58)
    (hsd : startsWithDigit (R ++ tl) = false) (htl : TypeTail tl) (hpre : NulFree pre)
    (H : Holds N (pre ++ [0]) b) (hroom : pre.length + head.length < N)
    (hcap : ∀ j, j < decVal ds → pre.length + head.length + (natDigits j).length + R.length < N) :
    ∃ b', bundleForeach {} ix (head ++ 35 :: (ds ++ (R ++ tl))) pre.length b =
        .ok ((List.range (decVal ds)).map fun j => (ix, pre ++ head ++ natDigits j ++ R), b') ∧
      Holds N (pre ++ [0]) b' := by
  obtain ⟨hdsne, hdsd, hdslt⟩ := numOk_spec hnum
  obtain ⟨b1, h1, H1⟩ := H.mono.bfCopyToHash head (ds ++ (R ++ tl)) rfl (fun c hc => (hhead c hc).2) (by omega)
  obtain ⟨b2, p2', h2, H2⟩ := bfLoop_spec ix R tl (pre ++ head) (decVal ds)
    (NulFree.append hpre fun c hc => (hhead c hc).1) hR htl (decVal ds) 0 (pre ++ head).length b1
    (by omega) H1 (fun j _ hj => by have := hcap j (by omega); simp only [List.length_append]; omega)
  -- the final cut at old_end
  obtain ⟨b3, h3, H3⟩ := H2.mono.wr 0 rfl (by omega)
  refine ⟨b3, ?_, H3⟩
  simp only [bundleForeach, bind, Except.bind, h1, List.drop_succ_cons, List.drop_zero,
    atoiC_num ds _ hdsne hdsd hdslt hsd, dropWhile_digits_append ds _ hdsd hsd, Bool.not_false, Bool.and_self,
    ↓reduceIte, ← List.length_append, h2, h3, pure, Except.pure, List.range_eq_range']

theorem contains_hash_false (s : Bytes) (h : ∀ c ∈ s, c ≠ 35) : s.contains 35 = false := by
  cases hc : s.contains 35
  · rfl
  · exact absurd rfl (h 35 (List.contains_iff_mem.mp hc))

/-- a leaf port: one walker call per element of `expandFirst`; afterwards the block holds the
    prefix followed by some NUL-free text -/
theorem walkPort_leaf {N : Nat} (base : List PortT) (path : List Nat) (rt : Option Obj) (i : Nat) (w : WName)
    (md : Option Bytes) (pre : Bytes) (b : Buf) (hw : w.ok = true) (hpre : NulFree pre)
    (H : Holds N (pre ++ [0]) b) (hcap : pre.length + (STree.leaf w md).need < N) :
    ∃ s b', NulFree s ∧
      walkPort {} base path rt pre.length i (STree.leaf w md).toPort b =
        .ok (codeTree pre (path ++ [i]) (.leaf w md), b') ∧ Holds N (pre ++ s ++ [0]) b' := by
  obtain ⟨hhead, hparts, htypes⟩ := WName.ok_spec hw
  have htl : TypeTail (renderTypes w.types) := renderTypes_head _
  simp only [STree.need] at hcap
  cases hp : w.parts with
  | nil =>
    -- plain name: scat
    have hlit : ∀ c ∈ w.head ++ slashIf w.slash, c ≠ 58 := by
      intro c hc
      rcases List.mem_append.mp hc with h | h
      · exact (textOk_ne hhead c h).2.2
      · rw [mem_slashIf h]; decide
    have hnul : NulFree (w.head ++ slashIf w.slash) := NulFree.append (textOk_nulfree hhead) (nulFree_slashIf _)
    have hno : (w.head ++ slashIf w.slash ++ renderTypes w.types).contains 35 = false := by
      apply contains_hash_false
      intro c hc
      rcases List.mem_append.mp hc with h | h
      · rcases List.mem_append.mp h with h | h
        · exact (textOk_ne hhead c h).2.1
        · rw [mem_slashIf h]; decide
      · exact renderTypes_no_hash htypes c h
    obtain ⟨b1, h1, H1⟩ := H.scat hpre (w.head ++ slashIf w.slash) (renderTypes w.types) hlit htl
      (by simp only [hp, expandFirst, maxLen, List.length_nil] at hcap; simp only [List.length_append]; omega)
    refine ⟨w.head ++ slashIf w.slash, b1, hnul, ?_, H1⟩
    simp only [STree.toPort, walkPort, Bool.false_eq_true, ↓reduceIte, WName.render, WName.body, hp,
      renderParts, List.append_nil, hno, h1, report_holds _ H1 (NulFree.append hpre hnul)]
    simp [codeTree, hp, expandFirst]
  | cons p r =>
    obtain ⟨ds, t⟩ := p
    rw [hp] at hparts hcap
    obtain ⟨hnum, htext, htd, _, hrest⟩ := partsOk_cons hparts
    have hR : ∀ c ∈ t ++ renderParts r ++ slashIf w.slash, c ≠ 0 ∧ c ≠ 58 := by
      intro c hc
      rcases List.mem_append.mp hc with h | h
      · rcases List.mem_append.mp h with h | h
        · have := textOk_ne htext c h; exact ⟨this.1, this.2.2⟩
        · exact renderParts_ne r hrest c h
      · rw [mem_slashIf h]; decide
    have hsd : startsWithDigit (t ++ renderParts r ++ slashIf w.slash ++ renderTypes w.types) = false :=
      startsWithDigit_append _ _ (startsWithDigit_append _ _ (startsWithDigit_append _ _ htd
        (startsWithDigit_renderParts r)) (startsWithDigit_slashIf _)) (startsWithDigit_types _)
    have hname : w.render = w.head ++ 35 :: (ds ++ (t ++ renderParts r ++ slashIf w.slash ++ renderTypes w.types)) := by
      simp [WName.render, WName.body, hp, renderParts]
    obtain ⟨b', h1, H1⟩ := bundleForeach_spec (path ++ [i]) w.head ds (t ++ renderParts r ++ slashIf w.slash)
      (renderTypes w.types) pre b (fun c hc => ⟨(textOk_ne hhead c hc).1, (textOk_ne hhead c hc).2.1⟩) hnum hR hsd
      htl hpre H (by omega) (by
        intro j hj
        have hm : natDigits j ++ t ++ renderParts r ∈ expandFirst ((ds, t) :: r) :=
          List.mem_map.mpr ⟨j, List.mem_range.mpr hj, rfl⟩
        have := mem_maxLen hm
        simp only [List.length_append] at this ⊢
        omega)
    refine ⟨[], b', nulFree_nil, ?_, by rwa [List.append_nil]⟩
    have hhash : w.render.contains 35 = true := by rw [hname]; simp
    simp only [STree.toPort, walkPort, Bool.false_eq_true, ↓reduceIte, hhash]
    rw [hname, h1]
    simp only [codeTree, hp, expandFirst, List.map_map, List.append_assoc, Function.comp_def]

theorem nextHash_none (rh : Bytes) (h : ∀ c ∈ rh, c ≠ 35) : nextHash rh = none := by
  cases rh with
  | nil => rfl
  | cons c r => simp [nextHash, findHash_none r (fun x hx => h x (List.mem_cons_of_mem _ hx))]

theorem nextHash_text (text x : Bytes) (hne : text ≠ []) (h : ∀ c ∈ text, c ≠ 35) :
    nextHash (text ++ 35 :: x) = some text.length := by
  cases text with
  | nil => exact absurd rfl hne
  | cons c r =>
    simp [nextHash, findHash_append r x (fun y hy => h y (List.mem_cons_of_mem _ hy))]

theorem expandParts_ne_nil (ps : List (Bytes × Bytes)) (h : (ps.all fun p => decide (1 ≤ decVal p.1)) = true) :
    expandParts ps ≠ [] := by
  induction ps with
  | nil => simp [expandParts]
  | cons p r ih =>
    obtain ⟨ds, t⟩ := p
    simp only [List.all_cons, Bool.and_eq_true, decide_eq_true_eq] at h
    have hr := ih h.2
    obtain ⟨a, ha⟩ := List.exists_mem_of_ne_nil _ hr
    intro he
    have : natDigits 0 ++ t ++ a ∈ expandParts ((ds, t) :: r) :=
      mem_expandParts_cons.mpr ⟨0, by omega, a, ha, rfl⟩
    rw [he] at this
    simp at this

theorem loopN_spec {N : Nat} (body : Nat → Buf → M (List Call × Buf)) (P1 : Bytes) (out : Nat → List Call) (m : Nat)
    (hbody : ∀ i b, i < m → Holds N P1 b →
      ∃ s b', NulFree s ∧ body i b = .ok (out i, b') ∧ Holds N (P1 ++ s ++ [0]) b') :
    ∀ (n i : Nat) (b : Buf), i + n ≤ m → 1 ≤ n → Holds N P1 b →
      ∃ s b', NulFree s ∧ loopN body n i b = .ok ((List.range' i n).flatMap out, b') ∧ Holds N (P1 ++ s ++ [0]) b' := by
  intro n
  induction n with
  | zero => intro i b _ h; omega
  | succ n ih =>
    intro i b hi _ H
    obtain ⟨s, b1, hs, h1, H1⟩ := hbody i b (by omega) H
    rcases Nat.eq_zero_or_pos n with rfl | hn
    · exact ⟨s, b1, hs, by simp [loopN, bind, Except.bind, h1, pure, Except.pure], H1⟩
    · obtain ⟨s2, b2, hs2, h2, H2⟩ := ih (i + 1) b1 (by omega) hn H1.mono.mono
      exact ⟨s2, b2, hs2, by simp only [loopN, bind, Except.bind, h1, h2, pure, Except.pure, List.range'_succ,
        List.flatMap_cons], H2⟩

theorem startsWithDigit_slash (x : Bytes) : startsWithDigit (47 :: x) = false := by
  simp [startsWithDigit]; decide

/-- `walk_ports_recurse0` on the last piece of a sub-tree name: the text and the trailing '/' are
    copied, a terminator is set and `walk_ports_recurse` is called -/
theorem recurse0_last {N : Nat} (k : Buf → M (List Call × Buf)) (o : Opts) (f : Nat) (text T P : Bytes) (b : Buf)
    (htext : textOk text = true) (hT : TypeTail T) (hT35 : ∀ c ∈ T, c ≠ 35)
    (H : Holds N P b) (hroom : P.length + text.length + 2 ≤ N) :
    ∃ b', recurse0 k o (f + 1) (text ++ 47 :: T) P.length b = k b' ∧ Holds N (P ++ text ++ [47] ++ [0]) b' := by
  have hh : nextHash ((text ++ [47]) ++ T) = none := by
    apply nextHash_none
    intro c hc
    simp only [List.mem_append, List.mem_singleton] at hc
    rcases hc with (h | rfl) | h
    · exact (textOk_ne htext c h).2.1
    · decide
    · exact hT35 c h
  have hs58 : ∀ c ∈ text ++ [47], c ≠ 58 := by
    intro c hc
    rcases List.mem_append.mp hc with h | h
    · exact (textOk_ne htext c h).2.2
    · simp only [List.mem_singleton] at h; subst h; decide
  have hkk : T.length = 0 ∨ ∃ r, T = 58 :: r := hT.imp (fun h => by rw [h]; rfl) id
  obtain ⟨b1, h1, H1⟩ := H.copyN (text ++ [47]) T T.length rfl hs58 hkk (by simp; omega)
  rw [← List.append_assoc] at H1
  obtain ⟨b2, h2, H2⟩ := H1.wr 0 (p := P.length + (text ++ [47]).length) (by simp) (by simp; omega)
  refine ⟨b2, ?_, H2⟩
  have erh : text ++ 47 :: T = (text ++ [47]) ++ T := (List.append_assoc text [47] T).symm
  have hrd : rd b1 (P.length + (text ++ [47]).length - 1) = .ok 47 := H1.rd (by simp)
  have hwh : P.length + (text ++ [47]).length ≠ 0 := by simp
  rw [erh, recurse0, hh, Option.getD_none, List.length_append (as := text ++ [47]), h1]
  simp only [hwh, ↓reduceIte, hrd, ne_eq, not_true_eq_false, h2]

/-- one turn of the index loop of `walk_ports_recurse0`: the index is printed at `wh`, the rest
    of the name is walked behind it -/
def indexStep (k : Buf → M (List Call × Buf)) (f : Nat) (rest : Bytes) (wh i : Nat) (bb : Buf) :
    M (List Call × Buf) :=
  match snprintfAt bb wh 32 (fmtD i) with
  | .error e => .error e
  | .ok (b2, n) => recurse0 k {} f rest (wh + n) b2

/-- … on a piece `text #N rest`: the text is copied and `rest` is walked once per index -/
theorem recurse0_hash {N : Nat} (k : Buf → M (List Call × Buf)) (f : Nat) (text ds rest P : Bytes) (b : Buf)
    (htext : textOk text = true) (hne : text ≠ []) (hnum : numOk ds = true)
    (hrest : startsWithDigit rest = false) (H : Holds N P b) (hroom : P.length + text.length ≤ N) :
    ∃ b', recurse0 k {} (f + 1) (text ++ 35 :: (ds ++ rest)) P.length b =
        loopN (indexStep k f rest (P.length + text.length)) (decVal ds) 0 b' ∧ Holds N (P ++ text) b' := by
  obtain ⟨hdsne, hdsd, hdslt⟩ := numOk_spec hnum
  have hh : nextHash (text ++ 35 :: (ds ++ rest)) = some text.length :=
    nextHash_text text _ hne (fun c hc => (textOk_ne htext c hc).2.1)
  obtain ⟨b1, h1, H1⟩ := H.copyN text (35 :: (ds ++ rest)) 0 rfl (fun c hc => (textOk_ne htext c hc).2.2)
    (Or.inl rfl) hroom
  refine ⟨b1, ?_, H1⟩
  rw [recurse0, hh, Option.getD_some, ← Nat.add_zero text.length, h1]
  simp only [Nat.add_zero, Bool.false_eq_true, ↓reduceIte, atoiC_num ds rest hdsne hdsd hdslt hrest,
    dropWhile_digits_append ds rest hdsd hrest]
  rfl

/-- … and one turn of that loop: the index and a terminator are printed behind `P` -/
theorem indexStep_eq {N : Nat} (k : Buf → M (List Call × Buf)) (f : Nat) (rest P : Bytes) (b : Buf) (i : Nat)
    (hi : i < 2 ^ 31) (H : Holds N P b) (hroom : P.length + (natDigits i).length < N) :
    ∃ b', indexStep k f rest P.length i b = recurse0 k {} f rest (P ++ natDigits i).length b' ∧
      Holds N (P ++ natDigits i ++ [0]) b' := by
  have hdl := natDigits_length i hi
  obtain ⟨b', h, H'⟩ := H.snprintf (natDigits i) 32 rfl (by omega) hroom
  exact ⟨b', by rw [indexStep, fmtD_small i hi, h, List.length_append], H'⟩

/-- `walk_ports_recurse0` on `text #N1 text1 … #Nk textk / T`: `walk_ports_recurse` (`k`) is called
    once per expansion, with the block holding `P`, the text, the expansion and '/'; if each of
    these calls leaves that address in the block, the whole leaves `P` in front -/
theorem recurse0_spec {N : Nat} (k : Buf → M (List Call × Buf)) (T : Bytes)
    (hT : TypeTail T) (hT35 : ∀ c ∈ T, c ≠ 35) :
    ∀ (parts : List (Bytes × Bytes)) (calls : Bytes → List Call) (text P : Bytes) (b : Buf) (f : Nat),
      partsOk parts = true → (parts.all fun p => decide (1 ≤ decVal p.1)) = true →
      textOk text = true → (text ≠ [] ∨ parts = []) → parts.length < f → Holds N P b →
      (∀ a ∈ expandParts parts, P.length + text.length + a.length + 2 ≤ N) →
      (∀ a ∈ expandParts parts, ∀ b, Holds N (P ++ text ++ a ++ [47] ++ [0]) b →
        ∃ b', k b = .ok (calls a, b') ∧ Holds N (P ++ text ++ a ++ [47] ++ [0]) b') →
      ∃ s b', NulFree s ∧
        recurse0 k {} f (text ++ renderParts parts ++ 47 :: T) P.length b =
          .ok ((expandParts parts).flatMap calls, b') ∧ Holds N (P ++ s ++ [0]) b' := by
  intro parts
  induction parts with
  | nil =>
    intro calls text P b f _ _ htext _ hf H hcap hk
    obtain ⟨f, rfl⟩ : ∃ g, f = g + 1 := ⟨f - 1, by omega⟩
    obtain ⟨b2, h2, H2⟩ := recurse0_last k {} f text T P b htext hT hT35 H (hcap [] List.mem_cons_self)
    obtain ⟨b3, h3, H3⟩ := hk [] List.mem_cons_self b2 (by rwa [List.append_nil])
    refine ⟨text ++ [47], b3, NulFree.append (textOk_nulfree htext) nulFree_slash, ?_, ?_⟩
    · rw [renderParts, List.append_nil, h2, h3, expandParts, List.flatMap_singleton]
    · simpa [List.append_assoc] using H3
  | cons p r ih =>
    obtain ⟨ds, t⟩ := p
    intro calls text P b f hparts hpos htext htne hf H hcap hk
    obtain ⟨f, rfl⟩ : ∃ g, f = g + 1 := ⟨f - 1, by omega⟩
    obtain ⟨hnum, httext, htd, htr, hrest⟩ := partsOk_cons hparts
    simp only [List.all_cons, Bool.and_eq_true, decide_eq_true_eq] at hpos
    have htextne : text ≠ [] := htne.resolve_right (List.cons_ne_nil _ _)
    have hsd : startsWithDigit (t ++ renderParts r ++ 47 :: T) = false :=
      startsWithDigit_append _ _ (startsWithDigit_append _ _ htd (startsWithDigit_renderParts r))
        (startsWithDigit_slash T)
    have hmem : ∀ i, i < decVal ds → ∀ a' ∈ expandParts r, natDigits i ++ t ++ a' ∈ expandParts ((ds, t) :: r) :=
      fun i hi a' ha' => mem_expandParts_cons.mpr ⟨i, hi, a', ha', rfl⟩
    obtain ⟨a1, ha1⟩ := List.exists_mem_of_ne_nil _ (expandParts_ne_nil r hpos.2)
    have hcap0 := hcap _ (hmem 0 hpos.1 a1 ha1)
    obtain ⟨b1, h1, H1⟩ := recurse0_hash k f text ds (t ++ renderParts r ++ 47 :: T) P b htext htextne hnum hsd H
      (by omega)
    -- one turn of the loop: the index is printed behind the text, the rest of the name follows
    have hbody : ∀ i b, i < decVal ds → Holds N (P ++ text) b →
        ∃ s b', NulFree s ∧
          indexStep k f (t ++ renderParts r ++ 47 :: T) (P.length + text.length) i b =
            .ok ((expandParts r).flatMap fun a' => calls (natDigits i ++ t ++ a'), b') ∧
          Holds N ((P ++ text) ++ s ++ [0]) b' := by
      intro i b hi Hb
      have hc1 := hcap _ (hmem i hi a1 ha1)
      simp only [List.length_append] at hc1
      obtain ⟨b2, h2, H2⟩ := indexStep_eq k f (t ++ renderParts r ++ 47 :: T) (P ++ text) b i
        (Nat.lt_trans hi (numOk_spec hnum).2.2) Hb (by simp; omega)
      obtain ⟨s, b3, hs, h3, H3⟩ := ih (fun a' => calls (natDigits i ++ t ++ a')) t ((P ++ text) ++ natDigits i)
        b2 f hrest hpos.2 httext htr
        (Nat.lt_of_succ_lt_succ hf) H2.mono
        (fun a' ha' => by
          have := hcap _ (hmem i hi a' ha')
          simp only [List.length_append] at this ⊢
          omega)
        (fun a' ha' b' Hb' => by
          have eq : (P ++ text) ++ natDigits i ++ t ++ a' ++ [47] = P ++ text ++ (natDigits i ++ t ++ a') ++ [47] := by
            simp only [List.append_assoc]
          rw [eq] at Hb' ⊢
          exact hk _ (hmem i hi a' ha') b' Hb')
      refine ⟨natDigits i ++ s, b3, NulFree.append (natDigits_nulfree i) hs, ?_, by simpa [List.append_assoc] using H3⟩
      rw [← List.length_append, h2, h3]
    obtain ⟨s, b2, hs, h4, H4⟩ := loopN_spec _ (P ++ text) _ (decVal ds) hbody (decVal ds) 0 b1
      (Nat.le_of_eq (Nat.zero_add _)) hpos.1 H1
    refine ⟨text ++ s, b2, NulFree.append (textOk_nulfree htext) hs, ?_, by simpa [List.append_assoc] using H4⟩
    have erh : text ++ renderParts ((ds, t) :: r) ++ 47 :: T = text ++ 35 :: (ds ++ (t ++ renderParts r ++ 47 :: T)) := by
      simp only [renderParts, List.append_assoc, List.cons_append]
    rw [erh, h1, h4]
    simp only [expandParts, List.flatMap_assoc, List.flatMap_map, ← List.range_eq_range', List.append_assoc]

theorem portIsEnabled_static (port : Option (Nat × PortT)) (b : Buf) (base : List PortT) (path : List Nat)
    (rel : Bool) (portRt : Option Obj) : portIsEnabled port b base path none rel portRt = .ok (true, []) := by
  cases port <;> rfl

theorem renderParts_length (ps : List (Bytes × Bytes)) : ps.length ≤ (renderParts ps).length := by
  induction ps with
  | nil => simp
  | cons p r ih =>
    obtain ⟨ds, t⟩ := p
    simp only [renderParts, List.length_cons, List.length_append]
    omega

theorem expandParts_nulfree (ps : List (Bytes × Bytes)) (h : partsOk ps = true) :
    ∀ a ∈ expandParts ps, NulFree a := by
  induction ps with
  | nil => intro a ha; rw [expandParts_nil_mem.mp ha]; exact nulFree_nil
  | cons p r ih =>
    obtain ⟨ds, t⟩ := p
    obtain ⟨_, ht, _, _, hr⟩ := partsOk_cons h
    intro a ha
    obtain ⟨i, _, a', ha', rfl⟩ := mem_expandParts_cons.mp ha
    exact NulFree.append (NulFree.append (natDigits_nulfree i) (textOk_nulfree ht)) (ih hr a' ha')

theorem name_nulfree {w : WName} (hok : w.ok = true) {a : Bytes} (ha : a ∈ expandParts w.parts) :
    NulFree (w.head ++ a) :=
  NulFree.append (textOk_nulfree (WName.ok_spec hok).1) (expandParts_nulfree w.parts (WName.ok_spec hok).2.1 a ha)

theorem expandFirst_eq_expandParts (ps : List (Bytes × Bytes)) (h : ps.length ≤ 1) :
    expandFirst ps = expandParts ps := by
  cases ps with
  | nil => rfl
  | cons p r =>
    obtain ⟨ds, t⟩ := p
    cases r with
    | nil =>
      simp only [expandFirst, expandParts, renderParts, List.append_nil, List.map_cons, List.map_nil]
      generalize List.range (decVal ds) = l
      induction l with
      | nil => rfl
      | cons i l ih => simp [ih]
    | cons _ _ => simp at h

/-- what `subOk` asks of a sub-tree name -/
structure WName.SubOk (w : WName) : Prop where
  ok : w.ok = true
  head_ne : w.head ≠ []
  slash : w.slash = true
  pos : (w.parts.all fun p => decide (1 ≤ decVal p.1)) = true

theorem WName.subOk_spec {w : WName} (h : w.subOk = true) : w.SubOk := by
  simp only [WName.subOk, Bool.and_eq_true, Bool.not_eq_eq_eq_not, Bool.not_true,
    List.isEmpty_eq_false_iff] at h
  exact ⟨h.1.1.1, h.1.1.2, h.1.2, h.2⟩

/-- one turn of the loop of `walk_ports`: the port, "remove the rest of the path", the other rows -/
theorem walkList_cons {N : Nat} (o : Opts) (base : List PortT) (path : List Nat) (rt : Option Obj) (pre s : Bytes)
    (b b1 : Buf) (p : PortT) (rest : List PortT) (i : Nat) (c1 : List Call) (hs : NulFree s)
    (h1 : walkPort o base path rt pre.length i p b = .ok (c1, b1)) (H1 : Holds N (pre ++ s ++ [0]) b1) :
    ∃ b2, walkList o base path rt pre.length (p :: rest) i b =
        (walkList o base path rt pre.length rest (i + 1) b2).map (fun r => (c1 ++ r.1, r.2)) ∧
      Holds N (pre ++ [0]) b2 := by
  obtain ⟨b2, h2, H2⟩ := H1.erase hs
  refine ⟨b2, ?_, H2⟩
  rw [walkList, h1]
  simp only [h2]
  cases walkList o base path rt pre.length rest (i + 1) b2 <;> rfl

/-- the recursor of the nested type `STree`, for a predicate on trees and one on tables -/
theorem STree.induction {P : STree → Prop} {Q : List STree → Prop}
    (leaf : ∀ w md, P (.leaf w md)) (sub : ∀ w md kids, Q kids → P (.sub w md kids))
    (nil : Q []) (cons : ∀ t r, P t → Q r → Q (t :: r)) : (∀ t, P t) ∧ ∀ ts, Q ts :=
  ⟨fun t => STree.rec (motive_1 := P) (motive_2 := Q) leaf sub nil cons t,
   fun ts => STree.rec_1 (motive_1 := P) (motive_2 := Q) leaf sub nil cons ts⟩

theorem STree.induction_mem {P : STree → Prop} (leaf : ∀ w md, P (.leaf w md))
    (sub : ∀ w md kids, (∀ t ∈ kids, P t) → P (.sub w md kids)) : ∀ t, P t :=
  (STree.induction (Q := fun ts => ∀ t ∈ ts, P t) leaf sub (fun _ h => nomatch h)
    (fun _ _ ht hr _ h => (List.mem_cons.mp h).elim (· ▸ ht) (hr _))).1

theorem WName.render_sub {w : WName} (h : w.slash = true) :
    w.render = w.head ++ renderParts w.parts ++ 47 :: renderTypes w.types := by
  rw [WName.render, WName.body, h, slashIf, if_pos rfl, List.append_assoc _ [47]]
  rfl

/-- `walk_ports_recurse`: what `walk_ports_recurse0` calls once the address of the sub-tree is in
    the buffer — the gate, then `walk_ports` on the sub-table -/
def subWalk (o : Opts) (p : PortT) (i : Nat) (base : List PortT) (path : List Nat) (rt : Option Obj)
    (oldEnd : Nat) (b' : Buf) : M (List Call × Buf) :=
  match recurseGate p i b' base path rt oldEnd with
  | .error e => .error e
  | .ok (none, calls) => .ok (calls, b')
  | .ok (some rt', calls) =>
    match walkTable (fun oe bb => walkList o p.children (path ++ [i]) rt' oe p.children 0 bb)
        p.children (path ++ [i]) rt' b' with
    | .error e => .error e
    | .ok (c2, b2) => .ok (calls ++ c2, b2)

theorem walkPort_sub_eq (o : Opts) (base : List PortT) (path : List Nat) (rt : Option Obj) (oldEnd i : Nat)
    (name : Bytes) (md : Option Bytes) (cs : List PortT) (b : Buf) :
    walkPort o base path rt oldEnd i (.mk name md true cs) b =
      recurse0 (subWalk o (.mk name md true cs) i base path rt oldEnd) o (name.length + 1) name oldEnd b := by
  rw [walkPort]
  rfl

/-- `port_is_enabled` looks at the name buffer only through the address it holds -/
theorem portIsEnabled_congr (port : Option (Nat × PortT)) (b b' : Buf) (base : List PortT) (path : List Nat)
    (rt : Option Obj) (rel : Bool) (portRt : Option Obj) (h : cstrAt b 0 = cstrAt b' 0) :
    portIsEnabled port b base path rt rel portRt = portIsEnabled port b' base path rt rel portRt := by
  unfold portIsEnabled
  rw [h]

/-- `walk_ports_recurse` up to the call of `walk_ports`, once the two strings it reads are known —
    `loc`, the address of the sub-tree, and `rel`, its part behind the table's address: without a
    runtime object the sub-tree is entered; with one, `rel` is looked up in it: NULL skips the
    sub-tree, a child object is handed to the "enabled by" test -/
def gateAt (p : PortT) (i : Nat) (loc rel : Bytes) (base : List PortT) (path : List Nat) :
    Option Obj → M (Option (Option Obj) × List Call)
  | none => .ok (some none, [])
  | some obj =>
    match obj.kid rel with
    | none => .error .undef
    | some none => .ok (none, [])
    | some (some child) =>
      match portIsEnabled (some (i, p)) (loc ++ [0]) base path (some obj) true (some child) with
      | .error e => .error e
      | .ok (en, cs) => .ok (if en then some (some child) else none, cs)

theorem gateAt_rt {p : PortT} {i : Nat} {loc rel : Bytes} {base : List PortT} {path : List Nat} {rt rt' : Option Obj}
    {cs : List Call} (h : gateAt p i loc rel base path rt = .ok (some rt', cs)) (hrt : rt' ≠ none) : rt ≠ none := by
  rintro rfl
  cases h
  exact hrt rfl

theorem recurseGate_eq (p : PortT) (i : Nat) (b : Buf) (base : List PortT) (path : List Nat) (rt : Option Obj)
    (oldEnd : Nat) (loc rel : Bytes) (hloc : cstrAt b 0 = .ok loc) (hnul : NulFree loc)
    (hrel : cstrAt b oldEnd = .ok rel) (hfit : rt ≠ none → loc.length + 10 ≤ SCRATCH) :
    recurseGate p i b base path rt oldEnd = gateAt p i loc rel base path rt := by
  cases rt with
  | none => rfl
  | some obj =>
    have hf : ¬ (loc.length + 10 > SCRATCH) := Nat.not_lt.mpr (hfit (Option.some_ne_none obj))
    have hc : cstrAt b 0 = cstrAt (loc ++ [0]) 0 := by rw [hloc, cstrAt_zero loc [] hnul]
    simp only [recurseGate, gateAt, hloc, hf, ↓reduceIte, hrel, portIsEnabled_congr _ b _ _ _ _ _ _ hc]
    rfl

/-- a sub-tree port: `walk_ports_recurse` is entered once per expansion of the name, in order,
    with the address of the sub-tree in the block; if each of these calls leaves that address
    there, the port reports what they report -/
theorem walkPort_sub {N : Nat} (base : List PortT) (path : List Nat) (rt : Option Obj) (i : Nat) (w : WName)
    (md : Option Bytes) (kids : List STree) (pre : Bytes) (b : Buf) (calls : Bytes → List Call)
    (hw : w.subOk = true) (H : Holds N (pre ++ [0]) b)
    (hcap : pre.length + w.head.length + maxLen (expandParts w.parts) + 2 ≤ N)
    (hk : ∀ a ∈ expandParts w.parts, ∀ b, Holds N (pre ++ w.head ++ a ++ [47] ++ [0]) b →
      ∃ b', subWalk {} (STree.sub w md kids).toPort i base path rt pre.length b = .ok (calls a, b') ∧
        Holds N (pre ++ w.head ++ a ++ [47] ++ [0]) b') :
    ∃ s b', NulFree s ∧
      walkPort {} base path rt pre.length i (STree.sub w md kids).toPort b =
        .ok ((expandParts w.parts).flatMap calls, b') ∧ Holds N (pre ++ s ++ [0]) b' := by
  obtain ⟨hok, hheadne, hslash, hpos⟩ := WName.subOk_spec hw
  obtain ⟨hhead, hparts, htypes⟩ := WName.ok_spec hok
  have hname := WName.render_sub hslash
  obtain ⟨s, b', hs, h2, H2⟩ := recurse0_spec
    (subWalk {} (STree.sub w md kids).toPort i base path rt pre.length) (renderTypes w.types)
    (renderTypes_head _) (renderTypes_no_hash htypes) w.parts calls w.head pre
    b (w.render.length + 1) hparts hpos hhead (Or.inl hheadne)
    (by
      have := renderParts_length w.parts
      rw [hname]
      simp only [List.length_append, List.length_cons]
      omega)
    H.mono (fun a ha => by have := mem_maxLen ha; omega) hk
  refine ⟨s, b', hs, ?_, H2⟩
  rw [STree.toPort] at h2 ⊢
  rw [walkPort_sub_eq]
  rw [hname] at h2 ⊢
  exact h2

end Rtosc.Walk
