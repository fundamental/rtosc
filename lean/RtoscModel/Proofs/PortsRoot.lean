/-
  C04 helper lemmas: `Ports::dispatch` at the root (`base_dispatch`, the
  `if(d.loc[0] == 0)` initialisation) in terms of `semNoLoc` / `semLoc`.
-/
import RtoscModel.Proofs.PortsLoc
namespace Rtosc.Ports
open Rtosc Rtosc.Match Rtosc.Ports.Hash

theorem stripSlash_suffix (a : Bytes) : ∃ pre, a = pre ++ stripSlash a := by
  unfold stripSlash
  split
  · exact ⟨[47], rfl⟩
  · exact ⟨[], rfl⟩

theorem rootAddr_suffix (base : Bool) (a : Bytes) : ∃ pre, a = pre ++ rootAddr base a := by
  unfold rootAddr
  split
  · exact stripSlash_suffix a
  · exact ⟨[], rfl⟩

theorem MsgOK.root {a tags : Bytes} (h : MsgOK a tags) (base : Bool) : MsgOK (rootAddr base a) tags := by
  obtain ⟨pre, hpre⟩ := rootAddr_suffix base a
  exact (hpre ▸ h).suffix

/-- the message pointer after the `base_dispatch` step (`if(m && *m == '/') m++;`) -/
theorem root_msg (a ex : Bytes) :
    ∃ c r, a ++ 0 :: ex = c :: r ∧ (if c = 47 then r else c :: r) = rootAddr true a ++ 0 :: ex := by
  cases a with
  | nil => exact ⟨0, ex, rfl, by simp [rootAddr, stripSlash]⟩
  | cons c r =>
    refine ⟨c, r ++ 0 :: ex, rfl, ?_⟩
    by_cases h : c = 47
    · subst h; simp [rootAddr, stripSlash]
    · simp only [h, ↓reduceIte, rootAddr]
      unfold stripSlash
      split
      · next heq => simp only [List.cons.injEq] at heq; exact absurd heq.1 h
      · rfl

/-- `RtData` after the `base_dispatch` step when `d.loc` is NULL -/
def rootDataNo (base : Bool) (d : RtData) : RtData := if base then { d with nmatches := 0 } else d

theorem rootDataNo_obj (base : Bool) (d : RtData) : (rootDataNo base d).obj = d.obj := by
  cases base <;> rfl

theorem rootDataNo_port (base : Bool) (d : RtData) : (rootDataNo base d).port = d.port := by
  cases base <;> rfl

theorem rootDataNo_loc (base : Bool) (d : RtData) : (rootDataNo base d).loc = d.loc := by
  cases base <;> rfl

theorem dispatch_noLoc (mk : List Bytes → Option Matcher) {P : PPorts} (hwf : P.tab.WF)
    {addr tags rst : Bytes} (k : Nat) (hm : MsgOK addr tags)
    (base : Bool) (d : RtData) (hd : d.loc = none) (L : Bytes) :
    dispatch mk P.render (msgBuf addr tags k rst) d base =
      some (finNo P.dflt [] d.obj (msgBuf (rootAddr base addr) tags k rst)
        (semNoLoc L P.tab [] 0 d.obj (rootAddr base addr) tags (msgTail k tags rst) (rootDataNo base d) false)) := by
  obtain ⟨loc, locSize, locHigh, obj, nmatches, port⟩ := d
  simp only at hd
  subst hd
  have hsc := scanNoLoc_sem k tags rst P.tab hwf L [] 0 obj (rootAddr base addr)
    (rootDataNo base ⟨none, locSize, locHigh, obj, nmatches, port⟩) false (hm.root base) (by cases base <;> rfl)
  unfold dispatch
  cases base with
  | false =>
    simp only [Bool.false_eq_true, ↓reduceIte, Option.isNone_none, Bool.true_or, PPorts.render]
    simp only [rootAddr, rootDataNo, Bool.false_eq_true, ↓reduceIte] at hsc ⊢
    rw [hsc, finishNoLoc_some]
  | true =>
    obtain ⟨c, r, hmm, hmsg⟩ := root_msg addr (msgTail k tags rst)
    simp only [hmm, hmsg, ↓reduceIte, PPorts.render, Option.isNone_none, Bool.true_or]
    simp only [rootDataNo, ↓reduceIte] at hsc ⊢
    rw [hsc, finishNoLoc_some]

/-- `RtData` after the `base_dispatch` step and the `if(d.loc[0] == 0)` initialisation,
    when `d.loc` is not NULL -/
def rootDataLoc (base : Bool) (d : RtData) : RtData :=
  let d1 : RtData := if base then { d with nmatches := 0, loc := some [], locHigh := max d.locHigh 1 } else d
  if d1.locStr.isEmpty then { d1 with loc := some [47], locHigh := max d1.locHigh d1.locSize } else d1

theorem rootDataLoc_loc (base : Bool) (d : RtData) (L0 : Bytes) (hd : d.loc = some L0) :
    (rootDataLoc base d).loc = some (rootLoc base L0) := by
  cases base with
  | true => simp [rootDataLoc, rootLoc, RtData.locStr]
  | false =>
    simp only [rootDataLoc, Bool.false_eq_true, ↓reduceIte, RtData.locStr, hd, Option.getD_some, rootLoc,
      Bool.false_or]
    split <;> simp_all

theorem rootLoc_ne (base : Bool) (L0 : Bytes) : rootLoc base L0 ≠ [] := by
  unfold rootLoc
  split
  · simp
  · next h => simp only [Bool.or_eq_true, not_or, Bool.not_eq_true] at h; simpa using h.2

theorem rootDataLoc_obj (base : Bool) (d : RtData) : (rootDataLoc base d).obj = d.obj := by
  simp only [rootDataLoc]; cases base <;> simp <;> split <;> rfl

theorem rootDataLoc_port (base : Bool) (d : RtData) : (rootDataLoc base d).port = d.port := by
  simp only [rootDataLoc]; cases base <;> simp <;> split <;> rfl

theorem rootDataLoc_nmatches (base : Bool) (d : RtData) :
    (rootDataLoc base d).nmatches = if base then 0 else d.nmatches := by
  simp only [rootDataLoc]; cases base <;> simp <;> split <;> rfl

theorem rootDataLoc_locSize (base : Bool) (d : RtData) : (rootDataLoc base d).locSize = d.locSize := by
  simp only [rootDataLoc]; cases base <;> simp <;> split <;> rfl

/-- entering with an empty `loc` is entering with "/" -/
theorem enterLoc_empty (mk : List Bytes → Option Matcher) (names : List Bytes) (dflt : Bool) (tp : List Nat)
    (m : Bytes) (d : RtData) (lin : Nat → RtData → ScanOut) (hsh : Nat → Nat → Bytes → Bool → RtData → Out)
    (h : d.locStr.isEmpty = true) :
    enterLoc mk names dflt tp m d lin hsh =
      enterLoc mk names dflt tp m { d with loc := some [47], locHigh := max d.locHigh d.locSize } lin hsh := by
  have h' : d.loc.getD [] = [] := by simpa [RtData.locStr] using h
  unfold enterLoc
  simp [h', RtData.locStr]

theorem dispatch_loc {mk : List Bytes → Option Matcher} (hmk : MkOK mk) {P : PPorts} (hwf : P.tab.WF)
    {addr tags rst : Bytes} (k : Nat) (hm : MsgOK addr tags)
    (base : Bool) (d : RtData) (L0 : Bytes) (hd : d.loc = some L0) (hsz : d.locSize ≠ 0) :
    dispatch mk P.render (msgBuf addr tags k rst) d base =
      some (finLoc P.dflt [] d.obj (msgBuf (rootAddr base addr) tags k rst)
        (semLoc P.tab [] 0 d.obj (rootLoc base L0) (rootAddr base addr) tags (msgTail k tags rst)
          (rootDataLoc base d) false)) := by
  obtain ⟨hL, hH⟩ := lin_hsh hmk k tags rst P.tab hwf
  have hent := ent_of hmk hwf hL hH
  have hE := hent P.dflt [] (rootLoc base L0) (rootAddr base addr) (rootDataLoc base d) (hm.root base)
    (rootDataLoc_loc base d L0 hd) (rootLoc_ne base L0)
  rw [rootDataLoc_obj] at hE
  have hszb : (d.locSize == 0) = false := by simpa using hsz
  unfold dispatch
  cases base with
  | false =>
    simp only [Bool.false_eq_true, ↓reduceIte, hd, Option.isNone_some, hszb, Bool.or_self, PPorts.render]
    simp only [rootAddr, Bool.false_eq_true, ↓reduceIte] at hE ⊢
    by_cases he : d.locStr.isEmpty = true
    · rw [enterLoc_empty _ _ _ _ _ _ _ _ he]
      have : rootDataLoc false d = { d with loc := some [47], locHigh := max d.locHigh d.locSize } := by
        simp [rootDataLoc, he]
      rw [this] at hE ⊢
      exact hE
    · have : rootDataLoc false d = d := by simp [rootDataLoc, he]
      rw [this] at hE ⊢
      exact hE
  | true =>
    obtain ⟨c, r, hmm, hmsg⟩ := root_msg addr (msgTail k tags rst)
    simp only [hmm, hmsg, ↓reduceIte, PPorts.render, hd, Option.isNone_some, hszb, Bool.or_self, Bool.false_eq_true]
    rw [enterLoc_empty _ _ _ _ _ _ _ _ (by simp [RtData.locStr])]
    have : rootDataLoc true d =
        { ({ d with nmatches := 0, loc := some [], locHigh := max d.locHigh 1 } : RtData) with
          loc := some [47], locHigh := max (max d.locHigh 1) d.locSize } := by
      simp [rootDataLoc, RtData.locStr]
    rw [this] at hE ⊢
    exact hE

end Rtosc.Ports
