/-
  C11 — from the specification to `LayR`: sentences whose values are values with proved agreement
  (`SVal.proved`) and ranges `b ... c` of decimal 'i' integers anywhere at top level, each range
  standing first or behind a scalar value, a repetition of a scalar value or another such range
  (`rangedFrom`, defined in `Pretty/C11ProvedSpec.lean`), and what the specification assigns to such a range.
  That the text of such a sentence is a `LayR` and denotes the cells of its arguments is proved for the wider class
  of `Proofs/ScanRangeArrSpec.lean` and specialised there.
-/
import RtoscModel.Proofs.ScanRangeList
import RtoscModel.Proofs.ScanSpec
namespace Rtosc.Pretty.C11
open Rtosc Rtosc.Libc Rtosc.Pretty
open Rtosc.ArgVal (Cell Item flatList)

theorem cmpScalar_int (x z : Int) : ArgVal.cmpScalar (Cell.int .i x) (Cell.int .i z) = ArgVal.cmp3 x z := by
  simp [ArgVal.cmpScalar, ArgVal.Cell.type]

theorem iRange_some {v : SVal} {x z : Int} (h : v.iRange = some (x, z)) :
    v = .range (.int x .dec false) (.int z .dec false) := by
  unfold SVal.iRange at h
  split at h
  · injection h with h; injection h with h1 h2; subst h1; subst h2; rfl
  · cases h

theorem allCells_rArgs (L : Layout) : ∀ (s : Sentence) (i : Nat) (o : Option (Option Int)),
    allCells (rArgs L i o s) = rcells o s := by
  intro s
  induction s with
  | nil => intro i o; rfl
  | cons v r ih =>
    intro i o
    unfold rArgs rcells
    cases hv : v.iRange with
    | none =>
      have := ih (i + 1) v.offer
      simp only [allCells] at this
      simp [allCells, this]
    | some p =>
      obtain ⟨x, z⟩ := p
      have := ih (i + 1) (some (some z))
      simp only [allCells] at this
      simp [allCells, this]

mutual
theorem noDelta_pcells : ∀ (x : SVal), NoDelta x.pcells
  | .val t => by
    intro n h hm
    simp only [SVal.pcells, List.mem_singleton] at hm
    have := tok_cell_scalar t
    rw [← hm] at this
    simp [ArgVal.Cell.isScalar] at this
  | .rep k x => by
    intro n h hm
    simp only [SVal.pcells, List.mem_cons] at hm
    rcases hm with hm | hm
    · cases hm; rfl
    · exact noDelta_pcells x n h hm
  | .range _ _ => by
    intro n h hm
    simp [SVal.pcells] at hm
  | .arr es _ => by
    intro n h hm
    simp only [SVal.pcells, List.mem_cons] at hm
    rcases hm with hm | hm
    · cases hm
    · exact noDelta_pcellsList es n h hm
theorem noDelta_pcellsList : ∀ (es : List SVal), NoDelta (pcellsList es)
  | [] => by intro n h hm; simp [pcellsList] at hm
  | x :: r => by
    intro n h hm
    simp only [pcellsList, List.mem_append] at hm
    rcases hm with hm | hm
    · exact noDelta_pcells x n h hm
    · exact noDelta_pcellsList r n h hm
end

theorem text_iRange (bl : List Nat → Blank) (x z : Int) :
    (SVal.range (.int x .dec false) (.int z .dec false)).text bl =
      rangeTok x z (blankBytes (bl [1])) (blankBytes (bl [2])) := by
  simp [SVal.text, Tok.text, intText_dec, rangeTok, rangeRest]

/-- the step the specification assigns to the range is `rangeStepI` -/
theorem rangeStep_int (prev : Option Cell) (x z : Int) (hr : RangeOK (prev.bind nbInt) x z) :
    rangeStep prev (Cell.int .i x) (some (Cell.int .i z)) =
      some (some (Cell.int .i (rangeStepI (prev.bind nbInt) x z))) := by
  have hne := hr.ne
  have hunit : unitStep (Cell.int .i x) (Cell.int .i z) = some (Cell.int .i (if x < z then 1 else -1)) := by
    simp only [unitStep, cmpScalar_int]
    by_cases hlt : x < z
    · simp [cmp3_gt z x hlt, hlt]
    · have : z < x := by omega
      simp [cmp3_lt z x this, hlt]
  cases prev with
  | none => simp [rangeStep, hunit, rangeStepI]
  | some a =>
    by_cases hi : ∃ p, a = Cell.int .i p
    · obtain ⟨p, rfl⟩ := hi
      by_cases hpx : p = x
      · subst hpx
        simp [rangeStep, numEq, cmpScalar_int, ArgVal.cmp3, hunit, rangeStepI, nbInt]
      · have hd1 := hr.hd1
        have hd2 := hr.hd2
        simp only [Option.bind_some, nbInt, rangeStepI, hpx, ↓reduceIte] at hd1 hd2
        have hty : (Cell.int ArgVal.IntTy.i p).type = (Cell.int ArgVal.IntTy.i x).type := rfl
        simp [rangeStep, numEq, cmpScalar_int, cmp3_ne p x hpx, isNumTy, stepOf, hd1, hd2, rangeStepI, nbInt, hpx, hty]
    · have hty : a.type ≠ 105 := fun h => hi (IntKind.i.cell_of_type a h)
      have hn : nbInt a = none := by
        cases a with
        | int ty v =>
          cases ty with
          | i => exact absurd ⟨v, rfl⟩ hi
          | _ => rfl
        | _ => rfl
      have ht : (Cell.int ArgVal.IntTy.i x).type = 105 := rfl
      simp [rangeStep, ht, hty, hunit, rangeStepI, hn]

theorem stepsOf_int {nb : Option Int} {x z : Int} (hr : RangeOK nb x z) :
    stepsOf (Cell.int .i x) (Cell.int .i z) (Cell.int .i (rangeStepI nb x z)) =
      some ((z - x) / rangeStepI nb x z).toNat := by
  unfold stepsOf
  simp only []
  rw [if_pos ⟨rangeStepI_ne, hr.hmod, hr.hq1, hr.hq2⟩]

theorem rangeLast_int {nb : Option Int} {x z : Int} (hr : RangeOK nb x z) :
    rangeLast (((z - x) / rangeStepI nb x z).toNat + 1) (Cell.int .i (rangeStepI nb x z)) (Cell.int .i x) =
      some (Cell.int .i z) := by
  have h1 := hr.hq1
  have hm := hr.mul
  simp only [rangeLast, Nat.add_sub_cancel]
  have e : (((z - x) / rangeStepI nb x z).toNat : Int) = (z - x) / rangeStepI nb x z := by omega
  rw [e, ← hm]
  congr 2; omega

theorem offer_leftCell (v : SVal) (nb : Option Int) (h : v.offer = some nb) : v.leftCell.bind nbInt = nb := by
  cases v with
  | val t => simp only [SVal.offer, Option.some.injEq] at h; simp [SVal.leftCell, h]
  | rep n y =>
    cases y with
    | val t => simp only [SVal.offer, Option.some.injEq] at h; simp [SVal.leftCell, h]
    | arr _ _ => simp only [SVal.offer, Option.some.injEq] at h; simp [SVal.leftCell, h]
    | _ => simp [SVal.offer] at h
  | arr _ _ => simp only [SVal.offer, Option.some.injEq] at h; simp [SVal.leftCell, h]
  | _ => simp [SVal.offer] at h

/-- `denoteElems` at a range of two decimal 'i' integers with `RangeOK`: the range item, then the rest with
    the right end as left neighbour -/
theorem denoteElems_iRange (prev : Option Cell) (x z : Int) (r : List SVal) (hr : RangeOK (prev.bind nbInt) x z) :
    denoteElems false prev (.range (.int x .dec false) (.int z .dec false) :: r) =
      (denoteElems false (some (Cell.int .i z)) r).map
        (Item.range (((z - x) / rangeStepI (prev.bind nbInt) x z).toNat + 1)
          (Cell.int .i (rangeStepI (prev.bind nbInt) x z)) (Cell.int .i x) :: ·) := by
  have hneq : numEq (Cell.int .i x) (Cell.int .i z) = false := by
    simp [numEq, cmpScalar_int, cmp3_ne x z hr.ne]
  simp only [denoteElems, floatRangeBlocks, Tok.cell, isNumTy, hneq, rangeStep_int prev x z hr, stepsOf_int hr,
    rangeLast_int hr, ArgVal.Cell.type]
  cases denoteElems false (some (Cell.int .i z)) r <;> simp

end Rtosc.Pretty.C11
