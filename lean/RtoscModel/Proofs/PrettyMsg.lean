/-
  C10 — whole messages (`rtosc_print_message` → `rtosc_count_printed_arg_vals_of_msg` →
  `rtosc_scan_message`), in front of them the two cases in which `rtosc_convert_to_range` answers
  nothing whatever the values are (fewer than five, compression off); lists without five values of
  one type in a row (`noConversion`) are in PrettyRunConst.
-/
import RtoscModel.Proofs.PrettyList
namespace Rtosc.Pretty
open Rtosc Rtosc.Libc
open Rtosc.ArgVal (Cell)

theorem convertToRange_small (opt : POpt) (arg : List Cell) (size : Nat) (h : size < 5) :
    convertToRange opt arg size = .ok none := by
  unfold convertToRange
  have : size < rangeMin := h
  simp [this, pure, Except.pure]

theorem convertToRange_nocompress (opt : POpt) (h : opt.compress = false) (c : Cell) (more : List Cell) (size : Nat) :
    convertToRange opt (c :: more) size = .ok none := by
  by_cases hs : size < rangeMin
  · exact convertToRange_small opt _ size hs
  · unfold convertToRange
    simp [hs, deref, h, bind, Except.bind, pure, Except.pure]

/-- `incsize` of the printer's run detection at a scalar (used by the run lemmas of PrettyRunConst,
    PrettyRunArith, PrettyRunsArrConv) -/
theorem incsize_scalar (c : Cell) (more : List Cell) (h : c.isScalar = true) : incsize (c :: more) = .ok 1 := by
  unfold incsize
  cases c <;> simp_all [deref, ArgVal.Cell.isScalar, bind, Except.bind, pure, Except.pure]

theorem noRanges_nocompress (opt : POpt) (h : opt.compress = false) (argss : List (List Cell))
    (hne : ∀ cs ∈ argss, cs ≠ []) :
    NoRanges opt argss := by
  intro done cs rem heq
  obtain ⟨c, cs', rfl⟩ := List.exists_cons_of_ne_nil (hne cs (by rw [heq]; simp))
  simp only [List.flatten_cons, List.cons_append]
  exact convertToRange_nocompress opt h c _ _

theorem dropWhile_notspace (a rest : Bytes) (ha : ∀ c ∈ a, isspace c = false) (hr : rest = [] ∨ isspace (hd rest) = true) :
    (a ++ rest).dropWhile (fun c => !isspace c) = rest := by
  rw [List.dropWhile_append_of_pos (fun c hc => by simp [ha c hc])]
  cases rest with
  | nil => rfl
  | cons c r => simp only [hd_cons, reduceCtorEq, false_or] at hr; simp [hr]

theorem hd_addr {addr : Bytes} (ha : AddrOK addr) (rest : Bytes) : hd (addr ++ rest) = 47 := by
  cases addr with
  | nil => cases ha.1
  | cons c r => exact ha.1

/-- white space `lead` in front of a message (inside a file: the newline behind the header) -/
theorem skipSpace_lead_addr {addr : Bytes} (ha : AddrOK addr) (lead : Bytes) (hl : ∀ c ∈ lead, isspace c = true)
    (rest : Bytes) : skipSpace (lead ++ (addr ++ rest)) = addr ++ rest :=
  skipSpace_lead lead _ hl (Or.inr (by rw [hd_addr ha]; decide))

theorem countPrintedArgValsOfMsg_addr {addr : Bytes} (ha : AddrOK addr) (lead : Bytes) (hl : ∀ c ∈ lead, isspace c = true)
    (rest : Bytes) (hr : rest = [] ∨ isspace (hd rest) = true) :
    countPrintedArgValsOfMsg (lead ++ (addr ++ rest)) = countPrintedArgVals rest := by
  have hhd := hd_addr ha rest
  unfold countPrintedArgValsOfMsg
  simp only [skipSpace_lead_addr ha lead hl, bind, Except.bind, skipCommentLines_none _ _ (by rw [hhd]; decide), hhd,
    ↓reduceIte, dropWhile_notspace addr rest ha.2 hr]

/-- `hal` is `assert(rd < adrsize)` behind the address (pretty-format.c:2192) -/
theorem scanMessage_addr {addr : Bytes} (ha : AddrOK addr) (lead : Bytes) (hl : ∀ c ∈ lead, isspace c = true)
    (rest : Bytes) (hr : rest = [] ∨ isspace (hd rest) = true)
    {adrsize : Nat} (hal : lead.length + addr.length < adrsize) {n rd : Nat} {cells : List Cell}
    (h : scanArgVals (skipSpace rest) n = .ok (rd, cells)) :
    scanMessage (lead ++ (addr ++ rest)) adrsize n =
      .ok (lead.length + addr.length + (rest.length - (skipSpace rest).length) + rd, addr, cells) := by
  have hl1 : (lead ++ (addr ++ rest)).length - (addr ++ rest).length = lead.length := by
    simp only [List.length_append]; omega
  have htake : addr.take (adrsize - lead.length) = addr := List.take_of_length_le (by omega)
  have haddr : (addr ++ rest).takeWhile (fun c => !isspace c) = addr :=
    takeWhile_prefix addr rest (fun c hc => by simp [ha.2 c hc]) (hr.imp id fun h => by simp [h])
  unfold scanMessage
  simp only [skipSpace_lead_addr ha lead hl, hl1, hd_addr ha, show (47 : UInt8) ≠ 37 from by decide, ↓reduceIte, pure,
    Except.pure, bind, Except.bind, List.drop_zero, Nat.add_zero, haddr, htake,
    List.drop_left, h]

/-- **the round trip at cell level**, in both forms: the cells `cells` as an argument list, and
    behind any address as a message; the readers return `cells'` -/
structure CellsRT (opt : POpt) (cells cells' : List Cell) : Prop where
  list : ∃ (st : PSt) (ret : Nat),
    printArgVals opt cells ⟨[], 0⟩ = .ok (st, ret) ∧ ret = st.out.length ∧
    countPrintedArgVals st.out = .ok (cells'.length : Int) ∧
    scanArgVals st.out cells'.length = .ok (st.out.length, cells')
  msg : ∀ (addr : Bytes) (adrsize : Nat), AddrOK addr → addr.length < adrsize →
    ∃ (st : PSt) (ret : Nat),
      printMessage opt addr cells 0 = .ok (st, ret) ∧ ret = st.out.length ∧
      countPrintedArgValsOfMsg st.out = .ok (cells'.length : Int) ∧
      scanMessage st.out adrsize cells'.length = .ok (st.out.length, addr, cells')

theorem printMessage_pieces {α : Type} (opt : POpt) (cells : α → List Cell) (Q : Option Cell → α → Bytes → Prop)
    (xs : List α) (hall : AllPrint opt cells Q xs) (addr : Bytes) :
    ∃ (st : PSt) (sep body : Bytes),
      printMessage opt addr (cellsOf cells xs) 0 = .ok (st, st.out.length) ∧
      st.out = addr ++ (sep ++ body) ∧ IsSepTxt sep ∧ SepText cells Q none xs body := by
  obtain ⟨st', pre, body, hrun, hout, htt, hpre⟩ :=
    printArgVals_pieces opt cells Q xs hall ⟨addr ++ [32], 0 + ((addr ++ [32]).length : Nat)⟩ (Or.inr ⟨addr, rfl⟩)
  -- the separator behind the address
  obtain ⟨sep, hsep, hsep1, rfl⟩ := sep_of_linebreak hpre
  rw [List.append_assoc] at hout
  refine ⟨st', sep, body, ?_, hout, hsep, htt⟩
  unfold printMessage
  simp only [bind, Except.bind, hrun, pure, Except.pure, hout]
  congr 2
  simp only [List.length_append, List.length_singleton]
  omega

/-- **the assembly**: pieces the printer's loop prints (Proofs/PrettyLoops.lean), whose printed text
    the readers read back as `cells'`.  The argument list is the printer started on an empty line,
    the message the printer started behind `addr ++ " "`; both consume the same facts about the readers. -/
theorem cellsRT_of_pieces {α : Type} (opt : POpt) (cells : α → List Cell) (Q : Option Cell → α → Bytes → Prop)
    (xs : List α) (hall : AllPrint opt cells Q xs) {cells' : List Cell}
    (hread : ∀ body, SepText cells Q none xs body → ReadsEnd body cells') : CellsRT opt (cellsOf cells xs) cells' := by
  constructor
  · obtain ⟨st', pre, body, hrun, hout, htt, hpre⟩ := printArgVals_pieces opt cells Q xs hall ⟨[], 0⟩ (Or.inl rfl)
    have hpre0 : pre = [] := by
      rcases hpre with h | ⟨base, h1, _⟩
      · exact h
      · simp at h1
    subst hpre0
    rw [List.nil_append] at hrun hout
    have hr := hread body htt
    refine ⟨st', body.length, hrun, by rw [hout], ?_, ?_⟩ <;> rw [hout]
    · exact hr.count _ hr.start
    · exact hr.scan
  · intro addr adrsize ha hal
    obtain ⟨st, sep, body, hprint, hout, hsep, htt⟩ := printMessage_pieces opt cells Q xs hall addr
    have hr := hread body htt
    have hrest : sep ++ body = [] ∨ isspace (hd (sep ++ body)) = true := by
      right; rcases hsep with rfl | rfl <;> rfl
    have hskip : skipSpace (sep ++ body) = body := by
      rw [skipSpace_append sep body (by rcases hsep with rfl | rfl <;> decide), hr.start]
    refine ⟨st, _, hprint, rfl, ?_, ?_⟩ <;> rw [hout]
    · rw [← List.nil_append (addr ++ _), countPrintedArgValsOfMsg_addr ha [] (by simp) _ hrest]
      exact hr.count _ hskip
    · rw [← List.nil_append (addr ++ _),
        scanMessage_addr ha [] (by simp) _ hrest (by simpa using hal) (by rw [hskip]; exact hr.scan), hskip]
      simp only [List.nil_append, List.length_nil, List.length_append, Nat.zero_add, Nat.add_sub_cancel, Nat.add_assoc]

/-- **Tier 3 (partial).**  For arguments (scalars, arrays of scalars) whose texts are good and which
    the printer does not turn into ranges: the printer returns the length of the text it wrote, the
    checker counts exactly the cells, the scanner consumes the whole text and returns the cells. -/
theorem cellsRT_args (opt : POpt) (argss : List (List Cell))
    (hP : ∀ cs ∈ argss, PrintsArg opt cs)
    (hconv : NoRanges opt argss) :
    CellsRT opt argss.flatten argss.flatten := by
  simpa [cellsOf] using cellsRT_of_pieces opt id _ argss (allPrint_args opt argss hP hconv argss [] rfl)
    (fun body h => ArgsText.readsEnd h)

/-- **Tier 2.**  For scalar arguments whose tokens are good and which the printer does not turn into ranges. -/
theorem cellsRT_of_tokens (opt : POpt) (args : List Cell)
    (hP : ∀ c ∈ args, c.isScalar = true ∧ PrintsTok opt c)
    (hconv : ∀ i, i < args.length → convertToRange opt (args.drop i) (args.length - i) = .ok none) :
    CellsRT opt args args := by
  have h := cellsRT_args opt (args.map fun c => [c]) (printsArg_singletons hP) (noRanges_singletons opt args hconv)
  rwa [flatten_map_singleton] at h

theorem TokEnd.readsEnd {t : Bytes} {c : Cell} (h : TokEnd t c) (hsc : c.isScalar = true) : ReadsEnd t [c] := by
  have hpos := List.length_pos_iff.mpr h.start.1
  refine ⟨skipSpace_tokStart t h.start, fun s hs => ?_, ?_⟩
  · obtain ⟨r, hr, hsrc, hsk, _⟩ := h.skip (t.length + 1) 0 none false
    obtain ⟨f, hf⟩ : ∃ f, t.length = f + 1 := ⟨t.length - 1, by omega⟩
    have hturn := countLoopG_turn skipNextPrintedArg (T := t) h.start GapOK.nil (f + 1) none 0 1
      ⟨r, skipNextPrintedArg_checkFuel (by simpa using hr), by simpa using hsrc, hsk⟩
    simp only [List.append_nil] at hturn
    rw [countPrintedArgVals_start hs (Or.inr h.start), hf, hturn, countLoopG_stop _ f (src := []) (Or.inl rfl)]
    rfl
  · have hturn := scanLoopG_turn scanArgVal (T := t) (cells := [c]) GapOK.nil 1 1 0 true [] 0 (by omega)
      (by simpa using h.scan (t.length + 1) [] 0) (canPrecedeRange_scalar c [] hsc) (nextArgOffset_scalar _ c [] hsc)
    simp only [List.append_nil] at hturn
    rw [List.length_singleton, scanArgVals_start (Or.inr h.start), hturn]
    simp [scanLoopG_done]

/-- the round trip of a single scalar argument whose token is only known to be good at the end of a text -/
theorem single_roundtrip_of_end (opt : POpt) (c : Cell) (hsc : c.isScalar = true)
    (hp : ∀ (fuel : Nat) (more : List Cell) (prev : Option Cell) (st : PSt), ∃ (t : Bytes) (cols' : Int),
      printArgVal (fuel + 1) opt (c :: more) prev st = .ok (⟨st.out ++ t, cols'⟩, t.length) ∧ TokEnd t c) :
    ∃ (st : PSt) (ret : Nat),
      printArgVals opt [c] ⟨[], 0⟩ = .ok (st, ret) ∧ ret = st.out.length ∧
      countPrintedArgVals st.out = .ok 1 ∧ scanArgVals st.out 1 = .ok (st.out.length, [c]) := by
  have hall : AllPrint opt (fun c => [c]) (fun _ c T => TokEnd T c) [c] :=
    ⟨⟨c, none, rfl, convertToRange_small opt _ _ (by simp [cellsOf]), nextArgOffset_scalar _ c [] hsc, fun prev st _ => by
      obtain ⟨t, cols', hprint, hend⟩ := hp _ [] prev st
      exact ⟨st.out, t, cols', by rw [Nat.sub_self]; exact hprint, Or.inl rfl, hend⟩⟩, trivial⟩
  have := (cellsRT_of_pieces opt _ _ [c] hall (cells' := [c]) (fun body htt => by
    cases htt with
    | cons L x xs T sep text hT hrest h1 h2 =>
      cases hrest; rw [h1 rfl]; simpa using TokEnd.readsEnd hT hsc)).list
  simpa [cellsOf] using this

end Rtosc.Pretty
