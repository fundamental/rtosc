/-
  C02: the variadic constructors without any hypothesis on the float conversions.

  `rtosc_v2args` rebuilds the argument array from the promoted values of the call site; the only
  values that change on the way are those under an `'f'` tag (`float → double` at the call site,
  `double → float` in `args[..].f = va_arg(ap,double)`).  `viaDoubleC g` / `viaDoubleA g` send
  exactly these values through `g`; with `g = narrow ∘ widen` the variadic constructor *is*
  `rtosc_amessage` on the converted array, whatever `narrow` and `widen` are (`vmessage_promote_any`,
  Proofs/OscEncode.lean).  The converted message has the same address, the same type string, the
  same kinds and sizes of arguments, hence the same encoded length: buffer discipline does not
  depend on float bits.
-/
import RtoscModel.Proofs.OscEncode
import RtoscModel.Osc.MsgSpec
namespace Rtosc.Osc
open Rtosc

theorem viaDoubleA_skip {t : UInt8} (g : UInt32 → UInt32) (ts : Bytes) (args : List Arg)
    (hr : hasReserved t = false) : viaDoubleA g (t :: ts) args = viaDoubleA g ts args := by
  simp [viaDoubleA, hr]

theorem viaDoubleA_cons {t : UInt8} (g : UInt32 → UInt32) (ts : Bytes) (a : Arg) (as : List Arg)
    (hr : hasReserved t = true) :
    viaDoubleA g (t :: ts) (a :: as) =
      (match a with
        | .w32 v => if t = 102 then Arg.w32 (g v) else a
        | _ => a) :: viaDoubleA g ts as := by
  simp [viaDoubleA, hr]; rfl

theorem viaDoubleA_nil (g : UInt32 → UInt32) : ∀ tags : Bytes, viaDoubleA g tags [] = [] := by
  intro tags
  induction tags with
  | nil => rfl
  | cons t ts ih =>
    cases hr : hasReserved t with
    | false => rw [viaDoubleA_skip g ts [] hr]; exact ih
    | true => simp [viaDoubleA, hr]

theorem denote_viaDouble (g : UInt32 → UInt32) (tags : Bytes) : ∀ (cargs : List CArg) (args : List Arg),
    Denote cargs args → Denote (viaDoubleC g tags cargs) (viaDoubleA g tags args) := by
  induction tags with
  | nil => intro cargs args hd; exact hd
  | cons t ts ih =>
    intro cargs args hd
    cases hr : hasReserved t with
    | false => rw [viaDoubleC_skip g ts cargs hr, viaDoubleA_skip g ts args hr]; exact ih cargs args hd
    | true =>
      cases args with
      | nil => rw [denote_nil hd, viaDoubleC_nil, viaDoubleA_nil]; trivial
      | cons a as =>
        obtain ⟨c, cs, rfl, hc, hd'⟩ := denote_cons hd
        rw [viaDoubleC_cons g ts c cs hr, viaDoubleA_cons g ts a as hr]
        refine ⟨?_, ih cs as hd'⟩
        cases a with
        | w32 v =>
          rw [abs_w32 hc]
          by_cases ht : t = 102 <;> simp [ht, CArg.abs]
        | w64 v => rw [abs_w64 hc]; rfl
        | midi x y z w => rw [abs_midi hc]; rfl
        | str s => rw [abs_str hc]; rfl
        | blob d =>
          obtain ⟨len, data, rfl, _, _⟩ := abs_blob hc
          exact hc

theorem matches_viaDouble (g : UInt32 → UInt32) {tags : Bytes} {args : List Arg} (hm : Matches tags args) :
    Matches tags (viaDoubleA g tags args) := by
  induction tags, args, hm using Matches.walk with
  | nil => rfl
  | @skip t ts as hk _ ih =>
    rw [viaDoubleA_skip g ts as (by rw [hasReserved_eq, hk]; rfl)]
    exact (matches_skip hk).mpr ih
  | @take t ts a as hk _ _ ih =>
    rw [viaDoubleA_cons g ts a as (by rw [hasReserved_eq, hk]; rfl)]
    simp only [Matches, matchesB, hk, Bool.and_eq_true, decide_eq_true_eq] at ih ⊢
    refine ⟨?_, ih⟩
    cases a with
    | w32 v => by_cases ht : t = 102 <;> simp [ht, Arg.kind]
    | _ => rfl

theorem wf_viaDouble (g : UInt32 → UInt32) (tags : Bytes) : ∀ (args : List Arg),
    (∀ a ∈ args, a.WF) → ∀ a ∈ viaDoubleA g tags args, a.WF := by
  induction tags with
  | nil => intro args h; exact h
  | cons t ts ih =>
    intro args h
    cases hr : hasReserved t with
    | false => rw [viaDoubleA_skip g ts args hr]; exact ih args h
    | true =>
      cases args with
      | nil => rw [viaDoubleA_nil]; intro a ha; cases ha
      | cons a as =>
        rw [viaDoubleA_cons g ts a as hr]
        intro x hx
        rcases List.mem_cons.mp hx with rfl | hx
        · cases a with
          | w32 v => by_cases ht : t = 102 <;> simp [ht, Arg.WF]
          | _ => exact h _ List.mem_cons_self
        · exact ih as (fun y hy => h y (List.mem_cons_of_mem _ hy)) x hx

theorem flat_length_viaDouble (g : UInt32 → UInt32) (tags : Bytes) : ∀ (args : List Arg),
    ((viaDoubleA g tags args).flatMap encArg).length = (args.flatMap encArg).length := by
  induction tags with
  | nil => intro args; rfl
  | cons t ts ih =>
    intro args
    cases hr : hasReserved t with
    | false => rw [viaDoubleA_skip g ts args hr]; exact ih args
    | true =>
      cases args with
      | nil => rw [viaDoubleA_nil]
      | cons a as =>
        rw [viaDoubleA_cons g ts a as hr]
        simp only [List.flatMap_cons, List.length_append, ih as]
        congr 1
        cases a with
        | w32 v => by_cases ht : t = 102 <;> simp [ht, encArg, be32_length]
        | _ => rfl

theorem encode_length_viaDouble (g : UInt32 → UInt32) (m : Msg) :
    (Spec.encode (m.viaDouble g)).length = (Spec.encode m).length := by
  rw [encode_length, encode_length]
  simp only [Msg.viaDouble, flat_length_viaDouble]

theorem wf_msg_viaDouble (g : UInt32 → UInt32) (m : Msg) (hwf : m.WF) : (m.viaDouble g).WF :=
  ⟨hwf.addr_ne, hwf.addr_nonul, hwf.tags_ok, matches_viaDouble g hwf.matches_,
   wf_viaDouble g m.tags m.args hwf.args_ok, by rw [encode_length_viaDouble]; exact hwf.size⟩

theorem denote_unique : ∀ {cargs : List CArg} {as bs : List Arg}, Denote cargs as → Denote cargs bs → as = bs
  | [], [], [], _, _ => rfl
  | c :: cs, a :: as, b :: bs, h1, h2 => by
    rw [Option.some.inj (h1.1.symm.trans h2.1), denote_unique h1.2 h2.2]
  | [], _ :: _, _, h, _ | [], [], _ :: _, _, h | _ :: _, [], _, h, _ | _ :: _, _ :: _, [], _, h => h.elim

theorem viaDoubleA_id (g : UInt32 → UInt32) (tags : Bytes) (cargs : List CArg) (args : List Arg)
    (hd : Denote cargs args) (hf : ∀ v ∈ fArgs tags cargs, g v = v) : viaDoubleA g tags args = args :=
  denote_unique (viaDoubleC_id g tags cargs hf ▸ denote_viaDouble g tags cargs args hd) hd

theorem msg_viaDouble_id (g : UInt32 → UInt32) (m : Msg) (cargs : List CArg) (hd : Denote cargs m.args)
    (hf : ∀ v ∈ fArgs m.tags cargs, g v = v) : m.viaDouble g = m := by
  cases m with
  | mk addr tags args =>
    simp only [Msg.viaDouble]
    rw [viaDoubleA_id g tags cargs args hd hf]

theorem encode_length_sent (narrow : UInt64 → UInt32) (widen : UInt32 → UInt64) (m : Msg) :
    (Spec.encode (m.sent narrow widen)).length = (Spec.encode m).length :=
  encode_length_viaDouble _ m

end Rtosc.Osc
