/-
  C12, text level — a closed-form cut for arrays of values whose type `rtosc_convert_to_range` never
  turns into an arithmetic run (`numeric_range_convertible_types` = "cihTF": floats, option symbols
  and strings are outside): the printer's segments are the maximal constant runs of five or more
  elements and plain values (`cutC`).  `cutC_ok`: for cells that are pairwise either equal or not
  identical in the sense of `range_args_identical`, `cutC` is a `CutOK` cut — for arrays of any
  content and any length up to 2^31-1 (the count of a repetition block is an `int32_t`).
  `arrCutOK_family`: the same for the values `f x` of a kind; instances: every array of finite floats
  (`arrCutOK_floats`), strings, option symbols, toggles.

  `cutC_ok` needs what `rtosc_convert_to_range` answers on two to four equal values and on a single value of a type
  outside "cihTF" (`convertToRange_shortConst`, `convertToRange_single_other`, from the exits of
  Proofs/PrettyRunConst.lean).
-/
import RtoscModel.Proofs.SaveTextCrit
namespace Rtosc.Save.Text
open Rtosc Rtosc.Libc Rtosc.Pretty Rtosc.Save
open Rtosc.ArgVal (Cell)

/-- two to four equal values followed by a different one: nothing is converted -/
theorem convertToRange_shortConst (c : Cell) (hsc : c.isScalar = true) (hid : SelfIdentical c) (k : Nat)
    (h2 : 2 ≤ k) (h5 : k < 5) (R : List Cell) (hR : ∀ x ∈ R, x.isScalar = true)
    (hnext : R = [] ∨ ∀ more, rangeArgsIdentical (c :: more) R = .ok false) :
    convertToRange defaultOpt (List.replicate k c ++ R) (k + R.length) = .ok none := by
  have h0 : List.replicate k c ++ R = c :: c :: (List.replicate (k - 2) c ++ R) := by
    obtain ⟨j, rfl⟩ : ∃ j, k = j + 2 := ⟨k - 2, by omega⟩
    simp [List.replicate_succ]
  have hall : ∀ x ∈ List.replicate k c ++ R, x.isScalar = true := fun x hx => by
    rcases List.mem_append.mp hx with h | h
    · rw [(List.mem_replicate.mp h).2]; exact hsc
    · exact hR x h
  obtain ⟨m, hcc⟩ := countCommon_ok c.type (List.replicate k c ++ R) hall (k + R.length) (by simp)
    (k + R.length + 1) 0 (by omega)
  have her := extendRun_replicate_next c hsc hid k R hnext (k + R.length + 1) 1 1 (by omega) (by omega)
  rw [h0] at hcc her ⊢
  by_cases h : k + R.length < rangeMin ∨ m < rangeMin
  · exact convertToRange_few _ c _ _ hsc hcc h
  · rw [not_or, Nat.not_lt, Nat.not_lt] at h
    rw [convertToRange_ident defaultOpt rfl c _ _ hsc h.1 hcc h.2 (hid _ _) her, if_neg (by unfold rangeMin; omega)]

/-- a value of a type outside "cihTF" followed by a different one: nothing is converted -/
theorem convertToRange_single_other (c : Cell) (hsc : c.isScalar = true)
    (hty : (lit "cihTF").contains c.type = false) (R : List Cell) (hR : ∀ x ∈ R, x.isScalar = true)
    (hnext : R = [] ∨ ∀ more, rangeArgsIdentical (c :: more) R = .ok false) :
    convertToRange defaultOpt (c :: R) (1 + R.length) = .ok none := by
  have hall : ∀ x ∈ c :: R, x.isScalar = true := fun x hx => by
    rcases List.mem_cons.mp hx with rfl | h
    · exact hsc
    · exact hR x h
  obtain ⟨m, hcc⟩ := countCommon_ok c.type (c :: R) hall (1 + R.length) (by simp; omega) (1 + R.length + 1) 0 (by omega)
  rcases hnext with rfl | h
  · exact convertToRange_few _ c _ _ hsc hcc (Or.inl (by decide))
  · exact convertToRange_other _ c R _ hsc hcc (h R) hty

/-- the number of leading cells equal to `c` -/
def runLen (c : Cell) : List Cell → Nat
  | [] => 0
  | x :: r => if x = c then runLen c r + 1 else 0

theorem runLen_le (c : Cell) (l : List Cell) : runLen c l ≤ l.length := by
  induction l with
  | nil => exact Nat.le_refl 0
  | cons x r ih =>
    unfold runLen
    split
    · exact Nat.succ_le_succ ih
    · exact Nat.zero_le _

theorem runLen_split (c : Cell) (l : List Cell) :
    l = List.replicate (runLen c l) c ++ l.drop (runLen c l) ∧
    (l.drop (runLen c l) = [] ∨ ∃ x r, l.drop (runLen c l) = x :: r ∧ x ≠ c) := by
  induction l with
  | nil => exact ⟨rfl, Or.inl rfl⟩
  | cons x r ih =>
    by_cases hx : x = c
    · subst hx
      rw [show runLen x (x :: r) = runLen x r + 1 from if_pos rfl, List.replicate_succ, List.cons_append,
        List.drop_succ_cons, ← ih.1]
      exact ⟨rfl, ih.2⟩
    · rw [show runLen c (x :: r) = 0 from if_neg hx]
      exact ⟨rfl, Or.inr ⟨x, r, rfl, hx⟩⟩

/-- maximal constant runs of five or more cells become `crun`s, every other cell a `tok` -/
def cutC : Nat → List Cell → List RSeg
  | 0, _ => []
  | _ + 1, [] => []
  | fuel + 1, c :: r =>
    if 5 ≤ runLen c r + 1 then .crun (runLen c r + 1) c :: cutC fuel (r.drop (runLen c r))
    else .tok c :: cutC fuel r

/-- the cells `cutC` is a cut for: scalars identical to themselves, two different ones never identical,
    of a type that is never made an arithmetic run — or two different ones have different type tags
    (toggles: 'T' and 'F'), so that `rtosc_convert_to_range` counts one cell of the type -/
structure ConstOnly (cells : List Cell) : Prop where
  scalar : ∀ c ∈ cells, c.isScalar = true
  selfId : ∀ c ∈ cells, SelfIdentical c
  other : ∀ c ∈ cells, (lit "cihTF").contains c.type = false ∨ ∀ x ∈ cells, x ≠ c → x.type ≠ c.type
  apart : ∀ c ∈ cells, ∀ x ∈ cells, x ≠ c → ∀ more more', rangeArgsIdentical (c :: more) (x :: more') = .ok false

theorem ConstOnly.sub {cells sub : List Cell} (h : ConstOnly cells) (hs : ∀ c ∈ sub, c ∈ cells) : ConstOnly sub :=
  ⟨fun c hc => h.scalar c (hs c hc), fun c hc => h.selfId c (hs c hc),
    fun c hc => (h.other c (hs c hc)).imp id (fun h' x hx => h' x (hs x hx)),
    fun c hc x hx => h.apart c (hs c hc) x (hs x hx)⟩

theorem cutC_ok : ∀ (fuel : Nat) (cells : List Cell), cells.length ≤ fuel → cells.length ≤ 2147483647 →
    ConstOnly cells → cellsAll (cutC fuel cells) = cells ∧ CutOK (cutC fuel cells)
  | 0, cells, hf, _, _ => by
    have : cells = [] := List.eq_nil_of_length_eq_zero (by omega)
    subst this
    exact ⟨rfl, .nil⟩
  | fuel + 1, [], _, _, _ => ⟨rfl, .nil⟩
  | fuel + 1, c :: r, hf, h31, hco => by
    obtain ⟨hsplit, hnext⟩ := runLen_split c r
    have hle := runLen_le c r
    have hcsc := hco.scalar c (by simp)
    have hcid := hco.selfId c (by simp)
    -- what follows the leading run is not identical to `c`
    have hR : ∀ x ∈ r.drop (runLen c r), x.isScalar = true := fun x hx =>
      hco.scalar x (List.mem_cons_of_mem _ (List.mem_of_mem_drop hx))
    have hni : r.drop (runLen c r) = [] ∨ ∀ more, rangeArgsIdentical (c :: more) (r.drop (runLen c r)) = .ok false := by
      rcases hnext with h | ⟨x, r', h, hx⟩
      · exact Or.inl h
      · right
        intro more
        rw [h]
        exact hco.apart c (by simp) x (List.mem_cons_of_mem _ (List.mem_of_mem_drop (by rw [h]; simp))) hx _ _
    simp only [List.length_cons] at hf h31
    unfold cutC
    by_cases h5 : 5 ≤ runLen c r + 1
    · simp only [h5, ↓reduceIte]
      obtain ⟨hc, hcut⟩ := cutC_ok fuel (r.drop (runLen c r)) (by simp only [List.length_drop]; omega)
        (by simp only [List.length_drop]; omega)
        (hco.sub (fun x hx => List.mem_cons_of_mem _ (List.mem_of_mem_drop hx)))
      refine ⟨?_, .cons _ _ ?_ hcut⟩
      · simp only [cellsAll, RSeg.cells, hc, List.replicate_succ, List.cons_append]
        rw [← hsplit]
      · rw [hc]
        exact SegStep.crun_of_next _ c _ hcsc hcid h5 (by omega) hR hni
    · simp only [h5, ↓reduceIte]
      obtain ⟨hc, hcut⟩ := cutC_ok fuel r (by omega) (by omega) (hco.sub (fun x hx => List.mem_cons_of_mem _ hx))
      refine ⟨by simp [cellsAll, RSeg.cells, hc], .cons _ _ ?_ hcut⟩
      rw [hc]
      show convertToRange defaultOpt (c :: r) (r.length + 1) = .ok none
      have hlen : r.length + 1 = (runLen c r + 1) + (r.drop (runLen c r)).length := by
        simp only [List.length_drop]; omega
      have hcells : c :: r = List.replicate (runLen c r + 1) c ++ r.drop (runLen c r) := by
        simp only [List.replicate_succ, List.cons_append]
        rw [← hsplit]
      by_cases h1 : runLen c r = 0
      · have hr0 : r.drop (runLen c r) = r := by rw [h1]; rfl
        rw [hr0] at hR hni hnext
        rcases hco.other c (by simp) with hty | hty
        · have := convertToRange_single_other c hcsc hty r hR hni
          rw [Nat.add_comm] at this
          exact this
        · -- the next cell has another type tag: fewer than five cells of the type of `c`
          refine SegStep.tok_of_short c r hco.scalar ?_
          rcases hnext with h | ⟨x, r', h, hx⟩
          · rw [h]; rfl
          · have hxt : x.type ≠ c.type := hty x (by rw [h]; simp) hx
            rw [h]
            simp [shortRun, hxt]
      · rw [hcells, hlen]
        exact convertToRange_shortConst c hcsc hcid _ (by omega) (by omega) _ hR hni

/-- two floats with different bit patterns are not identical for `range_args_identical`
    (numerically equal ones, +0 and -0, differ in their bits: fix C10-12) -/
theorem not_identical_flt (x y : UInt32) (hne : y ≠ x) (more more' : List Cell) :
    rangeArgsIdentical (Cell.flt x :: more) (Cell.flt y :: more') = .ok false := by
  rw [rangeArgsIdentical_scalars (Cell.flt x) (Cell.flt y) more more' [] [] rfl rfl]
  unfold rangeArgsIdentical
  rw [eqSingle_scalar_right (Cell.flt x) (Cell.flt y) [] [] rfl]
  have hxy : ¬ x = y := fun h => hne h.symm
  cases hf : ArgVal.f32.feq x.toNat y.toNat <;>
    simp [ArgVal.eqScalar, ArgVal.Cell.type, hf, liftAV, bind, Except.bind, pure, Except.pure, incsize, Pretty.deref, hxy]

/-- **every array of values of a family `f x` is cut into constant runs and plain values**
    (`hother`, `hapart`: what makes its cells `ConstOnly`) -/
theorem arrCutOK_family {α : Type} (f : α → Val)
    (hother : (∀ x, (lit "cihTF").contains (cellOfVal (f x)).type = false) ∨
      ∀ x y, cellOfVal (f y) ≠ cellOfVal (f x) → (cellOfVal (f y)).type ≠ (cellOfVal (f x)).type)
    (hapart : ∀ x y, ValTextOK (f x) → ValTextOK (f y) → cellOfVal (f y) ≠ cellOfVal (f x) → ∀ more more',
      rangeArgsIdentical (cellOfVal (f x) :: more) (cellOfVal (f y) :: more') = .ok false)
    (xs : List α) (hv : ∀ x ∈ xs, ValTextOK (f x)) (hlen : xs.length ≤ 2147483647) :
    ArrCutOK (xs.map f) (cutC xs.length ((xs.map f).map cellOfVal)) := by
  have hmem : ∀ c ∈ (xs.map f).map cellOfVal, ∃ x ∈ xs, cellOfVal (f x) = c := fun c hc => by
    obtain ⟨v, hv', rfl⟩ := List.mem_map.1 hc
    obtain ⟨x, hx, rfl⟩ := List.mem_map.1 hv'
    exact ⟨x, hx, rfl⟩
  refine cutC_ok xs.length _ (by simp) (by simpa using hlen) ⟨?_, ?_, ?_, ?_⟩
  all_goals
    intro c hc
    obtain ⟨x, hx, rfl⟩ := hmem c hc
  · exact cellOfVal_scalar _
  · exact selfIdentical_cellOfVal _ (hv x hx)
  · exact hother.imp (fun h => h x) fun h c hc hne => by
      obtain ⟨y, _, rfl⟩ := hmem c hc
      exact h x y hne
  · intro c hc hne
    obtain ⟨y, hy, rfl⟩ := hmem c hc
    exact hapart x y (hv x hx) (hv y hy) hne

theorem arrCutOK_floats (bs : List UInt32) (hfin : ∀ b ∈ bs, f32.expField b.toNat ≠ 255)
    (hlen : bs.length ≤ 2147483647) : ∃ body, ArrCutOK (bs.map Val.flt) body :=
  ⟨_, arrCutOK_family Val.flt (Or.inl fun _ => show (lit "cihTF").contains (102 : UInt8) = false by decide)
    (fun x y _ _ hne => not_identical_flt x y fun h => hne (by rw [h])) bs hfin hlen⟩

theorem not_identical_str (ty : ArgVal.StrTy) (a b : Bytes) (ha : ∀ x ∈ a, StrByteOK x) (hb : ∀ x ∈ b, StrByteOK x)
    (hne : b ≠ a) (more more' : List Cell) :
    rangeArgsIdentical (Cell.str ty (some a) :: more) (Cell.str ty (some b) :: more') = .ok false := by
  rw [rangeArgsIdentical_scalars (Cell.str ty (some a)) (Cell.str ty (some b)) more more' [] [] rfl rfl]
  unfold rangeArgsIdentical
  rw [eqSingle_scalar_right (Cell.str ty (some a)) (Cell.str ty (some b)) [] [] rfl]
  have hcmp : ¬ ArgVal.strcmpS a b = 0 := by
    unfold ArgVal.strcmpS
    rw [show ArgVal.cstrOf a = a from takeWhile_ok a ha, show ArgVal.cstrOf b = b from takeWhile_ok b hb,
      ArgVal.lexCmp_eq_zero_iff]
    exact fun h => hne h.symm
  simp [ArgVal.eqScalar, ArgVal.Cell.type, hcmp, liftAV, bind, Except.bind, pure, Except.pure]

theorem arrCutOK_strs (ss : List Bytes) (hok : ∀ s ∈ ss, ∀ b ∈ s, StrByteOK b) (hlen : ss.length ≤ 2147483647) :
    ∃ body, ArrCutOK (ss.map Val.str) body :=
  ⟨_, arrCutOK_family Val.str (Or.inl fun _ => show (lit "cihTF").contains (115 : UInt8) = false by decide)
    (fun x y hx hy hne => not_identical_str .s x y hx hy fun h => hne (by rw [h])) ss hok hlen⟩

theorem arrCutOK_syms (ps : List Path) (hok : ∀ p ∈ ps, ∀ c ∈ p, CharByte c ∧ StrByteOK (byteOfChar c))
    (hlen : ps.length ≤ 2147483647) : ∃ body, ArrCutOK (ps.map Val.sym) body := by
  have hb : ∀ p : Path, ValTextOK (.sym p) → ∀ b ∈ pathBytes p, StrByteOK b :=
    fun p hp => List.forall_mem_map.2 fun c hc => (hp c hc).2
  exact ⟨_, arrCutOK_family Val.sym (Or.inl fun _ => show (lit "cihTF").contains (83 : UInt8) = false by decide)
    (fun x y hx hy hne => not_identical_str .S _ _ (hb x hx) (hb y hy) fun h => hne (by rw [show cellOfVal (.sym y) = .str .S (some (pathBytes y)) from rfl, h]; rfl)) ps hok hlen⟩

theorem arrCutOK_toggles (bs : List Bool) (hlen : bs.length ≤ 2147483647) : ∃ body, ArrCutOK (bs.map Val.bool) body :=
  ⟨_, arrCutOK_family Val.bool
    (Or.inr fun x y hne => by cases x <;> cases y <;> first | exact absurd rfl hne | decide)
    (fun x y _ _ hne more more' => by
      rw [rangeArgsIdentical_scalars _ _ more more' [] [] (cellOfVal_scalar _) (cellOfVal_scalar _)]
      cases x <;> cases y <;> first | exact absurd rfl hne | rfl)
    bs (fun _ _ => trivial) hlen⟩

end Rtosc.Save.Text
