/-
  C12 — what a parameter reads and what a write leaves behind.  A parameter's guards, default and `expected` value
  read its ancestors only (`expected_frame`, `guardsOn_frame`, `ptrOff_frame`, `evalDflt_frame`); `setParam i` leaves the
  written value in `i` (`setParam_self`), the `expected` value in every dependant (`setParam_desc`) and touches
  nothing else (`wr`, `setParam_not_wr`); `setParam_pointwise` says the same parameter by parameter, for any clause that
  looks only at a parameter's value and its reads (`Local`).  Also the address look-up (`findAddr_some`, `findAddr_param`).
-/
import RtoscModel.Save.Spec

namespace Rtosc.Save

@[simp] theorem upd_same (s : State) (i : Nat) (v : Val) : (upd s i v) i = v := by
  show (if i = i then v else s i) = v
  simp

theorem upd_apply (s : State) (i j : Nat) (v : Val) : (upd s i v) j = if j = i then v else s j := rfl

theorem upd_ne (s : State) {i j : Nat} (v : Val) (h : j ≠ i) : (upd s i v) j = s j := by
  rw [upd_apply, if_neg h]

theorem guardsOn_congr (p : Param) (s t : State) (h : ∀ g ∈ p.guards, s g.1 = t g.1) :
    guardsOn p s = guardsOn p t := by
  unfold guardsOn
  rw [Bool.eq_iff_iff, List.all_eq_true, List.all_eq_true]
  exact forall₂_congr fun g hg => by rw [h g hg]

theorem ptrOff_congr (p : Param) (s t : State) (h : ∀ g ∈ p.guards, s g.1 = t g.1) :
    App.ptrOff p s = App.ptrOff p t := by
  unfold App.ptrOff
  rw [Bool.eq_iff_iff, List.any_eq_true, List.any_eq_true]
  exact exists_congr fun g => and_congr_right fun hg => by rw [h g hg]

theorem evalDflt_congr (p : Param) (s t : State)
    (h : ∀ par tbl fb, p.dflt = .preset par tbl fb → s par = t par) :
    evalDflt p s = evalDflt p t := by
  unfold evalDflt
  cases hd : p.dflt with
  | const v => rfl
  | preset par tbl fb => simp only [h par tbl fb hd]

theorem ptrOff_of_guardsOn (p : Param) (s : State) (h : guardsOn p s = true) : App.ptrOff p s = false := by
  rw [guardsOn, List.all_eq_true] at h
  rw [App.ptrOff, List.any_eq_false]
  intro g hg
  rw [h g hg]
  simp

namespace App
variable (app : App)

theorem param_eq_getElem {i : Nat} (h : i < app.size) : app.param i = app.params[i]'h := by
  unfold param
  exact (List.getElem_eq_getD (h := h) default).symm

theorem findAddr_some {a : Path} {i : Nat} (h : app.findAddr a = some i) :
    i < app.size ∧ (app.param i).addr = a := by
  unfold findAddr at h
  simp only at h
  split at h
  · next hlt =>
    cases h
    refine ⟨hlt, ?_⟩
    rw [param_eq_getElem app hlt]
    have := List.findIdx_getElem (w := hlt)
    simpa using this
  · cases h

theorem findAddr_param {i : Nat} (hnd : (app.params.map (·.addr)).Nodup) (h : i < app.size) :
    app.findAddr (app.param i).addr = some i := by
  have hidx : app.params.findIdx (fun p => p.addr == (app.param i).addr) = i := by
    have := hnd.idxOf_getElem i (by rw [List.length_map]; exact h)
    rw [List.getElem_map, List.idxOf, List.findIdx_map] at this
    rw [param_eq_getElem app h]
    exact this
  unfold findAddr
  simp only [hidx]
  exact if_pos h

theorem mem_desc {i k : Nat} : k ∈ app.desc i ↔ k < app.size ∧ i ∈ (app.param k).anc := by
  unfold desc
  simp [List.mem_filter]

theorem desc_sorted (i : Nat) : (app.desc i).Pairwise (· < ·) :=
  List.Pairwise.filter _ List.pairwise_lt_range

variable {app}

theorem guardsOn_frame (hwf : app.WF) {i : Nat} (hi : i < app.size) (s t : State)
    (h : ∀ a ∈ (app.param i).anc, s a = t a) :
    guardsOn (app.param i) s = guardsOn (app.param i) t :=
  guardsOn_congr _ s t (fun g hg => h _ (hwf.guards_anc i hi g hg))

theorem ptrOff_frame (hwf : app.WF) {i : Nat} (hi : i < app.size) (s t : State)
    (h : ∀ a ∈ (app.param i).anc, s a = t a) :
    ptrOff (app.param i) s = ptrOff (app.param i) t :=
  ptrOff_congr _ s t (fun g hg => h _ (hwf.guards_anc i hi g hg))

theorem evalDflt_frame (hwf : app.WF) {i : Nat} (hi : i < app.size) (s t : State)
    (h : ∀ a ∈ (app.param i).anc, s a = t a) :
    evalDflt (app.param i) s = evalDflt (app.param i) t :=
  evalDflt_congr _ s t (fun par tbl fb hd => h _ (hwf.preset_anc i hi par tbl fb hd))

theorem expected_frame (hwf : app.WF) {i : Nat} (hi : i < app.size) (s t : State)
    (h : ∀ a ∈ (app.param i).anc, s a = t a) :
    expected (app.param i) s = expected (app.param i) t := by
  unfold expected
  rw [guardsOn_frame hwf hi s t h, evalDflt_frame hwf hi s t h]

theorem cascade_not_mem (app : App) (ds : List Nat) (s : State) {k : Nat} (h : k ∉ ds) :
    app.cascade ds s k = s k := by
  induction ds generalizing s with
  | nil => rfl
  | cons d r ih =>
    simp only [List.mem_cons, not_or] at h
    show app.cascade r (upd s d (expected (app.param d) s)) k = s k
    rw [ih _ h.2, upd_ne _ _ h.1]

theorem cascade_mem (hwf : app.WF) (ds : List Nat) (hs : ds.Pairwise (· < ·))
    (hlt : ∀ d ∈ ds, d < app.size) (s : State) {d : Nat} (hd : d ∈ ds) :
    app.cascade ds s d = expected (app.param d) (app.cascade ds s) := by
  induction ds generalizing s with
  | nil => cases hd
  | cons e r ih =>
    have hs' := List.pairwise_cons.mp hs
    show app.cascade r (upd s e (expected (app.param e) s)) d
      = expected (app.param d) (app.cascade r (upd s e (expected (app.param e) s)))
    rcases List.mem_cons.mp hd with rfl | hdr
    · have hdr : d ∉ r := fun hm => Nat.lt_irrefl _ (hs'.1 d hm)
      have hds : d < app.size := hlt d List.mem_cons_self
      rw [cascade_not_mem app r _ hdr, upd_same]
      apply expected_frame hwf hds
      intro a ha
      have had : a < d := hwf.anc_lt d hds a ha
      have har : a ∉ r := fun hm => by have := hs'.1 a hm; omega
      rw [cascade_not_mem app r _ har, upd_ne _ _ (Nat.ne_of_lt had)]
    · exact ih hs'.2 (fun x hx => hlt x (List.mem_cons_of_mem _ hx)) _ hdr

/-- `a` is `j` or one of its ancestors -/
def le (app : App) (a j : Nat) : Prop := a = j ∨ a ∈ (app.param j).anc

theorem le_trans (hwf : app.WF) {a x j : Nat} (hj : j < app.size) (h1 : app.le a x) (h2 : app.le x j) :
    app.le a j := by
  rcases h2 with rfl | h2
  · exact h1
  · rcases h1 with rfl | h1
    · exact Or.inr h2
    · exact Or.inr (hwf.anc_closed j hj x h2 a h1)

/-- write set of `setParam i` -/
def wr (app : App) (i k : Nat) : Prop := k = i ∨ k ∈ app.desc i

theorem wr_iff {i k : Nat} (hi : i < app.size) : app.wr i k ↔ k < app.size ∧ app.le i k := by
  unfold wr le
  rw [mem_desc]
  constructor
  · rintro (rfl | h)
    · exact ⟨hi, Or.inl rfl⟩
    · exact ⟨h.1, Or.inr h.2⟩
  · rintro ⟨hk, rfl | h⟩
    · exact Or.inl rfl
    · exact Or.inr ⟨hk, h⟩

theorem setParam_not_wr (app : App) (i : Nat) (v : Val) (s : State) {k : Nat} (h : ¬ app.wr i k) :
    app.setParam i v s k = s k := by
  unfold wr at h
  simp only [not_or] at h
  unfold setParam
  split
  · rfl
  · rw [cascade_not_mem app _ _ h.2, upd_ne _ _ h.1]

theorem not_mem_desc_self (hwf : app.WF) (i : Nat) : i ∉ app.desc i := by
  intro h
  have := (mem_desc app).mp h
  exact Nat.lt_irrefl _ (hwf.anc_lt i this.1 i this.2)

theorem anc_not_wr (hwf : app.WF) {i j : Nat} (hj : j < app.size) (h : ¬ app.wr i j) :
    ∀ a ∈ (app.param j).anc, ¬ app.wr i a := by
  intro a ha hw
  have hia : app.le i a := hw.imp Eq.symm fun hw => ((mem_desc app).mp hw).2
  exact h ((le_trans hwf hj hia (Or.inr ha)).imp Eq.symm fun h' => (mem_desc app).mpr ⟨hj, h'⟩)

theorem anc_self_not_wr (hwf : app.WF) {i : Nat} (hi : i < app.size) :
    ∀ a ∈ (app.param i).anc, ¬ app.wr i a := by
  intro a ha hw
  have hai := hwf.anc_lt i hi a ha
  rcases hw with rfl | hw
  · exact Nat.lt_irrefl _ hai
  · have := (mem_desc app).mp hw
    have := hwf.anc_lt a this.1 i this.2
    omega

theorem setParam_self (hwf : app.WF) (i : Nat) (v : Val) (s : State) : app.setParam i v s i = v := by
  unfold setParam
  split
  · next h => exact h.2
  · rw [cascade_not_mem app _ _ (not_mem_desc_self hwf i), upd_same]

theorem setParam_desc (hwf : app.WF) (i : Nat) (v : Val) (s : State)
    (hne : ¬ ((app.param i).kind = .tog ∧ s i = v)) {d : Nat} (hd : d ∈ app.desc i) :
    app.setParam i v s d = expected (app.param d) (app.setParam i v s) := by
  unfold setParam
  rw [if_neg hne]
  exact cascade_mem hwf _ (desc_sorted app i) (fun d hd => ((mem_desc app).mp hd).1) _ hd

theorem setParam_expected_not_wr (hwf : app.WF) (i : Nat) (v : Val) (s : State) {j : Nat}
    (hj : j < app.size) (h : ¬ app.wr i j) :
    expected (app.param j) (app.setParam i v s) = expected (app.param j) s :=
  expected_frame hwf hj _ _ (fun a ha => setParam_not_wr app i v s (anc_not_wr hwf hj h a ha))

/-- a clause about parameter `k` that looks at its value and at what it reads only -/
def Local (app : App) (Q : Nat → State → Prop) : Prop :=
  ∀ k, k < app.size → ∀ s t : State, s k = t k → (∀ a ∈ (app.param k).anc, s a = t a) → Q k s → Q k t

/-- what a write does, parameter by parameter: untouched ones keep every local clause, the written one is judged
    on its new value over unchanged reads, a dependant on holding its `expected` value -/
theorem setParam_pointwise (hwf : app.WF) {Q : Nat → State → Prop} (hQ : app.Local Q) {i : Nat} (hi : i < app.size)
    (v : Val) (s : State)
    (hs : ∀ k, k < app.size → ¬ app.wr i k ∨ s i = v → Q k s)
    (hself : ∀ t : State, t i = v → (∀ a ∈ (app.param i).anc, t a = s a) → Q i t)
    (hdesc : ∀ k ∈ app.desc i, ∀ t : State, t k = expected (app.param k) t → Q k t)
 :
    ∀ k, k < app.size → Q k (app.setParam i v s) := by
  intro k hk
  by_cases hne : (app.param i).kind = .tog ∧ s i = v
  · have : app.setParam i v s = s := by unfold setParam; rw [if_pos hne]
    rw [this]
    exact hs k hk (.inr hne.2)
  · by_cases hki : k = i
    · subst hki
      exact hself _ (setParam_self hwf _ _ _) fun a ha => setParam_not_wr app k v s (anc_self_not_wr hwf hi a ha)
    · by_cases hd : k ∈ app.desc i
      · exact hdesc k hd _ (setParam_desc hwf i v s hne hd)
      · have hnw : ¬ app.wr i k := fun h => h.elim hki hd
        exact hQ k hk s _ (setParam_not_wr app i v s hnw).symm
          (fun a ha => (setParam_not_wr app i v s (anc_not_wr hwf hk hnw a ha)).symm) (hs k hk (.inl hnw))

theorem not_wr_outside {i j : Nat} (hi : i < app.size) (hj : app.size ≤ j) : ¬ app.wr i j := by
  rintro (rfl | h)
  · omega
  · have := ((mem_desc app).mp h).1; omega

end App

end Rtosc.Save
