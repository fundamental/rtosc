/-
  C04 helper lemmas: with a location buffer, every lookup strategy computes
  `semLoc` — the linear search directly, the hashed lookup because the tables satisfy
  `HashOK` (`MkOK`: whatever table-construction function is used, as long as its guards
  establish `HashOK`; `matcherOf_MkOK`: `refreshMagic` with any heuristic search does).
-/
import RtoscModel.Proofs.PortsTrace
import RtoscModel.Proofs.PortsHash
namespace Rtosc.Ports
open Rtosc Rtosc.Match Rtosc.Ports.Hash

/-- `refreshMagic`, with whatever heuristic search, is such a function -/
theorem matcherOf_MkOK (S : Search) : MkOK (matcherOf S) where
  ok := matcherOf_HashOK S
  total := fun names => let ⟨pm, h, _⟩ := matcherOf_cases S names; ⟨pm, h⟩

theorem wf_pats : ∀ {t : PTable}, t.WF → ∀ q ∈ t.pats, nameWf q = true := by
  intro t
  induction t with
  | nil => intro _ q hq; simp [PTable.pats] at hq
  | leaf p r ih =>
    intro h q hq
    rcases List.mem_cons.mp hq with rfl | hq
    · exact h.leaf_name
    · exact ih h.leaf_rest q hq
  | node p c d r _ ih =>
    intro h q hq
    rcases List.mem_cons.mp hq with rfl | hq
    · exact nodeNameWf_name h.node_name
    · exact ih h.node_rest q hq

/-- what the hashed lookup finds, under `HashOK`: the one port that matches, or nothing
    when nothing matches -/
theorem lookup_cases {t : PTable} (hwf : t.WF) {pm : Matcher}
    (hok : HashOK (t.pats.map Pat.render) pm) {a tags rst : Bytes} (k : Nat) (hm : MsgOK a tags) :
    ∃ r, lookup pm (msgBuf a tags k rst) = some r ∧
      match r with
      | .slot j true => ∃ p t', t.pats[j]? = some p ∧ allLit p.segs = true ∧ matchB p a tags = some t' ∧
          (∀ j' q, t.pats[j']? = some q → j' ≠ j → matchB q a tags = none) ∧
          pm.fixed[j]? = some (keyOf p) ∧ pm.enump[j]? = some false
      | _ => ∀ q ∈ t.pats, matchB q a tags = none := by
  have hcomplete : ∀ j q t', t.pats[j]? = some q → matchB q a tags = some t' →
      lookup pm (msgBuf a tags k rst) = some (.slot j true) := by
    intro j q t' hj hq
    have hqm : q ∈ t.pats := List.mem_of_getElem? hj
    obtain ⟨h0, hne, hna⟩ := nameWf_unpack (wf_pats hwf q hqm)
    exact lookup_complete hok h0 hne hna j (by simp [hj]) k rst hm.a_nul hm.t_nul hq
  -- hence a row that the lookup does not select does not match
  have hother : ∀ {r}, lookup pm (msgBuf a tags k rst) = some r → ∀ j q, t.pats[j]? = some q →
      r ≠ .slot j true → matchB q a tags = none := by
    intro r hl j q hj hne
    cases hmq : matchB q a tags with
    | none => rfl
    | some t' => rw [hcomplete j q t' hj hmq] at hl; exact absurd (Option.some.inj hl).symm hne
  have hnone : ∀ {r}, lookup pm (msgBuf a tags k rst) = some r → (∀ j, r ≠ .slot j true) →
      ∀ q ∈ t.pats, matchB q a tags = none := by
    intro r hl hr q hq
    obtain ⟨j, hjlt, hj⟩ := List.getElem_of_mem hq
    exact hother hl j q (by simp [hj, hjlt]) (hr j)
  cases hr : pm.remap[hashStr pm.pos pm.assoc (a.take (compLen a))]? with
  | none =>
    have hl := lookup_addr pm (msgTail k tags rst) hm.a_nul
    simp only [hr] at hl
    exact ⟨.outside, hl, hnone hl (fun j h => by cases h)⟩
  | some j =>
    have hjlt : j < t.pats.length := by
      have := hok.remapRange j (List.mem_of_getElem? hr)
      simpa using this
    have hjp : t.pats[j]? = some t.pats[j] := List.getElem?_eq_getElem hjlt
    have hqm : t.pats[j] ∈ t.pats := List.getElem_mem hjlt
    obtain ⟨h0, hne, hna⟩ := nameWf_unpack (wf_pats hwf _ hqm)
    have hrm : t.pats[j].render ∈ t.pats.map Pat.render := List.mem_map.mpr ⟨_, hqm, rfl⟩
    have hs := hok.litSlot h0 hne hna (i := j) (by simp [hjp])
    have hen : pm.enump[j]? = some false := by
      rw [hok.enump]; simp [hjp, hok.noHash _ hrm]
    have hl := lookup_slot hs k rst hm.a_nul hm.t_nul hr
    cases hmb : matchB t.pats[j] a tags with
    | none =>
      rw [hmb] at hl
      exact ⟨_, hl, hnone hl (fun j h => by cases h)⟩
    | some t' =>
      rw [hmb] at hl
      exact ⟨_, hl, _, t', hjp, hs.lit, hmb, fun j' q hj' hne' => hother hl j' q hj' (by simp [Ne.symm hne']), hs.fixed, hen⟩

theorem cutLoc_eq (d : RtData) (L c : Bytes) (h : d.loc = some (L ++ c)) :
    d.cutLoc L.length = { d with loc := some L } := by
  simp [RtData.cutLoc, RtData.locStr, h]

theorem cutLoc_self (d : RtData) (L : Bytes) (h : d.loc = some L) :
    d.cutLoc L.length = d := by
  cases d
  simp only [RtData.cutLoc, RtData.locStr] at h ⊢
  subst h
  simp

theorem missLoc_eq (cd : Bool) (tp obj : List Nat) (m : Bytes) (d : RtData) :
    missLoc cd tp obj m d = some (finLoc cd tp obj m ([], d, false)) := by
  cases cd <;> simp [missLoc, finLoc]

/-- the linear search with location buffer computes `semLoc` -/
def LinOK (mk : List Bytes → Option Matcher) (k : Nat) (tags rst : Bytes) (t : PTable) : Prop :=
  ∀ (tp : List Nat) (i : Nat) (obj : List Nat) (L a : Bytes) (d : RtData) (mt : Bool),
    MsgOK a tags → d.loc = some L → L ≠ [] →
    scanLoc mk t.render tp i obj L.length (msgBuf a tags k rst) d mt =
      some (semLoc t tp i obj L a tags (msgTail k tags rst) d mt)

/-- the code behind a successful `hard_match`, for the one row that matches -/
def HshOK (mk : List Bytes → Option Matcher) (k : Nat) (tags rst : Bytes) (t : PTable) : Prop :=
  ∀ (tp : List Nat) (i j : Nat) (obj : List Nat) (L a : Bytes) (d : RtData) (p : Pat) (t' : Bytes),
    MsgOK a tags → d.loc = some L → L ≠ [] → t.pats[j]? = some p → allLit p.segs = true →
    matchB p a tags = some t' → (∀ j' q, t.pats[j']? = some q → j' ≠ j → matchB q a tags = none) →
    hashedAt mk t.render tp i (i + j) obj L.length (keyOf p) false (msgBuf a tags k rst) d =
      some ((semLoc t tp i obj L a tags (msgTail k tags rst) d false).1,
            (semLoc t tp i obj L a tags (msgTail k tags rst) d false).2.1)

/-- a whole nested `dispatch` with location buffer -/
def EntOK (mk : List Bytes → Option Matcher) (k : Nat) (tags rst : Bytes) (t : PTable) : Prop :=
  ∀ (cd : Bool) (tp : List Nat) (L a : Bytes) (d : RtData),
    MsgOK a tags → d.loc = some L → L ≠ [] →
    enterLoc mk t.render.names cd tp (msgBuf a tags k rst) d
      (fun oe dd => scanLoc mk t.render tp 0 d.obj oe (msgBuf a tags k rst) dd false)
      (fun oe k' key en dd => hashedAt mk t.render tp 0 k' d.obj oe key en (msgBuf a tags k rst) dd) =
    some (finLoc cd tp d.obj (msgBuf a tags k rst)
            (semLoc t tp 0 d.obj L a tags (msgTail k tags rst) d false))

theorem ent_of {mk : List Bytes → Option Matcher} (hmk : MkOK mk) {k : Nat} {tags rst : Bytes}
    {t : PTable} (hwf : t.WF)
    (hlin : LinOK mk k tags rst t) (hhsh : HshOK mk k tags rst t) : EntOK mk k tags rst t := by
  intro cd tp L a d hm hloc hL
  have hls : d.locStr = L := by simp [RtData.locStr, hloc]
  have hemp : L.isEmpty = false := by simpa using hL
  obtain ⟨pm, hpm⟩ := hmk.total t.render.names
  unfold enterLoc
  simp only [hls, hemp, Bool.false_eq_true, ↓reduceIte, hpm]
  by_cases hpos : pm.pos.isEmpty = true
  · simp only [hpos, ↓reduceIte]
    rw [hlin tp 0 d.obj L a d false hm hloc hL, finishLoc_some]
  · simp only [hpos, Bool.false_eq_true, ↓reduceIte]
    have hok := hmk.ok _ _ hpm (by simpa using hpos)
    rw [render_names] at hok
    obtain ⟨r, hr, hcase⟩ := lookup_cases hwf hok k hm
    rw [hr]
    cases r with
    | outside =>
      simp only at hcase
      simp only [missLoc_eq, semLoc_none t tp 0 d.obj L a tags _ d false (PTable.hits_false hcase)]
    | slot j b =>
      cases b with
      | false =>
        simp only at hcase
        simp only [missLoc_eq, semLoc_none t tp 0 d.obj L a tags _ d false (PTable.hits_false hcase)]
      | true =>
        simp only at hcase
        obtain ⟨p, t', hjp, hlit, hmb, huniq, hfix, hen⟩ := hcase
        simp only [hfix, hen]
        have := hhsh tp 0 j d.obj L a d p t' hm hloc hL hjp hlit hmb huniq
        rw [Nat.zero_add] at this
        rw [this]
        simp only [finLoc, semLoc_flag, PTable.hits_of_get hjp hmb, Bool.or_true, Bool.not_true, Bool.false_and,
          Bool.false_eq_true, ↓reduceIte]

theorem node_lin_step (c : Call) (E : Out) (X : List Call × RtData) (hE : E = some X)
    (L cs : Bytes) (hX : X.2.loc = some (L ++ cs)) (obj : List Nat)
    (scan : RtData → ScanOut) (sem : RtData → List Call × RtData × Bool)
    (hs : ∀ d', d'.loc = some L → scan d' = some (sem d')) :
    prepend c (andThen E (fun d4 => scan (RtData.cutLoc { d4 with obj := obj } L.length))) =
      some (c :: (X.1 ++ (sem { X.2 with obj := obj, loc := some L }).1),
            (sem { X.2 with obj := obj, loc := some L }).2.1,
            (sem { X.2 with obj := obj, loc := some L }).2.2) := by
  subst hE
  have hc : RtData.cutLoc { X.2 with obj := obj } L.length = { X.2 with obj := obj, loc := some L } :=
    cutLoc_eq _ L cs hX
  have := hs { X.2 with obj := obj, loc := some L } rfl
  rw [andThen_some X _ _ (by simp only [hc]; exact this), prepend_some]

theorem node_hsh_step (c : Call) (E : Out) (X : List Call × RtData) (hE : E = some X)
    (L cs : Bytes) (hX : X.2.loc = some (L ++ cs)) (obj : List Nat) :
    (match E with
     | none => none
     | some (l, d4) => some (c :: l, RtData.cutLoc { d4 with obj := obj } L.length)) =
      some (c :: X.1, { X.2 with obj := obj, loc := some L }) := by
  subst hE
  obtain ⟨l, d4⟩ := X
  have hc : RtData.cutLoc { d4 with obj := obj } L.length = { d4 with obj := obj, loc := some L } :=
    cutLoc_eq _ L cs hX
  simp only [hc]

theorem rest_unmatched {p : Pat} {rest : List Pat} {a tags : Bytes}
    (huniq : ∀ j' q, (p :: rest)[j']? = some q → j' ≠ 0 → matchB q a tags = none) :
    ∀ q ∈ rest, matchB q a tags = none := by
  intro q hq
  obtain ⟨j', hjlt, hj'⟩ := List.getElem_of_mem hq
  exact huniq (j' + 1) q (by simp [hj', hjlt]) (by omega)

theorem uniq_tail {p : Pat} {rest : List Pat} {a tags : Bytes} {j : Nat}
    (huniq : ∀ j' q, (p :: rest)[j']? = some q → j' ≠ j + 1 → matchB q a tags = none) :
    matchB p a tags = none ∧ ∀ j' q, rest[j']? = some q → j' ≠ j → matchB q a tags = none :=
  ⟨huniq 0 p rfl (by omega), fun j' q hj' hne' => huniq (j' + 1) q (by simpa using hj') (by omega)⟩

theorem lin_hsh {mk : List Bytes → Option Matcher} (hmk : MkOK mk) (k : Nat) (tags rst : Bytes) :
    ∀ (t : PTable), t.WF → LinOK mk k tags rst t ∧ HshOK mk k tags rst t := by
  intro t
  induction t with
  | nil =>
    intro _
    refine ⟨?_, ?_⟩
    · intro tp i obj L a d mt _ _ _; rfl
    · intro tp i j obj L a d p t' _ _ _ hj; simp [PTable.pats] at hj
  | leaf p rest ih =>
    intro hwf
    obtain ⟨ihL, ihH⟩ := ih hwf.leaf_rest
    refine ⟨?_, ?_⟩
    · intro tp i obj L a d mt hm hloc hL
      obtain ⟨e, hfull, he⟩ := full_render hwf.leaf_name k rst hm.a_nul hm.a_idx hm.t_nul
      simp only [PTable.render, scanLoc, hfull, semLoc]
      cases hmb : matchB p a tags with
      | none => simpa using ihL tp (i + 1) obj L a d mt hm hloc hL
      | some t =>
        have hee := he t hmb
        subst hee
        simp only [Option.isSome_some]
        have happ := locAppend_eq hwf.leaf_name hm.a_nul hmb L (msgTail k tags rst)
          { d with nmatches := d.nmatches + 1 } hloc
        rw [happ, cutLoc_eq _ L (consumed a t) rfl]
        rw [ihL tp (i + 1) obj L a _ true hm rfl hL, prepend_some]
    · intro tp i j obj L a d q t' hm hloc hL hj hlit hmb huniq
      cases j with
      | zero =>
        simp only [PTable.pats, List.getElem?_cons_zero, Option.some.injEq] at hj
        subst hj
        have hrest := rest_unmatched huniq
        have hcl := consumed_lit hlit (matchB_greedy hmb)
        simp only [PTable.render, hashedAt, Nat.add_zero, ↓reduceIte, Bool.false_eq_true, semLoc, hmb,
          semLoc_none rest tp (i + 1) obj L a tags _ _ true (PTable.hits_false hrest)]
        have hls : ({ d with nmatches := d.nmatches + 1 } : RtData).locStr = L := by simp [RtData.locStr, hloc]
        rw [hls, List.take_length, ← hcl, cutLoc_eq _ L (consumed a t') rfl]
      | succ j =>
        simp only [PTable.pats, List.getElem?_cons_succ] at hj
        obtain ⟨hp, huniq'⟩ := uniq_tail huniq
        have hne : ¬ i = i + (j + 1) := by omega
        simp only [PTable.render, hashedAt, hne, ↓reduceIte, semLoc, hp]
        rw [show i + (j + 1) = i + 1 + j by omega]
        exact ihH tp (i + 1) j obj L a d q t' hm hloc hL hj hlit hmb huniq'
  | node p child cd rest ihc ihr =>
    intro hwf
    obtain ⟨ihL, ihH⟩ := ihr hwf.node_rest
    obtain ⟨icL, icH⟩ := ihc hwf.node_child
    -- the nested dispatch on the sub-table, and `loc` when it returns
    have hchild : ∀ (tp : List Nat) (i : Nat) (L a t : Bytes) (d : RtData), MsgOK a tags → L ≠ [] →
        ∃ X, enterLoc mk child.render.names cd (tp ++ [i]) (msgBuf (levelTail a) tags k rst)
            { ({ (d.setLoc (L ++ consumed a t)) with port := some (tp ++ [i]) } : RtData) with obj := tp ++ [i] }
            (fun oe dd => scanLoc mk child.render (tp ++ [i]) 0 (tp ++ [i]) oe (msgBuf (levelTail a) tags k rst) dd false)
            (fun oe k' key en dd => hashedAt mk child.render (tp ++ [i]) 0 k' (tp ++ [i]) oe key en
              (msgBuf (levelTail a) tags k rst) dd) = some X ∧
          X = finLoc cd (tp ++ [i]) (tp ++ [i]) (msgBuf (levelTail a) tags k rst)
            (semLoc child (tp ++ [i]) 0 (tp ++ [i]) (L ++ consumed a t) (levelTail a) tags (msgTail k tags rst)
              { ({ (d.setLoc (L ++ consumed a t)) with port := some (tp ++ [i]) } : RtData) with obj := tp ++ [i] }
              false) ∧
          X.2.loc = some (L ++ consumed a t) := by
      intro tp i L a t d hm hL
      refine ⟨_, ent_of hmk hwf.node_child icL icH cd (tp ++ [i]) (L ++ consumed a t) (levelTail a) _ hm.next rfl
        (by simp [hL]), rfl, ?_⟩
      rw [finLoc_loc]; exact semLoc_loc _ _ _ _ _ _ _ rfl rfl
    have hnw := nodeNameWf_name hwf.node_name
    refine ⟨?_, ?_⟩
    · intro tp i obj L a d mt hm hloc hL
      obtain ⟨e, hfull, he⟩ := full_render hnw k rst hm.a_nul hm.a_idx hm.t_nul
      simp only [PTable.render, scanLoc, hfull, semLoc]
      cases hmb : matchB p a tags with
      | none => simpa using ihL tp (i + 1) obj L a d mt hm hloc hL
      | some t =>
        have hee := he t hmb
        subst hee
        simp only [Option.isSome_some, snip_addr a _ hm.a_nul]
        have happ := locAppend_eq hnw hm.a_nul hmb L (msgTail k tags rst) d hloc
        rw [happ]
        obtain ⟨X, hE, rfl, hlocc⟩ := hchild tp i L a t d hm hL
        exact node_lin_step _ _ _ hE L (consumed a t) hlocc obj
          (fun d' => scanLoc mk rest.render tp (i + 1) obj L.length (msgBuf a tags k rst) d' true)
          (fun d' => semLoc rest tp (i + 1) obj L a tags (msgTail k tags rst) d' true)
          (fun d' h => ihL tp (i + 1) obj L a d' true hm h hL)
    · intro tp i j obj L a d q t' hm hloc hL hj hlit hmb huniq
      cases j with
      | zero =>
        simp only [PTable.pats, List.getElem?_cons_zero, Option.some.injEq] at hj
        subst hj
        have hrest := rest_unmatched huniq
        have hcl := consumed_lit hlit (matchB_greedy hmb)
        have hls : d.locStr = L := by simp [RtData.locStr, hloc]
        obtain ⟨X, hE, rfl, hlocc⟩ := hchild tp i L a t' d hm hL
        simp only [PTable.render, hashedAt, Nat.add_zero, ↓reduceIte, Bool.false_eq_true, semLoc, hmb,
          snip_addr a _ hm.a_nul, hls, List.take_length, ← hcl,
          semLoc_none rest tp (i + 1) obj L a tags _ _ true (PTable.hits_false hrest), List.append_nil]
        exact node_hsh_step _ _ _ hE L (consumed a t') hlocc obj
      | succ j =>
        simp only [PTable.pats, List.getElem?_cons_succ] at hj
        obtain ⟨hp, huniq'⟩ := uniq_tail huniq
        have hne : ¬ i = i + (j + 1) := by omega
        simp only [PTable.render, hashedAt, hne, ↓reduceIte, semLoc, hp]
        rw [show i + (j + 1) = i + 1 + j by omega]
        exact ihH tp (i + 1) j obj L a d q t' hm hloc hL hj hlit hmb huniq'

end Rtosc.Ports
