/-
  C08: the recursive decomposition of an encoded packet gives back the packet, for every nesting
  depth — mutual structural induction over `Elem` / `List Elem`.
-/
import RtoscModel.Proofs.BundleRead
namespace Rtosc.Osc
open Rtosc

theorem bundleElements_exact (tt : UInt64) (es : List Elem) (rest : Bytes)
    (hsz : (Spec.encodeElem (.bundle tt es)).length < 4294967296) :
    bundleElements (Spec.encodeElem (.bundle tt es) ++ rest) (Spec.encodeElem (.bundle tt es)).length =
      .ok es.length := by
  have hl := encodeElem_bundle_length tt es
  have hle := elems_length_le es
  unfold bundleElements
  rw [elementsLoop_spec _ es 16 0 _ rest (drop16_bundle tt es rest) (by unfold SmallElems; omega)
    (by omega) (Or.inl (by omega))]
  simp

/-- element `k` of a bundle as the readers deliver it: offset, size, and the memory from there on -/
theorem elem_view (tt : UInt64) (all : List Elem) (rest : Bytes) (k : Nat) (hk : k < all.length)
    (hsz : (Spec.encodeElem (.bundle tt all)).length < 4294967296) :
    bundleFetch (Spec.encodeElem (.bundle tt all) ++ rest) k = some (some (Spec.elemOffset all k)) ∧
    bundleSize (Spec.encodeElem (.bundle tt all) ++ rest) k = some (Spec.encodeElem all[k]).length ∧
    (Spec.encodeElem (.bundle tt all) ++ rest).drop (Spec.elemOffset all k) =
      Spec.encodeElem all[k] ++ (Spec.encodeElems (all.drop (k + 1)) ++ rest) := by
  have hl := encodeElem_bundle_length tt all
  have hle := elems_length_le all
  have hs : SmallElems all := by unfold SmallElems; omega
  have hd := drop16_bundle tt all rest
  refine ⟨?_, ?_, ?_⟩
  · unfold bundleFetch
    rw [fetchLoop_spec all k 16 rest hd hk hs]
    simp only [Spec.elemOffset]; congr 2; omega
  · unfold bundleSize
    rw [u32_id (by omega)]
    exact bsizeLoop_spec all k 16 0 rest hk hd hs
  · have h1 := drop_elem all k 16 rest hk hd
    have h2 := drop_add_of_drop h1
    rw [be32_length] at h2
    have : Spec.elemOffset all k = 16 + Spec.elemRel all k + 4 := by simp only [Spec.elemOffset]; omega
    rw [this, h2]

mutual
theorem decompose_spec : ∀ (e : Elem) (rest : Bytes) (d : Nat), Elem.WF e → Elem.depth e < d →
    decompose d (Spec.encodeElem e ++ rest) (Spec.encodeElem e).length = .ok (Elem.packet e)
  | .msg m, rest, d, hwf, hd => by
    obtain ⟨d', rfl⟩ : ∃ d', d = d' + 1 := ⟨d - 1, by omega⟩
    simp only [Elem.WF] at hwf
    have he : Spec.encodeElem (.msg m) = Spec.encode m := by simp only [Spec.encodeElem]
    rw [he]
    simp only [decompose, show bundleP _ = _ from magicU_msg m rest hwf.1 hwf.2, Elem.packet]
    rw [if_pos (by simp), List.take_left]
  | .bundle tt es, rest, d, hwf, hd => by
    obtain ⟨d', rfl⟩ : ∃ d', d = d' + 1 := ⟨d - 1, by omega⟩
    simp only [Elem.WF] at hwf
    simp only [Elem.depth] at hd
    have hel := decompElems_spec es es tt rest 0 d' hwf.1 (by omega) (by simp) hwf.2
    simp only [decompose, bundleP, magicU_bundle tt es rest, rd64_of_drop (drop8_bundle tt es rest), bundleTimetag,
      bundleElements_exact tt es rest hwf.2, hel, Elem.packet]
theorem decompElems_spec : ∀ (es all : List Elem) (tt : UInt64) (rest : Bytes) (k d : Nat),
    Elems.WF es → Elems.depth es < d → all.drop k = es →
    (Spec.encodeElem (.bundle tt all)).length < 4294967296 →
    elemsVia (decompose d) (Spec.encodeElem (.bundle tt all) ++ rest) (List.range' k es.length) =
      .ok (Elems.packets es)
  | [], all, tt, rest, k, d, _, _, _, _ => by simp [elemsVia, Elems.packets]
  | e :: es, all, tt, rest, k, d, hwf, hd, hdrop, hsz => by
    have hget := getElem?_of_drop hdrop
    have hrest := drop_succ_of_drop_cons hdrop
    obtain ⟨hk, hek⟩ := List.getElem?_eq_some_iff.mp hget
    simp only [Elems.WF] at hwf
    simp only [Elems.depth] at hd
    obtain ⟨hf, hs, hv⟩ := elem_view tt all rest k hk hsz
    rw [hek] at hs hv
    have h1 := decompose_spec e (Spec.encodeElems (all.drop (k + 1)) ++ rest) d hwf.1 (by omega)
    have h2 := decompElems_spec es all tt rest (k + 1) d hwf.2 (by omega) hrest hsz
    simp only [List.length_cons, List.range'_succ, elemsVia, hf, hs, hv, h1, h2, Elems.packets]
end

end Rtosc.Osc
