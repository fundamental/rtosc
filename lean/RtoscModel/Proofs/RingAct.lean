/-
  C06 — the atomic actions of the two threads of `Ring/Conc.lean`, one constructor per shared access and outcome
  (the load of `ring->read` fits or not; framing finds a message or not; a memcpy step is the last or not):
  which components of the state an action replaces, and by what.  `wStep_act` / `rStep_act` read them off
  the step functions once; every preservation proof is a case analysis over these actions.
-/
import RtoscModel.Ring.Conc
namespace Rtosc.Ring
open Rtosc

/-- the writer logs `entry` and takes up its next operation -/
def Conc.wNext (frame : Bytes → Nat) (s : Conc) (ops : List WOp) (entry : Bytes × Bool) : Conc :=
  { s with wops := (wSkip frame s.maxMsg ops (s.wlog ++ [entry])).1, wpc := .idle,
           wlog := (wSkip frame s.maxMsg ops (s.wlog ++ [entry])).2 }

inductive WAct (frame : Bytes → Nat) (s : Conc) : Conc → Ev → Prop
  /-- load `ring->read`: the data fit -/
  | accept {op : WOp} {rest : List WOp} (hpc : s.wpc = .idle) (hop : s.wops = op :: rest)
      (hfit : writeSize s.w s.r s.N ≥ (wData frame s.maxMsg op).2.length) :
      WAct frame s { s with wops := rest,
                            wpc := .copying (wData frame s.maxMsg op).1 (wData frame s.maxMsg op).2 0 }
        (.loadR s.r)
  /-- load `ring->read`: no room, the operation ends -/
  | reject {op : WOp} {rest : List WOp} (hpc : s.wpc = .idle) (hop : s.wops = op :: rest)
      (hfit : ¬writeSize s.w s.r s.N ≥ (wData frame s.maxMsg op).2.length) :
      WAct frame s (s.wNext frame rest ((wData frame s.maxMsg op).1, false)) (.loadR s.r)
  /-- one memcpy step into the ring -/
  | copy {m data : Bytes} {k off c : Nat} (hpc : s.wpc = .copying m data k) (hk : k < data.length)
      (hoc : chunkAt s.N s.w data.length s.chunk k = (off, c)) :
      WAct frame s { s with buf := (blit s.buf off ((data.drop k).take c)).1, wpc := .copying m data (k + c),
                            fault := s.fault || !(blit s.buf off ((data.drop k).take c)).2 }
        (.copyIn off c)
  /-- store `ring->write` -/
  | publish {m data : Bytes} {k : Nat} (hpc : s.wpc = .copying m data k) (hk : data.length ≤ k) :
      WAct frame s
        ({ s with w := (s.w + data.length) % s.N }.wNext frame s.wops (if data = [] then (m, false) else (data, true)))
        (.storeW ((s.w + data.length) % s.N))

theorem wStep_act {frame : Bytes → Nat} {s s' : Conc} {e : Ev} (h : s.wStep frame = some (s', e)) :
    WAct frame s s' e := by
  unfold Conc.wStep at h
  split at h
  · rename_i hpc
    split at h
    · cases h
    · rename_i op rest hop
      simp only at h
      split at h
      · rename_i hfit
        cases h
        exact .accept hpc hop hfit
      · rename_i hfit
        cases h
        rw [hpc]
        exact .reject hpc hop hfit
  · rename_i m data k hpc
    split at h
    · rename_i hk
      rcases hoc : chunkAt s.N s.w data.length s.chunk k with ⟨off, c⟩
      simp only [hoc] at h
      cases h
      exact .copy hpc hk hoc
    · rename_i hk
      cases h
      exact .publish hpc (Nat.le_of_not_lt hk)

inductive RAct (frame : Bytes → Nat) (s : Conc) : Conc → Ev → Prop
  /-- `hasNext(l)`: load `ring->write` -/
  | hasNext {l : Bool} {rest : List ROp} (hpc : s.rpc = .idle) (hop : s.rops = .hasNext l :: rest) :
      RAct frame s { s with rops := rest,
                            rlog := s.rlog ++ [.hasNext l (decide (readSize s.w (if l = true then s.la else s.r) s.N ≠ 0))] }
        (.loadW s.w)
  /-- `read(l)`: load `ring->write` -/
  | load {l : Bool} {rest : List ROp} (hpc : s.rpc = .idle) (hop : s.rops = .read l :: rest) :
      RAct frame s { s with rops := rest, rpc := .framing l s.w } (.loadW s.w)
  /-- framing for a lookahead read finds nothing: the operation ends -/
  | frameNone {wv : Nat} {d0 d1 : Bytes} {ok : Bool} (hpc : s.rpc = .framing true wv)
      (hrv : readVector s.buf s.N wv s.la = (d0, d1, ok)) (hlen : frame (d0 ++ d1) = 0) :
      RAct frame s { s with rpc := .idle, la := (s.la + 0) % s.N, rlog := s.rlog ++ [.read true []],
                            fault := s.fault || !ok }
        (.frame s.la (d0.length + d1.length) 0)
  /-- framing: `len` bytes are to be copied -/
  | frame {l : Bool} {wv : Nat} {d0 d1 : Bytes} {ok : Bool} (hpc : s.rpc = .framing l wv)
      (hrv : readVector s.buf s.N wv (if l = true then s.la else s.r) = (d0, d1, ok)) (hgo : ¬(l = true ∧ frame (d0 ++ d1) = 0)) :
      RAct frame s { s with rpc := .copying l (frame (d0 ++ d1)) 0, fault := s.fault || !ok }
        (.frame (if l = true then s.la else s.r) (d0.length + d1.length) (frame (d0 ++ d1)))
  /-- one memcpy step out of the ring -/
  | copy {l : Bool} {len k off c : Nat} (hpc : s.rpc = .copying l len k) (hk : k < len)
      (hoc : chunkAt s.N (if l = true then s.la else s.r) len s.chunk k = (off, c)) (hgo : ¬(l = true ∧ k + c ≥ len)) :
      RAct frame s { s with rbuf := (blit s.rbuf k (slice s.buf off c).1).1, rpc := .copying l len (k + c),
                            fault := s.fault || !((slice s.buf off c).2 && (blit s.rbuf k (slice s.buf off c).1).2) }
        (.copyOut off c)
  /-- the last memcpy step of a lookahead read: the operation ends, `read_lookahead` moves on -/
  | copyLast {len k off c : Nat} (hpc : s.rpc = .copying true len k) (hk : k < len)
      (hoc : chunkAt s.N s.la len s.chunk k = (off, c)) (hfin : k + c ≥ len) :
      RAct frame s { s with rbuf := (blit s.rbuf k (slice s.buf off c).1).1, rpc := .idle, la := (s.la + len) % s.N,
                            rlog := s.rlog ++ [.read true ((blit s.rbuf k (slice s.buf off c).1).1.take len)],
                            fault := s.fault || !((slice s.buf off c).2 && (blit s.rbuf k (slice s.buf off c).1).2) }
        (.copyOut off c)
  /-- store `ring->read`: the end of a consuming read -/
  | store {len k : Nat} (hpc : s.rpc = .copying false len k) (hk : len ≤ k) :
      RAct frame s { s with r := (s.r + len) % s.N, la := (s.r + len) % s.N, rpc := .idle,
                            rlog := s.rlog ++ [.read false (s.rbuf.take len)] }
        (.storeR ((s.r + len) % s.N))

theorem rStep_act {frame : Bytes → Nat} {s s' : Conc} {e : Ev} (h : s.rStep frame = some (s', e)) :
    RAct frame s s' e := by
  unfold Conc.rStep at h
  split at h
  · rename_i hpc
    split at h
    · cases h
    · rename_i l rest hop
      cases h
      exact .hasNext hpc hop
    · rename_i l rest hop
      cases h
      exact .load hpc hop
  · rename_i l wv hpc
    rcases hrv : readVector s.buf s.N wv (if l = true then s.la else s.r) with ⟨d0, d1, ok⟩
    simp only [hrv] at h
    split at h
    · rename_i hc
      obtain ⟨rfl, hlen⟩ := hc
      cases h
      have := RAct.frameNone (frame := frame) hpc hrv hlen
      simpa only [hlen, if_true] using this
    · rename_i hgo
      cases h
      exact .frame hpc hrv hgo
  · rename_i l len k hpc
    simp only at h
    split at h
    · rename_i hk
      rcases hoc : chunkAt s.N (if l = true then s.la else s.r) len s.chunk k with ⟨off, c⟩
      simp only [hoc] at h
      split at h
      · rename_i hc
        obtain ⟨rfl, hfin⟩ := hc
        cases h
        exact .copyLast hpc hk hoc hfin
      · rename_i hgo
        cases h
        exact .copy hpc hk hoc hgo
    · rename_i hk
      split at h
      · cases h
      · rename_i hl
        have hl : l = false := by simpa using hl
        subst hl
        cases h
        exact .store hpc (Nat.le_of_not_lt hk)

theorem Conc.Reach.invariant {frame : Bytes → Nat} {I : Conc → Prop} {s0 s : Conc} (h0 : I s0)
    (hs : ∀ {s s' : Conc} {e : Ev} (t : Tid), I s → s.step frame t = some (s', e) → I s')
    (h : Conc.Reach frame s0 s) : I s := by
  induction h with
  | refl => exact h0
  | step t _ hst ih => exact hs t ih hst

end Rtosc.Ring
