/-
  C02 / C08: the writer `rtosc_bundle` (repaired) and `append_bundle`.
  `rtosc_bundle` measures each element block with `rtosc_message_length(·,-1)` and copies that many
  bytes (`Measured`): its result on every capacity is `bundle_frames`; exact content for well-formed
  elements and store safety for arbitrary blocks are read off it.  `append_bundle` likewise from
  `appendBundle_fails` / `appendBundle_fits`, also in the loop of `subtree_serialize` (`appendAll`).
-/
import RtoscModel.Proofs.BundleSpec
import RtoscModel.Osc.BlocksSpec
namespace Rtosc.Osc
open Rtosc

theorem stores_zeros (d l : Bytes) (k : Nat) (o : Bool) (h : l.length ≤ k) :
    (⟨d ++ zeros k, o⟩ : BW).stores d.length l = ⟨d ++ l ++ zeros (k - l.length), o⟩ := by
  rw [stores_eq l _ _ (by simp; omega)]
  have h1 : (d ++ zeros k).take d.length = d := List.take_left
  have h2 : (d ++ zeros k).drop (d.length + l.length) = zeros (k - l.length) := by
    rw [List.drop_append]; simp [zeros]
  simp only [h1, h2]

theorem take4_zeros {t : Bytes} (h : t.take 4 = [0, 0, 0, 0]) : ∃ x, t = 0 :: 0 :: 0 :: 0 :: x := by
  match t, h with
  | a :: b :: c :: d :: x, h =>
    simp only [List.take_succ_cons, List.take_zero, List.cons.injEq, and_true] at h
    obtain ⟨rfl, rfl, rfl, rfl⟩ := h
    exact ⟨x, rfl⟩

/-- the size `rtosc_bundle` finds for an element -/
theorem messageLengthU_elem {blk : Bytes} {e : Elem} (hwf : e.WF) (hh : Elem.Holds blk e)
    (ht : Elem.Terminated blk e) : messageLengthU blk = .ok (Spec.encodeElem e).length := by
  obtain ⟨t, rfl⟩ := hh
  cases e with
  | msg m =>
    simp only [Elem.WF] at hwf
    simp only [Spec.encodeElem]
    exact messageLengthU_msg m t hwf.1 hwf.2
  | bundle tt es =>
    simp only [Elem.WF] at hwf
    have := ht rfl
    rw [List.drop_left] at this
    obtain ⟨x, rfl⟩ := take4_zeros this
    exact messageLengthU_bundle tt es x hwf.2

theorem goodBlocks_of {es : List Elem} : ∀ {blks : List Bytes}, Elems.WF es → BlocksHold es blks →
    ¬ NestedUnterminated es blks → GoodBlocks es blks := by
  induction es with
  | nil => intro blks _ hb _; cases blks <;> simp_all [BlocksHold, GoodBlocks]
  | cons e es ih =>
    intro blks hwf hb hn
    cases blks with
    | nil => simp [BlocksHold] at hb
    | cons blk blks =>
      simp only [Elems.WF] at hwf
      simp only [BlocksHold] at hb
      simp only [NestedUnterminated, not_or, Classical.not_not] at hn
      exact ⟨⟨hwf.1, hb.1, hn.1⟩, ih hwf.2 hb.2 hn.2⟩

/-- `rtosc_bundle` measures every element block with `rtosc_message_length(·, -1)` and copies that
    many bytes of it: `cs` are the chunks copied, one per block -/
def Measured : List Bytes → List Bytes → Prop
  | [], [] => True
  | blk :: blks, c :: cs => (messageLengthU blk = .ok c.length ∧ c <+: blk) ∧ Measured blks cs
  | _, _ => False

theorem goodBlocks_measured : ∀ {es : List Elem} {blks : List Bytes}, GoodBlocks es blks →
    Measured blks (es.map Spec.encodeElem)
  | [], [], _ => trivial
  | _ :: _, _ :: _, h => ⟨⟨messageLengthU_elem h.1.1 h.1.2.1 h.1.2.2, h.1.2.1⟩, goodBlocks_measured h.2⟩
  | [], _ :: _, h | _ :: _, [], h => h.elim

theorem bundleTotal_frames : ∀ (blks cs : List Bytes) (acc : Nat), Measured blks cs →
    bundleTotal acc blks = .ok (acc + (frames cs).length)
  | [], [], _, _ => rfl
  | blk :: blks, c :: cs, acc, h => by
    simp only [bundleTotal, h.1.1, bundleTotal_frames blks cs _ h.2]
    rw [frames_cons_length]; congr 1; omega
  | [], _ :: _, _, h | _ :: _, [], _, h => h.elim

/-- the second pass writes the chunks, each behind its size field -/
theorem bundleWrite_frames : ∀ (blks cs : List Bytes) (d : Bytes) (k : Nat) (o : Bool),
    Measured blks cs → (frames cs).length ≤ k →
    bundleWrite ⟨d ++ zeros k, o⟩ d.length blks =
      .ok (⟨d ++ frames cs ++ zeros (k - (frames cs).length), o⟩, d.length + (frames cs).length)
  | [], [], d, k, o, _, _ => by simp [bundleWrite, frames]
  | blk :: blks, c :: cs, d, k, o, h, hk => by
    obtain ⟨t, rfl⟩ := h.1.2
    rw [frames_cons_length] at hk
    simp only [bundleWrite, h.1.1]
    rw [if_pos (by simp), put32_eq, List.take_left]
    rw [stores_zeros d _ k o (by rw [be32_length]; omega)]
    have e1 : d.length + 4 = (d ++ be32 (UInt32.ofNat c.length)).length := by simp [be32_length]
    rw [e1, stores_zeros _ _ _ o (by rw [be32_length]; omega)]
    have e2 : (d ++ be32 (UInt32.ofNat c.length)).length + c.length =
        (d ++ be32 (UInt32.ofNat c.length) ++ c).length := by simp only [List.length_append]
    rw [e2, bundleWrite_frames blks cs _ _ o h.2 (by simp only [be32_length]; omega)]
    simp only [Rd.ok.injEq, Prod.mk.injEq, BW.mk.injEq, and_true, frames, List.append_assoc,
      List.length_append, be32_length]
    refine ⟨?_, by omega⟩
    simp only [Nat.sub_sub, Nat.add_assoc]
  | [], _ :: _, _, _, _, h, _ | _ :: _, [], _, _, _, h, _ => h.elim

/-- `rtosc_bundle` on measured blocks, for every capacity: the magic, the time tag and the framed
    chunks if they fit, a cleared buffer and 0 otherwise -/
theorem bundle_frames (blks cs : List Bytes) (tt : UInt64) (buf : Bytes) (h : Measured blks cs) :
    bundle buf tt blks = .ok
      (if 16 + (frames cs).length ≤ buf.length
        then ⟨bundleMagic ++ be64 tt ++ frames cs ++ zeros (buf.length - (16 + (frames cs).length)),
              16 + (frames cs).length, false⟩
        else ⟨zeros buf.length, 0, false⟩) := by
  simp only [bundle, bundleTotal_frames blks cs 16 h]
  by_cases hfit : 16 + (frames cs).length ≤ buf.length
  · rw [if_neg (by omega), if_pos hfit]
    simp only [bundleBody]
    have s1 := stores_zeros [] bundleMagic buf.length false (by rw [bundleMagic_length]; omega)
    simp only [List.nil_append, List.length_nil, bundleMagic_length] at s1
    rw [s1]
    have s2 := stores_zeros bundleMagic (put64 tt) (buf.length - 8) false
      (by rw [put64_eq, be64_length]; omega)
    simp only [bundleMagic_length] at s2
    rw [s2, put64_eq]
    have hw := bundleWrite_frames blks cs (bundleMagic ++ be64 tt) (buf.length - 8 - (be64 tt).length) false h
      (by rw [be64_length]; omega)
    rw [show (bundleMagic ++ be64 tt).length = 16 from rfl] at hw
    rw [hw]
    simp only [be64_length, Nat.sub_sub]
  · rw [if_pos (by omega), if_neg hfit]

/-- `rtosc_bundle` on well-formed elements, destination large enough -/
theorem bundle_spec (es : List Elem) (blks : List Bytes) (tt : UInt64) (buf : Bytes)
    (h : GoodBlocks es blks) (hcap : (Spec.encodeElem (.bundle tt es)).length ≤ buf.length) :
    bundle buf tt blks = .ok ⟨Spec.encodeElem (.bundle tt es) ++
        zeros (buf.length - (Spec.encodeElem (.bundle tt es)).length),
      (Spec.encodeElem (.bundle tt es)).length, false⟩ := by
  rw [encodeElem_bundle_length, encodeElems_frames] at hcap
  rw [bundle_frames _ _ tt buf (goodBlocks_measured h), if_pos hcap, encodeElem_bundle_length,
    Spec.encodeElem, encodeElems_frames]

/-- if the bundle does not fit: zero-filled buffer, return value 0 -/
theorem bundle_small (es : List Elem) (blks : List Bytes) (tt : UInt64) (buf : Bytes)
    (h : GoodBlocks es blks) (hcap : buf.length < (Spec.encodeElem (.bundle tt es)).length) :
    bundle buf tt blks = .ok ⟨zeros buf.length, 0, false⟩ := by
  rw [encodeElem_bundle_length, encodeElems_frames] at hcap
  rw [bundle_frames _ _ tt buf (goodBlocks_measured h), if_neg (by omega)]

/-! ### arbitrary element blocks: a call that returns has measured them -/

theorem measured_of_write : ∀ (blks : List Bytes) (w : BW) (pos : Nat) {x : BW × Nat},
    bundleWrite w pos blks = .ok x → ∃ cs, Measured blks cs
  | [], _, _, _, _ => ⟨[], trivial⟩
  | blk :: blks, w, pos, x, h => by
    simp only [bundleWrite] at h
    cases hm : messageLengthU blk with
    | ok size =>
      rw [hm] at h
      dsimp only at h
      split at h
      · next hsize =>
        obtain ⟨cs, hcs⟩ := measured_of_write blks _ _ h
        exact ⟨blk.take size :: cs,
          ⟨by rw [List.length_take, Nat.min_eq_left hsize]; exact hm, List.take_prefix _ _⟩, hcs⟩
      · cases h
    | oob => rw [hm] at h; cases h
    | hang => rw [hm] at h; cases h

/-- what a returning call has done, whatever the element pointers point at: the first pass has
    counted `total`; either the bundle does not fit and the buffer is cleared, or the second pass
    has stored exactly `total` bytes inside the buffer -/
theorem bundle_ok_inv (buf : Bytes) (tt : UInt64) (blks : List Bytes) (r : BResult)
    (h : bundle buf tt blks = .ok r) :
    ∃ total, bundleTotal 16 blks = .ok total ∧
      ((buf.length < total ∧ r = ⟨zeros buf.length, 0, false⟩) ∨
       (total ≤ buf.length ∧ r.oob = false ∧ r.buf.length = buf.length ∧ r.ret = total)) := by
  have h0 := h
  simp only [bundle] at h
  cases ht : bundleTotal 16 blks with
  | oob => rw [ht] at h; cases h
  | hang => rw [ht] at h; cases h
  | ok total =>
    rw [ht] at h
    refine ⟨total, rfl, ?_⟩
    dsimp only at h
    split at h
    · next hlt => exact .inl ⟨hlt, (Rd.ok.inj h).symm⟩
    · next hfit =>
      -- the second pass has returned: the blocks are measured and the result is `bundle_frames`
      obtain ⟨cs, hcs⟩ : ∃ cs, Measured blks cs := by
        simp only [bundleBody] at h
        split at h
        · next hw => exact measured_of_write _ _ _ hw
        · cases h
        · cases h
      have htot : total = 16 + (frames cs).length :=
        Rd.ok.inj (ht.symm.trans (bundleTotal_frames blks cs 16 hcs))
      rw [bundle_frames blks cs tt buf hcs, if_pos (by omega)] at h0
      cases Rd.ok.inj h0
      refine .inr ⟨by omega, rfl, ?_, htot.symm⟩
      simp only [List.length_append, bundleMagic_length, be64_length, zeros_length]
      omega

/-- the guard fires: return value 0, destination as it was (not zero-filled), the source is not read -/
theorem appendBundle_fails (dst src : Bytes) (maxLen dstLen srcLen : Nat)
    (h : AppendFails maxLen dstLen srcLen) :
    appendBundle dst src maxLen dstLen srcLen = .ok ⟨dst, 0, false⟩ := by
  have h' : maxLen < dstLen + srcLen + 4 ∨ dstLen = 0 ∨ srcLen = 0 := h
  simp only [appendBundle]
  rw [if_pos h']

/-- the guard does not fire and `src_len` bytes of the source block exist, `max_len` is honest:
    the result is a splice of size field and element at `dst_len`, everything else is untouched -/
theorem appendBundle_fits (dst src : Bytes) (maxLen dstLen srcLen : Nat)
    (h : ¬ AppendFails maxLen dstLen srcLen) (hsrc : srcLen ≤ src.length) (hmax : maxLen ≤ dst.length) :
    appendBundle dst src maxLen dstLen srcLen =
      .ok ⟨dst.take dstLen ++ put32 (UInt32.ofNat srcLen) ++ src.take srcLen ++ dst.drop (dstLen + 4 + srcLen),
        dstLen + srcLen + 4, false⟩ := by
  simp only [AppendFails, not_or, Nat.not_lt] at h
  have hp : (put32 (UInt32.ofNat srcLen)).length = 4 := by simp [put32]
  simp only [appendBundle]
  rw [if_neg (by simp only [not_or, Nat.not_lt]; exact h), if_pos hsrc]
  have s1 : (⟨dst, false⟩ : BW).stores dstLen (put32 (UInt32.ofNat srcLen)) =
      ⟨dst.take dstLen ++ put32 (UInt32.ofNat srcLen) ++ dst.drop (dstLen + 4), false⟩ := by
    rw [stores_eq _ _ _ (by rw [hp]; show dstLen + 4 ≤ dst.length; omega), hp]
  rw [s1]
  have hl : (dst.take dstLen ++ put32 (UInt32.ofNat srcLen)).length = dstLen + 4 := by
    rw [List.length_append, List.length_take, hp, Nat.min_eq_left (by omega)]
  have htk : (src.take srcLen).length = srcLen := by rw [List.length_take, Nat.min_eq_left hsrc]
  rw [stores_eq _ _ _ (by
    show dstLen + 4 + (src.take srcLen).length ≤ (dst.take dstLen ++ put32 (UInt32.ofNat srcLen) ++ dst.drop (dstLen + 4)).length
    rw [List.length_append, hl, htk, List.length_drop]; omega)]
  simp only [htk]
  have e1 : (dst.take dstLen ++ put32 (UInt32.ofNat srcLen) ++ dst.drop (dstLen + 4)).take (dstLen + 4) =
      dst.take dstLen ++ put32 (UInt32.ofNat srcLen) := by
    rw [← hl, List.take_left]
  have e2 : (dst.take dstLen ++ put32 (UInt32.ofNat srcLen) ++ dst.drop (dstLen + 4)).drop (dstLen + 4 + srcLen) =
      dst.drop (dstLen + 4 + srcLen) := by
    rw [← List.drop_drop, ← hl, List.drop_left, hl, List.drop_drop]
  rw [e1, e2]

theorem appendBundle_safe (dst src : Bytes) (maxLen dstLen srcLen : Nat) (r : BResult)
    (hmax : maxLen ≤ dst.length) (h : appendBundle dst src maxLen dstLen srcLen = .ok r) :
    r.oob = false ∧ r.buf.length = dst.length := by
  by_cases hf : AppendFails maxLen dstLen srcLen
  · rw [appendBundle_fails dst src maxLen dstLen srcLen hf] at h
    cases h; exact ⟨rfl, rfl⟩
  · by_cases hsrc : srcLen ≤ src.length
    · rw [appendBundle_fits dst src maxLen dstLen srcLen hf hsrc hmax] at h
      cases h
      simp only [AppendFails, not_or, Nat.not_lt] at hf
      refine ⟨rfl, ?_⟩
      simp only [List.length_append, List.length_take, List.length_drop, put32, List.length_cons,
        List.length_nil]
      omega
    · simp only [appendBundle, if_neg (show ¬ (maxLen < dstLen + srcLen + 4 ∨ dstLen = 0 ∨ srcLen = 0) from hf),
        if_neg hsrc] at h
      cases h

theorem appendBundle_spec (tt : UInt64) (es : List Elem) (e : Elem) (tail srest : Bytes) (maxLen : Nat)
    (hmax : maxLen ≤ (Spec.encodeElem (.bundle tt es) ++ tail).length)
    (hfit : (Spec.encodeElem (.bundle tt es)).length + (Spec.encodeElem e).length + 4 ≤ maxLen) :
    appendBundle (Spec.encodeElem (.bundle tt es) ++ tail) (Spec.encodeElem e ++ srest) maxLen
        (Spec.encodeElem (.bundle tt es)).length (Spec.encodeElem e).length =
      .ok ⟨Spec.encodeElem (.bundle tt (es ++ [e])) ++ tail.drop (4 + (Spec.encodeElem e).length),
        (Spec.encodeElem (.bundle tt (es ++ [e]))).length, false⟩ := by
  have h8 := encodeElem_length_ge e
  have hE : 16 ≤ (Spec.encodeElem (.bundle tt es)).length := by rw [encodeElem_bundle_length]; omega
  have hnew : Spec.encodeElem (.bundle tt (es ++ [e])) =
      Spec.encodeElem (.bundle tt es) ++ be32 (UInt32.ofNat (Spec.encodeElem e).length) ++ Spec.encodeElem e := by
    simp [Spec.encodeElem, encodeElems_append]
  rw [appendBundle_fits _ _ _ _ _ (by simp only [AppendFails, not_or, Nat.not_lt]; omega) (by simp) hmax,
    hnew, put32_eq, List.take_left, List.take_left, Nat.add_assoc, ← List.drop_drop, List.drop_left]
  simp only [List.length_append, be32_length, List.append_assoc]
  congr 2; omega

/-- once the length is 0 every further append returns 0 and leaves the destination as it is -/
theorem appendAll_zero (dst : Bytes) (maxLen : Nat) : ∀ srcs : List (Bytes × Nat),
    appendAll dst maxLen 0 srcs = .ok ⟨dst, 0, false⟩ := by
  intro srcs
  induction srcs with
  | nil => simp [appendAll]
  | cons s rest ih =>
    obtain ⟨src, srcLen⟩ := s
    rw [appendAll, appendBundle_fails dst src maxLen 0 srcLen (Or.inr (Or.inl rfl))]
    simp only [ih, Bool.or_false]

theorem appendAll_safe (maxLen : Nat) : ∀ (srcs : List (Bytes × Nat)) (dst : Bytes) (len : Nat) (r : BResult),
    maxLen ≤ dst.length → appendAll dst maxLen len srcs = .ok r → r.oob = false ∧ r.buf.length = dst.length := by
  intro srcs
  induction srcs with
  | nil =>
    intro dst len r _ h
    simp only [appendAll, Rd.ok.injEq] at h
    subst h; exact ⟨rfl, rfl⟩
  | cons s rest ih =>
    intro dst len r hmax h
    obtain ⟨src, srcLen⟩ := s
    rw [appendAll] at h
    cases h1 : appendBundle dst src maxLen len srcLen with
    | oob => rw [h1] at h; cases h
    | hang => rw [h1] at h; cases h
    | ok r1 =>
      simp only [h1] at h
      have s1 := appendBundle_safe dst src maxLen len srcLen r1 hmax h1
      cases h2 : appendAll r1.buf maxLen r1.ret rest with
      | oob => simp only [h2] at h; cases h
      | hang => simp only [h2] at h; cases h
      | ok r2 =>
        simp only [h2] at h
        have s2 := ih r1.buf r1.ret r2 (by rw [s1.2]; exact hmax) h2
        simp only [Rd.ok.injEq] at h
        subst h
        exact ⟨by simp [s1.1, s2.1], by rw [s2.2, s1.2]⟩

end Rtosc.Osc
