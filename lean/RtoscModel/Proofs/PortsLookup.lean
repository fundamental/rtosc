/-
  C04 helper lemmas: literal names and the hashed lookup.  For a literal name `hard_match` (repaired,
  C04-01) computes exactly what `rtosc_match` computes (`matchB`); hence a port selected by the hashed
  lookup matches the message for *arbitrary* `pos`/`assoc`/`remap`, and under `HashOK` a port that
  matches the message is the one selected.
-/
import RtoscModel.Props.C05
import RtoscModel.Proofs.PortsMatch
namespace Rtosc.Ports
open Rtosc Rtosc.Match Rtosc.Ports.Hash

/-- the part of a rendered name in front of the type specification -/
def keyOf (p : Pat) : Bytes := renderSegs p.segs ++ (if p.sub then [47] else [])

/-- `arg_spec` of a rendered name -/
def specOf (p : Pat) : Option Bytes :=
  match p.types with
  | none => none
  | some ts => some (renderTypeAlts ts ++ [0])

theorem render_eq (p : Pat) : p.render = keyOf p ++ renderTypes p.types := by
  simp [Pat.render, Pat.tail, keyOf]

theorem segsWf_all {sub : Bool} : ∀ {segs : List Seg}, segsWf sub segs = true → ∀ s ∈ segs, s.wf = true := by
  intro segs
  induction segs with
  | nil => intro _ s hs; simp at hs
  | cons x r ih =>
    intro h s hs
    obtain ⟨hx, hr, _, _⟩ := segsWf_cons h
    rcases List.mem_cons.mp hs with rfl | hs
    · exact hx
    · exact ih hr s hs

theorem renderSegs_chars {sub : Bool} {segs : List Seg} (hwf : segsWf sub segs = true)
    (hna : noAlts segs = true) : ∀ c ∈ renderSegs segs, c ≠ 0 ∧ c ≠ 58 := by
  induction segs with
  | nil => intro c hc; simp [renderSegs] at hc
  | cons s r ih =>
    obtain ⟨hs, hr, _, _⟩ := segsWf_cons hwf
    simp only [noAlts, List.all_cons, Bool.and_eq_true] at hna
    intro c hc
    simp only [renderSegs, List.mem_append] at hc
    rcases hc with hc | hc
    · cases s with
      | lit t =>
        simp only [Seg.wf, Bool.and_eq_true, List.all_eq_true] at hs
        have := litChar_ne (hs.2 c (by simpa [Seg.render] using hc))
        exact ⟨this.1, this.2.2.2.2⟩
      | enum ds =>
        simp only [Seg.wf, Bool.and_eq_true, List.all_eq_true] at hs
        simp only [Seg.render, List.mem_cons] at hc
        rcases hc with rfl | hc
        · exact ⟨by decide, by decide⟩
        · exact ⟨digit_ne (hs.1.2 c hc) (by decide), digit_ne (hs.1.2 c hc) (by decide)⟩
      | alts as => simp [Seg.isAlts] at hna
    · exact ih hr (by simpa [noAlts] using hna.2) c hc

theorem keyOf_chars {p : Pat} (hwf : p.WF0) (hna : noAlts p.segs = true) :
    ∀ c ∈ keyOf p, c ≠ 0 ∧ c ≠ 58 := by
  intro c hc
  simp only [keyOf, List.mem_append] at hc
  rcases hc with hc | hc
  · exact renderSegs_chars (wf0_segs hwf) hna c hc
  · cases hs : p.sub with
    | true => simp only [hs, ↓reduceIte, List.mem_singleton] at hc; subst hc; exact ⟨by decide, by decide⟩
    | false => simp [hs] at hc

theorem renderSegs_ne_nil {sub : Bool} {segs : List Seg} (hwf : segsWf sub segs = true) (hne : segs ≠ []) :
    renderSegs segs ≠ [] := by
  cases segs with
  | nil => exact absurd rfl hne
  | cons s r =>
    obtain ⟨hs, _, _, _⟩ := segsWf_cons hwf
    cases s with
    | lit t =>
      simp only [Seg.wf, Bool.and_eq_true, Bool.not_eq_eq_eq_not, Bool.not_true, List.isEmpty_eq_false_iff] at hs
      simp [renderSegs, Seg.render, hs.1]
    | enum ds => simp [renderSegs, Seg.render]
    | alts as => simp [renderSegs, Seg.render]

theorem keyOf_ne_nil {p : Pat} (hwf : p.WF0) (hne : p.segs ≠ []) : keyOf p ≠ [] := by
  have := renderSegs_ne_nil (wf0_segs hwf) hne
  simp [keyOf, this]

theorem takeWhile_key (k t : Bytes) (hk : ∀ c ∈ k, c ≠ 58) (ht : t = [] ∨ ∃ r, t = 58 :: r) :
    (k ++ t).takeWhile (· != 58) = k := by
  rw [List.takeWhile_append_of_pos (by simpa using hk)]
  rcases ht with rfl | ⟨r, rfl⟩ <;> simp

/-- key and `arg_spec` of a rendered name (`generate_minimal_hash(Ports&, …)`) -/
theorem splitName_render {p : Pat} (hwf : p.WF0) (hne : p.segs ≠ []) (hna : noAlts p.segs = true) :
    splitName p.render = (keyOf p, specOf p) := by
  have hk := keyOf_chars hwf hna
  have hkne := keyOf_ne_nil hwf hne
  have hty := renderTypes_head p.types
  have htw := takeWhile_key (keyOf p) (renderTypes p.types) (fun c hc => (hk c hc).2) hty
  unfold splitName
  simp only [render_eq, htw]
  rcases hty with h0 | ⟨r, hr⟩
  · have hspec : specOf p = none := by
      unfold specOf
      cases hty' : p.types with
      | none => rfl
      | some ts =>
        cases ts with
        | nil => have := wf0_types hwf; simp [hty', typesWf] at this
        | cons a r => simp [hty', renderTypes, renderTypeAlts] at h0
    simp [h0, hspec]
  · have hspec : specOf p = some (renderTypes p.types ++ [0]) := by
      unfold specOf
      cases hty' : p.types with
      | none => simp [hty', renderTypes] at hr
      | some ts => simp [renderTypes]
    have hlen : 0 < (keyOf p).length := List.length_pos_iff.mpr hkne
    simp [hr, hspec, hlen]

theorem strncmpEq_prefix (key : Bytes) (hk : NulFree key) :
    ∀ (a ex : Bytes), strncmpEq key (a ++ 0 :: ex) = some (key.isPrefixOf a) := by
  induction key with
  | nil => intro a ex; simp [strncmpEq]
  | cons c k ih =>
    intro a ex
    have hc : c ≠ 0 := hk.head
    cases a with
    | nil => simp [strncmpEq, hc, List.isPrefixOf]
    | cons d a =>
      by_cases hcd : c = d
      · subst hcd
        simp [strncmpEq, hc, ih hk.tail, List.isPrefixOf]
      · simp [strncmpEq, hcd, List.isPrefixOf]

theorem isPrefixOf_append (s l : Bytes) : ∀ (a : Bytes),
    (s ++ l).isPrefixOf a = (s.isPrefixOf a && l.isPrefixOf (a.drop s.length)) := by
  induction s with
  | nil => intro a; simp
  | cons c s ih =>
    intro a
    cases a with
    | nil => simp [List.isPrefixOf]
    | cons d a => simp [List.isPrefixOf, ih, Bool.and_assoc]

theorem noAlts_of_allLit {segs : List Seg} (hl : allLit segs = true) : noAlts segs = true := by
  simp only [allLit, List.all_eq_true] at hl
  simp only [noAlts, List.all_eq_true]
  intro s hs
  have := hl s hs
  cases s <;> simp_all [Seg.isLit, Seg.isAlts]

theorem greedy_lits : ∀ (segs : List Seg), allLit segs = true → ∀ (sub : Bool) (a : Bytes),
    greedy segs sub a =
      if sub then (if (renderSegs segs ++ [47]).isPrefixOf a then some (a.drop ((renderSegs segs).length + 1)) else none)
      else (if a = renderSegs segs then some [] else none) := by
  intro segs
  induction segs with
  | nil =>
    intro _ sub a
    cases sub with
    | false => by_cases h : a = [] <;> simp [greedy, renderSegs, h]
    | true =>
      cases a with
      | nil => simp [greedy, renderSegs]
      | cons d t =>
        by_cases h : d = 47
        · subst h; simp [greedy, renderSegs, List.isPrefixOf]
        · have : ¬ (47 : UInt8) = d := fun h' => h h'.symm
          simp [greedy, renderSegs, List.isPrefixOf, h, this]
  | cons s r ih =>
    intro hl sub a
    simp only [allLit, List.all_cons, Bool.and_eq_true] at hl
    cases s with
    | lit t =>
      have ih' := ih (by simpa [allLit] using hl.2) sub (a.drop t.length)
      simp only [greedy, renderSegs, Seg.render, List.append_assoc]
      by_cases hp : t.isPrefixOf a = true
      · simp only [hp, ↓reduceIte, ih']
        cases sub with
        | true =>
          simp only [↓reduceIte, isPrefixOf_append t, hp, Bool.true_and, List.length_append, List.drop_drop]
          simp only [Nat.add_assoc]
        | false =>
          simp only [Bool.false_eq_true, ↓reduceIte]
          obtain ⟨x, hx⟩ := List.isPrefixOf_iff_prefix.mp hp
          subst hx
          simp
      · simp only [hp, Bool.false_eq_true, ↓reduceIte]
        cases sub with
        | true =>
          simp [isPrefixOf_append t, hp]
        | false =>
          have : ¬ a = t ++ renderSegs r := by
            intro h; subst h
            exact hp (List.isPrefixOf_iff_prefix.mpr (List.prefix_append _ _))
          simp [this]
    | enum ds => simp [Seg.isLit] at hl
    | alts as => simp [Seg.isLit] at hl

theorem greedy_lit_split {p : Pat} (hl : allLit p.segs = true) {a t : Bytes}
    (hg : greedy p.segs p.sub a = some t) : a = keyOf p ++ t ∧ (p.sub = false → t = []) := by
  rw [greedy_lits p.segs hl] at hg
  cases hs : p.sub with
  | false =>
    simp only [hs, Bool.false_eq_true, ↓reduceIte] at hg
    split at hg
    · next h => cases hg; simp [keyOf, hs, h]
    · cases hg
  | true =>
    simp only [hs, ↓reduceIte] at hg
    split at hg
    · next h =>
      obtain ⟨r, hr⟩ := List.isPrefixOf_iff_prefix.mp h
      cases hg
      subst hr
      simp [keyOf, hs]
    · cases hg

theorem lits_last {segs : List Seg} (hwf : segsWf false segs = true) (hl : allLit segs = true) (hne : segs ≠ []) :
    (renderSegs segs).getLast? ≠ some 47 := by
  induction segs with
  | nil => exact absurd rfl hne
  | cons s r ih =>
    cases r with
    | nil =>
      cases s with
      | lit t =>
        simp only [segsWf, Bool.false_or, Bool.and_eq_true] at hwf
        simpa [renderSegs, Seg.render] using hwf.2
      | enum ds => simp [allLit, Seg.isLit] at hl
      | alts as => simp [allLit, Seg.isLit] at hl
    | cons t r' =>
      obtain ⟨_, hr, _, _⟩ := segsWf_cons hwf
      have hl' : allLit (t :: r') = true := by
        simp only [allLit, List.all_cons, Bool.and_eq_true] at hl ⊢
        exact hl.2
      have hne' := renderSegs_ne_nil hr (by simp : t :: r' ≠ [])
      have := ih hr hl' (by simp)
      simp only [renderSegs] at this hne' ⊢
      rw [List.getLast?_append]
      cases hgl : (renderSegs r' |> fun x => (t.render ++ x).getLast?) with
      | none =>
        have : (t.render ++ renderSegs r') = [] := List.getLast?_eq_none_iff.mp hgl
        exact absurd this hne'
      | some z =>
        simp only at hgl
        rw [hgl] at this ⊢
        simpa using this

theorem args_types {ts : List Bytes} (hne : ts ≠ []) (hch : ∀ a ∈ ts, ∀ c ∈ a, tagChar c = true)
    {tags : Bytes} (ht : NulFree tags) (rest : Bytes) :
    args (renderTypeAlts ts ++ [0]) (tags ++ 0 :: rest) = some (typesCode ts tags) := by
  obtain ⟨x, ts', rfl⟩ := List.exists_cons_of_ne_nil hne
  have hargs := argsStart_types_eq tags rest ht (x :: ts') hne hch
  simp only at hargs
  simp only [renderTypeAlts, List.cons_append, List.append_assoc, args_colon]
  exact hargs

/-- slot `i` of the lookup tables holds the literal name `p`, as `generate_minimal_hash` stores it -/
structure LitSlot (pm : Matcher) (i : Nat) (p : Pat) : Prop where
  wf : p.WF0
  ne : p.segs ≠ []
  lit : allLit p.segs = true
  fixed : pm.fixed[i]? = some (keyOf p)
  spec : pm.argSpec[i]? = some (specOf p)

/-- **`hard_match` on a literal name** computes what `rtosc_match` computes -/
theorem hardMatch_lit {p : Pat} {pm : Matcher} {i : Nat} (hs : LitSlot pm i p)
    {a tags : Bytes} (k : Nat) (rest : Bytes) (ha : NulFree a) (ht : NulFree tags) :
    hardMatch pm i (msgBuf a tags k rest) = some (matchB p a tags).isSome := by
  obtain ⟨hwf, hne, hl, hfix, hspec⟩ := hs
  have hkc := keyOf_chars hwf (noAlts_of_allLit hl)
  have hknf : NulFree (keyOf p) := fun c hc => (hkc c hc).1
  have hkne := keyOf_ne_nil hwf hne
  have hg := greedy_lits p.segs hl p.sub a
  unfold hardMatch
  simp only [hfix, strncmpEq_prefix _ hknf]
  by_cases hp : (keyOf p).isPrefixOf a = true
  · obtain ⟨r, hr⟩ := List.isPrefixOf_iff_prefix.mp hp
    subst hr
    have hidx : (keyOf p ++ r ++ 0 :: msgTail k tags rest)[(keyOf p).length]? = some ((r ++ 0 :: msgTail k tags rest).headD 0) := by
      rw [List.append_assoc, List.getElem?_append_right (Nat.le_refl _)]
      cases r <;> simp
    simp only [hp, hidx]
    have hpath : (greedy p.segs p.sub (keyOf p ++ r)).isSome =
        !(decide ((r ++ 0 :: msgTail k tags rest).headD 0 ≠ 0) && ((keyOf p).isEmpty || decide ((keyOf p).getLast? ≠ some 47))) := by
      rw [hg]
      cases hs : p.sub with
      | true =>
        have hk : keyOf p = renderSegs p.segs ++ [47] := by simp [keyOf, hs]
        have hlast : (keyOf p).getLast? = some 47 := by rw [hk]; simp
        have hemp : (keyOf p).isEmpty = false := by simpa using hkne
        simp [← hk, hlast, hemp, List.isPrefixOf_iff_prefix]
      | false =>
        have hk : keyOf p = renderSegs p.segs := by simp [keyOf, hs]
        have hwf' := wf0_segs hwf
        rw [hs] at hwf'
        have hlast := lits_last hwf' hl hne
        rw [← hk] at hlast
        have hemp : (keyOf p).isEmpty = false := by simpa using hkne
        simp only [Bool.false_eq_true, ↓reduceIte, ← hk, hemp, Bool.false_or, hlast, ne_eq,
          not_false_eq_true, decide_true, Bool.and_true]
        cases r with
        | nil => simp
        | cons d r' =>
          have hd : d ≠ 0 := ha d (by simp)
          simp [hd]
    have hargstr : argString (keyOf p ++ r ++ 0 :: msgTail k tags rest) = some (tags ++ 0 :: rest) :=
      argString_cstr _ ha k (tags ++ 0 :: rest) (.inl (by simp [hkne]))
    unfold matchB
    cases hgr : greedy p.segs p.sub (keyOf p ++ r) with
    | none =>
      rw [hgr] at hpath
      simp only [Option.isSome_none, Bool.false_eq, Bool.not_eq_eq_eq_not, Bool.not_false,
        Bool.and_eq_true, decide_eq_true_eq, Bool.or_eq_true] at hpath
      have : (r ++ 0 :: msgTail k tags rest).headD 0 ≠ 0 ∧ ((keyOf p).isEmpty = true ∨ (keyOf p).getLast? ≠ some 47) := hpath
      rw [if_pos this]
      rfl
    | some t =>
      rw [hgr] at hpath
      simp only [Option.isSome_some, Bool.true_eq, Bool.not_eq_eq_eq_not, Bool.not_true,
        Bool.and_eq_false_iff, decide_eq_false_iff_not, Bool.or_eq_false_iff] at hpath
      have hcond : ¬ ((r ++ 0 :: msgTail k tags rest).headD 0 ≠ 0 ∧ ((keyOf p).isEmpty = true ∨ (keyOf p).getLast? ≠ some 47)) := by
        rintro ⟨h1, h2⟩
        rcases hpath with h | h
        · exact h h1
        · rcases h2 with h2 | h2
          · simp [h.1] at h2
          · exact h2 (by simpa using h.2)
      rw [if_neg hcond]
      simp only [hspec]
      cases hty : p.types with
      | none => simp [specOf, hty]
      | some ts =>
        have htw := wf0_types hwf
        simp only [hty, typesWf, Bool.and_eq_true, Bool.not_eq_eq_eq_not, Bool.not_true,
          List.isEmpty_eq_false_iff, List.all_eq_true] at htw
        have hargs := args_types htw.1 htw.2 ht rest
        have hcopy := (copies_agree (renderTypeAlts ts ++ [0]) (keyOf p ++ r ++ 0 :: msgTail k tags rest)).2
        obtain ⟨x, ts', rfl⟩ := List.exists_cons_of_ne_nil htw.1
        simp only [renderTypeAlts, List.cons_append] at hargs hcopy
        simp only [specOf, hty, renderTypeAlts, List.cons_append]
        rw [hcopy]
        simp only [argsOfMsg, ne_eq, not_true_eq_false, ↓reduceIte, hargstr, hargs]
        by_cases hc : typesCode (x :: ts') tags = true <;> simp [hc]
  · have hp' : (keyOf p).isPrefixOf a = false := Bool.of_not_eq_true hp
    have hnone : greedy p.segs p.sub a = none := by
      cases hg' : greedy p.segs p.sub a with
      | none => rfl
      | some t =>
        obtain ⟨rfl, _⟩ := greedy_lit_split hl hg'
        exact absurd (List.isPrefixOf_iff_prefix.mpr (List.prefix_append _ _)) hp
    simp [hp', matchB, hnone]

/-- length of the first component of an address, its '/' included -/
def compLen : Bytes → Nat
  | [] => 0
  | c :: r => if c = 47 then 1 else compLen r + 1

theorem firstLen_addr (a ex : Bytes) (ha : NulFree a) : firstLen (a ++ 0 :: ex) = some (compLen a) := by
  induction a with
  | nil => simp [firstLen, compLen]
  | cons c r ih =>
    have hc : c ≠ 0 := ha.head
    by_cases h47 : c = 47
    · simp [firstLen, compLen, h47]
    · simp [firstLen, compLen, hc, h47, ih ha.tail]

theorem compLen_le (a : Bytes) : compLen a ≤ a.length := by
  induction a with
  | nil => simp [compLen]
  | cons c r ih => by_cases h : c = 47 <;> simp [compLen, h] <;> omega

theorem compLen_noslash (x : Bytes) (hx : (47 : UInt8) ∉ x) : compLen x = x.length := by
  induction x with
  | nil => rfl
  | cons c r ih =>
    simp only [List.mem_cons, not_or] at hx
    have : c ≠ 47 := fun h => hx.1 h.symm
    simp [compLen, this, ih hx.2]

theorem compLen_slash (x y : Bytes) (hx : (47 : UInt8) ∉ x) : compLen (x ++ 47 :: y) = x.length + 1 := by
  induction x with
  | nil => simp [compLen]
  | cons c r ih =>
    simp only [List.mem_cons, not_or] at hx
    have : c ≠ 47 := fun h => hx.1 h.symm
    simp [compLen, this, ih hx.2]

theorem take_comp_eq_key {p : Pat} (hl : allLit p.segs = true) (hns : (47 : UInt8) ∉ renderSegs p.segs)
    {a t : Bytes} (hg : greedy p.segs p.sub a = some t) : a.take (compLen a) = keyOf p := by
  obtain ⟨rfl, ht⟩ := greedy_lit_split hl hg
  cases hs : p.sub with
  | false =>
    rw [ht hs, List.append_nil]
    simp [keyOf, hs, compLen_noslash _ hns]
  | true =>
    have hk : keyOf p = renderSegs p.segs ++ [47] := by simp [keyOf, hs]
    rw [hk, List.append_assoc, List.singleton_append, compLen_slash _ _ hns,
      show renderSegs p.segs ++ 47 :: t = (renderSegs p.segs ++ [47]) ++ t by simp, List.take_left' (by simp)]

theorem matchB_greedy {p : Pat} {a tags t : Bytes} (h : matchB p a tags = some t) :
    greedy p.segs p.sub a = some t := by
  unfold matchB at h
  split at h
  · cases h
  · next t' hg =>
    split at h
    · cases h; exact hg
    · split at h
      · cases h; exact hg
      · cases h

theorem mem_renderSegs_enum (ds : Bytes) : ∀ (segs : List Seg), Seg.enum ds ∈ segs → (35 : UInt8) ∈ renderSegs segs := by
  intro segs
  induction segs with
  | nil => intro h; simp at h
  | cons x r ih =>
    intro hs
    simp only [renderSegs, List.mem_append]
    rcases List.mem_cons.mp hs with h | hs
    · left; subst h; simp [Seg.render]
    · right; exact ih hs

theorem allLit_of_noHash {p : Pat} (hna : noAlts p.segs = true) (h : hasChar 35 p.render = false) :
    allLit p.segs = true := by
  simp only [allLit, List.all_eq_true]
  intro s hs
  cases s with
  | lit t => rfl
  | enum ds =>
    exfalso
    have hmem : (35 : UInt8) ∈ p.render := by
      simp only [Pat.render, List.mem_append]
      exact Or.inl (mem_renderSegs_enum ds _ hs)
    simp only [hasChar] at h
    have := List.contains_iff_mem.mpr hmem
    rw [this] at h
    cases h
  | alts as =>
    simp only [noAlts, List.all_eq_true] at hna
    have := hna _ hs
    simp [Seg.isAlts] at this

theorem dropWhile_ne_nil_of_mem {α : Type} (q : α → Bool) : ∀ (l : List α) (x : α), x ∈ l → q x = false →
    l.dropWhile q ≠ [] := by
  intro l
  induction l with
  | nil => intro x hx; simp at hx
  | cons c r ih =>
    intro x hx hq
    simp only [List.dropWhile_cons]
    split
    · next hc =>
      rcases List.mem_cons.mp hx with rfl | hx
      · rw [hq] at hc; cases hc
      · exact ih x hx hq
    · simp

/-- C04-03: a name that passes the guard has no '/' inside its literal text -/
theorem noSlash_of_noInner {p : Pat} (hwf : p.WF0) (hne : p.segs ≠ []) (hl : allLit p.segs = true)
    (h : innerSlash p.render = false) : (47 : UInt8) ∉ renderSegs p.segs := by
  intro hmem
  have hna := noAlts_of_allLit hl
  have hch := renderSegs_chars (wf0_segs hwf) hna
  have hdw : (renderSegs p.segs).dropWhile (· != 47) ≠ [] :=
    dropWhile_ne_nil_of_mem _ _ 47 hmem (by simp)
  obtain ⟨c0, y, hy⟩ := List.exists_cons_of_ne_nil hdw
  have hc0 : c0 = 47 := by
    have := List.head_dropWhile_not (· != 47) hdw
    simpa [hy] using this
  subst hc0
  have hsplit := List.takeWhile_append_dropWhile (p := (· != 47)) (l := renderSegs p.segs)
  rw [hy] at hsplit
  have hname : p.render.dropWhile (· != 47) =
      47 :: y ++ ((if p.sub then [47] else []) ++ renderTypes p.types) := by
    rw [Pat.render, Pat.tail, List.dropWhile_append]
    simp [hy]
  unfold innerSlash at h
  rw [hname] at h
  cases y with
  | cons c y' =>
    have : c ≠ 58 := (hch c (by rw [← hsplit]; simp)).2
    simp [this] at h
  | nil =>
    have hlast : (renderSegs p.segs).getLast? = some 47 := by rw [← hsplit]; simp
    cases hs : p.sub with
    | true => simp [hs] at h
    | false =>
      have hwf' := wf0_segs hwf
      rw [hs] at hwf'
      exact lits_last hwf' hl hne hlast

theorem lookup_addr (pm : Matcher) {a : Bytes} (ex : Bytes) (ha : NulFree a) :
    lookup pm (a ++ 0 :: ex) =
      match pm.remap[hashStr pm.pos pm.assoc (a.take (compLen a))]? with
      | none => some .outside
      | some j => (hardMatch pm j (a ++ 0 :: ex)).map (Lookup.slot j) := by
  unfold lookup
  simp only [firstLen_addr a _ ha, List.take_append_of_le_length (compLen_le a)]
  rfl

theorem lookup_slot {p : Pat} {pm : Matcher} {j : Nat} (hs : LitSlot pm j p)
    {a tags : Bytes} (k : Nat) (rest : Bytes) (ha : NulFree a) (ht : NulFree tags)
    (hr : pm.remap[hashStr pm.pos pm.assoc (a.take (compLen a))]? = some j) :
    lookup pm (msgBuf a tags k rest) = some (.slot j (matchB p a tags).isSome) := by
  rw [lookup_addr pm _ ha, hr]
  simp only [hardMatch_lit hs k rest ha ht, Option.map_some]

/-- **hashed_sound, one level**: for arbitrary `pos` / `assoc` / `remap`, the port the
    hashed lookup selects (`hard_match` succeeded) matches the message — provided its
    name is literal and `fixed` / `arg_spec` are what `generate_minimal_hash` stores. -/
theorem lookup_sound {p : Pat} {pm : Matcher} {j : Nat} (hs : LitSlot pm j p)
    {a tags : Bytes} (k : Nat) (rest : Bytes) (ha : NulFree a) (ht : NulFree tags)
    (hlk : lookup pm (msgBuf a tags k rest) = some (.slot j true)) :
    (matchB p a tags).isSome = true := by
  have hr : pm.remap[hashStr pm.pos pm.assoc (a.take (compLen a))]? = some j := by
    rw [lookup_addr pm _ ha] at hlk
    split at hlk
    · cases hlk
    · next k' hk' =>
      cases hh : hardMatch pm k' (msgBuf a tags k rest) <;> simp [hh] at hlk
      exact hlk.1 ▸ hk'
  rw [lookup_slot hs k rest ha ht hr] at hlk
  simpa using hlk

/-- under `HashOK` every slot holds the name of its port -/
theorem HashOK.litSlot {names : List Bytes} {pm : Matcher} (hok : HashOK names pm)
    {p : Pat} (hwf : p.WF0) (hne : p.segs ≠ []) (hna : noAlts p.segs = true)
    {i : Nat} (hi : names[i]? = some p.render) : LitSlot pm i p := by
  obtain ⟨hilt, hieq⟩ := List.getElem?_eq_some_iff.mp hi
  have hsplit := splitName_render hwf hne hna
  have hklen : i < (keysOf names).length := by simpa [keysOf] using hilt
  refine ⟨hwf, hne, allLit_of_noHash hna (hok.noHash _ (hieq ▸ List.getElem_mem hilt)), ?_, ?_⟩
  · rw [hok.fixed, List.getElem?_eq_getElem hklen]; simp [keysOf, hieq, hsplit]
  · rw [hok.argSpec]; simp [specsOf, hi, hsplit]

/-- **hashed_complete, one level**: under `HashOK`, a port whose name matches the message
    is the one the hashed lookup selects -/
theorem lookup_complete {names : List Bytes} {pm : Matcher} (hok : HashOK names pm)
    {p : Pat} (hwf : p.WF0) (hne : p.segs ≠ []) (hna : noAlts p.segs = true)
    (i : Nat) (hi : names[i]? = some p.render)
    {a tags t : Bytes} (k : Nat) (rest : Bytes) (ha : NulFree a) (ht : NulFree tags)
    (hm : matchB p a tags = some t) :
    lookup pm (msgBuf a tags k rest) = some (.slot i true) := by
  have hs := hok.litSlot hwf hne hna hi
  obtain ⟨hilt, hieq⟩ := List.getElem?_eq_some_iff.mp hi
  have hns := noSlash_of_noInner hwf hne hs.lit (hok.noInner _ (hieq ▸ List.getElem_mem hilt))
  have htake := take_comp_eq_key hs.lit hns (matchB_greedy hm)
  have hklen : i < (keysOf names).length := by simpa [keysOf] using hilt
  have hremap := hok.remap i hklen
  rw [show (keysOf names)[i] = keyOf p by simp [keysOf, hieq, splitName_render hwf hne hna]] at hremap
  rw [lookup_slot hs k rest ha ht (htake ▸ hremap), hm]; rfl

end Rtosc.Ports
