/-
  C20 — the value that is actually EMITTED: `Cb.fire` rounds the exact value of the linear
  map (`bijNum / 2^17`) to `float` and, for an `i` port, truncates it to `int`.
  `rnd n` is the numerator after rounding (`f32Round` without the exponent bookkeeping):
  round-to-nearest-even of `n` to 24 significant bits.  Rounding never crosses a grid point
  (`rnd_sandwich`), hence it is monotone and keeps every value between two numbers that are
  themselves representable; truncation toward zero keeps it between two INTEGERS.
-/
import RtoscModel.MidiSpec
namespace Rtosc.Midi

theorem rq_near (n sh : Nat) : n >>> sh ≤ rq n sh ∧ rq n sh ≤ n >>> sh + 1 := by
  unfold rq; split <;> omega

theorem rq_exact {n sh : Nat} (h : n % 2 ^ sh = 0) : rq n sh = n >>> sh := by
  have : 0 < 2 ^ (sh - 1) := Nat.pow_pos (by decide)
  unfold rq; rw [if_neg (by omega)]

/-- rounding to a grid never crosses a grid point -/
theorem rndTo_sandwich (n sh k : Nat) :
    (k * 2 ^ sh ≤ n → k * 2 ^ sh ≤ rndTo n sh) ∧ (n ≤ k * 2 ^ sh → rndTo n sh ≤ k * 2 ^ sh) := by
  have hD : 0 < 2 ^ sh := Nat.pow_pos (by decide)
  obtain ⟨lo, hi⟩ := rq_near n sh
  rw [Nat.shiftRight_eq_div_pow] at lo hi
  unfold rndTo
  constructor
  · intro h
    exact Nat.mul_le_mul_right _ (Nat.le_trans ((Nat.le_div_iff_mul_le hD).mpr h) lo)
  · intro h
    apply Nat.mul_le_mul_right
    by_cases hr : n % 2 ^ sh = 0
    · rw [rq_exact hr, Nat.shiftRight_eq_div_pow]
      exact Nat.div_le_of_le_mul (Nat.mul_comm k _ ▸ h)
    · -- `n` is not on the grid, so it lies strictly below `k * 2^sh`
      have hlt : n < k * 2 ^ sh := Nat.lt_of_le_of_ne h (fun e => hr (e ▸ Nat.mul_mod_left ..))
      exact Nat.le_trans hi ((Nat.div_lt_iff_lt_mul hD).mpr hlt)

theorem bitLen_le_iff (n l : Nat) : bitLen n ≤ l ↔ n < 2 ^ l := by
  unfold bitLen
  split
  · subst_vars; simp [Nat.pow_pos]
  · rename_i h
    rw [← Nat.lt_iff_add_one_le, Nat.log2_lt h]

theorem lt_two_pow_bitLen (n : Nat) : n < 2 ^ bitLen n := (bitLen_le_iff n _).mp (Nat.le_refl _)

theorem two_pow_bitLen_le (n : Nat) (h : 0 < bitLen n) : 2 ^ (bitLen n - 1) ≤ n := by
  apply Nat.le_of_not_lt
  intro hlt
  have := (bitLen_le_iff n (bitLen n - 1)).mpr hlt
  omega

/-- `rnd` never crosses a number `g = k * 2^t` whose grid is at least as coarse as `n`'s -/
theorem rnd_sandwich (n k t : Nat) (ht : bitLen n - 24 ≤ t) :
    (k * 2 ^ t ≤ n → k * 2 ^ t ≤ rnd n) ∧ (n ≤ k * 2 ^ t → rnd n ≤ k * 2 ^ t) := by
  unfold rnd
  split
  · exact ⟨id, id⟩
  · rename_i hl
    have e : k * 2 ^ t = (k * 2 ^ (t - (bitLen n - 24))) * 2 ^ (bitLen n - 24) := by
      rw [Nat.mul_assoc, ← Nat.pow_add]; congr 2; omega
    rw [e]
    exact rndTo_sandwich n _ _

theorem rndTo_mono {n n' : Nat} (sh : Nat) (h : n ≤ n') : rndTo n sh ≤ rndTo n' sh := by
  apply Nat.mul_le_mul_right
  have hqq : n / 2 ^ sh ≤ n' / 2 ^ sh := Nat.div_le_div_right h
  by_cases hq : n / 2 ^ sh = n' / 2 ^ sh
  · -- same quotient: the remainders are ordered, and `rq` rounds up from some remainder on
    have hdm := Nat.div_add_mod n (2 ^ sh)
    have hdm' := Nat.div_add_mod n' (2 ^ sh)
    rw [hq] at hdm
    simp only [rq, Nat.shiftRight_eq_div_pow, hq]
    split <;> split <;> omega
  · have := (rq_near n sh).2
    have := (rq_near n' sh).1
    simp only [Nat.shiftRight_eq_div_pow] at *
    omega

theorem rnd_mono {n n' : Nat} (h : n ≤ n') : rnd n ≤ rnd n' := by
  by_cases hl : bitLen n = bitLen n'
  · unfold rnd
    rw [← hl]
    split
    · exact h
    · exact rndTo_mono _ h
  · -- different lengths: a power of two lies between them
    have hlt : bitLen n < bitLen n' := by
      apply Nat.lt_of_le_of_ne _ hl
      rw [bitLen_le_iff]
      exact Nat.lt_of_le_of_lt h (lt_two_pow_bitLen n')
    have h1 : rnd n ≤ 1 * 2 ^ bitLen n :=
      (rnd_sandwich n 1 (bitLen n) (by omega)).2 (by have := lt_two_pow_bitLen n; omega)
    have h2 : 1 * 2 ^ (bitLen n' - 1) ≤ rnd n' :=
      (rnd_sandwich n' 1 (bitLen n' - 1) (by omega)).1 (by have := two_pow_bitLen_le n' (by omega); omega)
    have h3 : 2 ^ bitLen n ≤ 2 ^ (bitLen n' - 1) := Nat.pow_le_pow_right (by decide) (by omega)
    omega

theorem rnd_zero : rnd 0 = 0 := by simp [rnd, bitLen]

theorem f32Round_small {n : Nat} (e : Nat) (h : bitLen n ≤ 24) :
    f32Round n e = (n <<< (24 - bitLen n), (bitLen n : Int) - 24 - e) := by
  simp [f32Round, h]

theorem f32Round_big {n : Nat} (e : Nat) (h : ¬ bitLen n ≤ 24) :
    f32Round n e = if rq n (bitLen n - 24) = 2 ^ 24 then (2 ^ 23, ((bitLen n - 24 : Nat) : Int) + 1 - e)
      else (rq n (bitLen n - 24), ((bitLen n - 24 : Nat) : Int) - e) := by
  simp only [f32Round, h, rq, if_false]
  rfl

theorem bitLen_pos {n : Nat} (hn : 0 < n) : 0 < bitLen n := by
  unfold bitLen; split <;> omega

theorem shift_bounds {n : Nat} (hl : ¬ bitLen n ≤ 24) :
    2 ^ 23 ≤ n >>> (bitLen n - 24) ∧ n >>> (bitLen n - 24) < 2 ^ 24 := by
  have h1 := two_pow_bitLen_le n (by omega)
  have h2 := lt_two_pow_bitLen n
  have hD : 0 < 2 ^ (bitLen n - 24) := Nat.pow_pos (by decide)
  rw [Nat.shiftRight_eq_div_pow]
  constructor
  · rw [Nat.le_div_iff_mul_le hD, ← Nat.pow_add]
    have : 23 + (bitLen n - 24) = bitLen n - 1 := by omega
    rw [this]; exact h1
  · rw [Nat.div_lt_iff_lt_mul hD, ← Nat.pow_add]
    have : 24 + (bitLen n - 24) = bitLen n := by omega
    rw [this]; exact h2

theorem rq_bounds {n : Nat} (hl : ¬ bitLen n ≤ 24) :
    2 ^ 23 ≤ rq n (bitLen n - 24) ∧ rq n (bitLen n - 24) ≤ 2 ^ 24 := by
  obtain ⟨a, b⟩ := shift_bounds hl
  unfold rq
  split <;> omega

/-- `f32Round` of a positive `n`: a normalised 24-bit significand `m` and an exponent `t - 24 - e` with
    `m * 2^t = rnd n * 2^24`; `t` is at most one more than the length of `n` (one more when rounding carries) -/
theorem f32Round_spec {n : Nat} (e : Nat) (hn : 0 < n) :
    ∃ m t : Nat, f32Round n e = (m, (t : Int) - 24 - e) ∧ 2 ^ 23 ≤ m ∧ m < 2 ^ 24 ∧
      m * 2 ^ t = rnd n * 2 ^ 24 ∧ t ≤ bitLen n + 1 := by
  by_cases hl : bitLen n ≤ 24
  · have h1 := two_pow_bitLen_le n (bitLen_pos hn)
    have h2 := lt_two_pow_bitLen n
    refine ⟨n * 2 ^ (24 - bitLen n), bitLen n, ?_, ?_, ?_, ?_, Nat.le_succ _⟩
    · rw [f32Round_small e hl, Nat.shiftLeft_eq]
    · have : 2 ^ 23 = 2 ^ (bitLen n - 1) * 2 ^ (24 - bitLen n) := by
        rw [← Nat.pow_add]; congr 1; have := bitLen_pos hn; omega
      rw [this]; exact Nat.mul_le_mul_right _ h1
    · have : 2 ^ 24 = 2 ^ bitLen n * 2 ^ (24 - bitLen n) := by
        rw [← Nat.pow_add]; congr 1; omega
      rw [this]; exact Nat.mul_lt_mul_of_pos_right h2 (Nat.pow_pos (by decide))
    · simp only [rnd, hl, if_true]
      rw [Nat.mul_assoc, ← Nat.pow_add]; congr 2; omega
  · obtain ⟨a, b⟩ := rq_bounds hl
    by_cases hc : rq n (bitLen n - 24) = 2 ^ 24
    · refine ⟨2 ^ 23, bitLen n + 1, ?_, Nat.le_refl _, by decide, ?_, Nat.le_refl _⟩
      · rw [f32Round_big e hl, if_pos hc]; congr 1; omega
      · simp only [rnd, hl, if_false, rndTo, hc]
        rw [← Nat.pow_add, ← Nat.pow_add, ← Nat.pow_add]; congr 1; omega
    · refine ⟨rq n (bitLen n - 24), bitLen n, ?_, a, by omega, ?_, Nat.le_succ _⟩
      · rw [f32Round_big e hl, if_neg hc]; congr 1; omega
      · simp only [rnd, hl, if_false, rndTo]
        rw [Nat.mul_assoc, ← Nat.pow_add]; congr 2; omega

/-- the (significand, exponent) pair `f32Round` returns denotes `rnd n / 2^e` -/
theorem f32Round_value (n e : Nat) :
    0 ≤ (f32Round n e).2 + e + 24 ∧
    (f32Round n e).1 * 2 ^ ((f32Round n e).2 + e + 24).toNat = rnd n * 2 ^ 24 := by
  rcases Nat.eq_zero_or_pos n with rfl | hn
  · rw [f32Round_small e (by decide)]; simp [bitLen, rnd_zero]
  · obtain ⟨m, t, h, -, -, hv, -⟩ := f32Round_spec e hn
    rw [h]
    have : (t : Int) - 24 - e + e + 24 = t := by omega
    simp only [this, Int.toNat_natCast]
    exact ⟨Int.natCast_nonneg t, hv⟩

theorem scale_eq (m k e : Nat) (z : Int) (hz : z = (k : Int) - e) :
    (if z ≥ 0 then m <<< z.toNat else m >>> (-z).toNat) = m * 2 ^ k / 2 ^ e := by
  have hE : 0 < 2 ^ e := Nat.pow_pos (by decide)
  split
  · rename_i h
    have : z.toNat = k - e := by omega
    rw [this, Nat.shiftLeft_eq]
    have : m * 2 ^ k = m * 2 ^ (k - e) * 2 ^ e := by
      rw [Nat.mul_assoc, ← Nat.pow_add]; congr 2; omega
    rw [this, Nat.mul_div_cancel _ hE]
  · rename_i h
    have : (-z).toNat = e - k := by omega
    rw [this, Nat.shiftRight_eq_div_pow]
    have : 2 ^ e = 2 ^ (e - k) * 2 ^ k := by rw [← Nat.pow_add]; congr 1; omega
    rw [this, Nat.mul_div_mul_right _ _ (Nat.pow_pos (by decide))]

/-- the magnitude `truncF32OfDyadic` computes is `⌊rnd n / 2^e⌋`: with `t = q + e + 24` the pair denotes
    `m * 2^t = rnd n * 2^24` (`f32Round_value`), and shifting by `q = t - (e + 24)` divides that by `2^(e+24)` -/
theorem trunc_mag (n e : Nat) :
    (if (f32Round n e).2 ≥ 0 then (f32Round n e).1 <<< (f32Round n e).2.toNat
     else (f32Round n e).1 >>> (-(f32Round n e).2).toNat) = rnd n / 2 ^ e := by
  obtain ⟨v1, v2⟩ := f32Round_value n e
  rw [scale_eq _ ((f32Round n e).2 + e + 24).toNat (e + 24) _ (by omega), v2, Nat.pow_add,
    Nat.mul_div_mul_right _ _ (Nat.pow_pos (by decide))]

theorem rndZ_neg (z : Int) : rndZ (-z) = -rndZ z := by
  unfold rndZ
  rw [Int.natAbs_neg]
  by_cases h : z = 0
  · subst h; simp [rnd_zero]
  · split <;> split <;> omega

theorem rndZ_mono {a b : Int} (h : a ≤ b) : rndZ a ≤ rndZ b := by
  unfold rndZ
  split <;> split
  · have : b.natAbs ≤ a.natAbs := by omega
    have := rnd_mono this
    omega
  · omega
  · omega
  · have : a.natAbs ≤ b.natAbs := by omega
    have := rnd_mono this
    omega

theorem rndZ_sandwich_nonneg {num : Int} {t : Nat} (h0 : 0 ≤ num) (hg : bitLen num.natAbs ≤ 24 + t) (k : Int) :
    (k * 2 ^ t ≤ num → k * 2 ^ t ≤ rndZ num) ∧ (num ≤ k * 2 ^ t → rndZ num ≤ k * 2 ^ t) := by
  have hD : (0 : Int) < 2 ^ t := Int.pow_pos (by decide)
  have hr : rndZ num = rnd num.natAbs := if_neg (Int.not_lt.mpr h0)
  rw [hr]
  by_cases hk : 0 ≤ k
  · obtain ⟨j, rfl⟩ := Int.eq_ofNat_of_zero_le hk
    obtain ⟨n, rfl⟩ := Int.eq_ofNat_of_zero_le h0
    obtain ⟨lo, hi⟩ := rnd_sandwich n j t (by rw [Int.natAbs_natCast] at hg; omega)
    have c : ((j * 2 ^ t : Nat) : Int) = j * 2 ^ t := by push_cast; rfl
    rw [Int.natAbs_natCast, ← c]
    exact ⟨fun h => Int.ofNat_le.mpr (lo (Int.ofNat_le.mp h)), fun h => Int.ofNat_le.mpr (hi (Int.ofNat_le.mp h))⟩
  · have := Int.mul_neg_of_neg_of_pos (Int.not_le.mp hk) hD
    exact ⟨fun _ => by omega, fun h => by omega⟩

/-- the negative half is the mirror image of the positive one -/
theorem rndZ_sandwich {num : Int} {t : Nat} (hg : bitLen num.natAbs ≤ 24 + t) (k : Int) :
    (k * 2 ^ t ≤ num → k * 2 ^ t ≤ rndZ num) ∧ (num ≤ k * 2 ^ t → rndZ num ≤ k * 2 ^ t) := by
  by_cases h0 : 0 ≤ num
  · exact rndZ_sandwich_nonneg h0 hg k
  · obtain ⟨lo, hi⟩ := rndZ_sandwich_nonneg (num := -num) (by omega) (by rwa [Int.natAbs_neg]) (-k)
    rw [rndZ_neg, Int.neg_mul] at lo hi
    exact ⟨fun h => Int.neg_le_neg_iff.mp (hi (Int.neg_le_neg h)), fun h => Int.neg_le_neg_iff.mp (lo (Int.neg_le_neg h))⟩

/-- rounding to `float` does not leave an interval whose ends `lo * 2^t`, `hi * 2^t` are representable
    on `num`'s grid -/
theorem rndZ_range {num lo hi : Int} {t : Nat} (hg : bitLen num.natAbs ≤ 24 + t)
    (h1 : lo * 2 ^ t ≤ num) (h2 : num ≤ hi * 2 ^ t) : lo * 2 ^ t ≤ rndZ num ∧ rndZ num ≤ hi * 2 ^ t :=
  ⟨(rndZ_sandwich hg lo).1 h1, (rndZ_sandwich hg hi).2 h2⟩

theorem truncF32OfDyadic_eq (num : Int) (e : Nat) : truncF32OfDyadic num e = (rndZ num).tdiv (2 ^ e) := by
  have c : ((2 ^ e : Nat) : Int) = 2 ^ e := by push_cast; rfl
  unfold truncF32OfDyadic rndZ
  split
  · subst_vars; simp [rnd_zero]
  · have := trunc_mag num.natAbs e
    simp only at this ⊢
    rw [this]
    split
    · rw [Int.neg_tdiv, ← c, ← Int.ofNat_tdiv]
    · rw [← c, ← Int.ofNat_tdiv]

theorem truncF32OfDyadic_mono {a b : Int} (e : Nat) (h : a ≤ b) :
    truncF32OfDyadic a e ≤ truncF32OfDyadic b e := by
  rw [truncF32OfDyadic_eq, truncF32OfDyadic_eq]
  exact Int.tdiv_le_tdiv (Int.pow_pos (by decide)) (rndZ_mono h)

/-- between two integers `lo ≤ hi` (numerators `lo * 2^e ≤ num ≤ hi * 2^e`, the grid of `num` not
    coarser than `2^e`) the emitted `int` stays between `lo` and `hi`: the rounded value stays between
    `lo * 2^e` and `hi * 2^e`, whose truncated quotients are `lo` and `hi` -/
theorem truncF32OfDyadic_range {num lo hi : Int} {e : Nat} (hg : bitLen num.natAbs ≤ 24 + e)
    (h1 : lo * 2 ^ e ≤ num) (h2 : num ≤ hi * 2 ^ e) :
    lo ≤ truncF32OfDyadic num e ∧ truncF32OfDyadic num e ≤ hi := by
  have hD : (0 : Int) < 2 ^ e := Int.pow_pos (by decide)
  obtain ⟨r1, r2⟩ := rndZ_range hg h1 h2
  have q1 := Int.tdiv_le_tdiv hD r1
  have q2 := Int.tdiv_le_tdiv hD r2
  rw [Int.mul_tdiv_cancel _ (Int.ne_of_gt hD)] at q1 q2
  rw [truncF32OfDyadic_eq]
  exact ⟨q1, q2⟩

end Rtosc.Midi
