/-
  C04 helper lemmas: the perfect-hash tables.
    * `count_dups(t) == 0` implies that the entries of `t` are pairwise different;
    * `find_assoc` leaves `assoc` at zero when the lengths already separate the names, and
      can be evaluated from few values because the hash is affine in each `assoc[i]`;
    * `find_remap` inverts the hash on pairwise different hash values;
    * hence every table that the guards of `generate_minimal_hash` let through satisfies
      `HashOK` — whatever `find_pos` / `find_assoc` returned (`matcherOf_HashOK`).
-/
import RtoscModel.Ports.DispatchSpec
namespace Rtosc.Ports
open Rtosc Rtosc.Match Rtosc.Ports.Hash

theorem dupInner_zero {α : Type} [DecidableEq α] (x : α) :
    ∀ (r : List α) (mr : List Bool), r.length = mr.length → (dupInner x r mr).1 = 0 →
      x ∉ r ∧ (dupInner x r mr).2 = mr := by
  intro r
  induction r with
  | nil => intro mr _ _; cases mr <;> simp [dupInner]
  | cons y r ih =>
    intro mr hl h0
    cases mr with
    | nil => simp at hl
    | cons k mr =>
      simp only [List.length_cons, Nat.add_right_cancel_iff] at hl
      simp only [dupInner] at h0 ⊢
      by_cases hxy : x = y
      · simp [hxy] at h0
      · simp only [hxy, ↓reduceIte] at h0 ⊢
        obtain ⟨h1, h2⟩ := ih mr hl h0
        exact ⟨by simp [hxy, h1], by rw [h2]⟩

theorem dupOuter_zero {α : Type} [DecidableEq α] :
    ∀ (l : List α), dupOuter l (List.replicate l.length false) = 0 → l.Nodup := by
  intro l
  induction l with
  | nil => intro _; exact List.nodup_nil
  | cons x r ih =>
    intro h
    simp only [List.length_cons, List.replicate_succ, dupOuter, Bool.false_eq_true, ↓reduceIte] at h
    have h1 : (dupInner x r (List.replicate r.length false)).1 = 0 := by omega
    obtain ⟨hx, hm⟩ := dupInner_zero x r _ (by simp) h1
    rw [hm] at h
    exact List.nodup_cons.mpr ⟨hx, ih (by omega)⟩

/-- every iteration of `find_pos` that does not `break` lowers `current_dups`: more than
    `current_dups` iterations are never needed, the result does not depend on the fuel -/
theorem posLoop_fuel (strs : List Bytes) (N : Nat) : ∀ (cur f g : Nat) (pos : List Nat) (b : Nat × Nat),
    cur < f → cur < g → posLoop strs N f pos cur b = posLoop strs N g pos cur b := by
  intro cur
  induction cur using Nat.strongRecOn with
  | ind cur ih =>
    intro f g pos b hf hg
    cases f with
    | zero => omega
    | succ f =>
      cases g with
      | zero => omega
      | succ g =>
        simp only [posLoop]
        split
        · rfl
        · next hlt =>
          have hlt' : (posRound strs pos (List.range N) b).2 < cur := by omega
          exact ih _ hlt' f g _ _ (by omega) (by omega)

/-- once no duplicate is left, the search for a better `assoc[i]` keeps what it has -/
theorem assocInner_settled (strs : List Bytes) (pos assoc : List Nat) (i : Nat) :
    ∀ (js : List Nat) (j : Nat), assocInner strs pos assoc i js (j, 0) = (j, 0) := by
  intro js
  induction js with
  | nil => intro j; rfl
  | cons x js ih => intro j; simp only [assocInner, Nat.not_lt_zero, ↓reduceIte]; exact ih j

theorem assocInner_zero {strs : List Bytes} {pos assoc : List Nat} {i : Nat}
    (h : countDups (strs.map (hashStr pos (assoc.set i 0))) = 0) (n j : Nat) :
    assocInner strs pos assoc i (List.range (n + 1)) (j, intMax) = (0, 0) := by
  rw [List.range_succ_eq_map, assocInner, h, if_pos (show 0 < intMax by decide)]
  exact assocInner_settled ..

theorem assocChars_zero {strs : List Bytes} {pos : List Nat} {n : Nat}
    (h : countDups (strs.map (hashStr pos (List.replicate n 0))) = 0) :
    ∀ (cs : List UInt8) (b : Nat × Nat),
      ∃ b', assocChars strs pos cs (List.replicate n 0) b = (List.replicate n 0, b') := by
  have hset (k : Nat) : (List.replicate n 0).set k 0 = List.replicate n 0 := by simp
  intro cs
  induction cs with
  | nil => intro b; exact ⟨b, rfl⟩
  | cons c cs ih =>
    intro b
    rw [assocChars, assocInner_zero (by rw [hset]; exact h) 99, hset]
    exact ih _

/-- names whose hash values `length + Σ 0` differ already (by their lengths): `find_assoc` leaves
    `assoc` at zero -/
theorem findAssoc_zero {strs : List Bytes} {pos : List Nat}
    (h : countDups (strs.map (hashStr pos (List.replicate 127 0))) = 0) :
    findAssoc strs pos = List.replicate 127 0 := by
  have hr : ∀ (k cur : Nat) (b : Nat × Nat),
      assocRounds strs pos (usefulChars strs) k (List.replicate 127 0) cur b = List.replicate 127 0 := by
    intro k
    induction k with
    | zero => intro _ _; rfl
    | succ k ih =>
      intro cur b
      obtain ⟨b', hb'⟩ := assocChars_zero h (usefulChars strs) b
      rw [assocRounds, hb']
      dsimp only
      split
      · rfl
      · exact ih ..
  exact hr ..

/-! ### `find_assoc` evaluated

The hash value is affine in `assoc[i]`, so the 100 trial values for one character need the hash values
with `assoc[i] = 0` and the number of times the character is hashed, not 100 updated tables.
`assocRoundsLin` is `assocRounds` computed that way: for the tables whose names the lengths do not
separate, where the search has to be run. -/

/-- how often the character `i` — an index of `assoc`, which has `n` entries — stands at one of the
    positions `pos` of `s` -/
def posCount (pos : List Nat) (n i : Nat) (s : Bytes) : Nat :=
  if i < n then pos.countP (fun p => (s[p]?).map (·.toNat) == some i) else 0

theorem hashStr_set (pos assoc : List Nat) (i j : Nat) (s : Bytes) :
    hashStr pos (assoc.set i j) s = hashStr pos (assoc.set i 0) s + j * posCount pos assoc.length i s := by
  unfold hashStr posCount
  induction pos with
  | nil => simp
  | cons p ps ih =>
    cases hp : s[p]? with
    | none => simpa [List.filterMap_cons, hp, List.countP_cons] using ih
    | some c =>
      simp only [List.filterMap_cons, hp, Option.bind_some, List.countP_cons, Option.map_some, beq_iff_eq,
        Option.some.injEq]
      by_cases hc : c.toNat = i
      · by_cases hi : i < assoc.length
        · simp only [hc, List.getElem?_set_self hi, List.sum_cons, hi, ↓reduceIte] at ih ⊢
          rw [Nat.mul_add]; omega
        · have hn (x : Nat) : (assoc.set i x)[c.toNat]? = none := by simp [hc]; omega
          simp only [hn, hi, ↓reduceIte] at ih ⊢
          exact ih
      · have hn (x : Nat) : (assoc.set i x)[c.toNat]? = assoc[c.toNat]? := by
          rw [List.getElem?_set_ne (Ne.symm hc)]
        simp only [hn, hc, ↓reduceIte, Nat.add_zero]
        cases assoc[c.toNat]? with
        | none => exact ih
        | some v => simp only [List.sum_cons]; omega

/-- `assocInner` on the hash values for `assoc[i] = 0` and the counts of `i` -/
def assocInnerLin (base counts : List Nat) : List Nat → Nat × Nat → Nat × Nat
  | [], b => b
  | j :: js, b =>
    let d := countDups (List.zipWith (fun h n => h + j * n) base counts)
    if d < b.2 then assocInnerLin base counts js (j, d) else assocInnerLin base counts js b

def assocCharsLin (strs : List Bytes) (pos : List Nat) : List UInt8 → List Nat → Nat × Nat → List Nat × (Nat × Nat)
  | [], a, b => (a, b)
  | c :: cs, a, b =>
    let b' := assocInnerLin (strs.map (hashStr pos (a.set c.toNat 0))) (strs.map (posCount pos a.length c.toNat))
      (List.range 100) (b.1, intMax)
    assocCharsLin strs pos cs (a.set c.toNat b'.1) b'

def assocRoundsLin (strs : List Bytes) (pos : List Nat) (useful : List UInt8) :
    Nat → List Nat → Nat → Nat × Nat → List Nat
  | 0, a, _, _ => a
  | k + 1, a, cur, b =>
    let r := assocCharsLin strs pos useful a b
    if r.2.2 ≥ cur then r.1 else assocRoundsLin strs pos useful k r.1 r.2.2 r.2

theorem assocInner_lin (strs : List Bytes) (pos assoc : List Nat) (i : Nat) : ∀ (js : List Nat) (b : Nat × Nat),
    assocInner strs pos assoc i js b =
      assocInnerLin (strs.map (hashStr pos (assoc.set i 0))) (strs.map (posCount pos assoc.length i)) js b := by
  intro js
  induction js with
  | nil => intro b; rfl
  | cons j js ih =>
    intro b
    have : strs.map (hashStr pos (assoc.set i j)) = List.zipWith (fun h n => h + j * n)
        (strs.map (hashStr pos (assoc.set i 0))) (strs.map (posCount pos assoc.length i)) := by
      rw [List.zipWith_map_left, List.zipWith_map_right, List.zipWith_self]
      exact List.map_congr_left (fun s _ => hashStr_set pos assoc i j s)
    simp only [assocInner, assocInnerLin, this, ih]

theorem assocChars_lin (strs : List Bytes) (pos : List Nat) : ∀ (cs : List UInt8) (a : List Nat) (b : Nat × Nat),
    assocChars strs pos cs a b = assocCharsLin strs pos cs a b := by
  intro cs
  induction cs with
  | nil => intro a b; rfl
  | cons c cs ih => intro a b; simp only [assocChars, assocCharsLin, assocInner_lin, ih]

theorem assocRounds_lin (strs : List Bytes) (pos : List Nat) (useful : List UInt8) :
    ∀ (k : Nat) (a : List Nat) (cur : Nat) (b : Nat × Nat),
      assocRounds strs pos useful k a cur b = assocRoundsLin strs pos useful k a cur b := by
  intro k
  induction k with
  | zero => intro a cur b; rfl
  | succ k ih => intro a cur b; simp only [assocRounds, assocRoundsLin, assocChars_lin, ih]

theorem findAssoc_lin (strs : List Bytes) (pos : List Nat) :
    findAssoc strs pos =
      assocRoundsLin strs pos (usefulChars strs) 4 (List.replicate 127 0) strs.length (0, intMax) :=
  assocRounds_lin ..

def constSearch (pos assoc : List Nat) : Search := { findPos := fun _ => pos, findAssoc := fun _ _ => assoc }

/-- `refreshMagic` consults the search twice, for the keys of its table.  With the two answers as
    hypotheses a test vector is evaluated without `findAssoc` (600 trial tables for three characters)
    running inside the evaluation. -/
theorem matcherOf_real {names keys : List Bytes} {pos assoc : List Nat}
    (hk : (names.map splitName).map (·.1) = keys) (hp : findPos keys = pos) (ha : findAssoc keys pos = assoc) :
    matcherOf realSearch names = matcherOf (constSearch pos assoc) names := by
  subst hk hp ha; unfold matcherOf; rfl

theorem matcherOfUnfixed_real {names keys : List Bytes} {pos assoc : List Nat}
    (hk : (names.map splitName).map (·.1) = keys) (hp : findPos keys = pos) (ha : findAssoc keys pos = assoc) :
    matcherOfUnfixed realSearch names = matcherOfUnfixed (constSearch pos assoc) names := by
  subst hk hp ha; unfold matcherOfUnfixed; rfl

theorem remapFill_length : ∀ (hs : List Nat) (i : Nat) (r : List Nat),
    (remapFill hs i r).length = r.length := by
  intro hs
  induction hs with
  | nil => intro i r; rfl
  | cons h hs ih => intro i r; simp [remapFill, ih]

theorem remapFill_other : ∀ (hs : List Nat) (i : Nat) (r : List Nat) (x : Nat), x ∉ hs →
    (remapFill hs i r)[x]? = r[x]? := by
  intro hs
  induction hs with
  | nil => intro i r x _; rfl
  | cons h hs ih =>
    intro i r x hx
    simp only [List.mem_cons, not_or] at hx
    simp only [remapFill]
    rw [ih _ _ _ hx.2, List.getElem?_set_ne (Ne.symm hx.1)]

theorem remapFill_get : ∀ (hs : List Nat) (i : Nat) (r : List Nat), hs.Nodup → (∀ h ∈ hs, h < r.length) →
    ∀ (j : Nat) (hj : j < hs.length), (remapFill hs i r)[hs[j]]? = some (i + j) := by
  intro hs
  induction hs with
  | nil => intro i r _ _ j hj; simp at hj
  | cons h hs ih =>
    intro i r hnd hlt j hj
    obtain ⟨hnot, hnd'⟩ := List.nodup_cons.mp hnd
    simp only [remapFill]
    cases j with
    | zero =>
      simp only [List.getElem_cons_zero, Nat.add_zero]
      rw [remapFill_other _ _ _ _ hnot]
      have : h < r.length := hlt h List.mem_cons_self
      simp [this]
    | succ j =>
      simp only [List.getElem_cons_succ]
      have := ih (i + 1) (r.set h i) hnd' (fun x hx => by
        simp only [List.length_set]; exact hlt x (List.mem_cons_of_mem _ hx)) j (by simpa using hj)
      rw [this]
      congr 1
      omega

theorem remapFill_range (bound : Nat) : ∀ (hs : List Nat) (i : Nat) (r : List Nat),
    (∀ x ∈ r, x < bound) → i + hs.length ≤ bound → ∀ x ∈ remapFill hs i r, x < bound := by
  intro hs
  induction hs with
  | nil => intro i r hr _ x hx; exact hr x hx
  | cons h hs ih =>
    intro i r hr hb x hx
    simp only [remapFill] at hx
    simp only [List.length_cons] at hb
    refine ih (i + 1) (r.set h i) ?_ (by omega) x hx
    intro y hy
    rcases List.mem_or_eq_of_mem_set hy with hy | rfl
    · exact hr y hy
    · omega

theorem foldl_max_le (hs : List Nat) : ∀ (n : Nat), n ≤ hs.foldl (fun n h => max n (h + 1)) n := by
  induction hs with
  | nil => intro n; exact Nat.le_refl _
  | cons h hs ih => intro n; simp only [List.foldl_cons]; exact Nat.le_trans (Nat.le_max_left _ _) (ih _)

theorem foldl_max_bound (hs : List Nat) : ∀ (n : Nat), ∀ h ∈ hs, h < hs.foldl (fun n h => max n (h + 1)) n := by
  induction hs with
  | nil => intro n h hh; simp at hh
  | cons x hs ih =>
    intro n h hh
    simp only [List.foldl_cons]
    rcases List.mem_cons.mp hh with rfl | hh
    · have := foldl_max_le hs (max n (h + 1))
      have h2 : h + 1 ≤ max n (h + 1) := Nat.le_max_right _ _
      omega
    · exact ih _ h hh

theorem findRemap_get (keys : List Bytes) (pos assoc : List Nat)
    (hnd : (keys.map (hashStr pos assoc)).Nodup) (i : Nat) (hi : i < keys.length) :
    (findRemap keys pos assoc)[hashStr pos assoc keys[i]]? = some i := by
  have := remapFill_get (keys.map (hashStr pos assoc)) 0
    (List.replicate ((keys.map (hashStr pos assoc)).foldl (fun n h => max n (h + 1)) 0) 0) hnd
    (fun h hh => by simp only [List.length_replicate]; exact foldl_max_bound _ 0 h hh) i (by simpa using hi)
  simpa [findRemap] using this

theorem HashOK.keys_inj {names : List Bytes} {pm : Matcher} (h : HashOK names pm)
    {i j : Nat} (hi : i < (keysOf names).length) (hj : j < (keysOf names).length)
    (he : (keysOf names)[i] = (keysOf names)[j]) : i = j := by
  have h1 := h.remap i hi
  have h2 := h.remap j hj
  rw [he, h2] at h1
  exact (Option.some.inj h1).symm

/-- what `refreshMagic` returns: always a `Port_Matcher`, and one with non-empty `pos` only past all the
    guards of `generate_minimal_hash`, with the fields it stores there -/
theorem matcherOf_cases (S : Search) (names : List Bytes) :
    ∃ pm, matcherOf S names = some pm ∧
      (pm.pos ≠ [] →
        names.any (fun n => hasChar 35 n || innerSlash n || highByte n) = false ∧ names ≠ [] ∧
        countDups ((keysOf names).map (hashStr pm.pos pm.assoc)) = 0 ∧
        pm.fixed = keysOf names ∧ pm.argSpec = specsOf names ∧ pm.enump = names.map (hasChar 35) ∧
        pm.remap = findRemap (keysOf names) pm.pos pm.assoc) := by
  have hk : (names.map splitName).map (·.1) = keysOf names := by simp [keysOf]
  have hs : (names.map splitName).map (·.2) = specsOf names := by simp [specsOf]
  unfold matcherOf
  simp only [hk, hs]
  split
  · exact ⟨_, rfl, fun h => absurd rfl h⟩
  · next hguard =>
    split
    · exact ⟨_, rfl, fun h => absurd rfl h⟩
    · next hempty =>
      split
      · exact ⟨_, rfl, fun h => absurd rfl h⟩
      · split
        · exact ⟨_, rfl, fun h => absurd rfl h⟩
        · next hd =>
          refine ⟨_, rfl, fun _ => ⟨by simpa using hguard, ?_, Decidable.not_not.mp hd, rfl, rfl, rfl, rfl⟩⟩
          intro h0; subst h0; simp [keysOf] at hempty

/-- **whatever the heuristic search did**: a table for which `refreshMagic` leaves a
    non-empty `pos` satisfies `HashOK` -/
theorem matcherOf_HashOK (S : Search) (names : List Bytes) (pm : Matcher)
    (h : matcherOf S names = some pm) (hpos : pm.pos ≠ []) : HashOK names pm := by
  obtain ⟨pm', h', hc⟩ := matcherOf_cases S names
  rw [h] at h'
  cases h'
  obtain ⟨hguard, hne, hd, hfix, hspec, hen, hremap⟩ := hc hpos
  simp only [List.any_eq_false, Bool.or_eq_true, not_or, Bool.not_eq_true] at hguard
  refine ⟨fun n hn => (hguard n hn).1.1, fun n hn => (hguard n hn).1.2, hfix, hspec, hen, ?_, ?_⟩
  · intro i hi
    rw [hremap]
    exact findRemap_get _ _ _ (dupOuter_zero _ hd) i hi
  · intro x hx
    rw [hremap] at hx
    have : 0 < names.length := List.length_pos_iff.mpr hne
    refine remapFill_range names.length _ 0 _ (fun y hy => ?_) (by simp [keysOf]) x hx
    simp only [List.mem_replicate] at hy
    omega

end Rtosc.Ports
