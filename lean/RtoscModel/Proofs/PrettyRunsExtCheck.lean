/-
  C10 — tier 3, compressed runs in context: the syntax checker.

  `rtosc_skip_next_printed_arg` on a range `x ... z` inspects the text of the previous argument
  (`llhssrc`; `IntKind.Codec.skipNext_ellG` in PrettyRunArithRead): `CheckL F ll0 tail c` says what it
  finds there (the value `c`) with any amount of fuel from `F + 2` on, for the three kinds of
  previous arguments the printer writes (a token, `nxT`, a range).  Then the arguments the checker
  makes of a segment text (one piece or two, each with the context it needs and the context it
  leaves) and a segment text in front of a chain of the loop of `rtosc_count_printed_arg_vals`; the
  loop over a whole text is in PrettyRunsArrCheck.
-/
import RtoscModel.Proofs.PrettyRunsExtScan
namespace Rtosc.Pretty
open Rtosc Rtosc.Libc
open Rtosc.ArgVal (Cell)

theorem skipNext_runG (n : Nat) (hn : 1 ≤ n) (t : Bytes) (c : Cell) (htok : TokOK t c) (hsc : c.isScalar = true)
    (fuel : Nat) (ty : UInt8) (llhs : Option Bytes) (fe ib : Bool) (rest : Bytes) (hrest : Sep rest) :
    skipNextPrintedArg (fuel + 2) (runText n t ++ rest) ty llhs fe ib = .ok ⟨some rest, 2, 45⟩ := by
  have hr' := htok.skip_noell hsc rest fuel 0 none ib hrest
  have h3 := hrest.2.2
  rw [runText_append, skipNext_value llhs fe (skipValue_run _ n hn t rest ty ib hr') rfl]
  simp [h3]

/-- in the text `ll0` of the previous argument the checker finds the value `c`, given `F + 2`
    units of fuel (`F = 0` for a value or a run; 3 for an array, since `nx[a b ... z]` takes five levels
    of the recursion: `skipNext_arunSegs`, PrettyRunsArrCheck) -/
def CheckL (F : Nat) (ll0 tail : Bytes) (c : Cell) : Prop :=
  ∀ (f : Nat) (ib : Bool), F ≤ f → FindsL (skipNextPrintedArg (f + 2)) 105 ib ll0 tail c

theorem scanOne11_of_scan (s : Bytes) (k : Nat) (c : Cell) (hint : typesMatch c.type 105 = true)
    (h : C11.scanArgVal (s.length + 2) s [] 0 false = .ok (k, [c])) : C11.scanOne s = .ok c := by
  obtain ⟨p, rfl⟩ := typesMatch_105 c hint
  unfold C11.scanOne
  simp [h, bind, Except.bind]

theorem checkL_tok {F : Nat} {t : Bytes} {c : Cell} (htok : TokOK t c) (hsc : c.isScalar = true) (sp cur tail : Bytes)
    (hsp : IsSepTxt sp) (hcur : TokStart cur) : CheckL F (t ++ (sp ++ cur)) tail c :=
  fun f ib _ => htok.findsL hsc 105 sp cur tail hsp hcur (f + 1) ib fun hint =>
    scanOne11_of_scan _ t.length c hint (htok.scan11_noell hsc (sp ++ cur) _ [] 0 (sep_of_next sp cur hsp hcur))

theorem checkL_crun {F : Nat} (n : Nat) (hn : 1 ≤ n) {t : Bytes} {c : Cell} (htok : TokOK t c) (hsc : c.isScalar = true)
    (sp cur tail : Bytes) (hsp : IsSepTxt sp) (hcur : TokStart cur) : CheckL F (runText n t ++ (sp ++ cur)) tail c := by
  intro f ib _
  have hS := sep_of_next sp cur hsp hcur
  have hr' := htok.skip_noell hsc (sp ++ cur) (f + 1) 0 none ib hS
  have hpick : pickLl1 (runText n t ++ (sp ++ cur)) (sp ++ cur) tail = t ++ (sp ++ cur) := by
    unfold pickLl1
    rw [skipSpace_sep sp cur hsp hcur, startsWith_ell_of_tokStart cur hcur, runText_append,
      isRangeMultiplier_mult n hn, afterX_mult n hn]
    simp
  refine ⟨⟨some (sp ++ cur), 2, 45⟩, sp ++ cur, _, skipNext_runG n hn t c htok hsc f 0 none false ib _ hS, rfl,
    by rw [hpick]; exact hr', rfl, ?_⟩
  intro hint
  rw [hpick]
  exact scanOne11_of_scan _ t.length c hint (htok.scan11_noell hsc (sp ++ cur) _ [] 0 hS)

/-- a range `x' ... z'` in front of the range: its last value -/
theorem checkL_ell {F : Nat} (x' z' : Int) (hx1 : -2147483648 ≤ x') (hx2 : x' ≤ 2147483647) (hz1 : -2147483648 ≤ z')
    (hz2 : z' ≤ 2147483647) (sp' : Bytes) (hsp' : IsSepTxt sp') (sp cur tail : Bytes) (hsp : IsSepTxt sp)
    (hcur : TokStart cur) (hlen : tail.length ≤ cur.length) :
    CheckL F (fmtDec x' ++ ellRest sp' (fmtDec z' ++ (sp ++ cur))) tail (Cell.int .i z') := by
  intro f ib _
  have hS := sep_of_next sp cur hsp hcur
  rw [ellRest_eq]
  obtain ⟨hW, hsk1, hsk2⟩ := rangeRest_facts [32] sp' (fmtDec z') (sp ++ cur) (by decide) (by simp) hsp'.ws
    (tokStart_fmtDec z' hz1 hz2)
  have hpick : pickLl1 (fmtDec x' ++ rangeRest [32] sp' (fmtDec z') (sp ++ cur)) (rangeRest [32] sp' (fmtDec z') (sp ++ cur))
      tail = fmtDec z' ++ (sp ++ cur) := by
    unfold pickLl1
    rw [hsk1]
    have hgt : ([46, 46, 46] ++ (sp' ++ (fmtDec z' ++ (sp ++ cur)))).length > (46 :: 46 :: 46 :: tail).length := by
      have : 1 ≤ sp.length := by rcases hsp with rfl | rfl <;> simp
      simp only [List.length_append, List.length_cons, List.length_nil]
      omega
    have hsw : startsWith ([46, 46, 46] ++ (sp' ++ (fmtDec z' ++ (sp ++ cur)))) [46, 46, 46] = true := by
      simp [startsWith, List.isPrefixOf]
    rw [if_pos ⟨hgt, hsw⟩]
    simpa using hsk2
  refine ⟨⟨some (rangeRest [32] sp' (fmtDec z') (sp ++ cur)), 1, 105⟩, _, ⟨some (sp ++ cur), 1, 105⟩,
    intCodec.skipNext_noell (f + 1) x' ⟨hx1, hx2⟩ _ hW 0 none ib, rfl, ?_, rfl, ?_⟩
  · rw [hpick]; exact intCodec.skipNext_noell (f + 1) z' ⟨hz1, hz2⟩ _ hS.toW 0 none ib
  · intro _
    rw [hpick]; exact intCodec.scanOne11_tok z' ⟨hz1, hz2⟩ _ hS.toW

/-- what the checker knows in front of the text `cur`: nothing, or the previous argument's text -/
def CheckInv (F : Nat) (L : Option Cell) (recent : Option Bytes) (cur : Bytes) : Prop :=
  match L with
  | none => recent = none
  | some c => ∃ ll0, recent = some ll0 ∧ (TokStart cur → ∀ tail : Bytes, tail.length ≤ cur.length → CheckL F ll0 tail c)

theorem checkInv_hll {F : Nat} {L : Option Cell} {recent : Option Bytes} {cur : Bytes} (h : CheckInv F L recent cur)
    (hcur : TokStart cur) (tail : Bytes) (hlen : tail.length ≤ cur.length) :
    (recent = none ∧ L = none) ∨ ∃ ll0 c, recent = some ll0 ∧ L = some c ∧ CheckL F ll0 tail c := by
  cases L with
  | none => exact Or.inl ⟨h, rfl⟩
  | some c =>
    obtain ⟨ll0, h1, h2⟩ := h
    exact Or.inr ⟨ll0, c, h1, rfl, h2 hcur tail hlen⟩

theorem ellRest_length (sep Z : Bytes) : (ellRest sep Z).length = 4 + sep.length + Z.length := by
  simp [ellRest]; omega

/-- with `recent` the text of the previous argument, the checker skips the text `T` in front of `X`
    as one argument of `k` cells and type `ty`, given enough fuel: `g + 3` units with `F ≤ g`, or with
    `T.length ≤ g + 1` (what the top-level loop provides) -/
def SkipsArg (F : Nat) (recent : Option Bytes) (T X : Bytes) (k : Int) (ty : UInt8) : Prop :=
  TokStart T ∧ ∀ (g : Nat) (ty0 : UInt8) (ib : Bool), (F ≤ g ∨ T.length ≤ g + 1) →
    skipNextPrintedArg (g + 3) (T ++ X) ty0 recent true ib = .ok ⟨some X, k, ty⟩

theorem skipsArg_tok {t : Bytes} {c : Cell} (ht : TokOK t c) (F : Nat) (X : Bytes) (hS : Sep X) (recent : Option Bytes) :
    SkipsArg F recent t X 1 c.type := by
  refine ⟨ht.start, fun g ty0 ib _ => ?_⟩
  obtain ⟨r, hr, hsrc, hsk, hty⟩ := ht.skip X (g + 2) ty0 recent ib hS
  rw [hr]; cases r; simp_all

theorem skipsArg_ell {F : Nat} {x z : Int} (hx : -2147483648 ≤ x ∧ x ≤ 2147483647) (hz : -2147483648 ≤ z ∧ z ≤ 2147483647)
    {sp : Bytes} (hsp : IsSepTxt sp) (X : Bytes) (hS : Sep X) (hF : F ≤ 3) {recent : Option Bytes} {L : Option Cell}
    (hinv : CheckInv F L recent (fmtDec x ++ ellRest sp (fmtDec z) ++ X))
    {useless : Bool} (hu : IntKind.i.UselessFor L x useless) {num : Int} {dl : Cell}
    (hdelta : C11.deltaFromArgVals (if useless then none else L) (Cell.int .i x) (some (Cell.int .i z)) useless = .ok (num, dl))
    (hnum : num ≠ -1) :
    SkipsArg F recent (fmtDec x ++ ellRest sp (fmtDec z)) X 3 45 := by
  have hTs : TokStart (fmtDec x ++ ellRest sp (fmtDec z)) := (tokStart_fmtDec x hx.1 hx.2).append _
  have e : fmtDec x ++ ellRest sp (fmtDec z) ++ X = fmtDec x ++ ellRest sp (fmtDec z ++ X) := by
    rw [List.append_assoc, ellRest_append]
  refine ⟨hTs, fun g ty0 ib hg => ?_⟩
  have hll := checkInv_hll hinv (hTs.append _) (sp ++ (fmtDec z ++ X)) (by
    rw [e]; simp only [List.length_append, ellRest_length]; omega)
  rw [e]
  have hg : F ≤ g := by
    rcases hg with h | h
    · exact h
    · simp only [List.length_append, ellRest_length] at h; omega
  exact intCodec.skipNext_ellG g x z hx hz sp hsp X hS.toW ty0 ib recent L
    (hll.imp id fun ⟨ll0, c, h1, h2, hck⟩ => ⟨ll0, c, h1, h2, hck g ib hg⟩) useless hu num dl hdelta hnum

/-- one argument in the left context `rL` (the value the checker's look-back finds in the text of the
    previous argument): in front of any `X` the checker skips `T` as `k` cells of the type `ty`, and
    behind it the look-back finds `rL'`.  The top-level loop and the loop inside an array both skip a
    text piece by piece. -/
def SkipsPiece (F : Nat) (rL : Option Cell) (T : Bytes) (k : Int) (ty : UInt8) (rL' : Option Cell) : Prop :=
  TokStart T ∧ ∀ (X : Bytes) (recent : Option Bytes), Sep X → CheckInv F rL recent (T ++ X) →
    SkipsArg F recent T X k ty ∧
    ∀ sep next, X = sep ++ next → (TokStart next → IsSepTxt sep) → CheckInv F rL' (some (T ++ X)) next

theorem skipsPiece_tok {F : Nat} {t : Bytes} {c : Cell} (ht : TokOK t c) (hsc : c.isScalar = true) (rL : Option Cell) :
    SkipsPiece F rL t 1 c.type (some c) :=
  ⟨ht.start, fun X recent hS _ => ⟨skipsArg_tok ht F X hS recent, fun sep next e hc => by
    subst e
    exact ⟨_, rfl, fun hcur tail _ => checkL_tok ht hsc sep next tail (hc hcur) hcur⟩⟩⟩

theorem skipsPiece_ell {F : Nat} (hF : F ≤ 3) {x z : Int} (hx : -2147483648 ≤ x ∧ x ≤ 2147483647)
    (hz : -2147483648 ≤ z ∧ z ≤ 2147483647) {sp : Bytes} (hsp : IsSepTxt sp) {rL : Option Cell}
    {useless : Bool} (hu : IntKind.i.UselessFor rL x useless) {num : Int} {dl : Cell}
    (hdelta : C11.deltaFromArgVals (if useless then none else rL) (Cell.int .i x) (some (Cell.int .i z)) useless = .ok (num, dl))
    (hnum : num ≠ -1) :
    SkipsPiece F rL (fmtDec x ++ ellRest sp (fmtDec z)) 3 45 (some (Cell.int .i z)) :=
  ⟨(tokStart_fmtDec x hx.1 hx.2).append _, fun X recent hS hinv =>
    ⟨skipsArg_ell hx hz hsp X hS hF hinv hu hdelta hnum, fun sep next e hc => by
      subst e
      refine ⟨_, rfl, fun hcur tail hlen => ?_⟩
      rw [List.append_assoc, ellRest_append]
      exact checkL_ell x z hx.1 hx.2 hz.1 hz.2 sp hsp sep next tail (hc hcur) hcur hlen⟩⟩

/-- **the arguments of a segment text** for the checker: one piece — or two for `a b ... z` — with the
    type of the value the piece stands for (what the array loop compares) -/
theorem SegText.skips {F : Nat} {pL : Option Cell} {s : RSeg} {T : Bytes} (hT : SegText pL s T) (hF : F ≤ 3) :
    (s.nargs pL = 1 ∧ ∃ ty, (ty = 45 ∨ ∃ c, s.cells = [c] ∧ ty = c.type) ∧
        ∀ rL, RdCtx pL rL → SkipsPiece F rL T ((s.scanned pL).length : Nat) ty (some s.last)) ∨
    (∃ a T', s.nargs pL = 2 ∧ T = fmtDec a ++ ([32] ++ T') ∧ (s.scanned pL).length = 4 ∧
        (∃ r, s.cells = Cell.int .i a :: r) ∧ (∀ rL, SkipsPiece F rL (fmtDec a) 1 105 (some (Cell.int .i a))) ∧
        SkipsPiece F (some (Cell.int .i a)) T' 3 45 (some s.last)) := by
  cases hT with
  | tok t c ht hsc => exact Or.inl ⟨rfl, c.type, Or.inr ⟨c, rfl, rfl⟩, fun rL _ => skipsPiece_tok ht hsc rL⟩
  | crun m t c ht hsc hm1 hm2 =>
    exact Or.inl ⟨rfl, 45, Or.inl rfl, fun rL _ => ⟨tokStart_run m hm1 t, fun X recent hS _ =>
      ⟨⟨tokStart_run m hm1 t, fun g ty0 ib _ => skipNext_runG m hm1 t c ht hsc (g + 1) ty0 recent true ib X hS⟩,
        fun sep next e hc => by
          subst e
          exact ⟨_, rfl, fun hcur tail _ => checkL_crun m hm1 ht hsc sep next tail (hc hcur) hcur⟩⟩⟩⟩
  | short a d m sp h hsf hsp =>
    obtain ⟨hu, hnc⟩ := shortForm_unit hsf
    refine Or.inl ⟨by simp [RSeg.nargs, hsf], 45, Or.inl rfl, fun rL hctx => ?_⟩
    simp only [RSeg.scanned, hsf, ↓reduceIte, List.length_cons, List.length_nil, RSeg.last]
    exact skipsPiece_ell hF h.r0 h.rz hsp (useless := true) (uselessFor_rd hctx a hnc)
      (by simpa [zOf] using delta_run_unit h hu) (by omega)
  | long a d m sp h hsf hsp =>
    have hn := h.hn
    have hne : a ≠ a + d := by have := h.hd; omega
    exact Or.inr ⟨a, _, by simp [RSeg.nargs, hsf], rfl, by simp [RSeg.scanned, hsf], ⟨_, arithRun_cons a d m (by omega)⟩,
      fun rL => skipsPiece_tok (C11.valOK_int a h.r0.1 h.r0.2).tokOK rfl rL,
      skipsPiece_ell hF h.r1 h.rz hsp (useless := false) (Or.inr ⟨a, rfl, by simp [hne]⟩)
        (by simpa [zOf] using delta_run_step h) (by omega)⟩

/-- in the context `rL` the loop of `rtosc_count_printed_arg_vals` skips `T` as the argument `cs` and then
    knows `rL'`: the pieces of its chains (Proofs/PrettyLoops.lean).  `CheckInv 3`: at top level the
    previous argument may be an array. -/
def CheckP (rL : Option Cell) (T : Bytes) (cs : List Cell) (rL' : Option Cell) : Prop :=
  ∀ (gap next : Bytes) (recent : Option Bytes), GapK gap next → CheckInv 3 rL recent (T ++ (gap ++ next)) →
    TokStart T ∧ CheckInv 3 rL' (some (T ++ (gap ++ next))) next ∧
    ∃ r, skipNextPrintedArg (checkFuel (T ++ (gap ++ next)) recent) (T ++ (gap ++ next)) 0 recent true false = .ok r ∧
      r.src = some (gap ++ next) ∧ r.skipped = cs.length

/-- the loop calls `rtosc_skip_next_printed_arg` with fuel for the whole text -/
theorem SkipsArg.loop {F : Nat} {recent : Option Bytes} {T X : Bytes} {k : Int} {ty : UInt8} (h : SkipsArg F recent T X k ty) :
    ∃ r, skipNextPrintedArg (checkFuel (T ++ X) recent) (T ++ X) 0 recent true false = .ok r ∧ r.src = some X ∧
      r.skipped = k := by
  have hpos := List.length_pos_iff.mpr h.1.1
  have hskip := h.2 ((T ++ X).length - 1) 0 false (Or.inr (by simp only [List.length_append]; omega))
  rw [show (T ++ X).length - 1 + 3 = (T ++ X).length + 2 by simp only [List.length_append] at hpos ⊢; omega] at hskip
  exact ⟨_, skipNextPrintedArg_checkFuel hskip, rfl, rfl⟩

theorem SkipsPiece.checkP {rL rL' : Option Cell} {T : Bytes} {k : Int} {ty : UInt8} (h : SkipsPiece 3 rL T k ty rL')
    {cs : List Cell} (hk : k = (cs.length : Nat)) : CheckP rL T cs rL' := by
  intro gap next recent hg hinv
  obtain ⟨hsk, hnext⟩ := h.2 (gap ++ next) recent hg.1.sep hinv
  exact ⟨h.1, hnext gap next rfl hg.2, by rw [← hk]; exact hsk.loop⟩

theorem countLoop_chain {rL : Option Cell} {css : List (List Cell)} {text next : Bytes}
    (h : Chain CheckP (fun _ => GapK) rL css text next) (hnext : hd next = 0 ∨ hd next = 47) (f : Nat)
    (recent : Option Bytes) (num : Int) (hinv : CheckInv 3 rL recent text) (hf : css.length + 1 ≤ f) :
    countLoop f (some text) recent num = .ok (num + css.flatten.length) := by
  rw [countLoop_eq]
  exact h.countLoop skipNextPrintedArg (CheckInv 3) (fun h => h.1) (fun hp gap next recent hg hJ => hp gap next recent hg hJ)
    hnext f recent num hinv hf

/-- **the arguments of a segment text in front of a chain**: one or two pieces (`css0`) -/
theorem SegText.checkChain {pL : Option Cell} {s : RSeg} {T : Bytes} (hT : SegText pL s T) :
    ∃ css0, css0.flatten.length = (s.scanned pL).length ∧ css0.length = s.nargs pL ∧
      ∀ rL, RdCtx pL rL → ∀ {gap rest next : Bytes} {css : List (List Cell)}, GapK gap rest →
        Chain CheckP (fun _ => GapK) (some s.last) css rest next →
        Chain CheckP (fun _ => GapK) rL (css0 ++ css) (T ++ (gap ++ rest)) next := by
  rcases hT.skips (Nat.le_refl 3) with ⟨h1, ty, _, hp⟩ | ⟨a, T', h2, rfl, hlen, _, hp1, hp2⟩
  · exact ⟨[s.scanned pL], by simp, by simp [h1], fun rL hctx _ _ _ _ hg hrest => .cons ((hp rL hctx).checkP rfl) hg hrest⟩
  · refine ⟨[[Cell.int .i a], (s.scanned pL).drop 1], by simp [hlen], by simp [h2], fun rL _ gap rest next css hg hrest => ?_⟩
    rw [show fmtDec a ++ ([32] ++ T') ++ (gap ++ rest) = fmtDec a ++ ([32] ++ (T' ++ (gap ++ rest))) by
      simp only [List.append_assoc]]
    exact .cons ((hp1 rL).checkP rfl) (.sepTxt (Or.inl rfl) (hp2.1.append _))
      (.cons (hp2.checkP (by simp [hlen])) hg hrest)

theorem SegsText.nargs_le {L : Option Cell} {segs : List RSeg} {text : Bytes} (h : SegsText L segs text) :
    nargsAll L segs ≤ text.length := by
  induction h with
  | nil => simp [nargsAll]
  | cons L s segs T sep text hT _ _ _ ih =>
    have : s.nargs L ≤ T.length := by
      cases hT with
      | tok t c ht _ => have := List.length_pos_iff.mpr ht.start.1; simp [RSeg.nargs]; omega
      | crun m t c ht _ hm _ => have := List.length_pos_iff.mpr (tokStart_run m hm t).1; simp [RSeg.nargs]; omega
      | short a d m sp h hsf _ => simp [RSeg.nargs, hsf, ellRest_length]; omega
      | long a d m sp h hsf _ => simp [RSeg.nargs, hsf, ellRest_length]; omega
    simp only [nargsAll, List.length_append]
    omega

end Rtosc.Pretty
