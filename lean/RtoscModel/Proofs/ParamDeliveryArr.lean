/-
  C14 — helper lemmas about the restricted matcher of RtoscModel/Param/Port.lean on the
  patterns of the array port macros, `name#N:…`: the path must be the name followed by a run
  of decimal digits whose value is below `N`, and nothing else.
-/
import RtoscModel.Proofs.ParamDelivery
import RtoscModel.Proofs.ParamLemmas
namespace Rtosc.Param
open Rtosc

theorem matchPath_hash (f : Nat) (p msg : Bytes) :
    matchPath (f + 1) (35 :: p) msg =
      (match p, msg with
       | pc :: _, mc :: _ =>
         if isDigit pc && isDigit mc then
           match atoi p, atoi msg with
           | some mx, some v =>
             if v < mx then matchPath f (dropDigits p) (dropDigits msg) else .ok none
           | _, _ => .error .unsup
         else .ok none
       | _, _ => .ok none) := by
  cases p with
  | nil => exact matchPath.eq_8 _ f [] (by simp)
  | cons pc pr =>
    cases msg with
    | nil => exact matchPath.eq_8 _ f _ (by simp)
    | cons mc mr => exact matchPath.eq_7 f pc pr mc mr

theorem dropDigits_stop (ds tail : Bytes) (h : AllDigits ds) (ht : Stops tail) :
    dropDigits (ds ++ tail) = tail := by
  induction ds with
  | nil =>
    rcases ht with rfl | ⟨c, r, rfl, hc⟩
    · rfl
    · simp [dropDigits, hc]
  | cons c r ih =>
    have hc : isDigit c = true := h c (List.mem_cons_self)
    have hr : AllDigits r := fun x hx => h x (List.mem_cons_of_mem _ hx)
    simp only [List.cons_append, dropDigits, hc, ↓reduceIte]
    exact ih hr

/-- **the `#N` step** (`rtosc_match_number`), for every text `ds ++ tail` (a run of digits and
    what stops it) found in the path where the pattern has its `#N`, and every pattern `pat` behind
    the number. -/
theorem matchPath_enum (f : Nat) (nd pat ds tail : Bytes)
    (hnd : AllDigits nd) (hnne : nd ≠ []) (hnv : digitsVal nd ≤ 2147483647) (hp : Stops pat)
    (hds : AllDigits ds) (ht : Stops tail) :
    matchPath (f + 1) (35 :: (nd ++ pat)) (ds ++ tail) =
      if ds = [] then .ok none
      else if 2147483647 < digitsVal ds then .error .unsup
      else if digitsVal ds < digitsVal nd then matchPath f pat tail else .ok none := by
  rw [matchPath_hash]
  obtain ⟨n0, nr, rfl⟩ := List.exists_cons_of_ne_nil hnne
  have hn0 : isDigit n0 = true := hnd n0 (List.mem_cons_self)
  cases ds with
  | nil =>
    rcases ht with rfl | ⟨c, r, rfl, hc⟩
    · simp
    · simp [hc]
  | cons d0 dr =>
    have hd0 : isDigit d0 = true := hds d0 (List.mem_cons_self)
    have hN := atoi_run (n0 :: nr) pat hnd (by simp) hp
    have hK := atoi_run (d0 :: dr) tail hds (by simp) ht
    simp only [hnv, ↓reduceIte] at hN
    simp only [List.cons_append] at hN hK ⊢
    simp only [hn0, hd0, Bool.and_self, ↓reduceIte, hN, hK, reduceCtorEq]
    by_cases hv : digitsVal (d0 :: dr) ≤ 2147483647
    · have hv' : ¬ (2147483647 < digitsVal (d0 :: dr)) := Nat.not_lt.mpr hv
      simp only [hv, ↓reduceIte, hv']
      have e1 := dropDigits_stop (n0 :: nr) pat hnd hp
      have e2 := dropDigits_stop (d0 :: dr) tail hds ht
      simp only [List.cons_append] at e1 e2
      rw [e1, e2]
      simp only [Int.ofNat_lt]
    · have hv' : 2147483647 < digitsVal (d0 :: dr) := Nat.lt_of_not_le hv
      simp only [hv, ↓reduceIte, hv']

theorem matchPath_number (f : Nat) (nd spec ds tail : Bytes)
    (hnd : AllDigits nd) (hnne : nd ≠ []) (hnv : digitsVal nd ≤ 2147483647)
    (hds : AllDigits ds) (ht : Stops tail) :
    matchPath (f + 2) (35 :: (nd ++ 58 :: spec)) (ds ++ tail) =
      if ds = [] then .ok none
      else if 2147483647 < digitsVal ds then .error .unsup
      else if digitsVal ds < digitsVal nd ∧ tail = [] then .ok (some (58 :: spec))
      else .ok none := by
  rw [matchPath_enum (f + 1) nd _ ds tail hnd hnne hnv (stops_cons spec (by decide)) hds ht, matchPath_colon]
  by_cases h1 : digitsVal ds < digitsVal nd <;> by_cases h2 : tail = [] <;> simp [h1, h2]

theorem digit_split (s : Bytes) : ∃ ds tail, s = ds ++ tail ∧ AllDigits ds ∧ Stops tail := by
  induction s with
  | nil => exact ⟨[], [], rfl, (by intro c hc; cases hc), stops_nil⟩
  | cons c r ih =>
    by_cases hc : isDigit c = true
    · obtain ⟨ds, tail, h1, h2, h3⟩ := ih
      refine ⟨c :: ds, tail, by rw [h1]; rfl, ?_, h3⟩
      intro x hx
      rcases List.mem_cons.mp hx with rfl | hx
      · exact hc
      · exact h2 x hx
    · exact ⟨[], c :: r, rfl, (by intro x hx; cases hx), stops_cons r (by simpa using hc)⟩

theorem matchPath_array (name nd spec ds : Bytes) (hn : PlainName name)
    (hnd : AllDigits nd) (hnne : nd ≠ []) (hnv : digitsVal nd ≤ 2147483647)
    (hds : AllDigits ds) (hdne : ds ≠ []) (hdv : digitsVal ds ≤ 2147483647) (f : Nat) :
    matchPath (f + 2 + name.length) (arrPattern name nd spec) (name ++ ds) =
      if digitsVal ds < digitsVal nd then .ok (some (58 :: spec)) else .ok none := by
  have h := matchPath_number f nd spec ds [] hnd hnne hnv hds stops_nil
  rw [List.append_nil] at h
  rw [arrPattern, matchPath_walk name _ _ hn, h]
  have : ¬ (2147483647 < digitsVal ds) := Nat.not_lt.mpr hdv
  simp [hdne, this]

theorem matchPath_array_only (name nd spec path sp : Bytes) (hn : PlainName name)
    (hnd : AllDigits nd) (hnne : nd ≠ []) (hnv : digitsVal nd ≤ 2147483647) (f : Nat)
    (h : matchPath (f + 2 + name.length) (arrPattern name nd spec) path = .ok (some sp)) :
    ∃ ds, path = name ++ ds ∧ ds ≠ [] ∧ AllDigits ds ∧ digitsVal ds < digitsVal nd := by
  by_cases hp : name <+: path
  · obtain ⟨rest, rfl⟩ := hp
    obtain ⟨ds, tail, rfl, hds, ht⟩ := digit_split rest
    rw [arrPattern, matchPath_walk name _ _ hn, matchPath_number f nd spec ds tail hnd hnne hnv hds ht] at h
    by_cases h1 : ds = []
    · rw [if_pos h1] at h; cases h
    by_cases h2 : 2147483647 < digitsVal ds
    · rw [if_neg h1, if_pos h2] at h; cases h
    by_cases h3 : digitsVal ds < digitsVal nd ∧ tail = []
    · rw [if_neg h1, if_neg h2, if_pos h3] at h
      obtain ⟨hlt, rfl⟩ := h3
      cases h
      exact ⟨ds, by rw [List.append_nil], h1, hds, hlt⟩
    · rw [if_neg h1, if_neg h2, if_neg h3] at h; cases h
  · rw [arrPattern, matchPath_not_prefix name _ path hn hp] at h
    cases h

/-- `rtosc_match` on an array macro port `name#N::tags…` and the address `name<digits>` -/
theorem portMatches_array (name nd spec ds tags : Bytes) (hn : PlainName name)
    (hnd : AllDigits nd) (hnne : nd ≠ []) (hnv : digitsVal nd ≤ 2147483647)
    (hds : AllDigits ds) (hdne : ds ≠ []) (hdv : digitsVal ds ≤ 2147483647) :
    portMatches (arrPattern name nd spec) (name ++ ds) tags =
      .ok (decide (digitsVal ds < digitsVal nd) && matchArgs ((58 :: spec).length + 2) (58 :: spec) tags) := by
  unfold portMatches
  have hf : (arrPattern name nd spec).length + (name ++ ds).length + 2 =
      (nd.length + spec.length + (name ++ ds).length + 2) + 2 + name.length := by
    simp [arrPattern]; omega
  rw [hf, matchPath_array name nd spec ds hn hnd hnne hnv hds hdne hdv]
  by_cases h : digitsVal ds < digitsVal nd <;> simp [h]

theorem portMatches_array_only (name nd spec path tags : Bytes) (hn : PlainName name)
    (hnd : AllDigits nd) (hnne : nd ≠ []) (hnv : digitsVal nd ≤ 2147483647)
    (h : portMatches (arrPattern name nd spec) path tags = .ok true) :
    ∃ ds, path = name ++ ds ∧ ds ≠ [] ∧ AllDigits ds ∧ digitsVal ds < digitsVal nd := by
  unfold portMatches at h
  have hf : (arrPattern name nd spec).length + path.length + 2 =
      (nd.length + spec.length + path.length + 2) + 2 + name.length := by
    simp [arrPattern]; omega
  rw [hf] at h
  split at h
  · cases h
  · cases h
  · rename_i sp hsp
    exact matchPath_array_only name nd spec path sp hn hnd hnne hnv _ hsp

end Rtosc.Param
