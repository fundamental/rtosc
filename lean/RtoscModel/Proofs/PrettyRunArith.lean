/-
  C10 — tier 3: arithmetic runs of integer cells.  With range compression on, a list that is one
  arithmetic run of `n ≥ 5` values of one integer type is printed as `a ... z` (step ±1) or
  `a b ... z` (other steps); checker and scanner read the text back as the range block.

  The three integer types ('i', 'h', 'c') differ in the cell constructor, the type letter, the
  bounds of the C type (`IntKind`) and the printed token (`IntKind.Codec`); the chain
  `rtosc_convert_to_range` → `rtosc_print_range` → scanner → checker is proved once over them.
  This file: the kinds, `rtosc_convert_to_range` on a run followed by any well-formed cells,
  `rtosc_print_range` behind any left neighbour and `rtosc_print_arg_vals` on the list that is one
  run (`printArgVals_run`), `delta_from_arg_vals` on the values of a run, and that every answer of
  C11's copy of that function is the answer of C10's (`delta_c11_le`, on which PrettyScanAgree
  rests).  The readers and the round trip are in PrettyRunArithRead.  The runs in context of
  PrettyRunsExt* use these statements at 'i'; for the list that is one run nothing is around it.
  The property statements about int32 runs are written with `arithRun`, `RunHyp`, `confusing`,
  `shortForm` of Pretty/RunSpec.lean (`hugeRun`, `charRun` alike): `arithRun a d n` is
  `IntKind.i.run a d n` by `rfl`, `RunHyp` gives `intCodec.Run` by `RunHyp.toKind` (PrettyRunInt),
  `confusing` / `shortForm` are `IntKind.i.confusing` / `.shortForm` by `confusing_eq` /
  `shortForm_eq` (PrettyRunsExtPrint).
-/
import RtoscModel.Proofs.PrettyRunConst
namespace Rtosc.Pretty
open Rtosc Rtosc.Libc
open Rtosc.ArgVal (Cell)

theorem mul_bound_of_width (n : Nat) (d : Int) (B : Int) (hwidth : ((n : Int) - 1) * d.natAbs ≤ B) (k : Nat)
    (hk : (k : Int) ≤ (n : Int) - 1) :
    -B ≤ (k : Int) * d ∧ (k : Int) * d ≤ B := by
  have h1 : (k : Int) * (d.natAbs : Int) ≤ ((n : Int) - 1) * (d.natAbs : Int) :=
    Int.mul_le_mul_of_nonneg_right hk (Int.natCast_nonneg _)
  have h0 : 0 ≤ (k : Int) * (d.natAbs : Int) := Int.mul_nonneg (Int.natCast_nonneg _) (Int.natCast_nonneg _)
  rcases Int.natAbs_eq d with e | e <;> rw [e]
  · omega
  · rw [Int.mul_neg]; omega

theorem succ_mul' (k : Nat) (d : Int) : ((k + 1 : Nat) : Int) * d = (k : Int) * d + d := by
  rw [Int.natCast_succ, Int.add_mul, Int.one_mul]

theorem cmp3_lt (x z : Int) (h : x < z) : ArgVal.cmp3 x z = -1 := by
  unfold ArgVal.cmp3; repeat' split
  all_goals omega

theorem cmp3_gt (x z : Int) (h : z < x) : ArgVal.cmp3 x z = 1 := by
  unfold ArgVal.cmp3; repeat' split
  all_goals omega

theorem cmp3_ne (x z : Int) (h : x ≠ z) : ¬ (ArgVal.cmp3 x z = 0) := mt (ArgVal.cmp3_eq_zero_iff x z).mp h

/-! `delta_from_arg_vals` from the results of its steps.  The function finds a comparison and a
delta in one of two ways (with `must_be_unity`, or from a usable left-hand neighbour:
`IntKind.delta_unity`, `IntKind.delta_step`) and goes on from them in one, `C11.deltaTail`.  For
cells that are not floats the quotient `width / delta` is used as it is, and `C11.deltaTail_ok` says
what comes back once each call of src/cpp/arg-val-math.c is known.  This is the copy of the function
in Pretty/C11Model.lean, which signals the overflow of the count `res + 1` where C10's copy wraps
it: every answer of that copy is the answer of C10's (`delta_c11_le`). -/

/-- `C11.deltaFromArgVals` after its `let (cmp, delta) ← …` -/
def C11.deltaTail (lhs : Cell) (rhs : Option Cell) (cmp : Int) (delta : Cell) : Res (Int × Cell) := do
  if cmp = 0 then return (-1, delta)
  match rhs with
  | some r =>
    let width ← must (C11.subF r lhs)
    let div ← must (C11.divF width delta)
    let div1 ←
      match div with
      | .flt _ => must (C11.addF div (.flt (C11.cHalf C11.AF32).toUInt32))
      | .dbl _ => must (C11.addF div (.dbl (C11.cHalf C11.AF64).toUInt64))
      | _ => pure div
    let div' ← must (C11.roundF div1)
    let width2 ← must (C11.multF div' delta)
    if !(← C11.eqTolCell width width2) then return (-1, delta)
    let res ← must (C11.toIntF div')
    if res + 1 > 2147483647 ∨ res + 1 < -2147483648 then throw .undef
    return (res + 1, delta)
  | none => return (0, delta)

theorem C11.deltaTail_ok {lhs r delta width div : Cell} {cmp res : Int} (hcmp0 : ¬ cmp = 0)
    (hwidth : C11.subF r lhs = .ok (some width)) (hdiv : C11.divF width delta = .ok (some div))
    (hnf : isFloatCell div = false) (hround : C11.roundF div = .ok (some div))
    (hmul : C11.multF div delta = .ok (some width)) (heq : C11.eqTolCell width width = .ok true)
    (hres : C11.toIntF div = .ok (some res)) (hov : -2147483648 ≤ res + 1 ∧ res + 1 ≤ 2147483647) :
    C11.deltaTail lhs (some r) cmp delta = .ok (res + 1, delta) := by
  have hov' : ¬ (res + 1 > 2147483647 ∨ res + 1 < -2147483648) := by omega
  simp only [C11.deltaTail, ↓reduceIte, must, bind, Except.bind, pure, Except.pure, hcmp0, hwidth, hdiv]
  cases div <;> cases hnf <;>
    simp only [hround, hmul, heq, hres, hov', Bool.not_true, Bool.false_eq_true, ↓reduceIte]

theorem delta_c11_le (ll : Option Cell) (l : Cell) (r : Option Cell) (u : Bool) :
    RLe (C11.deltaFromArgVals ll l r u) (deltaFromArgVals ll l r u) := by
  unfold C11.deltaFromArgVals deltaFromArgVals
  -- `J`, `J'`: from the comparison and the delta on; `A`, `B`: C10's two ways to them
  extract_lets J J' A B
  have hJ : ∀ x, RLe (J x) (J' x) := by
    rintro ⟨cmp, delta⟩
    jp_unfold J; jp_unfold J'
    refine .ite (fun _ => .refl _) fun _ => ?_
    cases r with
    | none => exact .refl _
    | some r0 =>
      refine .bind (.refl _) fun width => .bind (.refl _) fun div => ?_
      extract_lets Q Q'
      have hQ : ∀ d1, RLe (Q d1) (Q' d1) := fun d1 =>
        .bind (.refl _) fun div' => .bind (.refl _) fun w2 => .bind (.refl _) fun eq =>
        .ite (fun _ => .refl _) fun _ => .bind (.refl _) fun res => ⟨fun x hx => by
          by_cases hov : res + 1 > 2147483647 ∨ res + 1 < -2147483648
          · simp [hov, bind, Except.bind, throw, throwThe, MonadExceptOf.throw] at hx
          · simp only [hov, ↓reduceIte] at hx
            rw [← hx, toI32_id _ (by omega) (by omega)]⟩
      clear_value Q Q'
      cases div <;> exact .bind (.refl _) hQ
  clear_value J J'
  cases u with
  | true =>
    cases r with
    | none => exact .error _ _
    | some r0 =>
      refine .bind (.refl _) fun r1 => ?_
      jp_unfold A
      refine .bind (.refl _) fun cmp => .bind (.refl _) fun d => ?_
      extract_lets P P'
      have hP : ∀ d', RLe (P d') (P' d') := fun d' => .bind (.refl _) hJ
      clear_value P P'
      exact .ite (fun _ => .bind (.refl _) hP) fun _ => .bind (.refl _) hP
  | false =>
    cases ll with
    | none => exact .error _ _
    | some c =>
      refine .bind (.refl _) fun l1 => ?_
      jp_unfold B
      refine .bind (.refl _) fun d => ?_
      extract_lets N
      have hN : ∀ nv, RLe (cmpCell d nv >>= fun cmp => pure (cmp, d) >>= J) (N nv) := fun nv =>
        .bind (.refl _) fun cmp => .bind (.refl _) hJ
      clear_value N
      cases nullVal d with
      | none => exact .error _ _
      | some z => exact .bind (.refl _) hN

theorem lit_ell : lit " ... " = [32, 46, 46, 46, 32] := by decide

theorem initArgsWritten_ell (pre : Bytes) (cols : Int) :
    initArgsWritten ⟨pre ++ lit " ... ", cols⟩ = .ok (if cols ≠ 0 then 1 else 0) := by
  by_cases hcols : cols ≠ 0
  · simp [initArgsWritten, hcols, lit_ell, show isspace 32 = true from by decide]
  · simp [initArgsWritten, hcols]

theorem ite_ok_bool (b1 b2 : Bool) : (if b1 = true then (Except.ok true : Res Bool) else Except.ok b2) = .ok (b1 || b2) := by
  cases b1 <;> simp

theorem printArgVal_rep (f : Nat) (opt : POpt) (num hdl : Int) (more : List Cell) (prev : Option Cell) (st : PSt) :
    printArgVal (f + 1) opt (Cell.rep num hdl :: more) prev st =
      printRange (printArgVal f opt) opt (Cell.rep num hdl :: more) prev st := by
  simp [printArgVal, deref, bind, Except.bind]

theorem startsWith_ell_of_tokStart (t : Bytes) (h : TokStart t) : startsWith t [46, 46, 46] = false :=
  startsWith_dots_hd t h.2.2.2.2.1

theorem nextArgOffset_range (num : Int) (dl s : Cell) (hdl : dl.isScalar = true) :
    nextArgOffset 4 [Cell.rep num 1, dl, s] = .ok 3 := by
  unfold nextArgOffset
  simp only [deref, bind, Except.bind, List.drop_succ_cons, List.drop_zero, nextArgOffset_scalar 2 dl [s] hdl]
  rfl

theorem canPrecedeRange_delta (num : Int) (more : List Cell) :
    canPrecedeRange (Cell.rep num 1 :: more) = .ok true := by
  simp [canPrecedeRange, deref, bind, Except.bind, pure, Except.pure]

/-- the integer types whose arithmetic runs the printer compresses: `int32_t`, `int64_t`, and `char`
    (whose `val.i` is an `int32_t`) -/
inductive IntKind
  | i | h | c

namespace IntKind

def cell : IntKind → Int → Cell
  | .i => Cell.int .i
  | .h => Cell.huge
  | .c => Cell.int .c

def ty : IntKind → UInt8
  | .i => 105
  | .h => 104
  | .c => 99

/-- the largest value of the C type; the smallest is `lo` -/
def hi : IntKind → Int
  | .h => 9223372036854775807
  | _ => 2147483647

def lo (K : IntKind) : Int := -K.hi - 1

/-- the wrap-around of its arithmetic (fix C10-10) -/
def wrap : IntKind → Int → Int
  | .h => toI64
  | _ => toI32

variable (K : IntKind)

/-! The model's functions match on the constructor of a cell; these equations are all that the chain
below uses of them. -/

theorem hi_ge : 2147483647 ≤ K.hi := by cases K <;> decide

theorem wrap_id (v : Int) (h1 : K.lo ≤ v) (h2 : v ≤ K.hi) : K.wrap v = v := by
  cases K <;> simp only [lo, hi, wrap, toI32, toI64] at * <;> omega

theorem type_cell (v : Int) : (K.cell v).type = K.ty := by cases K <;> rfl
theorem scalar_cell (v : Int) : (K.cell v).isScalar = true := by cases K <;> rfl
theorem notFloat_cell (v : Int) : isFloatCell (K.cell v) = false := by cases K <;> rfl
theorem nullVal_cell (x : Int) : nullVal (K.cell x) = some (K.cell 0) := by cases K <;> rfl
theorem fromInt_cell (x k : Int) : fromInt (K.cell x) k = .ok (some (K.cell k)) := by cases K <;> rfl
theorem fromIntF_cell (x k : Int) : C11.fromIntF (K.cell x) k = .ok (some (K.cell k)) := by cases K <;> rfl
theorem negateF_one : C11.negateF (K.cell 1) = .ok (some (K.cell (-1))) := by cases K <;> rfl
theorem roundF_cell (x : Int) : C11.roundF (K.cell x) = .ok (some (K.cell x)) := by cases K <;> rfl

theorem eqSingle_cell (x y : Int) (l r : List Cell) :
    eqSingle (K.cell x :: l) (K.cell y :: r) = .ok (decide (x = y)) := by
  cases K <;>
    simp [cell, eqSingle, ArgVal.eqSingle, ArgVal.deref, ArgVal.Cell.asArr, ArgVal.eqScalar, ArgVal.Cell.type, liftAV,
      bind, Except.bind, pure, Except.pure]

theorem cmpCell_cell (x y : Int) : cmpCell (K.cell x) (K.cell y) = .ok (ArgVal.cmp3 x y) := by
  cases K <;> simp [cell, cmpCell, ArgVal.Cell.isScalar, ArgVal.cmpScalar, ArgVal.Cell.type]

theorem addAV_cell (x y : Int) : addAV (K.cell x) (K.cell y) = .ok (some (K.cell (K.wrap (x + y)))) := by
  cases K <;> simp [cell, wrap, addAV, ArgVal.Cell.type]

theorem subAV_cell (x y : Int) : subAV (K.cell x) (K.cell y) = .ok (some (K.cell (K.wrap (x - y)))) := by
  cases K <;> simp [cell, wrap, subAV, ArgVal.Cell.type]

theorem multAV_cell (x y : Int) : multAV (K.cell x) (K.cell y) = .ok (some (K.cell (K.wrap (x * y)))) := by
  cases K <;> simp [cell, wrap, multAV, ArgVal.Cell.type]

theorem subF_cell (x y : Int) : C11.subF (K.cell x) (K.cell y) = .ok (some (K.cell (K.wrap (x - y)))) := by
  cases K <;> exact subAV_cell _ x y

theorem multF_cell (x y : Int) : C11.multF (K.cell x) (K.cell y) = .ok (some (K.cell (K.wrap (x * y)))) := by
  cases K <;> exact multAV_cell _ x y

theorem divF_cell (x y : Int) (hy : y ≠ 0) (hx : x ≠ K.lo) :
    C11.divF (K.cell x) (K.cell y) = .ok (some (K.cell (Int.tdiv x y))) := by
  cases K <;> simp [lo, hi] at hx <;>
    simp [cell, C11.divF, divAV, ArgVal.Cell.type, cdiv, hy, hx, bind, Except.bind, pure, Except.pure]

theorem eqTolCell_cell (x y : Int) : C11.eqTolCell (K.cell x) (K.cell y) = .ok (decide (x = y)) := by
  cases K <;> simp [cell, C11.eqTolCell, eqCell, ArgVal.eqScalar, ArgVal.Cell.type, liftAV, pure, Except.pure]

theorem toIntF_cell (x : Int) (h1 : -2147483648 ≤ x) (h2 : x ≤ 2147483647) :
    C11.toIntF (K.cell x) = .ok (some x) := by
  cases K <;> simp [cell, C11.toIntF, toIntAV, toI32_id x h1 h2]

theorem addF_cell (x y : Int) : C11.addF (K.cell x) (K.cell y) = .ok (some (K.cell (K.wrap (x + y)))) := by
  cases K
  · exact IntKind.i.addAV_cell x y
  · exact IntKind.h.addAV_cell x y
  · exact IntKind.c.addAV_cell x y

theorem rangeArgF_cell (hdr : Cell) (d a k : Int) (more : List Cell) :
    C11.rangeArgF (hdr :: K.cell d :: K.cell a :: more) k = .ok (some (K.cell (K.wrap (a + K.wrap (k * d))))) := by
  simp [C11.rangeArgF, K.fromIntF_cell, K.multF_cell, K.addF_cell, bind, Except.bind]

theorem stepOverflows_cell (x d : Int) :
    rangeStepOverflows (K.cell x) (K.cell d) = (decide (x + d < K.lo) || decide (x + d > K.hi)) := by
  cases K <;> rfl

theorem widthOverflows_cell (x y : Int) :
    rangeWidthOverflows (K.cell x) (K.cell y) = (decide (y - x < K.lo) || decide (y - x > K.hi)) := by
  cases K <;> rfl

theorem ty_ne_range : ¬ K.ty = ArgVal.tyRange := by
  cases K <;> decide

theorem ty_convertible : (lit "cihTF").contains K.ty = true := by
  cases K <;> decide

theorem ty_numeric : numericRangeTypes.contains K.ty = true := by
  cases K <;> decide

theorem typesMatch_ty : typesMatch K.ty K.ty = true := by simp [typesMatch]

theorem incsize_cell (v : Int) (more : List Cell) : incsize (K.cell v :: more) = .ok 1 :=
  incsize_scalar _ _ (K.scalar_cell v)

/-- The printed token of an integer type: the text `tok v` that the printer writes for the cell of
    `v`, and the values `Ok` for which scanner and checker read it back, also in front of an
    ellipsis (`C11.ValOKW`, Proofs/PrettyTok.lean).  The instances are `intCodec` (`tok := fmtDec`, PrettyRunInt),
    `hugeCodec` (`hTok`, PrettyRunHuge) and `charCodec` (`charText`, PrettyRunChar). -/
structure Codec (K : IntKind) where
  tok : Int → Bytes
  Ok : Int → Prop
  print_cell : ∀ f opt v more prev st, printArgVal (f + 1) opt (K.cell v :: more) prev st =
    .ok (⟨st.out ++ tok v, st.cols + ((tok v).length : Nat)⟩, (tok v).length)
  val : ∀ v, Ok v → C11.ValOKW (tok v) (K.cell v)

theorem Codec.tokStart_tok {K : IntKind} (C : K.Codec) (v : Int) (h : C.Ok v) : TokStart (C.tok v) := (C.val v h).start

theorem Codec.scanValue_tok {K : IntKind} (C : K.Codec) (se : ElemScanner) (v : Int) (h : C.Ok v) (rest : Bytes)
    (hs : SepW rest) (prev : List Cell) : scanValue se (C.tok v ++ rest) prev = .ok ⟨rest, [K.cell v], true⟩ :=
  (C.val v h).scan se rest prev hs

theorem Codec.skipValue_tok {K : IntKind} (C : K.Codec) (sk : ArgSkipper) (v : Int) (h : C.Ok v) (rest : Bytes)
    (hs : SepW rest) (tyIn : UInt8) (ib : Bool) :
    skipValue sk (C.tok v ++ rest) tyIn ib = .ok (some ⟨some rest, 1, K.ty, 0⟩) :=
  K.type_cell v ▸ (C.val v h).skip sk rest tyIn ib hs

theorem Codec.nomult_tok {K : IntKind} (C : K.Codec) (v : Int) (h : C.Ok v) (rest : Bytes) (hs : SepW rest) :
    isRangeMultiplier (C.tok v ++ rest) = false := (C.val v h).nomult rest hs

theorem Codec.tokOK {K : IntKind} (C : K.Codec) (v : Int) (h : C.Ok v) : TokOK (C.tok v) (K.cell v) :=
  (C.val v h).valOK.tokOK

theorem Codec.skipNext_noell {K : IntKind} (C : K.Codec) (f : Nat) (v : Int) (h : C.Ok v) (rest : Bytes)
    (hs : SepW rest) (tyIn : UInt8) (llhs : Option Bytes) (ib : Bool) :
    skipNextPrintedArg (f + 1) (C.tok v ++ rest) tyIn llhs false ib = .ok ⟨some rest, 1, K.ty⟩ := by
  rw [skipNext_value llhs false (C.skipValue_tok _ v h rest hs tyIn ib) rfl]
  simp

def run (a d : Int) (n : Nat) : List Cell :=
  (List.range n).map (fun (k : Nat) => K.cell (a + (k : Int) * d))

theorem run_length (a d : Int) (n : Nat) : (K.run a d n).length = n := by
  simp [run]

theorem run_drop (a d : Int) (n k : Nat) (hk : k < n) :
    (K.run a d n).drop k = K.cell (a + (k : Int) * d) :: (K.run a d n).drop (k + 1) := by
  rw [List.drop_eq_getElem_cons (by rw [run_length]; exact hk)]
  simp [run]

theorem run_cons (a d : Int) (n : Nat) (hn : 0 < n) :
    K.run a d n = K.cell a :: (K.run a d n).drop 1 := by
  simpa using K.run_drop a d n 0 hn

/-- The hypotheses on the run: those of `RunHyp` (Pretty/RunSpec.lean says where each comes from)
    with the bounds of the kind, and the three values that are printed (first, second, last) have
    tokens that read back. -/
structure Codec.Run {K : IntKind} (C : K.Codec) (a d : Int) (n : Nat) : Prop where
  hn : 5 ≤ n
  hd : d ≠ 0
  hrange : ∀ k : Nat, k ≤ n → K.lo ≤ a + (k : Int) * d ∧ a + (k : Int) * d ≤ K.hi
  hwidth : ((n : Int) - 1) * d.natAbs ≤ K.hi
  hn32 : (n : Int) ≤ 2147483647
  ok0 : C.Ok a
  ok1 : C.Ok (a + d)
  okz : C.Ok (a + ((n - 1 : Nat) : Int) * d)

theorem Codec.Run.mul {K : IntKind} {C : K.Codec} {a d : Int} {n : Nat} (h : C.Run a d n) (k : Nat)
    (hk : k + 1 ≤ n) :
    -K.hi ≤ (k : Int) * d ∧ (k : Int) * d ≤ K.hi :=
  mul_bound_of_width n d K.hi h.hwidth k (by omega)

theorem Codec.Run.dbound {K : IntKind} {C : K.Codec} {a d : Int} {n : Nat} (h : C.Run a d n) :
    -K.hi ≤ d ∧ d ≤ K.hi := by
  simpa using h.mul 1 (by have := h.hn; omega)

theorem Codec.Run.first {K : IntKind} {C : K.Codec} {a d : Int} {n : Nat} (h : C.Run a d n) :
    K.lo ≤ a ∧ a ≤ K.hi := by
  simpa using h.hrange 0 (Nat.zero_le _)

theorem Codec.Run.second {K : IntKind} {C : K.Codec} {a d : Int} {n : Nat} (h : C.Run a d n) :
    K.lo ≤ a + d ∧ a + d ≤ K.hi := by
  simpa using h.hrange 1 (by have := h.hn; omega)

theorem run_drop_append (K : IntKind) (a d : Int) (n k : Nat) (R : List Cell) (hk : k < n) :
    (K.run a d n ++ R).drop k = K.cell (a + (k : Int) * d) :: ((K.run a d n).drop (k + 1) ++ R) := by
  rw [List.drop_append_of_le_length (by rw [run_length]; omega), K.run_drop a d n k hk]
  rfl

theorem extendRun_run_next {K : IntKind} {C : K.Codec} {a d : Int} {n : Nat} (h : C.Run a d n) (R : List Cell)
    (hnext : R = [] ∨ eqSingle [K.cell (a + (n : Int) * d)] R = .ok false) :
    ∀ (fuel s c : Nat), s < n → n - s < fuel →
      extendRun fuel (K.run a d n ++ R) (n + R.length) (some (K.cell d)) s c = .ok (n, c + (n - s)) := by
  intro fuel
  induction fuel with
  | zero => intro s c _ hf; omega
  | succ f ih =>
    intro s c hsn hf
    have hlo : K.lo = -K.hi - 1 := rfl
    unfold extendRun
    have hr := h.hrange (s + 1) (by omega)
    rw [succ_mul'] at hr
    have hso : rangeStepOverflows (K.cell (a + (s : Int) * d)) (K.cell d) = false := by
      simp only [K.stepOverflows_cell, Bool.or_eq_false_iff, decide_eq_false_iff_not]
      omega
    have hadd : addAV (K.cell (a + (s : Int) * d)) (K.cell d) =
        .ok (some (K.cell (a + ((s + 1 : Nat) : Int) * d))) := by
      rw [K.addAV_cell, succ_mul', K.wrap_id _ (by omega) (by omega), Int.add_assoc]
    have hA : K.run a d n ++ R = K.cell a :: ((K.run a d n).drop 1 ++ R) := by
      simpa using K.run_drop_append a d n 0 R (by omega)
    simp only [K.run_drop_append a d n s R hsn, deref, bind, Except.bind, K.incsize_cell, hso, hadd, must,
      pure, Except.pure, Bool.false_eq_true, ↓reduceIte]
    by_cases hlt : s + 1 < n
    · have hge : ¬ (s + 1 ≥ n + R.length) := by omega
      have hw := h.mul (s + 1) (by omega)
      have hwo : rangeWidthOverflows (K.cell a) (K.cell (a + ((s + 1 : Nat) : Int) * d)) = false := by
        simp only [K.widthOverflows_cell, Bool.or_eq_false_iff, decide_eq_false_iff_not]
        omega
      simp only [hge, ↓reduceIte, K.run_drop_append a d n (s + 1) R hlt, K.eqSingle_cell, decide_true, Bool.not_true,
        Bool.false_eq_true]
      rw [hA]
      simp only [hwo, Bool.false_eq_true, ↓reduceIte]
      rw [← hA, ih (s + 1) (c + 1) hlt (by omega)]
      congr 2; omega
    · have hsn' : s + 1 = n := by omega
      by_cases hR : R = []
      · subst hR
        have hge : s + 1 ≥ n + ([] : List Cell).length := by simp; omega
        simp only [hge, ↓reduceIte]
        congr 2 <;> omega
      · have hpos : 0 < R.length := List.length_pos_iff.mpr hR
        have hge : ¬ (s + 1 ≥ n + R.length) := by omega
        have hnx := hnext.resolve_left hR
        simp only [hge, ↓reduceIte]
        rw [hsn', List.drop_left' (K.run_length a d n), hnx]
        simp only [Bool.not_false, ↓reduceIte]
        congr 2 <;> omega

/-- **an arithmetic run followed by further arguments, arrays included**: `rtosc_convert_to_range`
    converts exactly the run when the cell behind it does not continue it -/
theorem convertToRange_run_next {K : IntKind} {C : K.Codec} (opt : POpt) (hc : opt.compress = true) {a d : Int} {n : Nat}
    (h : C.Run a d n) (R : List Cell) (hR : WFCells R)
    (hnext : R = [] ∨ eqSingle [K.cell (a + (n : Int) * d)] R = .ok false) :
    convertToRange opt (K.run a d n ++ R) (n + R.length) = .ok (some (n, [Cell.rep n 1, K.cell d, K.cell a])) := by
  have hn := h.hn
  have hlo : K.lo = -K.hi - 1 := rfl
  have hdb := h.dbound
  have hr1 := h.second
  have hlenA : (K.run a d n ++ R).length = n + R.length := by simp [run_length]
  obtain ⟨m, hm, hcc⟩ := countCommon_prefix K.ty hR (K.run a d n) [] (n + R.length + 1) 0 (by
    intro x hx; obtain ⟨k, _, rfl⟩ := List.mem_map.mp hx; exact ⟨K.scalar_cell _, K.type_cell _⟩)
    (by simp [run_length])
  simp only [List.nil_append, List.length_nil, run_length, Nat.zero_add, hlenA] at hm hcc
  have hA : K.run a d n ++ R = K.cell a :: ((K.run a d n).drop 1 ++ R) := by
    simpa using K.run_drop_append a d n 0 R (by omega)
  have hd1 : (K.run a d n).drop 1 ++ R = K.cell (a + d) :: ((K.run a d n).drop 2 ++ R) := by
    have := K.run_drop a d n 1 (by omega)
    rw [this]; simp
  have hne : ¬ (a = a + d) := by have := h.hd; omega
  have her := extendRun_run_next h R hnext (n + R.length + 1) 1 1 (by omega) (by omega)
  rw [show 1 + (n - 1) = n by omega] at her
  have hsub : subAV (K.cell (a + d)) (K.cell a) = .ok (some (K.cell d)) := by
    rw [K.subAV_cell, Int.add_comm a d, Int.add_sub_cancel, K.wrap_id _ (by omega) (by omega)]
  have hso : rangeStepOverflows (K.cell a) (K.cell d) = false := by
    simp only [K.stepOverflows_cell, Bool.or_eq_false_iff, decide_eq_false_iff_not]
    omega
  rw [hA, hd1] at hcc her ⊢
  refine convertToRange_arith opt hc _ _ _ _ (K.scalar_cell a) (by unfold rangeMin; omega) (by rwa [K.type_cell])
    (by unfold rangeMin; omega) ?_ (by rw [K.type_cell]; exact K.ty_convertible) hsub hso her (by unfold rangeMin; omega)
  unfold rangeArgsIdentical
  simp [K.eqSingle_cell, hne, bind, Except.bind, pure, Except.pure]

theorem convertToRange_run {K : IntKind} {C : K.Codec} (opt : POpt) (hc : opt.compress = true) {a d : Int} {n : Nat}
    (h : C.Run a d n) :
    convertToRange opt (K.run a d n) n = .ok (some (n, [Cell.rep n 1, K.cell d, K.cell a])) := by
  simpa using convertToRange_run_next opt hc h [] .nil (Or.inl rfl)

theorem rangeArg_cell (K : IntKind) (hdr : Cell) (d a k : Int) (more : List Cell) :
    rangeArg (hdr :: K.cell d :: K.cell a :: more) k = .ok (some (K.cell (K.wrap (a + K.wrap (k * d))))) := by
  simp [rangeArg, K.fromInt_cell, K.multAV_cell, K.addAV_cell, bind, Except.bind]

theorem rangeArg_run {K : IntKind} {C : K.Codec} {a d : Int} {n : Nat} (h : C.Run a d n) (k : Nat) (hk : k + 1 ≤ n) :
    rangeArg [Cell.rep n 1, K.cell d, K.cell a] (k : Int) = .ok (some (K.cell (a + (k : Int) * d))) := by
  have hlo : K.lo = -K.hi - 1 := rfl
  have hm := h.mul k hk
  have hr := h.hrange k (by omega)
  rw [rangeArg_cell, K.wrap_id ((k : Int) * d) (by omega) (by omega), K.wrap_id _ hr.1 hr.2]

/-- `Rtosc.Pretty.confusing` (Pretty/RunSpec.lean) for any integer kind -/
def confusing (K : IntKind) (L : Option Cell) (a : Int) : Bool :=
  match L with
  | some l => decide (l.type = K.ty) && decide (l ≠ K.cell a)
  | none => false

/-- `Rtosc.Pretty.shortForm` for any integer kind -/
def shortForm (K : IntKind) (L : Option Cell) (a d : Int) : Bool :=
  (decide (d = 1) || decide (d = -1)) && !K.confusing L a

theorem cell_inj (K : IntKind) {p q : Int} : K.cell p = K.cell q ↔ p = q := by
  cases K <;> simp [cell]

theorem confusing_cell (K : IntKind) (q a : Int) : K.confusing (some (K.cell q)) a = decide (q ≠ a) := by
  simp [confusing, K.type_cell, K.cell_inj]

theorem cell_of_type (K : IntKind) (c : Cell) (h : c.type = K.ty) : ∃ p, c = K.cell p := by
  have h' : c.type = (K.cell 0).type := h.trans (K.type_cell 0).symm
  cases K <;> cases ArgVal.SameType.of_type_eq h' <;> exact ⟨_, rfl⟩

/-- the text of the range behind the left neighbour `L`; `sep` is a blank or a line break -/
def Codec.runTextL {K : IntKind} (C : K.Codec) (L : Option Cell) (a d : Int) (n : Nat) (sep : Bytes) : Bytes :=
  if K.shortForm L a d then C.tok a ++ ellRest sep (C.tok (a + ((n - 1 : Nat) : Int) * d))
  else C.tok a ++ ([32] ++ (C.tok (a + d) ++ ellRest sep (C.tok (a + ((n - 1 : Nat) : Int) * d))))

/-- the text of a list that is one run: nothing is in front of it -/
def Codec.runText {K : IntKind} (C : K.Codec) (a d : Int) (n : Nat) (sep : Bytes) : Bytes :=
  C.runTextL none a d n sep

theorem Codec.runText_unit {K : IntKind} (C : K.Codec) (a d : Int) (n : Nat) (sep : Bytes) (hu : d = 1 ∨ d = -1) :
    C.runText a d n sep = C.tok a ++ ellRest sep (C.tok (a + ((n - 1 : Nat) : Int) * d)) := by
  simp [Codec.runText, Codec.runTextL, shortForm, confusing, hu]

theorem Codec.runText_step {K : IntKind} (C : K.Codec) (a d : Int) (n : Nat) (sep : Bytes) (hu : ¬ (d = 1 ∨ d = -1)) :
    C.runText a d n sep =
      C.tok a ++ ([32] ++ (C.tok (a + d) ++ ellRest sep (C.tok (a + ((n - 1 : Nat) : Int) * d)))) := by
  simp [Codec.runText, Codec.runTextL, shortForm, confusing, hu]

theorem Codec.runText_eq {K : IntKind} (C : K.Codec) (a d : Int) (n : Nat) (sep : Bytes) (hn : 1 ≤ n) :
    C.runText a d n sep =
      (if d = 1 ∨ d = -1 then C.tok a else C.tok a ++ lit " " ++ C.tok (a + d)) ++ lit " ..." ++ sep ++
        C.tok (a + ((n : Int) - 1) * d) := by
  have : ((n - 1 : Nat) : Int) = (n : Int) - 1 := by omega
  by_cases hu : d = 1 ∨ d = -1
  · rw [C.runText_unit a d n sep hu]
    simp [ellRest, hu, this, show lit " ..." = [32, 46, 46, 46] from by decide]
  · rw [C.runText_step a d n sep hu]
    simp [ellRest, hu, this, show lit " ..." = [32, 46, 46, 46] from by decide, show lit " " = [32] from by decide]

/-- the loop of `rtosc_print_range` behind " ... ": the last element, after a blank or a line break -/
theorem printRangeElems_last {K : IntKind} {C : K.Codec} (opt : POpt) {a d : Int} {n : Nat} (h : C.Run a d n) (f : Nat)
    (pre : Bytes) (cols : Int) (wrt : Nat) (awl : Nat) :
    ∃ (sep : Bytes) (cols' : Int), IsSepTxt sep ∧
      printRangeElems (printArgVal (f + 1) opt) opt [Cell.rep n 1, K.cell d, K.cell a] 1
        ((n - 1 : Nat) : Int) ⟨pre ++ lit " ... ", cols⟩ wrt (((pre ++ lit " ... ").length : Int) - 1) awl 1 =
      .ok (⟨pre ++ [32, 46, 46, 46] ++ sep ++ C.tok (a + ((n - 1 : Nat) : Int) * d) ++ [32], cols'⟩,
           wrt + (C.tok (a + ((n - 1 : Nat) : Int) * d)).length + sep.length) := by
  have hn := h.hn
  have hz := rangeArg_run h (n - 1) (by omega)
  generalize hZ : C.tok (a + ((n - 1 : Nat) : Int) * d) = Z at *
  have hout : pre ++ lit " ... " = (pre ++ [32, 46, 46, 46]) ++ [32] := by simp [lit_ell]
  obtain ⟨pre1, cols1, awl1, hlb, hpre1⟩ := linebreakCheck_tok (pre ++ lit " ... ") Z
    (cols + (Z.length : Nat)) (wrt + Z.length) (((pre ++ lit " ... ").length : Int) - 1) awl opt.linelength
    (Or.inr ⟨pre ++ [32, 46, 46, 46], hout, by rw [hout]; simp; omega⟩)
  unfold printRangeElems
  simp only [show ((1 : Int) ≠ 0) from by decide, ne_eq, not_false_eq_true, ↓reduceIte, hz, must, bind, Except.bind,
    pure, Except.pure, C.print_cell, hZ, hlb]
  unfold printRangeElems
  rcases hpre1 with hp | ⟨base, hb1, hb2⟩
  · refine ⟨[32], cols1 + 1, Or.inl rfl, ?_⟩
    subst hp
    simp [lit_ell]
  · have hbase : base = pre ++ [32, 46, 46, 46] := by
      rw [hout] at hb1
      exact (List.append_inj_left' hb1 rfl).symm
    refine ⟨nl4, cols1 + 1, Or.inr rfl, ?_⟩
    subst hb2; subst hbase
    simp [lit_ell, nl4]

theorem printRange_prev_irrel (K : IntKind) (pe : ElemPrinter) (opt : POpt) (n : Nat) (a d : Int) (prev : Option Cell)
    (st : PSt) (h : K.confusing prev a = false) :
    printRange pe opt [Cell.rep n 1, K.cell d, K.cell a] prev st =
      printRange pe opt [Cell.rep n 1, K.cell d, K.cell a] none st := by
  cases prev with
  | none => rfl
  | some p =>
    by_cases hp : p.type = K.ty
    · obtain ⟨q, rfl⟩ := K.cell_of_type p hp
      have hq : q = a := by
        rw [K.confusing_cell] at h
        simpa using h
      subst hq
      unfold printRange
      simp only [deref, bind, Except.bind, K.type_cell, K.eqSingle_cell, decide_true, Bool.not_true, ↓reduceIte, pure,
        Except.pure, List.drop_succ_cons, List.drop_zero, show ((1 : Int) ≠ 0) from by decide, ne_eq,
        not_false_eq_true, true_or, K.fromInt_cell, must]
    · unfold printRange
      have hp' : ¬ (p.type = K.ty) := hp
      simp only [deref, bind, Except.bind, K.type_cell, hp', ↓reduceIte, pure, Except.pure, List.drop_succ_cons,
        List.drop_zero, show ((1 : Int) ≠ 0) from by decide, ne_eq, not_false_eq_true, true_or, K.fromInt_cell, must]

/-- `rtosc_print_range` sees its left neighbour only through `confusing`: the neighbour may be
    taken for a value of the kind (the range's own first value if it is not confusing) -/
theorem printRange_prev_cell (K : IntKind) (pe : ElemPrinter) (opt : POpt) (n : Nat) (a d : Int) (prev : Option Cell)
    (st : PSt) :
    ∃ q, K.confusing prev a = K.confusing (some (K.cell q)) a ∧
      printRange pe opt [Cell.rep n 1, K.cell d, K.cell a] prev st =
        printRange pe opt [Cell.rep n 1, K.cell d, K.cell a] (some (K.cell q)) st := by
  by_cases hcf : K.confusing prev a = true
  · cases prev with
    | none => simp [confusing] at hcf
    | some p =>
      have hp : p.type = K.ty := by
        simp only [confusing, Bool.and_eq_true, decide_eq_true_eq] at hcf
        exact hcf.1
      obtain ⟨q, rfl⟩ := K.cell_of_type p hp
      exact ⟨q, rfl, rfl⟩
  · have hcf' : K.confusing prev a = false := by simpa using hcf
    have ha : K.confusing (some (K.cell a)) a = false := by simp [K.confusing_cell]
    exact ⟨a, by rw [hcf', ha], by
      rw [K.printRange_prev_irrel _ _ _ _ _ prev st hcf', K.printRange_prev_irrel _ _ _ _ _ (some (K.cell a)) st ha]⟩

theorem printRange_run {K : IntKind} {C : K.Codec} (opt : POpt) (hc : opt.compress = true) {a d : Int} {n : Nat}
    (h : C.Run a d n) (f : Nat) (prev : Option Cell) (st : PSt) :
    ∃ (sep : Bytes) (cols' : Int), IsSepTxt sep ∧
      printRange (printArgVal (f + 1) opt) opt [Cell.rep n 1, K.cell d, K.cell a] prev st =
        .ok (⟨st.out ++ C.runTextL prev a d n sep, cols'⟩, (C.runTextL prev a d n sep).length) := by
  have hn := h.hn
  have hn0 : ¬ ((n : Int) = 0) := by omega
  have hstart : (n : Int) - 1 = ((n - 1 : Nat) : Int) := by omega
  have hb : rangeArg [Cell.rep n 1, K.cell d, K.cell a] 1 = .ok (some (K.cell (a + d))) := by
    simpa using rangeArg_run h 1 (by omega)
  have hone : ((n : Int) - ((n - 1 : Nat) : Int)).toNat = 1 := by omega
  have hlt : ((n - 1 : Nat) : Int) < (n : Int) := by omega
  obtain ⟨q, hcq, hpq⟩ := K.printRange_prev_cell (printArgVal (f + 1) opt) opt n a d prev st
  -- the printer's test for the form `a ... z` is `shortForm`
  have hcond : ((decide (d = 1) || decide (d = -1)) && !!decide (a = q) || decide False) = K.shortForm prev a d := by
    rw [shortForm, hcq, K.confusing_cell]
    simp [eq_comm]
  rw [hpq]
  unfold printRange Codec.runTextL
  simp only [deref, bind, Except.bind, hc, ↓reduceIte, show ((1 : Int) ≠ 0) from by decide, ne_eq,
    List.drop_succ_cons, List.drop_zero, C.print_cell, K.fromInt_cell, must, pure, Except.pure, K.eqSingle_cell,
    hn0, not_false_eq_true, or_false, hstart, K.type_cell, hone, hlt, ite_ok_bool, hcond]
  cases K.shortForm prev a d
  · -- `a b ... z`
    simp only [Bool.false_eq_true, ↓reduceIte, hb, C.print_cell]
    rw [initArgsWritten_ell]
    obtain ⟨sep, cols', hsep, hpe⟩ := printRangeElems_last opt h f (st.out ++ C.tok a ++ [32] ++ C.tok (a + d))
      (st.cols + ((C.tok a).length : Nat) + 1 + ((C.tok (a + d)).length : Nat) + 5)
      ((C.tok a).length + 1 + (C.tok (a + d)).length + 5)
      (if st.cols + ((C.tok a).length : Nat) + 1 + ((C.tok (a + d)).length : Nat) + 5 ≠ 0 then 1 else 0)
    simp only [hpe]
    refine ⟨sep, cols', hsep, ?_⟩
    rw [List.dropLast_concat]
    simp only [ellRest, List.append_assoc, List.length_append, List.length_cons, List.cons_append,
      List.nil_append]
    congr 2
    omega
  · -- `a ... z`
    simp only [↓reduceIte]
    rw [initArgsWritten_ell]
    obtain ⟨sep, cols', hsep, hpe⟩ := printRangeElems_last opt h f (st.out ++ C.tok a)
      (st.cols + ((C.tok a).length : Nat) + 5) ((C.tok a).length + 5)
      (if st.cols + ((C.tok a).length : Nat) + 5 ≠ 0 then 1 else 0)
    simp only [hpe]
    refine ⟨sep, cols', hsep, ?_⟩
    rw [List.dropLast_concat]
    simp only [ellRest, List.append_assoc, List.length_append, List.length_cons, List.cons_append,
      List.nil_append]
    congr 2
    omega

theorem printArgVals_run {K : IntKind} {C : K.Codec} (opt : POpt) (hc : opt.compress = true) {a d : Int} {n : Nat}
    (h : C.Run a d n) :
    ∃ (sep : Bytes) (cols' : Int), IsSepTxt sep ∧
      printArgVals opt (K.run a d n) ⟨[], 0⟩ =
        .ok (⟨C.runText a d n sep, cols'⟩, (C.runText a d n sep).length) := by
  have hn := h.hn
  obtain ⟨sep, cols', hsep, hpr⟩ := printRange_run opt hc h (n + 1) none ⟨[], 0⟩
  have hlen := K.run_length a d n
  have hhead : (K.run a d n).head? = some (K.cell a) := by rw [K.run_cons a d n (by omega)]; rfl
  have hprint : printArgVal ((K.run a d n).length + 3) opt
      (convInput (some (n, [Cell.rep n 1, K.cell d, K.cell a])) (K.run a d n))
      (if 0 = 0 then none else ((K.run a d n).drop (0 - 1)).head?) ⟨[], 0⟩ =
        .ok (⟨[] ++ C.runText a d n sep, cols'⟩, (C.runText a d n sep).length + (([] : Bytes).length - ([] : Bytes).length)) := by
    rw [hlen, convInput, printArgVal_rep]
    simpa [Codec.runText] using hpr
  -- the whole list is one block: one turn of the loop, then it is at its end
  obtain ⟨pre1, cols1, awl1, hpre1, hloop⟩ := printLoop_stepG opt (K.run a d n) (K.run a d n) (K.cell a) 0 n ⟨[], 0⟩ 0 (-1) 0
    rfl hhead (by omega) (some (n, [Cell.rep n 1, K.cell d, K.cell a]))
    (by rw [hlen]; exact convertToRange_run opt hc h) n rfl [] (C.runText a d n sep) cols' hprint (Or.inl rfl) (Or.inl rfl)
  have hpre0 : pre1 = [] := by
    rcases hpre1 with e | ⟨base, e, _⟩
    · exact e
    · simp at e
  subst hpre0
  refine ⟨sep, cols1, hsep, ?_⟩
  unfold printArgVals
  rw [hlen] at hloop ⊢
  simp only [List.length_nil, Int.natCast_zero, Int.zero_sub, ne_eq, not_true_eq_false, ↓reduceIte]
  rw [hloop, if_neg (by omega), printArgValsLoop_done n (by omega) _ _ _ _ _ _ _ _ (by omega)]
  simp

theorem deltaTail_cell (K : IntKind) (x z q dl : Int) {cmp : Int} (hcmp0 : ¬ cmp = 0) (hdl0 : dl ≠ 0)
    (hq : z - x = q * dl) (hw1 : -K.hi ≤ z - x) (hw2 : z - x ≤ K.hi)
    (hq1 : -2147483648 ≤ q) (hq2 : q + 1 ≤ 2147483647) :
    C11.deltaTail (K.cell x) (some (K.cell z)) cmp (K.cell dl) = .ok (q + 1, K.cell dl) := by
  have hlo : K.lo = -K.hi - 1 := rfl
  refine C11.deltaTail_ok (width := K.cell (z - x)) (div := K.cell q) hcmp0 ?_ ?_ (K.notFloat_cell q)
    (K.roundF_cell q) ?_ ?_ (K.toIntF_cell q hq1 (by omega)) ⟨by omega, hq2⟩
  · rw [K.subF_cell, K.wrap_id _ (by omega) (by omega)]
  · rw [K.divF_cell _ _ hdl0 (by omega), hq, Int.mul_tdiv_cancel _ hdl0]
  · rw [K.multF_cell, ← hq, K.wrap_id _ (by omega) (by omega)]
  · simp [K.eqTolCell_cell]

/-- `delta_from_arg_vals` with `must_be_unity`: the delta is ±1.  The width is of the cell type,
    the count `q + 1` goes through `rtosc_arg_val_to_int` and must be an `int`. -/
theorem delta_unity (K : IntKind) (ll : Option Cell) (x z q dl : Int) (hdl : (dl = 1 ∧ x < z) ∨ (dl = -1 ∧ z < x))
    (hq : z - x = q * dl) (hw1 : -K.hi ≤ z - x) (hw2 : z - x ≤ K.hi)
    (hq1 : -2147483648 ≤ q) (hq2 : q + 1 ≤ 2147483647) :
    C11.deltaFromArgVals ll (K.cell x) (some (K.cell z)) true = .ok (q + 1, K.cell dl) := by
  have hne := cmp3_ne x z (by omega)
  unfold C11.deltaFromArgVals
  rcases hdl with ⟨rfl, hlt⟩ | ⟨rfl, hlt⟩
  · have hpos : ¬ ArgVal.cmp3 x z > 0 := by rw [cmp3_lt x z hlt]; omega
    simp only [↓reduceIte, C11.orUndef, K.cmpCell_cell, K.fromIntF_cell, hpos, must, bind, Except.bind, pure, Except.pure]
    -- what is left is `C11.deltaTail`, unfolded
    exact K.deltaTail_cell x z q 1 hne (by omega) hq hw1 hw2 hq1 hq2
  · have hpos : ArgVal.cmp3 x z > 0 := by rw [cmp3_gt x z hlt]; omega
    simp only [↓reduceIte, C11.orUndef, K.cmpCell_cell, K.fromIntF_cell, hpos, K.negateF_one, must, bind, Except.bind, pure,
      Except.pure]
    exact K.deltaTail_cell x z q (-1) hne (by omega) hq hw1 hw2 hq1 hq2

/-- `delta_from_arg_vals` with a usable left-hand neighbour: the delta is `lhs - llhs` -/
theorem delta_step (K : IntKind) (p x z q dl : Int) (hdl0 : dl ≠ 0) (hp : x - p = dl)
    (hd1 : K.lo ≤ dl) (hd2 : dl ≤ K.hi) (hq : z - x = q * dl) (hw1 : -K.hi ≤ z - x) (hw2 : z - x ≤ K.hi)
    (hq1 : -2147483648 ≤ q) (hq2 : q + 1 ≤ 2147483647) :
    C11.deltaFromArgVals (some (K.cell p)) (K.cell x) (some (K.cell z)) false = .ok (q + 1, K.cell dl) := by
  have hd : C11.subF (K.cell x) (K.cell p) = .ok (some (K.cell dl)) := by rw [K.subF_cell, hp, K.wrap_id _ hd1 hd2]
  unfold C11.deltaFromArgVals
  simp only [Bool.false_eq_true, ↓reduceIte, C11.orUndef, hd, K.nullVal_cell, K.cmpCell_cell, must, bind, Except.bind, pure,
    Except.pure]
  exact K.deltaTail_cell x z q dl (cmp3_ne dl 0 hdl0) hdl0 hq hw1 hw2 hq1 hq2

theorem delta_run_unit {K : IntKind} {C : K.Codec} {a d : Int} {n : Nat} (h : C.Run a d n) (hu : d = 1 ∨ d = -1)
    (ll : Option Cell) :
    C11.deltaFromArgVals ll (K.cell a) (some (K.cell (a + ((n - 1 : Nat) : Int) * d))) true =
      .ok ((n : Int), K.cell d) := by
  have hn := h.hn
  have hn32 := h.hn32
  have hm := h.mul (n - 1) (by omega)
  have hq : (((n - 1 : Nat) : Int)) + 1 = (n : Int) := by omega
  rw [← hq]
  apply delta_unity K ll a _ ((n - 1 : Nat) : Int) d
  · rcases hu with rfl | rfl
    · left; exact ⟨rfl, by omega⟩
    · right; exact ⟨rfl, by omega⟩
  all_goals omega

theorem delta_run_step {K : IntKind} {C : K.Codec} {a d : Int} {n : Nat} (h : C.Run a d n) :
    C11.deltaFromArgVals (some (K.cell a)) (K.cell (a + d)) (some (K.cell (a + ((n - 1 : Nat) : Int) * d)))
      false = .ok ((n : Int) - 1, K.cell d) := by
  have hn := h.hn
  have hn32 := h.hn32
  have hlo : K.lo = -K.hi - 1 := rfl
  have hdb := h.dbound
  have hm := h.mul (n - 2) (by omega)
  have hs : ((n - 1 : Nat) : Int) * d = ((n - 2 : Nat) : Int) * d + d := by
    rw [show n - 1 = (n - 2) + 1 from by omega]; exact succ_mul' _ _
  have hq : (((n - 2 : Nat) : Int)) + 1 = (n : Int) - 1 := by omega
  rw [← hq]
  apply delta_step K a (a + d) _ ((n - 2 : Nat) : Int) d h.hd <;> omega

end IntKind

end Rtosc.Pretty
