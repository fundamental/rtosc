/-
  C18 — `rtosc_match_path` on enumerated port names (`pre#N post`, the `#` branch with
  `rtosc_match_number`; model: `matchPathM` in RtoscModel/Path/Apropos.lean).

  Numbers are given by their digit strings (`atoi` is the model's reading of them), so nothing is
  assumed about how an index is printed beyond "a non-empty run of digits".
-/
import RtoscModel.Proofs.PathApropos
namespace Rtosc.Path
open Rtosc

theorem isDigit_hd_nil : isDigit (hd []) = false := by decide

theorem isDigit_hd_append {p x : Bytes} (hp : isDigit (hd p) = false) (hx : isDigit (hd x) = false) :
    isDigit (hd (p ++ x)) = false := by
  cases p with
  | nil => exact hx
  | cons c _ => exact hp

theorem TailOK.nondigit {t : Bytes} (ht : TailOK t) : isDigit (hd t) = false := by
  rcases ht with rfl | ht
  · decide
  · rw [ht]; decide

theorem takeWhile_nondigit {r : Bytes} (h : isDigit (hd r) = false) : r.takeWhile isDigit = [] := by
  cases r with
  | nil => rfl
  | cons c t => exact List.takeWhile_cons_of_neg (by simpa using h)

theorem dropWhile_nondigit {r : Bytes} (h : isDigit (hd r) = false) : r.dropWhile isDigit = r := by
  cases r with
  | nil => rfl
  | cons c t => exact List.dropWhile_cons_of_neg (by simpa using h)

theorem takeWhile_digits_run (d rest : Bytes) (hd' : ∀ c ∈ d, isDigit c = true) (hr : isDigit (hd rest) = false) :
    (d ++ rest).takeWhile isDigit = d := by
  rw [List.takeWhile_append_of_pos hd', takeWhile_nondigit hr, List.append_nil]

theorem dropWhile_digits (d rest : Bytes) (hd' : ∀ c ∈ d, isDigit c = true) (hr : isDigit (hd rest) = false) :
    (d ++ rest).dropWhile isDigit = rest := by
  rw [List.dropWhile_append_of_pos hd', dropWhile_nondigit hr]

theorem atoiAux_append_digits (r s : Bytes) (acc : Nat) (h : ∀ c ∈ r, isDigit c = true) :
    atoiAux acc (r ++ s) = atoiAux (atoiAux acc r) s := by
  induction r generalizing acc with
  | nil => rfl
  | cons c r ih =>
    simp only [List.cons_append, atoiAux, h c List.mem_cons_self, ↓reduceIte]
    exact ih _ fun x hx => h x (List.mem_cons_of_mem _ hx)

theorem atoiAux_nondigit {r : Bytes} (h : isDigit (hd r) = false) (acc : Nat) : atoiAux acc r = acc := by
  cases r with
  | nil => rfl
  | cons c t => simp only [hd_cons] at h; simp [atoiAux, h]

theorem atoi_append (d rest : Bytes) (hd' : ∀ c ∈ d, isDigit c = true) (hr : isDigit (hd rest) = false) :
    atoi (d ++ rest) = atoi d := by
  unfold atoi
  rw [atoiAux_append_digits d rest 0 hd', atoiAux_nondigit hr]

theorem atoiAux_snoc (l : Bytes) (c : UInt8) (acc : Nat) (hl : ∀ x ∈ l, isDigit x = true) (hc : isDigit c = true) :
    atoiAux acc (l ++ [c]) = atoiAux acc l * 10 + (c.toNat - 48) := by
  rw [atoiAux_append_digits l [c] acc hl]
  simp [atoiAux, hc]

/-- `while(isdigit(**pattern))++*pattern;` and back to the main loop -/
theorem matchPathM_skip (d P msg : Bytes) (hd' : ∀ c ∈ d, isDigit c = true) (hP : isDigit (hd P) = false) :
    matchPathM true (d ++ P) msg = matchPathM false P msg := by
  induction d with
  | nil =>
    cases P with
    | nil => rw [List.nil_append, matchPathM, matchPathM]
    | cons c r =>
      rw [List.nil_append, matchPathM, matchPathM]
      simp [show isDigit c = false from hP]
  | cons c d ih =>
    rw [List.cons_append, matchPathM]
    simp only [hd' c List.mem_cons_self, and_self, ↓reduceIte]
    exact ih fun x hx => hd' x (List.mem_cons_of_mem _ hx)

theorem hd_digits_append {d : Bytes} (h : Digits d) (r : Bytes) : isDigit (hd (d ++ r)) = true := by
  obtain ⟨hne, hall⟩ := h
  cases d with
  | nil => exact absurd rfl hne
  | cons c t => exact hall c List.mem_cons_self

/-- the `#` step of `rtosc_match_path` (`rtosc_match_number`) -/
theorem matchPath_hash_step (pr msg : Bytes) :
    matchPath (35 :: pr) msg =
      if isDigit (hd pr) = true ∧ isDigit (hd msg) = true then
        if atoi pr < 2147483648 ∧ atoi msg < 2147483648 then
          if atoi msg < atoi pr then matchPathM true pr (msg.dropWhile isDigit) else .null
        else .unsupported
      else .null := by
  have e1 : ¬ ((35 : UInt8) = COLON) := by decide
  have e2 : ¬ ((35 : UInt8) = 123) := by decide
  have e3 : ¬ ((35 : UInt8) = 42) := by decide
  have e4 : ¬ ((35 : UInt8) = SLASH) := by decide
  rw [matchPath, matchPathM]
  simp only [Bool.false_eq_true, false_and, ↓reduceIte, e1, e2, e3, e4]

theorem matchPath_hash (dn dk P M : Bytes) (hn : Digits dn) (hk : Digits dk)
    (hP : isDigit (hd P) = false) (hM : isDigit (hd M) = false)
    (hmax : atoi dn < 2147483648) (hval : atoi dk < 2147483648) :
    matchPath (35 :: (dn ++ P)) (dk ++ M) = if atoi dk < atoi dn then matchPath P M else .null := by
  rw [matchPath_hash_step]
  simp only [hd_digits_append hn, hd_digits_append hk, and_self, ↓reduceIte,
    atoi_append dn P hn.2 hP, atoi_append dk M hk.2 hM, hmax, hval, dropWhile_digits dk M hk.2 hM,
    matchPathM_skip dn P M hn.2 hP]

theorem hd_append_ne {l : Bytes} (hl : ∀ c ∈ l, PlainChar c) (x : UInt8) (t : Bytes) (hx : PlainChar x) :
    PlainChar (hd (l ++ x :: t)) := by
  cases l with
  | nil => exact hx
  | cons c _ => exact hl c List.mem_cons_self

/-- **enumerated sub-tree row**: the pattern `pre#N post/tail` (`tail` empty or `:args`)
    matches the address `pre k post/rest` for every index `k < N` and leaves `rest` — the
    string handed to the sub-table's lookup. -/
theorem matchPath_enum_dir (pre dn post tail dk rest : Bytes)
    (hpre : ∀ c ∈ pre, PlainChar c) (hpost : ∀ c ∈ post, PlainChar c) (ht : TailOK tail)
    (hn : Digits dn) (hk : Digits dk) (hpd : isDigit (hd (post ++ [SLASH])) = false)
    (hmax : atoi dn < 2147483648) (hlt : atoi dk < atoi dn) :
    matchPath (pre ++ 35 :: (dn ++ (post ++ SLASH :: tail))) (pre ++ (dk ++ (post ++ SLASH :: rest))) =
      .ok tail rest := by
  have hnd : ∀ t : Bytes, isDigit (hd (post ++ SLASH :: t)) = false := by
    intro t
    cases post with
    | nil => show isDigit SLASH = false; decide
    | cons c _ => simpa using hpd
  rw [matchPath_pre pre _ _ hpre (by simp) (by simp [COLON]),
    matchPath_hash dn dk _ _ hn hk (hnd tail) (hnd rest) hmax (Nat.lt_trans hlt hmax), if_pos hlt]
  exact matchPath_dir post tail rest hpost ht

/-- **enumerated leaf row**: the pattern `pre#N post[:args]` matches the address
    `pre k post` to its end for every index `k < N`. -/
theorem matchPath_enum_leaf (pre dn post tail dk : Bytes)
    (hpre : ∀ c ∈ pre, PlainChar c) (hpost : ∀ c ∈ post, PlainChar c) (ht : TailOK tail)
    (hn : Digits dn) (hk : Digits dk) (hpd : isDigit (hd post) = false)
    (hmax : atoi dn < 2147483648) (hlt : atoi dk < atoi dn) :
    matchPath (pre ++ 35 :: (dn ++ (post ++ tail))) (pre ++ (dk ++ post)) = .ok tail [] := by
  rw [matchPath_pre pre _ _ hpre (by simp) (by simp [COLON]),
    matchPath_hash dn dk _ _ hn hk (isDigit_hd_append hpd ht.nondigit) hpd hmax (Nat.lt_trans hlt hmax), if_pos hlt]
  exact matchPath_self post tail hpost ht

theorem matchPath_enum_out_of_range (pre dn P dk M : Bytes)
    (hpre : ∀ c ∈ pre, PlainChar c) (hn : Digits dn) (hk : Digits dk)
    (hP : isDigit (hd P) = false) (hM : isDigit (hd M) = false)
    (hmax : atoi dn < 2147483648) (hval : atoi dk < 2147483648) (hge : atoi dn ≤ atoi dk) :
    matchPath (pre ++ 35 :: (dn ++ P)) (pre ++ (dk ++ M)) = .null := by
  rw [matchPath_pre pre _ _ hpre (by simp) (by simp [COLON]),
    matchPath_hash dn dk _ _ hn hk hP hM hmax hval, if_neg (Nat.not_lt.mpr hge)]

end Rtosc.Path
