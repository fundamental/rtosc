/-
  C20 — the non-realtime half keeps `inv_map`, the learn queue and the current snapshot
  consistent (`NrtOk`), provided no controller is learned twice.  `inv_map` is read as a function
  `rdInv : address → half → (controller, slot)`; `NrtOk` says that the snapshot's mapping is the graph of that
  function, and every operation sets it at ONE point `(a,k)` (`InvSet`: `unMap` to nothing, the learn step to the
  controller served).  One preservation lemma (`nrtOk_set`) and one equation for the bindings (`bound_of_invSet`)
  serve all of them; `nrtStep_ok`: every operation keeps `NrtOk` and refines `Table.step`.
-/
import RtoscModel.Proofs.MidiLemmas
namespace Rtosc.Midi

/-- `inv_map` read as a function: the controller recorded for `(a,k)` and the slot of `a` -/
def rdInv (m : List (Nat × Imap)) (a : Nat) (k : Bool) : Option (Nat × Nat) :=
  (imLookup m a).bind fun im => (sel k im).map fun c => (c, im.slot)

theorem rdInv_eq_some {m a k c s} :
    rdInv m a k = some (c, s) ↔ ∃ im, imLookup m a = some im ∧ sel k im = some c ∧ im.slot = s := by
  simp only [rdInv, Option.bind_eq_some_iff, Option.map_eq_some_iff, Prod.mk.injEq]
  constructor
  · rintro ⟨im, hl, c', hs, rfl, rfl⟩; exact ⟨im, hl, hs, rfl⟩
  · rintro ⟨im, hl, hs, rfl⟩; exact ⟨im, hl, c, hs, rfl, rfl⟩

theorem rdInv_eq_none {m a k} : rdInv m a k = none ↔ ∀ im, imLookup m a = some im → sel k im = none := by
  simp only [rdInv, Option.bind_eq_none_iff, Option.map_eq_none_iff]

/-- An operation changes what `inv_map` records at one point `(a,k)` only, to `v`; entries keep their slot,
    a new entry (only at `a`) has the slot of `v`. -/
structure InvSet (old new : List (Nat × Imap)) (a : Nat) (k : Bool) (v : Option (Nat × Nat)) : Prop where
  other : ∀ b k', b ≠ a → rdInv new b k' = rdInv old b k'
  same : rdInv new a k = v
  keep : rdInv new a (!k) = rdInv old a (!k)
  slot : ∀ b im', imLookup new b = some im' →
    (∃ im, imLookup old b = some im ∧ im'.slot = im.slot) ∨ (b = a ∧ ∃ c, v = some (c, im'.slot))

theorem InvSet.rd {old new a k v} (h : InvSet old new a k v) (b : Nat) (k' : Bool) :
    rdInv new b k' = if b = a ∧ k' = k then v else rdInv old b k' := by
  by_cases hba : b = a
  · subst hba
    by_cases hk : k' = k
    · subst hk; rw [if_pos ⟨rfl, rfl⟩, h.same]
    · rw [if_neg (fun e => hk e.2), Bool.eq_not_of_ne hk, h.keep]
  · rw [if_neg (fun e => hba e.1), h.other b k' hba]

theorem rdInv_of_lookup {m a im} (hl : imLookup m a = some im) (k : Bool) :
    rdInv m a k = (sel k im).map fun c => (c, im.slot) := by simp [rdInv, hl]

theorem rdInv_of_absent {m a} (hl : imLookup m a = none) (k : Bool) : rdInv m a k = none := by simp [rdInv, hl]

/-- Consistency of the non-realtime half: the snapshot's mapping is the graph of `inv_map`. -/
structure NrtOk (P : List PortSpec) (n : NRT) : Prop where
  /-- before the first snapshot exists nothing is recorded -/
  st_none : n.storage = none → n.invMap = []
  stok : ∀ st, n.storage = some st → StOk st
  /-- the callback in the slot of an `inv_map` entry is the one built for that entry's address -/
  inv_slot : ∀ a im, imLookup n.invMap a = some im → ∃ cb, n.callbacks[im.slot]? = some cb ∧ cb.addr = a
  graph : ∀ c k s, (⟨c, k, s⟩ : MapEnt) ∈ n.mapping ↔ ∃ a, rdInv n.invMap a k = some (c, s)
  q_nodup : n.learnQ.Nodup
  q_unbound : ∀ a k, (a, k) ∈ n.learnQ → rdInv n.invMap a k = none
  q_ports : ∀ a k, (a, k) ∈ n.learnQ → a < P.length

theorem NrtOk.mapping_nodup {P n} (h : NrtOk P n) : (ids n.mapping).Nodup := by
  cases hs : n.storage with
  | none => simp [NRT.mapping_none hs]
  | some st => simpa [NRT.mapping_eq hs] using (h.stok st hs).nodup

theorem NrtOk.rd_inj {P n} (h : NrtOk P n) {a b k k' c s s'} (h1 : rdInv n.invMap a k = some (c, s))
    (h2 : rdInv n.invMap b k' = some (c, s')) : a = b ∧ k = k' := by
  have e := eq_of_mem_nodup h.mapping_nodup ((h.graph c k s).mpr ⟨a, h1⟩) ((h.graph c k' s').mpr ⟨b, h2⟩) rfl
  simp only [MapEnt.mk.injEq, true_and] at e
  obtain ⟨rfl, rfl⟩ := e
  obtain ⟨im1, hl1, -, hs1⟩ := rdInv_eq_some.mp h1
  obtain ⟨im2, hl2, -, hs2⟩ := rdInv_eq_some.mp h2
  obtain ⟨cb1, hc1, ha1⟩ := h.inv_slot a im1 hl1
  obtain ⟨cb2, hc2, ha2⟩ := h.inv_slot b im2 hl2
  rw [hs1] at hc1; rw [hs2, hc1] at hc2; cases hc2
  exact ⟨ha1.symm.trans ha2, rfl⟩

theorem NrtOk.map_inv {P n} (h : NrtOk P n) (e : MapEnt) (he : e ∈ n.mapping) :
    ∃ cb im, n.callbacks[e.slot]? = some cb ∧
      imLookup n.invMap cb.addr = some im ∧ im.slot = e.slot ∧ sel e.coarse im = some e.id := by
  obtain ⟨b, hb⟩ := (h.graph e.id e.coarse e.slot).mp he
  obtain ⟨im, hl, hs, hslot⟩ := rdInv_eq_some.mp hb
  obtain ⟨cb, hcb, hca⟩ := h.inv_slot b im hl
  exact ⟨cb, im, hslot ▸ hcb, hca ▸ hl, hslot, hs⟩

/-- nothing mapped, nothing queued, and no snapshot or the empty one: the initial state and the state
    after `clear` -/
theorem nrtOk_empty (P) {o : Option Storage} (ho : o = none ∨ o = some Storage.empty) : NrtOk P ⟨[], [], o⟩ := by
  have hm : (⟨[], [], o⟩ : NRT).mapping = [] := by rcases ho with rfl | rfl <;> rfl
  constructor
  · intro _; rfl
  · intro st hst
    rcases ho with rfl | rfl
    · cases hst
    · cases hst; exact ⟨fun e he => (by cases he), rfl, List.nodup_nil⟩
  · intro a im h; cases h
  · intro c k s; rw [hm]; simp [rdInv, imLookup]
  · exact List.nodup_nil
  · intro a k h; cases h
  · intro a k h; cases h

theorem nrtOk_init (P) : NrtOk P NRT.init := nrtOk_empty P (Or.inl rfl)

/-- **One preservation lemma** for `unMap` (`v = none`) and the learn step (`v = some (id, slot)`): `inv_map` changes at
    `(a,k)` only; the mapping loses the entry of the controller recorded there and gains the entry of `v`; callbacks are
    only appended; the learn queue can only shrink (`map` queues behind `unMap_ok`, in `map_ok`). -/
theorem nrtOk_set {P : List PortSpec} {n : NRT} {a : Nat} {k : Bool} {v : Option (Nat × Nat)}
    {inv' : List (Nat × Imap)} {q' : List (Nat × Bool)} {mp' : List MapEnt} {cbs' extra : List Cb} {vals' : List Nat}
    (h : NrtOk P n) (hu : InvSet n.invMap inv' a k v)
    (hcbs : cbs' = n.callbacks ++ extra) (hvals : vals'.length = cbs'.length)
    (hnd : (ids mp').Nodup)
    (hmem : ∀ e, e ∈ mp' ↔ (e ∈ n.mapping ∧ ∀ c s, rdInv n.invMap a k = some (c, s) → e.id ≠ c) ∨
      ∃ c s, v = some (c, s) ∧ e = ⟨c, k, s⟩)
    (hv : ∀ c s, v = some (c, s) → ∃ cb, cbs'[s]? = some cb ∧ cb.addr = a)
    (hq : q'.Nodup) (hqsub : ∀ x ∈ q', x ∈ n.learnQ)
    (hqa : v ≠ none → (a, k) ∉ q') :
    NrtOk P { learnQ := q', invMap := inv', storage := some ⟨mp', cbs', vals'⟩ } := by
  have hpre : ∀ (i : Nat) (cb : Cb), n.callbacks[i]? = some cb → cbs'[i]? = some cb := by
    intro i cb hi; rw [hcbs, List.getElem?_append_left]; exact hi
    exact (List.getElem?_eq_some_iff.mp hi).1
  constructor
  · intro hn; cases hn
  · intro st hst; cases hst
    refine ⟨fun e he => ?_, hvals, hnd⟩
    rcases (hmem e).mp he with ⟨he, -⟩ | ⟨c, s, hvs, rfl⟩
    · obtain ⟨cb, -, hcb, -⟩ := h.map_inv e he
      exact (List.getElem?_eq_some_iff.mp (hpre _ _ hcb)).1
    · obtain ⟨cb, hcb, -⟩ := hv c s hvs
      exact (List.getElem?_eq_some_iff.mp hcb).1
  · intro b im' hb
    simp only [NRT.callbacks]
    rcases hu.slot b im' hb with ⟨im, hl, hs⟩ | ⟨rfl, c, hvs⟩
    · obtain ⟨cb, hcb, hca⟩ := h.inv_slot b im hl
      exact ⟨cb, by rw [hs]; exact hpre _ _ hcb, hca⟩
    · exact hv c _ hvs
  · intro c k' s
    simp only [NRT.mapping, omap]
    rw [hmem]
    constructor
    · rintro (⟨he, hne⟩ | ⟨c', s', hvs, e⟩)
      · obtain ⟨b, hb⟩ := (h.graph c k' s).mp he
        refine ⟨b, ?_⟩
        rw [hu.rd, if_neg]; exact hb
        rintro ⟨rfl, rfl⟩; exact hne c s hb rfl
      · cases e; exact ⟨a, by rw [hu.rd, if_pos ⟨rfl, rfl⟩]; exact hvs⟩
    · rintro ⟨b, hb⟩
      rw [hu.rd] at hb
      split at hb
      · rename_i hab; obtain ⟨rfl, rfl⟩ := hab
        exact .inr ⟨c, s, hb, rfl⟩
      · rename_i hab
        refine .inl ⟨(h.graph c k' s).mpr ⟨b, hb⟩, fun c0 s0 h0 e => ?_⟩
        simp only at e; subst e
        obtain ⟨rfl, rfl⟩ := h.rd_inj hb h0
        exact hab ⟨rfl, rfl⟩
  · exact hq
  · intro b k' hb
    simp only
    rw [hu.rd]
    split
    · rename_i hab; obtain ⟨rfl, rfl⟩ := hab
      cases hvv : v with
      | none => rfl
      | some x => exact absurd hb (hqa (by rw [hvv]; simp))
    · exact h.q_unbound b k' (hqsub (b, k') hb)
  · intro b k' hb
    exact h.q_ports b k' (hqsub (b, k') hb)

theorem rdInv_imSet (m : List (Nat × Imap)) (a : Nat) (im : Imap) (b : Nat) (k : Bool) :
    rdInv (imSet m a im) b k = if b = a then (sel k im).map (fun c => (c, im.slot)) else rdInv m b k := by
  simp only [rdInv, imLookup_imSet]; split <;> rfl

theorem rdInv_imErase (m : List (Nat × Imap)) (a b : Nat) (k : Bool) :
    rdInv (imErase m a) b k = if b = a then none else rdInv m b k := by
  simp only [rdInv, imLookup_imErase]; split <;> rfl

theorem invSet_unmap (m : List (Nat × Imap)) (a : Nat) (k : Bool) (im : Imap) (hl : imLookup m a = some im) :
    InvSet m (unMapInv m a k im) a k none := by
  -- the entry with its `k` controller cleared
  obtain ⟨im', him', h1, h2, h3, h4⟩ : ∃ im' : Imap,
      im' = (if k then { im with coarse := none } else { im with fine := none }) ∧ im'.slot = im.slot ∧
      sel k im' = none ∧ sel (!k) im' = sel (!k) im ∧ (im'.coarse = none ∧ im'.fine = none ↔ sel (!k) im = none) :=
    ⟨_, rfl, by cases k <;> simp [sel]⟩
  simp only [unMapInv, ← him']
  split
  · rename_i he
    refine ⟨fun b k' hb => by rw [rdInv_imErase, if_neg hb], by rw [rdInv_imErase, if_pos rfl],
      by rw [rdInv_imErase, if_pos rfl, rdInv_of_lookup hl, h4.mp he]; rfl, fun b im'' hb => ?_⟩
    rw [imLookup_imErase] at hb
    split at hb
    · cases hb
    · exact .inl ⟨im'', hb, rfl⟩
  · refine ⟨fun b k' hb => by rw [rdInv_imSet, if_neg hb], by rw [rdInv_imSet, if_pos rfl, h2]; rfl,
      by rw [rdInv_imSet, if_pos rfl, h3, h1, rdInv_of_lookup hl], fun b im'' hb => ?_⟩
    rw [imLookup_imSet] at hb
    split at hb
    · rename_i hba; subst hba; cases hb
      exact .inl ⟨im, hl, h1⟩
    · exact .inl ⟨im'', hb, rfl⟩

/-- the learn step on `inv_map`: the entry `im` of `a` (in `m0`, which differs from `m` at most by having just
    created it) gets `id` as its `k` controller -/
theorem invSet_learn (m m0 : List (Nat × Imap)) (a : Nat) (k : Bool) (im : Imap) (id : Nat)
    (hm0 : ∀ b, b ≠ a → imLookup m0 b = imLookup m b)
    (hold : rdInv m a (!k) = (sel (!k) im).map fun c => (c, im.slot)) :
    InvSet m (imSet m0 a (learnIm k im id)) a k (some (id, im.slot)) := by
  obtain ⟨h1, h2, h3⟩ := sel_learnIm k im id
  refine ⟨fun b k' hb => by rw [rdInv_imSet, if_neg hb]; simp only [rdInv, hm0 b hb],
    by rw [rdInv_imSet, if_pos rfl, h1, h3]; rfl, by rw [rdInv_imSet, if_pos rfl, h2, h3, hold], fun b im' hb => ?_⟩
  rw [imLookup_imSet] at hb
  split at hb
  · rename_i hba; subst hba; cases hb
    exact .inr ⟨rfl, id, by rw [h3]⟩
  · rename_i hba; rw [hm0 b hba] at hb; exact .inl ⟨im', hb, rfl⟩

/-- under `NrtOk` the bindings are `inv_map` read backwards -/
theorem NrtOk.binding_iff {P n} (h : NrtOk P n) {id a k} :
    n.binding id = some (a, k) ↔ ∃ s, rdInv n.invMap a k = some (id, s) := by
  constructor
  · intro hb
    cases hst : n.storage with
    | none => simp [NRT.binding_none hst] at hb
    | some st =>
      simp only [NRT.binding_eq hst, Storage.binding] at hb
      split at hb
      · cases hb
      · rename_i e he
        have hid : e.id = id := by have := List.find?_some he; simpa using this
        have hem : e ∈ n.mapping := by simpa [NRT.mapping_eq hst] using List.mem_of_find?_eq_some he
        obtain ⟨cb, im, hcb, hl, hs, hsel⟩ := h.map_inv e hem
        simp only [NRT.callbacks_eq hst] at hcb
        simp only [hcb, Option.map_some, Option.some.injEq, Prod.mk.injEq] at hb
        obtain ⟨rfl, rfl⟩ := hb
        exact ⟨e.slot, hid ▸ rdInv_eq_some.mpr ⟨im, hl, hsel, hs⟩⟩
  · rintro ⟨s, hrd⟩
    obtain ⟨im, hl, hs, rfl⟩ := rdInv_eq_some.mp hrd
    obtain ⟨cb, hcb, hca⟩ := h.inv_slot a im hl
    have hent := (h.graph id k im.slot).mpr ⟨a, hrd⟩
    cases hst : n.storage with
    | none => simp [NRT.mapping_none hst] at hent
    | some st =>
      rw [NRT.mapping_eq hst] at hent
      rw [NRT.callbacks_eq hst] at hcb
      have hf := find?_of_mem_nodup (h.stok st hst).nodup hent
      simp only at hf
      simp [NRT.binding_eq hst, Storage.binding, hf, hcb, hca]

/-- **the table equation from the change of `inv_map` alone**: whoever drove `(a,k)` stops, the controller of `v`
    (which drove nothing) drives it -/
theorem bound_of_invSet {P n n' a k v} (h : NrtOk P n) (h' : NrtOk P n') (hu : InvSet n.invMap n'.invMap a k v)
    (hfresh : ∀ c s, v = some (c, s) → n.binding c = none) (x : Nat) :
    n'.binding x = if v.map Prod.fst = some x then some (a, k)
      else if n.binding x = some (a, k) then none else n.binding x := by
  apply Option.ext
  rintro ⟨b, k'⟩
  rw [h'.binding_iff]
  simp only [hu.rd]
  by_cases hab : b = a ∧ k' = k
  · obtain ⟨rfl, rfl⟩ := hab
    simp only [and_self, ↓reduceIte]
    constructor
    · rintro ⟨s, hv⟩; simp [hv]
    · intro hx
      split at hx
      · rename_i hvx
        obtain ⟨⟨c, s⟩, rfl, rfl⟩ := Option.map_eq_some_iff.mp hvx; exact ⟨s, rfl⟩
      · split at hx
        · cases hx
        · rename_i h1 h2; exact absurd hx h2
  · simp only [hab, ↓reduceIte, ← h.binding_iff]
    constructor
    · intro hb
      have h1 : ¬ v.map Prod.fst = some x := by
        intro hvx
        obtain ⟨⟨c, s⟩, hvv, rfl⟩ := Option.map_eq_some_iff.mp hvx
        rw [hfresh c s hvv] at hb; cases hb
      have h2 : ¬ n.binding x = some (a, k) := by
        rw [hb]; intro e; cases e; exact hab ⟨rfl, rfl⟩
      rw [if_neg h1, if_neg h2, hb]
    · intro hx
      split at hx
      · cases hx; exact absurd ⟨rfl, rfl⟩ hab
      · split at hx
        · cases hx
        · exact hx

theorem NrtOk.storage_some {P n a im} (h : NrtOk P n) (hl : imLookup n.invMap a = some im) :
    ∃ st, n.storage = some st := by
  cases hs : n.storage with
  | none => have := h.st_none hs; simp [this, imLookup] at hl
  | some st => exact ⟨st, rfl⟩

/-- `unMap` never crashes on a consistent state, keeps it consistent and clears what `inv_map` records at `(a,k)` -/
theorem unMap_ok {P n} (h : NrtOk P n) (a : Nat) (k : Bool) :
    ∃ n' ms, n.unMap a k = some (n', ms) ∧ NrtOk P n' ∧ n'.learnQ = n.learnQ ∧
      InvSet n.invMap n'.invMap a k none ∧
      ((ms = [] ∧ n'.storage = n.storage) ∨
        ∃ c st ns, n.storage = some st ∧
          ns = ⟨st.mapping.filter (fun e => e.id != c), st.callbacks,
                List.replicate st.values.length 0⟩ ∧
          n'.storage = some ns ∧ ms = [.bind ns none]) := by
  cases hl : imLookup n.invMap a with
  | none =>
    exact ⟨n, [], NRT.unMap_of_absent k hl, h, rfl,
      ⟨fun _ _ _ => rfl, rdInv_of_absent hl k, rfl, fun b im' hb => .inl ⟨im', hb, rfl⟩⟩, .inl ⟨rfl, rfl⟩⟩
  | some im =>
    have hu := invSet_unmap n.invMap a k im hl
    obtain ⟨st, hst⟩ := h.storage_some hl
    have hmp : n.mapping = st.mapping := NRT.mapping_eq hst
    have hcb : n.callbacks = st.callbacks := NRT.callbacks_eq hst
    have hrd := rdInv_of_lookup hl k
    have hq : ∀ x ∈ n.learnQ, x ∈ n.learnQ := fun _ hx => hx
    cases hs : sel k im with
    | none =>
      refine ⟨_, _, NRT.unMap_of_unbound hl hs, ?_, rfl, hu, .inl ⟨rfl, rfl⟩⟩
      have := nrtOk_set (extra := []) (cbs' := st.callbacks) (vals' := st.values) (mp' := st.mapping) h hu (by simp [hcb]) (by simp [(h.stok st hst).vals])
        (h.stok st hst).nodup (fun e => by simp [hmp, hrd, hs]) (by simp) h.q_nodup hq (by simp)
      simpa [hcb, hst] using this
    | some c =>
      have hmem := (h.graph c k im.slot).mpr ⟨a, by rw [hrd, hs]; rfl⟩
      rw [hmp] at hmem
      have hc : c ∈ ids st.mapping := mem_ids.mpr ⟨_, hmem, rfl⟩
      refine ⟨_, _, NRT.unMap_of_bound hl hs hst (killMap_unique (h.stok st hst).nodup hc), ?_, rfl, hu,
        .inr ⟨c, st, _, hst, rfl, rfl, rfl⟩⟩
      have := nrtOk_set (extra := []) (cbs' := st.callbacks) (vals' := List.replicate st.values.length 0)
        (mp' := st.mapping.filter (fun e => e.id != c)) h hu (by simp [hcb]) (by simp [(h.stok st hst).vals])
        (List.Nodup.sublist (ids_filter_sublist _ _) (h.stok st hst).nodup)
        (fun e => by
          simp only [hmp, hrd, hs, List.mem_filter, bne_iff_ne, ne_eq, Option.map_some, Option.some.injEq, Prod.mk.injEq]
          constructor
          · rintro ⟨h1, h2⟩; exact .inl ⟨h1, fun c' s' ⟨e1, _⟩ => e1 ▸ h2⟩
          · rintro (⟨h1, h2⟩ | ⟨_, _, hh, _⟩)
            · exact ⟨h1, h2 c im.slot ⟨rfl, rfl⟩⟩
            · cases hh) (by simp) h.q_nodup hq (by simp)
      simpa [hcb] using this

/-- the common post-state of a successful learn step: the entry `im` of `a` (just created, or found with its `k` half
    free) gets `id`; one mapping entry is appended, callbacks at most at the end -/
theorem learn_ok {P : List PortSpec} {n : NRT} {a : Nat} {k : Bool} {q : List (Nat × Bool)} {id : Nat} {im : Imap}
    {m0 : List (Nat × Imap)} {cbs' extra : List Cb} {cb0 : Cb} {vals : List Nat}
    (h : NrtOk P n) (hq : n.learnQ = (a, k) :: q) (hid : id ∉ ids n.mapping)
    (hm0 : ∀ b, b ≠ a → imLookup m0 b = imLookup n.invMap b)
    (hold : rdInv n.invMap a (!k) = (sel (!k) im).map fun c => (c, im.slot))
    (hcbs : cbs' = n.callbacks ++ extra) (hcb0 : cbs'[im.slot]? = some cb0) (haddr : cb0.addr = a)
    (hvals : vals.length = cbs'.length) :
    InvSet n.invMap (imSet m0 a (learnIm k im id)) a k (some (id, im.slot)) ∧
    NrtOk P { learnQ := q, invMap := imSet m0 a (learnIm k im id),
               storage := some ⟨n.mapping ++ [⟨id, k, im.slot⟩], cbs', vals⟩ } := by
  have hqn := h.q_nodup; rw [hq] at hqn
  have hfree : rdInv n.invMap a k = none := h.q_unbound a k (by rw [hq]; exact List.mem_cons_self)
  have hu := invSet_learn n.invMap m0 a k im id hm0 hold
  refine ⟨hu, nrtOk_set h hu hcbs hvals ?_ (fun e => ?_) ?_ (List.nodup_cons.mp hqn).2
    (fun x hx => by rw [hq]; exact List.mem_cons_of_mem _ hx) (fun _ => (List.nodup_cons.mp hqn).1)⟩
  · simp only [ids_append, ids_cons, ids_nil]
    rw [List.nodup_append]
    exact ⟨h.mapping_nodup, by simp, fun x hx y hy => by simp at hy; subst hy; intro e; subst e; exact hid hx⟩
  · simp only [List.mem_append, List.mem_singleton, hfree, Option.some.injEq, Prod.mk.injEq]
    constructor
    · rintro (he | rfl)
      · exact .inl ⟨he, fun c s hh => by cases hh⟩
      · exact .inr ⟨id, im.slot, ⟨rfl, rfl⟩, rfl⟩
    · rintro (⟨he, -⟩ | ⟨c, s, ⟨rfl, rfl⟩, rfl⟩)
      · exact .inl he
      · exact .inr rfl
  · intro c s hv; cases hv; exact ⟨cb0, hcb0, haddr⟩

theorem useFreeID_ok {P n a k q} (id : Nat) (h : NrtOk P n) (hq : n.learnQ = (a, k) :: q)
    (hid : id ∉ ids n.mapping) :
    ∃ n' ns slot, NRT.useFreeID P n id = some (n', [.bind ns (some id)]) ∧ NrtOk P n' ∧
      n'.storage = some ns ∧ n'.learnQ = q ∧ ns.mapping = n.mapping ++ [⟨id, k, slot⟩] ∧
      InvSet n.invMap n'.invMap a k (some (id, slot)) := by
  have ha : a < P.length := h.q_ports a k (by rw [hq]; exact List.mem_cons_self)
  have hp : P[a]? = some P[a] := List.getElem?_eq_getElem ha
  generalize P[a] = p at hp
  cases hl : imLookup n.invMap a with
  | none =>
    have heq := NRT.useFreeID_of_fresh id hq hp hl fun st hs => (h.stok st hs).vals
    obtain ⟨hu, hok⟩ := learn_ok (im := ⟨n.callbacks.length, none, none⟩) (m0 := imSet n.invMap a ⟨n.callbacks.length, none, none⟩)
      (extra := [⟨a, p.isInt, p.min8, p.max8⟩]) (cb0 := ⟨a, p.isInt, p.min8, p.max8⟩)
      (vals := List.replicate (n.callbacks.length + 1) 0) h hq hid
      (fun b hb => by simp [imLookup_imSet, hb]) (by rw [rdInv_of_absent hl]; cases k <;> rfl)
      rfl (by simp) rfl (by simp)
    exact ⟨_, _, n.callbacks.length, heq, hok, rfl, rfl, rfl, hu⟩
  | some im =>
    obtain ⟨st, hs⟩ := h.storage_some hl
    have hfree : sel k im = none := by
      have := h.q_unbound a k (by rw [hq]; exact List.mem_cons_self)
      exact rdInv_eq_none.mp this im hl
    have heq := NRT.useFreeID_of_known id hq hp hl hfree hs
    have hmp : n.mapping = st.mapping := NRT.mapping_eq hs
    have hcbs : n.callbacks = st.callbacks := NRT.callbacks_eq hs
    obtain ⟨cb, hcb, hcba⟩ := h.inv_slot a im hl
    obtain ⟨hu, hok⟩ := learn_ok (im := im) (m0 := n.invMap) (extra := []) (cbs' := st.callbacks) (cb0 := cb)
      (vals := List.replicate st.values.length 0) h hq hid (fun _ _ => rfl) (rdInv_of_lookup hl _)
      (by simp [hcbs]) (hcbs ▸ hcb) hcba (by simp [(h.stok st hs).vals])
    rw [hmp] at hok
    exact ⟨_, _, im.slot, heq, hok, rfl, rfl, by rw [hmp], hu⟩

theorem map_ok {P : List PortSpec} {n} (h : NrtOk P n) (a : Nat) (k : Bool) (ha : a < P.length) :
    ((a, k) ∈ n.learnQ ∧ n.map a k = some (n, [])) ∨
    ((a, k) ∉ n.learnQ ∧ ∃ n1 ms, n.unMap a k = some (n1, ms) ∧
      n.map a k = some ({ n1 with learnQ := n.learnQ ++ [(a, k)] }, ms ++ [.addWatch]) ∧
      NrtOk P { n1 with learnQ := n.learnQ ++ [(a, k)] }) := by
  by_cases hm : (a, k) ∈ n.learnQ
  · exact .inl ⟨hm, NRT.map_of_queued hm⟩
  · right
    refine ⟨hm, ?_⟩
    obtain ⟨n1, ms, heq, hok, hq, hu, -⟩ := unMap_ok h a k
    refine ⟨n1, ms, heq, hq ▸ NRT.map_of_fresh hm heq, ?_⟩
    exact { hok with
      q_nodup := by
        simp only; rw [List.nodup_append]
        exact ⟨h.q_nodup, by simp, fun x hx y hy => by simp at hy; subst hy; intro e; subst e; exact hm hx⟩
      q_unbound := by
        intro b k' hb
        simp only [List.mem_append, List.mem_singleton, Prod.mk.injEq] at hb
        rcases hb with hb | ⟨rfl, rfl⟩
        · exact hok.q_unbound b k' (by rw [hq]; exact hb)
        · rw [hu.rd, if_pos ⟨rfl, rfl⟩]
      q_ports := by
        intro b k' hb
        simp only [List.mem_append, List.mem_singleton, Prod.mk.injEq] at hb
        rcases hb with hb | ⟨rfl, rfl⟩
        · exact h.q_ports b k' hb
        · exact ha }

theorem unMap_ids {P n a k n' ms} (h : NrtOk P n) (he : n.unMap a k = some (n', ms)) :
    ∀ st ans, RtMsg.bind st ans ∈ ms → ans = none ∧ ∀ x ∈ ids st.mapping, x ∈ ids n.mapping := by
  obtain ⟨n1, ms1, heq, -, -, -, hcase⟩ := unMap_ok h a k
  rw [he] at heq; cases heq
  rcases hcase with ⟨rfl, hst⟩ | ⟨c, st, ns, hst, hns, hst', rfl⟩
  · exact fun st ans hin => by cases hin
  · intro st ans hin
    cases List.mem_singleton.mp hin
    exact ⟨rfl, fun x hx => by rw [hns] at hx; rw [NRT.mapping_eq hst]; exact (ids_filter_sublist _ _).subset hx⟩

theorem map_ids {P : List PortSpec} {n a k n' ms} (h : NrtOk P n) (ha : a < P.length)
    (he : n.map a k = some (n', ms)) :
    ∀ st ans, RtMsg.bind st ans ∈ ms → ans = none ∧ ∀ x ∈ ids st.mapping, x ∈ ids n.mapping := by
  rcases map_ok h a k ha with ⟨_, heq⟩ | ⟨_, n1, ms1, hun, heq, _⟩
  · rw [he] at heq; cases heq
    exact fun st ans hin => by cases hin
  · rw [he] at heq; cases heq
    intro st ans hin
    rcases List.mem_append.mp hin with hin | hin
    · exact unMap_ids h hun st ans hin
    · cases List.mem_singleton.mp hin

theorem binding_none_of_not_mem {st : Storage} {id : Nat} (h : id ∉ ids st.mapping) : st.binding id = none := by
  simp [Storage.binding, find?_none_of_not_mem_ids h]

theorem not_mem_of_binding_none {st : Storage} (hs : StOk st) {id : Nat} (h : st.binding id = none) :
    id ∉ ids st.mapping := by
  intro hm
  cases hf : st.mapping.find? (fun e => e.id == id) with
  | none => exact absurd hm (not_mem_ids_of_find?_none hf)
  | some e' =>
    have := hs.slots e' (List.mem_of_find?_eq_some hf)
    simp [Storage.binding, hf, List.getElem?_eq_getElem this] at h

theorem nrt_binding_none_iff {P n} (h : NrtOk P n) (id : Nat) :
    n.binding id = none ↔ id ∉ ids n.mapping := by
  cases hs : n.storage with
  | none => simp [NRT.binding_none hs, NRT.mapping_none hs]
  | some st =>
    rw [NRT.binding_eq hs, NRT.mapping_eq hs]
    exact ⟨not_mem_of_binding_none (h.stok st hs), binding_none_of_not_mem⟩

theorem unMap_table {P n a k n' ms} (h : NrtOk P n) (heq : n.unMap a k = some (n', ms)) :
    tableOf n' = (tableOf n).unmap a k := by
  obtain ⟨n1, ms1, e1, hok, hq, hu, -⟩ := unMap_ok h a k
  rw [heq] at e1; cases e1
  show (⟨n'.learnQ, n'.binding⟩ : Table) = ⟨n.learnQ, fun id => if n.binding id = some (a, k) then none else n.binding id⟩
  rw [hq]; congr 1; funext x
  rw [bound_of_invSet h hok hu (fun c s hv => by cases hv) x]; simp

theorem map_table {P : List PortSpec} {n a k n' ms} (h : NrtOk P n) (ha : a < P.length)
    (heq : n.map a k = some (n', ms)) : tableOf n' = (tableOf n).map a k := by
  rcases map_ok h a k ha with ⟨hin, heq1⟩ | ⟨hnin, n1, ms1, hun, heq1, -⟩
  · rw [heq] at heq1; cases heq1
    simp [Table.map, tableOf, hin]
  · rw [heq] at heq1; cases heq1
    have e : n1.binding = ((tableOf n).unmap a k).bound := congrArg Table.bound (unMap_table h hun)
    have hm : (a, k) ∉ (tableOf n).queue := hnin
    simp only [Table.map, hm, if_false]
    exact congrArg (Table.mk _) e

theorem useFreeID_table {P n a k q id n' ms} (h : NrtOk P n) (hq : n.learnQ = (a, k) :: q)
    (hid : id ∉ ids n.mapping) (heq : NRT.useFreeID P n id = some (n', ms)) :
    tableOf n' = (tableOf n).learn id := by
  obtain ⟨n1, ns, slot, e1, hok, -, hq', -, hu⟩ := useFreeID_ok id h hq hid
  rw [heq] at e1; cases e1
  have e : (tableOf n).learn id = ⟨q, fun x => if x = id then some (a, k) else n.binding x⟩ := by
    simp only [Table.learn, tableOf, hq]
  rw [e]
  show (⟨n'.learnQ, n'.binding⟩ : Table) = _
  rw [hq']; congr 1; funext x
  rw [bound_of_invSet h hok hu (fun c s hv => by cases hv; exact (nrt_binding_none_iff h id).mpr hid) x]
  -- `(a,k)` was queued: nobody drove it
  have hfree : ¬ n.binding x = some (a, k) := fun hb => by
    obtain ⟨s, hs⟩ := h.binding_iff.mp hb
    rw [h.q_unbound a k (by rw [hq]; exact List.mem_cons_self)] at hs; cases hs
  simp [hfree, eq_comm]

/-- what an operation of the non-realtime half, run from a consistent state, guarantees -/
structure NrtRefines (P : List PortSpec) (n : NRT) (q : List Nat) (op : Op) (n' : NRT) (ms : List RtMsg)
    (q' : List Nat) : Prop where
  ok : NrtOk P n'
  table : tableOf n' = (tableOf n).step op q.head?
  /-- a request is consumed only by the `midi-bind` that answers it -/
  quiet : (∀ st ans, RtMsg.bind st ans ∉ ms) → q' = q
  binds : ∀ st ans, RtMsg.bind st ans ∈ ms → ans.toList ++ q' = q ∧
    ∀ x ∈ ids st.mapping, x ∈ ids n.mapping ∨ ans = some x

/-- **The non-realtime half refines the specification of the learn table**: when `map` is given an existing address, no
    request meets an empty learn queue (K1) and the controller asking is not bound yet, an operation
    keeps `NrtOk`, changes (learn queue, controller ↦ parameter) exactly as `Table.step` says, consumes a
    request exactly when it answers it, and the snapshot it sends binds no controller beyond the old ones
    and the one it answers. -/
theorem nrtStep_ok {P : List PortSpec} {n n' : NRT} {q q' : List Nat} {op : Op} {ms : List RtMsg}
    (h : NrtOk P n) (hn : NrtStep P n q op n' ms q') (hwf : ∀ a k, op = .map a k → a < P.length)
    (hk1 : op = .deliverNRT → n.learnQ ≠ []) (hc1 : ∀ id, q.head? = some id → id ∉ ids n.mapping) :
    NrtRefines P n q op n' ms q' := by
  cases hn with
  | @map a k _ _ hm =>
    have hwf := hwf a k rfl
    refine ⟨?_, map_table h hwf hm, fun _ => rfl, fun st ans hin =>
      ⟨by rw [(map_ids h hwf hm st ans hin).1]; rfl, fun x hx => .inl ((map_ids h hwf hm st ans hin).2 x hx)⟩⟩
    rcases map_ok h a k hwf with ⟨-, e⟩ | ⟨-, n1, ms1, -, e, hok⟩ <;> (rw [hm] at e; cases e)
    · exact h
    · exact hok
  | @unmap a k _ _ hm =>
    obtain ⟨n1, ms1, e, hok, -⟩ := unMap_ok h a k
    rw [hm] at e; cases e
    exact ⟨hok, unMap_table h hm, fun _ => rfl, fun st ans hin =>
      ⟨by rw [(unMap_ids h hm st ans hin).1]; rfl, fun x hx => .inl ((unMap_ids h hm st ans hin).2 x hx)⟩⟩
  | clear =>
    refine ⟨nrtOk_empty P (.inr rfl), ?_, fun _ => rfl, fun st ans hin => ?_⟩
    · simp only [tableOf, Table.step, Table.clear, Table.mk.injEq, true_and]
      funext x; simp [NRT.binding, Storage.binding, Storage.empty]
    · cases List.mem_singleton.mp hin; exact ⟨rfl, fun x hx => by simp [Storage.empty] at hx⟩
  | @learn id rest _ _ hq hu =>
    subst hq
    obtain ⟨⟨a, k⟩, lq, hl⟩ := List.exists_cons_of_ne_nil (hk1 rfl)
    have hid := hc1 id rfl
    obtain ⟨n1, ns, slot, e, hok, -, -, hmp, -⟩ := useFreeID_ok id h hl hid
    rw [hu] at e; cases e
    refine ⟨hok, by simpa [Table.step] using useFreeID_table h hl hid hu,
      fun hno => absurd List.mem_cons_self (hno ns (some id)), fun st ans hin => ?_⟩
    cases List.mem_singleton.mp hin
    exact ⟨rfl, fun x hx => by rw [hmp] at hx; simpa [eq_comm] using hx⟩

theorem nrtStep_total {P : List PortSpec} {n : NRT} {q : List Nat} {op : Op} (h : NrtOk P n)
    (hwf : ∀ a k, op = .map a k → a < P.length)
    (hop : (∃ a k, op = .map a k) ∨ (∃ a k, op = .unmap a k) ∨ op = .clear ∨ (op = .deliverNRT ∧ q ≠ []))
    (hk1 : op = .deliverNRT → n.learnQ ≠ []) (hc1 : ∀ id, q.head? = some id → id ∉ ids n.mapping) :
    ∃ n' ms q', NrtStep P n q op n' ms q' := by
  rcases hop with ⟨a, k, rfl⟩ | ⟨a, k, rfl⟩ | rfl | ⟨rfl, hq⟩
  · rcases map_ok h a k (hwf a k rfl) with ⟨-, e⟩ | ⟨-, n1, ms, -, e, -⟩ <;> exact ⟨_, _, _, .map e⟩
  · obtain ⟨n', ms, e, -⟩ := unMap_ok h a k; exact ⟨_, _, _, .unmap e⟩
  · exact ⟨_, _, _, .clear⟩
  · obtain ⟨id, rest, rfl⟩ := List.exists_cons_of_ne_nil hq
    obtain ⟨⟨a, k⟩, lq, hl⟩ := List.exists_cons_of_ne_nil (hk1 rfl)
    obtain ⟨n', ns, slot, e, -⟩ := useFreeID_ok id h hl (hc1 id rfl)
    exact ⟨_, _, _, .learn rfl e⟩

end Rtosc.Midi
