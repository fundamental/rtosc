/-
  C11 — ranges INSIDE arrays: `[` blank, elements separated by white space, blank `]`, where an
  element is a good argument (`Arg11`: scalars in proved spellings, `nxA`, arrays again) or a range
  `b ... c` of decimal 'i' integers that stands first in the array or behind a provider (`Prov`: a
  scalar, `nx<scalar>`, another such range, an array, `nx[array]`) (`ArrR`).  Such an array is again a good
  argument (`arg11_arrayR`): what it is read as does not
  depend on what stands around it (the array scanner hands the elements a hole in front of the cells of
  the array, the checker starts the array without a previous argument), so it nests and takes part in
  `LayR` / `ArrBody` like any other value.  Here: the elements, and scanner and checker on a range at the head
  of the rest of an array in its context.  `ArrR` and `WsGaps` are defined in `Pretty/C11LayoutSpec.lean`, beside
  `LayR`.
-/
import RtoscModel.Proofs.ScanRangeList
namespace Rtosc.Pretty.C11
open Rtosc Rtosc.Libc Rtosc.Pretty
open Rtosc.ArgVal (Cell Item flatList)

theorem WsGaps.sepGaps {g : List Gap} (h : WsGaps g) : SepGaps g := by
  obtain ⟨hne, hall⟩ := h
  cases g with
  | nil => exact absurd rfl hne
  | cons x r =>
    obtain ⟨w, rfl⟩ := hall x (by simp)
    exact ⟨w, r, rfl⟩

theorem allWs_wsGaps : ∀ (g : List Gap), (∀ x ∈ g, ∃ w, x = Gap.ws w) → AllWs (gapsBytes g) := by
  intro g
  induction g with
  | nil => intro _ c hc; simp [gapsBytes] at hc
  | cons x r ih =>
    intro hall
    obtain ⟨w, rfl⟩ := hall x (by simp)
    intro c hc
    simp only [gapsBytes, List.map_cons, List.flatten_cons, Gap.bytes, List.mem_append, List.mem_singleton] at hc
    rcases hc with rfl | hc
    · exact isspace_ws w
    · exact ih (fun y hy => hall y (by simp [hy])) c hc

theorem WsGaps.allWs {g : List Gap} (h : WsGaps g) : AllWs (gapsBytes g) := allWs_wsGaps g h.2

theorem WsGaps.bytes_ne {g : List Gap} (h : WsGaps g) : gapsBytes g ≠ [] := by
  obtain ⟨w, r, rfl⟩ := h.sepGaps
  simp [gapsBytes, Gap.bytes]

theorem rangeTok_length_ge (x z : Int) (hx1 : -2147483648 ≤ x) (hx2 : x ≤ 2147483647) (w1 w2 : Bytes) (hne : w1 ≠ []) :
    5 ≤ (rangeTok x z w1 w2).length := by
  have h1 := List.length_pos_iff.mpr (tokStart_fmtDec x hx1 hx2).1
  have h2 := List.length_pos_iff.mpr hne
  simp only [rangeTok, rangeRest, List.length_append, List.length_cons]
  omega

/-- the scanner reads the range at the head of a text in its context, with more cells (`extra`: inside an
    array the hole of the array and what was scanned before it) behind the cells of the context -/
theorem scan_rangeHead (ctx : Ctx) (hctx : ctx ≠ .any) (x z : Int) (hr : RangeOK ctx.nb x z) (w1 w2 rest : Bytes)
    (hw1 : AllWs w1) (hne : w1 ≠ []) (hw2 : AllWs w2) (hs : Sep rest) (done : List Cell) (pok : Bool)
    (hinv : SInv ctx done pok) (extra : List Cell) (f : Nat) :
    C11.scanArgVal (f + 2) (rangeTok x z w1 w2 ++ rest) (done.reverse ++ extra) (if pok then done.length else 0) true =
      .ok ((rangeTok x z w1 w2).length, rangeCellsNb ctx.nb x z) := by
  cases ctx with
  | any => exact absurd rfl hctx
  | first =>
    have hd : done = [] := hinv.2
    subst hd
    have := scanArgVal_range0 f x z hr.hx1 hr.hx2 hr.hz1 hr.hz2 w1 w2 rest hw1 hne hw2 hs ([].reverse ++ extra) _ _
      (fun ll => hr.delta_unit (Or.inl rfl) ll)
    rw [rangeTok_append, ← rangeTok_length x z w1 w2 rest]
    simp only [List.length_nil, ite_self]
    unfold rangeCellsNb
    rw [hr.count]
    exact this
  | after tp g csp nb =>
    obtain ⟨_, hp, done0, rfl, hT0, hcpr⟩ := hinv
    exact hp.scanRange done0 hT0 pok hcpr extra f x z hr w1 w2 rest hw1 hne hw2 hs

theorem skip_rangeHead (ctx : Ctx) (hctx : ctx ≠ .any) (x z : Int) (hr : RangeOK ctx.nb x z) (w1 w2 rest : Bytes)
    (hw1 : AllWs w1) (hne : w1 ≠ []) (hw2 : AllWs w2) (hs : Sep rest) (recent : Option Bytes) (f : Nat) (ty : UInt8) (ib : Bool)
    (hinv : CInvF ctx recent (rangeTok x z w1 w2 ++ rest) (f + 2)) :
    C11.skipNextPrintedArg (f + 3) (rangeTok x z w1 w2 ++ rest) ty recent true ib = .ok ⟨some rest, 3, 45⟩ := by
  cases ctx with
  | any => exact absurd rfl hctx
  | first =>
    have hrec : recent = none := hinv.1
    subst hrec
    rw [rangeTok_append]
    exact skipNext_range0 (f + 1) x z hr.hx1 hr.hx2 hr.hz1 hr.hz2 w1 w2 rest hw1 hne hw2 hs ty ib _ _
      (fun ll => hr.delta_unit (Or.inl rfl) ll) (by have := hr.hq1; omega)
  | after tp g csp nb =>
    obtain ⟨⟨hp, hg, hrec⟩, hF⟩ := hinv
    subst hrec
    exact hp.skipRange g hg f x z hr w1 w2 rest hw1 hne hw2 hs ty ib (by simp only at hF; omega)

theorem ArrR.allCells_ne {ctx : Ctx} {tcs : List (Bytes × List Cell)} {body : Bytes} (h : ArrR ctx tcs body) :
    allCells tcs ≠ [] := by
  cases h with
  | lastA _ t cs w ht _ => simpa [allCells] using ht.ne
  | lastR _ x z w1 w2 w _ _ _ _ _ _ => simp [allCells, rangeCellsNb]
  | consA _ t cs g more body ht _ _ _ => simp [allCells, ht.ne]
  | consP _ t cs nb g more body ht _ _ _ _ => simp [allCells, ht.ne]
  | consR _ x z w1 w2 g more body _ _ _ _ _ _ _ => simp [allCells, rangeCellsNb]

end Rtosc.Pretty.C11
