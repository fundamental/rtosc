/-
  C07: the reference decoder (`Osc/Decode.lean`) on a buffer with the `Layout` of
  Proofs/ValidLayout.lean.
-/
import RtoscModel.Proofs.ValidLayout
namespace Rtosc.Osc.V
open Rtosc Rtosc.Osc

theorem tw_append_nul (x r : Bytes) (h : NoNul x) : (x ++ 0 :: r).takeWhile (· ≠ 0) = x := by
  induction x with
  | nil => exact tw_nz_zero r
  | cons c x ih => rw [List.cons_append, tw_nz_cons _ h.head, ih h.tail]

/-- an OSC-string with its padding in front of `r`; the strict decoder wants the padding NUL -/
theorem takeStr_pad (strict : Bool) (x pad r : Bytes) (h : NoNul x) (hp : pad.length = 3 - x.length % 4)
    (hz : strict = false ∨ allZero pad = true) :
    takeStr strict (x ++ 0 :: (pad ++ r)) = some (x, r) := by
  have hl : x.length + (4 - x.length % 4) = (x ++ 0 :: pad).length := by
    rw [List.length_append, List.length_cons, hp]; omega
  unfold takeStr
  rw [tw_append_nul x _ h]
  dsimp only
  rw [hl, ← List.cons_append, ← List.append_assoc, List.drop_left, List.take_left, List.drop_left,
    if_pos ⟨by rw [List.length_append (as := x ++ 0 :: pad)]; exact Nat.le_add_right _ _,
      hz.imp id fun hz => by simpa [allZero] using hz⟩]

theorem allZero_zeros (k : Nat) : allZero (zeros k) = true := by simp [allZero, zeros]

/-- a blob behind its size field: the data, `pad4` bytes of padding (NUL for the strict decoder) -/
theorem takeArg_blob (strict : Bool) {b0 b1 b2 b3 : UInt8} {d pad : Bytes} (R : Bytes)
    (hn : beVal [b0, b1, b2, b3] = d.length) (hlt : d.length < 2147483648)
    (hpad : pad.length = pad4 d.length) (hz : strict = false ∨ allZero pad = true) :
    takeArg strict .blob (b0 :: b1 :: b2 :: b3 :: (d ++ (pad ++ R))) = some (.blob d, R) := by
  simp only [takeArg, hn]
  have e : d ++ (pad ++ R) = (d ++ pad) ++ R := (List.append_assoc ..).symm
  have hl : d.length + pad4 d.length = (d ++ pad).length := by rw [List.length_append, hpad]
  have h1 : (d ++ (pad ++ R)).take d.length = d := List.take_left
  have h2 : (d ++ (pad ++ R)).drop (d.length + pad4 d.length) = R := by rw [e, hl, List.drop_left]
  have h3 : ((d ++ (pad ++ R)).take (d.length + pad4 d.length)).drop d.length = pad := by
    rw [e, hl, List.take_left, List.drop_left]
  rw [if_pos, h1, h2]
  exact ⟨hlt, by rw [hl, e, List.length_append (as := d ++ pad)]; exact Nat.le_add_right _ _,
    by rw [h3]; exact hz⟩

/-- either decoder takes a lax encoding of `a` off the front; the strict one when it is the OSC 1.0
    encoding, i.e. when the padding is NUL -/
theorem takeArg_enc (strict : Bool) {a : Arg} {e : Bytes} (R : Bytes) (he : LaxEnc a e)
    (hz : strict = true → e = encArg a) : takeArg strict a.kind (e ++ R) = some (a, R) := by
  cases a with
  | w32 v =>
    obtain ⟨b0, b1, b2, b3, rfl, rfl⟩ := he
    simp [takeArg, Arg.kind, ofNat_beVal4]
  | w64 v =>
    obtain ⟨b0, b1, b2, b3, b4, b5, b6, b7, rfl, rfl⟩ := he
    simp [takeArg, Arg.kind, ofNat_beVal8]
  | midi x y z w =>
    have he' : e = [x, y, z, w] := he
    subst he'; simp [takeArg, Arg.kind]
  | str s =>
    obtain ⟨hs, pad, rfl, hpad⟩ := he
    have hpz : strict = false ∨ allZero pad = true := by
      cases strict with
      | false => exact .inl rfl
      | true =>
        have := List.append_cancel_left ((hz rfl).trans (padStr_eq s))
        rw [List.tail_eq_of_cons_eq this]; exact .inr (allZero_zeros _)
    have : (s ++ 0 :: pad) ++ R = s ++ 0 :: (pad ++ R) := by simp
    simp only [takeArg, Arg.kind, this, takeStr_pad strict s pad R hs hpad hpz, Option.map_some]
  | blob d =>
    obtain ⟨b0, b1, b2, b3, pad, rfl, hlen, hlt, hpad⟩ := he
    have hn : beVal [b0, b1, b2, b3] = d.length := by
      rw [← hlen, get32_beVal]
    have hpz : strict = false ∨ allZero pad = true := by
      cases strict with
      | false => exact .inl rfl
      | true =>
        have : ([b0, b1, b2, b3] ++ d) ++ pad = (be32 (UInt32.ofNat d.length) ++ d) ++ zeros (pad4 d.length) :=
          hz rfl
        rw [List.append_inj_right this (by simp only [List.length_append, be32_length]; rfl)]
        exact .inr (allZero_zeros _)
    rw [show (b0 :: b1 :: b2 :: b3 :: (d ++ pad)) ++ R = b0 :: b1 :: b2 :: b3 :: (d ++ (pad ++ R)) by simp]
    exact takeArg_blob strict R hn hlt hpad hpz

theorem decodeArgs_lax : ∀ {tags : Bytes} {args : List Arg} {A : Bytes}, LaxArgs tags args A →
    ∀ R, decodeArgs false tags (A ++ R) = some (args, R) := by
  intro tags args A h
  induction h with
  | nil => intro R; simp [decodeArgs]
  | skip hk _ ih => intro R; simp only [decodeArgs, hk]; exact ih R
  | take hk he _ ih =>
    intro R
    simp only [decodeArgs, hk, List.append_assoc, takeArg_enc false _ he nofun, ih R]

theorem decodeWith_eq_some {strict : Bool} {bs : Bytes} {m : Msg} :
    decodeWith strict bs = some m ↔ ∃ r1 r2, takeStr true bs = some (m.addr, r1) ∧
      (m.addr.head? = some 47 ∧ m.addr.all printable = true) ∧
      takeStr strict r1 = some (44 :: m.tags, r2) ∧ (strict = false ∨ m.tags.all isTag = true) ∧
      decodeArgs strict m.tags r2 = some (m.args, []) := by
  constructor
  · intro h
    unfold decodeWith at h
    split at h
    · cases h
    · next addr r1 h1 =>
      split at h
      · next hc =>
        split at h
        · next tags r2 h2 =>
          split at h
          · next htg =>
            split at h
            · next args h3 => cases h; exact ⟨r1, r2, h1, hc, h2, htg, h3⟩
            · cases h
          · cases h
        · cases h
      · cases h
  · rintro ⟨r1, r2, h1, hc, h2, htg, h3⟩
    unfold decodeWith
    simp only [h1, hc, h2, htg, h3, and_self, if_true]

theorem decodeLax_of_layout {bs s tags pad : Bytes} {j : Nat} {args : List Arg} {A : Bytes}
    (L : Layout bs s tags pad j args A) : Spec.decodeLax bs = some ⟨47 :: s, tags, args⟩ := by
  have hsnn : NoNul (47 :: s) := by
    intro x hx
    rcases List.mem_cons.mp hx with rfl | h
    · decide
    · exact isprint_ne_zero (L.printable x h)
  have hj : j = 3 - (47 :: s).length % 4 := by
    have := L.align; have := L.j3; simp only [List.length_cons]; omega
  have h1 : takeStr true bs = some (47 :: s, 44 :: (tags ++ 0 :: (pad ++ A))) := by
    have := takeStr_pad true (47 :: s) (zeros j) (44 :: (tags ++ 0 :: (pad ++ A))) hsnn
      (by rw [zeros_length]; exact hj) (.inr (allZero_zeros _))
    rw [L.eq]; simpa using this
  have hcn : NoNul (44 :: tags) := by
    intro x hx
    rcases List.mem_cons.mp hx with rfl | h
    · decide
    · exact L.tags_nn x h
  have h2 : takeStr false (44 :: (tags ++ 0 :: (pad ++ A))) = some (44 :: tags, A) := by
    have := takeStr_pad false (44 :: tags) pad A hcn (by have := L.pad_len; simp only [List.length_cons]; omega)
      (.inl rfl)
    simpa using this
  have h3 : decodeArgs false tags A = some (args, []) := by
    have := decodeArgs_lax L.args []
    simpa using this
  have hpr : (47 :: s).all printable = true := by
    rw [List.all_cons, Bool.and_eq_true, List.all_eq_true]
    exact ⟨by decide, fun x hx => L.printable x hx⟩
  unfold Spec.decodeLax decodeWith
  simp only [h1, h2, h3, hpr, List.head?_cons, and_self, if_true, true_or]

end Rtosc.Osc.V
