/-
  C18 — "an address that a port-tree walk reported" is C09's notion: C18's short
  specifications of the walked addresses (`walk`, RtoscModel/Path/Apropos.lean; `walkE`,
  RtoscModel/Path/Enum.lean) are proved equal to C09's enumeration specification `enumerate`
  (RtoscModel/Walk/Spec.lean; C09's theorems tie `enumerate` to its model of walk_ports) on
  every tree of C09's well-formed names with at most one `#` per name.
  Imports C09's specification; nothing here is executable.
-/
import RtoscModel.Proofs.WalkLeaf
import RtoscModel.Path.WalkLinkSpec
import RtoscModel.Proofs.PathEnumExt
namespace Rtosc.Path
open Rtosc

theorem isDigit_eq (c : UInt8) : Match.isDigit c = isDigit c := by
  simp [Match.isDigit, isDigit]

theorem natDigitsF_eq_decimalF (f g n : Nat) (h1 : n ≤ f) (h2 : n < g) : Walk.natDigitsF f n = decimalF g n := by
  induction f generalizing g n with
  | zero =>
    obtain rfl := Nat.le_zero.mp h1
    cases g with
    | zero => exact absurd h2 (Nat.not_lt_zero _)
    | succ g' => rfl
  | succ f ih =>
    cases g with
    | zero => exact absurd h2 (Nat.not_lt_zero _)
    | succ g' =>
      rw [Walk.natDigitsF, decimalF]
      by_cases hn : n < 10
      · rw [if_pos hn, if_pos hn]
      · rw [if_neg hn, if_neg hn, ih g' (n / 10) (Nat.le_of_lt_succ (Nat.lt_of_lt_of_le (div10_lt hn) h1))
          (Nat.lt_of_lt_of_le (div10_lt hn) (Nat.le_of_lt_succ h2))]

theorem natDigits_eq_decimal (n : Nat) : Walk.natDigits n = decimal n :=
  natDigitsF_eq_decimalF n (n + 1) n (Nat.le_refl _) (Nat.lt_succ_self _)

theorem decVal_eq_atoi (ds : Bytes) (h : ∀ c ∈ ds, isDigit c = true) : Match.decVal ds = atoi ds := by
  have : ∀ (l : Bytes) (acc : Nat), (∀ c ∈ l, isDigit c = true) →
      l.foldl (fun acc c => acc * 10 + (c.toNat - 48)) acc = atoiAux acc l := by
    intro l
    induction l with
    | nil => intro acc _; rfl
    | cons c r ih =>
      intro acc hl
      have hc := hl c List.mem_cons_self
      simp only [List.foldl_cons, atoiAux, hc, ↓reduceIte]
      exact ih _ (fun x hx => hl x (List.mem_cons_of_mem _ hx))
  exact this ds 0 h

theorem splitHash_at (pre r : Bytes) (h : 35 ∉ pre) :
    splitHash (pre ++ 35 :: r) = some (pre, r.takeWhile isDigit, r.dropWhile isDigit) := by
  induction pre with
  | nil => simp [splitHash]
  | cons c pre ih =>
    simp only [List.mem_cons, not_or] at h
    rw [List.cons_append, splitHash, if_neg (fun e => h.1 e.symm), ih h.2]
    rfl

theorem slashIf_facts (b : Bool) : (∀ c ∈ Walk.slashIf b, c ≠ 35 ∧ c ≠ COLON) ∧ isDigit (hd (Walk.slashIf b)) = false := by
  cases b <;> simp [Walk.slashIf, COLON] <;> decide

/-- a name of C09's form with at most one `#`: the literal names C18's `expandName` gives for
    it are C09's `expandParts`, in the same order -/
theorem expandName_render (w : Walk.WName) (hok : w.ok = true) (h1 : w.parts.length ≤ 1) :
    expandName (lit w.render) =
      (Walk.expandParts w.parts).map (fun a => w.head ++ a ++ Walk.slashIf w.slash) := by
  have hlit := Walk.lit_render hok
  obtain ⟨hhead, hparts, _⟩ := Walk.WName.ok_spec hok
  have hh : ∀ c ∈ w.head, c ≠ 35 ∧ c ≠ COLON := fun c hc => (Walk.textOk_ne hhead c hc).2
  obtain ⟨hs1, hs2⟩ := slashIf_facts w.slash
  rcases hp : w.parts with _ | ⟨⟨ds, t⟩, rest⟩
  · -- no `#`
    have hbody : ∀ c ∈ w.head ++ Walk.slashIf w.slash, c ≠ 35 ∧ c ≠ COLON := by
      intro c hc
      rcases List.mem_append.mp hc with h | h
      · exact hh c h
      · exact hs1 c h
    simp only [Walk.WName.body, hp, Walk.renderParts, List.append_nil] at hlit
    rw [hlit]
    unfold expandName
    rw [splitHash_of_not_mem _ (fun h => (hbody 35 h).1 rfl)]
    simp [Walk.expandParts]
  · have : rest = [] := by
      rw [hp] at h1
      cases rest with
      | nil => rfl
      | cons _ _ => simp at h1
    subst this
    rw [hp] at hparts
    simp only [Walk.partsOk, Walk.numOk, Bool.and_eq_true, Bool.not_eq_true', decide_eq_true_eq] at hparts
    obtain ⟨⟨⟨⟨hne, hdig⟩, _⟩, ht⟩, hsd⟩ := hparts
    have hdig' : ∀ c ∈ ds, isDigit c = true := by
      intro c hc
      rw [← isDigit_eq]; exact List.all_eq_true.mp hdig c hc
    have hrest : isDigit (hd (t ++ Walk.slashIf w.slash)) = false := by
      cases t with
      | nil => simpa using hs2
      | cons c _ =>
        simp only [Walk.startsWithDigit] at hsd
        simpa [isDigit_eq] using hsd
    simp only [Walk.WName.body, hp, Walk.renderParts, List.append_nil, List.append_assoc, List.cons_append] at hlit
    rw [hlit]
    unfold expandName
    rw [splitHash_at _ _ (fun h => (hh 35 h).1 rfl), takeWhile_digits_run ds _ hdig' hrest,
      dropWhile_digits ds _ hdig' hrest]
    simp only [Walk.expandParts, ← decVal_eq_atoi ds hdig']
    simp only [List.flatMap, natDigits_eq_decimal]
    generalize List.range (Match.decVal ds) = l
    induction l with
    | nil => rfl
    | cons k l ih => simp at ih ⊢; exact ih

theorem withSlash_slash (e : Bytes) : withSlash (e ++ [47]) = e ++ [47] := by
  simp [withSlash, SLASH]

mutual
theorem enumList_eq_walkEL : ∀ (ts : List Walk.STree) (pre : Bytes) (path : List Nat) (i : Nat),
    Walk.wfList ts = true → singleHashList ts = true →
    Walk.enumList pre path ts i = (walkEL (Walk.toPorts ts) i).map (fun e => (path ++ e.2, pre ++ e.1))
  | [], pre, path, i, _, _ => by simp [Walk.enumList, Walk.toPorts, walkEL]
  | t :: r, pre, path, i, hwf, hsh => by
    simp only [Walk.wfList, Bool.and_eq_true] at hwf
    simp only [singleHashList, Bool.and_eq_true] at hsh
    rw [Walk.enumList, Walk.toPorts, walkEL, enumTree_eq_walkEP t pre (path ++ [i]) hwf.1 hsh.1,
      enumList_eq_walkEL r pre path (i + 1) hwf.2 hsh.2]
    simp [List.map_map, Function.comp_def]
theorem enumTree_eq_walkEP : ∀ (t : Walk.STree) (pre : Bytes) (ix : List Nat),
    t.wf = true → singleHashTree t = true →
    Walk.enumTree pre ix t = (walkEP t.toPort).map (fun e => (ix ++ e.2, pre ++ e.1))
  | .leaf w md, pre, ix, hwf, hsh => by
    simp only [Walk.STree.wf, Walk.WName.leafOk] at hwf
    simp only [singleHashTree, decide_eq_true_eq] at hsh
    rw [Walk.enumTree, Walk.STree.toPort, walkEP]
    simp only [Bool.false_eq_true, ↓reduceIte]
    rw [expandName_render w hwf hsh]
    simp [List.map_map, Function.comp_def]
  | .sub w md kids, pre, ix, hwf, hsh => by
    simp only [Walk.STree.wf, Walk.WName.subOk, Bool.and_eq_true] at hwf
    simp only [singleHashTree, Bool.and_eq_true, decide_eq_true_eq] at hsh
    obtain ⟨⟨⟨⟨hok, _⟩, hslash⟩, _⟩, hkids⟩ := hwf
    rw [Walk.enumTree, Walk.STree.toPort, walkEP]
    simp only [↓reduceIte]
    rw [expandName_render w hok hsh.1, hslash]
    simp only [Walk.slashIf, ↓reduceIte, List.map_map, List.flatMap]
    rw [List.map_flatten, List.map_map]
    congr 1
    apply List.map_congr_left
    intro a _
    simp only [Function.comp_def]
    rw [enumList_eq_walkEL kids _ ix 0 hkids hsh.2, withSlash_slash]
    simp [List.map_map, Function.comp_def]
end

end Rtosc.Path
