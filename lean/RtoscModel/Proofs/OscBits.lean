/-
  The shift/or byte packing of the C code is big-endian arithmetic.
  (`put32 = be32`, `get32 ∘ be32 = id`, `be32 ∘ get32 = id`, and the 64-bit versions.)
-/
import RtoscModel.Osc.Decode
import RtoscModel.Osc.Read
namespace Rtosc.Osc
open Rtosc

theorem toNat_ofNat_byte (x : Nat) : (UInt8.ofNat (x % 256)).toNat = x % 256 := by
  rw [UInt8.toNat_ofNat']; exact Nat.mod_mod x 256

/-! ### emitting: `(v >> k) & 0xff` is a base-256 digit of `v` -/

theorem toUInt8_shr32 (v s : UInt32) :
    (v >>> s).toUInt8 = UInt8.ofNat (v.toNat / 2 ^ (s.toNat % 32) % 256) := by
  apply UInt8.toNat_inj.mp
  rw [UInt32.toNat_toUInt8, UInt32.toNat_shiftRight, Nat.shiftRight_eq_div_pow, toNat_ofNat_byte]

theorem toUInt8_shr64 (v s : UInt64) :
    (v >>> s).toUInt8 = UInt8.ofNat (v.toNat / 2 ^ (s.toNat % 64) % 256) := by
  apply UInt8.toNat_inj.mp
  rw [UInt64.toNat_toUInt8, UInt64.toNat_shiftRight, Nat.shiftRight_eq_div_pow, toNat_ofNat_byte]

theorem put32_eq (v : UInt32) : put32 v = be32 v := by
  have h0 : v.toUInt8 = (v >>> 0).toUInt8 := by rw [UInt32.shiftRight_zero]
  rw [put32, h0]
  simp only [toUInt8_shr32]
  rfl

theorem put64_eq (v : UInt64) : put64 v = be64 v := by
  have h0 : v.toUInt8 = (v >>> 0).toUInt8 := by rw [UInt64.shiftRight_zero]
  rw [put64, h0]
  simp only [toUInt8_shr64]
  rfl

theorem ofNat_toNat_of_lt {n : Nat} (h : n < 4294967296) : (UInt32.ofNat n).toNat = n :=
  (UInt32.toNat_ofNat' ..).trans (Nat.mod_eq_of_lt h)

theorem be32_length (v : UInt32) : (be32 v).length = 4 := rfl
theorem be64_length (v : UInt64) : (be64 v).length = 8 := rfl

/-! ### packing: `b0 << 24 | b1 << 16 | …` is the Horner value of the bytes -/

theorem shl_or_eq {a b i : Nat} (h : b < 2 ^ i) : a <<< i ||| b = a * 2 ^ i + b := by
  rw [← Nat.shiftLeft_add_eq_or_of_lt h, Nat.shiftLeft_eq]

theorem shl_mod_eq {x k m : Nat} (hx : x < 2 ^ 8) (hm : 2 ^ (8 + k) ≤ m) : x <<< k % m = x <<< k := by
  apply Nat.mod_eq_of_lt
  rw [Nat.shiftLeft_eq]
  rw [Nat.pow_add] at hm
  exact Nat.lt_of_lt_of_le (Nat.mul_lt_mul_of_pos_right hx (Nat.two_pow_pos k)) hm

/-- Shifting distributes over `|||`, so the left side is
    `((a <<< 8 ||| b) <<< 8 ||| c) <<< 8 ||| d`, where every `|||` adds a byte. -/
theorem or4 (a b c d : Nat) (hb : b < 256) (hc : c < 256) (hd : d < 256) :
    (a <<< 24 ||| b <<< 16 ||| c <<< 8 ||| d) = ((a * 256 + b) * 256 + c) * 256 + d := by
  rw [← shl_or_eq (i := 8) hb, ← shl_or_eq (i := 8) hc, ← shl_or_eq (i := 8) hd]
  simp only [Nat.shiftLeft_or_distrib, ← Nat.shiftLeft_add, Nat.reduceAdd]

theorem or8 (a b c d e f g h : Nat) (hb : b < 256) (hc : c < 256) (hd : d < 256)
    (he : e < 256) (hf : f < 256) (hg : g < 256) (hh : h < 256) :
    (a <<< 56 ||| b <<< 48 ||| c <<< 40 ||| d <<< 32 ||| e <<< 24 ||| f <<< 16 ||| g <<< 8 ||| h) =
      ((((((a * 256 + b) * 256 + c) * 256 + d) * 256 + e) * 256 + f) * 256 + g) * 256 + h := by
  rw [← shl_or_eq (i := 8) hb, ← shl_or_eq (i := 8) hc, ← shl_or_eq (i := 8) hd,
    ← shl_or_eq (i := 8) he, ← shl_or_eq (i := 8) hf, ← shl_or_eq (i := 8) hg,
    ← shl_or_eq (i := 8) hh]
  simp only [Nat.shiftLeft_or_distrib, ← Nat.shiftLeft_add, Nat.reduceAdd]

/-! ### bytes and their big-endian value, any width

  `beVal` (Osc/Decode.lean) is the Horner value of a byte list, `beN k` the `k` low base-256 digits of
  a number: they are inverse to each other, and `get32` / `get64` are `beVal` of their bytes. -/

theorem get32_beVal (b0 b1 b2 b3 : UInt8) : (get32 b0 b1 b2 b3).toNat = beVal [b0, b1, b2, b3] := by
  simp only [get32, UInt32.toNat_or, UInt32.toNat_shiftLeft, UInt8.toNat_toUInt32]
  rw [shl_mod_eq b0.toNat_lt (by decide), shl_mod_eq b1.toNat_lt (by decide),
    shl_mod_eq b2.toNat_lt (by decide)]
  simp only [UInt32.toNat_ofNat, Nat.reducePow, Nat.reduceMod]
  rw [or4 _ _ _ _ b1.toNat_lt b2.toNat_lt b3.toNat_lt]; simp [beVal]

theorem get64_beVal (b0 b1 b2 b3 b4 b5 b6 b7 : UInt8) :
    (get64 b0 b1 b2 b3 b4 b5 b6 b7).toNat = beVal [b0, b1, b2, b3, b4, b5, b6, b7] := by
  simp only [get64, UInt64.toNat_or, UInt64.toNat_shiftLeft, UInt8.toNat_toUInt64]
  rw [shl_mod_eq b0.toNat_lt (by decide), shl_mod_eq b1.toNat_lt (by decide),
    shl_mod_eq b2.toNat_lt (by decide), shl_mod_eq b3.toNat_lt (by decide),
    shl_mod_eq b4.toNat_lt (by decide), shl_mod_eq b5.toNat_lt (by decide),
    shl_mod_eq b6.toNat_lt (by decide)]
  simp only [UInt64.toNat_ofNat, Nat.reducePow, Nat.reduceMod]
  rw [or8 _ _ _ _ _ _ _ _ b1.toNat_lt b2.toNat_lt b3.toNat_lt b4.toNat_lt b5.toNat_lt b6.toNat_lt
    b7.toNat_lt]
  simp [beVal]

theorem ofNat_beVal4 (b0 b1 b2 b3 : UInt8) : UInt32.ofNat (beVal [b0, b1, b2, b3]) = get32 b0 b1 b2 b3 := by
  rw [← get32_beVal, UInt32.ofNat_toNat]

theorem ofNat_beVal8 (b0 b1 b2 b3 b4 b5 b6 b7 : UInt8) :
    UInt64.ofNat (beVal [b0, b1, b2, b3, b4, b5, b6, b7]) = get64 b0 b1 b2 b3 b4 b5 b6 b7 := by
  rw [← get64_beVal, UInt64.ofNat_toNat]

theorem foldl_be (l : Bytes) : ∀ a : Nat,
    l.foldl (fun a b => a * 256 + b.toNat) a = a * 256 ^ l.length + beVal l := by
  induction l with
  | nil => intro a; simp [beVal]
  | cons b l ih =>
    intro a
    rw [beVal, List.foldl_cons, List.foldl_cons, ih, ih (0 * 256 + b.toNat), List.length_cons, Nat.pow_succ,
      Nat.zero_mul, Nat.zero_add, Nat.add_mul, Nat.mul_assoc, Nat.mul_comm 256, Nat.add_assoc]

theorem beVal_cons (b : UInt8) (l : Bytes) : beVal (b :: l) = b.toNat * 256 ^ l.length + beVal l := by
  rw [beVal, List.foldl_cons, foldl_be, Nat.zero_mul, Nat.zero_add]

theorem beVal_lt (l : Bytes) : beVal l < 256 ^ l.length := by
  induction l with
  | nil => decide
  | cons b l ih =>
    have := b.toNat_lt
    rw [beVal_cons, List.length_cons, Nat.pow_succ]
    calc b.toNat * 256 ^ l.length + beVal l < b.toNat * 256 ^ l.length + 256 ^ l.length := by omega
      _ = (b.toNat + 1) * 256 ^ l.length := by rw [Nat.add_mul, Nat.one_mul]
      _ ≤ 256 * 256 ^ l.length := Nat.mul_le_mul_right _ (by omega)
      _ = 256 ^ l.length * 256 := Nat.mul_comm _ _

theorem beN_add_mul (k : Nat) : ∀ a r : Nat, beN k (a * 256 ^ k + r) = beN k r := by
  induction k with
  | zero => intro a r; rfl
  | succ k ih =>
    intro a r
    have e : a * 256 ^ (k + 1) + r = a * 256 * 256 ^ k + r := by rw [Nat.pow_succ, Nat.mul_assoc, Nat.mul_comm 256]
    rw [beN, beN, e, ih, Nat.add_comm, Nat.add_mul_div_right _ _ (Nat.pow_pos (by decide)), Nat.add_mul_mod_self_right]

theorem beN_beVal (l : Bytes) : beN l.length (beVal l) = l := by
  induction l with
  | nil => rfl
  | cons b l ih =>
    have := b.toNat_lt
    rw [List.length_cons, beN, beVal_cons, beN_add_mul, ih, Nat.add_comm,
      Nat.add_mul_div_right _ _ (Nat.pow_pos (by decide)), Nat.div_eq_of_lt (beVal_lt l), Nat.zero_add,
      Nat.mod_eq_of_lt this, UInt8.ofNat_toNat]

theorem be32_get32 (b0 b1 b2 b3 : UInt8) : be32 (get32 b0 b1 b2 b3) = [b0, b1, b2, b3] := by
  rw [be32, get32_beVal]; exact beN_beVal [b0, b1, b2, b3]

theorem be64_get64 (b0 b1 b2 b3 b4 b5 b6 b7 : UInt8) :
    be64 (get64 b0 b1 b2 b3 b4 b5 b6 b7) = [b0, b1, b2, b3, b4, b5, b6, b7] := by
  rw [be64, get64_beVal]; exact beN_beVal [b0, b1, b2, b3, b4, b5, b6, b7]

theorem beN_length : ∀ (k n : Nat), (beN k n).length = k
  | 0, _ => rfl
  | k + 1, n => by rw [beN, List.length_cons, beN_length k n]

theorem beVal_beN : ∀ (k n : Nat), beVal (beN k n) = n % 256 ^ k
  | 0, n => by rw [Nat.pow_zero, Nat.mod_one]; rfl
  | k + 1, n => by
    rw [beN, beVal_cons, beVal_beN k n, beN_length, UInt8.toNat_ofNat', Nat.mod_mod, Nat.mod_pow_succ,
      Nat.mul_comm, Nat.add_comm]

theorem get32_be32 (v : UInt32) :
    ∃ b0 b1 b2 b3, be32 v = [b0, b1, b2, b3] ∧ get32 b0 b1 b2 b3 = v :=
  ⟨_, _, _, _, rfl, by
    rw [← ofNat_beVal4]
    show UInt32.ofNat (beVal (beN 4 v.toNat)) = v
    rw [beVal_beN, Nat.mod_eq_of_lt v.toNat_lt, UInt32.ofNat_toNat]⟩

theorem get64_be64 (v : UInt64) :
    ∃ b0 b1 b2 b3 b4 b5 b6 b7, be64 v = [b0, b1, b2, b3, b4, b5, b6, b7] ∧
      get64 b0 b1 b2 b3 b4 b5 b6 b7 = v :=
  ⟨_, _, _, _, _, _, _, _, rfl, by
    rw [← ofNat_beVal8]
    show UInt64.ofNat (beVal (beN 8 v.toNat)) = v
    rw [beVal_beN, Nat.mod_eq_of_lt v.toNat_lt, UInt64.ofNat_toNat]⟩

end Rtosc.Osc
