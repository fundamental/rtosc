/-
  C17 — the metadata reader on the block `serialize es`.  Seen from an entry boundary the block
  is `rest es`; the iterator standing on an entry (`iterAt`) is moved to the next one by
  `operator++`, so the range-for loop yields the entries in order; `operator[]` and `find` are
  read off that iteration, and the scan of `MetaContainer::length()` covers the whole block.  Last: each
  macro of port-sugar.h (RtoscModel/MetaMacros.lean) that stands for an entry writes `serEntry` of it.
-/
import RtoscModel.MetaMacros
import RtoscModel.Proofs.BasicLemmas
namespace Rtosc.Meta
open Rtosc

theorem NoNul.tail {c : UInt8} {k : Bytes} (h : NoNul (c :: k)) : NoNul k :=
  fun x hx => h x (List.mem_cons_of_mem _ hx)

theorem NoNul.head {c : UInt8} {k : Bytes} (h : NoNul (c :: k)) : c ≠ 0 :=
  h c (List.mem_cons_self)

theorem scanNext_run (prev : UInt8) (k r : Bytes) (hp : prev ≠ 0) (h : NoNul k) :
    scanNext prev (k ++ 0 :: r) = scanNext 0 r := by
  induction k generalizing prev with
  | nil => simp [scanNext, hp]
  | cons c k ih =>
    have hc : c ≠ 0 := h.head
    simp only [List.cons_append, scanNext, hp, ne_eq, not_false_eq_true, true_or, ↓reduceIte]
    exact ih c hc h.tail

/-! `lenScan` counts every byte but the last of a text in which it does not stop early.  The
    lemmas below carry this form (`some (length - 1)`) from the end of the block to its front. -/

theorem lenScan_step {prev c : UInt8} {r : Bytes} (h : prev ≠ 0 ∨ c ≠ 0)
    (hr : lenScan c r = some (r.length - 1)) (hne : r ≠ []) :
    lenScan prev (c :: r) = some ((c :: r).length - 1) := by
  have : 1 ≤ r.length := List.length_pos_iff.mpr hne
  rw [lenScan, if_pos h, hr, Option.map_some, List.length_cons, Nat.sub_add_cancel this, Nat.add_sub_cancel]

theorem lenScan_run {prev : UInt8} {k r : Bytes} (hp : prev ≠ 0) (h : NoNul k)
    (hr : lenScan 0 r = some (r.length - 1)) (hne : r ≠ []) :
    lenScan prev (k ++ 0 :: r) = some ((k ++ 0 :: r).length - 1) := by
  induction k generalizing prev with
  | nil => exact lenScan_step (.inl hp) hr hne
  | cons c k ih => exact lenScan_step (.inl hp) (ih h.head h.tail) (by simp)

/-- What follows an entry's key NUL, given the remainder `R` of the block. -/
def tl (e : Bytes × Option Bytes) (R : Bytes) : Bytes :=
  match e.2 with
  | none => R
  | some v => 61 :: (v ++ 0 :: R)

/-- An entry without its leading ':' followed by the remainder `R`. -/
def ent (e : Bytes × Option Bytes) (R : Bytes) : Bytes := e.1 ++ 0 :: tl e R

/-- The rest of a block after some entries: remaining entries and the final NUL. -/
def rest : List (Bytes × Option Bytes) → Bytes
  | [] => [0]
  | e :: es => 58 :: ent e (rest es)

theorem serialize_eq (es : List (Bytes × Option Bytes)) : serialize es = rest es := by
  induction es with
  | nil => rfl
  | cons e es ih =>
    simp only [serialize] at ih
    simp only [serialize, List.map_cons, List.flatten_cons, List.append_assoc, ih, rest, ent, tl,
      serEntry]
    cases e.2 <;> simp

/-- The first byte of `rest es` is NUL or ':' — never '='. -/
theorem rest_head (es : List (Bytes × Option Bytes)) :
    ∃ d r, rest es = d :: r ∧ (d = 0 ∨ d = 58) := by
  cases es with
  | nil => exact ⟨0, [], rfl, Or.inl rfl⟩
  | cons e es => exact ⟨58, _, rfl, Or.inr rfl⟩

/-- pointer to the value of entry `e` when the block continues with `R` -/
def valuePtr (e : Bytes × Option Bytes) (R : Bytes) : Ptr :=
  match e.2 with
  | none => none
  | some v => some (v ++ 0 :: R)

theorem key_cons {e : Bytes × Option Bytes} (hwf : EntryWF e) :
    ∃ c k, e.1 = c :: k ∧ c ≠ 0 ∧ c ≠ 58 ∧ NoNul k := by
  obtain ⟨hk, ⟨c, k, hek, hc58⟩, _⟩ := hwf
  have hk' : NoNul (c :: k) := hek ▸ hk
  exact ⟨c, k, hek, hk'.head, hc58, hk'.tail⟩

theorem ent_cons {e : Bytes × Option Bytes} {c : UInt8} {k : Bytes} (hek : e.1 = c :: k) (R : Bytes) :
    ent e R = c :: (k ++ 0 :: tl e R) := by rw [ent, hek]; rfl

theorem length_le_ent (e : Bytes × Option Bytes) (R : Bytes) : R.length ≤ (ent e R).length := by
  simp only [ent, tl]; cases e.2 <;> simp <;> omega

theorem advance_ent (e : Bytes × Option Bytes) (es) (hwf : EntryWF e) :
    advance (some (ent e (rest es))) = some (valuePtr e (rest es)) := by
  obtain ⟨c, k, hek, hc, _, _⟩ := key_cons hwf
  obtain ⟨d, r, hr, hd⟩ := rest_head es
  have hk : NoNul e.1 := hwf.1
  unfold ent
  rw [hek]; simp only [List.cons_append, advance, hc, ↓reduceIte]
  rw [← List.cons_append, ← hek, toNul_append_nul _ _ hk]
  unfold tl valuePtr
  cases h2 : e.2 with
  | none => simp only [hr]; rcases hd with rfl | rfl <;> simp
  | some v => simp

theorem deref_ent (e : Bytes × Option Bytes) (R : Bytes) (hwf : EntryWF e) :
    (Iter.mk (some (ent e R)) (valuePtr e R)).deref = some (e.1, e.2) := by
  obtain ⟨hk, _, hv⟩ := hwf
  unfold Iter.deref ent valuePtr
  simp only [cstr_append_nul _ _ hk]
  cases h2 : e.2 with
  | none => simp
  | some v => simp [cstr_append_nul _ _ (hv v h2)]

theorem scanNext_stop (es : List (Bytes × Option Bytes)) :
    scanNext 0 (rest es) = some (rest es) := by
  obtain ⟨d, r, hr, hd⟩ := rest_head es
  rw [hr]; rcases hd with rfl | rfl <;> simp [scanNext]

theorem scanNext_ent (e : Bytes × Option Bytes) (es) (hwf : EntryWF e) :
    scanNext 0 (ent e (rest es)) = some (rest es) := by
  obtain ⟨c, k, hek, hc, hc58, hkk⟩ := key_cons hwf
  unfold ent
  rw [hek]
  simp only [List.cons_append, scanNext, hc, hc58, ne_eq, not_false_eq_true, and_self, or_true,
    ↓reduceIte]
  rw [scanNext_run c k _ hc hkk]
  unfold tl
  cases h2 : e.2 with
  | none => exact scanNext_stop es
  | some v =>
    simp only [scanNext]
    have : ((0:UInt8) ≠ 0 ∨ (61:UInt8) ≠ 0 ∧ (61:UInt8) ≠ 58) := Or.inr (by decide)
    simp only [this, ↓reduceIte]
    rw [scanNext_run 61 v _ (by decide) (hwf.2.2 v h2)]
    exact scanNext_stop es

/-- The iterator standing on entry `e` with `es` still to come. -/
def iterAt (e : Bytes × Option Bytes) (es : List (Bytes × Option Bytes)) : Iter :=
  ⟨some (ent e (rest es)), valuePtr e (rest es)⟩

theorem mk'_ent (e : Bytes × Option Bytes) (es) (hwf : EntryWF e) :
    Iter.mk' (some (ent e (rest es))) = some (iterAt e es) := by
  simp [Iter.mk', advance_ent e es hwf, iterAt]

/-- `operator++` on entry `e`: moves to the next entry, or to the end iterator. -/
theorem next_iterAt (e : Bytes × Option Bytes) (es) (hwf : EntryWF e)
    (hes : ∀ x ∈ es, EntryWF x) :
    (iterAt e es).next =
      match es with
      | [] => some ⟨none, none⟩
      | e' :: es' => some (iterAt e' es') := by
  obtain ⟨c, k, hek, hc, _, _⟩ := key_cons hwf
  have hsc := scanNext_ent e es hwf
  unfold Iter.next iterAt
  have hshape := ent_cons hek (rest es)
  simp only [hshape, hc, ↓reduceIte]
  rw [← hshape, hsc]
  cases es with
  | nil => simp [rest, Iter.mk', advance]
  | cons e' es' =>
    simp only [rest]
    simp only [show ((58:UInt8) = 0) = False by decide, ↓reduceIte]
    exact mk'_ent e' es' (hes e' (List.mem_cons_self))

theorem iterate_iterAt (fuel : Nat) (e : Bytes × Option Bytes) (es) (hwf : EntryWF e)
    (hes : ∀ x ∈ es, EntryWF x)
    (hf : es.length + 2 ≤ fuel) : iterate fuel (iterAt e es) = some (e :: es) := by
  induction es generalizing e fuel with
  | nil =>
    match fuel, hf with
    | f + 2, _ =>
      have hd := deref_ent e (rest []) hwf
      have hn := next_iterAt e [] hwf hes
      simp only [iterAt] at hn
      simp [iterate, iterAt, hd, hn]
  | cons e' es' ih =>
    match fuel, hf with
    | f + 1, hf =>
      have hd := deref_ent e (rest (e' :: es')) hwf
      have hn := next_iterAt e (e' :: es') hwf hes
      have hwf' := hes e' (List.mem_cons_self)
      have hes' : ∀ x ∈ es', EntryWF x := fun x hx => hes x (List.mem_cons_of_mem _ hx)
      have := ih f e' hwf' hes' (by simp at hf ⊢; omega)
      simp only [iterAt] at hn this
      simp [iterate, iterAt, hd, hn, this]

theorem iterate_some {fuel : Nat} {it : Iter} {t : Bytes} {ps : List Pair} (ht : it.title = some t)
    (h : iterate (fuel + 1) it = some ps) :
    ∃ p it' ps', it.deref = some p ∧ it.next = some it' ∧ iterate fuel it' = some ps' ∧ ps = p :: ps' := by
  simp only [iterate, ht, Option.bind_eq_bind, Option.bind_eq_some_iff, Option.pure_def,
    Option.some.injEq] at h
  obtain ⟨p, hd, it', hn, ps', hr, rfl⟩ := h
  exact ⟨p, it', ps', hd, hn, hr, rfl⟩

/-- `operator[]` walks the same entries as the range-for loop and stops at the first key that
    matches: whenever iterating succeeds, the lookup is `find?` on the pairs. -/
theorem lookupFuel_of_iterate (key : Bytes) : ∀ (fuel : Nat) (it : Iter) (ps : List Pair),
    iterate fuel it = some ps →
    lookupFuel fuel it key = some (match ps.find? (fun x => x.1 = key) with
                                   | none => none
                                   | some x => x.2)
  | 0, _, _, h => by cases h
  | fuel + 1, it, ps, h => by
    cases ht : it.title with
    | none =>
      simp only [iterate, ht, Option.some.injEq] at h
      subst h
      simp only [lookupFuel, ht, List.find?_nil]
    | some t =>
      obtain ⟨p, it', ps', hd, hn, hr, rfl⟩ := iterate_some ht h
      simp only [lookupFuel, ht, hd, Option.bind_eq_bind, Option.bind_some, List.find?_cons]
      by_cases hk : p.1 = key
      · simp [hk]
      · simp [hk, hn, lookupFuel_of_iterate key fuel it' ps' hr]

theorem findFuel_of_iterate (key : Bytes) : ∀ (fuel : Nat) (it : Iter) (ps : List Pair),
    iterate fuel it = some ps → findFuel fuel it key = some (ps.any (fun x => x.1 = key))
  | 0, _, _, h => by cases h
  | fuel + 1, it, ps, h => by
    cases ht : it.title with
    | none =>
      simp only [iterate, ht, Option.some.injEq] at h
      subst h
      simp only [findFuel, ht, List.any_nil]
    | some t =>
      obtain ⟨p, it', ps', hd, hn, hr, rfl⟩ := iterate_some ht h
      simp only [findFuel, ht, hd, Option.bind_eq_bind, Option.bind_some, List.any_cons]
      by_cases hk : p.1 = key
      · simp [hk]
      · simp [hk, hn, findFuel_of_iterate key fuel it' ps' hr]

theorem rest_ne_nil (es : List (Bytes × Option Bytes)) : rest es ≠ [] := by
  cases es <;> simp [rest]

theorem rest_length (es : List (Bytes × Option Bytes)) : es.length + 1 ≤ (rest es).length := by
  induction es with
  | nil => simp [rest]
  | cons e es ih =>
    have := length_le_ent e (rest es)
    simp only [rest, List.length_cons]; omega

theorem lenScan_ent (prev : UInt8) (e : Bytes × Option Bytes) (R : Bytes) (hwf : EntryWF e)
    (hR : lenScan 0 R = some (R.length - 1)) (hne : R ≠ []) :
    lenScan prev (ent e R) = some ((ent e R).length - 1) := by
  obtain ⟨c, k, hek, hc, _, hk⟩ := key_cons hwf
  have htl : lenScan 0 (tl e R) = some ((tl e R).length - 1) ∧ tl e R ≠ [] := by
    unfold tl
    cases h2 : e.2 with
    | none => exact ⟨hR, hne⟩
    | some v =>
      exact ⟨lenScan_step (.inr (by decide)) (lenScan_run (by decide) (hwf.2.2 v h2) hR hne) (by simp),
        by simp⟩
  rw [ent_cons hek]
  exact lenScan_step (.inr hc) (lenScan_run hc hk htl.1 htl.2) (by simp)

/-- From the ':' of an entry (previous byte NUL) `lenScan` counts up to the block's
    final NUL, i.e. `|rest es| - 1` bytes. -/
theorem lenScan_rest (es : List (Bytes × Option Bytes)) (hes : ∀ x ∈ es, EntryWF x) :
    lenScan 0 (rest es) = some ((rest es).length - 1) := by
  induction es with
  | nil => rfl
  | cons e es ih =>
    have ih' := ih (fun x hx => hes x (List.mem_cons_of_mem _ hx))
    have hent := lenScan_ent 58 e _ (hes e List.mem_cons_self) ih' (rest_ne_nil es)
    exact lenScan_step (.inr (by decide)) hent (by simp [ent])

/-- `lenScan` started on the first key byte (after `Port::meta()` stripped the ':'). -/
theorem lenScan_first (e : Bytes × Option Bytes) (es) (hwf : EntryWF e)
    (hes : ∀ x ∈ es, EntryWF x) :
    lenScan 0 (ent e (rest es)) = some ((ent e (rest es)).length - 1) :=
  lenScan_ent 0 e _ hwf (lenScan_rest es hes) (rest_ne_nil es)

theorem Macro.bytes_entry (m : Macro) (e) (h : m.entry = some e) : m.bytes = serEntry e := by
  cases m <;> simp only [Macro.entry, Option.some.injEq, reduceCtorEq] at h <;> subst h <;>
    simp [Macro.bytes, serEntry, asc]

end Rtosc.Meta
