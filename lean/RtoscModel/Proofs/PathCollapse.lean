/-
  C18 — helper lemmas for `collapsePath` (model: RtoscModel/Path/Collapse.lean).
  The buffer is always split as  `A ++ '/' :: x ++ M ++ O`:
  `A` unread chunks, `'/' :: x` the chunk under the read cursor, `M` the gap between the
  cursors (junk), `O` what has been written already plus the terminator and the rest.
-/
import RtoscModel.Path.Collapse
namespace Rtosc.Path
open Rtosc

/-- what the loop does with one component, seen from the right: `(consuming, kept)` -/
def bwStep (c : Bytes) (acc : Nat × List Bytes) : Nat × List Bytes :=
  if c = DOTDOT then (acc.1 + 1, acc.2)
  else if acc.1 ≠ 0 then (acc.1 - 1, acc.2)
  else (0, c :: acc.2)

/-- the specification goes left to right with a stack (`stackStep`), the code right to left with the counter
    `consuming` (`bwStep`): the stack afterwards is what `bwStep` keeps, on top of `st` without as many
    entries as `..` were left unmatched -/
theorem fw_bw (comps : List Bytes) : ∀ st : List Bytes,
    comps.foldl stackStep st =
      ((comps.foldr bwStep (0, [])).2).reverse ++ st.drop (comps.foldr bwStep (0, [])).1 := by
  induction comps with
  | nil => intro st; simp
  | cons x xs ih =>
    intro st
    simp only [List.foldl_cons, List.foldr_cons]
    rw [ih]
    generalize List.foldr bwStep (0, []) xs = acc
    obtain ⟨c, out⟩ := acc
    unfold bwStep stackStep
    by_cases hx : x = DOTDOT
    · simp [hx]
    · by_cases hc : c = 0
      · simp [hx, hc]
      · obtain ⟨c', rfl⟩ : ∃ c', c = c' + 1 := ⟨c - 1, by omega⟩
        simp [hx]

theorem cancel_eq_bw (comps : List Bytes) : cancel comps = (comps.foldr bwStep (0, [])).2 := by
  unfold cancel
  rw [fw_bw]
  simp

theorem bwStep_snd (c : Bytes) (acc : Nat × List Bytes) :
    (bwStep c acc).2 = acc.2 ∨ (bwStep c acc).2 = c :: acc.2 := by
  unfold bwStep
  split
  · exact .inl rfl
  · split
    · exact .inl rfl
    · exact .inr rfl

theorem bw_mem (comps : List Bytes) (acc : Nat × List Bytes) :
    ∀ c ∈ (comps.foldr bwStep acc).2, c ∈ comps ∨ c ∈ acc.2 := by
  induction comps with
  | nil => exact fun c hc => .inr hc
  | cons x xs ih =>
    intro c hc
    rw [List.foldr_cons] at hc
    rcases bwStep_snd x (xs.foldr bwStep acc) with h | h <;> rw [h] at hc
    · exact (ih c hc).imp_left (List.mem_cons_of_mem _)
    · rcases List.mem_cons.mp hc with rfl | hc
      · exact .inl List.mem_cons_self
      · exact (ih c hc).imp_left (List.mem_cons_of_mem _)

theorem get_at (l1 : Bytes) (a : UInt8) (l2 : Bytes) (n : Nat) (h : n = l1.length) :
    (l1 ++ a :: l2)[n]? = some a := by
  subst h; simp

theorem set_at (l1 : Bytes) (a b : UInt8) (l2 : Bytes) (n : Nat) (h : n = l1.length) :
    (l1 ++ a :: l2).set n b = l1 ++ b :: l2 := by
  subst h; simp

theorem render_append (a b : List Bytes) : render (a ++ b) = render a ++ render b := by
  simp [render]

theorem render_cons (x : Bytes) (b : List Bytes) : render (x :: b) = SLASH :: x ++ render b := by
  simp [render]

/-! The chunk under the cursor is `'/' :: xr.reverse`; the cursors are written as lengths of the part of the
  buffer in front of them, so that moving a cursor is re-bracketing a list. -/

theorem readPath_chunk (xr : Bytes) (hx : ∀ c ∈ xr, c ≠ SLASH) : ∀ (A P : Bytes),
    readPath (A ++ SLASH :: xr.reverse ++ P) (A ++ SLASH :: xr.reverse).length = some A.length := by
  induction xr with
  | nil =>
    intro A P
    rw [show (A ++ SLASH :: [].reverse).length = A.length + 1 by simp, readPath,
      show A ++ SLASH :: [].reverse ++ P = A ++ SLASH :: P by simp, get_at A SLASH P _ rfl]
    simp
  | cons c xr' ih =>
    intro A P
    have hc : c ≠ SLASH := hx c List.mem_cons_self
    have e1 : A ++ SLASH :: (c :: xr').reverse ++ P = (A ++ SLASH :: xr'.reverse) ++ c :: P := by simp
    have e2 : (A ++ SLASH :: (c :: xr').reverse).length = (A ++ SLASH :: xr'.reverse).length + 1 := by
      simp [Nat.add_assoc]
    rw [e2, readPath, e1, get_at _ c P _ rfl]
    simp only [hc, ↓reduceIte]
    simpa using ih (fun d hd => hx d (List.mem_cons_of_mem _ hd)) A (c :: P)

/-- one step of `move_path` on a buffer `A ++ c :: M ++ O` with the read cursor on `c`
    and the write cursor on the last byte of `c :: M` -/
theorem movePath_step (A : Bytes) (c : UInt8) (M O : Bytes) :
    movePath (A ++ c :: M ++ O) (A.length + 1) ((A ++ c :: M).length) =
      if c = SLASH then some (A ++ (c :: M).dropLast ++ c :: O, A.length, (A ++ (c :: M).dropLast).length)
      else movePath (A ++ (c :: M).dropLast ++ c :: O) A.length (A ++ (c :: M).dropLast).length := by
  have hne : c :: M ≠ [] := by simp
  have hsplit : A ++ c :: M ++ O = (A ++ (c :: M).dropLast) ++ (c :: M).getLast hne :: O := by
    conv => lhs; rw [← List.dropLast_concat_getLast hne]
    simp
  have hlen : (A ++ c :: M).length = (A ++ (c :: M).dropLast).length + 1 := by simp [Nat.add_assoc]
  have hget : (A ++ c :: M ++ O)[A.length]? = some c := by
    rw [List.append_assoc]; exact get_at A c _ _ rfl
  have hlt : (A ++ (c :: M).dropLast).length < (A ++ c :: M ++ O).length := by
    rw [List.length_append (as := A ++ c :: M), hlen]; omega
  rw [hlen, movePath, hget]
  simp only
  rw [if_pos hlt, hsplit, set_at _ _ c O _ rfl]

theorem movePath_chunk (xr : Bytes) (hx : ∀ c ∈ xr, c ≠ SLASH) : ∀ (A M O : Bytes),
    ∃ M' : Bytes, M'.length = M.length ∧
      movePath (A ++ SLASH :: xr.reverse ++ M ++ O) (A ++ SLASH :: xr.reverse).length
          (A ++ SLASH :: xr.reverse ++ M).length =
        some (A ++ M' ++ SLASH :: xr.reverse ++ O, A.length, (A ++ M').length) := by
  induction xr with
  | nil =>
    intro A M O
    refine ⟨(SLASH :: M).dropLast, by simp, ?_⟩
    simpa using movePath_step A SLASH M O
  | cons c xr' ih =>
    intro A M O
    have hc : c ≠ SLASH := hx c List.mem_cons_self
    obtain ⟨M', hM', hmove⟩ := ih (fun d hd => hx d (List.mem_cons_of_mem _ hd)) A (c :: M).dropLast (c :: O)
    refine ⟨M', by simpa using hM', ?_⟩
    have step := movePath_step (A ++ SLASH :: xr'.reverse) c M O
    rw [if_neg hc] at step
    have e1 : A ++ SLASH :: (c :: xr').reverse = A ++ SLASH :: xr'.reverse ++ [c] := by simp
    rw [e1, List.length_append (bs := [c]), List.length_singleton, List.append_assoc (bs := [c]),
      List.singleton_append, step, hmove]
    simp

/-- `parent_path_p` looks at the three bytes that end at the cursor (`t`: the bytes in front of the cursor,
    the nearest first) -/
theorem parentPathP_rev (t P : Bytes) :
    parentPathP (t.reverse ++ P) t.length =
      some (match t with
            | a :: b :: c :: _ => decide (a = DOT ∧ b = DOT ∧ c = SLASH)
            | _ => false) := by
  match t with
  | [] => rfl
  | [_] => rfl
  | [_, _] => rfl
  | a :: b :: c :: rest =>
    -- the three bytes in front of the cursor are `c b a`, at offsets 0, 1, 2 behind `rest.reverse`
    have e : (a :: b :: c :: rest).reverse ++ P = rest.reverse ++ (c :: b :: a :: P) := by simp
    have hget : ∀ k, (rest.reverse ++ (c :: b :: a :: P))[rest.length + k]? = (c :: b :: a :: P)[k]? := by
      intro k
      rw [List.getElem?_append_right (by simp), List.length_reverse, Nat.add_sub_cancel_left]
    have hl : ¬ (a :: b :: c :: rest).length < 3 := by simp
    unfold parentPathP
    rw [if_neg hl, e]
    simp only [List.length_cons]
    rw [show rest.length + 1 + 1 + 1 - 1 = rest.length + 2 from rfl, hget 2,
      show rest.length + 1 + 1 + 1 - 2 = rest.length + 1 from rfl, hget 1,
      show rest.length + 1 + 1 + 1 - 3 = rest.length + 0 from rfl, hget 0]
    by_cases ha : a = DOT <;> by_cases hb : b = DOT <;> simp [ha, hb]

theorem parentPathP_chunk (xr : Bytes) (hx : ∀ c ∈ xr, c ≠ SLASH) (A P : Bytes) :
    parentPathP (A ++ SLASH :: xr.reverse ++ P) (A ++ SLASH :: xr.reverse).length =
      some (decide (xr = [DOT, DOT])) := by
  have e : A ++ SLASH :: xr.reverse = (xr ++ SLASH :: A.reverse).reverse := by simp
  rw [e, List.length_reverse, parentPathP_rev]
  match xr, hx with
  | [], _ =>
    simp only [List.nil_append]
    split
    · next h => simp only [List.cons.injEq] at h; simp [← h.1, SLASH, DOT]
    · simp
  | [a], _ =>
    simp only [List.cons_append, List.nil_append]
    split
    · next h => simp only [List.cons.injEq] at h; simp [← h.2.1, SLASH, DOT]
    · simp
  | [a, b], _ => simp
  | a :: b :: c :: rest, hx =>
    have hc : c ≠ SLASH := hx c (by simp)
    simp [hc]

/-- the invariant of the loop of `collapsePath`.  The block is `render rc.reverse ++ M ++ render outc ++ T`:
    `rc` the components still to be read, the one under the read cursor first; `M` the gap between the
    cursors; `outc` the components written so far; `T` the terminator and what follows it; `k` is `consuming`.
    The loop ends with some junk `J`, then what `bwStep` keeps of `rc` in front of `outc`, then `T` untouched,
    and returns the offset `|J|`; the block keeps its length. -/
theorem loop_spec : ∀ (rc : List Bytes), (∀ c ∈ rc, CompWF c) →
    ∀ (M : Bytes) (outc : List Bytes) (T : Bytes) (k fuel : Nat),
    (render rc.reverse).length ≤ fuel →
    ∃ J : Bytes,
      collapseLoop fuel (render rc.reverse ++ M ++ render outc ++ T) (render rc.reverse).length
          (render rc.reverse ++ M).length k =
        some (J ++ render (rc.reverse.foldr bwStep (k, outc)).2 ++ T, J.length) ∧
      (J ++ render (rc.reverse.foldr bwStep (k, outc)).2).length =
        (render rc.reverse ++ M ++ render outc).length := by
  intro rc
  induction rc with
  | nil =>
    intro _ M outc T k fuel _
    exact ⟨M, by cases fuel <;> rfl, rfl⟩
  | cons x rc' ih =>
    intro hwf M outc T k fuel hfuel
    have hwf' : ∀ c ∈ rc', CompWF c := fun c hc => hwf c (List.mem_cons_of_mem _ hc)
    obtain ⟨xr, rfl⟩ : ∃ xr, x = xr.reverse := ⟨x.reverse, by simp⟩
    have hxs : ∀ c ∈ xr, c ≠ SLASH := fun c hc => (hwf _ List.mem_cons_self c (by simpa using hc)).2
    have hr : render (xr.reverse :: rc').reverse = render rc'.reverse ++ SLASH :: xr.reverse := by
      simp [render]
    rw [hr] at hfuel
    rw [hr, List.reverse_cons, List.foldr_append, List.foldr_cons, List.foldr_nil]
    generalize render rc'.reverse = A at *
    -- one iteration; `f` is enough fuel for what is left in front of the chunk
    obtain ⟨f, rfl⟩ : ∃ f, fuel = f + 1 := ⟨fuel - 1, by simp at hfuel; omega⟩
    have hf : A.length ≤ f := by simp at hfuel; omega
    have hpos : (A ++ SLASH :: xr.reverse).length ≠ 0 := by simp
    rw [collapseLoop, if_neg hpos, List.append_assoc _ M, List.append_assoc _ (M ++ _),
      parentPathP_chunk xr hxs]
    -- skipping the chunk leaves it in the gap between the cursors
    have skip : ∀ k', bwStep xr.reverse (k, outc) = (k', outc) → ∃ J : Bytes,
        collapseLoop f (A ++ SLASH :: xr.reverse ++ (M ++ render outc ++ T)) A.length
            (A ++ SLASH :: xr.reverse ++ M).length k' =
          some (J ++ render (rc'.reverse.foldr bwStep (bwStep xr.reverse (k, outc))).2 ++ T, J.length) ∧
        (J ++ render (rc'.reverse.foldr bwStep (bwStep xr.reverse (k, outc))).2).length =
          (A ++ SLASH :: xr.reverse ++ (M ++ render outc)).length := by
      intro k' hb
      obtain ⟨J, h1, h2⟩ := ih hwf' (SLASH :: xr.reverse ++ M) outc T k' f hf
      simp only [List.append_assoc] at h1 h2 ⊢
      exact ⟨J, hb ▸ h1, hb ▸ h2⟩
    by_cases hdd : xr = [DOT, DOT]
    · -- a `..` chunk: skip it, consuming+1
      have hx : xr.reverse = DOTDOT := by subst hdd; rfl
      simp only [hdd, decide_true]
      rw [← hdd, readPath_chunk xr hxs]
      simp only
      exact skip (k + 1) (by simp [bwStep, hx])
    · have hx : xr.reverse ≠ DOTDOT := by
        intro h; apply hdd
        simpa [DOTDOT] using congrArg List.reverse h
      simp only [hdd, decide_false]
      by_cases hk : k = 0
      · -- write the chunk through
        subst hk
        simp only [ne_eq, not_true_eq_false, ↓reduceIte]
        obtain ⟨M', hM', hmove⟩ := movePath_chunk xr hxs A M (render outc ++ T)
        have e2 : A ++ SLASH :: xr.reverse ++ (M ++ render outc ++ T) =
            A ++ SLASH :: xr.reverse ++ M ++ (render outc ++ T) := by simp only [List.append_assoc]
        rw [e2, hmove, show bwStep xr.reverse (0, outc) = (0, xr.reverse :: outc) by simp [bwStep, hx]]
        simp only
        obtain ⟨J, h1, h2⟩ := ih hwf' M' (xr.reverse :: outc) T 0 f hf
        refine ⟨J, ?_, ?_⟩
        · rw [← h1, render_cons]; simp only [List.append_assoc]
        · rw [h2, render_cons]; simp only [List.length_append, List.length_cons, hM']; omega
      · -- consume the chunk, consuming-1
        simp only [ne_eq, hk, not_false_eq_true, ↓reduceIte]
        rw [readPath_chunk xr hxs]
        simp only
        exact skip (k - 1) (by simp [bwStep, hx, hk])

theorem strlen_append_nul (s t : Bytes) (hs : ∀ c ∈ s, c ≠ 0) : strlen (s ++ 0 :: t) = some s.length := by
  induction s with
  | nil => simp [strlen]
  | cons a r ih =>
    have ha : a ≠ 0 := hs a List.mem_cons_self
    simp [strlen, ha, ih (fun c hc => hs c (List.mem_cons_of_mem _ hc))]

theorem render_no_nul (cs : List Bytes) (h : ∀ c ∈ cs, CompWF c) : ∀ b ∈ render cs, b ≠ 0 := by
  induction cs with
  | nil => simp [render]
  | cons x r ih =>
    intro b hb
    rw [render_cons] at hb
    simp only [List.cons_append, List.mem_cons, List.mem_append] at hb
    rcases hb with rfl | hb | hb
    · simp [SLASH]
    · exact (h x List.mem_cons_self b hb).1
    · exact ih (fun c hc => h c (List.mem_cons_of_mem _ hc)) b hb

theorem cancel_wf (comps : List Bytes) (h : ∀ c ∈ comps, CompWF c) : ∀ c ∈ cancel comps, CompWF c := by
  intro c hc
  rw [cancel_eq_bw] at hc
  rcases bw_mem comps (0, []) c hc with h1 | h1
  · exact h c h1
  · simp at h1

/-- the whole run on an absolute path: the block afterwards is some junk `J`, the
    collapsed path, the untouched terminator and rest; the returned offset is `|J|` -/
theorem collapse_core (comps : List Bytes) (tail : Bytes) (hwf : ∀ c ∈ comps, CompWF c) :
    ∃ J : Bytes,
      collapse (render comps ++ 0 :: tail) = some (J ++ render (cancel comps) ++ 0 :: tail, J.length) ∧
      J.length + (render (cancel comps)).length = (render comps).length := by
  have hn := strlen_append_nul (render comps) tail (render_no_nul comps hwf)
  have hwf' : ∀ c ∈ comps.reverse, CompWF c := fun c hc => hwf c (by simpa using hc)
  obtain ⟨J, h1, h2⟩ := loop_spec comps.reverse hwf' [] [] (0 :: tail) 0 (render comps).length (by simp)
  simp only [List.reverse_reverse, List.append_nil, List.length_append,
    show render [] = [] from rfl] at h1 h2
  refine ⟨J, ?_, ?_⟩
  · unfold collapse
    rw [hn]
    simp only
    rw [h1, cancel_eq_bw]
  · rw [cancel_eq_bw]; exact h2

end Rtosc.Path
