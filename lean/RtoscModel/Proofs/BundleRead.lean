/-
  C08: the readers `rtosc_bundle_elements / _fetch / _size` run on a block
  that holds an encoded bundle followed by `rest`.
-/
import RtoscModel.Proofs.BundleSpec
namespace Rtosc.Osc
open Rtosc

theorem wordsAdvance_eq {n : Nat} (h4 : n % 4 = 0) (hlt : n < 4294967296) :
    wordsAdvance (UInt32.ofNat n) = 4 + n := by
  simp only [wordsAdvance, ofNat_toNat_of_lt hlt]; omega

theorem ofNat_ne_zero {n : Nat} (h0 : n ≠ 0) (hlt : n < 4294967296) : UInt32.ofNat n ≠ 0 := by
  intro h
  have := congrArg UInt32.toNat h
  rw [ofNat_toNat_of_lt hlt] at this
  simp at this; omega

/-- the elements fit `unsigned` positions: the readers keep `pos` and the element sizes in 32 bits -/
def SmallElems (es : List Elem) : Prop := (Spec.encodeElems es).length < 4294967296

theorem SmallElems.head {e : Elem} {es : List Elem} (h : SmallElems (e :: es)) :
    (Spec.encodeElem e).length < 4294967296 := by
  unfold SmallElems at h; rw [encodeElems_cons_length] at h; omega

theorem SmallElems.tail {e : Elem} {es : List Elem} (h : SmallElems (e :: es)) : SmallElems es := by
  unfold SmallElems at h ⊢; rw [encodeElems_cons_length] at h; omega

theorem drop_head_elem {m : Bytes} {p : Nat} {e : Elem} {es : List Elem} {rest : Bytes}
    (hd : m.drop p = Spec.encodeElems (e :: es) ++ rest) :
    m.drop (p + (4 + (Spec.encodeElem e).length)) = Spec.encodeElems es ++ rest := by
  rw [Spec.encodeElems, List.append_assoc] at hd
  have := drop_add_of_drop hd
  rwa [List.length_append, be32_length] at this

theorem head_elem {m : Bytes} {p : Nat} {e : Elem} {es : List Elem} {rest : Bytes}
    (hd : m.drop p = Spec.encodeElems (e :: es) ++ rest) (hs : SmallElems (e :: es)) :
    rd32 m p = some (UInt32.ofNat (Spec.encodeElem e).length) ∧
    UInt32.ofNat (Spec.encodeElem e).length ≠ 0 ∧
    wordsAdvance (UInt32.ofNat (Spec.encodeElem e).length) = 4 + (Spec.encodeElem e).length := by
  have h8 := encodeElem_length_ge e
  rw [Spec.encodeElems, List.append_assoc, List.append_assoc] at hd
  exact ⟨rd32_of_drop hd, ofNat_ne_zero (by omega) hs.head, wordsAdvance_eq (encodeElem_mod4 e) hs.head⟩

/-- where the size field of element `i` is, and what follows it -/
theorem drop_elem {m : Bytes} : ∀ (es : List Elem) (i p : Nat) (rest : Bytes) (hi : i < es.length),
    m.drop p = Spec.encodeElems es ++ rest →
    m.drop (p + Spec.elemRel es i) = be32 (UInt32.ofNat (Spec.encodeElem es[i]).length) ++
      (Spec.encodeElem es[i] ++ (Spec.encodeElems (es.drop (i + 1)) ++ rest)) := by
  intro es
  induction es with
  | nil => intro i p rest hi; simp at hi
  | cons e es ih =>
    intro i p rest hi hd
    cases i with
    | zero => simpa [Spec.elemRel, Spec.encodeElems] using hd
    | succ i =>
      have := ih i _ rest (by simpa using hi) (drop_head_elem hd)
      simp only [Spec.elemRel, List.getElem_cons_succ, List.drop_succ_cons]
      rw [← this]; congr 1; omega

theorem fetchLoop_spec {m : Bytes} : ∀ (es : List Elem) (i p : Nat) (rest : Bytes),
    m.drop p = Spec.encodeElems es ++ rest → i < es.length → SmallElems es →
    fetchLoop m i p = some (some (p + Spec.elemRel es i + 4)) := by
  intro es
  induction es with
  | nil => intro i p rest _ hi; simp at hi
  | cons e es ih =>
    intro i p rest hd hi hs
    cases i with
    | zero => simp [fetchLoop, Spec.elemRel]
    | succ i =>
      obtain ⟨hrd, hne, hadv⟩ := head_elem hd hs
      simp only [fetchLoop, hrd, hne, if_false, hadv]
      rw [ih i _ rest (drop_head_elem hd) (by simpa using hi) hs.tail]
      simp only [Spec.elemRel]; congr 2; omega

theorem bsizeLoop_spec {m : Bytes} : ∀ (es : List Elem) (i p last : Nat) (rest : Bytes) (hi : i < es.length),
    m.drop p = Spec.encodeElems es ++ rest → SmallElems es →
    bsizeLoop m (i + 1) p last = some (Spec.encodeElem es[i]).length := by
  intro es
  induction es with
  | nil => intro i p last rest hi; simp at hi
  | cons e es ih =>
    intro i p last rest hi hd hs
    obtain ⟨hrd, hne, hadv⟩ := head_elem hd hs
    simp only [bsizeLoop, hrd, hne, if_false, hadv, ofNat_toNat_of_lt hs.head]
    cases i with
    | zero => simp [bsizeLoop]
    | succ i =>
      rw [ih i _ _ rest (by simpa using hi) (drop_head_elem hd) hs.tail]
      simp

/-- `rtosc_bundle_elements`: with the exact `len` nothing behind the bundle is read; with a
    larger `len` the word behind the last element is read and has to be zero. -/
theorem elementsLoop_spec {m : Bytes} (len : Nat) : ∀ (es : List Elem) (p n fuel : Nat) (rest : Bytes),
    m.drop p = Spec.encodeElems es ++ rest → SmallElems es → es.length < fuel →
    (p + (Spec.encodeElems es).length = len ∨
      (p + (Spec.encodeElems es).length ≤ len ∧ ∃ x, rest = 0 :: 0 :: 0 :: 0 :: x)) →
    elementsLoop m len fuel p n = .ok (n + es.length) := by
  intro es
  induction es with
  | nil =>
    intro p n fuel rest hd _ hf hend
    obtain ⟨f, rfl⟩ : ∃ f, fuel = f + 1 := ⟨fuel - 1, by simp at hf; omega⟩
    simp only [Spec.encodeElems, List.length_nil, Nat.add_zero, List.nil_append] at hend hd
    rcases hend with h | ⟨-, x, rfl⟩
    · simp [elementsLoop, h]
    · have hrd : rd32 m p = some 0 := by
        apply rd32_of_drop (r := x); rw [hd]; simp [be32, beN]
      simp only [elementsLoop, hrd]
      split <;> simp
  | cons e es ih =>
    intro p n fuel rest hd hs hf hend
    obtain ⟨f, rfl⟩ : ∃ f, fuel = f + 1 := ⟨fuel - 1, by simp at hf; omega⟩
    obtain ⟨hrd, hne, hadv⟩ := head_elem hd hs
    rw [encodeElems_cons_length] at hend
    have hp : p < len := by rcases hend with h | ⟨h, _⟩ <;> omega
    have hnext : ¬ (p + (4 + (Spec.encodeElem e).length) > len) := by
      rcases hend with h | ⟨h, _⟩ <;> omega
    simp only [elementsLoop, if_pos hp, hrd, hne, if_false, hadv, if_neg hnext]
    rw [ih _ (n + 1) f rest (drop_head_elem hd) hs.tail (by simp at hf; omega)
      (by rcases hend with h | ⟨h, hx⟩
          · left; omega
          · right; exact ⟨by omega, hx⟩)]
    simp only [List.length_cons]; congr 1; omega

theorem elems_length_le (es : List Elem) : es.length ≤ (Spec.encodeElems es).length := by
  rw [encodeElems_frames, ← List.length_map (f := Spec.encodeElem)]; exact length_le_frames _

end Rtosc.Osc
