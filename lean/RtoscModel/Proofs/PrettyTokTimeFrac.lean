/-
  C10 — time tags ('t') WITH a second fraction, printed in lossless mode:
  `YYYY-MM-DD HH:MM:SS.ddd (...+0x1.8p-3s)` is a good token when the fraction is representable
  as a `float` (`frac = m · 2^k`, `m < 2^24`).

  The printer turns the fraction into a `float` (`secfracs2float`) and writes its `%.Nf` text and, in parentheses,
  its `%a` text; the scanner skips the first and reads the second as a double, which `doubleToSecfracs` turns back
  into the fraction (`FracRep`: that double is `frac · 2^-32`).  Date and clock in front go through `TokTime.TmText`.
-/
import RtoscModel.Proofs.PrettyTokTime
import RtoscModel.Proofs.PrettyTokFloat
import RtoscModel.Proofs.PrettyTokWord

namespace Rtosc.Libc
open Rtosc

theorem strtodMag_dotdigits (F : FFmt) (fr : Bytes) (hne : fr ≠ []) (hfr : ∀ c ∈ fr, isdigit c = true) :
    ∃ v, strtodMag F (46 :: fr) = some v := by
  rcases strtodMag_dec F (46 :: fr) with h | h
  · rw [h]
    unfold strtodDec
    have h46 : isdigit 46 = false := by decide
    have h2 := takeDec_run fr [] hfr (by decide) 0 0
    simp only [List.append_nil, Nat.zero_mul, Nat.zero_add] at h2
    have hlen : fr.length ≠ 0 := by
      intro h0; exact hne (List.length_eq_zero_iff.mp h0)
    simp [takeDec, h46, h2, hlen]
  · exact h

/-- `%f` / `%lf` on `.ddd` (no integer part): everything is consumed and a value is delivered -/
theorem scanFloat_dotdigits (F : FFmt) (fr tail : Bytes) (hne : fr ≠ []) (hfr : ∀ c ∈ fr, isdigit c = true)
    (h1 : isdigit (hd tail) = false) (h2 : tolower (hd tail) ≠ 101) :
    ∃ v, scanFloat F (46 :: (fr ++ tail)) = some (v, tail) := by
  obtain ⟨_, t110, t105, hsp, h45, h43⟩ := digit_or_dot_facts 46 (Or.inr rfl)
  obtain ⟨v, hv⟩ := strtodMag_dotdigits F fr hne hfr
  have hcf : collectFloat (46 :: (fr ++ tail)) ⟨false, false, false, false, false⟩ = (46 :: fr, tail) := by
    rw [collectFloat_dot, collectFloat_digits fr _ hfr]
    simp only [Bool.false_and]
    rw [collectFloat_stop_dec tail _ h1 h2]
    simp
  refine ⟨v.1, ?_⟩
  unfold scanFloat
  simp [skipSpace, hsp, t110, t105, hcf, hv]

/-- `%d` on a run of digits (leading zeros are digits) -/
theorem scanInt_d_run (ds tail : Bytes) (hne : ds ≠ []) (hds : ∀ c ∈ ds, isdigit c = true)
    (ht : isdigit (hd tail) = false) :
    scanInt .d none (ds ++ tail) = some (clampI64 (digitsVal 10 ds : Int), tail) := by
  cases ds with
  | nil => exact absurd rfl hne
  | cons d ds' =>
    have hd0 := hds d (by simp)
    have hds' : ∀ c ∈ ds', isdigit c = true := fun c hc => hds c (by simp [hc])
    by_cases h48 : d = 48
    · subst h48
      have htd := takeDigits10 ds' tail hds' ht
      have h48sp : isspace 48 = false := by decide
      rw [digitsVal_cons_zero]
      unfold scanInt
      simp only [List.cons_append, skipSpace, h48sp, Bool.false_eq_true, ↓reduceIte]
      simp [intPrefix10_zero (ds' ++ tail) none rfl, wDec, htd, intValue]
    · exact scanInt_digits_pos .d (by decide) d ds' tail hd0 h48 hds' ht

/-- `B` is the (normal, positive) double with the value `frac · 2^-32`, `1 ≤ frac < 2^32` -/
structure FracRep (frac B : Nat) : Prop where
  fin : f64.expField B ≠ 2047
  lt : B < 2 ^ 64
  pos : f64.sign B = false
  shape : ∃ j : Nat, j ≤ 31 ∧ f64.expField B = j + 991 ∧ f64.sig B = frac * 2 ^ (52 - j)

/-- the `float` nearest to `frac · 2^-32` is exact when `frac = m · 2^k`, `m < 2^24`; promoted to
    double it is the double `frac · 2^-32` -/
theorem fracRep_promote (frac : Nat) (hf0 : 0 < frac) (hf1 : frac < 4294967296)
    (hrep : ∃ m k : Nat, m < 16777216 ∧ frac = m * 2 ^ k) :
    FracRep frac (promote (hexToBits f32 frac (-32))) := by
  obtain ⟨m, k, hm, hfk⟩ := hrep
  have hm0 : m ≠ 0 := by rintro rfl; omega
  -- `frac · 2^-32 = M · 2^(k - t - 32)` with a 24-bit `M`
  obtain ⟨t, ht, hMlo, hMhi⟩ := sig_normalize m 23 hm0 hm
  have hfM : frac * 2 ^ t = m * 2 ^ t * 2 ^ k := by rw [hfk, Nat.mul_right_comm]
  generalize m * 2 ^ t = M at *
  have hk : k < 9 + t := by
    have h : 2 ^ (23 + k) < 2 ^ (32 + t) := by
      rw [Nat.pow_add, Nat.pow_add 2 32]
      calc 2 ^ 23 * 2 ^ k ≤ M * 2 ^ k := Nat.mul_le_mul_right _ hMlo
        _ = frac * 2 ^ t := hfM.symm
        _ < 2 ^ 32 * 2 ^ t := Nat.mul_lt_mul_of_pos_right hf1 (Nat.two_pow_pos _)
    have := (Nat.pow_lt_pow_iff_right (by decide : 1 < 2)).mp h
    omega
  have hq32 : f32.qmin = -149 := by decide
  have hx32 : f32.expMax = 255 := by decide
  have hE : f32.qmin ≤ (k : Int) - t - 32 := by rw [hq32]; omega
  have hef : ((k : Int) - t - 32 - f32.qmin + 1).toNat < f32.expMax := by rw [hq32, hx32]; omega
  have hfr : DyEq frac (-32) M ((k : Int) - t - 32) := ⟨t, k, hfM, by omega⟩
  rw [hexToBits_exact f32 frac (-32) M ((k : Int) - t - 32) hfr (by omega) hMhi hE
    (Or.inl hMlo) hef (by omega) (by have : f32.mbits = 23 := rfl; omega)]
  obtain ⟨c1, c2, c3, c4⟩ := f32.fields_encBits false M _ hMlo hMhi hE hef
  simp only [Bool.false_eq_true, ↓reduceIte, Nat.zero_add] at c1 c2 c3 c4
  generalize encBits f32 M ((k : Int) - t - 32) = b at *
  obtain ⟨hPfin, hPlt, hPsign, hv, hnorm⟩ := promote_fin b (by rw [c2, ← hx32]; omega)
  rw [c3, c4] at hv
  have hM0 : M ≠ 0 := by have := Nat.two_pow_pos 23; omega
  have hnorm := hnorm (by rw [c3]; exact hM0)
  generalize promote b = B at *
  obtain ⟨hsigB, hfracB, _, _⟩ := f64_fields B
  -- both significands are normal, so the exponents differ by 52 - 23
  have hexq : f64.exq B = (k : Int) - t - 61 := by
    have := hv.log2 hM0
    rw [log2_eq_of_bounds _ 52 hnorm hsigB, log2_eq_of_bounds M 23 hMlo hMhi] at this
    omega
  have hexp0 : f64.expField B ≠ 0 := by
    intro h0
    rw [FFmt.sig, if_pos h0] at hnorm
    omega
  refine ⟨hPfin, hPlt, by rw [hPsign, c1], k + 23 - t, by omega, ?_, ?_⟩
  · have hb64 : (f64.bias : Int) = 1023 := by decide
    have hm64 : f64.mbits = 52 := rfl
    rw [FFmt.exq, if_neg hexp0, hb64, hm64] at hexq
    omega
  · have := (hv.trans hfr.symm).cross 0 (52 - (k + 23 - t)) (by rw [hexq]; omega)
    rwa [Nat.pow_zero, Nat.mul_one] at this

/-- the double `frac · 2^-32` is finite, with exponent field `j + 991` for some `j ≤ 31` (991 = 1023 − 32: the value is
    below 1 and at least `2^-32`) -/
theorem FracRep.value (frac B : Nat) (h : FracRep frac B) (hf0 : 0 < frac) :
    f64.classify B = .fin (f64.sig B) (f64.exq B) ∧
    ∃ j : Nat, j ≤ 31 ∧ f64.expField B = j + 991 ∧ f64.sig B = frac * 2 ^ (52 - j) ∧ f64.exq B = (j : Int) - 84 := by
  obtain ⟨j, hj, hexp, hsig⟩ := h.shape
  have hmax : f64.expMax = 2047 := by decide
  have hb64 : (f64.bias : Int) = 1023 := by decide
  have hm64 : (f64.mbits : Int) = 52 := by decide
  have hs : f64.sig B ≠ 0 := by
    rw [hsig]
    have : 0 < frac * 2 ^ (52 - j) := Nat.mul_pos hf0 (Nat.two_pow_pos _)
    omega
  have hexq : f64.exq B = (j : Int) - 84 := by
    rw [FFmt.exq, hexp]
    have : j + 991 ≠ 0 := by omega
    simp only [this, ↓reduceIte, hb64, hm64]; omega
  rcases classify_fin f64 B (by rw [hmax]; exact h.fin) with ⟨h0, _⟩ | ⟨_, hc⟩
  · exact absurd h0 hs
  · exact ⟨hc, j, hj, hexp, hsig, hexq⟩

/-- the shape of the `%a` text of the double `frac · 2^-32`: `0x1[.hhh]p-N`, `1 ≤ N ≤ 32` -/
theorem fmtA_fracRep (frac B : Nat) (h : FracRep frac B) :
    ∃ fr eds, fmtA B = hexTxt false 49 fr true eds ∧ (∀ c ∈ fr, isxdigit c = true) ∧ stripZeros fr = fr ∧
      eds ≠ [] ∧ (∀ c ∈ eds, isdigit c = true) ∧ 0 < digitsVal 10 eds ∧ digitsVal 10 eds ≤ 32 := by
  obtain ⟨j, hj, hexp, hsig⟩ := h.shape
  have hmax : f64.expMax = 2047 := by decide
  have hexp0 : f64.expField B ≠ 0 := by omega
  obtain ⟨_, hfrac, _, _⟩ := f64_fields B
  obtain ⟨hflen, hfall, hfval⟩ := hexFixed_facts 13 (f64.frac B) (by
    have : (16 : Nat) ^ 13 = 2 ^ 52 := by decide
    rw [this]; exact hfrac)
  obtain ⟨hn1, hn2, hn3⟩ := fmtNat_facts (32 - j)
  refine ⟨stripZeros (hexFixed 13 (f64.frac B)), fmtNat (32 - j), ?_, ?_, stripZeros_idem _, hn1, hn2, ?_, ?_⟩
  · have hc : f64.classify B =
        .fin (2 ^ f64.mbits + f64.frac B) ((f64.expField B : Int) - (f64.bias : Int) - (f64.mbits : Int)) := by
      unfold FFmt.classify
      rw [hmax]
      simp only [h.fin, hexp0, ↓reduceIte]
    have hex : (j : Int) + 991 < 1023 := by omega
    have hna : ((j : Int) + 991 - 1023).natAbs = 32 - j := by omega
    unfold fmtA hexTxt
    simp only [hc, h.pos, ↓reduceIte, hexp]
    simp [hex, hna]
  · intro c hc'
    exact hfall c (stripZeros_mem _ c hc')
  · rw [hn3]; omega
  · rw [hn3]; omega

theorem fmtF_noalt (p B : Nat) (hp : p ≠ 0) : fmtF false p B = fmtF true p B := by
  unfold fmtF
  simp [hp]

theorem dropWhile_ne46 (ds tl : Bytes) (hds : ∀ c ∈ ds, isdigit c = true) :
    (ds ++ 46 :: tl).dropWhile (· ≠ 46) = 46 :: tl := by
  induction ds with
  | nil => simp
  | cons c r ih =>
    have hc := hds c (by simp)
    have hne : c ≠ 46 := by intro h; subst h; revert hc; decide
    rw [List.cons_append, List.dropWhile_cons_of_pos (by simpa using hne)]
    exact ih (fun x hx => hds x (by simp [hx]))

/-- the part of the `%.Nf` text of a positive finite double from the '.' on: '.', then `N` digits -/
theorem fmtF_fracTxt (p B : Nat) (hp : p ≠ 0) (hfin : f64.expField B ≠ 2047) (hpos : f64.sign B = false) :
    ∃ ip fr, fmtF false p B = ip ++ 46 :: fr ∧ (fmtF false p B).dropWhile (· ≠ 46) = 46 :: fr ∧
      (∀ c ∈ fr, isdigit c = true) ∧ fr.length = p := by
  obtain ⟨n, fr, he, hfr, hlen⟩ := fmtF_fin p B hfin
  obtain ⟨_, hn2, _⟩ := fmtNat_facts n
  rw [hpos] at he
  simp only [Bool.false_eq_true, ↓reduceIte, List.nil_append] at he
  refine ⟨fmtNat n, fr, ?_, ?_, hfr, hlen⟩
  · rw [fmtF_noalt p B hp, he]
  · rw [fmtF_noalt p B hp, he]; exact dropWhile_ne46 _ _ hn2

end Rtosc.Libc

namespace Rtosc.Pretty.TokTimeFrac
open Rtosc Rtosc.Libc Rtosc.Pretty Rtosc.Pretty.TokTime
open Rtosc.ArgVal (Cell)

/-- `rtosc_secfracs2float` is `strtof` of `0x<frac>p-32` -/
theorem secfracs2float_eq (frac : Nat) (hf0 : 0 < frac) (hf1 : frac < 4294967296) :
    secfracs2float frac = .ok (hexToBits f32 frac (-32)) := by
  have hne : frac ≠ 0 := by omega
  have hxs := hexDigits_all frac
  have hval := digitsVal_hexDigits frac
  have hxne : hexDigitsAux frac [] ≠ [] := by
    intro h; rw [h] at hval; simp [digitsVal] at hval; omega
  have htxt : lit "0x" ++ fmtHex (frac % 4294967296) ++ lit "p-32" =
      (48 :: 120 :: hexGen (hexDigitsAux frac []) [] true [51, 50]) ++ [] := by
    rw [Nat.mod_eq_of_lt hf1]
    have e1 : lit "0x" = [48, 120] := by decide
    have e2 : lit "p-32" = [112, 45, 51, 50] := by decide
    simp [fmtHex, hne, e1, e2, hexGen, hexRest]
  have hsc := scanFloat_hexGen f32 false (hexDigitsAux frac []) [] true [51, 50] [] hxs hxne (by simp) (by simp)
    (by decide) (by decide)
  have e3 : hexExp [] true [51, 50] = -32 := by decide
  simp only [hexSig_nil, hval, e3, ↓reduceIte, Bool.false_eq_true, List.nil_append, Nat.zero_add] at hsc
  unfold secfracs2float
  rw [htxt]
  unfold fmtScFloat
  rw [sscanf_flt_n false false (48 :: 120 :: hexGen (hexDigitsAux frac []) [] true [51, 50]) [] _ hsc]
  rfl

theorem skipFmt_scFracOpen (dfr tl : Bytes) (hne : dfr ≠ []) (hdfr : ∀ c ∈ dfr, isdigit c = true) :
    skipFmt fmtScFracOpen (46 :: (dfr ++ 32 :: 40 :: tl)) = dfr.length + 3 := by
  obtain ⟨v, hv⟩ := scanFloat_dotdigits f32 dfr (32 :: 40 :: tl) hne hdfr (by rw [hd_cons]; decide)
    (by rw [hd_cons]; decide)
  have h32 : isspace 32 = true := by decide
  have h40 : isspace 40 = false := by decide
  unfold skipFmt scanRd sscanf fmtScFracOpen
  rw [sscanfGo_flt_some false true _ _ _ _ _ _ hv]
  simp [sscanfGo, skipSpace, h32, h40]
  omega

theorem sscanf_scLoss (hx rest : Bytes) (B : Nat)
    (hsp : skipSpace (hx ++ 115 :: 41 :: rest) = hx ++ 115 :: 41 :: rest)
    (hscan : scanFloat f64 (hx ++ 115 :: 41 :: rest) = some (B, 115 :: 41 :: rest)) :
    sscanf fmtScLoss (46 :: 46 :: 46 :: 43 :: (hx ++ 115 :: 41 :: rest)) = [.flt B, .pos (hx.length + 6)] := by
  have h46 : isspace 46 = false := by decide
  have h43 : isspace 43 = false := by decide
  have h115 : isspace 115 = false := by decide
  have h41 : isspace 41 = false := by decide
  unfold sscanf fmtScLoss
  simp only [sscanfGo, skipSpace, h46, h43, Bool.false_eq_true, ↓reduceIte, hsp]
  simp [hscan, skipSpace, h115, h41]
  omega

theorem drop_fracOpen (dfr tl : Bytes) : (46 :: (dfr ++ 32 :: 40 :: tl)).drop (dfr.length + 3) = tl := by
  have : 46 :: (dfr ++ 32 :: 40 :: tl) = (46 :: (dfr ++ [32, 40])) ++ tl := by simp
  rw [this]
  apply List.drop_left'
  simp

theorem drop_loss (hx rest : Bytes) :
    (46 :: 46 :: 46 :: 43 :: (hx ++ 115 :: 41 :: rest)).drop (hx.length + 6) = rest := by
  have : 46 :: 46 :: 46 :: 43 :: (hx ++ 115 :: 41 :: rest) = (46 :: 46 :: 46 :: 43 :: (hx ++ [115, 41])) ++ rest := by simp
  rw [this]
  apply List.drop_left'
  simp

/-- `YYYY-MM-DD HH:MM:SS.ddd (...+<hex>s)` -/
theorem scanDate_frac (tm : Tm) (hr : TmRange tm) (dfr hx rest : Bytes) (B frac : Nat)
    (hdne : dfr ≠ []) (hdfr : ∀ c ∈ dfr, isdigit c = true)
    (hsp : skipSpace (hx ++ 115 :: 41 :: rest) = hx ++ 115 :: 41 :: rest)
    (hscan : scanFloat f64 (hx ++ 115 :: 41 :: rest) = some (B, 115 :: 41 :: rest))
    (hsf : doubleToSecfracs B = .ok frac) :
    scanDate (fmtDate tm ++ 32 :: (fmtHM tm ++ 58 :: (fmtS tm ++
        46 :: (dfr ++ 32 :: 40 :: 46 :: 46 :: 46 :: 43 :: (hx ++ 115 :: 41 :: rest))))) =
      .ok ⟨rest, [Cell.time (timeFromParams tm frac)], true⟩ := by
  have ht := tmText tm hr
  obtain ⟨i1, i2, i3, i4, i5, i6⟩ := ht.i32
  have hopen := skipFmt_scFracOpen dfr (46 :: 46 :: 46 :: 43 :: (hx ++ 115 :: 41 :: rest)) hdne hdfr
  have hdrop1 := drop_fracOpen dfr (46 :: 46 :: 46 :: 43 :: (hx ++ 115 :: 41 :: rest))
  have hloss := sscanf_scLoss hx rest B hsp hscan
  have hdrop2 := drop_loss hx rest
  simp [scanDate, ht.scDate, ht.dropDate, ht.scHM, ht.dropHM, ht.scS, ht.dropS, i1, i2, i3, i4, i5, i6,
    hopen, hdrop1, hloss, hdrop2, hsf, bind, Except.bind, pure, Except.pure]

/-- `.%*d%n` on `.ddd` -/
theorem skipFmt_ckFrac (dfr tl : Bytes) (hne : dfr ≠ []) (hdfr : ∀ c ∈ dfr, isdigit c = true)
    (ht : isdigit (hd tl) = false) :
    skipFmt fmtCkFrac (46 :: (dfr ++ tl)) = dfr.length + 1 := by
  have hsc := scanInt_d_run dfr tl hne hdfr ht
  unfold skipFmt scanRd sscanf fmtCkFrac
  simp [sscanfGo, hsc]
  omega

/-- ` ( ... + 0x%n` -/
theorem skipFmt_ckLossOpen (tl : Bytes) :
    skipFmt fmtCkLossOpen (32 :: 40 :: 46 :: 46 :: 46 :: 43 :: 48 :: 120 :: tl) = 8 := by
  have h32 : isspace 32 = true := by decide
  have h40 : isspace 40 = false := by decide
  have h46 : isspace 46 = false := by decide
  have h43 : isspace 43 = false := by decide
  have h48 : isspace 48 = false := by decide
  simp [skipFmt, scanRd, sscanf, fmtCkLossOpen, sscanfGo, skipSpace, h32, h40, h46, h43, h48]

/-- `%*x<c>%n` on hexadecimal digits followed by `c` ('.' or 'p') -/
theorem skipFmt_x_lit (c : UInt8) (xs tl : Bytes) (hc : c = 46 ∨ c = 112) (hne : xs ≠ [])
    (hxs : ∀ c ∈ xs, isxdigit c = true) :
    skipFmt [.int .x none true, .lit c, .n] (xs ++ c :: tl) = xs.length + 1 := by
  have hv := scanInt_x_run xs (c :: tl) hne hxs (by rcases hc with rfl | rfl <;> (rw [hd_cons]; decide))
    (fun _ => by rcases hc with rfl | rfl <;> (rw [hd_cons]; decide))
  unfold skipFmt scanRd sscanf
  simp [sscanfGo, hv]

/-- `%*x.%n` fails harmlessly when the hexadecimal digits are followed by 'p' -/
theorem skipFmt_ckHexDot_p (xs tl : Bytes) (hne : xs ≠ []) (hxs : ∀ c ∈ xs, isxdigit c = true) :
    skipFmt fmtCkHexDot (xs ++ 112 :: tl) = 0 := by
  have hv := scanInt_x_run xs (112 :: tl) hne hxs (by rw [hd_cons]; decide) (fun _ => by rw [hd_cons]; decide)
  unfold skipFmt scanRd sscanf fmtCkHexDot
  simp [sscanfGo, hv]

/-- `-%d s )%n` -/
theorem sscanf_ckExp (eds rest : Bytes) (hne : eds ≠ []) (heds : ∀ c ∈ eds, isdigit c = true)
    (hv1 : digitsVal 10 eds ≤ 32) :
    sscanf fmtCkExp (45 :: (eds ++ 115 :: 41 :: rest)) = [.int (digitsVal 10 eds : Int), .pos (eds.length + 3)] := by
  have hsc := scanInt_d_run eds (115 :: 41 :: rest) hne heds (by rw [hd_cons]; decide)
  rw [clampI64_id _ (by omega) (by omega)] at hsc
  have h115 : isspace 115 = false := by decide
  have h41 : isspace 41 = false := by decide
  unfold sscanf fmtCkExp
  simp [sscanfGo, hsc, skipSpace, h115, h41]
  omega

theorem drop_exp (eds rest : Bytes) : (45 :: (eds ++ 115 :: 41 :: rest)).drop (eds.length + 3) = rest := by
  have : 45 :: (eds ++ 115 :: 41 :: rest) = (45 :: (eds ++ [115, 41])) ++ rest := by simp
  rw [this]
  apply List.drop_left'
  simp

/-- the checker behind `YYYY-MM-DD HH:MM:SS`: `.ddd (...+0x1[.hhh]p-Ns)`, `0 < N ≤ 32` (`expm > 0 && expm <= 32`) -/
theorem skipDate_frac (tm : Tm) (hr : TmRange tm) (dfr xfr eds rest : Bytes)
    (hdne : dfr ≠ []) (hdfr : ∀ c ∈ dfr, isdigit c = true)
    (hxfr : ∀ c ∈ xfr, isxdigit c = true) (hene : eds ≠ []) (heds : ∀ c ∈ eds, isdigit c = true)
    (hv0 : 0 < digitsVal 10 eds) (hv1 : digitsVal 10 eds ≤ 32) :
    skipDate (fmtDate tm ++ 32 :: (fmtHM tm ++ 58 :: (fmtS tm ++
        46 :: (dfr ++ 32 :: 40 :: 46 :: 46 :: 46 :: 43 :: (hexTxt false 49 xfr true eds ++ 115 :: 41 :: rest))))) 10 =
      ⟨some rest, 1, 116, 0⟩ := by
  have ht := tmText tm hr
  have hx1 : ∀ c ∈ ([49] : Bytes), isxdigit c = true := by
    intro c hc; simp at hc; subst hc; decide
  have hckF := skipFmt_ckFrac dfr (32 :: 40 :: 46 :: 46 :: 46 :: 43 :: (hexTxt false 49 xfr true eds ++ 115 :: 41 :: rest))
    hdne hdfr (by rw [hd_cons]; decide)
  have hdropF : (46 :: (dfr ++ 32 :: 40 :: 46 :: 46 :: 46 :: 43 :: (hexTxt false 49 xfr true eds ++ 115 :: 41 :: rest))).drop
      (dfr.length + 1) = 32 :: 40 :: 46 :: 46 :: 46 :: 43 :: (hexTxt false 49 xfr true eds ++ 115 :: 41 :: rest) := by simp
  have hexp := sscanf_ckExp eds rest hene heds hv1
  have hdropE := drop_exp eds rest
  have hti : toI32 (digitsVal 10 eds : Int) = (digitsVal 10 eds : Int) := toI32_id _ (by omega) (by omega)
  have hle : (digitsVal 10 eds : Int) ≤ 32 := by omega
  have hnz : digitsVal 10 eds ≠ 0 := by omega
  by_cases hfe : xfr = []
  · subst hfe
    have htxt : hexTxt false 49 [] true eds ++ 115 :: 41 :: rest =
        48 :: 120 :: 49 :: 112 :: 45 :: (eds ++ 115 :: 41 :: rest) := by
      simp [hexTxt]
    have hdot := skipFmt_ckHexDot_p [49] (45 :: (eds ++ 115 :: 41 :: rest)) (by simp) hx1
    have hp := skipFmt_x_lit 112 [49] (45 :: (eds ++ 115 :: 41 :: rest)) (Or.inr rfl) (by simp) hx1
    simp only [List.cons_append, List.nil_append, List.length_singleton] at hdot hp
    rw [htxt] at hckF hdropF ⊢
    simp [skipDate, ht.dropDate, ht.ckHM, ht.dropHM, ht.ckS, ht.dropS, hckF, hdropF,
      skipFmt_ckLossOpen, hdot, fmtCkHexP, hp, hexp, hdropE, hti, hle, hnz]
  · have hfe' : xfr.isEmpty = false := by cases xfr <;> simp at hfe ⊢
    have htxt : hexTxt false 49 xfr true eds ++ 115 :: 41 :: rest =
        48 :: 120 :: 49 :: 46 :: (xfr ++ 112 :: 45 :: (eds ++ 115 :: 41 :: rest)) := by
      simp [hexTxt, hfe']
    have hdot := skipFmt_x_lit 46 [49] (xfr ++ 112 :: 45 :: (eds ++ 115 :: 41 :: rest)) (Or.inl rfl) (by simp) hx1
    have hp := skipFmt_x_lit 112 xfr (45 :: (eds ++ 115 :: 41 :: rest)) (Or.inr rfl) hfe hxfr
    simp only [List.cons_append, List.nil_append, List.length_singleton] at hdot
    rw [htxt] at hckF hdropF ⊢
    simp [skipDate, ht.dropDate, ht.ckHM, ht.dropHM, ht.ckS, ht.dropS, hckF, hdropF,
      skipFmt_ckLossOpen, fmtCkHexDot, hdot, fmtCkHexP, hp, hexp, hdropE, hti, hle, hnz]

theorem lit_loss : lit " (...+" = [32, 40, 46, 46, 46, 43] := by decide
theorem lit_s : lit "s)" = [115, 41] := by decide

/-- the text of a time tag with fraction in lossless mode -/
def fracTok (tm : Tm) (dfr hex : Bytes) : Bytes :=
  (fmtDate tm ++ 32 :: fmtHM tm ++ 58 :: fmtS tm) ++ 46 :: dfr ++ [32, 40, 46, 46, 46, 43] ++ (hex ++ [115, 41])

theorem printArgVal_time_frac (fuel : Nat) (opt : POpt) (v secs frac : Nat) (more : List Cell) (prev : Option Cell)
    (st : PSt) (hl : opt.lossless = true) (hp : opt.prec ≤ 9)
    (hv1 : v ≠ 1) (hdiv : v / 4294967296 = secs) (hmod : v % 4294967296 = frac) (hf0 : frac ≠ 0)
    (b : Nat) (hflt : secfracs2float frac = .ok b) (hB : FracRep frac (promote b)) :
    ∃ dfr, dfr ≠ [] ∧ (∀ c ∈ dfr, isdigit c = true) ∧
      printArgVal (fuel + 1) opt (Cell.time v :: more) prev st =
        .ok (⟨st.out ++ fracTok (localtime (secs : Int)) dfr (fmtA (promote b)),
              st.cols + ((fracTok (localtime (secs : Int)) dfr (fmtA (promote b))).length : Nat)⟩,
          (fracTok (localtime (secs : Int)) dfr (fmtA (promote b))).length) := by
  generalize hprecd : (if opt.prec < 1 then 1 else opt.prec) = prec
  have hprec0 : prec ≠ 0 := by rw [← hprecd]; split <;> omega
  obtain ⟨ip, dfr0, hnum, hdw, hdfr0, hlen0⟩ := fmtF_fracTxt prec (promote b) hprec0 hB.fin hB.pos
  obtain ⟨xfr, eds, hA, hxfr, hstrip, hene, heds, _, _⟩ := fmtA_fracRep frac _ hB
  have hrtz := removeTrailingZeroes_hexTxt false 49 xfr true eds ⟨by decide, hxfr, hene, heds⟩ hstrip (lit "s)")
  -- fix C10-17: the digits are all '9' when the decimal text has rounded up to "1.00…"
  generalize hdfr' : (if hd (fmtF false prec (promote b)) ≠ 48 then List.replicate dfr0.length 57 else dfr0) = dfr
  have hlen : dfr.length = prec := by
    rw [← hdfr']; split <;> simp [hlen0]
  have hdfr : ∀ c ∈ dfr, isdigit c = true := by
    rw [← hdfr']; split
    · intro c hc; rw [List.eq_of_mem_replicate hc]; decide
    · exact hdfr0
  have hfrac : (if hd (fmtF false prec (promote b)) ≠ 48 then 46 :: List.replicate ((46 :: dfr0).length - 1) 57
      else 46 :: dfr0) = 46 :: dfr := by
    rw [← hdfr']; split <;> simp
  have hdne : dfr ≠ [] := by
    intro h0; rw [h0] at hlen; simp at hlen; omega
  refine ⟨dfr, hdne, hdfr, ?_⟩
  have hprec : ¬ (opt.prec > 9) := by omega
  simp only [printArgVal, deref, bind, Except.bind, pure, Except.pure, hv1, hdiv, hmod, hf0, ↓reduceIte,
    hprec, hprecd, hflt, hl, ne_eq, not_false_eq_true]
  simp only [ne_eq] at hdw
  rw [← hA] at hrtz
  simp only [hdw, hrtz, true_or, ↓reduceIte, List.isEmpty_cons, Bool.false_eq_true]
  simp only [ne_eq] at hfrac
  rw [hfrac]
  generalize localtime (secs : Int) = tm
  have hout : fmtDate tm ++ 32 :: fmtHM tm ++ 58 :: fmtS tm ++ 46 :: dfr ++ lit " (...+" ++
      (fmtA (promote b) ++ lit "s)") = fracTok tm dfr (fmtA (promote b)) := by
    rw [lit_loss, lit_s]; rfl
  have hw : (fmtDate tm ++ 32 :: fmtHM tm ++ 58 :: fmtS tm).length + (fmtF false prec (promote b)).length -
      ((fmtF false prec (promote b)).length - (46 :: dfr).length) + (6 + (fmtA (promote b) ++ lit "s)").length) - 0 =
      (fracTok tm dfr (fmtA (promote b))).length := by
    rw [← hout, hnum, lit_s, lit_loss]
    simp only [List.length_append, List.length_cons, List.length_nil]
    omega
  rw [hout, hw]

/-- `(uint64_t)(d * 4294967296.0)` of the double `frac · 2^-32` is `frac` -/
theorem doubleToSecfracs_rep (frac B : Nat) (h : FracRep frac B) (hf0 : 0 < frac) (hf1 : frac < 4294967296) :
    doubleToSecfracs B = .ok frac := by
  obtain ⟨hc, j, hj, hexp, hsig, hexq⟩ := FracRep.value frac B h hf0
  unfold doubleToSecfracs
  simp only [h.pos, hc, Bool.false_eq_true, ↓reduceIte]
  rw [hexq, hsig]
  have hneg : ¬ ((j : Int) - 84 + 32 ≥ 0) := by omega
  have hto : (-((j : Int) - 84 + 32)).toNat = 52 - j := by omega
  simp only [hneg, ↓reduceIte, hto, Nat.mul_div_cancel _ (Nat.two_pow_pos _)]
  have : ¬ (frac ≥ 18446744073709551616) := by omega
  simp only [this, ↓reduceIte]

/-- **time tag with second fractions**, the text `fracTok tm dfr <%a text>` -/
theorem valOK_fracTok (tm : Tm) (hr : TmRange tm) (dfr xfr eds : Bytes) (B frac : Nat)
    (hdne : dfr ≠ []) (hdfr : ∀ c ∈ dfr, isdigit c = true)
    (hxfr : ∀ c ∈ xfr, isxdigit c = true) (hene : eds ≠ []) (heds : ∀ c ∈ eds, isdigit c = true)
    (hv0 : 0 < digitsVal 10 eds) (hv1 : digitsVal 10 eds ≤ 32)
    (hscan : ∀ rest, scanFloat f64 (hexTxt false 49 xfr true eds ++ 115 :: 41 :: rest) = some (B, 115 :: 41 :: rest))
    (hsf : doubleToSecfracs B = .ok frac) :
    C11.ValOK (fracTok tm dfr (hexTxt false 49 xfr true eds)) (Cell.time (timeFromParams tm frac)) := by
  have ht := tmText tm hr
  have happ : ∀ rest, fracTok tm dfr (hexTxt false 49 xfr true eds) ++ rest =
      fmtDate tm ++ 32 :: (fmtHM tm ++ 58 :: (fmtS tm ++
        46 :: (dfr ++ 32 :: 40 :: 46 :: 46 :: 46 :: 43 :: (hexTxt false 49 xfr true eds ++ 115 :: 41 :: rest)))) := by
    intro rest; simp [fracTok]
  have hst := ht.start (32 :: (fmtHM tm ++ 58 :: (fmtS tm ++
        46 :: (dfr ++ 32 :: 40 :: 46 :: 46 :: 46 :: 43 :: (hexTxt false 49 xfr true eds ++ 115 :: 41 :: [])))))
  rw [← happ [], List.append_nil] at hst
  refine .of_value _ _ 116 rfl rfl hst.1 hst.2 (fun rest hs se prev => ?_) (fun rest hs sk ty ib => ?_)
  · rw [happ, (ht.dispatch _).1]
    exact scanDate_frac tm hr dfr _ rest B frac hdne hdfr (skipSpace_hexTxt false 49 _ _ _ _) (hscan rest) hsf
  · rw [happ, (ht.dispatch _).2, skipDate_frac tm hr dfr xfr eds rest hdne hdfr hxfr hene heds hv0 hv1]

end Rtosc.Pretty.TokTimeFrac

namespace Rtosc.Pretty
open Rtosc Rtosc.Libc Rtosc.Pretty.TokTime Rtosc.Pretty.TokTimeFrac
open Rtosc.ArgVal (Cell)

/-- 't' with second fractions in lossless mode:
    `YYYY-MM-DD HH:MM:SS.ddd (...+0x1.8p-3s)` -/
theorem C11.printsVal_time_frac (opt : POpt) (hl : opt.lossless = true) (hp : opt.prec ≤ 9)
    (secs frac : Nat) (hs : secs < 4294967296) (hf0 : 0 < frac) (hf1 : frac < 4294967296)
    (hrep : ∃ m k : Nat, m < 16777216 ∧ frac = m * 2 ^ k) :
    C11.PrintsVal opt (Cell.time (secs * 4294967296 + frac)) := by
  by_cases hv1 : secs * 4294967296 + frac = 1
  · rw [hv1]; exact C11.printsVal_immediately opt
  intro fuel more prev st
  obtain ⟨hmk, hr, _⟩ := localtime_spec (secs : Int)
  replace hr := hr (by omega) (by omega)
  have hflt := secfracs2float_eq frac hf0 hf1
  have hB := fracRep_promote frac hf0 hf1 hrep
  obtain ⟨dfr, hdne, hdfr, hprint⟩ := printArgVal_time_frac fuel opt (secs * 4294967296 + frac) secs frac more prev st
    hl hp hv1 (by omega) (by omega) (by omega) _ hflt hB
  refine ⟨_, _, hprint, ?_⟩
  generalize promote (hexToBits f32 frac (-32)) = B at *
  obtain ⟨xfr, eds, hA, hxfr, hstrip, hene, heds, hv0, hv1'⟩ := fmtA_fracRep frac B hB
  have hscan : ∀ rest, scanFloat f64 (hexTxt false 49 xfr true eds ++ 115 :: 41 :: rest) =
      some (B, 115 :: 41 :: rest) := by
    intro rest
    rw [← hA]
    exact scanFloat_fmtA_tail B hB.lt hB.fin _ (by rw [hd_cons]; decide)
  have hsf := doubleToSecfracs_rep frac B hB hf0 hf1
  rw [← timeFromParams_frac (localtime (secs : Int)) secs frac hs hf1 hmk]
  generalize localtime (secs : Int) = tm at *
  rw [hA]
  exact valOK_fracTok tm hr dfr xfr eds B frac hdne hdfr hxfr hene heds hv0 hv1' hscan hsf

end Rtosc.Pretty
