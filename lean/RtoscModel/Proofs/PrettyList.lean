/-
  C10 — argument lists.  From per-argument facts (`PrintsArg`, for scalars `PrintsTok`) to the
  round trip of `rtosc_print_arg_vals` → `rtosc_count_printed_arg_vals` → `rtosc_scan_arg_vals`:
  the three loops of Proofs/PrettyLoops.lean at arguments that are read the same in every context and
  that the printer does not turn into ranges; the readers' loops in front of any gap, so that a text
  inside a file is covered.  Lists of scalar tokens are the case in which every argument is one cell.
-/
import RtoscModel.Proofs.PrettyLoops
import RtoscModel.Proofs.PrettyCheckFuel
namespace Rtosc.Pretty
open Rtosc Rtosc.Libc
open Rtosc.ArgVal (Cell)

/-- `text` consists of good texts for the arguments `css`, separated by a blank or a line break -/
def ArgsText (css : List (List Cell)) (text : Bytes) : Prop :=
  SepText id (fun _ cs T => ArgOK T cs) none css text

theorem ArgsText.start {css : List (List Cell)} {text : Bytes} (h : ArgsText css text) (hne : css ≠ []) :
    TokStart text :=
  SepText.start (fun h => h.start) h hne

theorem ArgsText.length_le {css : List (List Cell)} {text : Bytes} (h : ArgsText css text) :
    css.length ≤ text.length :=
  SepText.length_le (fun h => h.start) h

theorem ArgsText.length_le_flatten {css : List (List Cell)} {text : Bytes} (h : ArgsText css text) :
    css.length ≤ css.flatten.length := by
  simpa [cellsOf] using SepText.length_le_cells (fun h => h.cells.length_pos) h

theorem ArgsText.end_or_start {css : List (List Cell)} {text : Bytes} (h : ArgsText css text) :
    text = [] ∨ TokStart text := by
  by_cases hne : css = []
  · subst hne; cases h; exact Or.inl rfl
  · exact Or.inr (h.start hne)

theorem ArgsText.skipSpace {css : List (List Cell)} {text : Bytes} (h : ArgsText css text) : skipSpace text = text :=
  skipSpace_of_hd text (h.end_or_start.imp id TokStart.notSpace)

/-- one argument, read the same whatever stands to its left -/
abbrev ArgP : Unit → Bytes → List Cell → Unit → Prop := fun _ t cs _ => ArgOK t cs

theorem ArgsText.chain {css : List (List Cell)} {text : Bytes} (h : ArgsText css text) (hne : css ≠ [])
    {gap next : Bytes} (hg : GapOK gap next) : Chain ArgP (fun _ => GapOK) () css (text ++ (gap ++ next)) next := by
  simpa using SepText.chain (P := ArgP) (G := fun _ => GapOK) () (fun h => ⟨h.start, h⟩) GapOK.sepTxt h hne hg

theorem scanLoop_argsText {css : List (List Cell)} {text : Bytes} (h : ArgsText css text) (hne : css ≠ [])
    {gap next : Bytes} (hg : GapOK gap next) (fuel n i : Nat) (pok : Bool) (done : List Cell) (rd : Nat)
    (hn : n = i + css.flatten.length) (hf : css.length + 1 ≤ fuel) :
    scanArgValsLoop fuel (text ++ (gap ++ next)) n i pok done rd =
      .ok (rd + text.length + gap.length, done ++ css.flatten) := by
  rw [scanArgValsLoop_eq, (h.chain hne hg).scanLoop scanArgVal (fun _ _ _ _ => True) id
    (fun {_ _ T cs} (ht : ArgOK T cs) gap next i pok done hg _ => by
      obtain ⟨b, hb⟩ := canPrecedeRange_argCells ht.cells
      exact ⟨ht.scan _ _ _ _ hg.sep, ht.cells.length_pos, by simpa using nextArgOffset_argCells cs.length [] ht.cells,
        b, hb, trivial⟩)
    fuel n i pok done rd trivial hn hf]
  simp only [List.length_append, ← Nat.add_assoc, Nat.add_sub_cancel]

theorem scanArgVals_argsText {css : List (List Cell)} {text : Bytes} (h : ArgsText css text) :
    scanArgVals text css.flatten.length = .ok (text.length, css.flatten) := by
  rw [scanArgVals_start h.end_or_start]
  by_cases hne : css = []
  · subst hne; cases h; simp [scanLoopG_done]
  · have := scanLoop_argsText h hne .nil (css.flatten.length + 1) css.flatten.length 0 true [] 0 (by simp)
      (by have := h.length_le_flatten; omega)
    simpa [scanArgValsLoop_eq] using this

theorem countLoop_argsText {css : List (List Cell)} {text : Bytes} (h : ArgsText css text) (hne : css ≠ [])
    {gap next : Bytes} (hg : GapOK gap next) (hnext : hd next = 0 ∨ hd next = 47) (fuel : Nat) (recent : Option Bytes)
    (num : Int) (hf : css.length + 1 ≤ fuel) :
    countLoop fuel (some (text ++ (gap ++ next))) recent num = .ok (num + css.flatten.length) := by
  rw [countLoop_eq]
  exact (h.chain hne hg).countLoop skipNextPrintedArg (fun _ _ _ => True) id
    (fun {_ _ T cs} (ht : ArgOK T cs) gap next recent hg _ => by
      obtain ⟨r, hr, hsrc, hsk, _⟩ := ht.skip (gap ++ next) (T ++ (gap ++ next)).length 0 recent false hg.sep
      exact ⟨ht.start, trivial, r, skipNextPrintedArg_checkFuel hr, hsrc, hsk⟩)
    hnext fuel recent num trivial hf

/-- `s` is the text with white space in front (a message has the separator behind the address there) -/
theorem countPrintedArgVals_argsText {css : List (List Cell)} {text : Bytes} (h : ArgsText css text)
    (s : Bytes) (hs : skipSpace s = text) : countPrintedArgVals s = .ok (css.flatten.length : Int) := by
  rw [countPrintedArgVals_start hs h.end_or_start]
  by_cases hne : css = []
  · subst hne; cases h; simp [countLoopG_stop _ _ (src := []) (Or.inl rfl)]
  · have := countLoop_argsText h hne .nil (Or.inl rfl) (text.length + 1) none 0 (by have := h.length_le; omega)
    simpa [countLoop_eq] using this

theorem ArgsText.readsEnd {css : List (List Cell)} {text : Bytes} (h : ArgsText css text) : ReadsEnd text css.flatten :=
  ⟨h.skipSpace, countPrintedArgVals_argsText h, scanArgVals_argsText h⟩

/-- the printer turns none of the arguments `argss` into a range: at the start of each argument
    `rtosc_convert_to_range` on the rest of the list answers nothing -/
def NoRanges (opt : POpt) (argss : List (List Cell)) : Prop :=
  ∀ done cs rem, argss = done ++ cs :: rem →
    convertToRange opt (cs :: rem).flatten (cs :: rem).flatten.length = .ok none

/-- arguments that are not turned into ranges are pieces of the printer's loop -/
theorem allPrint_args (opt : POpt) (argss : List (List Cell))
    (hP : ∀ cs ∈ argss, PrintsArg opt cs)
    (hconv : NoRanges opt argss) :
    ∀ (rem done : List (List Cell)), argss = done ++ rem → AllPrint opt id (fun _ cs T => ArgOK T cs) rem := by
  intro rem
  induction rem with
  | nil => intro _ _; trivial
  | cons cs rem' ih =>
    intro done heq
    have hpa : PrintsArg opt cs := hP cs (by rw [heq]; simp)
    have hcells := argCells_of_printsArg hpa
    obtain ⟨c, cs', rfl⟩ := List.exists_cons_of_ne_nil hcells.ne_nil
    refine ⟨⟨c, none, rfl, ?_, nextArgOffset_argCells _ _ hcells, fun prev st hst => ?_⟩,
      ih (done ++ [c :: cs']) (by rw [heq]; simp)⟩
    · have := hconv done (c :: cs') rem' heq
      simp only [List.flatten_cons, List.length_append] at this
      simpa [cellsOf] using this
    · obtain ⟨pre, t, cols', hprint, hpre, hok⟩ :=
        hpa (((c :: cs') ++ cellsOf id rem').length + 1) (cellsOf id rem') prev st hst
      exact ⟨pre, t, cols', hprint, hpre, hok⟩

theorem flatten_map_singleton {α} (l : List α) : (l.map fun c => [c]).flatten = l := by
  rw [← List.flatMap_def]; exact List.flatMap_singleton' l

theorem noRanges_singletons (opt : POpt) (args : List Cell)
    (hconv : ∀ i, i < args.length → convertToRange opt (args.drop i) (args.length - i) = .ok none) :
    NoRanges opt (args.map fun c => [c]) := by
  intro done cs rem heq
  obtain ⟨l1, l2, rfl, -, h2⟩ := List.map_eq_append_iff.mp heq
  have h := hconv l1.length (by cases l2 <;> simp at h2 ⊢)
  rw [← h2, flatten_map_singleton]
  simpa using h

theorem printsArg_singletons {opt : POpt} {args : List Cell} (hP : ∀ c ∈ args, c.isScalar = true ∧ PrintsTok opt c) :
    ∀ cs ∈ args.map (fun c => [c]), PrintsArg opt cs := by
  intro cs hcs
  obtain ⟨c, hc, rfl⟩ := List.mem_map.mp hcs
  exact printsArg_of_printsTok (hP c hc).2 (hP c hc).1

end Rtosc.Pretty
