/-
  C10/C11 — numeric words.  `NumWord nf w rest x`: `scanf_fmtstr` picks the format `nf` for the word `w`
  and that format reads the value `x` from it.  `scanf_fmtstr` is the first step of both the scanner's and
  the checker's numeric case, so both follow from a `NumWord` (`NumWord.scanNumeric`, `NumWord.skipNumericArg`;
  with an exact value in parentheses behind the word: `…_paren`), and a token type only has to say which
  format takes its word and why the formats tried before it fail (`numWord_int`, `numWord_huge` here;
  `numWord_isfx`, `numWord_hex`, `numWord_fnum_f`, … in the files of those spellings).
  Decimal integer texts as `%d` / `%ld` print them are a `DecNum`; the `%d` spelling of an `int32_t` ('i'):
  `C11.valOK_int`.  This is where the scanner's "is it a date?" test matters (fix C10-02): `127 -1`, `-99 -99`.
  Last the 'h' spelling `%ldh` of an `int64_t` (`C11.valOK_huge`) and the printer on both integer types (`C11.printsVal_int`,
  `C11.printsVal_huge`).
-/
import RtoscModel.Proofs.PrettyTok
namespace Rtosc.Pretty
open Rtosc Rtosc.Libc
open Rtosc.ArgVal (Cell)

/-- the text of a decimal token: optional '-', a digit, more digits -/
def decText (neg : Bool) (d : UInt8) (ds : Bytes) : Bytes := (if neg then [45] else []) ++ d :: ds

/-- hypotheses on what follows a decimal number inside a token or behind it -/
def NumEnd (r : Bytes) : Prop := isdigit (hd r) = false ∧ hd r ≠ 45 ∧ hd r ≠ 120 ∧ hd r ≠ 88

theorem isDate_dec (neg : Bool) (d : UInt8) (ds r : Bytes) (hd0 : isdigit d = true)
    (hds : ∀ c ∈ ds, isdigit c = true) (hr : NumEnd r) :
    skipFmt fmtIsDate (decText neg d ds ++ r) = 0 := by
  unfold skipFmt scanRd sscanf fmtIsDate
  cases hsc : scanInt .d (some 4) (decText neg d ds ++ r) with
  | none => rw [sscanfGo_int_none _ _ _ _ _ _ _ hsc]; rfl
  | some p =>
    obtain ⟨v, r'⟩ := p
    rw [sscanfGo_int_some _ _ _ _ _ _ _ _ _ hsc]
    have := scanInt_d_rest (some 4) neg d ds r hd0 hds hr.1 v r' (by simpa [decText] using hsc)
    have hne : hd r' ≠ 45 := by
      rcases this with h | h
      · exact (isdigit_facts _ h).ne45
      · rw [h]; exact hr.2.1
    rw [sscanfGo_lit_ne _ _ _ _ _ hne]; rfl

theorem decText_length (neg : Bool) (d : UInt8) (ds : Bytes) :
    (decText neg d ds).length = (if neg then 1 else 0) + ds.length + 1 := by
  cases neg <;> simp [decText] <;> omega

theorem scanInt_decText (conv : IntConv) (hconv : conv ≠ .x) (neg : Bool) (d : UInt8) (ds r : Bytes)
    (hd0 : isdigit d = true) (hnz : d ≠ 48) (hds : ∀ c ∈ ds, isdigit c = true) (hr : NumEnd r) :
    scanInt conv none (decText neg d ds ++ r) =
      some (clampI64 (if neg then -(digitsVal 10 (d :: ds) : Int) else (digitsVal 10 (d :: ds) : Int)), r) := by
  simpa [decText] using scanInt_digits_sgn conv hconv neg d ds r hd0 hnz hds hr.1

/-- "0" with `%i`: read as the octal number 0 -/
theorem scanInt_zero_i (r : Bytes) (hr : NumEnd r) : scanInt .i none (48 :: r) = some (0, r) := by
  obtain ⟨h1, _, h3, h4⟩ := hr
  have hx : tolower (hd r) ≠ 120 := tolower_ne_x _ h3 h4
  have htd : ∀ w, takeDigits 8 r w = ([], r) := fun w => takeDigits_nondigit 8 r w (by simp [digitOk, h1])
  unfold scanInt
  have h48sp : isspace 48 = false := by decide
  simp only [skipSpace, h48sp, Bool.false_eq_true, ↓reduceIte]
  simp [intPrefix, wOk, hx, htd, digitsVal, intValue, clampI64]

/-- `t` is the decimal spelling of `v` as `%d` prints it: what the scanner's helpers do with it -/
structure DecNum (t : Bytes) (v : Int) : Prop where
  ne : t ≠ []
  chars : ∀ c ∈ t, c = 45 ∨ isdigit c = true
  scan_d : ∀ r, NumEnd r → scanInt .d none (t ++ r) = some (v, r)
  scan_i : ∀ r, NumEnd r → scanInt .i none (t ++ r) = some (v, r)
  nodate : ∀ r, NumEnd r → skipFmt fmtIsDate (t ++ r) = 0
  nomult : ∀ r, NumEnd r → isRangeMultiplier (t ++ r) = false

theorem clampI64_id (v : Int) (h1 : -9223372036854775808 ≤ v) (h2 : v ≤ 9223372036854775807) : clampI64 v = v := by
  unfold clampI64
  split
  · omega
  · split <;> omega

theorem decText_chars (neg : Bool) (d : UInt8) (ds : Bytes) (hd0 : isdigit d = true)
    (hds : ∀ c ∈ ds, isdigit c = true) : ∀ c ∈ decText neg d ds, c = 45 ∨ isdigit c = true := by
  intro c hc
  cases neg <;> simp [decText] at hc
  · rcases hc with rfl | hc; right; exact hd0; right; exact hds c hc
  · rcases hc with rfl | rfl | hc; left; rfl; right; exact hd0; right; exact hds c hc

theorem decText_ne (neg : Bool) (d : UInt8) (ds : Bytes) : decText neg d ds ≠ [] := by
  cases neg <;> simp [decText]

theorem isRangeMultiplier_decText (neg : Bool) (d : UInt8) (ds r : Bytes)
    (hds : ∀ c ∈ ds, isdigit c = true) (hr : NumEnd r) : isRangeMultiplier (decText neg d ds ++ r) = false := by
  cases neg
  · simp only [decText, Bool.false_eq_true, ↓reduceIte, List.nil_append, List.cons_append, isRangeMultiplier,
      hd_cons, List.drop_succ_cons, List.drop_zero, skipDigits_digits ds r hds hr.1]
    simp [hr.2.2.1]
  · simp [decText, isRangeMultiplier, isdigit]

theorem decNum_fmtDec (v : Int) (h1 : -9223372036854775808 ≤ v) (h2 : v ≤ 9223372036854775807) :
    DecNum (fmtDec v) v := by
  rcases fmtDec_shape v with ⟨hv, ht⟩ | ⟨d, ds, hd0, hnz, hds, ht, hval⟩
  · subst hv; rw [ht]
    refine ⟨by simp, by intro c hc; simp at hc; subst hc; right; rfl, ?_, ?_, ?_, ?_⟩
    · intro r hr; exact scanInt_zero_d r hr.1
    · intro r hr; exact scanInt_zero_i r hr
    · intro r hr; exact isDate_dec false 48 [] r rfl (by simp) hr
    · intro r hr; simp [isRangeMultiplier]
  · have hval' : (if v < 0 then -(digitsVal 10 (d :: ds) : Int) else (digitsVal 10 (d :: ds) : Int)) = v := by
      rw [hval]; split <;> omega
    have hdt : fmtDec v = decText (decide (v < 0)) d ds := by
      rw [ht]; unfold decText; by_cases hv : v < 0 <;> simp [hv]
    rw [hdt]
    have hsc : ∀ conv, conv ≠ .x → ∀ r, NumEnd r → scanInt conv none (decText (decide (v < 0)) d ds ++ r) = some (v, r) := by
      intro conv hconv r hr
      rw [scanInt_decText conv hconv _ d ds r hd0 hnz hds hr]
      congr 2
      rw [show (if decide (v < 0) = true then -(digitsVal 10 (d :: ds) : Int) else (digitsVal 10 (d :: ds) : Int)) = v from by
        simpa using hval']
      exact clampI64_id v h1 h2
    exact ⟨decText_ne _ d ds, decText_chars _ d ds hd0 hds, hsc .d (by decide), hsc .i (by decide),
      fun r hr => isDate_dec _ d ds r hd0 hds hr, fun r hr => isRangeMultiplier_decText _ d ds r hds hr⟩

theorem sepW_numEnd (rest : Bytes) (h : SepW rest) : NumEnd rest := by
  have hq := sep_hd_factsW rest h
  exact ⟨hq.notDigit, hq.ne45, hq.ne120, hq.ne88⟩

/-- "%d%n", "%i%n", "%x%n" (`sup`: with the assignment suppressed) on a number followed by `r` -/
theorem sscanf_int_n (conv : IntConv) (sup : Bool) (t r : Bytes) (v : Int)
    (h : scanInt conv none (t ++ r) = some (v, r)) :
    sscanf [.int conv none sup, .n] (t ++ r) = (if sup then [] else [.int v]) ++ [.pos t.length] := by
  unfold sscanf
  rw [sscanfGo_int_some _ _ _ _ _ _ _ _ _ h]
  cases sup <;> simp [sscanfGo]

/-- "%*lih%n" / "%*ii%n": the letter behind the number is missing -/
theorem sscanf_int_lit_fail (conv : IntConv) (c : UInt8) (s r : Bytes) (v : Int)
    (h : scanInt conv none s = some (v, r)) (hr : hd r ≠ c) :
    sscanf [.int conv none true, .lit c, .n] s = [] := by
  unfold sscanf
  rw [sscanfGo_int_some _ _ _ _ _ _ _ _ _ h, sscanfGo_lit_ne _ _ _ _ _ hr]
  rfl

/-- "%lih%n" / "%ii%n" on a number with the letter -/
theorem sscanf_int_lit_n (conv : IntConv) (sup : Bool) (c : UInt8) (t r : Bytes) (v : Int)
    (h : scanInt conv none (t ++ c :: r) = some (v, c :: r)) :
    sscanf [.int conv none sup, .lit c, .n] (t ++ c :: r) = (if sup then [] else [.int v]) ++ [.pos (t.length + 1)] := by
  unfold sscanf
  rw [sscanfGo_int_some _ _ _ _ _ _ _ _ _ h]
  cases sup <;> simp [sscanfGo]

/-- The numeric word `w` in front of `rest` is taken by the format `nf`, which reads `x` from it.
    `scanf_fmtstr` is the common first step of the scanner (`scanNumeric`) and of the checker
    (`skip_numeric`), so both cases of a numeric token follow from this one fact. -/
structure NumWord (nf : NumFmt) (w rest : Bytes) (x : SVal) : Prop where
  ne : w ≠ []
  fmt : scanfFmtstr (w ++ rest) = some nf
  scan : ∀ sup, sscanf (nf.dirs sup) (w ++ rest) = (if sup then [] else [x]) ++ [.pos w.length]

/-- what `scanNumberPass` stores in the union for the value `x` under the type `ty` over the old content -/
def rawOf (ty : UInt8) (old : Nat) : SVal → Nat
  | .int v => if ty = 104 then (toI64 v % 18446744073709551616).toNat
              else old / 4294967296 * 4294967296 + (toI32 v % 4294967296).toNat
  | .flt b => if ty = 100 then b else old / 4294967296 * 4294967296 + b % 4294967296
  | .pos _ => old

section
variable {nf : NumFmt} {w rest : Bytes} {x : SVal}

theorem NumWord.skipNumeric (h : NumWord nf w rest x) : skipNumeric (w ++ rest) = some (w.length, nf.type) := by
  simp [Pretty.skipNumeric, h.fmt, skipFmt, scanRd, h.scan true]

theorem NumWord.pass (h : NumWord nf w rest x) (hx : ∀ n, x ≠ .pos n) :
    scanNumberPass (w ++ rest) 0 none = .ok (w.length, nf.type, rawOf nf.type 0 x) := by
  cases x with
  | pos n => exact absurd rfl (hx n)
  | int v =>
    by_cases hty : nf.type = 104 <;>
      simp [scanNumberPass, h.fmt, h.scan false, rawOf, hty, bind, Except.bind, pure, Except.pure]
  | flt b =>
    by_cases hty : nf.type = 100 <;>
      simp [scanNumberPass, h.fmt, h.scan false, rawOf, hty, bind, Except.bind, pure, Except.pure]

theorem NumWord.skipNumericArg (h : NumWord nf w rest x) (hs : SepW rest) (ty : UInt8) :
    Pretty.skipNumericArg (w ++ rest) ty = ⟨some rest, 1, nf.type, 0⟩ := by
  have hne0 : w.length ≠ 0 := by simpa using h.ne
  simp [Pretty.skipNumericArg, h.skipNumeric, hne0, hs.2]

theorem NumWord.scanNumeric (h : NumWord nf w rest x) (hx : ∀ n, x ≠ .pos n) (hs : SepW rest) (c : Cell)
    (hc : cellOfRaw nf.type (rawOf nf.type 0 x) = .ok c) :
    Pretty.scanNumeric (w ++ rest) = .ok ⟨rest, [c], true⟩ := by
  simp [Pretty.scanNumeric, h.pass hx, hs.2, hc, bind, Except.bind, pure, Except.pure]

end

theorem skipFmt_closeParen (rest : Bytes) : skipFmt fmtCloseParen (41 :: rest) = 1 := by
  have h : isspace 41 = false := by decide
  simp [skipFmt, scanRd, sscanf, fmtCloseParen, sscanfGo, skipSpace, h]

theorem skipSpace_sp_paren (tail : Bytes) : skipSpace (32 :: 40 :: tail) = 40 :: tail := by
  have h1 : isspace 32 = true := by decide
  have h2 : isspace 40 = false := by decide
  simp [skipSpace, h1, h2]

section
variable {nf : NumFmt} {w hx rest : Bytes} {x : SVal}

/-- second pass (the exact value in parentheses) over a word that is read as a `float` -/
theorem NumWord.pass2_f {b : Nat} (h : NumWord .f w rest (.flt b)) (old : Nat) :
    scanNumberPass (w ++ rest) 102 (some old) = .ok (w.length, 102, rawOf 102 old (.flt b)) := by
  simp [scanNumberPass, h.fmt, h.scan false, NumFmt.type, rawOf, bind, Except.bind, pure, Except.pure]

/-- … and as a `double`: the format found is "%f", it is read with "%lf" (fix C10-03) -/
theorem scanNumberPass_lf {B : Nat} (hfmt : scanfFmtstr (w ++ rest) = some .f)
    (hsc : scanFloat f64 (w ++ rest) = some (B, rest)) (old : Nat) :
    scanNumberPass (w ++ rest) 100 (some old) = .ok (w.length, 100, B) := by
  have : sscanf [.flt true false, .n] (w ++ rest) = [.flt B, .pos w.length] := by
    unfold sscanf; simp [sscanfGo, hsc]
  simp [scanNumberPass, hfmt, NumFmt.type, this, bind, Except.bind, pure, Except.pure]

theorem NumWord.scanNumeric_paren (h1 : NumWord nf w (32 :: 40 :: (hx ++ 41 :: rest)) x) (hx1 : ∀ n, x ≠ .pos n)
    (hsp : skipSpace (hx ++ 41 :: rest) = hx ++ 41 :: rest) (ty2 : UInt8) (raw2 : Nat) (c : Cell)
    (h2 : scanNumberPass (hx ++ 41 :: rest) nf.type (some (rawOf nf.type 0 x)) = .ok (hx.length, ty2, raw2))
    (hc : cellOfRaw ty2 raw2 = .ok c) :
    Pretty.scanNumeric (w ++ 32 :: 40 :: (hx ++ 41 :: rest)) = .ok ⟨rest, [c], true⟩ := by
  unfold Pretty.scanNumeric
  simp only [h1.pass hx1, bind, Except.bind, List.drop_left, skipSpace_sp_paren, hd_cons, ↓reduceIte,
    List.drop_succ_cons, List.drop_zero, hsp, h2, skipFmt_closeParen, hc, pure, Except.pure]

/-- the checker's numeric case on `word (exact)`: only 'f' and 'd' may have an exact value -/
theorem NumWord.skipNumericArg_paren {nf2 : NumFmt} {y : SVal} (h1 : NumWord nf w (32 :: 40 :: (hx ++ 41 :: rest)) x)
    (hty : nf.type = 102 ∨ nf.type = 100) (hsp : skipSpace (hx ++ 41 :: rest) = hx ++ 41 :: rest)
    (h2 : NumWord nf2 hx (41 :: rest) y) (ty : UInt8) :
    Pretty.skipNumericArg (w ++ 32 :: 40 :: (hx ++ 41 :: rest)) ty = ⟨some rest, 1, nf.type, 0⟩ := by
  have hw : w.length ≠ 0 := by simpa using h1.ne
  have hh : hx.length ≠ 0 := by simpa using h2.ne
  unfold Pretty.skipNumericArg
  simp only [h1.skipNumeric, hw, ↓reduceIte, List.drop_left, skipSpace_sp_paren, hd_cons, hty, List.drop_succ_cons,
    List.drop_zero, hsp, h2.skipNumeric, hh, skipFmt_closeParen]
  simp

end

theorem cellOfRaw_i (v : Int) : cellOfRaw 105 (rawOf 105 0 (.int v)) = .ok (Cell.int .i (toI32 v)) := by
  simp [cellOfRaw, rawOf]; unfold toI32; omega

theorem cellOfRaw_h (v : Int) : cellOfRaw 104 (rawOf 104 0 (.int v)) = .ok (Cell.huge (toI64 v)) := by
  simp [cellOfRaw, rawOf]; unfold toI64; omega

theorem toI32_id (v : Int) (h1 : -2147483648 ≤ v) (h2 : v ≤ 2147483647) : toI32 v = v := by
  unfold toI32; omega

theorem decNum_wordChar {t : Bytes} {v : Int} (hn : DecNum t v) : ∀ c ∈ t, wordChar c = true :=
  fun c hc => numStart_wordChar c (hn.chars c hc)

/-- `123`: "%*lih%n" fails at the missing `h`, "%*d%n" takes the word -/
theorem numWord_int (t rest : Bytes) (v : Int) (hn : DecNum t v) (hs : SepW rest) :
    NumWord .d t rest (.int v) := by
  have hne := sepW_numEnd rest hs
  refine ⟨hn.ne, ?_, fun sup => sscanf_int_n .d sup t rest v (hn.scan_d rest hne)⟩
  have h104 := (sep_hd_factsW rest hs).ne104
  have hlen : numWordLen (t ++ rest) = t.length := numWordLen_wordW t rest (decNum_wordChar hn) hs
  have hpos : 0 < t.length := List.length_pos_iff.mpr hn.ne
  unfold scanfFmtstr
  simp only [hlen, List.find?, scanRd, NumFmt.tryDirs, sscanf_int_lit_fail .i 104 _ rest v (hn.scan_i rest hne) h104,
    sscanf_int_n .d true t rest v (hn.scan_d rest hne)]
  have : (0 : Nat) ≠ t.length := by omega
  simp [this]

theorem cellOfRaw_type (ty : UInt8) (raw : Nat) (c : Cell) (h : cellOfRaw ty raw = .ok c) : c.type = ty := by
  by_cases h4 : ty = 104
  · subst h4; simp [cellOfRaw] at h; subst h; rfl
  by_cases h5 : ty = 105
  · subst h5; simp [cellOfRaw] at h; subst h; rfl
  by_cases h2 : ty = 102
  · subst h2; simp [cellOfRaw] at h; subst h; rfl
  by_cases h0 : ty = 100
  · subst h0; simp [cellOfRaw] at h; subst h; rfl
  · simp [cellOfRaw, h4, h5, h2, h0] at h

theorem C11.valOKW_numWord (nf : NumFmt) (t : Bytes) (x : SVal) (c : Cell)
    (hstart : hd t = 45 ∨ isdigit (hd t) = true) (hsc : c.isScalar = true) (hx : ∀ n, x ≠ .pos n)
    (hdisp : ∀ rest, SepW rest → isRangeMultiplier (t ++ rest) = false ∧ skipFmt fmtIsDate (t ++ rest) = 0)
    (hw : ∀ rest, SepW rest → NumWord nf t rest x)
    (hc : cellOfRaw nf.type (rawOf nf.type 0 x) = .ok c) : C11.ValOKW t c := by
  have hne : t ≠ [] := (hw [] sep_nil.toW).ne
  obtain ⟨hst, a91⟩ := tokStart_num t hne hstart
  have hhd : ∀ rest, hd (t ++ rest) = 45 ∨ isdigit (hd (t ++ rest)) = true := by
    intro rest; rw [hd_append_of_ne_nil _ _ hne]; exact hstart
  refine ⟨hst, hsc, a91, fun se rest prev hs => ?_, fun sk rest ty ib hs => ?_,
    fun rest hs => (hdisp rest hs).1⟩
  · rw [scanValue_num _ _ _ (hhd rest) (hdisp rest hs).1 (hdisp rest hs).2]
    exact (hw rest hs).scanNumeric hx hs c hc
  · rw [skipValue_num _ _ _ _ (hhd rest) (hdisp rest hs).1 (hdisp rest hs).2, (hw rest hs).skipNumericArg hs ty,
      cellOfRaw_type _ _ _ hc]

theorem C11.valOKW_decSfx (nf : NumFmt) (t sfx : Bytes) (v : Int) (c : Cell) (hn : DecNum t v) (hsc : c.isScalar = true)
    (hend : ∀ rest, SepW rest → NumEnd (sfx ++ rest))
    (hw : ∀ rest, SepW rest → NumWord nf (t ++ sfx) rest (.int v))
    (hc : cellOfRaw nf.type (rawOf nf.type 0 (.int v)) = .ok c) : C11.ValOKW (t ++ sfx) c := by
  refine C11.valOKW_numWord nf _ (.int v) c (by rw [hd_append_of_ne_nil _ _ hn.ne]; exact hn.chars _ (hd_mem _ hn.ne))
    hsc (by simp) ?_ hw hc
  intro rest hs
  rw [List.append_assoc]
  exact ⟨hn.nomult _ (hend rest hs), hn.nodate _ (hend rest hs)⟩

/-- **int32 token**: the `%d` spelling of an `int32_t` scans and checks back as that 'i' value -/
theorem C11.valOKW_int (v : Int) (h1 : -2147483648 ≤ v) (h2 : v ≤ 2147483647) :
    C11.ValOKW (fmtDec v) (Cell.int .i v) := by
  have hn := decNum_fmtDec v (by omega) (by omega)
  simpa using C11.valOKW_decSfx .d (fmtDec v) [] v (Cell.int .i v) hn rfl (fun rest hs => sepW_numEnd rest hs)
    (fun rest hs => by simpa using numWord_int _ rest v hn hs) ((cellOfRaw_i v).trans (by rw [toI32_id v h1 h2]))

theorem C11.valOK_int (v : Int) (h1 : -2147483648 ≤ v) (h2 : v ≤ 2147483647) :
    C11.ValOK (fmtDec v) (Cell.int .i v) := (C11.valOKW_int v h1 h2).valOK

theorem numEnd_h (r : Bytes) : NumEnd (104 :: r) := by
  unfold NumEnd
  simp only [hd_cons]
  decide

theorem toI64_id (v : Int) (h1 : -9223372036854775808 ≤ v) (h2 : v ≤ 9223372036854775807) : toI64 v = v := by
  unfold toI64; omega

/-- `123h`: "%*lih%n", the first format tried, takes the word -/
theorem numWord_huge (t rest : Bytes) (v : Int) (hn : DecNum t v) (hs : SepW rest) :
    NumWord .h (t ++ [104]) rest (.int v) := by
  have hsc := hn.scan_i _ (numEnd_h rest)
  have e : (t ++ [104]) ++ rest = t ++ 104 :: rest := by simp
  refine ⟨by simp, ?_, fun sup => by rw [e]; simpa [NumFmt.dirs] using sscanf_int_lit_n .i sup 104 t rest v hsc⟩
  have hlen : numWordLen ((t ++ [104]) ++ rest) = (t ++ [104]).length :=
    numWordLen_wordW (t ++ [104]) rest (by
      intro c hc
      simp only [List.mem_append, List.mem_singleton] at hc
      rcases hc with hc | rfl
      · exact decNum_wordChar hn c hc
      · decide) hs
  unfold scanfFmtstr
  simp only [hlen, List.find?, scanRd, NumFmt.tryDirs]
  rw [e, sscanf_int_lit_n .i true 104 t rest v hsc]
  simp

/-- **int64 token**: `%ldh` of an `int64_t` scans and checks back as that 'h' value -/
theorem C11.valOKW_huge (v : Int) (h1 : -9223372036854775808 ≤ v) (h2 : v ≤ 9223372036854775807) :
    C11.ValOKW (fmtDec v ++ [104]) (Cell.huge v) := by
  have hn := decNum_fmtDec v h1 h2
  exact C11.valOKW_decSfx .h (fmtDec v) [104] v (Cell.huge v) hn rfl (fun rest _ => numEnd_h rest)
    (fun rest hs => numWord_huge _ rest v hn hs) ((cellOfRaw_h v).trans (by rw [toI64_id v h1 h2]))

theorem C11.valOK_huge (v : Int) (h1 : -9223372036854775808 ≤ v) (h2 : v ≤ 9223372036854775807) :
    C11.ValOK (fmtDec v ++ [104]) (Cell.huge v) := (C11.valOKW_huge v h1 h2).valOK

theorem printArgVal_int (fuel : Nat) (opt : POpt) (v : Int) (more : List Cell) (prev : Option Cell) (st : PSt) :
    printArgVal (fuel + 1) opt (Cell.int .i v :: more) prev st =
      .ok (⟨st.out ++ fmtDec v, st.cols + (fmtDec v).length⟩, (fmtDec v).length) := by
  simp [printArgVal, deref, bind, Except.bind, pure, Except.pure]

/-- 'i': `%d` -/
theorem C11.printsVal_int (opt : POpt) (v : Int) (h1 : -2147483648 ≤ v) (h2 : v ≤ 2147483647) :
    C11.PrintsVal opt (Cell.int .i v) :=
  .of_eq _ _ (C11.valOK_int v h1 h2) (printArgVal_int · opt v)

theorem printArgVal_huge (fuel : Nat) (opt : POpt) (v : Int) (more : List Cell) (prev : Option Cell) (st : PSt) :
    printArgVal (fuel + 1) opt (Cell.huge v :: more) prev st =
      .ok (⟨st.out ++ (fmtDec v ++ [104]), st.cols + ((fmtDec v ++ [104]).length : Nat)⟩, (fmtDec v ++ [104]).length) := by
  simp [printArgVal, deref, bind, Except.bind, pure, Except.pure]

/-- 'h': `%ldh` -/
theorem C11.printsVal_huge (opt : POpt) (v : Int) (h1 : -9223372036854775808 ≤ v) (h2 : v ≤ 9223372036854775807) :
    C11.PrintsVal opt (Cell.huge v) :=
  .of_eq _ _ (C11.valOK_huge v h1 h2) (printArgVal_huge · opt v)

end Rtosc.Pretty
