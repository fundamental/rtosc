/-
  C10 — the token of a blob ('b'): `BLOB [n 0xhh 0xhh …]`, where every separator is a space or,
  where the printer breaks the line, a newline and four spaces (`BLOB [0]` for the empty blob).
  The possible texts are `blobText n l` for a list `l` of (separator, byte) pairs; the printer
  produces one of them (`printBlobBytes_spec`), and scanner and checker read every one of them
  back as the blob (`C11.valOK_blob`).
-/
import RtoscModel.Proofs.PrettyTokNum
import RtoscModel.Proofs.PrettyTokChar
namespace Rtosc.Pretty
open Rtosc Rtosc.Libc
open Rtosc.ArgVal (Cell)

theorem lit_blob : lit "BLOB [" = [66,76,79,66,32,91] := by decide
theorem lits_blob : lits "BLOB" = [.lit 66, .lit 76, .lit 79, .lit 66] := by decide

/-- the white space in front of a byte of a blob (not `SepW` of Pretty/TokSpec.lean) -/
def WSep (w : Bytes) : Prop := w ≠ [] ∧ ∀ c ∈ w, isspace c = true

/-- the bytes of a blob, each with the separator in front of it -/
def blobBody : List (Bytes × UInt8) → Bytes
  | [] => []
  | p :: r => p.1 ++ 48 :: 120 :: hexDigitChar (p.2.toNat / 16 % 16) :: hexDigitChar (p.2.toNat % 16) :: blobBody r

def blobText (n : Int) (l : List (Bytes × UInt8)) : Bytes :=
  [66,76,79,66,32,91] ++ fmtDec n ++ blobBody l ++ [93]

theorem blobText_append (n : Int) (l : List (Bytes × UInt8)) (rest : Bytes) :
    blobText n l ++ rest = 66 :: 76 :: 79 :: 66 :: 32 :: 91 :: (fmtDec n ++ (blobBody l ++ 93 :: rest)) := by
  simp [blobText]

theorem blobBody_length (l : List (Bytes × UInt8)) : l.length ≤ (blobBody l).length := by
  induction l with
  | nil => simp [blobBody]
  | cons p r ih => simp [blobBody]; omega

theorem blobTail_hd (l : List (Bytes × UInt8)) (rest : Bytes) (hl : ∀ p ∈ l, WSep p.1) :
    isspace (hd (blobBody l ++ 93 :: rest)) = true ∨ hd (blobBody l ++ 93 :: rest) = 93 := by
  cases l with
  | nil => right; rfl
  | cons p r =>
    left
    obtain ⟨hne, hall⟩ := hl p (by simp)
    simp only [blobBody, List.append_assoc]
    rw [hd_append_of_ne_nil _ _ hne]
    exact hall _ (hd_mem _ hne)

theorem blobTail_numEnd (l : List (Bytes × UInt8)) (rest : Bytes) (hl : ∀ p ∈ l, WSep p.1) :
    NumEnd (blobBody l ++ 93 :: rest) :=
  have q := sepHd_of_byte _ (Or.inr (blobTail_hd l rest hl))
  ⟨q.notDigit, q.ne45, q.ne120, q.ne88⟩

theorem skipSpace_blobTail_cons (p : Bytes × UInt8) (r : List (Bytes × UInt8)) (rest : Bytes) (hp : WSep p.1) :
    skipSpace (blobBody (p :: r) ++ 93 :: rest) =
      48 :: 120 :: hexDigitChar (p.2.toNat / 16 % 16) :: hexDigitChar (p.2.toNat % 16) :: (blobBody r ++ 93 :: rest) := by
  simp only [blobBody, List.append_assoc, List.cons_append]
  exact skipSpace_lead _ _ hp.2 (Or.inr (by rw [hd_cons]; decide))

/-- "0x%x %n" / "0x%*x %n" on one printed byte -/
theorem sscanf_blobByte (sup : Bool) (b : UInt8) (X : Bytes) (hX : isspace (hd X) = true ∨ hd X = 93) :
    sscanf (fmtBlobByte sup)
      (48 :: 120 :: hexDigitChar (b.toNat / 16 % 16) :: hexDigitChar (b.toNat % 16) :: X) =
      (if sup then [] else [.int (b.toNat : Int)]) ++ [.pos (4 + (X.length - (skipSpace X).length))] := by
  have q := sepHd_of_byte _ (Or.inr hX)
  unfold sscanf fmtBlobByte hx
  simp only [List.cons_append, List.nil_append]
  rw [sscanfGo_lit_eq, sscanfGo_lit_eq,
    show hexDigitChar (b.toNat / 16 % 16) :: hexDigitChar (b.toNat % 16) :: X = fmtHex2 b.toNat ++ X from rfl,
    sscanfGo_hex2 b.toNat b.toNat_lt sup [.ws, .n] X _ [] ⟨q.notXdigit, q.ne120, q.ne88⟩]
  cases sup <;> simp [sscanfGo] <;> omega

theorem skipFmt_blobByte (b : UInt8) (X : Bytes) (hX : isspace (hd X) = true ∨ hd X = 93) :
    skipFmt (fmtBlobByte true)
      (48 :: 120 :: hexDigitChar (b.toNat / 16 % 16) :: hexDigitChar (b.toNat % 16) :: X) =
      4 + (X.length - (skipSpace X).length) := by
  unfold skipFmt scanRd
  rw [sscanf_blobByte true b X hX]
  rfl

theorem drop_blobByte (a b c d : UInt8) (X : Bytes) :
    (a :: b :: c :: d :: X).drop (4 + (X.length - (skipSpace X).length)) = skipSpace X := by
  rw [show 4 + (X.length - (skipSpace X).length) = (X.length - (skipSpace X).length) + 1 + 1 + 1 + 1 from by omega]
  simp only [List.drop_succ_cons]
  exact skipSpace_drop X

theorem scanBlobBytes_body (l : List (Bytes × UInt8)) (rest : Bytes) (hl : ∀ p ∈ l, WSep p.1) :
    ∀ acc : Bytes, scanBlobBytes l.length (skipSpace (blobBody l ++ 93 :: rest)) acc =
      .ok (93 :: rest, acc ++ l.map Prod.snd) := by
  induction l with
  | nil => intro acc; simp [scanBlobBytes, blobBody, skipSpace_nonspace 93 rest (by decide)]
  | cons p r ih =>
    intro acc
    have hr : ∀ q ∈ r, WSep q.1 := fun q hq => hl q (by simp [hq])
    rw [skipSpace_blobTail_cons p r rest (hl p (by simp))]
    simp only [List.length_cons, scanBlobBytes]
    rw [sscanf_blobByte false p.2 _ (blobTail_hd r rest hr)]
    simp only [Bool.false_eq_true, ↓reduceIte, List.cons_append, List.nil_append, drop_blobByte, u8_of_byte]
    rw [ih hr]
    simp

theorem skipBlobBytes_body (l : List (Bytes × UInt8)) (rest : Bytes) (hl : ∀ p ∈ l, WSep p.1) :
    ∀ (fuel : Nat) (k : Int), l.length ≤ fuel →
      skipBlobBytes fuel (some (skipSpace (blobBody l ++ 93 :: rest))) k = (some (93 :: rest), k - l.length) := by
  induction l with
  | nil =>
    intro fuel k _
    rw [show blobBody [] ++ 93 :: rest = 93 :: rest from rfl, skipSpace_nonspace 93 rest (by decide)]
    cases fuel <;> simp [skipBlobBytes]
  | cons p r ih =>
    intro fuel k hf
    have hr : ∀ q ∈ r, WSep q.1 := fun q hq => hl q (by simp [hq])
    rw [skipSpace_blobTail_cons p r rest (hl p (by simp))]
    cases fuel with
    | zero => simp at hf
    | succ f =>
      simp only [skipBlobBytes, hd_cons, ↓reduceIte]
      rw [skipFmt_blobByte p.2 _ (blobTail_hd r rest hr)]
      have : 4 + ((blobBody r ++ 93 :: rest).length - (skipSpace (blobBody r ++ 93 :: rest)).length) ≠ 0 := by omega
      simp only [this, ↓reduceIte, drop_blobByte]
      rw [ih hr f (k - 1) (by simpa using hf)]
      simp only [List.length_cons]
      congr 1
      omega

theorem decNum_hd (t : Bytes) (v : Int) (hn : DecNum t v) (T : Bytes) : isspace (hd (t ++ T)) = false := by
  rw [hd_append_of_ne_nil _ _ hn.ne]
  exact numStart_not_space _ (hn.chars _ (hd_mem _ hn.ne))

theorem skipSpace_open (X : Bytes) : skipSpace (32 :: 91 :: X) = 91 :: X := by
  simp [skipSpace, isspace]

/-- "BLOB [ %i %n" -/
theorem sscanf_blobOpenLen (t : Bytes) (v : Int) (hn : DecNum t v) (T : Bytes) (hT : NumEnd T) :
    sscanf fmtBlobOpenLen (66 :: 76 :: 79 :: 66 :: 32 :: 91 :: (t ++ T)) =
      [.int v, .pos (6 + t.length + (T.length - (skipSpace T).length))] := by
  have hsc := hn.scan_i T hT
  have hsp := skipSpace_of_hd _ (Or.inr (decNum_hd t v hn T))
  unfold sscanf fmtBlobOpenLen
  rw [lits_blob]
  simp only [List.cons_append, List.nil_append, sscanfGo, ↓reduceIte, skipSpace_open, hsp, hsc]
  simp

/-- "BLOB [ %n" -/
theorem skipFmt_blobOpen (t : Bytes) (v : Int) (hn : DecNum t v) (T : Bytes) :
    skipFmt fmtBlobOpen (66 :: 76 :: 79 :: 66 :: 32 :: 91 :: (t ++ T)) = 6 := by
  have hsp := skipSpace_of_hd _ (Or.inr (decNum_hd t v hn T))
  unfold skipFmt scanRd sscanf fmtBlobOpen
  rw [lits_blob]
  simp only [List.cons_append, List.nil_append, sscanfGo, ↓reduceIte, skipSpace_open, hsp]
  simp

/-- "%i %n" -/
theorem sscanf_blobLen (t : Bytes) (v : Int) (hn : DecNum t v) (T : Bytes) (hT : NumEnd T) :
    sscanf fmtBlobLen (t ++ T) = [.int v, .pos (t.length + (T.length - (skipSpace T).length))] := by
  have hsc := hn.scan_i T hT
  unfold sscanf fmtBlobLen
  simp only [sscanfGo, hsc]
  simp

theorem drop_append_skipSpace (t T : Bytes) :
    (t ++ T).drop (t.length + (T.length - (skipSpace T).length)) = skipSpace T := by
  rw [← List.drop_drop]
  simp [skipSpace_drop]

theorem scanBlob_text (l : List (Bytes × UInt8)) (rest : Bytes) (hl : ∀ p ∈ l, WSep p.1)
    (hlen : l.length ≤ 2147483647) :
    scanBlob (blobText l.length l ++ rest) = .ok ⟨rest, [Cell.blob (l.map Prod.snd)], true⟩ := by
  have hn := decNum_fmtDec (l.length : Int) (by omega) (by omega)
  have hT := blobTail_numEnd l rest hl
  rw [blobText_append]
  unfold scanBlob
  rw [sscanf_blobOpenLen _ _ hn _ hT]
  have hne : 6 + (fmtDec (l.length : Int)).length +
      ((blobBody l ++ 93 :: rest).length - (skipSpace (blobBody l ++ 93 :: rest)).length) ≠ 0 := by omega
  have hi : toI32 (l.length : Int) = l.length := toI32_id _ (by omega) (by omega)
  have hdrop : (66 :: 76 :: 79 :: 66 :: 32 :: 91 :: (fmtDec (l.length : Int) ++ (blobBody l ++ 93 :: rest))).drop
      (6 + (fmtDec (l.length : Int)).length +
      ((blobBody l ++ 93 :: rest).length - (skipSpace (blobBody l ++ 93 :: rest)).length)) =
      skipSpace (blobBody l ++ 93 :: rest) := by
    rw [show 6 + (fmtDec (l.length : Int)).length +
      ((blobBody l ++ 93 :: rest).length - (skipSpace (blobBody l ++ 93 :: rest)).length) =
      ((fmtDec (l.length : Int)).length +
      ((blobBody l ++ 93 :: rest).length - (skipSpace (blobBody l ++ 93 :: rest)).length)) + 1 + 1 + 1 + 1 + 1 + 1 from by omega]
    simp only [List.drop_succ_cons]
    exact drop_append_skipSpace _ _
  simp only [hne, ↓reduceIte, hi, hdrop]
  have : ¬ ((l.length : Int) < 0) := by omega
  simp only [this, ↓reduceIte, Int.toNat_natCast, scanBlobBytes_body l rest hl, bind, Except.bind]
  simp [advance, pure, Except.pure]

theorem skipBlob_text (l : List (Bytes × UInt8)) (rest : Bytes) (hl : ∀ p ∈ l, WSep p.1)
    (hlen : l.length ≤ 2147483647) :
    skipBlob (blobText l.length l ++ rest) = ⟨some rest, 1, 98, 0⟩ := by
  have hn := decNum_fmtDec (l.length : Int) (by omega) (by omega)
  have hT := blobTail_numEnd l rest hl
  rw [blobText_append]
  unfold skipBlob
  rw [skipFmt_blobOpen _ _ hn]
  rw [if_pos (by decide : (6 : Nat) ≠ 0)]
  simp only [List.drop_succ_cons, List.drop_zero]
  rw [sscanf_blobLen _ _ hn _ hT]
  have hpos : 0 < (fmtDec (l.length : Int)).length := List.length_pos_iff.mpr hn.ne
  have hne : (fmtDec (l.length : Int)).length +
      ((blobBody l ++ 93 :: rest).length - (skipSpace (blobBody l ++ 93 :: rest)).length) ≠ 0 := by omega
  have hi : toI32 (l.length : Int) = l.length := toI32_id _ (by omega) (by omega)
  simp only [if_pos hne, hi, drop_append_skipSpace]
  have hf : l.length ≤ (fmtDec (l.length : Int) ++ (blobBody l ++ 93 :: rest)).length + 1 := by
    have := blobBody_length l
    simp only [List.length_append]; omega
  rw [skipBlobBytes_body l rest hl _ _ hf]
  simp

theorem C11.valOK_blob (l : List (Bytes × UInt8)) (hl : ∀ p ∈ l, WSep p.1) (hlen : l.length ≤ 2147483647) :
    C11.ValOK (blobText l.length l) (Cell.blob (l.map Prod.snd)) := by
  have hne : blobText (l.length : Int) l ≠ [] := by simp [blobText]
  have hhd : ∀ rest, hd (blobText (l.length : Int) l ++ rest) = 66 := by
    intro rest; rw [blobText_append]; rfl
  have h66 : hd (blobText (l.length : Int) l) = 66 := by simpa using hhd []
  refine .of_value _ _ 98 rfl rfl ⟨hne, by rw [h66]; decide⟩ (by rw [h66]; decide)
    (fun rest hs se prev => ?_) (fun rest hs sk ty ib => ?_)
  · rw [scanValue_B _ _ _ (hhd rest)]
    exact scanBlob_text l rest hl hlen
  · rw [skipValue_B _ _ _ _ (hhd rest), skipBlob_text l rest hl hlen]

theorem wsep_space : WSep [32] := ⟨by simp, by intro c hc; simp at hc; subst hc; decide⟩
theorem wsep_break : WSep [10, 32, 32, 32, 32] :=
  ⟨by simp, by intro c hc; simp at hc; rcases hc with rfl | rfl <;> decide⟩

theorem printBlobBytes_spec (ll : Int) : ∀ (data pre : Bytes) (cols : Int) (wrt : Nat),
    ∃ (l : List (Bytes × UInt8)) (cols' : Int), l.map Prod.snd = data ∧ (∀ p ∈ l, WSep p.1) ∧
      printBlobBytes ll data ⟨pre ++ [32], cols⟩ wrt =
        (⟨pre ++ blobBody l ++ [32], cols'⟩, wrt + (blobBody l).length) := by
  intro data
  induction data with
  | nil => intro pre cols wrt; exact ⟨[], cols, rfl, by simp, by simp [printBlobBytes, blobBody]⟩
  | cons b r ih =>
    intro pre cols wrt
    by_cases hb : cols ≥ ll - 6
    · obtain ⟨l, cols', h1, h2, h3⟩ := ih (pre ++ [10, 32, 32, 32, 32] ++ [48, 120] ++ fmtHex2 b.toNat) (4 + 5) (wrt + 4 + 5)
      refine ⟨([10, 32, 32, 32, 32], b) :: l, cols', by simp [h1], ?_, ?_⟩
      · intro p hp
        simp only [List.mem_cons] at hp
        rcases hp with rfl | hp
        · exact wsep_break
        · exact h2 p hp
      · simp only [printBlobBytes, hb, ↓reduceIte, List.dropLast_concat]
        rw [h3]
        simp [blobBody, fmtHex2]
        omega
    · obtain ⟨l, cols', h1, h2, h3⟩ := ih (pre ++ [32] ++ [48, 120] ++ fmtHex2 b.toNat) (cols + 5) (wrt + 5)
      refine ⟨([32], b) :: l, cols', by simp [h1], ?_, ?_⟩
      · intro p hp
        simp only [List.mem_cons] at hp
        rcases hp with rfl | hp
        · exact wsep_space
        · exact h2 p hp
      · simp only [printBlobBytes, hb, ↓reduceIte]
        rw [h3]
        simp [blobBody, fmtHex2]
        omega

/-- 'b': `BLOB [n 0x.. 0x.. …]`, with line breaks (`newline` + 4 spaces instead of a space) wherever
    the printer puts them (`hlen`: the length is an `int32_t`, printed with `%d` and read back with `%i`) -/
theorem C11.printsVal_blob (opt : POpt) (data : Bytes) (hlen : data.length ≤ 2147483647) :
    C11.PrintsVal opt (Cell.blob data) := by
  intro fuel more prev st
  obtain ⟨l, cols', h1, h2, h3⟩ := printBlobBytes_spec opt.linelength data
    (st.out ++ lit "BLOB [" ++ fmtDec (data.length : Int))
    (st.cols + ((lit "BLOB [" ++ fmtDec (data.length : Int) ++ [32]).length : Nat))
    (lit "BLOB [" ++ fmtDec (data.length : Int) ++ [32]).length
  have hll : l.length = data.length := by rw [← h1]; simp
  refine ⟨blobText l.length l, cols', ?_, ?_⟩
  · simp only [printArgVal, deref, bind, Except.bind, pure, Except.pure]
    simp only [← List.append_assoc]
    rw [h3]
    simp only [List.dropLast_concat]
    simp [blobText, lit_blob, hll]
    omega
  · subst h1
    exact C11.valOK_blob l h2 (by simpa using hlen)

end Rtosc.Pretty
