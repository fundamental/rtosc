/-
  C04 helper lemmas: what every entry of the log is.  `Hit` / `Reach` say, without any `RtData`, that the
  address reaches a port / a sub-table along a path of table indices whose names match level by level, and
  what those names account for; `trace_log` says that every callback in the log was handed exactly that.
  The statements about single fields (port pointer, object, `loc`, message pointer, the port's own match,
  the elements the recursion macros compute) are read off `Hit` / `Reach`.
-/
import RtoscModel.Proofs.PortsProps
namespace Rtosc.Ports
open Rtosc Rtosc.Match

/-- the address `a` reaches the sub-table with (relative) path `s` below `t` (first index `i`): the name of
    every sub-tree port on the way matches what is left at its level; `pfx` is what these names account
    for, `a'` what is left for the table reached -/
inductive Reach (tags : Bytes) : PTable → Nat → Bytes → List Nat → Bytes → Bytes → Prop
  | here {p c cd r i a t'} : matchB p a tags = some t' →
      Reach tags (.node p c cd r) i a [i] (consumed a t') (levelTail a)
  | leaf_rest {p0 r i a s pfx a'} : Reach tags r (i + 1) a s pfx a' → Reach tags (.leaf p0 r) i a s pfx a'
  | node_rest {p0 c cd r i a s pfx a'} : Reach tags r (i + 1) a s pfx a' → Reach tags (.node p0 c cd r) i a s pfx a'
  | child {p c cd r i a t' s pfx a'} : matchB p a tags = some t' → Reach tags c 0 (levelTail a) s pfx a' →
      Reach tags (.node p c cd r) i a (i :: s) (consumed a t' ++ pfx) a'

/-- the address `a` hits the port with (relative) path `q`, named `p` (`lf`: it has no sub-table): its table
    is reached (`pfx`), and the port's own name matches what is left there (`path`), leaving `t'` -/
inductive Hit (tags : Bytes) : PTable → Nat → Bytes → List Nat → Pat → Bool → Bytes → Bytes → Bytes → Prop
  | leaf_here {p r i a t'} : matchB p a tags = some t' → Hit tags (.leaf p r) i a [i] p true [] a t'
  | node_here {p c cd r i a t'} : matchB p a tags = some t' → Hit tags (.node p c cd r) i a [i] p false [] a t'
  | leaf_rest {p0 r i a q p lf pfx path t'} : Hit tags r (i + 1) a q p lf pfx path t' →
      Hit tags (.leaf p0 r) i a q p lf pfx path t'
  | node_rest {p0 c cd r i a q p lf pfx path t'} : Hit tags r (i + 1) a q p lf pfx path t' →
      Hit tags (.node p0 c cd r) i a q p lf pfx path t'
  | child {p0 c cd r i a t0 q p lf pfx path t'} : matchB p0 a tags = some t0 →
      Hit tags c 0 (levelTail a) q p lf pfx path t' →
      Hit tags (.node p0 c cd r) i a (i :: q) p lf (consumed a t0 ++ pfx) path t'

/-- what the callback of the port with relative path `q` is handed; the clause about `obj` is for a run
    entered with the table's object in `d.obj` (`H`) -/
structure PortEntry (H : Prop) (tp obj : List Nat) (L ex : Bytes) (c : Call) (q : List Nat) (lf : Bool)
    (pfx path t' : Bytes) : Prop where
  who : c.who = .port (tp ++ q)
  isLeaf : c.isLeaf = lf
  m : c.m = path ++ 0 :: ex
  loc : c.loc = some (L ++ pfx ++ consumed path t')
  dport : c.dport = some (tp ++ q)
  obj : H → obj = tp → c.obj = (tp ++ q).dropLast

/-- what the default handler of the sub-table with relative path `s` is handed -/
structure DfltEntry (tp : List Nat) (L ex : Bytes) (c : Call) (s : List Nat) (pfx a' : Bytes) : Prop where
  who : c.who = .dflt (tp ++ s)
  m : c.m = a' ++ 0 :: ex
  loc : c.loc = some (L ++ pfx)
  obj : c.obj = tp ++ s

def LogEntry (H : Prop) (tags : Bytes) (t : PTable) (i : Nat) (tp obj : List Nat) (L a ex : Bytes) (c : Call) : Prop :=
  (∃ q p lf pfx path t', Hit tags t i a q p lf pfx path t' ∧ PortEntry H tp obj L ex c q lf pfx path t') ∨
  (∃ s pfx a', Reach tags t i a s pfx a' ∧ DfltEntry tp L ex c s pfx a')

section
variable {H H' : Prop} {tags : Bytes} {p0 : Pat} {ch r : PTable} {cd : Bool} {i : Nat} {tp obj : List Nat}
  {L a ex : Bytes} {c : Call}

theorem LogEntry.leaf_rest (h : LogEntry H tags r (i + 1) tp obj L a ex c) :
    LogEntry H tags (.leaf p0 r) i tp obj L a ex c := by
  rcases h with ⟨q, p, lf, pfx, path, t', h, e⟩ | ⟨s, pfx, a', h, e⟩
  · exact .inl ⟨q, p, lf, pfx, path, t', h.leaf_rest, e⟩
  · exact .inr ⟨s, pfx, a', h.leaf_rest, e⟩

theorem LogEntry.node_rest (h : LogEntry H tags r (i + 1) tp obj L a ex c) :
    LogEntry H tags (.node p0 ch cd r) i tp obj L a ex c := by
  rcases h with ⟨q, p, lf, pfx, path, t', h, e⟩ | ⟨s, pfx, a', h, e⟩
  · exact .inl ⟨q, p, lf, pfx, path, t', h.node_rest, e⟩
  · exact .inr ⟨s, pfx, a', h.node_rest, e⟩

theorem LogEntry.imp (hH : H → H') (h : LogEntry H' tags r i tp obj L a ex c) : LogEntry H tags r i tp obj L a ex c := by
  rcases h with ⟨q, p, lf, pfx, path, t', h, e⟩ | h
  · exact .inl ⟨q, p, lf, pfx, path, t', h, e.who, e.isLeaf, e.m, e.loc, e.dport, fun x => e.obj (hH x)⟩
  · exact .inr h

/-- an entry of the sub-table (entered with its own object) is an entry of the table -/
theorem LogEntry.child {t0 : Bytes} (hm : matchB p0 a tags = some t0)
    (h : LogEntry True tags ch 0 (tp ++ [i]) (tp ++ [i]) (L ++ consumed a t0) (levelTail a) ex c) :
    LogEntry H tags (.node p0 ch cd r) i tp obj L a ex c := by
  rcases h with ⟨q, p, lf, pfx, path, t', h, e⟩ | ⟨s, pfx, a', h, e⟩
  · refine .inl ⟨i :: q, p, lf, _, path, t', h.child hm, ?_⟩
    have hq : tp ++ [i] ++ q = tp ++ i :: q := by simp
    exact ⟨hq ▸ e.who, e.isLeaf, e.m, by rw [e.loc]; simp, hq ▸ e.dport, fun _ _ => hq ▸ e.obj trivial rfl⟩
  · refine .inr ⟨i :: s, _, a', h.child hm, ?_⟩
    have hs : tp ++ [i] ++ s = tp ++ i :: s := by simp
    exact ⟨hs ▸ e.who, e.m, by rw [e.loc]; simp, hs ▸ e.obj⟩

end

/-- **every entry of the log** -/
theorem trace_log : ∀ (t : PTable), ∀ (tp : List Nat) (i : Nat) (o obj : List Nat) (L a tags ex : Bytes),
    ∀ c ∈ trace t tp i o obj L a tags ex, LogEntry (o = obj) tags t i tp obj L a ex c := by
  intro t
  induction t with
  | nil => intro tp i o obj L a tags ex c hc; simp [trace] at hc
  | leaf p rest ih =>
    intro tp i o obj L a tags ex c hc
    simp only [trace] at hc
    split at hc
    · exact (ih _ _ _ _ _ _ _ _ c hc).leaf_rest
    · next t hm =>
      rcases List.mem_cons.mp hc with rfl | hc
      · exact .inl ⟨[i], p, true, [], a, t, .leaf_here hm, rfl, rfl, rfl, by simp, rfl, fun h1 h2 => by simp [h1, h2]⟩
      · exact ((ih _ _ _ _ _ _ _ _ c hc).imp fun _ => rfl).leaf_rest
  | node p child cd rest ihc ihr =>
    intro tp i o obj L a tags ex c hc
    simp only [trace] at hc
    split at hc
    · exact (ihr _ _ _ _ _ _ _ _ c hc).node_rest
    · next t hm =>
      simp only [List.mem_cons, List.mem_append] at hc
      rcases hc with rfl | (hc | hc) | hc
      · exact .inl ⟨[i], p, false, [], a, t, .node_here hm, rfl, rfl, rfl, by simp, rfl, fun h1 h2 => by simp [h1, h2]⟩
      · exact ((ihc _ _ _ _ _ _ _ _ c hc).imp fun _ => rfl).child hm
      · split at hc
        · obtain rfl : c = _ := by simpa using hc
          exact .inr ⟨[i], _, _, .here hm, rfl, rfl, rfl, rfl⟩
        · simp at hc
      · exact ((ihr _ _ _ _ _ _ _ _ c hc).imp fun _ => rfl).node_rest

theorem semLoc_log : ∀ (t : PTable),
    ∀ (tp : List Nat) (i : Nat) (obj : List Nat) (L a tags ex : Bytes) (d : RtData) (mt : Bool),
    ∀ c ∈ (semLoc t tp i obj L a tags ex d mt).1, LogEntry (d.obj = obj) tags t i tp obj L a ex c := by
  intro t tp i obj L a tags ex d mt c hc
  rw [semLoc_trace] at hc
  exact trace_log t tp i d.obj obj L a tags ex c hc

section
variable {tags : Bytes} {t : PTable} {i : Nat} {a : Bytes} {q s : List Nat} {p : Pat} {lf : Bool} {pfx path t' a' : Bytes}

theorem Hit.matches (h : Hit tags t i a q p lf pfx path t') : matchB p path tags = some t' := by
  induction h with
  | leaf_here hm | node_here hm => exact hm
  | leaf_rest _ ih | node_rest _ ih | child _ _ ih => exact ih

theorem Hit.nameWf (hwf : t.WF) (h : Hit tags t i a q p lf pfx path t') : nameWf p = true := by
  induction h with
  | leaf_here _ => exact hwf.leaf_name
  | node_here _ => exact nodeNameWf_name hwf.node_name
  | leaf_rest _ ih => exact ih hwf.leaf_rest
  | node_rest _ ih => exact ih hwf.node_rest
  | child _ _ ih => exact ih hwf.node_child

theorem Hit.head (h : Hit tags t i a q p lf pfx path t') : ∃ j r, q = j :: r ∧ i ≤ j := by
  induction h with
  | leaf_here _ | node_here _ | child _ _ _ => exact ⟨_, _, rfl, Nat.le_refl _⟩
  | leaf_rest _ ih | node_rest _ ih => obtain ⟨j, r, h1, h2⟩ := ih; exact ⟨j, r, h1, by omega⟩

theorem Reach.head (h : Reach tags t i a s pfx a') : ∃ j r, s = j :: r ∧ i ≤ j := by
  induction h with
  | here _ | child _ _ _ => exact ⟨_, _, rfl, Nat.le_refl _⟩
  | leaf_rest _ ih | node_rest _ ih => obtain ⟨j, r, h1, h2⟩ := ih; exact ⟨j, r, h1, by omega⟩

/-- the names on the way account for everything in front of the port's level -/
theorem Hit.split (hwf : t.WF) (h : Hit tags t i a q p lf pfx path t') : a = pfx ++ path := by
  induction h with
  | leaf_here _ | node_here _ => rfl
  | leaf_rest _ ih => exact ih hwf.leaf_rest
  | node_rest _ ih => exact ih hwf.node_rest
  | child hm _ ih =>
    rw [List.append_assoc, ← ih hwf.node_child, node_tail hwf.node_name hm]
    exact (matchB_shape hm).1

theorem Reach.split (hwf : t.WF) (h : Reach tags t i a s pfx a') : a = pfx ++ a' := by
  induction h with
  | here hm => rw [node_tail hwf.node_name hm]; exact (matchB_shape hm).1
  | leaf_rest _ ih => exact ih hwf.leaf_rest
  | node_rest _ ih => exact ih hwf.node_rest
  | child hm _ ih =>
    rw [List.append_assoc, ← ih hwf.node_child, node_tail hwf.node_name hm]
    exact (matchB_shape hm).1

end

/-- **port_pointer_own / obj_handed_down, on the log**: a port's callback sees its own port pointer and the
    object of its table; a default handler sees the object of its table -/
theorem LogEntry.ptr {H : Prop} {tags : Bytes} {t : PTable} {i : Nat} {tp : List Nat} {L a ex : Bytes} {c : Call}
    (h : LogEntry H tags t i tp tp L a ex c) (hH : H) :
    (∀ q, c.who = .port q → c.dport = some q ∧ c.obj = q.dropLast) ∧ (∀ q, c.who = .dflt q → c.obj = q) := by
  rcases h with ⟨q, p, lf, pfx, path, t', _, e⟩ | ⟨s, pfx, a', _, e⟩
  · refine ⟨fun x hx => ?_, fun x hx => by simp [e.who] at hx⟩
    obtain rfl : tp ++ q = x := by simpa [e.who] using hx
    exact ⟨e.dport, e.obj hH rfl⟩
  · refine ⟨fun x hx => by simp [e.who] at hx, fun x hx => ?_⟩
    obtain rfl : tp ++ s = x := by simpa [e.who] using hx
    exact e.obj

theorem foldl_max_le_of {α : Type} (f : α → Nat) (B : Nat) : ∀ (l : List α) (h0 : Nat), (∀ c ∈ l, f c ≤ B) →
    l.foldl (fun h c => max h (f c)) h0 ≤ max h0 B := by
  intro l
  induction l with
  | nil => intro h0 _; exact Nat.le_max_left _ _
  | cons c r ih =>
    intro h0 h
    have h1 := h c List.mem_cons_self
    have h2 := ih (max h0 (f c)) (fun x hx => h x (List.mem_cons_of_mem _ hx))
    simp only [List.foldl_cons]
    omega

/-- **loc_in_bounds, on `semLoc`**: every `loc` handed out is a prefix of `L ++ a`, so no write goes beyond
    `loc + remaining address + terminator` -/
theorem semLoc_high (t : PTable) (hwf : t.WF) (tp : List Nat) (i : Nat) {obj : List Nat} {L : Bytes} (a tags ex : Bytes)
    {d : RtData} (mt : Bool) (hL : d.loc = some L) (ho : d.obj = obj) :
    (semLoc t tp i obj L a tags ex d mt).2.1.locHigh ≤ max d.locHigh (L.length + a.length + 1) := by
  rw [semLoc_eq t tp i a tags ex mt hL ho]
  refine foldl_max_le_of _ _ _ _ fun c hc => ?_
  rcases trace_log t tp i obj obj L a tags ex c hc with ⟨q, p, lf, pfx, path, t', h, e⟩ | ⟨s, pfx, a', h, e⟩
  · have h1 := congrArg List.length (h.split hwf)
    have h2 : (consumed path t').length ≤ path.length := by simp only [consumed, List.length_take]; omega
    simp only [e.loc, Option.getD_some, List.length_append] at h1 ⊢
    omega
  · have h1 := congrArg List.length (h.split hwf)
    simp only [e.loc, Option.getD_some, List.length_append] at h1 ⊢
    omega

def Who.path : Who → List Nat
  | .port p => p
  | .dflt p => p

theorem trace_paths (t : PTable) (tp : List Nat) (i : Nat) (o obj : List Nat) (L a tags ex : Bytes) :
    ∀ w ∈ List.map (·.who) (trace t tp i o obj L a tags ex), ∃ j s, i ≤ j ∧ w.path = tp ++ j :: s := by
  intro w hw
  obtain ⟨c, hc, rfl⟩ := List.mem_map.mp hw
  rcases trace_log t tp i o obj L a tags ex c hc with ⟨q, p, lf, pfx, path, t', h, e⟩ | ⟨s, pfx, a', h, e⟩
  · obtain ⟨j, r, rfl, hj⟩ := h.head
    exact ⟨j, r, hj, by rw [e.who]; rfl⟩
  · obtain ⟨j, r, rfl, hj⟩ := h.head
    exact ⟨j, r, hj, by rw [e.who]; rfl⟩

theorem path_index_eq {tp s1 s2 : List Nat} {i j : Nat} (h : tp ++ i :: s1 = tp ++ j :: s2) : i = j := by
  have := List.append_cancel_left h
  simp only [List.cons.injEq] at this
  exact this.1

/-- a default handler behind the callbacks of its table: its table's path is no port's and no deeper
    table's -/
theorem nodup_dflt_behind {tp : List Nat} {l : List Call} {c : Call} (hc : c.who = .dflt tp) (b : Bool)
    (hnd : (List.map (·.who) l).Nodup) (hp : ∀ w ∈ List.map (·.who) l, ∃ j s, w.path = tp ++ j :: s) :
    (List.map (·.who) (l ++ if b then [c] else [])).Nodup := by
  cases b
  · simpa using hnd
  · rw [List.map_append]
    refine List.nodup_append.mpr ⟨hnd, by simp, ?_⟩
    intro w hw x hx hwx
    obtain rfl : x = .dflt tp := by simpa [hc] using hx
    subst hwx
    obtain ⟨j, s, hp⟩ := hp _ hw
    have := List.append_cancel_left ((List.append_nil tp).trans hp)
    cases this

/-- **no callback is invoked twice** -/
theorem trace_nodup : ∀ (t : PTable), ∀ (tp : List Nat) (i : Nat) (o obj : List Nat) (L a tags ex : Bytes),
    (List.map (·.who) (trace t tp i o obj L a tags ex)).Nodup := by
  intro t
  induction t with
  | nil => intro tp i o obj L a tags ex; simp [trace]
  | leaf p rest ih =>
    intro tp i o obj L a tags ex
    simp only [trace]
    split
    · exact ih _ _ _ _ _ _ _ _
    · rw [List.map_cons]
      refine List.nodup_cons.mpr ⟨?_, ih _ _ _ _ _ _ _ _⟩
      intro hmem
      obtain ⟨j, s, hj, hp⟩ := trace_paths _ _ _ _ _ _ _ _ _ _ hmem
      have := path_index_eq (s1 := []) hp
      omega
  | node p child cd rest ihc ihr =>
    intro tp i o obj L a tags ex
    simp only [trace]
    split
    · exact ihr _ _ _ _ _ _ _ _
    · next t _ =>
      rw [List.map_cons, List.map_append]
      -- the entries of the sub-table, possibly followed by its default handler
      have hsub := trace_paths child (tp ++ [i]) 0 (tp ++ [i]) (tp ++ [i]) (L ++ consumed a t)
        (levelTail a) tags ex
      have hchild_paths : ∀ (c : Call) (b : Bool), c.who = .dflt (tp ++ [i]) →
          ∀ w ∈ List.map (·.who) (trace child (tp ++ [i]) 0 (tp ++ [i]) (tp ++ [i]) (L ++ consumed a t) (levelTail a) tags ex ++
            if b then [c] else []), (∃ j s, w.path = tp ++ i :: j :: s) ∨ w = .dflt (tp ++ [i]) := by
        intro c b hc w hw
        rw [List.map_append] at hw
        rcases List.mem_append.mp hw with hw | hw
        · obtain ⟨j, s, _, hp⟩ := hsub w hw
          exact Or.inl ⟨j, s, by rw [hp]; simp⟩
        · cases b
          · simp at hw
          · exact Or.inr (by simpa [hc] using hw)
      refine List.nodup_cons.mpr ⟨?_, List.nodup_append.mpr ⟨nodup_dflt_behind (tp := tp ++ [i]) rfl _
        (ihc _ _ _ _ _ _ _ _) (fun w hw => let ⟨j, s, _, hp⟩ := hsub w hw; ⟨j, s, hp⟩),
        ihr _ _ _ _ _ _ _ _, ?_⟩⟩
      · intro hmem
        rcases List.mem_append.mp hmem with hmem | hmem
        · rcases hchild_paths _ _ rfl _ hmem with ⟨j, s, hp⟩ | h
          · have : tp ++ [i] = tp ++ i :: j :: s := hp
            simp at this
          · cases h
        · obtain ⟨j, s, hj, hp⟩ := trace_paths _ _ _ _ _ _ _ _ _ _ hmem
          have := path_index_eq (s1 := []) hp
          omega
      · intro w hw x hx hwx
        subst hwx
        obtain ⟨j, s, hj, hp⟩ := trace_paths _ _ _ _ _ _ _ _ _ _ hx
        rcases hchild_paths _ _ rfl _ hw with ⟨j', s', hp'⟩ | h
        · rw [hp'] at hp
          have := path_index_eq hp
          omega
        · subst h
          have : tp ++ i :: [] = tp ++ j :: s := by simpa [Who.path] using hp
          have := path_index_eq this
          omega

end Rtosc.Ports
