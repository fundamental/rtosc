/-
  C16 — helper lemmas: the scalar comparison rules embed into the lexicographic order on
  `List Int` (via `skey`), and the order laws of `Val.cmp` / `Val.cmpList`.
-/
import RtoscModel.ArgVal.CmpSpec
namespace Rtosc.ArgVal
open Rtosc

theorem lexI_range (a b : List Int) : lexI a b = -1 ∨ lexI a b = 0 ∨ lexI a b = 1 := by
  induction a generalizing b with
  | nil => cases b <;> simp [lexI]
  | cons x xs ih =>
    cases b with
    | nil => simp [lexI]
    | cons y ys =>
      simp only [lexI]
      split
      · exact ih ys
      · split <;> simp

theorem lexI_refl (a : List Int) : lexI a a = 0 := by
  induction a with
  | nil => rfl
  | cons x xs ih => simp [lexI, ih]

theorem lexI_antisymm (a b : List Int) : lexI a b = - lexI b a := by
  induction a generalizing b with
  | nil => cases b <;> simp [lexI]
  | cons x xs ih =>
    cases b with
    | nil => simp [lexI]
    | cons y ys =>
      simp only [lexI]
      by_cases h : x = y
      · subst h; simp [ih ys]
      · have h' : ¬ y = x := fun e => h e.symm
        simp only [h, h', ↓reduceIte]
        by_cases g : x > y
        · have : ¬ y > x := by omega
          simp [g, this]
        · have : y > x := by omega
          simp [g, this]

theorem lexI_eq_zero {a b : List Int} (h : lexI a b = 0) : a = b := by
  induction a generalizing b with
  | nil => cases b <;> simp_all [lexI]
  | cons x xs ih =>
    cases b with
    | nil => simp [lexI] at h
    | cons y ys =>
      simp only [lexI] at h
      by_cases e : x = y
      · subst e; simp only [↓reduceIte] at h; rw [ih h]
      · simp only [e, ↓reduceIte] at h; split at h <;> omega

theorem lexI_trans {a b c : List Int} (h1 : lexI a b ≤ 0) (h2 : lexI b c ≤ 0) : lexI a c ≤ 0 := by
  induction a generalizing b c with
  | nil => cases c <;> simp [lexI]
  | cons x xs ih =>
    cases b with
    | nil => simp [lexI] at h1
    | cons y ys =>
      cases c with
      | nil => simp [lexI] at h2
      | cons z zs =>
        simp only [lexI] at h1 h2 ⊢
        by_cases e1 : x = y
        · subst e1
          simp only [↓reduceIte] at h1
          by_cases e2 : x = z
          · subst e2
            simp only [↓reduceIte] at h2 ⊢
            exact ih h1 h2
          · simp only [e2, ↓reduceIte] at h2 ⊢
            exact h2
        · simp only [e1, ↓reduceIte] at h1
          have hxy : x < y := by
            by_cases g : x > y
            · simp [g] at h1
            · omega
          by_cases e2 : y = z
          · subst e2
            have : ¬ x = y := e1
            simp only [this, ↓reduceIte]
            have : ¬ x > y := by omega
            simp [this]
          · simp only [e2, ↓reduceIte] at h2
            have hyz : y < z := by
              by_cases g : y > z
              · simp [g] at h2
              · omega
            have : ¬ x = z := by omega
            simp only [this, ↓reduceIte]
            have : ¬ x > z := by omega
            simp [this]

theorem lexI_trans_lt {a b c : List Int} (h1 : lexI a b ≤ 0) (h2 : lexI b c ≤ 0)
    (h : lexI a b < 0 ∨ lexI b c < 0) : lexI a c < 0 := by
  have h3 := lexI_trans h1 h2
  by_cases e : lexI a c = 0
  · have := lexI_eq_zero e
    subst this
    have := lexI_antisymm a b
    omega
  · omega

/-- bytes as integers (`unsigned char`, as `memcmp` / `strcmp` compare them) -/
def bI (l : Bytes) : List Int := l.map fun b => (b.toNat : Int)

theorem lexCmp_eq_lexI (a b : Bytes) : lexCmp a b = lexI (bI a) (bI b) := by
  induction a generalizing b with
  | nil => cases b <;> simp [lexCmp, lexI, bI]
  | cons x xs ih =>
    cases b with
    | nil => simp [lexCmp, lexI, bI]
    | cons y ys =>
      simp only [lexCmp, bI, List.map_cons, lexI]
      have e : (x = y) ↔ ((x.toNat : Int) = (y.toNat : Int)) := by
        constructor
        · intro h; rw [h]
        · intro h; exact UInt8.toNat_inj.mp (by omega)
      have g : (x > y) ↔ ((x.toNat : Int) > (y.toNat : Int)) := by
        rw [gt_iff_lt, UInt8.lt_iff_toNat_lt]; omega
      by_cases h : x = y
      · subst h; simp; exact ih ys
      · have h' := (not_congr e).mp h
        simp only [h, h', ↓reduceIte]
        by_cases k : x > y
        · have k' := g.mp k; simp [k, k']
        · have k' := (not_congr g).mp k; simp [k, k']

theorem blobCmp_eq (a b : Bytes) : blobCmp a b = lexCmp a b := by
  induction a generalizing b with
  | nil => cases b <;> simp [blobCmp, memcmpS, lexCmp]
  | cons x xs ih =>
    cases b with
    | nil => simp [blobCmp, memcmpS, lexCmp]
    | cons y ys =>
      have := ih ys
      simp only [blobCmp, memcmpS] at this ⊢
      simp only [List.length_cons, Nat.add_min_add_right, List.take_succ_cons, lexCmp]
      by_cases h : x = y
      · subst h
        simp only [↓reduceIte]
        rw [← this]
        simp
      · simp only [h, ↓reduceIte]
        by_cases k : x > y <;> simp [k]

/-- key of a cell in the lexicographic order on integer lists -/
def skey : Cell → List Int
  | .int ty v => [schar ty.char, v]
  | .huge v => [schar 104, v]
  | .time v => [schar 116, if v = 1 then -1 else (v : Int)]
  | .flt b => [schar 102, f32.key b.toNat]
  | .dbl b => [schar 100, f64.key b.toNat]
  | .midi a b c d => schar 109 :: bI [a, b, c, d]
  | .str ty none => [schar ty.char]
  | .str ty (some s) => schar ty.char :: 0 :: bI (cstrOf s)
  | .blob d => schar 98 :: bI d
  | .flag ty => [schar ty.char]
  | .arr _ _ => [schar tyA]
  | .rep _ _ => [schar tyRange]

theorem skey_head (c : Cell) : ∃ r, skey c = schar c.type :: r := by
  cases c with
  | str ty s => cases s <;> exact ⟨_, rfl⟩
  | _ => exact ⟨_, rfl⟩

theorem schar_inj {a b : UInt8} (h : schar a = schar b) : a = b := by
  have ha := a.toNat_lt
  have hb := b.toNat_lt
  apply UInt8.toNat_inj.mp
  simp only [schar] at h
  split at h <;> split at h <;> omega

theorem fcmp3_key (F : FFmt) (a b : Nat) (ha : F.isNaN a = false) (hb : F.isNaN b = false) :
    fcmp3 F a b = lexI [F.key a] [F.key b] := by
  simp only [fcmp3, FFmt.feq, FFmt.fgt, ha, hb, lexI]
  by_cases h : F.key a = F.key b
  · simp [h]
  · simp only [Bool.not_false, Bool.true_and, beq_iff_eq, h, ↓reduceIte, decide_eq_true_eq]

theorem cmp3_lexI (a b : Int) : cmp3 a b = lexI [a] [b] := by
  simp only [cmp3, lexI]

/-- the cell with an empty payload that stands for a cell's constructor and sub-type -/
def Cell.proto : Cell → Cell
  | .int t _ => .int t 0
  | .huge _ => .huge 0
  | .time _ => .time 0
  | .flt _ => .flt 0
  | .dbl _ => .dbl 0
  | .midi .. => .midi 0 0 0 0
  | .str t _ => .str t none
  | .blob _ => .blob []
  | .flag t => .flag t
  | .arr .. => .arr 0 0
  | .rep .. => .rep 0 0

def protoOfType (c : UInt8) : Option Cell :=
  [Cell.int .i 0, .int .c 0, .int .r 0, .huge 0, .time 0, .flt 0, .dbl 0, .midi 0 0 0 0,
   .str .s none, .str .S none, .blob [], .flag .T, .flag .F, .flag .N, .flag .I, .arr 0 0,
   .rep 0 0].find? (·.type = c)

/-- the type character determines constructor and sub-type -/
theorem protoOfType_type (c : Cell) : protoOfType c.type = some c.proto := by
  cases c with
  | int t _ => cases t <;> rfl
  | str t _ => cases t <;> rfl
  | flag t => cases t <;> rfl
  | _ => rfl

inductive SameType : Cell → Cell → Prop
  | int (t x y) : SameType (.int t x) (.int t y)
  | huge (x y) : SameType (.huge x) (.huge y)
  | time (x y) : SameType (.time x) (.time y)
  | flt (x y) : SameType (.flt x) (.flt y)
  | dbl (x y) : SameType (.dbl x) (.dbl y)
  | midi (a b c d a' b' c' d') : SameType (.midi a b c d) (.midi a' b' c' d')
  | str (t s s') : SameType (.str t s) (.str t s')
  | blob (x y) : SameType (.blob x) (.blob y)
  | flag (t) : SameType (.flag t) (.flag t)
  | arr (e l e' l') : SameType (.arr e l) (.arr e' l')
  | rep (n h n' h') : SameType (.rep n h) (.rep n' h')

theorem SameType.of_type_eq {a b : Cell} (h : a.type = b.type) : SameType a b := by
  have hp : a.proto = b.proto :=
    Option.some.inj (by rw [← protoOfType_type, ← protoOfType_type, h])
  cases a <;> cases b <;> cases hp <;> constructor

/-- the per-type rules of `rtosc_arg_vals_cmp_single` are the lexicographic order of the keys -/
theorem cmpScalar_key (a b : Cell) (hs : a.isScalar = true ∨ b.isScalar = true)
    (ha : a.isNaN = false) (hb : b.isNaN = false) :
    cmpScalar a b = lexI (skey a) (skey b) := by
  by_cases ht : a.type = b.type
  · cases SameType.of_type_eq ht with
    | int | huge => simp [cmpScalar, ht, skey, cmp3_lexI, lexI]
    | time v1 v2 =>
      simp only [cmpScalar, ht, skey, lexI, cmp3, ↓reduceIte]
      by_cases h1 : v1 = 1 <;> by_cases h2 : v2 = 1 <;> simp [h1, h2] <;> omega
    | flt => simp [cmpScalar, ht, skey, fcmp3_key f32 _ _ ha hb, lexI]
    | dbl => simp [cmpScalar, ht, skey, fcmp3_key f64 _ _ ha hb, lexI]
    | midi => simp [cmpScalar, ht, skey, memcmpS, lexCmp_eq_lexI, lexI]
    | str t s1 s2 => cases s1 <;> cases s2 <;> simp [cmpScalar, ht, skey, strcmpS, lexCmp_eq_lexI, lexI]
    | blob => simp [cmpScalar, ht, skey, blobCmp_eq, lexCmp_eq_lexI, lexI]
    | flag => simp [cmpScalar, skey, lexI]
    | arr | rep => simp [Cell.isScalar] at hs
  · obtain ⟨ra, hra⟩ := skey_head a
    obtain ⟨rb, hrb⟩ := skey_head b
    have hne : ¬ schar a.type = schar b.type := fun e => ht (schar_inj e)
    simp only [cmpScalar, ht, ↓reduceIte, hra, hrb, lexI, hne]

theorem lexCmp_eq_zero_iff (a b : Bytes) : lexCmp a b = 0 ↔ a = b := by
  induction a generalizing b with
  | nil => cases b <;> simp [lexCmp]
  | cons x xs ih =>
    cases b with
    | nil => simp [lexCmp]
    | cons y ys =>
      simp only [lexCmp]
      by_cases h : x = y
      · subst h; simp [ih ys]
      · simp only [h, ↓reduceIte, List.cons.injEq, false_and, iff_false]
        split <;> omega

theorem cmp3_eq_zero_iff (a b : Int) : cmp3 a b = 0 ↔ a = b := by
  simp only [cmp3]; by_cases h : a = b <;> simp [h]; split <;> omega

theorem fcmp3_eq_zero_iff (F : FFmt) (a b : Nat) : fcmp3 F a b = 0 ↔ F.feq a b = true := by
  unfold fcmp3
  cases F.feq a b <;> simp
  split <;> omega

/-- `rtosc_arg_vals_eq_single` and `rtosc_arg_vals_cmp_single` (`eqScalar`, `cmpScalar`) agree on everything
    but a pair of arrays / range headers -/
theorem eqScalar_cmpScalar (a b : Cell) (hs : a.isScalar = true ∨ b.isScalar = true) :
    eqScalar a b = .ok (decide (cmpScalar a b = 0)) := by
  by_cases ht : a.type = b.type
  · cases SameType.of_type_eq ht with
    | int | huge => simp [eqScalar, cmpScalar, ht, cmp3_eq_zero_iff, pure, Except.pure]
    | time v1 v2 =>
      simp only [eqScalar, cmpScalar, ht, ↓reduceIte, pure, Except.pure, cmp3]
      congr 1
      by_cases h1 : v1 = 1 <;> by_cases h2 : v2 = 1 <;> simp [h1, h2]
      · omega
      · by_cases e : v1 = v2
        · simp [e]
        · have : ¬ ((v1 : Int) = (v2 : Int)) := by omega
          simp only [e, this, decide_false, Bool.false_or]
          split <;> simp
    | flt | dbl => simp [eqScalar, cmpScalar, ht, fcmp3_eq_zero_iff, pure, Except.pure]
    | midi | flag => simp [eqScalar, cmpScalar, ht, pure, Except.pure]
    | str t s1 s2 => cases s1 <;> cases s2 <;> simp [eqScalar, cmpScalar, ht, pure, Except.pure]
    | blob d1 d2 =>
      simp only [eqScalar, cmpScalar, ht, ↓reduceIte, pure, Except.pure, blobCmp_eq, memcmpS]
      by_cases hl : d1.length = d2.length
      · simp [hl]
        rw [← hl]; simp
      · have : d1 ≠ d2 := fun e => hl (by rw [e])
        simp [hl, lexCmp_eq_zero_iff, this]
    | arr | rep => simp [Cell.isScalar] at hs
  · simp only [eqScalar, cmpScalar, ht, ↓reduceIte, pure, Except.pure]
    congr 1
    split <;> simp

/-- key of the part of a value that `rtosc_arg_vals_cmp_single` (`cmpSingle`) looks at before descending into an
    array -/
def hkey : Val → List Int
  | .sc c => skey c
  | .arr t _ => [schar tyA, schar (normTy t)]

/-- what is compared when the heads are equal -/
def Val.under : Val → Val → Int
  | .arr _ e1, .arr _ e2 => Val.cmpList e1 e2
  | _, _ => 0

theorem scalar_type_ne_a (c : Cell) (h : c.isScalar = true) : c.type ≠ tyA := fun e => by
  cases SameType.of_type_eq (b := .arr 0 0) e
  cases h

theorem cmpScalar_of_type_ne {a b : Cell} (h : a.type ≠ b.type) :
    cmpScalar a b = if schar a.type > schar b.type then 1 else -1 := by
  unfold cmpScalar
  exact if_neg h

theorem Val.cmp_char (v w : Val) (hv : v.ok = true) (hw : w.ok = true) :
    Val.cmp v w = if lexI (hkey v) (hkey w) ≠ 0 then lexI (hkey v) (hkey w) else Val.under v w := by
  cases v with
  | sc a =>
    simp only [Val.ok, Bool.and_eq_true, Bool.not_eq_true'] at hv
    cases w with
    | sc b =>
      simp only [Val.ok, Bool.and_eq_true, Bool.not_eq_true'] at hw
      simp only [Val.cmp, Val.head, hkey, Val.under, cmpScalar_key a b (Or.inl hv.1) hv.2 hw.2]
      by_cases h : lexI (skey a) (skey b) = 0 <;> simp [h]
    | arr t e =>
      have h1 : cmpScalar a (.arr t 0) = if schar a.type > schar tyA then 1 else -1 :=
        cmpScalar_of_type_ne (scalar_type_ne_a a hv.1)
      obtain ⟨r, hr⟩ := skey_head a
      have hne : schar a.type ≠ schar tyA := fun e => scalar_type_ne_a a hv.1 (schar_inj e)
      simp only [Val.cmp, Val.head, hkey, Val.under, h1, hr, lexI, hne, ↓reduceIte]
      split <;> simp
  | arr t1 e1 =>
    cases w with
    | sc b =>
      simp only [Val.ok, Bool.and_eq_true, Bool.not_eq_true'] at hw
      have h1 : cmpScalar (.arr t1 0) b = if schar tyA > schar b.type then 1 else -1 :=
        cmpScalar_of_type_ne (scalar_type_ne_a b hw.1).symm
      obtain ⟨r, hr⟩ := skey_head b
      have hne : schar tyA ≠ schar b.type := fun e => scalar_type_ne_a b hw.1 (schar_inj e).symm
      simp only [Val.cmp, hkey, Val.under, h1, hr, lexI, hne, ↓reduceIte]
      split <;> simp
    | arr t2 e2 =>
      simp only [Val.cmp, hkey, Val.under, lexI, ↓reduceIte]
      by_cases h : normTy t1 = normTy t2
      · simp [h]
      · have hne : ¬ schar (normTy t1) = schar (normTy t2) := fun e => h (schar_inj e)
        simp only [ne_eq, h, not_false_eq_true, ↓reduceIte, gt_iff_lt, hne]
        split <;> simp

theorem hkey_arr_eq {t : UInt8} {e : List Val} {w : Val} (hw : w.ok = true)
    (h : hkey (.arr t e) = hkey w) : ∃ t' e', w = .arr t' e' := by
  cases w with
  | arr t' e' => exact ⟨t', e', rfl⟩
  | sc b =>
    exfalso
    simp only [Val.ok, Bool.and_eq_true, Bool.not_eq_true'] at hw
    obtain ⟨r, hr⟩ := skey_head b
    simp only [hkey, hr, List.cons.injEq] at h
    exact scalar_type_ne_a b hw.1 (schar_inj h.1).symm

theorem Val.cmp_of_key_eq {v w : Val} (hv : v.ok = true) (hw : w.ok = true)
    (h : hkey v = hkey w) : Val.cmp v w = Val.under v w := by
  rw [Val.cmp_char _ _ hv hw, h, lexI_refl]; rfl

mutual
theorem Val.cmp_refl : ∀ (v : Val), v.ok = true → Val.cmp v v = 0
  | .sc a, h => by rw [Val.cmp_of_key_eq h h rfl]; rfl
  | .arr t es, h => by
    rw [Val.cmp_of_key_eq h h rfl]
    exact Val.cmpList_refl es (by simpa [Val.ok] using h)
theorem Val.cmpList_refl : ∀ (vs : List Val), Val.okList vs = true → Val.cmpList vs vs = 0
  | [], _ => by simp [Val.cmpList]
  | v :: vs, h => by
    simp only [Val.okList, Bool.and_eq_true] at h
    simp [Val.cmpList, Val.cmp_refl v h.1, Val.cmpList_refl vs h.2]
end

mutual
theorem Val.cmp_antisymm : ∀ (v w : Val), v.ok = true → w.ok = true → Val.cmp v w = - Val.cmp w v := by
  intro v w hv hw
  rw [Val.cmp_char _ _ hv hw, Val.cmp_char _ _ hw hv, lexI_antisymm (hkey w)]
  by_cases h : lexI (hkey v) (hkey w) = 0
  · simp only [h, ne_eq, not_true_eq_false, ↓reduceIte, Int.neg_zero]
    cases v with
    | sc a => cases w <;> simp [Val.under]
    | arr t es =>
      cases w with
      | sc b => simp [Val.under]
      | arr t' es' =>
        exact Val.cmpList_antisymm es es' (by simpa [Val.ok] using hv) (by simpa [Val.ok] using hw)
  · simp [h]
theorem Val.cmpList_antisymm : ∀ (vs ws : List Val), Val.okList vs = true → Val.okList ws = true →
    Val.cmpList vs ws = - Val.cmpList ws vs
  | [], [], _, _ => by simp [Val.cmpList]
  | [], _ :: _, _, _ => by simp [Val.cmpList]
  | _ :: _, [], _, _ => by simp [Val.cmpList]
  | v :: vs, w :: ws, hv, hw => by
    simp only [Val.okList, Bool.and_eq_true] at hv hw
    have h1 := Val.cmp_antisymm v w hv.1 hw.1
    have h2 := Val.cmpList_antisymm vs ws hv.2 hw.2
    simp only [Val.cmpList]
    by_cases h : Val.cmp v w = 0
    · have : Val.cmp w v = 0 := by omega
      simp [h, this, h2]
    · have : ¬ Val.cmp w v = 0 := by omega
      simp [this, h1]
end

mutual
theorem Val.cmp_range : ∀ (v w : Val), v.ok = true → w.ok = true →
    Val.cmp v w = -1 ∨ Val.cmp v w = 0 ∨ Val.cmp v w = 1 := by
  intro v w hv hw
  rw [Val.cmp_char _ _ hv hw]
  by_cases h : lexI (hkey v) (hkey w) = 0
  · rw [if_neg (fun hn => hn h)]
    cases v with
    | sc a => simp [Val.under]
    | arr t es =>
      cases w with
      | sc b => simp [Val.under]
      | arr t' es' =>
        exact Val.cmpList_range es es' (by simpa [Val.ok] using hv) (by simpa [Val.ok] using hw)
  · rw [if_pos h]; exact lexI_range _ _
theorem Val.cmpList_range : ∀ (vs ws : List Val), Val.okList vs = true → Val.okList ws = true →
    Val.cmpList vs ws = -1 ∨ Val.cmpList vs ws = 0 ∨ Val.cmpList vs ws = 1
  | [], [], _, _ => by simp [Val.cmpList]
  | [], _ :: _, _, _ => by simp [Val.cmpList]
  | _ :: _, [], _, _ => by simp [Val.cmpList]
  | v :: vs, w :: ws, hv, hw => by
    simp only [Val.okList, Bool.and_eq_true] at hv hw
    simp only [Val.cmpList]
    split
    · exact Val.cmpList_range vs ws hv.2 hw.2
    · exact Val.cmp_range v w hv.1 hw.1
end

theorem Val.cmp_le_key {v w : Val} (hv : v.ok = true) (hw : w.ok = true) (h : Val.cmp v w ≤ 0) :
    lexI (hkey v) (hkey w) ≤ 0 := by
  rw [Val.cmp_char _ _ hv hw] at h
  by_cases e : lexI (hkey v) (hkey w) = 0
  · omega
  · simpa [e] using h

theorem Val.key_chain {a b c : Val} (ha : a.ok = true) (hb : b.ok = true) (hc : c.ok = true)
    (h1 : Val.cmp a b ≤ 0) (h2 : Val.cmp b c ≤ 0) :
    (Val.cmp a c < 0) ∨ (hkey a = hkey b ∧ hkey b = hkey c) := by
  have k1 := Val.cmp_le_key ha hb h1
  have k2 := Val.cmp_le_key hb hc h2
  by_cases e : lexI (hkey a) (hkey c) = 0
  · have eac := lexI_eq_zero e
    have kab : lexI (hkey a) (hkey b) = 0 := by
      have := lexI_antisymm (hkey a) (hkey b)
      rw [← eac] at k2
      omega
    have eab := lexI_eq_zero kab
    exact .inr ⟨eab, eab ▸ eac⟩
  · have := lexI_trans k1 k2
    rw [Val.cmp_char _ _ ha hc, if_pos e]
    exact .inl (by omega)

/- Transitivity together with "equal ends force an equal middle": the second half is what lets
   the induction over lists go on behind a pair of equal heads. -/
mutual
theorem Val.cmp_chain (a b c : Val) (ha : a.ok = true) (hb : b.ok = true) (hc : c.ok = true)
    (h1 : Val.cmp a b ≤ 0) (h2 : Val.cmp b c ≤ 0) :
    Val.cmp a c ≤ 0 ∧ (Val.cmp a c = 0 → Val.cmp a b = 0 ∧ Val.cmp b c = 0) := by
  rcases Val.key_chain ha hb hc h1 h2 with k | ⟨eab, ebc⟩
  · exact ⟨by omega, fun h => by omega⟩
  · rw [Val.cmp_of_key_eq ha hb eab] at h1 ⊢
    rw [Val.cmp_of_key_eq hb hc ebc] at h2 ⊢
    rw [Val.cmp_of_key_eq ha hc (eab.trans ebc)]
    cases a with
    | sc x =>
      cases b with
      | sc y => simp [Val.under]
      | arr t e => obtain ⟨_, _, h⟩ := hkey_arr_eq ha eab.symm; cases h
    | arr t1 e1 =>
      obtain ⟨t2, e2, rfl⟩ := hkey_arr_eq hb eab
      obtain ⟨t3, e3, rfl⟩ := hkey_arr_eq hc (eab.trans ebc)
      exact Val.cmpList_chain e1 e2 e3 ha hb hc h1 h2
theorem Val.cmpList_chain (as bs cs : List Val) (ha : Val.okList as = true)
    (hb : Val.okList bs = true) (hc : Val.okList cs = true)
    (h1 : Val.cmpList as bs ≤ 0) (h2 : Val.cmpList bs cs ≤ 0) :
    Val.cmpList as cs ≤ 0 ∧ (Val.cmpList as cs = 0 → Val.cmpList as bs = 0 ∧ Val.cmpList bs cs = 0) := by
  match as, bs, cs with
  | [], [], [] => simp [Val.cmpList]
  | [], [], _ :: _ => simp [Val.cmpList]
  | [], _ :: _, [] => simp [Val.cmpList] at h2
  | [], _ :: _, _ :: _ => simp [Val.cmpList]
  | _ :: _, [], _ => simp [Val.cmpList] at h1
  | _ :: _, _ :: _, [] => simp [Val.cmpList] at h2
  | x :: xs, y :: ys, z :: zs =>
    simp only [Val.okList, Bool.and_eq_true] at ha hb hc
    simp only [Val.cmpList] at h1 h2 ⊢
    have p : Val.cmp x y ≤ 0 := by
      by_cases e : Val.cmp x y = 0
      · omega
      · simpa [e] using h1
    have q : Val.cmp y z ≤ 0 := by
      by_cases e : Val.cmp y z = 0
      · omega
      · simpa [e] using h2
    obtain ⟨r, r0⟩ := Val.cmp_chain x y z ha.1 hb.1 hc.1 p q
    by_cases e : Val.cmp x z = 0
    · obtain ⟨p0, q0⟩ := r0 e
      simp only [p0, q0, e, ↓reduceIte] at h1 h2 ⊢
      exact Val.cmpList_chain xs ys zs ha.2 hb.2 hc.2 h1 h2
    · simp only [if_neg e]
      exact ⟨r, fun h => absurd h e⟩
end

theorem Val.cmp_trans : ∀ (a b c : Val), a.ok = true → b.ok = true → c.ok = true →
    Val.cmp a b ≤ 0 → Val.cmp b c ≤ 0 → Val.cmp a c ≤ 0 :=
  fun a b c ha hb hc h1 h2 => (Val.cmp_chain a b c ha hb hc h1 h2).1

end Rtosc.ArgVal
