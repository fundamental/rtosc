/-
  C04 helper lemmas: what a callback sees in `loc`, at the strength of
  the sentence "loc holds the address up to and including the part the callback's own name
  accounts for" — `LocOK` (Proofs/PortsProps.lean) only says that `loc` is *some* prefix of the full
  address which ends in '/' or is all of it, and does not mention the port's name.

  `LocExact P full ex c` (Ports/DispatchSpec.lean): the log entry `c` names a port of the tree (`PPorts.portAt`), and for that
  port's structured name `p`
      loc = pre ++ mid,   pre ++ mid ++ rest = full,   msg pointer = mid ++ rest ++ NUL …,
      `Accounts p mid rest`: `mid ++ rest` spells the segments of `p` and what is left is "/" ++ rest
                             (name with trailing '/': `mid` is the spelled text and that '/'), or
                             nothing at all (name without: `rest` is empty, `mid` the spelled text).
  A default handler sees loc ++ (its msg pointer's address) = full.
-/
import RtoscModel.Proofs.PortsEntry
namespace Rtosc.Ports
open Rtosc Rtosc.Match

theorem Hit.patFrom {tags : Bytes} {t : PTable} {i : Nat} {a : Bytes} {q : List Nat} {p : Pat} {lf : Bool}
    {pfx path t' : Bytes} (h : Hit tags t i a q p lf pfx path t') : t.patFrom i q = some p := by
  induction h with
  | leaf_here _ | node_here _ => simp [PTable.patFrom]
  | @leaf_rest _ _ i _ _ _ _ _ _ _ h ih | @node_rest _ _ _ _ i _ _ _ _ _ _ _ h ih =>
    obtain ⟨j, r, rfl, hj⟩ := h.head
    have : ¬ j = i := by omega
    simp only [PTable.patFrom, this, ↓reduceIte]
    exact ih
  | child _ h ih =>
    obtain ⟨j, r, rfl, _⟩ := h.head
    simp only [PTable.patFrom, ↓reduceIte, reduceCtorEq]
    exact ih

/-- **loc_full_address at full strength, on the log** -/
theorem LogEntry.locExact {H : Prop} {P : PPorts} (hwf : P.tab.WF) {tags : Bytes} {obj : List Nat} {L a ex : Bytes}
    {c : Call} (h : LogEntry H tags P.tab 0 [] obj L a ex c) : LocExact P (L ++ a) ex c := by
  unfold LocExact
  rcases h with ⟨q, p, lf, pfx, path, t', h, e⟩ | ⟨s, pfx, a', h, e⟩
  · have hsp := (matchB_shape h.matches).1
    simp only [e.who, List.nil_append]
    refine ⟨p, h.patFrom, L ++ pfx, consumed path t', t', e.loc, ?_, by rw [e.m, ← hsp], accounts_of_match h.matches⟩
    rw [List.append_assoc, ← hsp, List.append_assoc, ← h.split hwf]
  · simp only [e.who]
    exact ⟨L ++ pfx, a', e.loc, by rw [List.append_assoc, ← h.split hwf], e.m⟩

theorem locExact_locOK {P : PPorts} {full ex : Bytes} {c : Call} (h : LocExact P full ex c) : LocOK full ex c := by
  unfold LocExact at h
  unfold LocOK
  split at h
  · next q hq =>
    obtain ⟨p, _, pre, mid, rest, h1, h2, h3, h4⟩ := h
    refine ⟨pre ++ mid, rest, h1, h2, ?_⟩
    simp only [hq]
    refine ⟨pre, mid, rfl, h3, ?_⟩
    have := accounts_shape h4
    cases hs : p.sub with
    | true => simp only [hs, ↓reduceIte] at this; exact Or.inr this
    | false => simp only [hs, Bool.false_eq_true, ↓reduceIte] at this; exact Or.inl this
  · next q hq =>
    obtain ⟨l, rest, h1, h2, h3⟩ := h
    exact ⟨l, rest, h1, h2, by simp only [hq]; exact h3⟩

theorem locExact_leaf_full {P : PPorts} {full ex : Bytes} {c : Call} (h : LocExact P full ex c)
    {q : List Nat} {p : Pat} (hq : c.who = .port q) (hp : P.portAt q = some p) (hs : p.sub = false) :
    c.loc = some full := by
  unfold LocExact at h
  simp only [hq] at h
  obtain ⟨p', hp', pre, mid, rest, h1, h2, _, h4⟩ := h
  rw [hp] at hp'
  cases hp'
  have := accounts_shape h4
  simp only [hs, Bool.false_eq_true, ↓reduceIte] at this
  subst this
  rw [h1, ← h2, List.append_nil]

/-- every callback in the log of a dispatch is the callback of a port of the tree whose own name admits the
    message *at the message pointer the callback is handed* — so what `rBOILS_BEGIN` computes inside
    `rRecursCb` / `rRecurspCb` from its two inputs (`msg`, `data.port->name`) is covered by
    `recursIdx_of_match`, for every invocation -/
theorem LogEntry.own_match {H : Prop} {P : PPorts} (hwf : P.tab.WF) {tags : Bytes} {obj : List Nat} {L a ex : Bytes}
    {c : Call} (h : LogEntry H tags P.tab 0 [] obj L a ex c) :
    ∀ q, c.who = .port q → ∃ p a', P.portAt q = some p ∧ c.m = a' ++ 0 :: ex ∧ Admits p a' tags := by
  intro x hx
  rcases h with ⟨q, p, lf, pfx, path, t', h, e⟩ | ⟨s, pfx, a', _, e⟩
  · obtain rfl : q = x := by simpa [e.who] using hx
    exact ⟨p, path, h.patFrom, e.m, (matchB_iff_admits (h.nameWf hwf) path tags).mp (by simp [h.matches])⟩
  · simp [e.who] at hx

end Rtosc.Ports
