/-
  C09 helper lemmas: what the pieces of a well-formed name look like (characters, the type part,
  C18's `lit`), and the copy loops of `bundle_foreach` / `walk_ports_recurse0` on such a name as plain
  stores of a byte string.
-/
import RtoscModel.Proofs.WalkLibc
import RtoscModel.Proofs.WalkBuf
namespace Rtosc.Walk
open Rtosc Rtosc.Path Rtosc.Match

theorem textOk_ne {t : Bytes} (h : textOk t = true) : ∀ c ∈ t, c ≠ 0 ∧ c ≠ 35 ∧ c ≠ 58 := by
  intro c hc
  have := litChar_ne (List.all_eq_true.mp h c hc)
  exact ⟨this.1, this.2.1, this.2.2.2.2⟩

theorem textOk_nulfree {t : Bytes} (h : textOk t = true) : NulFree t := fun c hc => (textOk_ne h c hc).1

theorem NulFree.append {a b : Bytes} (ha : NulFree a) (hb : NulFree b) : NulFree (a ++ b) := by
  intro c hc
  rcases List.mem_append.mp hc with h | h
  · exact ha c h
  · exact hb c h

theorem nulFree_nil : NulFree ([] : Bytes) := fun _ h => by simp at h

theorem nulFree_slash : NulFree ([47] : Bytes) := by
  intro c hc; simp at hc; subst hc; decide

theorem mem_slashIf {b : Bool} {c : UInt8} (h : c ∈ slashIf b) : c = 47 := by
  cases b
  · exact nomatch h
  · exact List.mem_singleton.mp h

theorem nulFree_slashIf (b : Bool) : NulFree (slashIf b) := by
  cases b
  · exact nulFree_nil
  · exact nulFree_slash

theorem renderTypeAlts_no_hash (ts : List Bytes)
    (h : ts.all (fun t => t.all fun c => tagChar c && c != 35) = true) : ∀ c ∈ renderTypeAlts ts, c ≠ 35 := by
  induction ts with
  | nil => intro c hc; simp [renderTypeAlts] at hc
  | cons t r ih =>
    simp only [List.all_cons, Bool.and_eq_true] at h
    intro c hc
    simp only [renderTypeAlts, List.mem_cons, List.mem_append] at hc
    rcases hc with (rfl | hc) | hc
    · decide
    · have := List.all_eq_true.mp h.1 c hc
      simp only [Bool.and_eq_true, bne_iff_ne, ne_eq] at this
      exact this.2
    · exact ih h.2 c hc

theorem renderTypes_no_hash {ty : Option (List Bytes)} (h : typesOk ty = true) :
    ∀ c ∈ renderTypes ty, c ≠ 35 := by
  cases ty with
  | none => intro c hc; simp [renderTypes] at hc
  | some ts =>
    simp only [typesOk, Bool.and_eq_true] at h
    exact renderTypeAlts_no_hash ts h.2

/-- what `partsOk` asks of the first piece `#N text`, and of the rest -/
structure PartsOkCons (ds t : Bytes) (r : List (Bytes × Bytes)) : Prop where
  num : numOk ds = true
  text : textOk t = true
  nodigit : startsWithDigit t = false
  mid : t ≠ [] ∨ r = []
  rest : partsOk r = true

theorem partsOk_cons {ds t : Bytes} {r : List (Bytes × Bytes)} (h : partsOk ((ds, t) :: r) = true) :
    PartsOkCons ds t r := by
  cases r with
  | nil =>
    simp only [partsOk, Bool.and_eq_true, Bool.not_eq_eq_eq_not, Bool.not_true] at h
    exact ⟨h.1.1, h.1.2, h.2, Or.inr rfl, rfl⟩
  | cons p r =>
    simp only [partsOk, Bool.and_eq_true, Bool.not_eq_eq_eq_not, Bool.not_true,
      List.isEmpty_eq_false_iff] at h
    exact ⟨h.1.1.1.1, h.1.1.1.2, h.1.1.2, Or.inl h.1.2, h.2⟩

theorem numOk_spec {ds : Bytes} (h : numOk ds = true) :
    ds ≠ [] ∧ (∀ c ∈ ds, Match.isDigit c = true) ∧ decVal ds < 2 ^ 31 := by
  simp only [numOk, Bool.and_eq_true, Bool.not_eq_eq_eq_not, Bool.not_true, List.isEmpty_eq_false_iff,
    decide_eq_true_eq] at h
  exact ⟨h.1.1, fun c hc => List.all_eq_true.mp h.1.2 c hc, h.2⟩

theorem mem_expandParts_cons {ds t : Bytes} {r : List (Bytes × Bytes)} {a : Bytes} :
    a ∈ expandParts ((ds, t) :: r) ↔ ∃ i, i < decVal ds ∧ ∃ b ∈ expandParts r, a = natDigits i ++ t ++ b := by
  simp only [expandParts, List.mem_flatMap, List.mem_range, List.mem_map]
  constructor
  · rintro ⟨i, hi, b, hb, rfl⟩; exact ⟨i, hi, b, hb, rfl⟩
  · rintro ⟨i, hi, b, hb, rfl⟩; exact ⟨i, hi, b, hb, rfl⟩

theorem expandParts_nil_mem {a : Bytes} : a ∈ expandParts [] ↔ a = [] := by
  simp [expandParts]

theorem startsWithDigit_append (t x : Bytes) (ht : startsWithDigit t = false)
    (hx : startsWithDigit x = false) : startsWithDigit (t ++ x) = false := by
  cases t with
  | nil => simpa using hx
  | cons c r => simpa [startsWithDigit] using ht

theorem startsWithDigit_renderParts (ps : List (Bytes × Bytes)) : startsWithDigit (renderParts ps) = false := by
  cases ps with
  | nil => rfl
  | cons p r => obtain ⟨ds, t⟩ := p; simp [renderParts, startsWithDigit]; decide

theorem startsWithDigit_slashIf (b : Bool) : startsWithDigit (slashIf b) = false := by
  cases b <;> simp [slashIf, startsWithDigit] <;> decide

theorem startsWithDigit_types (ty : Option (List Bytes)) : startsWithDigit (renderTypes ty) = false := by
  rcases renderTypes_head ty with e | ⟨r, e⟩ <;> rw [e] <;> simp [startsWithDigit] <;> decide

theorem renderParts_ne (ps : List (Bytes × Bytes)) (h : partsOk ps = true) :
    ∀ c ∈ renderParts ps, c ≠ 0 ∧ c ≠ 58 := by
  induction ps with
  | nil => intro c hc; simp [renderParts] at hc
  | cons p r ih =>
    obtain ⟨ds, t⟩ := p
    obtain ⟨h1, h2, _, _, h5⟩ := partsOk_cons h
    obtain ⟨_, hd, _⟩ := numOk_spec h1
    intro c hc
    simp only [renderParts, List.mem_cons, List.mem_append] at hc
    rcases hc with ((rfl | hc) | hc) | hc
    · decide
    · exact ⟨digit_ne (hd c hc) (by decide), digit_ne (hd c hc) (by decide)⟩
    · have := textOk_ne h2 c hc; exact ⟨this.1, this.2.2⟩
    · exact ih h5 c hc

theorem WName.ok_spec {w : WName} (h : w.ok = true) :
    textOk w.head = true ∧ partsOk w.parts = true ∧ typesOk w.types = true := by
  simp only [WName.ok, Bool.and_eq_true] at h
  exact ⟨h.1.1.1, h.1.1.2, h.1.2⟩

theorem startsWithDigit_tail {ds t : Bytes} {r : List (Bytes × Bytes)} (h : partsOk ((ds, t) :: r) = true)
    {b s : Bytes} (hb : b ∈ expandParts r) (hs : startsWithDigit s = false) :
    startsWithDigit (t ++ b ++ s) = false := by
  obtain ⟨_, _, h3, h4, _⟩ := partsOk_cons h
  cases t with
  | cons c q => simpa [startsWithDigit] using h3
  | nil =>
    rcases h4 with h4 | h4
    · exact absurd rfl h4
    · subst h4
      rw [expandParts_nil_mem] at hb
      subst hb
      simpa using hs

theorem STree.wf_leaf {w : WName} {md : Option Bytes} : (STree.leaf w md).wf = true ↔ w.ok = true := Iff.rfl

theorem STree.wf_sub {w : WName} {md : Option Bytes} {kids : List STree} :
    (STree.sub w md kids).wf = true ↔ w.subOk = true ∧ wfList kids = true := by
  rw [STree.wf, Bool.and_eq_true]

theorem takeWhile_colon (b tl : Bytes) (hb : ∀ c ∈ b, c ≠ 58) (htl : TypeTail tl) :
    (b ++ tl).takeWhile (· ≠ COLON) = b := by
  rw [List.takeWhile_append_of_pos (p := (· ≠ COLON)) (fun c hc => decide_eq_true (hb c hc))]
  rcases htl with rfl | ⟨r, rfl⟩ <;> simp [COLON]

theorem lit_render {w : WName} (hok : w.ok = true) : lit w.render = w.body := by
  obtain ⟨hhead, hparts, _⟩ := WName.ok_spec hok
  unfold lit WName.render
  apply takeWhile_colon
  · intro c hc
    simp only [WName.body, List.mem_append] at hc
    rcases hc with (hc | hc) | hc
    · exact (textOk_ne hhead c hc).2.2
    · exact (renderParts_ne _ hparts c hc).2
    · rw [mem_slashIf hc]; decide
  · exact renderTypes_head _

theorem findHash_none (s : Bytes) (h : ∀ c ∈ s, c ≠ 35) : findHash s = none := by
  induction s with
  | nil => rfl
  | cons c r ih =>
    simp [findHash, h c List.mem_cons_self, ih (fun x hx => h x (List.mem_cons_of_mem _ hx))]

theorem findHash_append (s x : Bytes) (h : ∀ c ∈ s, c ≠ 35) : findHash (s ++ 35 :: x) = some s.length := by
  induction s with
  | nil => simp [findHash]
  | cons c r ih =>
    simp [findHash, h c List.mem_cons_self, ih (fun x hx => h x (List.mem_cons_of_mem _ hx))]

/-- `while(*name != '#') *pos++ = *name++` stores exactly the text in front of the '#' -/
theorem bfCopyToHash_eq_writeBytes : ∀ (h x : Bytes) (b : Buf) (pos : Nat), (∀ c ∈ h, c ≠ 35) →
    bfCopyToHash (h ++ 35 :: x) b pos = (writeBytes h b pos).map fun b' => (35 :: x, b', pos + h.length)
  | [], x, b, pos, _ => by simp [bfCopyToHash, writeBytes, Except.map]
  | c :: r, x, b, pos, hh => by
    have hc : c ≠ 35 := hh c List.mem_cons_self
    simp only [List.cons_append, bfCopyToHash, hc, ↓reduceIte, writeBytes]
    cases wr b pos c with
    | error e => rfl
    | ok b' =>
      simp only [bfCopyToHash_eq_writeBytes r x b' (pos + 1) (fun y hy => hh y (List.mem_cons_of_mem _ hy)),
        List.length_cons, Nat.add_assoc, Nat.add_comm 1]

/-- `while(to_copy-->0 && *read_head != ':')` on `s ++ tl`: either exactly `s` is to be copied,
    or more but `tl` begins with ':' — `s` is stored, the read head stands at `tl` -/
theorem copyN_eq_writeBytes : ∀ (s tl : Bytes) (b : Buf) (pos k : Nat), (∀ c ∈ s, c ≠ 58) →
    (k = 0 ∨ ∃ r, tl = 58 :: r) →
    copyN (s.length + k) (s ++ tl) b pos = (writeBytes s b pos).map fun b' => (tl, b', pos + s.length)
  | [], tl, b, pos, k, _, hk => by
    rcases hk with rfl | ⟨r, rfl⟩
    · simp [copyN, writeBytes, Except.map]
    · cases k <;> simp [copyN, writeBytes, Except.map]
  | c :: r, tl, b, pos, k, hs, hk => by
    have hc : c ≠ 58 := hs c List.mem_cons_self
    have e0 : (c :: r).length + k = (r.length + k) + 1 := by simp only [List.length_cons]; omega
    rw [e0]
    simp only [List.cons_append, copyN, hc, ↓reduceIte, writeBytes]
    cases wr b pos c with
    | error e => rfl
    | ok b' =>
      simp only [copyN_eq_writeBytes r tl b' (pos + 1) k (fun y hy => hs y (List.mem_cons_of_mem _ hy)) hk,
        List.length_cons, Nat.add_assoc, Nat.add_comm 1]

theorem Holds.copyN {N : Nat} {X : Bytes} {b : Buf} (h : Holds N X b) (s tl : Bytes) (k : Nat) {p : Nat}
    (hp : p = X.length) (hs : ∀ c ∈ s, c ≠ 58) (hk : k = 0 ∨ ∃ r, tl = 58 :: r) (hr : X.length + s.length ≤ N) :
    ∃ b', Walk.copyN (s.length + k) (s ++ tl) b p = .ok (tl, b', p + s.length) ∧ Holds N (X ++ s) b' := by
  obtain ⟨b', h1, H1⟩ := h.writeBytes s hp hr
  exact ⟨b', by rw [copyN_eq_writeBytes s tl _ _ k hs hk, h1]; rfl, H1⟩

theorem Holds.bfCopyToHash {N : Nat} {X : Bytes} {b : Buf} (h : Holds N X b) (hd x : Bytes) {p : Nat}
    (hp : p = X.length) (hh : ∀ c ∈ hd, c ≠ 35) (hr : X.length + hd.length ≤ N) :
    ∃ b', Walk.bfCopyToHash (hd ++ 35 :: x) b p = .ok (35 :: x, b', p + hd.length) ∧ Holds N (X ++ hd) b' := by
  obtain ⟨b', h1, H1⟩ := h.writeBytes hd hp hr
  exact ⟨b', by rw [bfCopyToHash_eq_writeBytes hd x _ _ hh, h1]; rfl, H1⟩

theorem mem_maxLen {l : List Bytes} {a : Bytes} (h : a ∈ l) : a.length ≤ maxLen l := by
  induction l with
  | nil => simp at h
  | cons b r ih =>
    simp only [List.mem_cons] at h
    simp only [maxLen]
    rcases h with rfl | h
    · omega
    · have := ih h; omega

end Rtosc.Walk
