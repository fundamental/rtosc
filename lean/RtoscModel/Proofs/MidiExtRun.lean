/-
  C20 — from single steps of arbitrary histories to the message SEQUENCE of a run of the
  executable model: the state and history in front of step `i` of `run P Sys.init ops` are those of the
  prefix `ops.take i`, and a run on which the trigger predicates are false is hazard-free at every prefix.
-/
import RtoscModel.Proofs.MidiExtEmit
namespace Rtosc.Midi

theorem run_append {P : List PortSpec} : ∀ (a b : List Op) (s0 s : Sys) (outs : List (List Msg)),
    run P s0 (a ++ b) = some (s, outs) →
    ∃ s1 o1 o2, run P s0 a = some (s1, o1) ∧ run P s1 b = some (s, o2) ∧ outs = o1 ++ o2 ∧ o1.length = a.length := by
  intro a
  induction a with
  | nil => intro b s0 s outs h; exact ⟨s0, [], outs, rfl, by simpa using h, rfl, rfl⟩
  | cons op a ih =>
    intro b s0 s outs h
    obtain ⟨s1, out, outs2, hs, hr, rfl⟩ := run_cons.mp h
    obtain ⟨s3, o1, o2, h1, h2, rfl, hl⟩ := ih b s1 s outs2 hr
    exact ⟨s3, out :: o1, o2, run_cons.mpr ⟨_, _, _, hs, h1, rfl⟩, h2, rfl, by simp [hl]⟩

theorem run_length {P : List PortSpec} : ∀ (ops : List Op) (s0 s : Sys) (outs : List (List Msg)),
    run P s0 ops = some (s, outs) → outs.length = ops.length := by
  intro ops s0 s outs h
  obtain ⟨s1, o1, o2, h1, h2, rfl, hl⟩ := run_append ops [] s0 s outs (by simpa using h)
  simp only [run, Option.some.injEq, Prod.mk.injEq] at h2
  obtain ⟨_, rfl⟩ := h2
  simpa using hl

theorem anyStep_prefix {P : List PortSpec} (hz : Sys → Op → Bool) : ∀ (a b : List Op) (s0 : Sys),
    anyStep hz P s0 (a ++ b) = false → anyStep hz P s0 a = false := by
  intro a
  induction a with
  | nil => intro b s0 _; rfl
  | cons op a ih =>
    intro b s0 h
    simp only [List.cons_append, anyStep, Bool.or_eq_false_iff] at h ⊢
    refine ⟨h.1, ?_⟩
    cases hs : step P s0 op with
    | none => rfl
    | some r => simp only [hs] at h ⊢; exact ih b r.1 h.2

theorem histOf_hazardFree {P : List PortSpec} : ∀ (ops : List Op) (s0 : Sys),
    anyStep hazard P s0 ops = false → HazardFree (histOf P s0 ops) := by
  intro ops
  induction ops with
  | nil => intro s0 _ x hx; simp [histOf] at hx
  | cons op ops ih =>
    intro s0 h x hx
    simp only [anyStep, Bool.or_eq_false_iff] at h
    simp only [histOf] at hx
    cases hs : step P s0 op with
    | none => simp [hs] at hx
    | some r =>
      obtain ⟨s1, out⟩ := r
      simp only [hs, List.mem_append, List.mem_singleton] at hx h
      rcases hx with hx | rfl
      · exact ih s1 h.2 x hx
      · exact h.1

end Rtosc.Midi
