/-
  C15 — the application built from C14's ports (`PApp`, RtoscModel/UndoPorts.lean) refines the
  hand-written application `App` (RtoscModel/Undo.lean): generic part.

  The proof is parametric in two predicates per table entry `c`:
    `Stable c f`   — the field value `f` is one the port reproduces when it is sent to it
    `ArgsOK c as`  — the argument list of a message lies in the domain of C14's theorems
  and needs, per entry, the three facts of `PortSem` (what a message does; what an undo
  message does; the address fits the history's buffer).  The definitions are in
  RtoscModel/UndoPortsSpec.lean, also the two predicates for the scalar macros, for which
  Proofs/UndoPortsKinds.lean derives `PortSem` from C14's theorems.
-/
import RtoscModel.UndoPortsSpec
import RtoscModel.Proofs.UndoLemmas
import RtoscModel.Proofs.BasicLemmas
namespace Rtosc.Undo
open Rtosc

theorem absStore_at (σ0 : Store) : ∀ (tbl : List PStat) (fs : List Param.Field) (i : Nat)
    (c : PStat) (f : Param.Field), (tbl.map PStat.loc).Nodup → tbl[i]? = some c → fs[i]? = some f →
    c.undoable = true → absStore σ0 tbl fs c.loc = encFld f := by
  intro tbl
  induction tbl with
  | nil => intro fs i c f _ h; simp at h
  | cons c0 cs ih =>
    intro fs i c f hn hc hf hu
    cases fs with
    | nil => simp at hf
    | cons f0 fs =>
      simp only [List.map_cons, List.nodup_cons, List.mem_map, not_exists, not_and] at hn
      cases i with
      | zero =>
        simp only [List.getElem?_cons_zero, Option.some.injEq] at hc hf
        subst hc; subst hf
        simp [absStore, hu, set_same]
      | succ i =>
        simp only [List.getElem?_cons_succ] at hc hf
        have hmem : c ∈ cs := List.mem_iff_getElem?.mpr ⟨i, hc⟩
        have hne : c.loc ≠ c0.loc := fun h => hn.1 c hmem h
        simp only [absStore]
        split
        · rw [set_other _ _ _ _ hne]; exact ih fs i c f hn.2 hc hf hu
        · exact ih fs i c f hn.2 hc hf hu

theorem absStore_set (σ0 : Store) : ∀ (tbl : List PStat) (fs : List Param.Field) (i : Nat)
    (c : PStat) (f' : Param.Field), (tbl.map PStat.loc).Nodup → tbl[i]? = some c → i < fs.length →
    absStore σ0 tbl (fs.set i f') =
      if c.undoable then (absStore σ0 tbl fs).set c.loc (encFld f') else absStore σ0 tbl fs := by
  intro tbl
  induction tbl with
  | nil => intro fs i c f' _ h; simp at h
  | cons c0 cs ih =>
    intro fs i c f' hn hc hi
    cases fs with
    | nil => simp at hi
    | cons f0 fs =>
      simp only [List.map_cons, List.nodup_cons, List.mem_map, not_exists, not_and] at hn
      cases i with
      | zero =>
        simp only [List.getElem?_cons_zero, Option.some.injEq] at hc
        subst hc
        simp only [List.set_cons_zero, absStore]
        split
        · rw [set_set]
        · rfl
      | succ i =>
        simp only [List.getElem?_cons_succ] at hc
        have hi' : i < fs.length := by simpa using hi
        have hmem : c ∈ cs := List.mem_iff_getElem?.mpr ⟨i, hc⟩
        have hne : c.loc ≠ c0.loc := fun h => hn.1 c hmem h
        simp only [List.set_cons_succ, absStore]
        rw [ih fs i c f' hn.2 hc hi']
        cases hu : c.undoable <;> cases hu0 : c0.undoable <;> simp
        rw [set_comm _ _ _ _ _ hne]

theorem deliverTo_none (m : Msg) : ∀ (tbl : List PStat) (fs : List Param.Field),
    (∀ c ∈ tbl, c.loc ≠ m.addr) → deliverTo m tbl fs = some fs := by
  intro tbl
  induction tbl with
  | nil => intro fs _; cases fs <;> rfl
  | cons c0 cs ih =>
    intro fs h
    cases fs with
    | nil => rfl
    | cons f0 fs =>
      have h0 : c0.loc ≠ m.addr := h c0 (by simp)
      simp only [deliverTo, h0, if_false, ih fs (fun c hc => h c (by simp [hc])), Option.map_some]

theorem deliverTo_at (m : Msg) (a : Param.Arg) (hm : msgArg m = some a) :
    ∀ (tbl : List PStat) (fs : List Param.Field) (i : Nat) (c : PStat) (f v : Param.Field)
      (ev : List Param.Event), (tbl.map PStat.loc).Nodup → tbl[i]? = some c → fs[i]? = some f →
      c.loc = m.addr → Param.dispatch c.port c.pfx c.path f [a] = .ok (some (v, ev)) →
      deliverTo m tbl fs = some (fs.set i v) := by
  intro tbl
  induction tbl with
  | nil => intro fs i c f v ev _ h; simp at h
  | cons c0 cs ih =>
    intro fs i c f v ev hn hc hf hl hd
    cases fs with
    | nil => simp at hf
    | cons f0 fs =>
      simp only [List.map_cons, List.nodup_cons, List.mem_map, not_exists, not_and] at hn
      cases i with
      | zero =>
        simp only [List.getElem?_cons_zero, Option.some.injEq] at hc hf
        subst hc; subst hf
        have hrest : deliverTo m cs fs = some fs :=
          deliverTo_none m cs fs (fun c' hc' h' => hn.1 c' hc' (h'.trans hl.symm))
        simp only [deliverTo, hl, if_true, hm, hd, hrest, Option.map_some, List.set_cons_zero]
      | succ i =>
        simp only [List.getElem?_cons_succ] at hc hf
        have hmem : c ∈ cs := List.mem_iff_getElem?.mpr ⟨i, hc⟩
        have hne : c0.loc ≠ m.addr := fun h => hn.1 c hmem (hl.trans h.symm)
        simp only [deliverTo, hne, if_false, ih fs i c f v ev hn.2 hc hf hl hd, Option.map_some,
          List.set_cons_succ]

theorem seek_emits_hist (s s' : State) (d : Int) (ms : List Emit) (hw : WF s)
    (h : seekHistory s d = some (s', ms)) :
    ∀ m ∈ ms, m = none ∨ ∃ x ∈ s.hist, m = some ⟨x.2.addr, x.2.tag, x.2.old⟩ ∨
      m = some ⟨x.2.addr, x.2.tag, x.2.new⟩ := by
  induction s, hw using WF.rec_zip with | _ a u
  intro m hm
  rcases Int.eq_nat_or_neg d with ⟨k, rfl | rfl⟩
  · rw [seek_fwd_zip] at h; cases h
    obtain ⟨x, hx, hmx⟩ := List.mem_flatMap.mp hm
    unfold replayMsg at hmx
    split at hmx
    · exact .inr ⟨x, mem_zip.mpr (.inr (List.mem_of_mem_take hx)), .inr (by simpa using hmx)⟩
    · cases hmx
  · rw [seek_back_zip] at h; cases h
    obtain ⟨x, hx, rfl⟩ := List.mem_map.mp hm
    unfold rewindMsg
    split
    · exact .inr ⟨x, mem_zip.mpr (.inl (List.mem_of_mem_take hx)), .inl rfl⟩
    · exact .inl rfl

section generic
variable {Stable : PStat → Param.Field → Prop} {ArgsOK : PStat → List Param.Arg → Prop}

def StableAll (Stable : PStat → Param.Field → Prop) (tbl : List PStat) (fs : List Param.Field) : Prop :=
  ∀ (i : Nat) c f, tbl[i]? = some c → fs[i]? = some f → Stable c f

/-- a message the history emits: the zeroed buffer, or a stable value for an undoable port of the table -/
def EmitOK (Stable : PStat → Param.Field → Prop) (tbl : List PStat) (m : Emit) : Prop :=
  m = none ∨ ∃ c ∈ tbl, c.undoable = true ∧ ∃ v, Stable c v ∧ m = some ⟨c.loc, c.tag, encFld v⟩

theorem stable_set {tbl : List PStat} {fs : List Param.Field} {i : Nat} {c : PStat} {v : Param.Field}
    (hs : StableAll Stable tbl fs) (hi : tbl[i]? = some c) (hif : i < fs.length) (hv : Stable c v) :
    StableAll Stable tbl (fs.set i v) := by
  intro j c' f hj hf
  rw [List.getElem?_set] at hf
  by_cases hij : i = j
  · subst hij
    simp only [if_true, hif, Option.some.injEq] at hf
    rw [hi] at hj; cases hj; subst hf; exact hv
  · simp only [hij, if_false] at hf; exact hs j c' f hj hf

theorem evOK_splice {tbl : List PStat} (hn : (tbl.map PStat.loc).Nodup) (e ev : Event)
    (h1 : EvOK Stable tbl e) (h2 : EvOK Stable tbl ev) (ha : e.addr = ev.addr) :
    EvOK Stable tbl (splice e ev) := by
  obtain ⟨c, hc, hu, hl, _, ho, _⟩ := h1
  obtain ⟨c', hc', hu', hl', ht', _, hn'⟩ := h2
  have : c = c' := inj_of_nodup_map hn hc hc' (by rw [← hl, ← hl', ha])
  subst this
  exact ⟨c, hc, hu, hl', ht', ho, hn'⟩

/-- delivering the messages of a seek: every port ends with the value the message carries;
    on the abstract side this is `applyEmits` -/
theorem deliverAll_sim (σ0 : Store) {tbl : List PStat} (ht : TblOK Stable ArgsOK tbl) :
    ∀ (ms : List Emit) (fs : List Param.Field), fs.length = tbl.length →
    StableAll Stable tbl fs → (∀ m ∈ ms, EmitOK Stable tbl m) →
    ∃ fs', deliverAll tbl fs ms = some fs' ∧ fs'.length = tbl.length ∧ StableAll Stable tbl fs' ∧
      absStore σ0 tbl fs' = applyEmits (absStore σ0 tbl fs) ms := by
  intro ms
  induction ms with
  | nil => intro fs hl hs _; exact ⟨fs, rfl, hl, hs, rfl⟩
  | cons m ms ih =>
    intro fs hl hs hm
    have hrest : ∀ m' ∈ ms, EmitOK Stable tbl m' := fun m' h' => hm m' (by simp [h'])
    rcases hm m (by simp) with rfl | ⟨c, hc, hu, v, hv, rfl⟩
    · obtain ⟨fs', h1, h2, h3, h4⟩ := ih fs hl hs hrest
      exact ⟨fs', by simp only [deliverAll, deliver, h1], h2, h3, by rw [h4]; rfl⟩
    · obtain ⟨i, hi⟩ := List.mem_iff_getElem?.mp hc
      have hilt : i < tbl.length := (List.getElem?_eq_some_iff.mp hi).1
      have hif : i < fs.length := by omega
      have hfi : fs[i]? = some fs[i] := List.getElem?_eq_getElem hif
      obtain ⟨a, ev, ha, hd⟩ := (ht.sem c hc).undo_ok hu fs[i] v (hs i c _ hi hfi) hv
      have hdel : deliverTo ⟨c.loc, c.tag, encFld v⟩ tbl fs = some (fs.set i v) :=
        deliverTo_at _ a ha tbl fs i c fs[i] v ev ht.nodup hi hfi rfl hd
      have hs' := stable_set hs hi hif hv
      obtain ⟨fs', h1, h2, h3, h4⟩ := ih (fs.set i v) (by simpa using hl) hs' hrest
      refine ⟨fs', by simp only [deliverAll, deliver, hdel, h1], h2, h3, ?_⟩
      rw [h4, absStore_set σ0 tbl fs i c v ht.nodup hi hif, hu]
      rfl

/-- a seek of the port application: the history does what `seekHistory` does, and every message
    it emits is accepted by the port it addresses; on the abstract store this is `applyEmits` -/
theorem seek_sim (σ0 : Store) {tbl : List PStat} (ht : TblOK Stable ArgsOK tbl) (P : PApp)
    (hi : PInv Stable tbl P) (hw : WF P.u) (k : Int) (u' : State) (ms : List Emit)
    (hsk : seekHistory P.u k = some (u', ms)) :
    ∃ fs', P.step tbl (.seek k) = some ({ P with u := u', flds := fs' }, ms) ∧
      fs'.length = tbl.length ∧ StableAll Stable tbl fs' ∧
      absStore σ0 tbl fs' = applyEmits (absStore σ0 tbl P.flds) ms := by
  have hems : ∀ m ∈ ms, EmitOK Stable tbl m := by
    intro m hm
    rcases seek_emits_hist P.u u' k ms hw hsk m hm with h | ⟨x, hx, h⟩
    · exact Or.inl h
    · obtain ⟨c, hc, hu, hl, htg, ⟨fo, hfo, heo⟩, ⟨fn, hfn, hen⟩⟩ := hi.hist x hx
      right
      rcases h with h | h
      · exact ⟨c, hc, hu, fo, hfo, by rw [h, hl, htg, heo]⟩
      · exact ⟨c, hc, hu, fn, hfn, by rw [h, hl, htg, hen]⟩
  obtain ⟨fs', h1, h2, h3, h4⟩ := deliverAll_sim σ0 ht ms P.flds hi.len hi.stable hems
  exact ⟨fs', by simp only [PApp.step, hsk, h1], h2, h3, h4⟩

/-- **a message to port `i`**, the refinement step in detail.  An undoable port whose encoded
    value did not change still makes the step `set` of `App` (a `set` of the value already there). -/
theorem msg_sim (σ0 : Store) {tbl : List PStat} (ht : TblOK Stable ArgsOK tbl) (P : PApp)
    (hi : PInv Stable tbl P) (i : Nat) (c : PStat) (args : List Param.Arg)
    (hc : tbl[i]? = some c) (ha : ArgsOK c args) :
    ∃ f, P.flds[i]? = some f ∧
      (P.step tbl (.msg i args) = some (P, []) ∨
       ∃ f' P', Stable c f' ∧
         P' = { P with
                u := if c.undoable = true ∧ encFld f' ≠ encFld f
                     then recordEvent P.clock ⟨c.loc, c.tag, encFld f, encFld f'⟩ P.u else P.u
                flds := P.flds.set i f' } ∧
         P.step tbl (.msg i args) = some (P', []) ∧ (WF P.u → PInv Stable tbl P') ∧
         (c.undoable = true →
           (P.abs σ0 tbl).step (.set c.loc c.tag (encFld f')) = some (P'.abs σ0 tbl, [])) ∧
         (c.undoable = false → P'.abs σ0 tbl = P.abs σ0 tbl)) := by
  have hcm : c ∈ tbl := List.mem_iff_getElem?.mpr ⟨i, hc⟩
  have hilt : i < tbl.length := (List.getElem?_eq_some_iff.mp hc).1
  have hif : i < P.flds.length := by have := hi.len; omega
  have hfi : P.flds[i]? = some P.flds[i] := List.getElem?_eq_getElem hif
  have hst := hi.stable i c _ hc hfi
  refine ⟨P.flds[i], hfi, ?_⟩
  rcases (ht.sem c hcm).set_ok _ args hst ha with hd | ⟨f', ev, hd, hst', hdec⟩
  · left; simp only [PApp.step, hc, hfi, hd]
  · right
    have hset := absStore_set σ0 tbl P.flds i c f' ht.nodup hc hif
    refine ⟨f', _, hst', rfl, ?_,
      fun hw => ⟨by simpa using hi.len, stable_set hi.stable hc hif hst', ?_⟩, ?_, ?_⟩
    · simp only [PApp.step, hc, hfi, hd, hdec]
      split <;> rfl
    · split
      · rename_i hcond
        have hev : EvOK Stable tbl ⟨c.loc, c.tag, encFld P.flds[i], encFld f'⟩ :=
          ⟨c, hcm, hcond.1, rfl, rfl, ⟨_, hst, rfl⟩, ⟨_, hst', rfl⟩⟩
        exact record_all _ _ _ hw _ hi.hist hev (fun e he ha => evOK_splice ht.nodup e _ he hev ha)
      · exact hi.hist
    · intro hu
      have hat := absStore_at σ0 tbl P.flds i c _ ht.nodup hc hfi hu
      simp only [App.step, PApp.abs, hat, hset, hu, if_true, true_and]
      by_cases he : encFld P.flds[i] = encFld f'
      · rw [if_pos he, if_neg (fun h => h he.symm), set_self _ _ _ (by rw [hat, he])]
      · rw [if_neg he, if_pos (fun h => he h.symm)]
    · intro hu
      simp only [PApp.abs, hset, hu, Bool.false_eq_true, false_and, if_false]

/-- **one step of the port application is one step of `App`** (or changes nothing that
    `App` sees): the refinement step.  For a message that reaches the callback of an undoable
    port the abstract operation is `set <address> <tag> <encoding of the value now stored>`. -/
theorem step_sim (σ0 : Store) {tbl : List PStat} (ht : TblOK Stable ArgsOK tbl) (P : PApp)
    (hi : PInv Stable tbl P) (hg : Good (P.abs σ0 tbl)) (o : POp) (ho : POpOK ArgsOK tbl o) :
    ∃ P' ms, P.step tbl o = some (P', ms) ∧ PInv Stable tbl P' ∧
      ((P'.abs σ0 tbl = P.abs σ0 tbl ∧ ms = []) ∨
       ∃ o', OpFit o' ∧ (P.abs σ0 tbl).step o' = some (P'.abs σ0 tbl, ms)) := by
  have hw : WF P.u := hg.wf
  cases o with
  | tick d =>
    refine ⟨{ P with clock := P.clock + d }, [], rfl, ⟨hi.len, hi.stable, hi.hist⟩, Or.inr ⟨.tick d, trivial, rfl⟩⟩
  | seek k =>
    obtain ⟨⟨u', ms⟩, hsk⟩ := seek_total P.u hw k
    have hh := seek_hist P.u u' k ms hw hsk
    obtain ⟨fs', h1, h2, h3, h4⟩ := seek_sim σ0 ht P hi hw k u' ms hsk
    refine ⟨{ P with u := u', flds := fs' }, ms, h1,
      ⟨h2, h3, by intro x hx; exact hi.hist x (by rw [← hh.1]; exact hx)⟩,
      Or.inr ⟨.seek k, trivial, ?_⟩⟩
    simp only [App.step, PApp.abs, hsk, Option.map_some, h4]
  | msg i args =>
    obtain ⟨c, hc, hargs⟩ := ho
    obtain ⟨f, _, hs | ⟨f', P', _, _, hs, hi', hset, hsame⟩⟩ := msg_sim σ0 ht P hi i c args hc hargs
    · exact ⟨P, [], hs, hi, Or.inl ⟨rfl, rfl⟩⟩
    · refine ⟨P', [], hs, hi' hw, ?_⟩
      cases hu : c.undoable with
      | true => exact Or.inr ⟨.set c.loc c.tag (encFld f'), (ht.sem c (List.mem_iff_getElem?.mpr ⟨i, hc⟩)).fit hu, hset hu⟩
      | false => exact Or.inl ⟨hsame hu, rfl⟩

/-- **the run of the port application is a run of `App`**: for every list of operations in
    the domain the port application does not fail, and its final state abstracts to the
    final state of `App` run on a list of fitting operations (one `set` per message that
    reached the callback of an undoable port and changed nothing or something, the seeks and
    the clock steps, in order). -/
theorem run_sim (σ0 : Store) {tbl : List PStat} (ht : TblOK Stable ArgsOK tbl) :
    ∀ (ops : List POp) (P : PApp), PInv Stable tbl P → Good (P.abs σ0 tbl) → POpsOK ArgsOK tbl ops →
    ∃ P' ops', P.run tbl ops = some P' ∧ PInv Stable tbl P' ∧ Good (P'.abs σ0 tbl) ∧
      OpsFit ops' ∧ (P.abs σ0 tbl).run ops' = some (P'.abs σ0 tbl) := by
  intro ops
  induction ops with
  | nil =>
    intro P hi hg _
    exact ⟨P, [], rfl, hi, hg, (fun o ho => by cases ho), rfl⟩
  | cons o ops ih =>
    intro P hi hg ho
    obtain ⟨P1, ms, h1, hi1, h3⟩ := step_sim σ0 ht P hi hg o (ho o (by simp))
    have hg1 : Good (P1.abs σ0 tbl) := by
      rcases h3 with ⟨h, _⟩ | ⟨o', hf, h⟩
      · rw [h]; exact hg
      · exact good_step _ _ o' ms hg hf h
    obtain ⟨P', ops', hr, hi', hg', hf', hr'⟩ := ih P1 hi1 hg1 (fun x hx => ho x (by simp [hx]))
    rcases h3 with ⟨h, _⟩ | ⟨o', hf, h⟩
    · exact ⟨P', ops', by simp only [PApp.run, h1, hr], hi', hg', hf', by rw [← h]; exact hr'⟩
    · refine ⟨P', o' :: ops', by simp only [PApp.run, h1, hr], hi', hg', ?_, ?_⟩
      · intro x hx
        rcases List.mem_cons.mp hx with rfl | hx
        · exact hf
        · exact hf' x hx
      · simp only [App.run, h, Option.bind_some, hr']

end generic

end Rtosc.Undo
