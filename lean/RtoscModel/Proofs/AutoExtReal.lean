/-
  C19 — the default mapping of a logarithmic-scale parameter over the real numbers, with
  Mathlib's `Real.log` and `Real.exp`: the statement's "maps slot values 0..1 onto min..max"
  for a log-scale port, in the arithmetic the property is phrased in.  `realArith` performs
  every operation of the code exactly (no float rounding); `roundf` rounds halves away from
  zero and `(int)` truncates, as in `exact`.
-/
import Mathlib.Analysis.SpecialFunctions.Log.Basic
import RtoscModel.Proofs.AutoExtLog
namespace Rtosc.Auto
open Rtosc

noncomputable def realArith : Arith ℝ :=
  { le := fun x y => decide (x ≤ y)
    zero := 0, one := 1, half := 1/2, two := 2, hundred := 100
    ofInt := fun n => (n : ℝ)
    add32 := (· + ·), sub32 := (· - ·), mul32 := (· * ·)
    add64 := (· + ·), sub64 := (· - ·), mul64 := (· * ·), div64 := (· / ·)
    to32 := id
    roundf := fun x => if x < 0 then -((⌊-x + 1/2⌋ : ℤ) : ℝ) else ((⌊x + 1/2⌋ : ℤ) : ℝ)
    toInt := fun x => if x < 0 then -⌊-x⌋ else ⌊x⌋
    logf := Real.log
    expf := Real.exp }

/-- the message the logarithmic map prescribes over the reals at slot value `x` for a
    parameter of type `ty` bound under `path` with declared range `lo..hi`: the value
    `exp(log lo + x·(log hi − log lo))`, rounded to the nearest integer (halves away from zero)
    for an integer parameter -/
noncomputable def logMsgReal (path : Bytes) (ty : Char) (lo hi x : ℝ) : Msg ℝ :=
  let a := Real.log lo + x * (Real.log hi - Real.log lo)
  if ty = 'i' then
    { addr := path, ty := 'i', val := .int (realArith.toInt (realArith.roundf (Real.exp a))), expArg := some a }
  else { addr := path, ty := 'f', val := .flt (Real.exp a), expArg := some a }

theorem logMsgK_real (path : Bytes) (ty : Char) (lo hi x : ℝ) :
    logMsgK realArith path ty lo hi x = logMsgReal path ty lo hi x := rfl

theorem realArith_isExact : IsExact realArith := by
  constructor <;> intros
  · exact decide_eq_true_iff
  all_goals rfl

theorem realLog_mono_pos : ∀ a b : ℝ, 0 < a → a ≤ b → realArith.logf a ≤ realArith.logf b :=
  fun _ _ ha hab => Real.log_le_log ha hab

theorem logInterp_range (lo hi x : ℝ) (hpos : 0 < lo) (hle : lo ≤ hi) (hx0 : 0 ≤ x) (hx1 : x ≤ 1) :
    lo ≤ Real.exp (Real.log lo + x * (Real.log hi - Real.log lo)) ∧
    Real.exp (Real.log lo + x * (Real.log hi - Real.log lo)) ≤ hi := by
  obtain ⟨h0, h1⟩ := interp_mem (Real.log_le_log hpos hle) hx0 hx1
  constructor
  · calc lo = Real.exp (Real.log lo) := (Real.exp_log hpos).symm
      _ ≤ _ := Real.exp_le_exp.mpr h0
  · calc _ ≤ Real.exp (Real.log hi) := Real.exp_le_exp.mpr h1
      _ = hi := Real.exp_log (lt_of_lt_of_le hpos hle)

theorem logInterp_ends (lo hi : ℝ) (hpos : 0 < lo) (hle : lo ≤ hi) :
    Real.exp (Real.log lo + 0 * (Real.log hi - Real.log lo)) = lo ∧
    Real.exp (Real.log lo + 1 * (Real.log hi - Real.log lo)) = hi := by
  constructor
  · rw [zero_mul, add_zero, Real.exp_log hpos]
  · rw [one_mul, add_sub_cancel, Real.exp_log (lt_of_lt_of_le hpos hle)]

end Rtosc.Auto
