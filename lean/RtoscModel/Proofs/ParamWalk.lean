/-
  C14 — delivery through the address walk of `Ports::dispatch` / `rRecur` (the model of C04,
  Ports/Dispatch.lean): what the callback of *one given port* of a tree of any depth is
  handed.  The port is named by its tree path (`PTable.find`) and the split of the address is
  named: `msg` is the part that the port's own name matches (`matchB`), `loc` the whole address
  in front of it plus the part the name accounts for — for a port whose name has no trailing
  '/', the full address.  (C04's `loc_full_address_exact` says of every callback that `loc` and
  `msg` together make the full address, with the port found by `PPorts.portAt`.)
-/
import RtoscModel.Props.C04
import RtoscModel.Param.PortSpec
namespace Rtosc.Ports
open Rtosc Rtosc.Match Rtosc.Ports.Hash

/-- what the callback of a port is handed, relative to the table `t` (first index `i`, table
    path `tp`): the port is the one `find` names, `full = pfx ++ path` where `path` is what the
    port's own name matches (leaving `t'` behind `*path_end`), `msg` points at `path`, and
    `loc` holds `pfx` and the part of `path` the name accounts for -/
def Handed (t : PTable) (i : Nat) (tp : List Nat) (full tags ex : Bytes) (c : Call) : Prop :=
  ∀ x, c.who = .port x → ∃ q p pfx path t', x = tp ++ q ∧ t.find i q = some (p, c.isLeaf) ∧
    full = pfx ++ path ∧ matchB p path tags = some t' ∧
    c.loc = some (pfx ++ consumed path t') ∧ c.m = path ++ 0 :: ex

theorem Hit.find {tags : Bytes} {t : PTable} {i : Nat} {a : Bytes} {q : List Nat} {p : Pat} {lf : Bool}
    {pfx path t' : Bytes} (h : Hit tags t i a q p lf pfx path t') : t.find i q = some (p, lf) := by
  induction h with
  | leaf_here _ | node_here _ => simp [PTable.find]
  | @leaf_rest _ _ i _ _ _ _ _ _ _ h ih | @node_rest _ _ _ _ i _ _ _ _ _ _ _ h ih =>
    obtain ⟨j, r, rfl, hj⟩ := h.head
    have : ¬ j = i := by omega
    simp only [PTable.find, this, ↓reduceIte]
    exact ih
  | child _ h ih =>
    obtain ⟨j, r, rfl, _⟩ := h.head
    simp only [PTable.find, ↓reduceIte, List.isEmpty_cons, Bool.false_eq_true]
    exact ih

theorem semLoc_handed : ∀ (t : PTable), t.WF →
    ∀ (tp : List Nat) (i : Nat) (obj : List Nat) (L a tags ex : Bytes) (d : RtData) (mt : Bool),
    ∀ c ∈ (semLoc t tp i obj L a tags ex d mt).1, Handed t i tp (L ++ a) tags ex c := by
  intro t hwf tp i obj L a tags ex d mt c hc x hx
  rcases semLoc_log t tp i obj L a tags ex d mt c hc with ⟨q, p, lf, pfx, path, t', h, e⟩ | ⟨s, pfx, a', _, e⟩
  · obtain rfl : tp ++ q = x := by simpa [e.who] using hx
    exact ⟨q, p, L ++ pfx, path, t', rfl, e.isLeaf ▸ h.find, by rw [List.append_assoc, ← h.split hwf], h.matches,
      e.loc, e.m⟩
  · simp [e.who] at hx

/-- **dispatch_handed** (any tree of the scope of C04, any depth, any lookup strategy, with a
    location buffer): the callback of the port with tree path `q` is handed
    `msg` = the part `path` of the address that its own name matches and, in `loc`, everything
    in front of it (`pfx`: the address of the object the port belongs to) followed by what the
    name accounts for; `pfx ++ path` is the full address of the message. -/
theorem dispatch_handed {mk : List Bytes → Option Matcher} (hmk : MkOK mk) {P : PPorts} {addr tags rest : Bytes}
    (h : InScope P addr tags rest) (k : Nat) (base : Bool) (d : RtData) (L0 : Bytes)
    (hd : d.loc = some L0) (hsz : d.locSize ≠ 0) :
    ∃ log d', dispatch mk P.render (msgBuf addr tags k rest) d base = some (log, d') ∧
      ∀ c ∈ log, ∀ q, c.who = .port q → ∃ p pfx path t',
        P.tab.find 0 q = some (p, c.isLeaf) ∧
        rootLoc base L0 ++ rootAddr base addr = pfx ++ path ∧ matchB p path tags = some t' ∧
        c.loc = some (pfx ++ consumed path t') ∧ c.m = path ++ 0 :: msgTail k tags rest := by
  obtain ⟨log, d', hdisp, hlog, hd'⟩ := some_pair (dispatch_loc hmk h.wf k h.msgOK base d L0 hd hsz)
  refine ⟨log, d', hdisp, ?_⟩
  subst hlog hd'
  intro c hc q hq
  rcases mem_finLoc hc with hc | ⟨_, _, rfl⟩
  · obtain ⟨q', p, pfx, path, t', h1, h2, h3⟩ := semLoc_handed P.tab h.wf _ _ _ _ _ _ _ _ _ c hc q hq
    simp only [List.nil_append] at h1
    subst h1
    exact ⟨p, pfx, path, t', h2, h3⟩
  · simp [dfltCallOf] at hq

/-- a name without trailing '/' accounts for the whole of the path it matches, so the `loc` of
    `dispatch_handed` is then the full address -/
theorem matchB_nosub {p : Pat} (hs : p.sub = false) {path tags t' : Bytes} (hm : matchB p path tags = some t') :
    t' = [] ∧ consumed path t' = path := by
  obtain ⟨h1, h2⟩ := matchB_shape hm
  simp only [hs, Bool.false_eq_true, ↓reduceIte] at h2
  subst h2
  exact ⟨rfl, by simp [consumed]⟩

theorem PTable.find_wf : ∀ (t : PTable), t.WF → ∀ (i : Nat) (q : List Nat) (p : Pat) (lf : Bool),
    t.find i q = some (p, lf) → nameWf p = true := by
  intro t
  induction t with
  | nil => intro _ i q p lf h; simp [PTable.find] at h
  | leaf p0 r ih =>
    intro hwf i q p lf h
    cases q with
    | nil => simp [PTable.find] at h
    | cons j js =>
      simp only [PTable.find] at h
      split at h
      · split at h
        · simp only [Option.some.injEq, Prod.mk.injEq] at h; rw [← h.1]; exact hwf.leaf_name
        · cases h
      · exact ih hwf.leaf_rest _ _ _ _ h
  | node p0 c cd r ihc ihr =>
    intro hwf i q p lf h
    cases q with
    | nil => simp [PTable.find] at h
    | cons j js =>
      simp only [PTable.find] at h
      split at h
      · split at h
        · simp only [Option.some.injEq, Prod.mk.injEq] at h; rw [← h.1]; exact nodeNameWf_name hwf.node_name
        · exact ihc hwf.node_child _ _ _ _ h
      · exact ihr hwf.node_rest _ _ _ _ h
end Rtosc.Ports
