/-
  C20 — `MidiMapperStorage::cloneValues` (run by the realtime half on every `midi-bind`), read off
  the specification of its two loops (`cloneOuter_spec`, Proofs/MidiValues.lean): what it leaves in the
  new snapshot, completely (`cloneValues_track`) — a controller present in both the old and the new
  mapping keeps the 7-bit half it owned (`cloneValues_keeps_half`), a new controller starts at 0, a
  half nobody owns is 0 — provided no two entries of the new mapping own the same half of the same
  slot (`PairInj`: `pairInj_of_nrtOk` for the non-realtime half's own mapping; for every snapshot of a hazard-free
  history `rt_pairInj`, `flight_pairInj` in Proofs/MidiExtTrack).  As a step of the system, for ANY reachable
  state whose two snapshots are well-formed (distinct controller IDs in the old one are what a K2 hazard
  destroys): `half_survives_bind_of_wellformed`.
-/
import RtoscModel.Proofs.MidiClauses
namespace Rtosc.Midi

theorem lastMatch_none {d : MapEnt} : ∀ {m : List MapEnt}, d.id ∉ ids m → lastMatch d m = none := by
  intro m
  induction m with
  | nil => intro _; rfl
  | cons y ys ih =>
    intro h
    have hy : d.id ≠ y.id := fun e => h (mem_ids.mpr ⟨y, List.mem_cons_self, e.symm⟩)
    have hys : d.id ∉ ids ys := fun e => by
      obtain ⟨z, hz, hzid⟩ := mem_ids.mp e
      exact h (mem_ids.mpr ⟨z, List.mem_cons_of_mem _ hz, hzid⟩)
    simp [lastMatch, ih hys, hy]

theorem lastMatch_of_nodup {d s : MapEnt} : ∀ {m : List MapEnt}, (ids m).Nodup → s ∈ m → d.id = s.id →
    lastMatch d m = some s := by
  intro m
  induction m with
  | nil => intro _ h; cases h
  | cons x rest ih =>
    intro nd hm hid
    have nd0 : x.id ∉ ids rest ∧ (ids rest).Nodup := List.nodup_cons.mp nd
    rcases List.mem_cons.mp hm with rfl | hr
    · have : lastMatch d rest = none := lastMatch_none (by rw [hid]; exact nd0.1)
      simp [lastMatch, this, hid]
    · simp [lastMatch, ih nd0.2 hr hid]

theorem cloneValues_track {ns old ns' : Storage} (hn : StOk ns) (ho : StOk old) (hs : Small old.values)
    (hinj : PairInj ns.mapping) (h : ns.cloneValues old = some ns') :
    ns'.mapping = ns.mapping ∧ ns'.callbacks = ns.callbacks ∧ ns'.values.length = ns.values.length ∧
    (∀ d ∈ ns.mapping, ∀ e ∈ old.mapping, d.id = e.id →
      ∃ sv, old.values[e.slot]? = some sv ∧ halfAt d.slot d.coarse ns'.values = some (half e.coarse sv)) ∧
    (∀ d ∈ ns.mapping, d.id ∉ ids old.mapping → halfAt d.slot d.coarse ns'.values = some 0) ∧
    (∀ slot c, slot < ns.values.length → (∀ e ∈ ns.mapping, ¬(e.slot = slot ∧ e.coarse = c)) →
      halfAt slot c ns'.values = some 0) := by
  obtain ⟨v, hv, rfl⟩ := Storage.cloneValues_some h
  obtain ⟨-, hlen, free, own⟩ := cloneOuter_spec old hs _ _ _ (small_replicate _) hv
  have hsl : ∀ d ∈ ns.mapping, d.slot < ns.values.length := fun d hd => hn.vals ▸ hn.slots d hd
  refine ⟨rfl, rfl, by simpa using hlen, fun d hd e he hid => ?_, fun d hd hnot => ?_, fun slot c hsl' hfree => ?_⟩
  · obtain ⟨sv, -, hsv, -⟩ := ho.entry he
    exact ⟨sv, hsv, by rw [own hinj d hd, lastMatch_of_nodup ho.nodup he hid]; simp only [hsv]; rfl⟩
  · rw [own hinj d hd, lastMatch_none hnot]; exact halfAt_replicate _ (hsl d hd)
  · rw [free slot c hfree]; exact halfAt_replicate _ hsl'

theorem cloneValues_keeps_half {ns old ns' : Storage} (hn : StOk ns) (ho : StOk old) (hs : Small old.values)
    (hinj : PairInj ns.mapping) (h : ns.cloneValues old = some ns') {d s : MapEnt} (hd : d ∈ ns.mapping)
    (hsm : s ∈ old.mapping) (hid : d.id = s.id) :
    ∃ sv, old.values[s.slot]? = some sv ∧ halfAt d.slot d.coarse ns'.values = some (half s.coarse sv)  :=
  (cloneValues_track hn ho hs hinj h).2.2.2.1 d hd s hsm hid

theorem half_survives_bind_of_wellformed {P s} (r : Reach P s) {ns ans rest old}
    (hq : s.toRT = .bind ns ans :: rest) (hold : s.rt.storage = some old)
    (hns : StOk ns) (hok : StOk old) (hinj : PairInj ns.mapping) :
    ∃ s' ns', step P s .deliverRT = some (s', []) ∧ s'.rt.storage = some ns' ∧ ns'.mapping = ns.mapping ∧
      ∀ d ∈ ns.mapping, ∀ e ∈ old.mapping, d.id = e.id →
        ∃ sv, old.values[e.slot]? = some sv ∧ halfAt d.slot d.coarse ns'.values = some (half e.coarse sv) := by
  obtain ⟨v, hv, _⟩ := cloneValues_ok hns hok
  have hsmall : Small old.values := ((inv0_of_reach r).rt old hold).2
  refine ⟨{ s with rt := { s.rt with pending := s.rt.pending.drop 1, storage := some { ns with values := v } },
                   toRT := rest }, { ns with values := v }, step_iff.mpr (.bind hq (Or.inr ⟨old, hold, hv⟩)), rfl, rfl, ?_⟩
  intro d hd e he hid
  exact cloneValues_keeps_half hns hok hsmall hinj hv hd he hid

theorem pairInj_of_nrtOk {P n} (h : NrtOk P n) : PairInj n.mapping := by
  intro e1 h1 e2 h2 hslot hc
  obtain ⟨cb1, im1, hcb1, hl1, _, hs1⟩ := h.map_inv e1 h1
  obtain ⟨cb2, im2, hcb2, hl2, _, hs2⟩ := h.map_inv e2 h2
  rw [hslot] at hcb1
  have hcb : cb1 = cb2 := Option.some.inj (hcb1.symm.trans hcb2)
  subst hcb
  have him : im1 = im2 := Option.some.inj (hl1.symm.trans hl2)
  subst him
  rw [hc] at hs1
  have hid : e1.id = e2.id := Option.some.inj (hs1.symm.trans hs2)
  exact eq_of_mem_nodup h.mapping_nodup h1 h2 hid

theorem past_nrtOk {P h s} (t : Trace P h s) (hf : HazardFree h) : ∀ n ∈ pastNrts h s, NrtOk P n := by
  induction t with
  | init => intro n hn; simp [pastNrts, Sys.init] at hn; subst hn; exact nrtOk_init P
  | step t hwf hs ih =>
    rename_i h0 s0 s1 op out
    intro n hn
    have hf0 : HazardFree h0 := fun x hx => hf x (List.mem_cons_of_mem _ hx)
    simp only [pastNrts, List.map_cons, List.mem_cons] at hn
    rcases hn with rfl | rfl | hn
    · exact (inv_of_trace (Trace.step t hwf hs) hf).nrt
    · exact (inv_of_trace t hf0).nrt
    · exact ih hf0 n (by simp only [pastNrts, List.mem_cons]; exact Or.inr hn)

end Rtosc.Midi
