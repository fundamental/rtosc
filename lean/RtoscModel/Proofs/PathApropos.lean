/-
  C18 — `Ports::apropos` (model: RtoscModel/Path/Apropos.lean): `rtosc_match_path` on literal patterns,
  one table with one answering row, and the lookup along an index path, argued once for literal and
  enumerated trees (`Route`; the routes come from Proofs/PathEnumExt.lean and Proofs/PathDir.lean).
-/
import RtoscModel.Path.C18Spec
import RtoscModel.Proofs.BasicLemmas
namespace Rtosc.Path
open Rtosc

@[simp] theorem hd_nil : hd [] = 0 := rfl
@[simp] theorem hd_cons (c : UInt8) (r : Bytes) : hd (c :: r) = c := rfl

def CleanChar (c : UInt8) : Prop := c ≠ COLON ∧ c ≠ 0

theorem name_split (n : Bytes) : n = lit n ++ n.dropWhile (· ≠ COLON) := by
  unfold lit; exact (List.takeWhile_append_dropWhile).symm

theorem lit_no_colon (n : Bytes) : ∀ c ∈ lit n, c ≠ COLON := by
  intro c hc
  have := mem_takeWhile _ _ c hc
  simpa using this

theorem tail_ok (n : Bytes) : TailOK (n.dropWhile (· ≠ COLON)) := by
  unfold TailOK
  cases h : n.dropWhile (· ≠ COLON) with
  | nil => exact Or.inl rfl
  | cons c r =>
    right
    have := List.head_dropWhile_not (p := (· ≠ COLON)) (l := n) (by rw [h]; simp)
    simp only [h, List.head_cons] at this
    simpa using this

theorem plain_of_lit {n : Bytes} (h : LitName n) : ∀ c ∈ lit n, PlainChar c := by
  intro c hc
  obtain ⟨h0, h1, h2, h3⟩ := h c hc
  exact ⟨h0, h1, h2, h3, lit_no_colon n c hc⟩

theorem matchPath_nil (msg : Bytes) : matchPath [] msg = if hd msg = 0 then .ok [] msg else .null := by
  simp [matchPath, matchPathM]

theorem matchPath_colon (t msg : Bytes) :
    matchPath (COLON :: t) msg = if hd msg = 0 then .ok (COLON :: t) msg else .null := by
  by_cases h : hd msg = 0 <;> simp [matchPath, matchPathM, h]

theorem matchPath_plain {c : UInt8} (hc : PlainChar c) (pr msg : Bytes) :
    matchPath (c :: pr) msg =
      if c = SLASH ∧ hd msg = SLASH then
        (if hd pr = 0 ∨ hd pr = COLON then .ok pr (msg.drop 1) else matchPath pr (msg.drop 1))
      else if c = hd msg then
        (if hd msg ≠ 0 then matchPath pr (msg.drop 1) else .ok (c :: pr) msg)
      else .null := by
  obtain ⟨_, c1, c2, c3, c4⟩ := hc
  simp only [matchPath]
  rw [matchPathM]
  simp only [Bool.false_eq_true, false_and, ↓reduceIte, c4, c1, c2, c3]

theorem matchPath_tail {tail : Bytes} (ht : TailOK tail) (msg : Bytes) :
    matchPath tail msg = if hd msg = 0 then .ok tail msg else .null := by
  rcases ht with rfl | ht
  · exact matchPath_nil msg
  · cases tail with
    | nil => exact matchPath_nil msg
    | cons c t => obtain rfl : c = COLON := ht; exact matchPath_colon t msg

theorem matchPath_cons {c : UInt8} (hc : PlainChar c) {pr : Bytes} (hpr : hd pr ≠ 0 ∧ hd pr ≠ COLON)
    (msg : Bytes) : matchPath (c :: pr) msg = if hd msg = c then matchPath pr (msg.drop 1) else .null := by
  rw [matchPath_plain hc]
  by_cases h : hd msg = c
  · subst h
    simp [hpr.1, hpr.2, hc.1]
  · rw [if_neg h, if_neg (fun e => h (e.2.trans e.1.symm)), if_neg (Ne.symm h)]

/-- the last character of the pattern's path: `/` returns at once (what follows in the address is
    for the sub-table), any other character must be the last of the address -/
theorem matchPath_last {c : UInt8} (hc : PlainChar c) {tail : Bytes} (ht : TailOK tail) (msg : Bytes) :
    matchPath (c :: tail) msg =
      if hd msg = c then
        (if c = SLASH ∨ hd (msg.drop 1) = 0 then .ok tail (msg.drop 1) else .null)
      else .null := by
  have ht' : hd tail = 0 ∨ hd tail = COLON := ht.imp (fun e => by rw [e]; rfl) id
  rw [matchPath_plain hc]
  by_cases h : hd msg = c
  · subst h
    by_cases hs : hd msg = SLASH
    · simp [hs, ht']
    · simp [hs, hc.1, matchPath_tail ht]
  · rw [if_neg h, if_neg (fun e => h (e.2.trans e.1.symm)), if_neg (Ne.symm h)]

theorem hd_plain {l : Bytes} (hl : ∀ c ∈ l, PlainChar c) (hne : l ≠ []) (P : Bytes) :
    hd (l ++ P) ≠ 0 ∧ hd (l ++ P) ≠ COLON := by
  cases l with
  | nil => exact absurd rfl hne
  | cons c _ => exact ⟨(hl c List.mem_cons_self).1, (hl c List.mem_cons_self).2.2.2.2⟩

theorem hd_plain_append {l : Bytes} (hl : ∀ c ∈ l, PlainChar c) {P : Bytes} (h0 : hd P ≠ 0) (h1 : hd P ≠ COLON) :
    hd (l ++ P) ≠ 0 ∧ hd (l ++ P) ≠ COLON := by
  cases l with
  | nil => exact ⟨h0, h1⟩
  | cons c _ => exact ⟨(hl c List.mem_cons_self).1, (hl c List.mem_cons_self).2.2.2.2⟩

theorem eq_cons_of_hd {msg : Bytes} {c : UInt8} (h : hd msg = c) (hc : c ≠ 0) : msg = c :: msg.drop 1 := by
  cases msg with
  | nil => exact absurd h.symm hc
  | cons m mr => rw [show m = c from h]; rfl

theorem matchPath_pre (l : Bytes) (P M : Bytes) (hl : ∀ c ∈ l, PlainChar c) (h0 : hd P ≠ 0) (h1 : hd P ≠ COLON) :
    matchPath (l ++ P) (l ++ M) = matchPath P M := by
  induction l with
  | nil => rfl
  | cons c l' ih =>
    have hl' : ∀ d ∈ l', PlainChar d := fun d hd => hl d (List.mem_cons_of_mem _ hd)
    rw [List.cons_append, matchPath_cons (hl c List.mem_cons_self) (hd_plain_append hl' h0 h1), List.cons_append,
      hd_cons, if_pos rfl]
    exact ih hl'

theorem matchPath_lit (l : Bytes) (tail msg : Bytes) (hl : ∀ c ∈ l, PlainChar c) (ht : TailOK tail) :
    matchPath (l ++ tail) msg ≠ .unsupported ∧
    ∀ p e, matchPath (l ++ tail) msg = .ok p e → l <+: msg := by
  induction l generalizing msg with
  | nil =>
    rw [List.nil_append, matchPath_tail ht]
    split <;> simp
  | cons c l' ih =>
    have hc := hl c List.mem_cons_self
    have hl' : ∀ d ∈ l', PlainChar d := fun d hd => hl d (List.mem_cons_of_mem _ hd)
    rw [List.cons_append]
    by_cases hne : l' = []
    · subst hne
      rw [List.nil_append, matchPath_last hc ht]
      by_cases h : hd msg = c
      · rw [if_pos h, eq_cons_of_hd h hc.1]
        split <;> simp
      · simp [h]
    · rw [matchPath_cons hc (hd_plain hl' hne tail)]
      by_cases h : hd msg = c
      · obtain ⟨h1, h2⟩ := ih (msg.drop 1) hl'
        rw [if_pos h]
        refine ⟨h1, fun p e hm => ?_⟩
        rw [eq_cons_of_hd h hc.1]
        exact List.cons_prefix_cons.mpr ⟨rfl, h2 p e hm⟩
      · simp [h]

theorem matchPath_self (l : Bytes) (tail : Bytes) (hl : ∀ c ∈ l, PlainChar c) (ht : TailOK tail) :
    matchPath (l ++ tail) l = .ok tail [] := by
  induction l with
  | nil => rw [List.nil_append, matchPath_tail ht]; rfl
  | cons c l' ih =>
    have hc := hl c List.mem_cons_self
    have hl' : ∀ d ∈ l', PlainChar d := fun d hd => hl d (List.mem_cons_of_mem _ hd)
    rw [List.cons_append]
    by_cases hne : l' = []
    · subst hne
      rw [List.nil_append, matchPath_last hc ht]; simp
    · rw [matchPath_cons hc (hd_plain hl' hne tail), hd_cons, if_pos rfl]
      exact ih hl'

theorem plain_slash : PlainChar SLASH := by
  refine ⟨?_, ?_, ?_, ?_, ?_⟩ <;> simp [SLASH, COLON]

theorem matchPath_dir (l : Bytes) (tail rest : Bytes) (hl : ∀ c ∈ l, PlainChar c) (ht : TailOK tail) :
    matchPath (l ++ SLASH :: tail) (l ++ SLASH :: rest) = .ok tail rest := by
  rw [matchPath_pre l (SLASH :: tail) (SLASH :: rest) hl plain_slash.1 plain_slash.2.2.2.2,
    matchPath_last plain_slash ht]
  simp

/-- a string without the byte `k` that is a prefix of `pre ++ k :: t` is a prefix of `pre` -/
theorem noByte_prefix (k : UInt8) (a pre t : Bytes) (ha : ∀ c ∈ a, c ≠ k) (h : a <+: pre ++ k :: t) : a <+: pre := by
  induction a generalizing pre with
  | nil => exact List.nil_prefix
  | cons c a ih =>
    cases pre with
    | nil => exact absurd (List.cons_prefix_cons.mp h).1 (ha c List.mem_cons_self)
    | cons x pre =>
      obtain ⟨rfl, h'⟩ := List.cons_prefix_cons.mp h
      exact List.cons_prefix_cons.mpr ⟨rfl, ih pre (fun y hy => ha y (List.mem_cons_of_mem _ hy)) h'⟩

theorem prefix_lit (a l tail : Bytes) (ha : ∀ c ∈ a, c ≠ COLON) (ht : TailOK tail) (h : a <+: l ++ tail) :
    a <+: l := by
  cases tail with
  | nil => rwa [List.append_nil] at h
  | cons d t =>
    obtain rfl : d = COLON := ht.resolve_left (by simp)
    exact noByte_prefix COLON a l t ha h

/-- every row of the table other than row `i` answers NULL to `path` and is not prefixed by it:
    neither loop of `apropos` stops in front of row `i` -/
def OthersNull (ps : List PortT) (i : Nat) (path : Bytes) : Prop :=
  ∀ j q, ps[j]? = some q → j ≠ i → matchPath q.name path = .null ∧ path.isPrefixOf q.name = false

theorem OthersNull.tail {a : PortT} {r : List PortT} {i : Nat} {path : Bytes}
    (h : OthersNull (a :: r) (i + 1) path) : OthersNull r i path :=
  fun j q hq hj => h (j + 1) q hq fun e => hj (Nat.succ.inj e)

theorem loop1_at (path : Bytes) (ps : List PortT) (i k : Nat) (p : PortT) (h : ps[i]? = some p)
    (ho : OthersNull ps i path) :
    aproposLoop1 path ps k = aproposLoop1 path (p :: ps.drop (i + 1)) (k + i) := by
  induction ps generalizing i k with
  | nil => simp at h
  | cons a r ih =>
    cases i with
    | zero => obtain rfl := Option.some.inj h; rfl
    | succ i =>
      rw [aproposLoop1, (ho 0 a rfl (Nat.succ_ne_zero i).symm).1]
      simp only [ite_self, List.drop_succ_cons]
      rw [ih i (k + 1) h ho.tail, Nat.add_right_comm, Nat.add_assoc]

theorem loop2_at (path : Bytes) (hp : hd path ≠ 0) (ps : List PortT) (i k : Nat) (p : PortT)
    (h : ps[i]? = some p) (ho : OthersNull ps i path) :
    aproposLoop2 path ps k = aproposLoop2 path (p :: ps.drop (i + 1)) (k + i) := by
  induction ps generalizing i k with
  | nil => simp at h
  | cons a r ih =>
    cases i with
    | zero => obtain rfl := Option.some.inj h; rfl
    | succ i =>
      obtain ⟨h1, h2⟩ := ho 0 a rfl (Nat.succ_ne_zero i).symm
      rw [aproposLoop2]
      simp only [hp, ↓reduceIte, h2, Bool.false_eq_true, h1, List.drop_succ_cons]
      rw [ih i (k + 1) h ho.tail, Nat.add_right_comm, Nat.add_assoc]

theorem loop1_none (path : Bytes) (ps : List PortT) (k : Nat)
    (h : ∀ q ∈ ps, q.name.contains SLASH = true → matchPath q.name path = .null) :
    aproposLoop1 path ps k = none := by
  induction ps generalizing k with
  | nil => rfl
  | cons a r ih =>
    have ih := ih (k + 1) fun q hq => h q (List.mem_cons_of_mem _ hq)
    rw [aproposLoop1]
    by_cases hc : a.name.contains SLASH = true
    · rw [if_pos hc, h a List.mem_cons_self hc]; exact ih
    · rw [if_neg hc]; exact ih

theorem aproposSub_eq (p : PortT) (path : Bytes) : aproposSub p path = apropos p.children path := by
  cases p with
  | mk n m h cs => rw [aproposSub]; rfl

theorem stripSlash_id (a : Bytes) (h : hd a ≠ SLASH) : stripSlash a = a := by
  simp [stripSlash, h]

/-- `if(path && path[0] == '/') ++path;` -/
theorem apropos_slash (ps : List PortT) {a : Bytes} (h : hd a ≠ SLASH) : apropos ps (SLASH :: a) = apropos ps a := by
  unfold apropos
  simp [stripSlash, h]

/-- a leaf row that matches the address, alone in its table, is the answer (found by the first
    loop when its name contains a `/`, by the second otherwise) -/
theorem apropos_leaf_row {ps : List PortT} {i : Nat} {p : PortT} {path pp e : Bytes} (hpi : ps[i]? = some p)
    (ho : OthersNull ps i path) (hne : path ≠ []) (hhd : hd path ≠ SLASH) (h0 : ∀ c ∈ path, c ≠ 0)
    (hm : matchPath p.name path = .ok pp e) (hports : p.hasPorts = false) : apropos ps path = .port [i] := by
  unfold apropos
  simp only [stripSlash_id _ hhd]
  by_cases hc : p.name.contains SLASH = true
  · rw [loop1_at path ps i 0 p hpi ho, aproposLoop1, if_pos hc, hm]
    simp [hports]
  · have hall : ∀ q ∈ ps, q.name.contains SLASH = true → matchPath q.name path = .null := by
      intro q hq hqc
      obtain ⟨j, hj⟩ := List.mem_iff_getElem?.mp hq
      by_cases hji : j = i
      · subst hji; rw [hpi] at hj; cases hj; exact absurd hqc hc
      · exact (ho j q hj hji).1
    have hp0 : hd path ≠ 0 := by
      cases path with
      | nil => exact absurd rfl hne
      | cons c r => exact h0 c List.mem_cons_self
    rw [loop1_none path ps 0 hall]
    simp only
    rw [loop2_at path hp0 ps i 0 p hpi ho, aproposLoop2]
    simp only [hp0, ↓reduceIte, hm]
    split <;> simp

/-- a directory row that matches the address, alone in its table:
    `(port.ports && strchr(path,'/')[1]) ? port.ports->apropos(path_end) : &port` -/
theorem apropos_dir_row {ps : List PortT} {i : Nat} {p : PortT} {path t rest Z : Bytes} (hpi : ps[i]? = some p)
    (ho : OthersNull ps i path) (hhd : hd path ≠ SLASH) (hc : p.name.contains SLASH = true)
    (hm : matchPath p.name path = .ok t rest) (hports : p.hasPorts = true)
    (hdrop : path.dropWhile (· ≠ SLASH) = SLASH :: Z) :
    apropos ps path = if hd Z ≠ 0 then (apropos p.children rest).under i else .port [i] := by
  rw [apropos]
  simp only [stripSlash_id _ hhd]
  rw [loop1_at path ps i 0 p hpi ho, aproposLoop1, if_pos hc, hm]
  simp only [hports, ↓reduceIte, hdrop, aproposSub_eq, Nat.zero_add]
  by_cases hz : hd Z = 0 <;> simp [hz]

theorem dropWhile_slash (X : Bytes) : ∀ (Y : Bytes), Y ≠ [] → (∀ c ∈ X ++ SLASH :: Y, c ≠ 0) →
    ∃ Z, (X ++ SLASH :: Y).dropWhile (· ≠ SLASH) = SLASH :: Z ∧ hd Z ≠ 0 := by
  induction X with
  | nil =>
    intro Y hY h0
    cases Y with
    | nil => exact absurd rfl hY
    | cons y t => exact ⟨y :: t, by simp, h0 y (by simp)⟩
  | cons c X' ih =>
    intro Y hY h0
    by_cases hc : c = SLASH
    · subst hc
      refine ⟨X' ++ SLASH :: Y, by simp, ?_⟩
      cases X' with
      | nil => exact fun h => by simp [SLASH] at h
      | cons x _ => exact h0 x (by simp)
    · obtain ⟨Z, h, hZ⟩ := ih Y hY fun x hx => h0 x (List.mem_cons_of_mem _ hx)
      refine ⟨Z, ?_, hZ⟩
      rw [List.cons_append, List.dropWhile_cons]
      simp only [ne_eq, hc, not_false_eq_true, decide_true, ↓reduceIte]
      exact h

theorem name_dir {n l' : Bytes} (hl : lit n = l' ++ [SLASH]) :
    n = l' ++ SLASH :: n.dropWhile (· ≠ COLON) ∧ n.contains SLASH = true := by
  have h : n = l' ++ SLASH :: n.dropWhile (· ≠ COLON) := by
    conv => lhs; rw [name_split n, hl]
    simp
  exact ⟨h, by rw [List.contains_iff_mem, h]; simp⟩

theorem matchPath_dir_name {n : Bytes} (hplain : ∀ c ∈ lit n, PlainChar c)
    (hlast : (lit n).getLast? = some SLASH) (rest : Bytes) :
    matchPath n (lit n ++ rest) = .ok (n.dropWhile (· ≠ COLON)) rest := by
  obtain ⟨l', hl'⟩ := List.getLast?_eq_some_iff.mp hlast
  have := matchPath_dir l' (n.dropWhile (· ≠ COLON)) rest (fun c hc => hplain c (by rw [hl']; simp [hc]))
    (tail_ok _)
  rw [hl', List.append_assoc]
  conv => lhs; arg 1; rw [(name_dir hl').1]
  exact this

instance (n : Bytes) : Decidable (LitName n) := by unfold LitName; infer_instance

/-- `Level` in a form that `decide` can check on a concrete table -/
theorem level_of_rows {ps : List PortT} {i : Nat} {p : PortT} (hp : ps[i]? = some p)
    (h : (∀ q ∈ ps, LitName q.name) ∧ lit p.name ≠ [] ∧ hd (lit p.name) ≠ SLASH ∧
      ∀ j (h : j < ps.length), j ≠ i → ¬ lit ps[j].name <+: lit p.name ∧ ¬ lit p.name <+: lit ps[j].name) :
    Level ps i p := by
  refine ⟨hp, h.1, h.2.1, h.2.2.1, fun j q hq => ?_⟩
  obtain ⟨hj, rfl⟩ := List.getElem?_eq_some_iff.mp hq
  exact h.2.2.2 j hj

theorem Level.clean {ps : List PortT} {i : Nat} {p : PortT} (h : Level ps i p) :
    (∀ c ∈ lit p.name, CleanChar c) ∧ ∀ c ∈ lit p.name, PlainChar c :=
  have hl := h.2.1 p (List.mem_of_getElem? h.1)
  ⟨fun c hc => ⟨lit_no_colon _ c hc, (hl c hc).1⟩, plain_of_lit hl⟩

theorem hd_append_of_ne {l : Bytes} (hne : l ≠ []) (a : Bytes) : hd (l ++ a) = hd l := by
  cases l with
  | nil => exact absurd rfl hne
  | cons c r => rfl

theorem dropWhile_no_slash (l' r : Bytes) (h : SLASH ∉ l') :
    (l' ++ SLASH :: r).dropWhile (· ≠ SLASH) = SLASH :: r := by
  induction l' with
  | nil => simp
  | cons c l' ih =>
    have hc : c ≠ SLASH := fun e => h (e ▸ List.mem_cons_self)
    rw [List.cons_append, List.dropWhile_cons]
    simp only [ne_eq, hc, not_false_eq_true, decide_true, ↓reduceIte]
    exact ih fun hm => h (List.mem_cons_of_mem _ hm)

/-- what `apropos` of a sub-table is handed (`stripSlash` leaves it as it is) -/
def GoodAddr (a : Bytes) : Prop := a ≠ [] ∧ hd a ≠ SLASH ∧ ∀ c ∈ a, CleanChar c

/-- in the table `ps`, row `i` is `p` and it alone answers for the name `e`: its pattern matches `e`
    (a leaf: to the end; a directory: `e` ends in `/` and what follows is handed on), and every other
    row answers NULL to `e` and, when `e` ends in `/`, to everything that begins with `e` -/
structure Answers (ps : List PortT) (i : Nat) (p : PortT) (e : Bytes) : Prop where
  row : ps[i]? = some p
  good : GoodAddr e
  others : ∀ msg, (∀ c ∈ msg, CleanChar c) → e <+: msg → msg = e ∨ e.getLast? = some SLASH →
    OthersNull ps i msg
  leaf : p.hasPorts = false → matchPath p.name e = .ok (p.name.dropWhile (· ≠ COLON)) []
  dir : p.hasPorts = true → e.getLast? = some SLASH ∧ p.name.contains SLASH = true ∧
    ∀ rest, matchPath p.name (e ++ rest) = .ok (p.name.dropWhile (· ≠ COLON)) rest

/-- `a` spells the index path `ix`: a leaf row's name; a directory row's name whose only `/` is its
    last character; or a directory row's name followed by an address of its sub-table.  Literal trees
    (`Unamb`, `UnambDir`) and trees with enumerated rows (`TreeOKE`, `TreeNumOK`) both give routes. -/
inductive Route : List PortT → List Nat → Bytes → Prop
  | leaf {ps i p e} : Answers ps i p e → p.hasPorts = false → Route ps [i] e
  | dir {ps i p l'} : Answers ps i p (l' ++ [SLASH]) → p.hasPorts = true → SLASH ∉ l' →
      Route ps [i] (l' ++ [SLASH])
  | enter {ps i p e ix a'} : Answers ps i p e → p.hasPorts = true → Route p.children ix a' →
      Route ps (i :: ix) (e ++ a')

theorem Route.apropos {ps : List PortT} {ix : List Nat} {a : Bytes} (h : Route ps ix a) :
    apropos ps a = .port ix ∧ GoodAddr a := by
  induction h with
  | @leaf ps i p e h hports =>
    have hself := h.leaf hports
    exact ⟨apropos_leaf_row h.row (h.others e h.good.2.2 (List.prefix_refl _) (Or.inl rfl)) h.good.1 h.good.2.1
      (fun c hc => (h.good.2.2 c hc).2) hself hports, h.good⟩
  | @dir ps i p l' h hports hns =>
    -- nothing follows the only `/` of the address: `strchr(path,'/')[1] == 0`
    obtain ⟨_, hc, hm⟩ := h.dir hports
    have hm := hm []
    rw [List.append_nil] at hm
    refine ⟨?_, h.good⟩
    rw [apropos_dir_row h.row (h.others _ h.good.2.2 (List.prefix_refl _) (Or.inl rfl)) h.good.2.1 hc hm hports
      (dropWhile_no_slash l' [] hns)]
    rfl
  | @enter ps i p e ix a' h hports _ ih =>
    obtain ⟨hrec, hne', _, hclean'⟩ := ih
    obtain ⟨hel, hc, hm⟩ := h.dir hports
    obtain ⟨hne, hhd, hcl⟩ := h.good
    have hclean : ∀ c ∈ e ++ a', CleanChar c := fun c hc => (List.mem_append.mp hc).elim (hcl c) (hclean' c)
    have hhd2 : hd (e ++ a') ≠ SLASH := by rwa [hd_append_of_ne hne]
    refine ⟨?_, by simp [hne], hhd2, hclean⟩
    -- something follows the first `/` of the address: `strchr(path,'/')[1] != 0`
    obtain ⟨l', hl'⟩ := List.getLast?_eq_some_iff.mp hel
    have hpath : e ++ a' = l' ++ SLASH :: a' := by rw [hl']; simp
    obtain ⟨Z, hdrop, hZ0⟩ := dropWhile_slash l' a' hne' fun c hc => (hclean c (hpath ▸ hc)).2
    rw [apropos_dir_row h.row (h.others _ hclean (List.prefix_append _ _) (Or.inr hel)) hhd2 hc (hm a') hports
      (hpath ▸ hdrop), if_pos hZ0, hrec]
    rfl

/-- address of the port `t` below `p` (`t = []`: `p` itself) -/
def addrBelow (p : PortT) : List Nat → Option Bytes
  | [] => if p.hasPorts then none else some (lit p.name)
  | j :: ix => if p.hasPorts then (addrOf p.children (j :: ix)).map (subPrefix p.name ++ ·) else none

theorem addrOf_cons (ps : List PortT) (i : Nat) (t : List Nat) :
    addrOf ps (i :: t) = match ps[i]? with | none => none | some p => addrBelow p t := by
  cases t <;> cases h : ps[i]? <;> simp only [addrOf, h] <;> rfl

mutual
theorem walkL_sound : ∀ (rest : List PortT) (i : Nat) (a : Bytes) (ix : List Nat),
    (a, ix) ∈ walkL rest i →
    ∃ k p t, ix = (i + k) :: t ∧ rest[k]? = some p ∧ addrBelow p t = some a
  | [], i, a, ix, h => by simp [walkL] at h
  | p :: rest, i, a, ix, h => by
    rw [walkL] at h
    rcases List.mem_append.mp h with h | h
    · obtain ⟨⟨a', t⟩, hm, heq⟩ := List.mem_map.mp h
      cases heq
      exact ⟨0, p, t, rfl, rfl, walkP_sound p a t hm⟩
    · obtain ⟨k, q, t, h1, h2, h3⟩ := walkL_sound rest (i + 1) a ix h
      exact ⟨k + 1, q, t, by rw [h1, Nat.add_assoc, Nat.add_comm 1], h2, h3⟩
theorem walkP_sound : ∀ (p : PortT) (a : Bytes) (t : List Nat), (a, t) ∈ walkP p →
    addrBelow p t = some a
  | .mk n m hp cs, a, t, h => by
    rw [walkP] at h
    split at h
    · rename_i hh
      obtain ⟨⟨a', t'⟩, hm, heq⟩ := List.mem_map.mp h
      cases heq
      obtain ⟨k, q, t2, rfl, h2, h3⟩ := walkL_sound cs 0 a' t hm
      simp only [Nat.zero_add, addrBelow, PortT.hasPorts, hh, ↓reduceIte, PortT.children, PortT.name]
      rw [addrOf_cons, h2]
      simp [h3]
    · rename_i hh
      simp only [List.mem_cons, Prod.mk.injEq, List.not_mem_nil, or_false] at h
      obtain ⟨rfl, rfl⟩ := h
      simp [addrBelow, PortT.hasPorts, hh, PortT.name]
end

theorem walk_sound (ps : List PortT) (a : Bytes) (ix : List Nat) (h : (a, ix) ∈ walk ps) :
    addrOf ps ix = some a := by
  obtain ⟨k, p, t, h1, h2, h3⟩ := walkL_sound ps 0 a ix h
  subst h1
  rw [addrOf_cons]
  simp [h2, h3]

/-- the sub-table of a row, in a tree all of whose tables are good: `S` says it of the tables below some
    rows, `T` of a table and those below it -/
theorem subTables_get {S T : List PortT → Prop} (hcons : ∀ p r, S (p :: r) → T p.children ∧ S r)
    {ps : List PortT} {i : Nat} {p : PortT} (hok : S ps) (h : ps[i]? = some p) : T p.children := by
  induction ps generalizing i with
  | nil => simp at h
  | cons a r ih =>
    cases i with
    | zero => obtain rfl := Option.some.inj h; exact (hcons a r hok).1
    | succ k => exact ih (hcons a r hok).2 h

theorem subTablesOK_get (ps : List PortT) (i : Nat) (p : PortT) (hok : SubTablesOK ps) (h : ps[i]? = some p) :
    TreeOK p.children :=
  subTables_get (S := SubTablesOK) (T := TreeOK) (fun p _ h => by cases p; exact h) hok h

theorem level_of_tableOK {ps : List PortT} (h : TableOK ps) {i : Nat} {p : PortT} (hp : ps[i]? = some p) :
    Level ps i p := by
  have hpm : p ∈ ps := List.mem_of_getElem? hp
  refine ⟨hp, fun q hq => (h.1 q hq).1, (h.1 p hpm).2.1, (h.1 p hpm).2.2.1, ?_⟩
  intro j q hq hji
  exact ⟨h.2 j i q p hq hp hji, h.2 i j p q hp hq (fun e => hji e.symm)⟩

theorem unamb_of_treeOK : ∀ (ix : List Nat) (ps : List PortT) (a : Bytes), TreeOK ps →
    addrOf ps ix = some a → Unamb ps ix := by
  intro ix
  induction ix with
  | nil => intro ps a _ h; simp [addrOf] at h
  | cons i t ih =>
    intro ps a hok haddr
    cases t with
    | nil =>
      cases hp : ps[i]? with
      | none => simp [addrOf, hp] at haddr
      | some p => exact ⟨p, level_of_tableOK hok.1 hp⟩
    | cons j ix' =>
      cases hp : ps[i]? with
      | none => simp [addrOf, hp] at haddr
      | some p =>
        simp only [addrOf, hp] at haddr
        split at haddr
        · rename_i hports
          obtain ⟨a', ha', _⟩ := Option.map_eq_some_iff.mp haddr
          have hpm : p ∈ ps := List.mem_of_getElem? hp
          exact ⟨p, level_of_tableOK hok.1 hp, (hok.1.1 p hpm).2.2.2 hports,
            ih p.children a' (subTablesOK_get ps i p hok.2 hp) ha'⟩
        · simp at haddr

end Rtosc.Path
