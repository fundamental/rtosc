/-
  C10 — lemmas about the libc sub-models (digit strings, integer conversions of sscanf).
-/
import RtoscModel.Libc.Scanf
namespace Rtosc.Libc
open Rtosc

/-- `lit` of a literal, character by character.  The kernel evaluates `"…".toList` by decoding the
    literal's UTF-8 bytes position by position, which is far worse than linear in its length;
    rewriting with this first (a literal unfolds to `String.ofList […]`) leaves it a `List.map`. -/
theorem lit_ofList (l : List Char) : lit (String.ofList l) = l.map (fun c => c.toNat.toUInt8) := by
  simp [lit]

theorem lit_append (a b : String) : lit (a ++ b) = lit a ++ lit b := by
  simp [lit, String.toList_append]

theorem isdigit_digitChar (d : Nat) (h : d < 10) : isdigit (digitChar d) = true := by
  have : ∀ d : Fin 10, isdigit (digitChar d.val) = true := by decide
  exact this ⟨d, h⟩

theorem dval_digitChar (d : Nat) (h : d < 10) : dval (digitChar d) = d := by
  have : ∀ d : Fin 10, dval (digitChar d.val) = d.val := by decide
  exact this ⟨d, h⟩

theorem xval_digitChar (d : Nat) (h : d < 10) : xval (digitChar d) = d := by
  have : ∀ d : Fin 10, xval (digitChar d.val) = d.val := by decide
  exact this ⟨d, h⟩

theorem foldl_digits_start (b : Nat) (y : Bytes) : ∀ a : Nat,
    List.foldl (fun v c => v * b + xval c) a y = a * b ^ y.length + List.foldl (fun v c => v * b + xval c) 0 y := by
  induction y with
  | nil => intro a; simp
  | cons c r ih =>
    intro a
    simp only [List.foldl_cons, List.length_cons]
    rw [ih (a * b + xval c), ih (0 * b + xval c)]
    rw [Nat.pow_succ, Nat.add_mul, Nat.zero_mul, Nat.zero_add, Nat.mul_assoc, Nat.add_assoc, Nat.mul_comm b]

theorem digitsVal_append (b : Nat) (x y : Bytes) :
    digitsVal b (x ++ y) = digitsVal b x * b ^ y.length + digitsVal b y := by
  unfold digitsVal
  rw [List.foldl_append, foldl_digits_start]

theorem digitsVal_cons (b : Nat) (c : UInt8) (xs : Bytes) :
    digitsVal b (c :: xs) = xval c * b ^ xs.length + digitsVal b xs := by
  unfold digitsVal
  simp only [List.foldl_cons, Nat.zero_mul, Nat.zero_add]
  exact foldl_digits_start b xs (xval c)

theorem digitsVal_cons_zero (b : Nat) (ds : Bytes) : digitsVal b (48 :: ds) = digitsVal b ds := by
  rw [digitsVal_cons]
  have : xval 48 = 0 := by decide
  simp [this]

theorem hexDigitChar_facts (d : Nat) (h : d < 16) :
    isxdigit (hexDigitChar d) = true ∧ xval (hexDigitChar d) = d := by
  have : ∀ d : Fin 16, isxdigit (hexDigitChar d.val) = true ∧ xval (hexDigitChar d.val) = d.val := by decide
  exact this ⟨d, h⟩

theorem digitChar_ne_zero (d : Nat) (h1 : 0 < d) (h2 : d < 10) : digitChar d ≠ 48 := by
  have : ∀ d : Fin 10, 0 < d.val → digitChar d.val ≠ 48 := by decide
  exact this ⟨d, h2⟩ h1

/-- The recursion of both `decDigitsFuel` and `hexDigitsFuel`: the digits of `n` in base `b`, written
    with `dig`, most significant first, in front of `acc`. -/
def digitsFuel (b : Nat) (dig : Nat → UInt8) : Nat → Nat → Bytes → Bytes
  | 0, _, acc => acc
  | fuel + 1, n, acc => if n = 0 then acc else digitsFuel b dig fuel (n / b) (dig (n % b) :: acc)

theorem decDigitsFuel_eq : ∀ f n acc, decDigitsFuel f n acc = digitsFuel 10 digitChar f n acc := by
  intro f; induction f with
  | zero => intros; rfl
  | succ f ih => intro n acc; simp only [decDigitsFuel, digitsFuel, ih]

theorem hexDigitsFuel_eq : ∀ f n acc, hexDigitsFuel f n acc = digitsFuel 16 hexDigitChar f n acc := by
  intro f; induction f with
  | zero => intros; rfl
  | succ f ih => intro n acc; simp only [hexDigitsFuel, digitsFuel, ih]

/-- the digits of `n` (`0 ↦ []`) -/
def digits (b : Nat) (dig : Nat → UInt8) (n : Nat) : Bytes := digitsFuel b dig n n []

theorem digits_zero (b : Nat) (dig : Nat → UInt8) : digits b dig 0 = [] := rfl

section
variable {b : Nat} (hb : 2 ≤ b) (dig : Nat → UInt8)
include hb

theorem digitsFuel_spec : ∀ (f n : Nat) (acc : Bytes), n ≤ f →
    digitsFuel b dig f n acc = digits b dig n ++ acc := by
  intro f n
  induction n using Nat.strongRecOn generalizing f with
  | _ n ih =>
    intro acc h
    unfold digits
    cases f with
    | zero => have : n = 0 := by omega
              subst this; simp [digitsFuel]
    | succ g =>
      cases n with
      | zero => simp [digitsFuel]
      | succ m =>
        have hlt : (m + 1) / b < m + 1 := Nat.div_lt_self (by omega) (by omega)
        simp only [digitsFuel, Nat.succ_ne_zero, ↓reduceIte]
        rw [ih _ hlt g _ (by omega), ih _ hlt m _ (by omega)]
        simp

theorem digits_step (n : Nat) (h : n ≠ 0) : digits b dig n = digits b dig (n / b) ++ [dig (n % b)] := by
  obtain ⟨m, rfl⟩ : ∃ m, n = m + 1 := ⟨n - 1, by omega⟩
  have hlt : (m + 1) / b < m + 1 := Nat.div_lt_self (by omega) (by omega)
  conv => lhs; unfold digits
  simp only [digitsFuel, Nat.succ_ne_zero, ↓reduceIte]
  exact digitsFuel_spec hb dig m _ _ (by omega)

theorem digits_all (P : UInt8 → Prop) (hP : ∀ d < b, P (dig d)) (n : Nat) : ∀ c ∈ digits b dig n, P c := by
  induction n using Nat.strongRecOn with
  | _ n ih =>
    by_cases h : n = 0
    · subst h; simp [digits_zero]
    · rw [digits_step hb dig n h]
      intro c hc
      simp only [List.mem_append, List.mem_singleton] at hc
      rcases hc with hc | rfl
      · exact ih _ (Nat.div_lt_self (by omega) (by omega)) c hc
      · exact hP _ (Nat.mod_lt _ (by omega))

theorem digitsVal_digits (hv : ∀ d < b, xval (dig d) = d) (n : Nat) : digitsVal b (digits b dig n) = n := by
  induction n using Nat.strongRecOn with
  | _ n ih =>
    by_cases h : n = 0
    · subst h; simp [digits_zero, digitsVal]
    · rw [digits_step hb dig n h, digitsVal_append, ih _ (Nat.div_lt_self (by omega) (by omega))]
      simp only [List.length_singleton, Nat.pow_one, digitsVal, List.foldl_cons, List.foldl_nil, Nat.zero_mul,
        Nat.zero_add, hv _ (Nat.mod_lt _ (by omega : 0 < b))]
      exact Nat.div_add_mod' n b

theorem digits_length (w : Nat) : ∀ n, n < b ^ w → (digits b dig n).length ≤ w := by
  induction w with
  | zero => intro n h; have : n = 0 := by simpa using h
            subst this; simp [digits_zero]
  | succ w ih =>
    intro n h
    by_cases h0 : n = 0
    · subst h0; simp [digits_zero]
    · rw [digits_step hb dig n h0]
      have : n / b < b ^ w := by
        rw [Nat.pow_succ] at h
        exact Nat.div_lt_of_lt_mul (by rwa [Nat.mul_comm] at h)
      have := ih _ this
      simp; omega

theorem digits_head (n : Nat) (h : 0 < n) : ∃ d ds, digits b dig n = dig d :: ds ∧ 0 < d ∧ d < b := by
  induction n using Nat.strongRecOn with
  | _ n ih =>
    rw [digits_step hb dig n (by omega)]
    by_cases h0 : n / b = 0
    · rw [h0, digits_zero]
      refine ⟨n % b, [], rfl, ?_, Nat.mod_lt _ (by omega)⟩
      have := Nat.div_add_mod n b
      rw [h0] at this; omega
    · obtain ⟨d, ds, he, hd⟩ := ih (n / b) (Nat.div_lt_self h (by omega)) (Nat.pos_of_ne_zero h0)
      exact ⟨d, ds ++ [dig (n % b)], by rw [he]; rfl, hd⟩

end

theorem decDigitsAux_digits (n : Nat) (acc : Bytes) : decDigitsAux n acc = digits 10 digitChar n ++ acc := by
  rw [decDigitsAux, decDigitsFuel_eq]; exact digitsFuel_spec (by omega) _ n n acc (Nat.le_refl _)

theorem hexDigitsAux_digits (n : Nat) (acc : Bytes) : hexDigitsAux n acc = digits 16 hexDigitChar n ++ acc := by
  rw [hexDigitsAux, hexDigitsFuel_eq]; exact digitsFuel_spec (by omega) _ n n acc (Nat.le_refl _)

theorem decDigits_eq (n : Nat) : decDigitsAux n [] = digits 10 digitChar n := by simp [decDigitsAux_digits]
theorem hexDigits_eq (n : Nat) : hexDigitsAux n [] = digits 16 hexDigitChar n := by simp [hexDigitsAux_digits]

theorem decDigits_zero : decDigitsAux 0 [] = [] := rfl
theorem hexDigits_zero : hexDigitsAux 0 [] = [] := rfl

theorem decDigits_snoc (n : Nat) (h : n ≠ 0) :
    decDigitsAux n [] = decDigitsAux (n / 10) [] ++ [digitChar (n % 10)] := by
  simp only [decDigits_eq]; exact digits_step (by omega) _ n h

theorem hexDigits_snoc (n : Nat) (h : n ≠ 0) :
    hexDigitsAux n [] = hexDigitsAux (n / 16) [] ++ [hexDigitChar (n % 16)] := by
  simp only [hexDigits_eq]; exact digits_step (by omega) _ n h

theorem decDigits_all_digit (n : Nat) : ∀ c ∈ decDigitsAux n [], isdigit c = true := by
  rw [decDigits_eq]; exact digits_all (by omega) _ _ isdigit_digitChar n

theorem hexDigits_all (n : Nat) : ∀ c ∈ hexDigitsAux n [], isxdigit c = true := by
  rw [hexDigits_eq]; exact digits_all (by omega) _ _ (fun d h => (hexDigitChar_facts d h).1) n

theorem digitsVal_decDigits (n : Nat) : digitsVal 10 (decDigitsAux n []) = n := by
  rw [decDigits_eq]; exact digitsVal_digits (by omega) _ xval_digitChar n

theorem digitsVal_hexDigits (n : Nat) : digitsVal 16 (hexDigitsAux n []) = n := by
  rw [hexDigits_eq]; exact digitsVal_digits (by omega) _ (fun d h => (hexDigitChar_facts d h).2) n

theorem decDigits_length (w : Nat) (n : Nat) (h : n < 10 ^ w) : (decDigitsAux n []).length ≤ w := by
  rw [decDigits_eq]; exact digits_length (by omega) _ w n h

theorem hexDigits_length (w : Nat) (n : Nat) (h : n < 16 ^ w) : (hexDigitsAux n []).length ≤ w := by
  rw [hexDigits_eq]; exact digits_length (by omega) _ w n h

theorem decDigits_head (n : Nat) (h : 0 < n) :
    ∃ d ds, decDigitsAux n [] = d :: ds ∧ isdigit d = true ∧ d ≠ 48 := by
  obtain ⟨d, ds, he, h0, h10⟩ := digits_head (by omega : 2 ≤ 10) digitChar n h
  exact ⟨_, ds, by rw [decDigits_eq, he], isdigit_digitChar d h10, digitChar_ne_zero d h0 h10⟩

theorem UInt8.forall_of_fin (P : UInt8 → Prop) (h : ∀ n : Fin 256, P (UInt8.ofNat n.val)) : ∀ c, P c := by
  intro c
  have := h ⟨c.toNat, c.toNat_lt⟩
  simpa using this

/-- what the proofs about `scanInt`, `takeDigits`, `digitsVal` ask of a decimal digit (read off the 256 bytes) -/
structure DigitFacts (c : UInt8) : Prop where
  ne45 : c ≠ 45
  ne43 : c ≠ 43
  notSpace : isspace c = false
  dval_lt : dval c < 10
  xval_eq : xval c = dval c
  ok10 : digitOk 10 c = true
  ne0 : c ≠ 0

theorem isdigit_facts (c : UInt8) (h : isdigit c = true) : DigitFacts c := by
  have : ∀ c : UInt8, isdigit c = true →
      c ≠ 45 ∧ c ≠ 43 ∧ isspace c = false ∧ dval c < 10 ∧ xval c = dval c ∧ digitOk 10 c = true ∧ c ≠ 0 := by
    apply UInt8.forall_of_fin
    decide +kernel
  obtain ⟨a1, a2, a3, a4, a5, a6, a7⟩ := this c h
  exact ⟨a1, a2, a3, a4, a5, a6, a7⟩

theorem digitsVal10_lt (ds : Bytes) (hds : ∀ c ∈ ds, isdigit c = true) : digitsVal 10 ds < 10 ^ ds.length := by
  induction ds with
  | nil => decide
  | cons c r ih =>
    obtain ⟨_, _, _, hlt, hx, _, _⟩ := isdigit_facts c (hds c (by simp))
    have := ih (fun x hx => hds x (by simp [hx]))
    rw [digitsVal_cons, List.length_cons, Nat.pow_succ, hx]
    calc dval c * 10 ^ r.length + digitsVal 10 r < dval c * 10 ^ r.length + 10 ^ r.length := by omega
      _ = (dval c + 1) * 10 ^ r.length := by rw [Nat.add_mul, Nat.one_mul]
      _ ≤ 10 * 10 ^ r.length := Nat.mul_le_mul_right _ (by omega)
      _ = 10 ^ r.length * 10 := Nat.mul_comm _ _

theorem tolower_ne_x (c : UInt8) (h1 : c ≠ 120) (h2 : c ≠ 88) : tolower c ≠ 120 := by
  revert h1 h2; revert c; apply UInt8.forall_of_fin; decide +kernel

theorem skipSpace_length_le (s : Bytes) : (skipSpace s).length ≤ s.length := by
  induction s with
  | nil => simp [skipSpace]
  | cons c r ih =>
    simp only [skipSpace]
    split
    · simp; omega
    · simp

theorem skipSpace_drop (s : Bytes) : s.drop (s.length - (skipSpace s).length) = skipSpace s := by
  induction s with
  | nil => simp [skipSpace]
  | cons c r ih =>
    have hle := skipSpace_length_le r
    simp only [skipSpace]
    split
    · have : (c :: r).length - (skipSpace r).length = (r.length - (skipSpace r).length) + 1 := by
        simp; omega
      rw [this, List.drop_succ_cons]; exact ih
    · simp

theorem skipSpace_nonspace (c : UInt8) (r : Bytes) (h : isspace c = false) : skipSpace (c :: r) = c :: r := by
  simp [skipSpace, h]

theorem takeDigits_split (base : Nat) : ∀ (s : Bytes) (w : Option Nat),
    s = (takeDigits base s w).1 ++ (takeDigits base s w).2 := by
  intro s
  induction s with
  | nil => intro w; simp [takeDigits]
  | cons c t ih =>
    intro w
    simp only [takeDigits]
    split
    · simp only [List.cons_append, List.cons.injEq, true_and]
      exact ih (wDec w)
    · simp

theorem takeDigits_nondigit (base : Nat) (r : Bytes) (w : Option Nat) (h : digitOk base (hd r) = false) :
    takeDigits base r w = ([], r) := by
  cases r with
  | nil => rfl
  | cons c t => simp only [hd] at h; simp [takeDigits, h]

theorem takeDigits10_nondigit (rest : Bytes) (hr : isdigit (hd rest) = false) :
    ∀ w, takeDigits 10 rest w = ([], rest) :=
  fun w => takeDigits_nondigit 10 rest w (by simp [digitOk, hr])

theorem takeDigits_run (base : Nat) (ds rest : Bytes) (hds : ∀ c ∈ ds, digitOk base c = true)
    (hr : digitOk base (hd rest) = false) : takeDigits base (ds ++ rest) none = (ds, rest) := by
  induction ds with
  | nil => exact takeDigits_nondigit base rest none hr
  | cons c r ih =>
    have := ih (fun x hx => hds x (by simp [hx]))
    simp [takeDigits, wOk, wDec, hds c (by simp), this]

theorem takeDigits10 (ds rest : Bytes) (hds : ∀ c ∈ ds, isdigit c = true) (hr : isdigit (hd rest) = false) :
    takeDigits 10 (ds ++ rest) none = (ds, rest) :=
  takeDigits_run 10 ds rest (fun c hc => (isdigit_facts c (hds c hc)).ok10) (by simp [digitOk, hr])

theorem takeDigits10_rest (ds rest : Bytes) (w : Option Nat)
    (hds : ∀ c ∈ ds, isdigit c = true) (hr : isdigit (hd rest) = false) :
    isdigit (hd (takeDigits 10 (ds ++ rest) w).2) = true ∨ (takeDigits 10 (ds ++ rest) w).2 = rest := by
  induction ds generalizing w with
  | nil => right; rw [List.nil_append, takeDigits10_nondigit rest hr w]
  | cons c r ih =>
    have hc := hds c (by simp)
    have hok := (isdigit_facts c hc).ok10
    simp only [List.cons_append, takeDigits]
    by_cases hw : wOk w = true
    · simp only [hw, hok, Bool.and_self, ↓reduceIte]
      exact ih (wDec w) (fun x hx => hds x (by simp [hx]))
    · left
      simp only [hw, Bool.false_and, Bool.false_eq_true, ↓reduceIte, hd, hc]

@[simp] theorem hd_cons (c : UInt8) (r : Bytes) : hd (c :: r) = c := rfl

theorem skipSpace_append (lead x : Bytes) (hl : ∀ c ∈ lead, isspace c = true) :
    skipSpace (lead ++ x) = skipSpace x := by
  induction lead with
  | nil => rfl
  | cons c r ih => simp [skipSpace, hl c (by simp), ih (fun y hy => hl y (by simp [hy]))]

theorem skipSpace_of_hd (s : Bytes) (h : s = [] ∨ isspace (hd s) = false) : skipSpace s = s := by
  cases s with
  | nil => rfl
  | cons c r =>
    rcases h with h | h
    · cases h
    · simp only [hd_cons] at h; simp [skipSpace, h]

theorem skipSpace_lead (lead x : Bytes) (hl : ∀ c ∈ lead, isspace c = true) (hx : x = [] ∨ isspace (hd x) = false) :
    skipSpace (lead ++ x) = x := by
  rw [skipSpace_append lead x hl, skipSpace_of_hd x hx]

theorem takeWhile_prefix {p : UInt8 → Bool} (a r : Bytes) (ha : ∀ c ∈ a, p c = true) (hr : r = [] ∨ p (hd r) = false) :
    (a ++ r).takeWhile p = a := by
  induction a with
  | nil =>
    rcases hr with rfl | hr
    · rfl
    · cases r with
      | nil => rfl
      | cons c r => simp only [hd_cons] at hr; simp [hr]
  | cons c a ih => simp [ha c (by simp), ih (fun x hx => ha x (by simp [hx]))]

theorem takeWhile_all (p : UInt8 → Bool) (s : Bytes) (h : ∀ x ∈ s, p x = true) : s.takeWhile p = s := by
  simpa using takeWhile_prefix s [] h (Or.inl rfl)
@[simp] theorem hd_nil : hd ([] : Bytes) = 0 := rfl

theorem isxdigit_facts (c : UInt8) (h : isxdigit c = true) :
    c ≠ 45 ∧ c ≠ 43 ∧ isspace c = false ∧ tolower c ≠ 120 ∧ digitOk 16 c = true := by
  revert h; revert c; apply UInt8.forall_of_fin; decide +kernel

theorem intPrefix_nonzero (b : Nat) (c : UInt8) (r : Bytes) (w : Option Nat) (h : c ≠ 48) :
    intPrefix b (c :: r) w = (false, if b = 0 then 10 else b, c :: r, w) := by
  simp [intPrefix, h]

theorem takeDigits16 (xs rest : Bytes) (hxs : ∀ c ∈ xs, isxdigit c = true) (hr : isxdigit (hd rest) = false) :
    takeDigits 16 (xs ++ rest) none = (xs, rest) :=
  takeDigits_run 16 xs rest (fun c hc => (isxdigit_facts c (hxs c hc)).2.2.2.2) (by simp [digitOk, hr])

/-- `%x` on a non-empty run of hexadecimal digits.  What follows matters beyond its not being a digit
    only behind a single `0`, which an `x` would turn into the prefix `0x`. -/
theorem scanInt_x_run (xs tail : Bytes) (hne : xs ≠ []) (hxs : ∀ c ∈ xs, isxdigit c = true)
    (ht : isxdigit (hd tail) = false) (ht2 : xs.length = 1 → tolower (hd tail) ≠ 120) :
    scanInt .x none (xs ++ tail) = some (intValue .x false (digitsVal 16 xs), tail) := by
  cases xs with
  | nil => exact absurd rfl hne
  | cons c xs' =>
    have hc := hxs c (by simp)
    have hxs' : ∀ c ∈ xs', isxdigit c = true := fun c hc => hxs c (by simp [hc])
    obtain ⟨h45, h43, hsp, _, _⟩ := isxdigit_facts c hc
    have hnx : tolower (hd (xs' ++ tail)) ≠ 120 := by
      cases xs' with
      | nil => simpa using ht2
      | cons e t => simpa using (isxdigit_facts e (hxs' e (by simp))).2.2.2.1
    unfold scanInt
    simp only [List.cons_append, skipSpace, hsp, Bool.false_eq_true, ↓reduceIte]
    by_cases h48 : c = 48
    · subst h48
      have htd := takeDigits16 xs' tail hxs' ht
      rw [digitsVal_cons_zero]
      simp [intPrefix, wOk, wDec, hnx, htd]
    · have htd := takeDigits16 (c :: xs') tail hxs ht
      simp only [List.cons_append] at htd
      simp [h45, h43, intPrefix_nonzero _ _ _ _ h48, htd]

theorem intPrefix_nil (b : Nat) (w : Option Nat) :
    intPrefix b [] w = (false, if b = 0 then 10 else b, [], w) := by
  simp [intPrefix]

/-- base 10: a leading "0" is read as a digit, an "x" behind it is left alone -/
theorem intPrefix10_zero (r : Bytes) (w : Option Nat) (hw : wOk w = true) :
    intPrefix 10 (48 :: r) w = (true, 10, r, wDec w) := by
  simp only [intPrefix, hw, hd_cons, decide_true, Bool.and_self, List.isEmpty_cons, Bool.not_false,
    ↓reduceIte, List.drop_succ_cons, List.drop_zero, Nat.reduceEqDiff, or_self]
  split <;> rfl

theorem intPrefix10_fst_snd (s : Bytes) (w : Option Nat) :
    (intPrefix 10 s w).2.1 = 10 ∧
    ((intPrefix 10 s w).2.2.1 = s ∨ (intPrefix 10 s w).2.2.1 = s.drop 1) := by
  unfold intPrefix
  split
  · split
    · simp
    · simp
  · simp

theorem scanInt_digits_sgn (conv : IntConv) (hconv : conv ≠ .x) (neg : Bool) (d : UInt8) (ds rest : Bytes)
    (hd0 : isdigit d = true) (hnz : d ≠ 48)
    (hds : ∀ c ∈ ds, isdigit c = true) (hr : isdigit (hd rest) = false) :
    scanInt conv none ((if neg then [45] else []) ++ d :: ds ++ rest) =
      some (clampI64 (if neg then -(digitsVal 10 (d :: ds) : Int) else digitsVal 10 (d :: ds)), rest) := by
  obtain ⟨h45, h43, hsp, _, _, _, _⟩ := isdigit_facts d hd0
  have htd := takeDigits10 (d :: ds) rest (List.forall_mem_cons.mpr ⟨hd0, hds⟩) hr
  simp only [List.cons_append] at htd
  have h45sp : isspace 45 = false := by decide
  unfold scanInt
  cases neg <;> simp only [Bool.false_eq_true, ↓reduceIte, List.nil_append, List.cons_append, skipSpace, hsp, h45sp] <;>
    cases conv with
    | x => exact absurd rfl hconv
    | d => simp [h45, h43, intPrefix_nonzero _ _ _ _ hnz, htd, intValue, wDec]
    | i => simp [h45, h43, intPrefix_nonzero _ _ _ _ hnz, htd, intValue, wDec]

theorem scanInt_digits_pos (conv : IntConv) (hconv : conv ≠ .x) (d : UInt8) (ds rest : Bytes)
    (hd0 : isdigit d = true) (hnz : d ≠ 48)
    (hds : ∀ c ∈ ds, isdigit c = true) (hr : isdigit (hd rest) = false) :
    scanInt conv none (d :: ds ++ rest) =
      some (clampI64 (digitsVal 10 (d :: ds) : Int), rest) :=
  scanInt_digits_sgn conv hconv false d ds rest hd0 hnz hds hr

theorem scanInt_zero_d (rest : Bytes) (hr : isdigit (hd rest) = false) :
    scanInt .d none (48 :: rest) = some (0, rest) := by
  have htd := takeDigits10_nondigit rest hr
  unfold scanInt
  have h48sp : isspace 48 = false := by decide
  simp only [skipSpace, h48sp, Bool.false_eq_true, ↓reduceIte]
  simp [intPrefix10_zero rest none rfl, htd, digitsVal, intValue, clampI64]

theorem scanInt_d_rest (w : Option Nat) (neg : Bool) (d : UInt8) (ds rest : Bytes)
    (hd0 : isdigit d = true) (hds : ∀ c ∈ ds, isdigit c = true) (hr : isdigit (hd rest) = false)
    (v : Int) (r : Bytes)
    (h : scanInt .d w ((if neg then [45] else []) ++ d :: ds ++ rest) = some (v, r)) :
    isdigit (hd r) = true ∨ r = rest := by
  obtain ⟨h45, h43, hsp, _, _, _, _⟩ := isdigit_facts d hd0
  have hall : ∀ c ∈ d :: ds, isdigit c = true := by
    intro c hc; simp at hc; rcases hc with rfl | hc; exact hd0; exact hds c hc
  have A := fun w' => takeDigits10_rest (d :: ds) rest w' hall hr
  have B := fun w' => takeDigits10_rest ds rest w' hds hr
  simp only [List.cons_append] at A
  have key : ∀ w', isdigit (hd (takeDigits (intPrefix 10 (d :: (ds ++ rest)) w').2.1
      (intPrefix 10 (d :: (ds ++ rest)) w').2.2.1 (intPrefix 10 (d :: (ds ++ rest)) w').2.2.2).2) = true ∨
      (takeDigits (intPrefix 10 (d :: (ds ++ rest)) w').2.1
      (intPrefix 10 (d :: (ds ++ rest)) w').2.2.1 (intPrefix 10 (d :: (ds ++ rest)) w').2.2.2).2 = rest := by
    intro w'
    obtain ⟨hb, hs⟩ := intPrefix10_fst_snd (d :: (ds ++ rest)) w'
    rw [hb]
    rcases hs with hs | hs
    · rw [hs]; exact A _
    · rw [hs]; simp only [List.drop_succ_cons, List.drop_zero]; exact B _
  unfold scanInt at h
  cases neg
  · simp only [Bool.false_eq_true, ↓reduceIte, List.nil_append, List.cons_append, skipSpace, hsp] at h
    simp only [h45, h43, decide_false, Bool.or_self, Bool.false_eq_true, ↓reduceIte] at h
    split at h
    · cases h
    · simp only [Option.some.injEq, Prod.mk.injEq] at h
      rw [← h.2]; exact key _
  · have h45sp : isspace 45 = false := by decide
    simp only [↓reduceIte, List.cons_append, List.nil_append, skipSpace, h45sp, Bool.false_eq_true] at h
    simp only [decide_true, Bool.true_or, ↓reduceIte] at h
    split at h
    · cases h
    · simp only [Option.some.injEq, Prod.mk.injEq] at h
      rw [← h.2]; exact key _

theorem fmtDec_shape (v : Int) :
    (v = 0 ∧ fmtDec v = [48]) ∨
    (∃ d ds, isdigit d = true ∧ d ≠ 48 ∧ (∀ c ∈ ds, isdigit c = true) ∧
      fmtDec v = (if v < 0 then [45] else []) ++ d :: ds ∧ digitsVal 10 (d :: ds) = v.natAbs) := by
  by_cases hv : v = 0
  · left; subst hv; exact ⟨rfl, by decide⟩
  · right
    have hn : 0 < v.natAbs := by omega
    obtain ⟨d, ds, he, hd1, hd2⟩ := decDigits_head v.natAbs hn
    refine ⟨d, ds, hd1, hd2, ?_, ?_, ?_⟩
    · intro c hc
      exact decDigits_all_digit v.natAbs c (by rw [he]; simp [hc])
    · unfold fmtDec fmtNat
      have : v.natAbs ≠ 0 := by omega
      simp only [this, ↓reduceIte, he]
      split <;> simp
    · rw [← he]; exact digitsVal_decDigits _

end Rtosc.Libc
