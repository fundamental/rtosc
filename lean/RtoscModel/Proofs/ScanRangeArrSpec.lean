/-
  C11 — from the specification to the proof interface, for the widest class: values with proved agreement in
  the wider sense (`SVal.rproved`): scalars in proved spellings, `nxA`, and arrays (without open end) whose
  elements are such values or ranges `b ... c` of decimal 'i' integers, each range standing first in the
  array or behind a scalar, `nx<scalar>`, another such range, an array or `nx[array]` (`rangedElemsG`;
  the same predicate describes the values of a sentence).  Such a value is a good argument, the text of a
  sentence of such values and ranges is a `LayR`, and the specification assigns them the cells `rcellsV` /
  `rcellsE` (items `ritem` / `ritemsE`).  The class, its cells and items are defined in `Pretty/C11RangedSpec.lean`
  (the narrower classes in `Pretty/C11ProvedSpec.lean`; the heads of the two files list the names).  The narrower
  classes — `rangedFrom` (no ranges inside arrays) and `SVal.proved` (no ranges at all) — are restrictions of this
  one; their theorems follow at the end: on a narrower class the wider functions give the narrower ones
  (`…_of_proved`, `rangedFromA_of_ranged`).
-/
import RtoscModel.Pretty.C11RangedSpec
import RtoscModel.Proofs.ScanSeq
import RtoscModel.Proofs.ScanRangeSpec
namespace Rtosc.Pretty.C11
open Rtosc Rtosc.Libc Rtosc.Pretty
open Rtosc.ArgVal (Cell Item flatList)

theorem rcellsE_cons (o : Option (Option Int)) (v : SVal) (r : List SVal) :
    rcellsE o (v :: r) = argCells o v ++ rcellsE v.next r := by
  simp only [rcellsE, argCells]

mutual
theorem flat_ritem : ∀ (x : SVal), x.ritem.flat = x.rcellsV
  | .val t => by simp [SVal.ritem, SVal.rcellsV, Rtosc.ArgVal.Item.flat]
  | .rep n x => by simp [SVal.ritem, SVal.rcellsV, Rtosc.ArgVal.Item.flat, flat_ritem x]
  | .range _ _ => by simp [SVal.ritem, SVal.rcellsV, Rtosc.ArgVal.Item.flat]
  | .arr es _ => by simp [SVal.ritem, SVal.rcellsV, Rtosc.ArgVal.Item.flat, flatList_ritems (some none) es]
theorem flatList_ritems : ∀ (o : Option (Option Int)) (es : List SVal), flatList (ritemsE o es) = rcellsE o es
  | _, [] => by simp [ritemsE, rcellsE, flatList]
  | o, v :: r => by
    rw [ritemsE, rcellsE]
    cases hv : v.iRange with
    | some p => simp [flatList, Rtosc.ArgVal.Item.flat, rangeCellsNb, flatList_ritems v.next r]
    | none => simp [flatList, flat_ritem v, flatList_ritems v.next r]
end

theorem length_ritemsE : ∀ (o : Option (Option Int)) (es : List SVal), (ritemsE o es).length = es.length
  | _, [] => rfl
  | o, v :: r => by simp [ritemsE, length_ritemsE v.next r]

theorem rproved_unfold_val (bl : List Nat → Blank) (t : Tok) : (SVal.val t).rproved bl ↔ (t.wf = true ∧ t.proved bl = true) := by
  simp [SVal.rproved]

theorem rproved_unfold_rep (bl : List Nat → Blank) (n : Nat) (x : SVal) :
    (SVal.rep n x).rproved bl ↔ (1 ≤ n ∧ n ≤ 2147483647 ∧ x.repeatable ∧ x.rproved (sub bl 0)) := by
  simp [SVal.rproved]

theorem rproved_unfold_arr (bl : List Nat → Blank) (es : List SVal) (opn : Bool) :
    (SVal.arr es opn).rproved bl ↔ (opn = false ∧ sameTys es = true ∧ rangedElemsG (fun k => 2 * k + 5) bl 1 (some none) es) := by
  simp [SVal.rproved]

/-- the step of `rangedElemsG`, with the `match` of the definition -/
theorem rangedElemsG_cons (ix : Nat → Nat) (bl : List Nat → Blank) (k : Nat) (o : Option (Option Int)) (v : SVal)
    (r : List SVal) :
    rangedElemsG ix bl k o (v :: r) ↔
      ((match v.iRange with
        | some (x, z) => (∃ nb, o = some nb ∧ RangeOK nb x z) ∧ bl [ix k, 1] ≠ []
        | none => v.rproved (sub bl (ix k))) ∧ rangedElemsG ix bl (k + 1) v.next r) :=
  Iff.rfl

mutual
theorem tailKeep_rcellsV : ∀ (x : SVal), TailKeep x.rcellsV
  | .val t => by
    have : NoDelta [t.cell] := noDelta_pcells (.val t)
    simpa [SVal.rcellsV] using this.tailKeep
  | .rep k x => by
    have h1 : NoDelta [Cell.rep k 0] := by
      intro n h hm
      simp only [List.mem_singleton] at hm
      cases hm; rfl
    have := h1.tailKeep.append (tailKeep_rcellsV x)
    simpa [SVal.rcellsV] using this
  | .range _ _ => by
    have : NoDelta [Cell.flag .N] := by intro n h hm; simp at hm
    simpa [SVal.rcellsV] using this.tailKeep
  | .arr es _ => by
    have h1 : NoDelta [Cell.arr (lastElemTy es) (rcellsE (some none) es).length] := by intro n h hm; simp at hm
    have := h1.tailKeep.append (tailKeep_rcellsE (some none) es)
    simpa [SVal.rcellsV] using this
theorem tailKeep_rcellsE : ∀ (o : Option (Option Int)) (es : List SVal), TailKeep (rcellsE o es)
  | _, [] => by simpa [rcellsE] using tailKeep_nil
  | o, v :: r => by
    rw [rcellsE_cons]
    refine TailKeep.append ?_ (tailKeep_rcellsE v.next r)
    unfold argCells
    cases hv : v.iRange with
    | none => exact tailKeep_rcellsV v
    | some p => exact tailKeep_rangeCells _ _ _
end

theorem tailKeep_argCells (o : Option (Option Int)) (v : SVal) : TailKeep (argCells o v) := by
  have := tailKeep_rcellsE o [v]
  rwa [rcellsE_cons, rcellsE, List.append_nil] at this

theorem elemTy_rcellsV (bl : List Nat → Blank) (x : SVal) (h : x.rproved bl) : elemTy x.rcellsV = .ok x.ty := by
  cases x with
  | val t =>
    have hs := tok_cell_scalar t
    simp only [SVal.rcellsV, SVal.ty]
    exact elemTy_scalar _ _ hs
  | rep n y =>
    rw [rproved_unfold_rep] at h
    obtain ⟨_, _, hrep, _⟩ := h
    cases y with
    | val t => simp [SVal.rcellsV, SVal.ty, elemTy_rep0]
    | arr es o => simp [SVal.rcellsV, SVal.ty, elemTy_rep0, ArgVal.Cell.type]
    | rep _ _ => simp [SVal.repeatable] at hrep
    | range _ _ => simp [SVal.repeatable] at hrep
  | range _ _ => simp [SVal.rproved] at h
  | arr es o => simp [SVal.rcellsV, SVal.ty, elemTy_arr, ArgVal.tyA]

theorem skipTy_rcellsV (bl : List Nat → Blank) (x : SVal) (h : x.rproved bl) :
    skipTy x.rcellsV = x.ty ∨ skipTy x.rcellsV = 45 := by
  cases x with
  | val t => left; simp [SVal.rcellsV, SVal.ty, skipTy]
  | rep n y => right; simp [SVal.rcellsV, skipTy, ArgVal.Cell.type, ArgVal.tyRange]
  | range _ _ => simp [SVal.rproved] at h
  | arr es o => left; simp [SVal.rcellsV, SVal.ty, skipTy, ArgVal.Cell.type]

/-- the condition of `rangedElemsG` on one value, the value to its left offering `o` -/
def ElemOK (bl : List Nat → Blank) (o : Option (Option Int)) (v : SVal) : Prop :=
  match v.iRange with
  | some (x, z) => (∃ nb, o = some nb ∧ RangeOK nb x z) ∧ bl [1] ≠ []
  | none => v.rproved bl

/-- the same step through `ElemOK` -/
theorem rangedElemsG_cons' (ix : Nat → Nat) (bl : List Nat → Blank) (k : Nat) (o : Option (Option Int)) (v : SVal)
    (r : List SVal) :
    rangedElemsG ix bl k o (v :: r) ↔ (ElemOK (sub bl (ix k)) o v ∧ rangedElemsG ix bl (k + 1) v.next r) := by
  rw [rangedElemsG_cons]
  unfold ElemOK
  cases v.iRange with
  | none => rfl
  | some p => obtain ⟨x, z⟩ := p; simp [sub]

theorem ty_iRange {v : SVal} {x z : Int} (h : v.iRange = some (x, z)) : v.ty = 105 := by
  rw [iRange_some h]
  simp [SVal.ty, Tok.cell, ArgVal.Cell.type, ArgVal.IntTy.char]

theorem elemTy_argCells (bl : List Nat → Blank) (o : Option (Option Int)) (v : SVal) (h : ElemOK bl o v) :
    elemTy (argCells o v) = .ok v.ty := by
  unfold ElemOK at h
  unfold argCells
  cases hv : v.iRange with
  | none => rw [hv] at h; exact elemTy_rcellsV bl v h
  | some p =>
    obtain ⟨x, z⟩ := p
    simp only [ty_iRange hv]
    exact ety_rangeCells _ _ _

theorem skipTy_argCells (bl : List Nat → Blank) (o : Option (Option Int)) (v : SVal) (h : ElemOK bl o v) :
    skipTy (argCells o v) = v.ty ∨ skipTy (argCells o v) = 45 := by
  unfold ElemOK at h
  unfold argCells
  cases hv : v.iRange with
  | none => rw [hv] at h; exact skipTy_rcellsV bl v h
  | some p =>
    obtain ⟨x, z⟩ := p
    right
    exact skipTy_rangeCells _ _ _

theorem allCells_elemArgsR (bl : List Nat → Blank) : ∀ (es : List SVal) (k : Nat) (o : Option (Option Int)),
    allCells (elemArgsR bl k o es) = rcellsE o es := by
  intro es
  induction es with
  | nil => intro k o; rfl
  | cons v r ih =>
    intro k o
    have := ih (k + 1) v.next
    simp only [allCells] at this
    simp [elemArgsR, rcellsE_cons, allCells, this]

theorem lastTy_elemArgsR (bl : List Nat → Blank) : ∀ (es : List SVal) (k : Nat) (o : Option (Option Int)),
    rangedElemsG (fun k => 2 * k + 5) bl k o es → lastTy 32 (elemArgsR bl k o es) = lastElemTy es := by
  intro es
  induction es with
  | nil => intro k o _; rfl
  | cons x r ih =>
    intro k o h
    rw [rangedElemsG_cons'] at h
    cases r with
    | nil => simp [elemArgsR, lastTy, lastElemTy, elemTy_argCells _ o x h.1]
    | cons y r' =>
      have := ih (k + 1) x.next h.2
      simp only [elemArgsR] at this ⊢
      rw [lastTy_cons _ _ _ (by simp)]
      simpa [lastElemTy] using this

theorem elemTypesOK_elemArgsR (bl : List Nat → Blank) (k : Nat) (o : Option (Option Int)) (es : List SVal)
    (h : rangedElemsG (fun k => 2 * k + 5) bl k o es) (hty : sameTys es = true) : ElemTypesOK (elemArgsR bl k o es) := by
  cases es with
  | nil => exact trivial
  | cons x r =>
    rw [rangedElemsG_cons'] at h
    simp only [sameTys, List.all_eq_true] at hty
    simp only [elemArgsR, ElemTypesOK]
    have key : ∀ (r : List SVal) (k' : Nat) (o' : Option (Option Int)), rangedElemsG (fun k => 2 * k + 5) bl k' o' r →
        (∀ e ∈ r, sameTy x.ty e.ty = true) → TypesOK (skipTy (argCells o x)) (elemArgsR bl k' o' r) := by
      intro r
      induction r with
      | nil => intro k' o' _ _ p hp; simp [elemArgsR] at hp
      | cons y r' ih =>
        intro k' o' hr hs p hp
        rw [rangedElemsG_cons'] at hr
        simp only [elemArgsR, List.mem_cons] at hp
        rcases hp with rfl | hp
        · simp only
          rcases skipTy_argCells _ o x h.1 with hx | hx <;> rcases skipTy_argCells _ o' y hr.1 with hy | hy
          · rw [hx, hy]; exact sameTy_arraytypes _ _ (hs y (by simp))
          · rw [hy]; simp [arraytypesMatch]
          · rw [hx]; simp [arraytypesMatch]
          · rw [hx]; simp [arraytypesMatch]
        · exact ih (k' + 1) y.next hr.2 (fun e he => hs e (by simp [he])) p hp
    exact key r (k + 1) x.next h.2 hty

/-- a value with proved agreement that offers something is a provider -/
theorem prov_of_offerR (bl : List Nat → Blank) (v : SVal) (hv : v.rproved bl) (harg : Arg11 (v.text bl) v.rcellsV)
    (hinner : ∀ n x, v = .rep n x → Arg11 (x.text (sub bl 0)) x.rcellsV)
    (nb : Option Int) (ho : v.offer = some nb) : Prov (v.text bl) v.rcellsV nb := by
  cases v with
  | val t =>
    simp only [SVal.rproved] at hv
    simp only [SVal.offer, Option.some.injEq] at ho
    subst ho
    simpa [SVal.text, SVal.rcellsV] using Prov.scalar _ _ (valOK_tok bl t hv.1 hv.2)
  | rep n x =>
    rw [rproved_unfold_rep] at hv
    obtain ⟨h1, h2, _, hx⟩ := hv
    cases x with
    | val t =>
      simp only [SVal.rproved] at hx
      simp only [SVal.offer, Option.some.injEq] at ho
      subst ho
      have := Prov.rep n _ _ h1 h2 (valOK_tok (sub bl 0) t hx.1 hx.2)
      simpa [SVal.text, SVal.rcellsV, repText, fmtDec_nat] using this
    | arr es o =>
      simp only [SVal.offer, Option.some.injEq] at ho
      subst ho
      have := Prov.repArr n _ _ _ _ h1 h2 (by simpa [SVal.rcellsV] using hinner n _ rfl) (by simp [SVal.text])
      simpa [SVal.text, SVal.rcellsV, repText, fmtDec_nat] using this
    | _ => simp [SVal.offer] at ho
  | range _ _ => simp [SVal.offer] at ho
  | arr es o =>
    simp only [SVal.offer, Option.some.injEq] at ho
    subst ho
    have := Prov.arr _ _ _ _ (by simpa [SVal.rcellsV] using harg) (by simp [SVal.text])
    simpa [SVal.rcellsV] using this

/-- white space of the specification between two elements, as gaps -/
def blankGaps (b : Blank) : List Gap := if b.isEmpty then [Gap.ws .sp] else b.map Gap.ws

theorem blankGaps_facts (b : Blank) : gapsBytes (blankGaps b) = blank1Bytes b ∧ WsGaps (blankGaps b) := by
  unfold blankGaps blank1Bytes
  cases b with
  | nil => exact ⟨by simp [gapsBytes, Gap.bytes, Ws.byte], by simp, by simp⟩
  | cons w r =>
    refine ⟨?_, by simp, ?_⟩
    · simp only [List.isEmpty_cons, Bool.false_eq_true, ↓reduceIte, gapsBytes, blankBytes]
      induction (w :: r) with
      | nil => rfl
      | cons a t ih => simpa [Gap.bytes] using ih
    · intro x hx
      simp only [List.isEmpty_cons, Bool.false_eq_true, ↓reduceIte, List.mem_map] at hx
      obtain ⟨a, _, rfl⟩ := hx
      exact ⟨a, rfl⟩

theorem next_of_iRange {v : SVal} {x z : Int} (h : v.iRange = some (x, z)) : v.next = some (some z) := by
  simp [SVal.next, h]

theorem next_of_none {v : SVal} (h : v.iRange = none) : v.next = v.offer := by
  simp [SVal.next, h]

theorem argCells_of_none {v : SVal} (o : Option (Option Int)) (h : v.iRange = none) : argCells o v = v.rcellsV := by
  simp [argCells, h]

mutual
/-- every value with proved agreement (arrays with ranges included) is a good argument and provides what
    it offers; the two go together because `nx[array]` is a provider through its operand -/
theorem SVal.rproved.good : ∀ (bl : List Nat → Blank) (x : SVal), x.rproved bl →
    Arg11 (x.text bl) x.rcellsV ∧ ∀ nb, x.offer = some nb → Prov (x.text bl) x.rcellsV nb
  | bl, .val t, h => by
    have harg : Arg11 ((SVal.val t).text bl) (SVal.val t).rcellsV := by
      simpa [SVal.text, SVal.rcellsV] using (valOK_tok bl t h.1 h.2).arg11
    exact ⟨harg, prov_of_offerR bl _ h harg (fun _ _ e => by cases e)⟩
  | bl, .rep n x, h => by
    obtain ⟨h1, h2, _, hx⟩ := id h
    have hin := (SVal.rproved.good (sub bl 0) x hx).1
    have harg : Arg11 ((SVal.rep n x).text bl) (SVal.rep n x).rcellsV := by
      simpa [SVal.text, SVal.rcellsV, repText, fmtDec_nat] using hin.rep n h1 h2
    exact ⟨harg, prov_of_offerR bl _ h harg (fun _ _ e => by cases e; exact hin)⟩
  | bl, .range _ _, h => h.elim
  | bl, .arr es opn, h => by
    obtain ⟨hopn, hty, hes⟩ := id h
    subst hopn
    have harg : Arg11 ((SVal.arr es false).text bl) (SVal.arr es false).rcellsV := by
      by_cases hne : es = []
      · subst hne
        have hws : AllWs (blankBytes (bl [0]) ++ blankBytes (bl [4])) := by
          intro c hc
          rcases List.mem_append.mp hc with h | h <;> exact allWs_blank _ c h
        have := arg11_array ArrBody.nil _ hws trivial
        simpa [SVal.text, SVal.rcellsV, arrText, elemsText, rcellsE, lastElemTy, allCells, lastTy] using this
      · have hbody := rangedElems.body bl 1 (some none) es .first (blankBytes (bl [4])) hne ⟨by simp, rfl⟩ hes
          (allWs_blank _)
        have := arg11_arrayR hbody (blankBytes (bl [0])) (allWs_blank _) (elemTypesOK_elemArgsR bl 1 _ es hes hty)
        rw [allCells_elemArgsR, lastTy_elemArgsR bl es 1 _ hes] at this
        simpa [SVal.text, SVal.rcellsV, arrText, List.append_assoc] using this
    exact ⟨harg, prov_of_offerR bl _ h harg (fun _ _ e => by cases e)⟩
/-- the elements of an array, followed by the blank in front of `]`, form an `ArrR` -/
theorem rangedElems.body : ∀ (bl : List Nat → Blank) (k : Nat) (o : Option (Option Int)) (es : List SVal) (c : Ctx)
    (w : Bytes), es ≠ [] → CtxRel c o → rangedElemsG (fun k => 2 * k + 5) bl k o es → AllWs w →
    ArrR c (elemArgsR bl k o es) (elemsText bl k es ++ w)
  | bl, k, o, [], c, w, hne, _, _, _ => absurd rfl hne
  | bl, k, o, [v], c, w, _, hrel, h, hw => by
    rw [rangedElemsG_cons] at h
    cases hv : v.iRange with
    | some p =>
      obtain ⟨x, z⟩ := p
      rw [hv] at h
      obtain ⟨⟨⟨nb, rfl, hr⟩, hb⟩, _⟩ := h
      obtain ⟨hc1, hc2⟩ := hrel
      cases iRange_some hv
      rw [← hc2] at hr
      have := ArrR.lastR c x z _ _ w hc1 hr (allWs_blank (sub bl (2 * k + 5) [1])) (blankBytes_ne hb)
        (allWs_blank (sub bl (2 * k + 5) [2])) hw
      simpa [elemArgsR, elemsText, text_iRange, argCells, SVal.iRange, hc2] using this
    | none =>
      rw [hv] at h
      have := ArrR.lastA c _ _ w (SVal.rproved.good _ v h.1).1 hw
      simpa [elemArgsR, elemsText, argCells_of_none o hv] using this
  | bl, k, o, v :: y :: r', c, w, _, hrel, h, hw => by
    rw [rangedElemsG_cons] at h
    obtain ⟨hg1, hg2⟩ := blankGaps_facts (bl [2 * k + 6])
    cases hv : v.iRange with
    | some p =>
      obtain ⟨x, z⟩ := p
      rw [hv, next_of_iRange hv] at h
      obtain ⟨⟨⟨nb, rfl, hr⟩, hb⟩, hrest⟩ := h
      obtain ⟨hc1, hc2⟩ := hrel
      cases iRange_some hv
      rw [← hc2] at hr
      have hrec := rangedElems.body bl (k + 1) (some (some z)) (y :: r')
        (.after (rangeTok x z (blankBytes (sub bl (2 * k + 5) [1])) (blankBytes (sub bl (2 * k + 5) [2])))
          (blankGaps (bl [2 * k + 6])) (rangeCellsNb c.nb x z) (some z)) w (by simp) ⟨by simp, rfl⟩ hrest hw
      have := ArrR.consR c x z _ _ (blankGaps (bl [2 * k + 6])) _ _ hc1 hr (allWs_blank (sub bl (2 * k + 5) [1]))
        (blankBytes_ne hb) (allWs_blank (sub bl (2 * k + 5) [2])) hg2 hrec
      simpa [elemArgsR, elemsText, text_iRange, argCells, SVal.iRange, SVal.next, hc2, hg1, List.append_assoc] using this
    | none =>
      rw [hv, next_of_none hv] at h
      obtain ⟨hx, hrest⟩ := h
      obtain ⟨harg, hprov⟩ := SVal.rproved.good _ v hx
      cases ho : v.offer with
      | none =>
        rw [ho] at hrest
        have hrec := rangedElems.body bl (k + 1) none (y :: r') .any w (by simp) trivial hrest hw
        have := ArrR.consA c _ _ (blankGaps (bl [2 * k + 6])) _ _ harg (tailKeep_rcellsV v) hg2 hrec
        simpa [elemArgsR, elemsText, argCells_of_none o hv, next_of_none hv, ho, hg1, List.append_assoc] using this
      | some nb =>
        rw [ho] at hrest
        have hrec := rangedElems.body bl (k + 1) (some nb) (y :: r')
          (.after (v.text (sub bl (2 * k + 5))) (blankGaps (bl [2 * k + 6])) v.rcellsV nb) w (by simp) ⟨by simp, rfl⟩ hrest hw
        have := ArrR.consP c _ _ nb (blankGaps (bl [2 * k + 6])) _ _ harg (tailKeep_rcellsV v) (hprov nb ho) hg2 hrec
        simpa [elemArgsR, elemsText, argCells_of_none o hv, next_of_none hv, ho, hg1, List.append_assoc] using this
end

/-- **every value with proved agreement (arrays with ranges included) is a good argument** -/
theorem SVal.rproved.arg11 (bl : List Nat → Blank) (x : SVal) (h : x.rproved bl) : Arg11 (x.text bl) x.rcellsV :=
  (SVal.rproved.good bl x h).1

theorem lastItemTy_step (it : Item) (its : List Item) (v : SVal) (r : List SVal) (hlen : its.length = r.length)
    (hit : itemType it = v.ty) (hl : lastItemTy its = lastElemTy r) : lastItemTy (it :: its) = lastElemTy (v :: r) := by
  cases r with
  | nil =>
    have : its = [] := List.length_eq_zero_iff.mp (by simpa using hlen)
    subst this
    simp [lastItemTy, lastElemTy, hit]
  | cons y r' =>
    cases its with
    | nil => simp at hlen
    | cons i1 its' =>
      have e : lastItemTy (it :: i1 :: its') = lastItemTy (i1 :: its') := by
        simp [lastItemTy, List.getLast?_cons_cons]
      rw [e, hl]
      simp [lastElemTy]

mutual
/-- the denotation of a value with proved agreement: its item, of the type of the value; the left neighbour it
    provides -/
theorem SVal.rproved.denotes : ∀ (bl : List Nat → Blank) (x : SVal), x.rproved bl →
    x.denote1 = some (x.ritem, x.leftCell) ∧ itemType x.ritem = x.ty
  | bl, .val t, _ => ⟨by simp [SVal.denote1, SVal.leftCell, SVal.ritem], by simp [itemType, SVal.ty, SVal.ritem]⟩
  | bl, .rep n (.val t), h => by
    rw [rproved_unfold_rep] at h
    exact ⟨by simp [SVal.denote1, SVal.leftCell, SVal.ritem, h.1, h.2.1], by simp [itemType, SVal.ty, SVal.ritem]⟩
  | bl, .rep n (.arr es opn), h => by
    rw [rproved_unfold_rep] at h
    obtain ⟨h1, h2, _, hx⟩ := h
    rw [rproved_unfold_arr] at hx
    obtain ⟨hopn, _, hes⟩ := hx
    subst hopn
    obtain ⟨hd, hl⟩ := rangedElems.denotes _ (sub bl 0) 1 (some none) es none hes (by intro nb h; cases h; rfl)
    exact ⟨by simp [SVal.denote1, SVal.leftCell, SVal.ritem, h1, h2, hd, hl], by simp [itemType, SVal.ty, SVal.ritem]⟩
  | bl, .rep n (.rep _ _), h => by
    rw [rproved_unfold_rep] at h
    exact absurd h.2.2.1 (by simp [SVal.repeatable])
  | bl, .rep n (.range _ _), h => by
    rw [rproved_unfold_rep] at h
    exact absurd h.2.2.1 (by simp [SVal.repeatable])
  | bl, .range _ _, h => by simp [SVal.rproved] at h
  | bl, .arr es opn, h => by
    rw [rproved_unfold_arr] at h
    obtain ⟨hopn, _, hes⟩ := h
    subst hopn
    obtain ⟨hd, hl⟩ := rangedElems.denotes _ bl 1 (some none) es none hes (by intro nb h; cases h; rfl)
    exact ⟨by simp [SVal.denote1, SVal.leftCell, SVal.ritem, hd, hl], by simp [itemType, SVal.ty, SVal.ritem]⟩
/-- the denotation of the values of a sentence / the elements of an array: their items; the type of the last -/
theorem rangedElems.denotes : ∀ (ix : Nat → Nat) (bl : List Nat → Blank) (k : Nat) (o : Option (Option Int)) (es : List SVal)
    (prev : Option Cell), rangedElemsG ix bl k o es → (∀ nb, o = some nb → prev.bind nbInt = nb) →
    denoteElems false prev es = some (ritemsE o es) ∧ lastItemTy (ritemsE o es) = lastElemTy es
  | ix, bl, k, o, [], prev, _, _ => ⟨by simp [denoteElems, ritemsE], rfl⟩
  | ix, bl, k, o, v :: r, prev, h, hrel => by
    rw [rangedElemsG_cons] at h
    rw [ritemsE]
    cases hv : v.iRange with
    | some p =>
      obtain ⟨x, z⟩ := p
      rw [hv, next_of_iRange hv] at h
      obtain ⟨⟨⟨nb, rfl, hr⟩, _⟩, hrest⟩ := h
      cases hrel nb rfl
      cases iRange_some hv
      obtain ⟨hd, hl⟩ := rangedElems.denotes ix bl (k + 1) (some (some z)) r (some (Cell.int .i z)) hrest
        (by intro nb h; cases h; rfl)
      rw [next_of_iRange hv]
      exact ⟨by rw [denoteElems_iRange prev x z r hr, hd]; rfl,
        lastItemTy_step _ _ _ r (length_ritemsE _ r) (by simp [itemType, SVal.ty, Tok.cell]) hl⟩
    | none =>
      rw [hv, next_of_none hv] at h
      obtain ⟨hx, hrest⟩ := h
      obtain ⟨hd1, ht1⟩ := SVal.rproved.denotes _ v hx
      obtain ⟨hd, hl⟩ := rangedElems.denotes ix bl (k + 1) v.offer r v.leftCell hrest (offer_leftCell v)
      rw [next_of_none hv]
      exact ⟨by rw [denoteElems_cons prev v r _ _ hd1, hd]; rfl, lastItemTy_step _ _ _ r (length_ritemsE _ r) ht1 hl⟩
end

/-- the denotation of a value with proved agreement: an item with the cells `rcellsV` and the type of the
    value; the left neighbour it provides -/
theorem SVal.rproved.denote1 : ∀ (bl : List Nat → Blank) (x : SVal), x.rproved bl →
    ∃ it, x.denote1 = some (it, x.leftCell) ∧ it.flat = x.rcellsV ∧ itemType it = x.ty :=
  fun bl x h => ⟨x.ritem, (SVal.rproved.denotes bl x h).1, flat_ritem x, (SVal.rproved.denotes bl x h).2⟩

/-- the denotation of the values of a sentence / the elements of an array: items with the cells `rcellsE` -/
theorem rangedElems.denote : ∀ (ix : Nat → Nat) (bl : List Nat → Blank) (k : Nat) (o : Option (Option Int)) (es : List SVal)
    (prev : Option Cell), rangedElemsG ix bl k o es → (∀ nb, o = some nb → prev.bind nbInt = nb) →
    ∃ its, denoteElems false prev es = some its ∧ flatList its = rcellsE o es ∧ its.length = es.length ∧
      lastItemTy its = lastElemTy es :=
  fun ix bl k o es prev h hrel => ⟨ritemsE o es, (rangedElems.denotes ix bl k o es prev h hrel).1, flatList_ritems o es,
    length_ritemsE o es, (rangedElems.denotes ix bl k o es prev h hrel).2⟩

theorem allCells_rArgsA (L : Layout) : ∀ (s : Sentence) (i : Nat) (o : Option (Option Int)),
    allCells (rArgsA L i o s) = rcellsE o s := by
  intro s
  induction s with
  | nil => intro i o; rfl
  | cons v r ih =>
    intro i o
    have := ih (i + 1) v.next
    simp only [allCells] at this
    simp [rArgsA, rcellsE_cons, allCells, this]

/-- **the values of a non-empty sentence of the class, followed by a tail, are a `LayR`** -/
theorem layR_rangedA (L : Layout) (hsp : ∀ i, L.sep i = [] ∨ startsWs (L.sep i) = true)
    (tail : Bytes) (htail : Tail tail) :
    ∀ (s : Sentence) (i : Nat) (c : Ctx) (o : Option (Option Int)), s ≠ [] → CtxRel c o → rangedFromA L i o s →
      LayR c (rArgsA L i o s) (valuesText L i s ++ tail) := by
  intro s
  induction s with
  | nil => intro i c o h; exact absurd rfl h
  | cons v r ih =>
    intro i c o _ hrel hpl
    unfold rangedFromA at hpl
    rw [rangedElemsG_cons] at hpl
    unfold rArgsA
    cases hv : v.iRange with
    | some p =>
      obtain ⟨x, z⟩ := p
      rw [hv, next_of_iRange hv] at hpl
      obtain ⟨⟨⟨nb, rfl, hr⟩, hb⟩, hrest⟩ := hpl
      obtain ⟨hc1, hc2⟩ := hrel
      cases iRange_some hv
      have hw1 : blankBytes (sub L.blank i [1]) ≠ [] := blankBytes_ne hb
      rw [← hc2] at hr
      cases r with
      | nil =>
        have := LayR.oneR c x z _ _ tail hc1 hr (allWs_blank (sub L.blank i [1])) hw1
          (allWs_blank (sub L.blank i [2])) htail
        simpa [rArgsA, valuesText, text_iRange, argCells, SVal.iRange, hc2] using this
      | cons y r' =>
        obtain ⟨e, hs⟩ := sepBytes_fix (L.sep i) (hsp i)
        have hrec := ih (i + 1) (.after (rangeTok x z (blankBytes (sub L.blank i [1])) (blankBytes (sub L.blank i [2])))
          (fixSep (L.sep i)) (rangeCellsNb c.nb x z) (some z)) (some (some z)) (by simp) ⟨by simp, rfl⟩ hrest
        have := LayR.consR c x z _ _ (fixSep (L.sep i)) _ _ hc1 hr (allWs_blank (sub L.blank i [1])) hw1
          (allWs_blank (sub L.blank i [2])) hs hrec
        simpa [valuesText, text_iRange, argCells, SVal.iRange, SVal.next, hc2, e, List.append_assoc] using this
    | none =>
      rw [hv, next_of_none hv] at hpl
      obtain ⟨hx, hrest⟩ := hpl
      obtain ⟨harg, hprov⟩ := SVal.rproved.good _ v hx
      rw [argCells_of_none o hv, next_of_none hv]
      cases r with
      | nil => simpa [rArgsA, valuesText] using LayR.oneA c _ _ tail harg htail
      | cons y r' =>
        obtain ⟨e, hs⟩ := sepBytes_fix (L.sep i) (hsp i)
        cases ho : v.offer with
        | none =>
          rw [ho] at hrest
          have hrec := ih (i + 1) .any none (by simp) trivial hrest
          have := LayR.consA c _ _ (fixSep (L.sep i)) _ _ harg (tailKeep_rcellsV v) hs hrec
          simpa [valuesText, e, List.append_assoc] using this
        | some nb =>
          rw [ho] at hrest
          have hrec := ih (i + 1) (.after (v.text (sub L.blank i)) (fixSep (L.sep i)) v.rcellsV nb) (some nb) (by simp)
            ⟨by simp, rfl⟩ hrest
          have := LayR.consP c _ _ nb (fixSep (L.sep i)) _ _ harg (tailKeep_rcellsV v) (hprov nb ho) hs hrec
          simpa [valuesText, e, List.append_assoc] using this

/-- the cells a sentence of the class denotes -/
theorem cells_rangedA (L : Layout) (s : Sentence) (h : rangedFromA L 0 (some none) s) :
    cells s = some (rcellsE (some none) s) := by
  obtain ⟨its, hd, hfl, _, _⟩ := rangedElems.denote _ L.blank 0 (some none) s none h (by intro nb h; cases h; rfl)
  simp [cells, denote, hd, hfl]

theorem iRange_of_proved {bl : List Nat → Blank} {v : SVal} (h : v.proved bl) : v.iRange = none := by
  cases v with
  | range _ _ => exact absurd h (by simp [SVal.proved])
  | _ => rfl

mutual
theorem rproved_of_proved : ∀ (bl : List Nat → Blank) (x : SVal), x.proved bl → x.rproved bl
  | bl, .val t, h => by simpa [SVal.proved, SVal.rproved] using h
  | bl, .rep n x, h => by
    rw [proved_unfold_rep] at h
    rw [rproved_unfold_rep]
    exact ⟨h.1, h.2.1, h.2.2.1, rproved_of_proved _ x h.2.2.2⟩
  | bl, .range _ _, h => by simp [SVal.proved] at h
  | bl, .arr es opn, h => by
    simp only [SVal.proved] at h
    rw [rproved_unfold_arr]
    exact ⟨h.1, h.2.1, rangedElems_of_proved bl 1 (some none) es h.2.2⟩
theorem rangedElems_of_proved : ∀ (bl : List Nat → Blank) (k : Nat) (o : Option (Option Int)) (es : List SVal),
    provedElems bl k es → rangedElemsG (fun k => 2 * k + 5) bl k o es
  | bl, k, o, [], _ => by simp [rangedElemsG]
  | bl, k, o, v :: r, h => by
    simp only [provedElems] at h
    rw [rangedElemsG_cons]
    rw [iRange_of_proved h.1]
    exact ⟨rproved_of_proved _ v h.1, rangedElems_of_proved bl (k + 1) _ r h.2⟩
end

theorem rangedFromA_of_proved (L : Layout) : ∀ (s : Sentence) (i : Nat) (o : Option (Option Int)),
    provedFrom L i s → rangedFromA L i o s := by
  intro s
  induction s with
  | nil => intro i o _; simp [rangedFromA, rangedElemsG]
  | cons v r ih =>
    intro i o hp
    obtain ⟨hv, hr⟩ := hp
    unfold rangedFromA
    rw [rangedElemsG_cons]
    rw [iRange_of_proved hv]
    exact ⟨rproved_of_proved _ v hv, ih (i + 1) _ hr⟩

theorem provedElems.all : ∀ (bl : List Nat → Blank) (k : Nat) (es : List SVal), provedElems bl k es →
    ∀ v ∈ es, ∃ bl', v.proved bl'
  | bl, k, [], _ => by simp
  | bl, k, x :: r, h => by
    simp only [provedElems] at h
    intro v hv
    rcases List.mem_cons.mp hv with rfl | hv
    · exact ⟨_, h.1⟩
    · exact provedElems.all bl (k + 1) r h.2 v hv

theorem provedFrom.all (L : Layout) : ∀ (s : Sentence) (i : Nat), provedFrom L i s → ∀ v ∈ s, ∃ bl', v.proved bl'
  | [], _, _ => by simp
  | x :: r, i, h => by
    intro v hv
    rcases List.mem_cons.mp hv with rfl | hv
    · exact ⟨_, h.1⟩
    · exact provedFrom.all L r (i + 1) h.2 v hv

/-! On values with proved agreement in the narrower sense the wider class has the same cells and items. -/

mutual
theorem ritem_of_proved : ∀ (bl : List Nat → Blank) (x : SVal), x.proved bl → x.ritem = x.pitem
  | bl, .val t, _ => by simp [SVal.ritem, SVal.pitem]
  | bl, .rep n x, h => by
    rw [proved_unfold_rep] at h
    simp [SVal.ritem, SVal.pitem, ritem_of_proved _ x h.2.2.2]
  | bl, .range _ _, h => by simp [SVal.proved] at h
  | bl, .arr es opn, h => by
    simp only [SVal.proved] at h
    simp [SVal.ritem, SVal.pitem, ritemsE_of_proved (some none) es (provedElems.all _ _ _ h.2.2)]
theorem ritemsE_of_proved : ∀ (o : Option (Option Int)) (es : List SVal), (∀ v ∈ es, ∃ bl, v.proved bl) →
    ritemsE o es = pitemsList es
  | o, [], _ => by simp [ritemsE, pitemsList]
  | o, v :: r, h => by
    obtain ⟨bl, hv⟩ := h v (by simp)
    rw [ritemsE, iRange_of_proved hv, ritem_of_proved _ v hv, ritemsE_of_proved _ r (fun w hw => h w (by simp [hw]))]
    simp [pitemsList]
end

theorem rcellsV_of_proved (bl : List Nat → Blank) (x : SVal) (h : x.proved bl) : x.rcellsV = x.pcells := by
  rw [← flat_ritem, ritem_of_proved bl x h, flat_pitem]

theorem rcellsE_of_proved (o : Option (Option Int)) (es : List SVal) (h : ∀ v ∈ es, ∃ bl, v.proved bl) :
    rcellsE o es = pcellsList es := by
  rw [← flatList_ritems, ritemsE_of_proved o es h, flatList_pitems]

/-- **every value with proved agreement is a good argument** -/
theorem SVal.proved.arg11 : ∀ (bl : List Nat → Blank) (x : SVal), x.proved bl → Arg11 (x.text bl) x.pcells := by
  intro bl x h
  rw [← rcellsV_of_proved bl x h]
  exact SVal.rproved.arg11 bl x (rproved_of_proved bl x h)

/-- the elements of an array, followed by the blank in front of `]`, form an `ArrBody` -/
theorem provedElems.body : ∀ (bl : List Nat → Blank) (k : Nat) (es : List SVal) (w : Bytes), es ≠ [] →
    provedElems bl k es → AllWs w → ArrBody (elemArgs bl k es) (elemsText bl k es ++ w)
  | bl, k, [], w, hne, _, _ => absurd rfl hne
  | bl, k, [x], w, _, h, hw => by
    simp only [provedElems] at h
    have := ArrBody.last _ _ w (SVal.proved.arg11 _ x h.1) hw
    simpa [elemArgs, elemsText] using this
  | bl, k, x :: y :: r', w, _, h, hw => by
    simp only [provedElems] at h
    obtain ⟨hw1, hne1⟩ := allWs_blank1 (bl [2 * k + 6])
    have hrec := provedElems.body bl (k + 1) (y :: r') w (by simp) ⟨h.2.1, h.2.2⟩ hw
    have := ArrBody.cons _ _ _ _ _ (SVal.proved.arg11 _ x h.1) hw1 hne1 (by simp [elemArgs]) hrec
    simpa [elemArgs, elemsText, List.append_assoc] using this

/-- the values of a non-empty sentence of proved scalars, followed by a tail, are a text of
    good arguments -/
theorem argsLay_values (L : Layout) (hsp : ∀ i, L.sep i = [] ∨ startsWs (L.sep i) = true)
    (tail : Bytes) (htail : Tail tail) :
    ∀ (s : Sentence) (i : Nat), s ≠ [] → plainFrom L i s →
      ArgsLay (valArgs L i s) (valuesText L i s ++ tail) := by
  intro s
  induction s with
  | nil => intro i h; exact absurd rfl h
  | cons x r ih =>
    intro i _ hpl
    obtain ⟨⟨t, rfl, hwf, hp⟩, hr⟩ := hpl
    have harg := (valOK_tok _ t hwf hp).arg11
    cases r with
    | nil =>
      simpa [valArgs, valuesText, SVal.text] using ArgsLay.one _ _ tail harg htail
    | cons y r' =>
      obtain ⟨e, hs⟩ := sepBytes_fix (L.sep i) (hsp i)
      have := ih (i + 1) (by simp) hr
      have h2 := ArgsLay.cons _ _ (fixSep (L.sep i)) _ _ harg hs this
      simpa [valArgs, valuesText, SVal.text, e, List.append_assoc] using h2

/-- the denotation of a value with proved agreement: its item; it provides some left neighbour -/
theorem SVal.proved.denote1 : ∀ (bl : List Nat → Blank) (x : SVal), x.proved bl →
    ∃ p, x.denote1 = some (x.pitem, p) :=
  fun bl x h => ⟨x.leftCell, by rw [← ritem_of_proved bl x h]; exact (SVal.rproved.denotes bl x (rproved_of_proved bl x h)).1⟩

/-- the denotation of the elements of an array / the values of a sentence -/
theorem provedElems.denote : ∀ (bl : List Nat → Blank) (k : Nat) (es : List SVal) (prev : Option Cell),
    provedElems bl k es → denoteElems false prev es = some (pitemsList es) := by
  intro bl k es prev h
  rw [← ritemsE_of_proved none es (provedElems.all bl k es h)]
  exact (rangedElems.denotes _ bl k none es prev (rangedElems_of_proved bl k none es h) (by intro nb h; cases h)).1

theorem denoteElems_proved (L : Layout) : ∀ (s : Sentence) (i : Nat) (prev : Option Cell), provedFrom L i s →
    denoteElems false prev s = some (pitemsList s) := by
  intro s i prev h
  rw [← ritemsE_of_proved none s (provedFrom.all L s i h)]
  exact (rangedElems.denotes _ L.blank i none s prev (rangedFromA_of_proved L s i none h) (by intro nb h; cases h)).1

theorem cells_proved (L : Layout) (s : Sentence) (h : provedFrom L 0 s) : cells s = some (pCells s) := by
  rw [cells_rangedA L s (rangedFromA_of_proved L s 0 _ h), rcellsE_of_proved _ s (provedFrom.all L s 0 h)]
  rfl

theorem cells_plain (L : Layout) (s : Sentence) (h : plainFrom L 0 s) : cells s = some (valCells s) := by
  obtain ⟨hp, hc⟩ := plain_proved L s 0 h
  rw [cells_proved L s hp, hc]

theorem stepsOf_up (x z : Int) (h : x < z) (hw : z - x ≤ 2147483646) :
    stepsOf (Cell.int .i x) (Cell.int .i z) (Cell.int .i 1) = some (z - x).toNat := by
  unfold stepsOf
  simp only []
  rw [if_pos ⟨by decide, by omega, by omega, by omega⟩]
  congr 2; omega

theorem stepsOf_down (x z : Int) (h : z < x) (hw : x - z ≤ 2147483646) :
    stepsOf (Cell.int .i x) (Cell.int .i z) (Cell.int .i (-1)) = some (x - z).toNat := by
  have e1 : (z - x) % (-1) = 0 := by rw [Int.emod_neg]; omega
  have e2 : (z - x) / (-1) = x - z := by rw [Int.ediv_neg]; omega
  unfold stepsOf
  simp only []
  rw [if_pos ⟨by decide, e1, by rw [e2]; omega, by rw [e2]; omega⟩, e2]

theorem cells_range_first (x z : Int) (hxz : x ≠ z) (hwid : (z - x).natAbs ≤ 2147483646)
    (s' : Sentence) (L : Layout) (hp : provedFrom L 1 s') :
    cells (rangeFirst x z s') = some (rangeCells x z ++ pCells s') := by
  have hneq : numEq (Cell.int .i x) (Cell.int .i z) = false := by
    simp [numEq, cmpScalar_int, cmp3_ne x z hxz]
  by_cases hlt : x < z
  · have hup : ArgVal.cmpScalar (Cell.int .i z) (Cell.int .i x) = 1 := by rw [cmpScalar_int, cmp3_gt z x hlt]
    have hst := stepsOf_up x z hlt (by omega)
    have hrec := denoteElems_proved L s' 1 (rangeLast ((z - x).toNat + 1) (Cell.int .i 1) (Cell.int .i x)) hp
    simp [rangeFirst, cells, denote, denoteElems, floatRangeBlocks, Tok.cell, isNumTy, hneq, rangeStep,
      unitStep, hup, hst, hrec, flatList, Rtosc.ArgVal.Item.flat, flatList_pitems, rangeCells, hlt, pCells, ArgVal.Cell.type]
    omega
  · have hlt' : z < x := by omega
    have hup : ArgVal.cmpScalar (Cell.int .i z) (Cell.int .i x) = -1 := by rw [cmpScalar_int, cmp3_lt z x hlt']
    have hst := stepsOf_down x z hlt' (by omega)
    have hrec := denoteElems_proved L s' 1 (rangeLast ((x - z).toNat + 1) (Cell.int .i (-1)) (Cell.int .i x)) hp
    simp [rangeFirst, cells, denote, denoteElems, floatRangeBlocks, Tok.cell, isNumTy, hneq, rangeStep,
      unitStep, hup, hst, hrec, flatList, Rtosc.ArgVal.Item.flat, flatList_pitems, rangeCells, hlt, pCells, ArgVal.Cell.type]
    omega

/-- a sentence of `rangedFrom` lies in the wider class, with the same arguments and cells -/
theorem rangedFromA_of_ranged (L : Layout) : ∀ (s : Sentence) (i : Nat) (o : Option (Option Int)), rangedFrom L i o s →
    rangedFromA L i o s ∧ rArgsA L i o s = rArgs L i o s ∧ rcellsE o s = rcells o s := by
  intro s
  induction s with
  | nil => intro i o _; exact ⟨by simp [rangedFromA, rangedElemsG], rfl, by simp [rcellsE, rcells]⟩
  | cons v r ih =>
    intro i o h
    unfold rangedFrom at h
    unfold rangedFromA rArgsA rArgs rcells
    rw [rangedElemsG_cons, rcellsE_cons]
    cases hv : v.iRange with
    | some p =>
      obtain ⟨x, z⟩ := p
      rw [hv] at h
      obtain ⟨h1, h2, h3⟩ := h
      obtain ⟨a, b, c⟩ := ih (i + 1) _ h3
      rw [next_of_iRange hv]
      exact ⟨⟨⟨h1, h2⟩, a⟩, by simp only [argCells, hv, b], by simp only [argCells, hv, c]⟩
    | none =>
      rw [hv] at h
      obtain ⟨h1, h2⟩ := h
      obtain ⟨a, b, c⟩ := ih (i + 1) _ h2
      have e := rcellsV_of_proved _ v h1
      rw [next_of_none hv, argCells_of_none o hv, e]
      exact ⟨⟨rproved_of_proved _ v h1, a⟩, by rw [b], by rw [c]⟩

/-- `layR_rangedA` for ranges at top level only -/
theorem layR_ranged (L : Layout) (hsp : ∀ i, L.sep i = [] ∨ startsWs (L.sep i) = true)
    (tail : Bytes) (htail : Tail tail) :
    ∀ (s : Sentence) (i : Nat) (c : Ctx) (o : Option (Option Int)), s ≠ [] → CtxRel c o → rangedFrom L i o s →
      LayR c (rArgs L i o s) (valuesText L i s ++ tail) := by
  intro s i c o hne hrel hpl
  obtain ⟨hA, hargs, _⟩ := rangedFromA_of_ranged L s i o hpl
  rw [← hargs]
  exact layR_rangedA L hsp tail htail s i c o hne hrel hA

/-- **the denotation of a sentence of the class**: the cells of its arguments -/
theorem denoteElems_ranged (L : Layout) : ∀ (s : Sentence) (i : Nat) (o : Option (Option Int)) (prev : Option Cell),
    rangedFrom L i o s → (∀ nb, o = some nb → prev.bind nbInt = nb) →
    (denoteElems false prev s).map flatList = some (rcells o s) := by
  intro s i o prev hpl hrel
  obtain ⟨hA, _, hc⟩ := rangedFromA_of_ranged L s i o hpl
  obtain ⟨its, hd, hfl, _, _⟩ := rangedElems.denote _ L.blank i o s prev hA hrel
  rw [hd, ← hc, ← hfl]
  rfl

/-- `cells_rangedA` for ranges at top level only -/
theorem cells_ranged (L : Layout) (s : Sentence) (h : rangedFrom L 0 (some none) s) :
    cells s = some (rcells (some none) s) := by
  have := denoteElems_ranged L s 0 (some none) none h (by intro nb h; cases h; rfl)
  simpa [cells, denote] using this

end Rtosc.Pretty.C11
