/-
  C11 — sentences with ranges anywhere at top level: texts that consist of good arguments
  (`Arg11`) and ranges `b ... c` of decimal 'i' integers whose left neighbour is nothing (first
  value), a scalar value, a repetition `nx<scalar>` or another such range (`LayR`).  Here: what a
  value offers to a range behind it (`Prov`), scanner and checker on a range behind a provider
  (`Prov.scanRange`, `Prov.skipRange`), and the states of the two loops (`SInv`, `CInv`).  `LayR`, `Ctx`, `Prov`,
  `SInv`, `CInv`, `TailOK` are defined in `Pretty/C11LayoutSpec.lean`, the side conditions `RangeOK` of a range, its
  step and its cells in `Pretty/C11ProvedSpec.lean`.
-/
import RtoscModel.Proofs.ScanRange
import RtoscModel.Proofs.ScanRep
import RtoscModel.Proofs.ScanArray
namespace Rtosc.Pretty.C11
open Rtosc Rtosc.Libc Rtosc.Pretty
open Rtosc.ArgVal (Cell Item flatList)

theorem typesMatch_105 (ty : UInt8) : typesMatch ty 105 = decide (ty = 105) := by
  revert ty; apply UInt8.forall_of_fin; decide +kernel

theorem nbCell_of_scalar (c : Cell) (h : c.isScalar = true) : NbCell c := by
  refine ⟨h, ?_⟩
  cases c with
  | int ty v =>
    cases ty
    · exact Or.inl ⟨v, rfl⟩
    · right; rfl
    · right; rfl
  | str ty s => cases ty <;> (right; rfl)
  | flag ty => cases ty <;> (right; rfl)
  | arr _ _ => simp [ArgVal.Cell.isScalar] at h
  | rep _ _ => simp [ArgVal.Cell.isScalar] at h
  | _ => right; rfl

/-- a scalar token is not taken for a repetition `nx…` (else the checker's `switch` would call
    its recursion handler) -/
theorem ValOK.nomult {t : Bytes} {c : Cell} (h : ValOK t c) (rest : Bytes) (hs : Sep rest) :
    isRangeMultiplier (t ++ rest) = false := nomult_of_tokOK h.tokOK rest hs

theorem tailOK_nil : TailOK [] := by intro k _ n h hk; simp at hk

theorem TailOK.append_noDelta {done cs : List Cell} (h1 : TailOK done) (h2 : NoDelta cs) : TailOK (done ++ cs) := by
  intro k hk n h hget
  rw [List.reverse_append] at hget
  by_cases hlt : k < cs.reverse.length
  · rw [List.getElem?_append_left hlt] at hget
    have hm := List.mem_of_getElem? hget
    exact h2 n h (List.mem_reverse.mp hm)
  · rw [List.getElem?_append_right (by omega)] at hget
    exact h1 _ (by omega) n h hget

theorem NoDelta.tailKeep {cs : List Cell} (h : NoDelta cs) : TailKeep cs := fun _ h1 => h1.append_noDelta h

theorem TailKeep.append {a b : List Cell} (ha : TailKeep a) (hb : TailKeep b) : TailKeep (a ++ b) := by
  intro done h
  rw [← List.append_assoc]
  exact hb _ (ha _ h)

theorem tailKeep_nil : TailKeep [] := fun done h => by simpa using h

theorem TailOK.append_range (done : List Cell) (num : Int) (d x : Int) :
    TailOK (done ++ [Cell.rep num 1, Cell.int .i d, Cell.int .i x]) := by
  intro k hk n h hget
  simp only [List.reverse_append, List.reverse_cons, List.reverse_nil, List.nil_append, List.cons_append] at hget
  match k, hk with
  | 0, _ => simp at hget
  | 1, _ => simp at hget

theorem RangeOK.ne {nb : Option Int} {x z : Int} (h : RangeOK nb x z) : x ≠ z := by
  intro e
  have := h.hq1
  rw [e] at this
  simp at this

theorem rangeStepI_ne {nb : Option Int} {x z : Int} : rangeStepI nb x z ≠ 0 := by
  unfold rangeStepI
  cases nb with
  | none => simp only []; split <;> omega
  | some p => simp only []; split <;> (try split) <;> omega

theorem RangeOK.mul {nb : Option Int} {x z : Int} (h : RangeOK nb x z) :
    z - x = (z - x) / rangeStepI nb x z * rangeStepI nb x z := by
  exact (Int.ediv_mul_cancel (Int.dvd_of_emod_eq_zero h.hmod)).symm

theorem RangeOK.count {nb : Option Int} {x z : Int} (h : RangeOK nb x z) :
    ((((z - x) / rangeStepI nb x z).toNat + 1 : Nat) : Int) = (z - x) / rangeStepI nb x z + 1 := by
  have := h.hq1
  omega

/-- `delta_from_arg_vals` when the left neighbour is useless: whatever `llhsarg` is -/
theorem RangeOK.delta_unit {nb : Option Int} {x z : Int} (h : RangeOK nb x z) (hu : nb = none ∨ nb = some x)
    (ll : Option Cell) :
    C11.deltaFromArgVals ll (Cell.int .i x) (some (Cell.int .i z)) true =
      .ok ((z - x) / rangeStepI nb x z + 1, Cell.int .i (rangeStepI nb x z)) := by
  have hne := h.ne
  have hstep : rangeStepI nb x z = if x < z then 1 else -1 := by
    rcases hu with rfl | rfl <;> simp [rangeStepI]
  apply deltaUnity11 ll x z ((z - x) / rangeStepI nb x z) (rangeStepI nb x z)
  · rw [hstep]
    by_cases hlt : x < z
    · left; simp [hlt]
    · right; simp [hlt]; omega
  · exact h.mul
  · exact h.hw1
  · exact h.hw2
  · have := h.hq1; omega
  · have := h.hq2; omega

/-- `delta_from_arg_vals` with the usable left neighbour `p` -/
theorem RangeOK.delta_step {p x z : Int} (h : RangeOK (some p) x z) (hp : p ≠ x) :
    C11.deltaFromArgVals (some (Cell.int .i p)) (Cell.int .i x) (some (Cell.int .i z)) false =
      .ok ((z - x) / rangeStepI (some p) x z + 1, Cell.int .i (rangeStepI (some p) x z)) := by
  have hstep : rangeStepI (some p) x z = x - p := by simp [rangeStepI, hp]
  apply deltaStep11 p x z ((z - x) / rangeStepI (some p) x z) (rangeStepI (some p) x z) rangeStepI_ne hstep.symm
    h.hd1 h.hd2 h.mul h.hw1 h.hw2
  · have := h.hq1; omega
  · have := h.hq2; omega

/-- the last value of the range is its right end -/
theorem RangeOK.last {nb : Option Int} {x z : Int} (h : RangeOK nb x z) :
    rangeArgF (rangeCellsNb nb x z) (((((z - x) / rangeStepI nb x z).toNat + 1 : Nat) : Int) - 1) =
      .ok (some (Cell.int .i z)) := by
  unfold rangeCellsNb
  rw [rangeArgF_int, h.count]
  have e : (z - x) / rangeStepI nb x z + 1 - 1 = (z - x) / rangeStepI nb x z := by omega
  rw [e, ← h.mul, toI32_id (z - x) (by have := h.hw1; omega) (by have := h.hw2; omega)]
  have e2 : x + (z - x) = z := by omega
  rw [e2, toI32_id _ h.hz1 h.hz2]

/-- `delta_from_arg_vals` as both functions call it when the scalar cell `c0` stands to the left -/
theorem RangeOK.delta_cell (c0 : Cell) {x z : Int} (h : RangeOK (nbInt c0) x z) :
    C11.deltaFromArgVals (some c0) (Cell.int .i x) (some (Cell.int .i z)) (uselessI c0 x) =
      .ok ((z - x) / rangeStepI (nbInt c0) x z + 1, Cell.int .i (rangeStepI (nbInt c0) x z)) := by
  by_cases hi : ∃ p, c0 = Cell.int .i p
  · obtain ⟨p, rfl⟩ := hi
    by_cases hpx : p = x
    · subst hpx
      have : uselessI (Cell.int .i p) p = true := by simp [uselessI]
      rw [this]
      exact h.delta_unit (Or.inr rfl) _
    · have : uselessI (Cell.int .i p) x = false := by simp [uselessI, hpx]
      rw [this]
      exact h.delta_step hpx
  · have hn : nbInt c0 = none := by
      cases c0 with
      | int ty v => cases ty <;> first | exact absurd ⟨v, rfl⟩ hi | rfl
      | _ => rfl
    have hu : uselessI c0 x = true := by
      cases c0 with
      | int ty v => cases ty <;> first | exact absurd ⟨v, rfl⟩ hi | rfl
      | _ => rfl
    rw [hu]
    rw [hn] at h ⊢
    exact h.delta_unit (Or.inl rfl) _

theorem len_sub (a b : Bytes) : (a ++ b).length - b.length = a.length := by simp

/-- **the scanner reads a range behind a provider** -/
theorem Prov.scanRange {tp : Bytes} {csp : List Cell} {nb : Option Int} (hp : Prov tp csp nb) (done0 : List Cell)
    (hT : TailOK done0) (pok : Bool) (hcpr : canPrecedeRange csp = .ok pok) (extra : List Cell) (f : Nat) (x z : Int)
    (hr : RangeOK nb x z) (w1 w2 rest : Bytes) (hw1 : AllWs w1) (hne : w1 ≠ []) (hw2 : AllWs w2) (hs : Sep rest) :
    C11.scanArgVal (f + 2) (rangeTok x z w1 w2 ++ rest) ((done0 ++ csp).reverse ++ extra)
        (if pok then (done0 ++ csp).length else 0) true =
      .ok ((rangeTok x z w1 w2).length, rangeCellsNb nb x z) := by
  rw [rangeTok_append, ← rangeTok_length x z w1 w2 rest]
  unfold rangeCellsNb
  rw [hr.count]
  cases hp with
  | scalar t c0 hv =>
    have hsc := hv.scalar
    have : pok = true := by
      rw [c11_canPrecedeRange_eq, Pretty.canPrecedeRange_scalar c0 [] hsc] at hcpr; injection hcpr with e; exact e.symm
    subst this
    simp only [List.reverse_append, List.reverse_cons, List.reverse_nil, List.nil_append, List.cons_append, ↓reduceIte]
    apply scanArgVal_rangeB f x z hr.hx1 hr.hx2 hr.hz1 hr.hz2 w1 w2 rest hw1 hne hw2 hs c0 (done0.reverse ++ extra) _
      (by simp) _ (nbCell_of_scalar c0 hsc)
    · exact hr.delta_cell c0
    · by_cases hl : done0.length ≤ 1
      · left; simp only [List.length_append, List.length_singleton]; omega
      · right
        intro n h hk
        rw [List.getElem?_append_left (by simp only [List.length_reverse]; omega)] at hk
        exact hT 1 (by omega) n h hk
  | rep n t c0 h1 h2 hv =>
    have hsc := hv.scalar
    have : pok = true := by
      rw [show C11.canPrecedeRange [Cell.rep n 0, c0] = .ok true from canPrecedeRange_rep_scalar n c0 [] hsc] at hcpr; injection hcpr with e; exact e.symm
    subst this
    simp only [List.reverse_append, List.reverse_cons, List.reverse_nil, List.nil_append, List.cons_append, ↓reduceIte]
    apply scanArgVal_rangeB f x z hr.hx1 hr.hx2 hr.hz1 hr.hz2 w1 w2 rest hw1 hne hw2 hs c0
      (Cell.rep n 0 :: (done0.reverse ++ extra)) _ (by simp) _ (nbCell_of_scalar c0 hsc)
    · exact hr.delta_cell c0
    · by_cases hl : done0.length = 0
      · left; simp only [List.length_append, List.length_cons, List.length_nil]; omega
      · right
        intro n h hk
        have hk' : (done0.reverse ++ extra)[0]? = some (Cell.rep n h) := by simpa using hk
        rw [List.getElem?_append_left (by simp only [List.length_reverse]; omega)] at hk'
        exact hT 0 (by omega) n h hk'
  | range nb' p q v1 v2 hpq hv1 hvne hv2 =>
    have : pok = true := by
      rw [rangeCellsNb, c11_canPrecedeRange_eq, canPrecedeRange_delta] at hcpr; injection hcpr with e; exact e.symm
    subst this
    have hl := hpq.last
    simp only [rangeCellsNb] at hl ⊢
    simp only [List.reverse_append, List.reverse_cons, List.reverse_nil, List.nil_append, List.cons_append, ↓reduceIte]
    apply scanArgVal_rangeC f x z hr.hx1 hr.hx2 hr.hz1 hr.hz2 w1 w2 rest hw1 hne hw2 hs _ _ _ 1 (done0.reverse ++ extra) _
      (by simp) (by decide) (Cell.int .i q) hl (nbCell_of_scalar _ rfl)
    exact hr.delta_cell (Cell.int .i q)
  | arr t ty len more ht h91 =>
    have : pok = false := by
      rw [c11_canPrecedeRange_eq, canPrecedeRange_arr] at hcpr; injection hcpr with e; exact e.symm
    subst this
    simp only [Bool.false_eq_true, ↓reduceIte]
    exact scanArgVal_range0 f x z hr.hx1 hr.hx2 hr.hz1 hr.hz2 w1 w2 rest hw1 hne hw2 hs _ _ _
      (fun ll => hr.delta_unit (Or.inl rfl) ll)
  | repArr n t ty len more h1 h2 ht h91 =>
    have : pok = false := by
      rw [c11_canPrecedeRange_eq, canPrecedeRange_rep0] at hcpr; injection hcpr with e; exact e.symm
    subst this
    simp only [Bool.false_eq_true, ↓reduceIte]
    exact scanArgVal_range0 f x z hr.hx1 hr.hx2 hr.hz1 hr.hz2 w1 w2 rest hw1 hne hw2 hs _ _ _
      (fun ll => hr.delta_unit (Or.inl rfl) ll)

/-- the checker's auxiliary scan of an 'i' integer token -/
theorem ValOK.scanOne11 {t : Bytes} {p : Int} (h : ValOK t (Cell.int .i p)) (rest : Bytes) (hs : Sep rest) :
    C11.scanOne (t ++ rest) = .ok (Cell.int .i p) := by
  unfold C11.scanOne
  have := h.arg11.scan rest ((t ++ rest).length + 1) [] 0 false hs (by simp only [List.length_append]; omega)
  rw [show (t ++ rest).length + 2 = (t ++ rest).length + 1 + 1 from rfl, this]
  rfl

/-- the left neighbour as the checker finds it at a scalar token: type test, auxiliary scan, delta -/
theorem ValOK.nbCheck {t : Bytes} {c0 : Cell} (hv : ValOK t c0) (R : Bytes) (hsR : Sep R) (x z : Int)
    (hr : RangeOK (nbInt c0) x z) :
    ∃ (u : Bool) (ll : Option Cell),
      ((typesMatch c0.type 105 = false ∧ u = true ∧ ll = none) ∨
        (typesMatch c0.type 105 = true ∧ ∃ p, C11.scanOne (t ++ R) = .ok (Cell.int .i p) ∧ ll = some (Cell.int .i p) ∧
          u = decide (p = x))) ∧
      C11.deltaFromArgVals ll (Cell.int .i x) (some (Cell.int .i z)) u =
        .ok ((z - x) / rangeStepI (nbInt c0) x z + 1, Cell.int .i (rangeStepI (nbInt c0) x z)) := by
  obtain ⟨_, hp | ht⟩ := nbCell_of_scalar c0 hv.scalar
  · obtain ⟨p, rfl⟩ := hp
    refine ⟨decide (p = x), some (Cell.int .i p), Or.inr ⟨rfl, p, hv.scanOne11 R hsR, rfl, rfl⟩, ?_⟩
    have := hr.delta_cell (Cell.int .i p)
    simpa [uselessI] using this
  · have hn : nbInt c0 = none := by
      cases c0 with
      | int ty v => cases ty <;> first | rfl | exact absurd ht (by simp [ArgVal.Cell.type, ArgVal.IntTy.char, typesMatch])
      | _ => rfl
    refine ⟨true, none, Or.inl ⟨ht, rfl, rfl⟩, ?_⟩
    rw [hn] at hr ⊢
    exact hr.delta_unit (Or.inl rfl) none

theorem rangeTok_tokStart (x z : Int) (hx1 : -2147483648 ≤ x) (hx2 : x ≤ 2147483647) (w1 w2 : Bytes) :
    TokStart (rangeTok x z w1 w2) := TokStart.append (tokStart_fmtDec x hx1 hx2) _

/-- where the checker looks for the left neighbour when no dots follow the previous argument: at its start -/
theorem llhs_start (R ll0 : Bytes) (k : Nat) (hs : Sep R) (hnm : isRangeMultiplier ll0 = false) :
    (if List.length (skipSpace R) > k ∧ startsWith (skipSpace R) [46, 46, 46] = true then
        skipSpace (List.drop 3 (skipSpace R))
      else if isRangeMultiplier ll0 = true then afterX ll0 else ll0) = ll0 := by
  simp [hs.2.2, hnm]

/-- … and behind the `x` of a repetition -/
theorem llhs_afterX (R : Bytes) (n : Nat) (h1 : 1 ≤ n) (t : Bytes) (k : Nat) (hs : Sep R) :
    (if List.length (skipSpace R) > k ∧ startsWith (skipSpace R) [46, 46, 46] = true then
        skipSpace (List.drop 3 (skipSpace R))
      else if isRangeMultiplier (repText n t ++ R) = true then afterX (repText n t ++ R) else repText n t ++ R) =
      t ++ R := by
  have happ : repText n t ++ R = fmtDec (n : Int) ++ 120 :: (t ++ R) := by simp [repText]
  rw [happ]
  simp [hs.2.2, isRangeMultiplier_mult n h1 _, afterX_mult n h1 (t ++ R)]

/-- **the checker reads a range behind a provider** -/
theorem Prov.skipRange {tp : Bytes} {csp : List Cell} {nb : Option Int} (hp : Prov tp csp nb) (g : List Gap)
    (hg : SepGaps g) (f : Nat) (x z : Int) (hr : RangeOK nb x z) (w1 w2 rest : Bytes) (hw1 : AllWs w1) (hne : w1 ≠ [])
    (hw2 : AllWs w2) (hs : Sep rest) (ty : UInt8) (ib : Bool) (hfu : tp.length ≤ f + 1) :
    C11.skipNextPrintedArg (f + 3) (rangeTok x z w1 w2 ++ rest) ty
        (some (tp ++ (gapsBytes g ++ (rangeTok x z w1 w2 ++ rest)))) true ib = .ok ⟨some rest, 3, 45⟩ := by
  have hstart := rangeTok_tokStart x z hr.hx1 hr.hx2 w1 w2
  have hsR : Sep (gapsBytes g ++ (rangeTok x z w1 w2 ++ rest)) :=
    sep_gaps g hg _ (Body.of_tokStart hstart rest)
  have hnum : (z - x) / rangeStepI nb x z + 1 ≠ -1 := by have := hr.hq1; omega
  generalize hR : gapsBytes g ++ (rangeTok x z w1 w2 ++ rest) = R at *
  rw [rangeTok_append]
  cases hp with
  | scalar t c0 hv =>
    obtain ⟨u, ll, hnb, hdelta⟩ := hv.nbCheck R hsR x z hr
    have hra := hv.skip11 R hsR (f + 1) 0 none false ib
    exact skipNext_rangeL (f + 1) x z hr.hx1 hr.hx2 hr.hz1 hr.hz2 w1 w2 rest hw1 hne hw2 hs ty ib (tp ++ R) R
      ⟨some R, 1, c0.type⟩ hra rfl (tp ++ R) ⟨some R, 1, c0.type⟩ (llhs_start R _ _ hsR (hv.nomult R hsR)) hra u ll hnb _ _
      hdelta hnum
  | rep n t c0 h1 h2 hv =>
    obtain ⟨u, ll, hnb, hdelta⟩ := hv.nbCheck R hsR x z hr
    have hrl := hv.skip11 R hsR (f + 1) 0 none false ib
    obtain ⟨ra, hra, hsrc, _, _⟩ := (hv.arg11.rep n h1 h2).skip R (f + 1) 0 none false ib hsR hfu
    exact skipNext_rangeL (f + 1) x z hr.hx1 hr.hx2 hr.hz1 hr.hz2 w1 w2 rest hw1 hne hw2 hs ty ib (repText n t ++ R) R
      ra hra hsrc (t ++ R) ⟨some R, 1, c0.type⟩ (llhs_afterX R n h1 t _ hsR) hrl u ll hnb _ _ hdelta hnum
  | range nb' p q v1 v2 hpq hv1 hvne hv2 =>
    obtain ⟨hW, hsk1, hsk2⟩ := rangeRest_facts v1 v2 (fmtDec q) R hv1 hvne hv2 (tokStart_fmtDec q hpq.hz1 hpq.hz2)
    have hra := skipNext11_int_noell (f + 1) p hpq.hx1 hpq.hx2 _ hW 0 none ib
    have hrl := skipNext11_int_noell (f + 1) q hpq.hz1 hpq.hz2 R hsR.toW 0 none ib
    obtain ⟨u, ll, hnb, hdelta⟩ := (C11.valOK_int q hpq.hz1 hpq.hz2).nbCheck R hsR x z hr
    rw [rangeTok_append]
    have hlen : (46 :: 46 :: 46 :: (v2 ++ (fmtDec q ++ R))).length > (46 :: 46 :: 46 :: (w2 ++ (fmtDec z ++ rest))).length := by
      rw [← hR]
      simp only [rangeTok, rangeRest, List.length_cons, List.length_append, List.length_nil]
      omega
    have hll1 : (if List.length (skipSpace (rangeRest v1 v2 (fmtDec q) R)) >
          (46 :: 46 :: 46 :: (w2 ++ (fmtDec z ++ rest))).length ∧
        startsWith (skipSpace (rangeRest v1 v2 (fmtDec q) R)) [46, 46, 46] = true then
          skipSpace (List.drop 3 (skipSpace (rangeRest v1 v2 (fmtDec q) R)))
      else if isRangeMultiplier (fmtDec p ++ rangeRest v1 v2 (fmtDec q) R) = true then
        afterX (fmtDec p ++ rangeRest v1 v2 (fmtDec q) R) else fmtDec p ++ rangeRest v1 v2 (fmtDec q) R) =
        fmtDec q ++ R := by
      rw [hsk1, if_pos ⟨hlen, by simp [startsWith, List.isPrefixOf]⟩]
      simp [hsk2]
    exact skipNext_rangeL (f + 1) x z hr.hx1 hr.hx2 hr.hz1 hr.hz2 w1 w2 rest hw1 hne hw2 hs ty ib
      (fmtDec p ++ rangeRest v1 v2 (fmtDec q) R) (rangeRest v1 v2 (fmtDec q) R) ⟨some (rangeRest v1 v2 (fmtDec q) R), 1, 105⟩
      hra rfl (fmtDec q ++ R) ⟨some R, 1, 105⟩ hll1 hrl u ll hnb _ _ hdelta hnum
  | arr t aty len more ht h91 =>
    obtain ⟨ra, hra, hsrc, _, hty⟩ := ht.skip R (f + 1) 0 none false ib hsR hfu
    have htyA : typesMatch ra.type 105 = false := by
      rw [hty]; simp [ArgVal.Cell.type, ArgVal.tyA, typesMatch]
    have hnm : isRangeMultiplier (tp ++ R) = false := by
      unfold isRangeMultiplier
      rw [hd_append_of_ne_nil _ _ ht.start.1, h91]
      rfl
    exact skipNext_rangeL (f + 1) x z hr.hx1 hr.hx2 hr.hz1 hr.hz2 w1 w2 rest hw1 hne hw2 hs ty ib (tp ++ R) R
      ra hra hsrc (tp ++ R) ra (llhs_start R _ _ hsR hnm) hra true none (Or.inl ⟨htyA, rfl, rfl⟩) _ _ (hr.delta_unit (Or.inl rfl) none) hnum
  | repArr n t aty len more h1 h2 ht h91 =>
    obtain ⟨ra, hra, hsrc, _, _⟩ := (ht.rep n h1 h2).skip R (f + 1) 0 none false ib hsR hfu
    obtain ⟨rl, hrl, _, _, hty⟩ := ht.skip R (f + 1) 0 none false ib hsR (by rw [repText_length] at hfu; omega)
    have htyA : typesMatch rl.type 105 = false := by
      rw [hty]; simp [ArgVal.Cell.type, ArgVal.tyA, typesMatch]
    exact skipNext_rangeL (f + 1) x z hr.hx1 hr.hx2 hr.hz1 hr.hz2 w1 w2 rest hw1 hne hw2 hs ty ib (repText n t ++ R) R
      ra hra hsrc (t ++ R) rl (llhs_afterX R n h1 t _ hsR) hrl true none (Or.inl ⟨htyA, rfl, rfl⟩) _ _ (hr.delta_unit (Or.inl rfl) none) hnum

theorem cpr_rangeCells (nb : Option Int) (x z : Int) : canPrecedeRange (rangeCellsNb nb x z) = .ok true :=
  canPrecedeRange_delta _ _

theorem off_rangeCells (nb : Option Int) (x z : Int) :
    nextArgOffset ((rangeCellsNb nb x z).length + 1) (rangeCellsNb nb x z) = .ok (rangeCellsNb nb x z).length :=
  nextArgOffset_range _ _ _ rfl

theorem ety_rangeCells (nb : Option Int) (x z : Int) : elemTy (rangeCellsNb nb x z) = .ok 105 :=
  elemTy_delta _ _ _ _

theorem skipTy_rangeCells (nb : Option Int) (x z : Int) : skipTy (rangeCellsNb nb x z) = 45 := by
  simp [skipTy, rangeCellsNb, ArgVal.Cell.type, ArgVal.tyRange]

theorem tailKeep_rangeCells (nb : Option Int) (x z : Int) : TailKeep (rangeCellsNb nb x z) :=
  fun done _ => TailOK.append_range done _ _ _

end Rtosc.Pretty.C11
