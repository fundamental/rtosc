/-
  The readers of Osc/Read.lean (C01, C07): the scans and word reads on memory whose content from an
  offset on is known (`m.drop p = …`), `arg_size` / `extract_arg` by the kind of the tag, the walks
  that only look at the type tags, and where the parts of `Spec.encode m ++ rest` stand
  (`encode_layout`).
-/
import RtoscModel.Proofs.OscEncode
namespace Rtosc.Osc
open Rtosc

theorem NoNul.tail {c : UInt8} {k : Bytes} (h : NoNul (c :: k)) : NoNul k :=
  fun x hx => h x (List.mem_cons_of_mem _ hx)
theorem NoNul.head {c : UInt8} {k : Bytes} (h : NoNul (c :: k)) : c ≠ 0 :=
  h c (List.mem_cons_self)

theorem getElem?_of_drop' {m : Bytes} {p j : Nat} {x : Bytes} (h : m.drop p = x) :
    m[p + j]? = x[j]? := by
  rw [← h, List.getElem?_drop]

theorem drop_add_of_drop {m : Bytes} {p : Nat} {x y : Bytes} (h : m.drop p = x ++ y) :
    m.drop (p + x.length) = y := by
  rw [← List.drop_drop, h, List.drop_left]

theorem length_of_drop {m : Bytes} {p : Nat} {x : Bytes} (h : m.drop p = x) (hx : x ≠ []) :
    m.length = p + x.length := by
  have : (m.drop p).length = x.length := by rw [h]
  rw [List.length_drop] at this
  have : x.length ≠ 0 := by simpa using hx
  omega

theorem nulIdx_append (s r : Bytes) (h : NoNul s) : nulIdx (s ++ 0 :: r) = some s.length := by
  induction s with
  | nil => simp [nulIdx]
  | cons c s ih => simp [nulIdx, h.head, ih h.tail]

theorem cstr_nulIdx : ∀ (l s : Bytes), cstr l = some s → nulIdx l = some s.length ∧ s.length < l.length := by
  intro l
  induction l with
  | nil => intro s h; simp [cstr] at h
  | cons b r ih =>
    intro s h
    simp only [cstr] at h
    split at h
    · rename_i hb; simp only [Option.some.injEq] at h; subst h; simp [nulIdx, hb]
    · rename_i hb
      simp only [Option.map_eq_some_iff] at h
      obtain ⟨s', hs', rfl⟩ := h
      obtain ⟨h1, h2⟩ := ih s' hs'
      simp [nulIdx, hb, h1]; omega

theorem nonNulIdx_zeros (j : Nat) (c : UInt8) (r : Bytes) (hc : c ≠ 0) :
    nonNulIdx (zeros j ++ c :: r) = some j := by
  induction j with
  | zero => simp [zeros, nonNulIdx, hc]
  | succ j ih => rw [zeros_succ]; simp [nonNulIdx, ih]

/-- `while(*++p);` when the memory at `p` is one (skipped) byte, a NUL-free run, a NUL -/
theorem skipToNul_of_drop {m : Bytes} {p : Nat} {c : UInt8} {s r : Bytes}
    (h : m.drop p = c :: (s ++ 0 :: r)) (hs : NoNul s) : skipToNul m p = some (p + 1 + s.length) := by
  have : m.drop (p + 1) = s ++ 0 :: r := drop_succ_of_drop_cons h
  simp [skipToNul, this, nulIdx_append s r hs]; omega

theorem skipNuls_of_drop {m : Bytes} {p j : Nat} {c c' : UInt8} {r : Bytes}
    (h : m.drop p = c' :: (zeros j ++ c :: r)) (hc : c ≠ 0) : skipNuls m p = some (p + 1 + j) := by
  have : m.drop (p + 1) = zeros j ++ c :: r := drop_succ_of_drop_cons h
  simp [skipNuls, this, nonNulIdx_zeros j c r hc]; omega

/-- `while(*p) ++p;` when the memory at `p` is a NUL-free run followed by a NUL -/
theorem scanToNul_of_drop {m : Bytes} {p : Nat} {s r : Bytes}
    (h : m.drop p = s ++ 0 :: r) (hs : NoNul s) : scanToNul m p = some (p + s.length) := by
  simp [scanToNul, h, nulIdx_append s r hs]; omega

theorem padStr_eq (s : Bytes) : padStr s = s ++ 0 :: zeros (3 - s.length % 4) := by
  have : 4 - s.length % 4 = (3 - s.length % 4) + 1 := by omega
  rw [padStr, this, zeros_succ]

theorem rd32_of_drop4 {m : Bytes} {p : Nat} {b0 b1 b2 b3 : UInt8} {r : Bytes}
    (h : m.drop p = b0 :: b1 :: b2 :: b3 :: r) : rd32 m p = some (get32 b0 b1 b2 b3) := by
  simp [rd32, getElem?_of_drop h, getElem?_of_drop' h]

theorem rd64_of_drop8 {m : Bytes} {p : Nat} {b0 b1 b2 b3 b4 b5 b6 b7 : UInt8} {r : Bytes}
    (h : m.drop p = b0 :: b1 :: b2 :: b3 :: b4 :: b5 :: b6 :: b7 :: r) :
    rd64 m p = some (get64 b0 b1 b2 b3 b4 b5 b6 b7) := by
  simp [rd64, getElem?_of_drop h, getElem?_of_drop' h]

theorem rd32_of_drop {m : Bytes} {p : Nat} {v : UInt32} {r : Bytes} (h : m.drop p = be32 v ++ r) :
    rd32 m p = some v := by
  obtain ⟨b0, b1, b2, b3, hb, hg⟩ := get32_be32 v
  rw [← hg]; exact rd32_of_drop4 (r := r) (by rw [h, hb]; rfl)

theorem rd64_of_drop {m : Bytes} {p : Nat} {v : UInt64} {r : Bytes} (h : m.drop p = be64 v ++ r) :
    rd64 m p = some v := by
  obtain ⟨b0, b1, b2, b3, b4, b5, b6, b7, hb, hg⟩ := get64_be64 v
  rw [← hg]; exact rd64_of_drop8 (r := r) (by rw [h, hb]; rfl)

theorem hasReserved_zero : hasReserved 0 = false := by decide

theorem argSize_kind (m : Bytes) (p : Nat) (t : UInt8) :
    argSize m p t =
      match kind t with
      | some .w64 => some 8
      | some .w32 | some .midi => some 4
      | some .str =>
        match scanToNul m p with
        | none => none
        | some q => some (u32 (q - p + (4 - (q - p) % 4)))
      | some .blob =>
        match rd32 m p with
        | none => none
        | some len =>
          let bl := len.toNat
          some (u32 (4 + (if bl % 4 ≠ 0 then u32 (bl + (4 - bl % 4)) else bl)))
      | none => some 0 := by
  rcases kind_cases t with ⟨hk, ht⟩ | ⟨hk, ht⟩ | ⟨hk, ht⟩ | ⟨hk, ht⟩ | ⟨hk, ht⟩ |
    ⟨hk, -⟩ <;> rw [hk]
  · rcases ht with rfl | rfl | rfl | rfl <;> rfl
  · rcases ht with rfl | rfl | rfl <;> rfl
  · subst ht; rfl
  · rcases ht with rfl | rfl <;> rfl
  · subst ht; rfl
  · rw [argSize, hasReserved_eq, hk]; rfl

theorem extractArg_kind (m : Bytes) (p : Nat) (t : UInt8) :
    extractArg m p t =
      match kind t with
      | some .w64 => (rd64 m p).map .w64
      | some .w32 => (rd32 m p).map .w32
      | some .midi =>
        match m[p]?, m[p + 1]?, m[p + 2]?, m[p + 3]? with
        | some a, some b, some c, some d => some (.midi a b c d)
        | _, _, _, _ => none
      | some .str => some (.str p)
      | some .blob => (rd32 m p).map (fun len => .blob len (p + 4))
      | none => if t = 84 then some (.tf true) else if t = 70 then some (.tf false) else some .zero := by
  rcases kind_cases t with ⟨hk, ht⟩ | ⟨hk, ht⟩ | ⟨hk, ht⟩ | ⟨hk, ht⟩ | ⟨hk, ht⟩ |
    ⟨hk, -⟩ <;> rw [hk]
  · rcases ht with rfl | rfl | rfl | rfl <;> rfl
  · rcases ht with rfl | rfl | rfl <;> rfl
  · subst ht; rfl
  · rcases ht with rfl | rfl <;> rfl
  · subst ht; rfl
  · rw [extractArg, hasReserved_eq, hk]; rfl

theorem extract_flag (m : Bytes) (p : Nat) {t : UInt8} (hr : hasReserved t = false) :
    (extractArg m p t).bind (CVal.view m) = some (flagVal t) := by
  simp only [extractArg, hr, Bool.not_false, if_true, flagVal]
  split
  · simp [CVal.view]
  · split <;> simp [CVal.view]

theorem encode_layout (m : Msg) (rest : Bytes) :
    Spec.encode m ++ rest = m.addr ++ 0 :: (zeros (3 - m.addr.length % 4) ++ 44 :: (m.tags ++ 0 ::
      (zeros (3 - (m.tags.length + 1) % 4) ++ (m.args.flatMap encArg ++ rest)))) := by
  simp [Spec.encode, padStr_eq]

/-- offset of the ',' -/
def Aoff (m : Msg) : Nat := (padStr m.addr).length
/-- length of the padded type tag string -/
def Boff (m : Msg) : Nat := (padStr (44 :: m.tags)).length

theorem Aoff_eq (m : Msg) : Aoff m = m.addr.length + 1 + (3 - m.addr.length % 4) := by
  rw [Aoff, padStr_length]; omega

theorem Boff_eq (m : Msg) : Boff m = m.tags.length + 1 + (4 - (m.tags.length + 1) % 4) := padStr_length _

theorem Aoff_mod4 (m : Msg) : Aoff m % 4 = 0 := padStr_length_mod m.addr

theorem encode_length_off (m : Msg) :
    (Spec.encode m).length = Aoff m + Boff m + (m.args.flatMap encArg).length := by
  simp only [Spec.encode, List.length_append, Aoff, Boff]

theorem drop_vals (m : Msg) (rest : Bytes) :
    (Spec.encode m ++ rest).drop (Aoff m + Boff m) = m.args.flatMap encArg ++ rest := by
  have : Spec.encode m ++ rest = (padStr m.addr ++ padStr (44 :: m.tags)) ++
      (m.args.flatMap encArg ++ rest) := by simp [Spec.encode]
  rw [this, Aoff, Boff, ← List.length_append, List.drop_left]

theorem isBracket_iff (t : UInt8) : isBracket t = true ↔ (t = 91 ∨ t = 93) := by
  simp [isBracket]

theorem not_bracket {t : UInt8} (hb : isBracket t = false) : ¬ (t = 91 ∨ t = 93) :=
  fun h => by rw [(isBracket_iff t).mpr h] at hb; cases hb

theorem bracket_kind (t : UInt8) (h : isBracket t = true) :
    kind t = none ∧ hasReserved t = false := by
  rcases (isBracket_iff t).mp h with rfl | rfl <;> decide

theorem valuesOf_bracket {t : UInt8} (ts : Bytes) (as : List Arg) (h : isBracket t = true) :
    Spec.valuesOf (t :: ts) as = Spec.valuesOf ts as := by simp [Spec.valuesOf, h]

theorem valuesOf_flag {t : UInt8} (ts : Bytes) (as : List Arg) (h : isBracket t = false)
    (hk : kind t = none) :
    Spec.valuesOf (t :: ts) as = (t, flagVal t) :: Spec.valuesOf ts as := by
  simp [Spec.valuesOf, h, hk]

theorem valuesOf_arg {t : UInt8} (ts : Bytes) (a : Arg) (as : List Arg) (h : isBracket t = false)
    {k : Kind} (hk : kind t = some k) :
    Spec.valuesOf (t :: ts) (a :: as) = (t, .arg a) :: Spec.valuesOf ts as := by
  simp [Spec.valuesOf, h, hk]

/-- one step of a walk over the tags: bracket / flag / payload -/
theorem tag_step {t : UInt8} {ts : Bytes} {args : List Arg} (hm : Matches (t :: ts) args) :
    (isBracket t = true ∧ kind t = none ∧ hasReserved t = false ∧ Matches ts args ∧
      Spec.valuesOf (t :: ts) args = Spec.valuesOf ts args) ∨
    (isBracket t = false ∧ kind t = none ∧ hasReserved t = false ∧ Matches ts args ∧
      Spec.valuesOf (t :: ts) args = (t, flagVal t) :: Spec.valuesOf ts args) ∨
    (isBracket t = false ∧ hasReserved t = true ∧ ∃ a as, args = a :: as ∧ kind t = some a.kind ∧
      Matches ts as ∧ Spec.valuesOf (t :: ts) args = (t, .arg a) :: Spec.valuesOf ts as) := by
  cases hb : isBracket t with
  | true =>
    obtain ⟨hk, hr⟩ := bracket_kind t hb
    exact Or.inl ⟨rfl, hk, hr, (matches_skip hk).mp hm, valuesOf_bracket ts args hb⟩
  | false =>
    cases hk : kind t with
    | none =>
      have hr : hasReserved t = false := by rw [hasReserved_eq, hk]; rfl
      exact Or.inr (Or.inl ⟨rfl, rfl, hr, (matches_skip hk).mp hm, valuesOf_flag ts args hb hk⟩)
    | some k =>
      have hr : hasReserved t = true := by rw [hasReserved_eq, hk]; rfl
      obtain ⟨a, as, rfl, hak, hm'⟩ := matches_take hk hm
      exact Or.inr (Or.inr ⟨rfl, hr, a, as, rfl, by rw [hak], hm', valuesOf_arg ts a as hb hk⟩)

/-- the same step for a walk that only looks at the tags: a bracket yields no value, any other
    tag yields one -/
theorem tag_step' {t : UInt8} {ts : Bytes} {args : List Arg} (hm : Matches (t :: ts) args) :
    (isBracket t = true ∧ Matches ts args ∧ Spec.valuesOf (t :: ts) args = Spec.valuesOf ts args) ∨
    (isBracket t = false ∧ ∃ v as, Matches ts as ∧
      Spec.valuesOf (t :: ts) args = (t, v) :: Spec.valuesOf ts as) := by
  rcases tag_step hm with ⟨hb, _, _, hm', hv⟩ | ⟨hb, _, _, hm', hv⟩ | ⟨hb, _, a, as, rfl, _, hm', hv⟩
  · exact .inl ⟨hb, hm', hv⟩
  · exact .inr ⟨hb, _, _, hm', hv⟩
  · exact .inr ⟨hb, _, _, hm', hv⟩

theorem valuesOf_entry (tags : Bytes) : ∀ (args : List Arg) (n : Nat) (t : UInt8) (v : Val),
    Matches tags args → (Spec.valuesOf tags args)[n]? = some (t, v) →
    (hasReserved t = false ∧ v = flagVal t) ∨ (hasReserved t = true ∧ ∃ a, v = .arg a) := by
  induction tags with
  | nil => intro args n t v _ h; simp [Spec.valuesOf] at h
  | cons c ts ih =>
    intro args n t v hm h
    rcases tag_step hm with ⟨_, _, _, hm', hv⟩ | ⟨_, _, hr, hm', hv⟩ | ⟨_, hr, a, as, rfl, _, hm', hv⟩
    · rw [hv] at h; exact ih args n t v hm' h
    · rw [hv] at h
      cases n with
      | zero =>
        simp only [List.getElem?_cons_zero, Option.some.injEq, Prod.mk.injEq] at h
        exact Or.inl ⟨by rw [← h.1]; exact hr, by rw [← h.1, ← h.2]⟩
      | succ n => simp only [List.getElem?_cons_succ] at h; exact ih args n t v hm' h
    · rw [hv] at h
      cases n with
      | zero =>
        simp only [List.getElem?_cons_zero, Option.some.injEq, Prod.mk.injEq] at h
        exact Or.inr ⟨by rw [← h.1]; exact hr, a, h.2.symm⟩
      | succ n => simp only [List.getElem?_cons_succ] at h; exact ih as n t v hm' h

theorem valuesOf_length (tags : Bytes) : ∀ (args : List Arg), Matches tags args →
    (Spec.valuesOf tags args).length = (tags.filter (fun t => !isBracket t)).length := by
  induction tags with
  | nil => intro args _; simp [Spec.valuesOf]
  | cons c ts ih =>
    intro args hm
    rcases tag_step hm with ⟨hb, _, _, hm', hv⟩ | ⟨hb, _, _, hm', hv⟩ | ⟨hb, _, a, as, rfl, _, hm', hv⟩
    · rw [hv, ih args hm']; simp [hb]
    · rw [hv]; simp [hb, ih args hm']
    · rw [hv]; simp [hb, ih as hm']

theorem countArgs_spec (tags : Bytes) : ∀ (args : List Arg) (X : Bytes), Matches tags args → NoNul tags →
    countArgs (tags ++ 0 :: X) = some (Spec.valuesOf tags args).length := by
  induction tags with
  | nil => intro args X _ _; simp [countArgs, Spec.valuesOf]
  | cons t ts ih =>
    intro args X hm hok
    have ht0 := hok.head
    rcases tag_step' hm with ⟨hb, hm', hv⟩ | ⟨hb, v, as, hm', hv⟩ <;> rw [hv]
    · have := (isBracket_iff t).mp hb
      simp only [List.cons_append, countArgs, ht0, if_false, ih args X hm' hok.tail, Option.map_some]
      rcases this with rfl | rfl <;> simp
    · have : ¬ (t = 93 ∨ t = 91) := fun h => not_bracket hb h.symm
      simp [countArgs, ht0, ih as X hm' hok.tail, this]

theorem typeLoop_spec (tags : Bytes) : ∀ (args : List Arg) (X : Bytes) (n : Nat) (t : UInt8) (v : Val),
    Matches tags args → NoNul tags → (Spec.valuesOf tags args)[n]? = some (t, v) →
    typeLoop (tags ++ 0 :: X) n = some t := by
  induction tags with
  | nil => intro args X n t v _ _ h; simp [Spec.valuesOf] at h
  | cons c ts ih =>
    intro args X n t v hm hok h
    have ht0 := hok.head
    rcases tag_step' hm with ⟨hb, hm', hv⟩ | ⟨hb, v', as, hm', hv⟩ <;> rw [hv] at h
    · have := (isBracket_iff c).mp hb
      simp only [List.cons_append, typeLoop, this, if_true]
      exact ih args X n t v hm' hok.tail h
    · have hnb := not_bracket hb
      simp only [List.cons_append, typeLoop, hnb, if_false, ht0, or_false]
      cases n with
      | zero => simp at h; simp [h.1]
      | succ n =>
        simp only [List.getElem?_cons_succ] at h
        simp only [Nat.add_one_ne_zero, if_false, Nat.add_sub_cancel]
        exact ih as X n t v hm' hok.tail h

def NoLead (ts : Bytes) : Prop := ∀ c r, ts = c :: r → isBracket c = false

/-- `ts'` is what is left of `tags` behind its leading brackets; `P` is whatever the caller knows
    of the tags and keeps when a leading bracket is removed (`LaxArgs · args A` in `advance_lax`,
    Proofs/OscLax.lean, the one instance; C01 and C07 both go through it) -/
structure Led (P : Bytes → Prop) (tags ts' : Bytes) (args : List Arg) : Prop where
  noLead : NoLead ts'
  vals : Spec.valuesOf ts' args = Spec.valuesOf tags args
  keep : P ts'
  nn : NoNul ts'
  le : ts'.length ≤ tags.length

theorem lead_spec {P : Bytes → Prop} (hP : ∀ {c ts}, isBracket c = true → P (c :: ts) → P ts)
    (tags : Bytes) (args : List Arg) (X : Bytes) : P tags → NoNul tags →
    ∃ j ts', bracketRun (tags ++ 0 :: X) = some j ∧ tags.drop j = ts' ∧ j ≤ tags.length ∧
      Led P tags ts' args := by
  induction tags with
  | nil =>
    intro hm hok
    exact ⟨0, [], (by simp [bracketRun]), rfl, Nat.le_refl _, (fun c r h => by cases h), rfl, hm, hok,
      Nat.le_refl _⟩
  | cons c ts ih =>
    intro hm hok
    cases hb : isBracket c with
    | true =>
      obtain ⟨j, ts', h1, h2, h3, L⟩ := ih (hP hb hm) hok.tail
      refine ⟨j + 1, ts', ?_, (by simpa using h2), (by simp; omega), L.noLead,
        (by rw [L.vals, valuesOf_bracket ts args hb]), L.keep, L.nn, (by simp; exact Nat.le_succ_of_le L.le)⟩
      simp [bracketRun, (isBracket_iff c).mp hb, h1]
    | false =>
      have hnb := not_bracket hb
      refine ⟨0, c :: ts, (by simp [bracketRun, hnb]), rfl, Nat.zero_le _, ?_, rfl, hm, hok, Nat.le_refl _⟩
      intro c' r h; cases h; exact hb

/-- `advance_past_dummy_args` at offset `p`, where the memory holds `tags`, their NUL and `X` -/
theorem advancePast_spec {P : Bytes → Prop} (hP : ∀ {c ts}, isBracket c = true → P (c :: ts) → P ts)
    {m : Bytes} {p : Nat} {tags X : Bytes} (args : List Arg)
    (hd : m.drop p = tags ++ 0 :: X) (hm : P tags) (hok : NoNul tags) :
    ∃ j ts', advancePast m p = some (j + p) ∧ m.drop (j + p) = ts' ++ 0 :: X ∧ Led P tags ts' args := by
  obtain ⟨j, ts', h1, h2, h3, L⟩ := lead_spec hP tags args X hm hok
  refine ⟨j, ts', by simp [advancePast, hd, h1], ?_, L⟩
  rw [Nat.add_comm, ← List.drop_drop, hd, List.drop_append_of_le_length h3, h2]

theorem offLoop_zero (m ts : Bytes) (pos : Nat) : offLoop m ts 0 pos = some pos := by
  simp [offLoop]

theorem flagVal_ne_arg (t : UInt8) (a : Arg) : flagVal t ≠ .arg a := by
  unfold flagVal; split
  · simp
  · split <;> simp

def viewPair (m : Bytes) (x : UInt8 × CVal) : Option (UInt8 × Val) :=
  (x.2.view m).map (fun v => (x.1, v))

/-- What the readers return on the block `bs` whose type tags `tags` stand at offset `o` and whose
    arguments end at offset `e`: index access is right when `e` is an `unsigned` (< 2^32), the
    iterator when it is an `int` (< 2^31: `int size` in `rtosc_itr_next`). -/
structure Reads (bs : Bytes) (o e : Nat) (tags : Bytes) (vals : List (UInt8 × Val)) : Prop where
  str : argString bs = some o
  cstr : cstrAt bs o = some tags
  count : e < 4294967296 → narguments bs = some vals.length
  index : e < 4294967296 → ∀ i t v, vals[i]? = some (t, v) →
    typeAt bs i = some t ∧ argumentView bs i = some v
  iter : e < 2147483648 → ∃ l, iterate bs = some l ∧ l.mapM (viewPair bs) = some vals

theorem Reads.iterView {bs tags : Bytes} {o e : Nat} {vals : List (UInt8 × Val)} (R : Reads bs o e tags vals)
    (h31 : e < 2147483648) : iterateView bs = some vals := by
  obtain ⟨l, h1, h2⟩ := R.iter h31
  simp only [iterateView, h1]
  exact h2

end Rtosc.Osc
