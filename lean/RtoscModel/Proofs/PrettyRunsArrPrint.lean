/-
  C10 — tier 3, compressed runs AND arrays: the printer.

  (A) the element loop of the array printer over an array body that `rtosc_convert_to_range` cuts
      into segments, and `rtosc_print_arg_val` on such an array: the text is `[` + a
      `SegsText none body` + `]`;
  (B) the loop of `rtosc_print_arg_vals` over a list of pieces (segments, arrays and runs `nx[…]`
      of equal arrays, `ASegmented`): every piece is a piece of the printer's loop of Proofs/PrettyLoops.lean; the
      text is an `ASegsText`.
  Both loops are proved piece by piece: what is specific to a piece is what
  `rtosc_convert_to_range` returns at its start and what the printer writes for that.
-/
import RtoscModel.Proofs.PrettyRunsArrConv
import RtoscModel.Proofs.PrettyRunsArrDefs
import RtoscModel.Proofs.PrettyRunsExtPrint
namespace Rtosc.Pretty
open Rtosc Rtosc.Libc
open Rtosc.ArgVal (Cell)

/-- what the element loop of the array printer does on the body `segs` behind the printed cells
    `done` of the array (`more`: what follows the array in memory): it writes a text of the
    segments and a final blank.  `mid`: the `[` just written in front of the first element, nothing
    later; `wrt`, `lastSep`, `awl`: the loop's count of characters, pointer to the last separator and
    number of arguments written on this line (`LastSepAt`, Proofs/PrettyLoops.lean) -/
def PrintsElems (opt : POpt) (fuel : Nat) (hdr : Cell) (more : List Cell) (segs : List RSeg) : Prop :=
  ∀ (arg done : List Cell) (n : Nat), arg = hdr :: (done ++ (cellsAll segs ++ more)) →
    n = done.length + (cellsAll segs).length →
    ∀ (lf : Nat) (out mid : Bytes) (cols : Int) (wrt : Nat) (lastSep : Int) (awl : Nat), segs.length ≤ lf →
      mid.length ≤ 1 → LastSepAt awl out lastSep →
      ∃ (pre text : Bytes) (cols' : Int),
        printArrayElems (printArgVal (fuel + 2) opt) opt arg n (done.length + 1) ⟨out ++ mid, cols⟩ wrt lastSep awl lf =
          .ok (⟨pre ++ mid ++ text ++ [32], cols'⟩, wrt + text.length + 1 + (pre.length - out.length)) ∧
        MaybeBroken pre out ∧ SegsText done.getLast? segs text

theorem arrLoop_seg (opt : POpt) (hc : opt.compress = true) (fuel : Nat) (hdr : Cell) (more : List Cell)
    {s : RSeg} {segs : List RSeg} (hp : s.Printable opt)
    (hscal : ∀ c ∈ cellsAll (s :: segs), c.isScalar = true)
    (hconv : convertToRange opt (cellsAll (s :: segs)) (cellsAll (s :: segs)).length = .ok s.conv)
    (ih : segs ≠ [] → PrintsElems opt fuel hdr more segs) : PrintsElems opt fuel hdr more (s :: segs) := by
  intro arg done n harg hn lf out mid cols wrt lastSep awl hlf hmid hinv
  obtain ⟨f, rfl⟩ : ∃ g, lf = g + 1 := ⟨lf - 1, by simp only [List.length_cons] at hlf; omega⟩
  have hlen : (cellsAll (s :: segs)).length = s.cells.length + (cellsAll segs).length := by simp [cellsAll]
  have hrest : cellsAll (s :: segs) ++ more = s.cells ++ (cellsAll segs ++ more) := by simp [cellsAll]
  have hcpos := hp.cells_pos
  obtain ⟨T, cols1, hprint, hT⟩ := printArgVal_seg opt hc hp fuel (cellsAll segs ++ more) done.getLast? ⟨out ++ mid, cols⟩
  obtain ⟨pre1, cols2, awl2, hpre1, hstep⟩ := arrLoop_step (printArgVal (fuel + 2) opt) opt arg hdr done _ harg n f
    s.conv s.cells.length out mid T cols cols1 wrt lastSep awl (by omega)
    (by rw [hrest]; exact hprint) (by rw [hrest]; exact hp.step _)
    (by rw [show n - done.length = (cellsAll (s :: segs)).length from by omega, convertToRange_append opt _ more hscal]; exact hconv)
    hmid hinv
  rw [hstep]
  by_cases hmore : segs = []
  · subst hmore
    have hnot : ¬ (done.length + 1 + s.cells.length ≤ n) := by
      have : (cellsAll ([] : List RSeg)).length = 0 := rfl
      omega
    refine ⟨pre1, T, cols2 + 1, ?_, hpre1, ?_⟩
    · unfold printArrayElems
      simp only [hnot, ↓reduceIte, pure, Except.pure]
      congr 2
      omega
    · simpa using SegsText.cons _ s [] T [] [] hT (SegsText.nil _) (fun _ => rfl) (fun h => absurd rfl h)
  · obtain ⟨pre', text', cols', hrun, hpre', htt⟩ :=
      ih hmore arg (done ++ s.cells) n (by rw [harg]; simp [cellsAll]) (by simp only [List.length_append]; omega)
        f (pre1 ++ mid ++ T ++ [32]) [] (cols2 + 1) (wrt + T.length + (pre1.length - out.length) + 1)
        ((pre1 ++ mid ++ T).length : Int) awl2 (by simp only [List.length_cons] at hlf; omega) (by simp)
        (Or.inr ⟨pre1 ++ mid ++ T, rfl, rfl⟩)
    rw [hp.getLast? done] at htt
    rw [show (done ++ s.cells).length + 1 = done.length + 1 + s.cells.length from by simp only [List.length_append]; omega,
      List.append_nil] at hrun
    rw [hrun]
    obtain ⟨sep, hsep, hsl, rfl⟩ := sep_of_linebreak hpre'
    refine ⟨pre1, T ++ (sep ++ text'), cols', ?_, hpre1,
      SegsText.cons _ s segs T sep text' hT htt (fun h => absurd h hmore) (fun _ => hsep)⟩
    congr 2
    · simp
    · simp only [List.length_append, List.length_cons, List.length_nil]
      omega

theorem printArrayElems_segs (opt : POpt) (hc : opt.compress = true) (fuel : Nat) (hdr : Cell) (more : List Cell)
    {segs : List RSeg} (hseg : Segmented opt segs) (hne : segs ≠ []) : PrintsElems opt fuel hdr more segs := by
  induction segs with
  | nil => exact absurd rfl hne
  | cons s r ih =>
    obtain ⟨hp, hconv, hr⟩ := hseg.head
    exact arrLoop_seg opt hc fuel hdr more hp hseg.scalars hconv (ih hr)

/-- **the printer on an array whose body `rtosc_convert_to_range` cuts into the segments `body`**:
    it writes `[`, a text of the segments, `]` (possibly turning the blank in front of the `[`
    into a line break) and returns the number of characters added -/
theorem printArgVal_arrSegsG (opt : POpt) (hc : opt.compress = true) {body : List RSeg} (hseg : Segmented opt body)
    (fuel : Nat) (more : List Cell) (prev : Option Cell) (st : PSt) (awl : Nat) (hawl : initArgsWritten st = .ok awl)
    (hinv : LastSepAt awl st.out ((st.out.length : Int) - 1)) :
    ∃ (pre B : Bytes) (cols' : Int),
      printArgVal (fuel + 3) opt ((arrHdr body :: cellsAll body) ++ more) prev st =
        .ok (⟨pre ++ (91 :: (B ++ [93])), cols'⟩, (B.length + 2) + (pre.length - st.out.length)) ∧
      MaybeBroken pre st.out ∧ SegsText none body B := by
  have hneg : ¬ (((cellsAll body).length : Int) < 0) := by omega
  by_cases hb : body = []
  · subst hb
    refine ⟨st.out, [], st.cols + 1 + 1 + 1, ?_, Or.inl rfl, SegsText.nil none⟩
    unfold printArgVal
    simp [arrHdr, cellsAll, deref, bind, Except.bind, pure, Except.pure, hawl]
  · have hpos := hseg.cells_pos hb
    have hn0 : (cellsAll body).length ≠ 0 := by omega
    obtain ⟨pre, text, cols', hrun, hpre, htt⟩ :=
      printArrayElems_segs opt hc fuel (arrHdr body) more hseg hb
        ((arrHdr body :: cellsAll body) ++ more) [] (cellsAll body).length (by simp) (by simp)
        ((cellsAll body).length + 1) st.out [91] (st.cols + 1) 1 ((st.out.length : Int) - 1) awl
        (by have := hseg.length_le; omega) (by simp) hinv
    refine ⟨pre, text, cols' + 1, ?_, hpre, by simpa using htt⟩
    simp only [List.length_nil, Nat.zero_add] at hrun
    unfold printArgVal
    simp only [arrHdr, List.cons_append, deref, bind, Except.bind, hneg, ↓reduceIte, Int.toNat_natCast, hawl,
      ne_eq, hn0, not_false_eq_true, pure, Except.pure]
    simp only [arrHdr, List.cons_append] at hrun
    rw [hrun]
    have hdl : (pre ++ [91] ++ text ++ [32]).dropLast = pre ++ [91] ++ text := List.dropLast_concat
    simp only [hdl]
    congr 2
    · simp
    · omega

/-- `printArgVal_arrSegsG` (any initial `args_written_this_line`) in a state of the top-level loop -/
theorem printArgVal_arrSegs (opt : POpt) (hc : opt.compress = true) {body : List RSeg} (hseg : Segmented opt body)
    (fuel : Nat) (more : List Cell) (prev : Option Cell) (st : PSt) (hst : st.cols = 0 ∨ ∃ base, st.out = base ++ [32]) :
    ∃ (pre B : Bytes) (cols' : Int),
      printArgVal (fuel + 3) opt ((arrHdr body :: cellsAll body) ++ more) prev st =
        .ok (⟨pre ++ (91 :: (B ++ [93])), cols'⟩, (B.length + 2) + (pre.length - st.out.length)) ∧
      MaybeBroken pre st.out ∧ SegsText none body B := by
  obtain ⟨awl, hawl, hinv⟩ := initArgsWritten_spec st hst
  exact printArgVal_arrSegsG opt hc hseg fuel more prev st awl hawl hinv

/-- behind `nx` the array printer starts with `args_written_this_line = 0`
    (`(*cols_used && isspace(*last_sep)) ? 1 : 0` with `last_sep` on the `x`) -/
theorem initArgsWritten_x (pre : Bytes) (cols : Int) : initArgsWritten ⟨pre ++ [120], cols⟩ = .ok 0 := by
  by_cases hcols : cols ≠ 0
  · simp [initArgsWritten, hcols, show isspace 120 = false from by decide]
  · simp [initArgsWritten, hcols]

/-- **`nx[` body `]`**: the printer on the range block of `n` equal arrays -/
theorem printArgVal_arunSegs (opt : POpt) (hc : opt.compress = true) {body : List RSeg} (hseg : Segmented opt body)
    (n : Nat) (hn : 1 ≤ n) (fuel : Nat) (prev : Option Cell) (st : PSt) :
    ∃ (B : Bytes) (cols' : Int),
      printArgVal (fuel + 4) opt (Cell.rep n 0 :: arrHdr body :: cellsAll body) prev st =
        .ok (⟨st.out ++ runText n (91 :: (B ++ [93])), cols'⟩, (runText n (91 :: (B ++ [93]))).length) ∧
      SegsText none body B := by
  have hsa : st.out ++ (fmtDec (n : Int) ++ [120]) = (st.out ++ fmtDec (n : Int)) ++ [120] := by simp
  obtain ⟨pre, B, cols', hprint, hpre, hB⟩ := printArgVal_arrSegsG opt hc hseg fuel [] none
    ⟨st.out ++ (fmtDec (n : Int) ++ [120]), st.cols + ((fmtDec (n : Int) ++ [120]).length : Nat)⟩ 0
    (by rw [hsa]; exact initArgsWritten_x _ _) (Or.inl rfl)
  have hpre' : pre = st.out ++ (fmtDec (n : Int) ++ [120]) := by
    rcases hpre with h | ⟨base, h1, _⟩
    · exact h
    · exfalso
      simp only [] at h1
      rw [hsa] at h1
      have := List.append_inj_right' h1 rfl
      simp at this
  subst hpre'
  refine ⟨B, cols', ?_, hB⟩
  have hn0 : ¬ ((n : Int) = 0) := by omega
  simp only [List.append_nil, Nat.sub_self, Nat.add_zero] at hprint
  rw [show fuel + 4 = (fuel + 3) + 1 from rfl, printArgVal_rep]
  unfold printRange
  simp only [deref, bind, Except.bind, hc, true_or, ↓reduceIte, ne_eq, not_true_eq_false, hn0, or_self,
    List.drop_succ_cons, List.drop_zero, hprint, pure, Except.pure]
  obtain ⟨a, ha⟩ := initArgsWritten_ok ⟨st.out ++ (fmtDec (n : Int) ++ [120]) ++ 91 :: (B ++ [93]), cols'⟩ (by simp)
  simp only [ha, Int.sub_self, Int.toNat_zero, printRangeElems, Int.lt_irrefl, ↓reduceIte]
  simp only [runText, List.length_append, List.append_assoc, Nat.add_assoc, List.length_cons, List.length_nil]

theorem getLast?_arr (body : List RSeg) : (ASeg.arr body).cells.getLast? = some (ASeg.arr body).plast := by
  simp [ASeg.cells, ASeg.plast, List.getLast?_cons]

theorem arun_cells_length (n : Nat) (h : Cell) (es : List Cell) :
    ((List.replicate n (h :: es)).flatten).length = n * (es.length + 1) := by
  induction n with
  | zero => simp
  | succ k ih => simp only [List.replicate_succ, List.flatten_cons, List.length_append, List.length_cons, ih, Nat.succ_mul]; omega

theorem getLast?_arun (n : Nat) (hn : 1 ≤ n) (body : List RSeg) :
    (ASeg.arun n body).cells.getLast? = some (ASeg.arun n body).plast := by
  obtain ⟨m, rfl⟩ : ∃ m, n = m + 1 := ⟨n - 1, by omega⟩
  have e : (List.replicate (m + 1) (arrHdr body :: cellsAll body)).flatten =
      (List.replicate m (arrHdr body :: cellsAll body)).flatten ++ (arrHdr body :: cellsAll body) := by
    rw [List.replicate_succ']; simp
  simp only [ASeg.cells, ASeg.plast, e]
  rw [List.getLast?_append]
  simp [List.getLast?_cons]

theorem cellsOf_aseg (xs : List ASeg) : cellsOf ASeg.cells xs = cellsAllA xs := by
  induction xs with
  | nil => rfl
  | cons x xs ih => rw [cellsAllA, ← ih]; simp [cellsOf]

/-- a printed text of pieces (Proofs/PrettyLoops.lean) whose last cells are what the printer hands on -/
theorem SepText.asegsText {L : Option Cell} {xs : List ASeg} {body : Bytes}
    (h : SepText ASeg.cells (fun prev x T => ASegText prev x T) L xs body)
    (hl : ∀ x ∈ xs, x.cells.getLast? = some x.plast) : ASegsText L xs body := by
  induction h with
  | nil L => exact .nil L
  | cons L x xs T sep text hT _ h1 h2 ih =>
    refine .cons L x xs T sep text hT ?_ h1 h2
    rw [← hl x (by simp)]
    exact ih (fun y hy => hl y (by simp [hy]))

theorem printsPiece_seg (opt : POpt) (hc : opt.compress = true) {s : RSeg} {rest : List Cell} (hp : s.Printable opt)
    (hconv : convertToRange opt (s.cells ++ rest) (s.cells.length + rest.length) = .ok s.conv) :
    PrintsPiece opt ASeg.cells (fun prev x T => ASegText prev x T) (.seg s) rest := by
  obtain ⟨c, r, hcr⟩ := List.exists_cons_of_ne_nil (List.ne_nil_of_length_pos hp.cells_pos)
  refine ⟨c, s.conv, by simp [ASeg.cells, hcr], hconv, hp.step _, fun prev st _ => ?_⟩
  obtain ⟨T, cols', hprint, hT⟩ := printArgVal_seg opt hc hp ((s.cells ++ rest).length + 1) rest prev st
  exact ⟨st.out, T, cols', by rw [Nat.sub_self]; exact hprint, Or.inl rfl, ASegText.seg _ _ hT⟩

/-- every piece of a segmented list is a piece of the printer's loop, and its last cell is the left
    neighbour the printer is given behind it -/
theorem ASegmented.allPrint (opt : POpt) (hc : opt.compress = true) {xs : List ASeg} (hseg : ASegmented opt xs) :
    AllPrint opt ASeg.cells (fun prev x T => ASegText prev x T) xs ∧ ∀ x ∈ xs, x.cells.getLast? = some x.plast := by
  induction hseg with
  | nil => exact ⟨trivial, fun _ h => by cases h⟩
  | tok c xs hsc hpt hconv hrest ih =>
    refine ⟨⟨printsPiece_seg opt hc (s := .tok c) ⟨hsc, hpt⟩ ?_, ih.1⟩, ?_⟩
    · rw [cellsOf_aseg]; simpa [RSeg.cells, RSeg.conv, Nat.add_comm] using hconv
    · intro x hx
      rcases List.mem_cons.mp hx with rfl | hx
      · simpa [ASeg.cells, ASeg.plast] using RSeg.Printable.getLast? (opt := opt) (s := .tok c) ⟨hsc, hpt⟩ []
      · exact ih.2 x hx
  | crun n c xs hsc hpt hn5 hn2 hconv hrest ih =>
    refine ⟨⟨printsPiece_seg opt hc (s := .crun n c) ⟨hsc, hpt, hn5, hn2⟩ ?_, ih.1⟩, ?_⟩
    · rw [cellsOf_aseg]; simpa [RSeg.cells, RSeg.conv] using hconv
    · intro x hx
      rcases List.mem_cons.mp hx with rfl | hx
      · simpa [ASeg.cells, ASeg.plast] using
          RSeg.Printable.getLast? (opt := opt) (s := .crun n c) ⟨hsc, hpt, hn5, hn2⟩ []
      · exact ih.2 x hx
  | irun a d n xs h hconv hrest ih =>
    refine ⟨⟨printsPiece_seg opt hc (s := .irun a d n) h ?_, ih.1⟩, ?_⟩
    · rw [cellsOf_aseg]; simpa [RSeg.cells, RSeg.conv, arithRun_length] using hconv
    · intro x hx
      rcases List.mem_cons.mp hx with rfl | hx
      · simpa [ASeg.cells, ASeg.plast] using RSeg.Printable.getLast? (opt := opt) (s := .irun a d n) h []
      · exact ih.2 x hx
  | arr body xs hbody hty hconv hrest ih =>
    refine ⟨⟨⟨arrHdr body, none, rfl, ?_,
      nextArgOffset_argCells _ _ (ArgCells.array (lastTyS body 32) (cellsAll body) hbody.scalars), fun prev st hst => ?_⟩,
      ih.1⟩, ?_⟩
    · rw [cellsOf_aseg]; simpa [ASeg.cells, Nat.add_comm, Nat.add_left_comm] using hconv
    · rw [cellsOf_aseg]
      obtain ⟨pre, B, cols', hprint, hpre, hB⟩ := printArgVal_arrSegs opt hc hbody
        ((arrHdr body :: cellsAll body) ++ cellsAllA xs).length (cellsAllA xs) prev st hst
      exact ⟨pre, 91 :: (B ++ [93]), cols', by rw [show (91 :: (B ++ [93])).length = B.length + 2 by simp]; exact hprint,
        hpre.imp id (fun h => ⟨rfl, h⟩), ASegText.arr body B hB hty⟩
    · intro x hx
      rcases List.mem_cons.mp hx with rfl | hx
      · exact getLast?_arr body
      · exact ih.2 x hx
  | arun n body xs hbody hty hn5 hn2 hconv hrest ih =>
    have hclen := arun_cells_length n (arrHdr body) (cellsAll body)
    obtain ⟨m, rfl⟩ : ∃ m, n = m + 1 := ⟨n - 1, by omega⟩
    refine ⟨⟨⟨arrHdr body,
      some ((m + 1) * ((cellsAll body).length + 1), Cell.rep ((m + 1 : Nat) : Int) 0 :: arrHdr body :: cellsAll body),
      by simp [ASeg.cells, List.replicate_succ], ?_, by simp only [ASeg.cells, hclen]; rfl, fun prev st _ => ?_⟩, ih.1⟩, ?_⟩
    · rw [cellsOf_aseg]; simpa only [ASeg.cells, hclen] using hconv
    · rw [cellsOf_aseg]
      have hpos : 0 < ((ASeg.arun (m + 1) body).cells ++ cellsAllA xs).length := by
        simp only [ASeg.cells, List.length_append, hclen, Nat.succ_mul]; omega
      obtain ⟨B, cols', hprint, hB⟩ := printArgVal_arunSegs opt hc hbody (m + 1) (by omega)
        (((ASeg.arun (m + 1) body).cells ++ cellsAllA xs).length - 1) prev st
      rw [show ((ASeg.arun (m + 1) body).cells ++ cellsAllA xs).length - 1 + 4 =
        ((ASeg.arun (m + 1) body).cells ++ cellsAllA xs).length + 3 from by omega] at hprint
      exact ⟨st.out, _, cols', by rw [Nat.sub_self]; exact hprint, Or.inl rfl,
        ASegText.arun (m + 1) body B hB hty (by omega) hn2⟩
    · intro x hx
      rcases List.mem_cons.mp hx with rfl | hx
      · exact getLast?_arun (m + 1) (by omega) body
      · exact ih.2 x hx

/-- **the loop of `rtosc_print_arg_vals` over an argument list of segments and arrays** writes a
    text of the pieces -/
theorem printLoop_asegs (opt : POpt) (hc : opt.compress = true) {xs : List ASeg} (hseg : ASegmented opt xs) :
    ∀ (args done : List Cell), args = done ++ cellsAllA xs →
      ∀ (fuel : Nat) (st : PSt) (wrt : Nat) (lastSep : Int) (awl : Nat), xs.length + 1 ≤ fuel →
        ((st.cols = 0 ∧ awl = 0) ∨ ∃ base, st.out = base ++ [32] ∧ lastSep = (base.length : Int)) →
        ∃ (st' : PSt) (pre body : Bytes),
          printArgValsLoop fuel opt args args.length done.length st wrt lastSep awl =
            .ok (st', wrt + ((pre ++ body).length - st.out.length)) ∧
          st'.out = pre ++ body ∧ ASegsText done.getLast? xs body ∧
          (pre = st.out ∨ ∃ base, st.out = base ++ [32] ∧ pre = base ++ nl4) := by
  intro args done hargs fuel st wrt lastSep awl hf hinv
  obtain ⟨hall, hl⟩ := hseg.allPrint opt hc
  obtain ⟨st', pre, body, hrun, hout, htt, hpre⟩ :=
    printLoop_pieces opt ASeg.cells _ xs hall args done (by rw [cellsOf_aseg]; exact hargs) fuel st wrt lastSep awl hf hinv
  exact ⟨st', pre, body, hrun, hout, htt.asegsText hl, hpre⟩

end Rtosc.Pretty
