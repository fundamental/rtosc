/-
  C10/C11 — tokens of the types 'c' (char literal `'x'` / `'\n'`), 'r' (colour `#rrggbbaa`) and
  'm' (`MIDI [0xaa 0xbb 0xcc 0xdd]`).  Scanner cases `scanChar`, `scanColor`, `scanMidi`,
  checker cases `skipChar`, `skipColor`, `skipMidi`.
-/
import RtoscModel.Proofs.PrettyTok
namespace Rtosc.Pretty
open Rtosc Rtosc.Libc
open Rtosc.ArgVal (Cell)

theorem printArgVal_char (fuel : Nat) (opt : POpt) (v : Int) (more : List Cell) (prev : Option Cell) (st : PSt) :
    printArgVal (fuel + 1) opt (Cell.int .c v :: more) prev st =
      .ok (⟨st.out ++ charText v, st.cols + (charText v).length⟩, (charText v).length) := by
  simp only [printArgVal, deref, bind, Except.bind, pure, Except.pure, charText]
  generalize (if 0 ≤ v ∧ v < 256 then asEscapedChar v.toNat.toUInt8 true else none) = o
  cases o <;> rfl

/-- the two shapes of a char token, as a decidable test -/
def charShape (t : Bytes) (v : Int) : Bool :=
  match t with
  | [39, x, 39] => x ≠ 92 && scharVal x = v
  | [39, 92, e, 39] => scharVal (getEscapedChar e true) = v && (getEscapedChar e true ≠ 0 || e = 48)
  | _ => false

theorem charShape_fin : ∀ n : Fin 127, (n.val = 0 ∨ (7 ≤ n.val ∧ n.val ≤ 13) ∨ 32 ≤ n.val) →
    charShape (charText (n.val : Int)) (n.val : Int) = true := by
  decide +kernel

theorem charShape_ok (v : Int) (h : CharOK v) : charShape (charText v) v = true := by
  have hv : 0 ≤ v ∧ v < 127 := by unfold CharOK at h; omega
  have := charShape_fin ⟨v.toNat, by omega⟩ (by unfold CharOK at h; simp only; omega)
  simp only at this
  rwa [show ((v.toNat : Nat) : Int) = v from by omega] at this

theorem charShape_inv (t : Bytes) (v : Int) (h : charShape t v = true) :
    (∃ x, t = [39, x, 39] ∧ x ≠ 92 ∧ scharVal x = v) ∨
    (∃ e, t = [39, 92, e, 39] ∧ scharVal (getEscapedChar e true) = v ∧ (getEscapedChar e true ≠ 0 ∨ e = 48)) := by
  unfold charShape at h
  split at h
  · left; exact ⟨_, rfl, by simpa using h⟩
  · right; exact ⟨_, rfl, by simpa using h⟩
  · cases h

theorem C11.valOKW_char_plain (x : UInt8) (hx : x ≠ 92) : C11.ValOKW [39, x, 39] (Cell.int .c (scharVal x)) := by
  refine ⟨⟨by simp, by simp only [hd_cons]; decide⟩, rfl, by simp only [hd_cons]; decide,
    fun se rest prev _ => ?_, fun sk rest ty ib _ => ?_, fun rest _ => by simp [isRangeMultiplier, isdigit]⟩
  · rw [scanValue_char _ _ _ rfl]
    simp [scanChar, advance, hx, bind, Except.bind, pure, Except.pure]
  · rw [skipValue_char _ _ _ _ rfl]
    simp [skipChar, hx]; rfl

theorem C11.valOKW_char_esc (e : UInt8) (he : getEscapedChar e true ≠ 0 ∨ e = 48) :
    C11.ValOKW [39, 92, e, 39] (Cell.int .c (scharVal (getEscapedChar e true))) := by
  refine ⟨⟨by simp, by simp only [hd_cons]; decide⟩, rfl, by simp only [hd_cons]; decide,
    fun se rest prev _ => ?_, fun sk rest ty ib _ => ?_, fun rest _ => by simp [isRangeMultiplier, isdigit]⟩
  · rw [scanValue_char _ _ _ rfl]
    simp [scanChar, advance, at?, isspace, bind, Except.bind, pure, Except.pure]
  · rw [skipValue_char _ _ _ _ rfl]
    have : ¬ (getEscapedChar e true = 0 ∧ ¬ e = 48) := fun ⟨h0, h48⟩ => he.elim (fun h => h h0) h48
    simp [skipChar, isspace, this]; rfl

theorem C11.valOKW_charText (v : Int) (h : CharOK v) : C11.ValOKW (charText v) (Cell.int .c v) := by
  rcases charShape_inv _ _ (charShape_ok v h) with ⟨x, ht, hx, hv⟩ | ⟨e, ht, hv, he⟩
  · rw [ht, ← hv]; exact C11.valOKW_char_plain x hx
  · rw [ht, ← hv]; exact C11.valOKW_char_esc e he

/-- 'c': `'x'`, `'\n'`, `'\''`, `'\\'`, `'\0'` … scan back to the same char -/
theorem C11.printsVal_char (opt : POpt) (v : Int) (h : CharOK v) : C11.PrintsVal opt (Cell.int .c v) :=
  .of_eq _ _ (C11.valOKW_charText v h).valOK (printArgVal_char · opt v)

def HexEnd (r : Bytes) : Prop := isxdigit (hd r) = false ∧ hd r ≠ 120 ∧ hd r ≠ 88

theorem sepW_hexEnd (rest : Bytes) (h : SepW rest) : HexEnd rest :=
  have hq := sep_hd_factsW rest h
  ⟨hq.notXdigit, hq.ne120, hq.ne88⟩

theorem scanInt_hex (d : UInt8) (ds rest : Bytes) (hd0 : isxdigit d = true)
    (hds : ∀ c ∈ ds, isxdigit c = true) (hr : HexEnd rest)
    (hsmall : digitsVal 16 (d :: ds) ≤ 18446744073709551615) :
    scanInt .x none (d :: ds ++ rest) = some ((digitsVal 16 (d :: ds) : Int), rest) := by
  have hall : ∀ c ∈ d :: ds, isxdigit c = true := by
    intro c hc; simp at hc; rcases hc with rfl | hc; exact hd0; exact hds c hc
  have := scanInt_x_run (d :: ds) rest (by simp) hall hr.1 (fun _ => tolower_ne_x _ hr.2.1 hr.2.2)
  have hsmall' : ¬ digitsVal 16 (d :: ds) > 18446744073709551615 := by omega
  simpa [intValue, hsmall'] using this

theorem fmtHex2_xdigit (n : Nat) : ∀ c ∈ fmtHex2 n, isxdigit c = true := by
  intro c hc
  simp only [fmtHex2, List.mem_cons, List.not_mem_nil, or_false] at hc
  rcases hc with rfl | rfl <;> exact (hexDigitChar_facts _ (by omega)).1

theorem digitsVal_fmtHex2 (n : Nat) (h : n < 256) : digitsVal 16 (fmtHex2 n) = n := by
  simp only [fmtHex2, digitsVal, List.foldl_cons, List.foldl_nil, (hexDigitChar_facts _ (show n / 16 % 16 < 16 by omega)).2,
    (hexDigitChar_facts _ (show n % 16 < 16 by omega)).2]
  omega

/-- the eight hexadecimal digits of a 32-bit pattern -/
def hex8 (u : Nat) : Bytes :=
  fmtHex2 (u / 16777216 % 256) ++ fmtHex2 (u / 65536 % 256) ++ fmtHex2 (u / 256 % 256) ++ fmtHex2 (u % 256)

theorem hex8_length (u : Nat) : (hex8 u).length = 8 := by simp [hex8, fmtHex2]

theorem hex8_xdigit (u : Nat) : ∀ c ∈ hex8 u, isxdigit c = true := by
  intro c hc
  simp only [hex8, List.mem_append] at hc
  rcases hc with ((hc | hc) | hc) | hc <;> exact fmtHex2_xdigit _ c hc

theorem digitsVal_hex8 (u : Nat) (h : u < 4294967296) : digitsVal 16 (hex8 u) = u := by
  have l2 : ∀ n, (fmtHex2 n).length = 2 := fun n => rfl
  simp only [hex8, digitsVal_append, l2, digitsVal_fmtHex2 _ (show u / 16777216 % 256 < 256 by omega),
    digitsVal_fmtHex2 _ (show u / 65536 % 256 < 256 by omega), digitsVal_fmtHex2 _ (show u / 256 % 256 < 256 by omega),
    digitsVal_fmtHex2 _ (show u % 256 < 256 by omega)]
  omega

theorem printArgVal_color (fuel : Nat) (opt : POpt) (v : Int) (more : List Cell) (prev : Option Cell) (st : PSt) :
    printArgVal (fuel + 1) opt (Cell.int .r v :: more) prev st =
      .ok (⟨st.out ++ 35 :: hex8 (v % 4294967296).toNat, st.cols + (35 :: hex8 (v % 4294967296).toNat).length⟩,
        (35 :: hex8 (v % 4294967296).toNat).length) := by
  simp [printArgVal, deref, bind, Except.bind, pure, Except.pure, hex8]

theorem C11.valOK_color (v : Int) (h1 : -2147483648 ≤ v) (h2 : v ≤ 2147483647) :
    C11.ValOK (35 :: hex8 (v % 4294967296).toNat) (Cell.int .r v) := by
  have hu : (v % 4294967296).toNat < 4294967296 := by omega
  have hv : toI32 ((v % 4294967296).toNat : Int) = v := by unfold toI32; omega
  generalize (v % 4294967296).toNat = u at hu hv
  refine .of_value _ _ 114 rfl rfl (⟨by simp, by simp only [hd_cons]; decide⟩) (by simp only [hd_cons]; decide)
    (fun rest hs se prev => ?_) (fun rest hs sk ty ib => ?_)
  · rw [scanValue_color _ _ _ rfl]
    obtain ⟨d, ds, he⟩ : ∃ d ds, hex8 u = d :: ds := ⟨_, _, rfl⟩
    have hall := hex8_xdigit u
    have hval := digitsVal_hex8 u hu
    have hlen := hex8_length u
    rw [he] at hall hval hlen
    have hsc := scanInt_hex d ds rest (hall d (by simp)) (fun c hc => hall c (by simp [hc])) (sepW_hexEnd rest hs.toW)
      (by rw [hval]; omega)
    rw [hval] at hsc
    have hss : sscanf [.int .x none false] (d :: ds ++ rest) = [.int (u : Int)] := by
      unfold sscanf
      rw [sscanfGo_int_some _ _ _ _ _ _ _ _ _ hsc]
      simp [sscanfGo]
    have hadv : advance (d :: ds ++ rest) 8 = .ok rest := by
      unfold advance
      rw [← hlen]
      simp
    simp only [List.length_cons] at hlen
    simp only [scanColor, he, List.cons_append, List.drop_succ_cons, List.drop_zero]
    simp only [List.cons_append] at hss hadv
    simp [hss, hadv, hv, bind, Except.bind, pure, Except.pure]
  · rw [skipValue_color _ _ _ _ rfl]
    have hall := hex8_xdigit u
    have hlen := hex8_length u
    have htake : ((35 :: hex8 u ++ rest).drop 1).take 8 = hex8 u := by
      simp only [List.cons_append, List.drop_succ_cons, List.drop_zero]
      rw [← hlen]; simp
    have hdrop : (35 :: hex8 u ++ rest).drop 9 = rest := by
      simp only [List.cons_append, List.drop_succ_cons]
      rw [← hlen]; simp
    unfold skipColor
    rw [htake, hdrop]
    simp [hlen, List.all_eq_true]
    exact hall

/-- 'r': `#rrggbbaa` (val.i is an int32, printed as its 32-bit two's complement pattern) -/
theorem C11.printsVal_color (opt : POpt) (v : Int) (h1 : -2147483648 ≤ v) (h2 : v ≤ 2147483647) :
    C11.PrintsVal opt (Cell.int .r v) :=
  .of_eq _ _ (C11.valOK_color v h1 h2) (printArgVal_color · opt v)

theorem lit_midi_open : lit "MIDI [0x" = [77, 73, 68, 73, 32, 91, 48, 120] := by decide
theorem lit_sp0x : lit " 0x" = [32, 48, 120] := by decide

/-- the text the printer writes for a MIDI message -/
def midiText (a b c d : UInt8) : Bytes :=
  [77, 73, 68, 73, 32, 91, 48, 120] ++ fmtHex2 a.toNat ++ [32, 48, 120] ++ fmtHex2 b.toNat ++ [32, 48, 120] ++
    fmtHex2 c.toNat ++ [32, 48, 120] ++ fmtHex2 d.toNat ++ [93]

theorem midiText_length (a b c d : UInt8) : (midiText a b c d).length = 26 := by simp [midiText, fmtHex2]

theorem printArgVal_midi (fuel : Nat) (opt : POpt) (a b c d : UInt8) (more : List Cell) (prev : Option Cell) (st : PSt) :
    printArgVal (fuel + 1) opt (Cell.midi a b c d :: more) prev st =
      .ok (⟨st.out ++ midiText a b c d, st.cols + (midiText a b c d).length⟩, (midiText a b c d).length) := by
  simp [printArgVal, deref, bind, Except.bind, pure, Except.pure, midiText, lit_midi_open, lit_sp0x]

theorem fmtMidi_eq (sup : Bool) : fmtMidi sup =
    [.lit 77, .lit 73, .lit 68, .lit 73, .ws, .lit 91, .ws,
     .lit 48, .lit 120, .int .x none sup, .ws, .lit 48, .lit 120, .int .x none sup, .ws,
     .lit 48, .lit 120, .int .x none sup, .ws, .lit 48, .lit 120, .int .x none sup, .ws, .lit 93, .n] := by
  cases sup <;> decide

/-- `%x` / `%*x` on the two digits `%02x` printed -/
theorem sscanfGo_hex2 (n : Nat) (hn : n < 256) (sup : Bool) (ds : List Dir) (r : Bytes) (k : Nat)
    (acc : List SVal) (hr : HexEnd r) :
    sscanfGo (.int .x none sup :: ds) (fmtHex2 n ++ r) k acc =
      sscanfGo ds r (k + 2) (if sup then acc else .int (n : Int) :: acc) := by
  have hall := fmtHex2_xdigit n
  have hval := digitsVal_fmtHex2 n hn
  have he : fmtHex2 n = [hexDigitChar (n / 16 % 16), hexDigitChar (n % 16)] := rfl
  rw [he] at hall hval ⊢
  have hsc := scanInt_hex (hexDigitChar (n / 16 % 16)) [hexDigitChar (n % 16)] r (hall _ (by simp))
    (fun c hc => hall c (by simp [hc])) hr
    (by rw [hval]; omega)
  rw [hval] at hsc
  rw [sscanfGo_int_some _ _ _ _ _ _ _ _ _ hsc]
  congr 1
  simp only [List.cons_append, List.nil_append, List.length_cons]
  omega

theorem sscanf_midi (sup : Bool) (a b c d : UInt8) (rest : Bytes) :
    sscanf (fmtMidi sup) (midiText a b c d ++ rest) =
      (if sup then [] else [.int (a.toNat : Int), .int (b.toNat : Int), .int (c.toNat : Int), .int (d.toNat : Int)]) ++
        [.pos 26] := by
  have e32 : ∀ r, HexEnd (32 :: r) := fun _ => (by decide : isxdigit 32 = false ∧ (32 : UInt8) ≠ 120 ∧ (32 : UInt8) ≠ 88)
  have e93 : ∀ r, HexEnd (93 :: r) := fun _ => (by decide : isxdigit 93 = false ∧ (93 : UInt8) ≠ 120 ∧ (93 : UInt8) ≠ 88)
  have s91 : isspace 91 = false := by decide
  have s48 : isspace 48 = false := by decide
  have s93 : isspace 93 = false := by decide
  unfold sscanf
  rw [fmtMidi_eq]
  simp only [midiText, List.append_assoc, List.cons_append, List.nil_append]
  rw [sscanfGo_lit_eq, sscanfGo_lit_eq, sscanfGo_lit_eq, sscanfGo_lit_eq, sscanfGo_ws_space1 _ _ _ _ _ s91,
    sscanfGo_lit_eq, sscanfGo_ws_nospace _ _ _ _ _ s48, sscanfGo_lit_eq, sscanfGo_lit_eq,
    sscanfGo_hex2 _ a.toNat_lt _ _ _ _ _ (e32 _),
    sscanfGo_ws_space1 _ _ _ _ _ s48, sscanfGo_lit_eq, sscanfGo_lit_eq,
    sscanfGo_hex2 _ b.toNat_lt _ _ _ _ _ (e32 _),
    sscanfGo_ws_space1 _ _ _ _ _ s48, sscanfGo_lit_eq, sscanfGo_lit_eq,
    sscanfGo_hex2 _ c.toNat_lt _ _ _ _ _ (e32 _),
    sscanfGo_ws_space1 _ _ _ _ _ s48, sscanfGo_lit_eq, sscanfGo_lit_eq,
    sscanfGo_hex2 _ d.toNat_lt _ _ _ _ _ (e93 _),
    sscanfGo_ws_nospace _ _ _ _ _ s93, sscanfGo_lit_eq]
  cases sup <;> simp [sscanfGo]

theorem u8_of_byte (b : UInt8) : ((((b.toNat : Nat) : Int) % 256).toNat).toUInt8 = b := by
  have : (((b.toNat : Nat) : Int) % 256).toNat = b.toNat := by
    have := b.toNat_lt; omega
  rw [this]; simp

/-- the `strncmp` / `isspace` test of the 'M' cases -/
theorem midi_guard (a b c d : UInt8) (rest : Bytes) :
    startsWith (midiText a b c d ++ rest) (lit "MIDI") = true ∧
    (isspace (hd ((midiText a b c d ++ rest).drop 4)) = true ∨ hd ((midiText a b c d ++ rest).drop 4) = 91) := by
  have h32 : isspace 32 = true := by decide
  simp [midiText, lit_MIDI, startsWith, h32]

theorem midi_drop (a b c d : UInt8) (rest : Bytes) : (midiText a b c d ++ rest).drop 26 = rest := by
  rw [← midiText_length a b c d]; simp

theorem C11.valOK_midi (a b c d : UInt8) : C11.ValOK (midiText a b c d) (Cell.midi a b c d) := by
  refine .of_value _ _ 109 rfl rfl (⟨by simp [midiText], by simp only [midiText, List.cons_append, hd_cons]; decide⟩)
    (by simp only [midiText, List.cons_append, hd_cons]; decide)
    (fun rest hs se prev => ?_) (fun rest hs sk ty ib => ?_)
  · rw [scanValue_midi _ _ _ (by simp [midiText])]
    unfold scanMidi
    rw [if_pos (midi_guard a b c d rest), sscanf_midi]
    simp [midi_drop, u8, u8_of_byte, pure, Except.pure]
  · rw [skipValue_midi _ _ _ _ (by simp [midiText])]
    unfold skipMidi skipFmt scanRd
    rw [if_pos (midi_guard a b c d rest), sscanf_midi]
    simp [midi_drop]

/-- 'm': `MIDI [0xaa 0xbb 0xcc 0xdd]` -/
theorem C11.printsVal_midi (opt : POpt) (a b c d : UInt8) : C11.PrintsVal opt (Cell.midi a b c d) :=
  .of_eq _ _ (C11.valOK_midi a b c d) (printArgVal_midi · opt a b c d)

end Rtosc.Pretty
