/-
  C10 — tier 3: a range `x ... z` among other arguments, for the readers.  What scanner and checker
  make of the range depends on the argument in front of it: the scanner looks back into the cells
  it has written (`LookL`, `LookB`), the checker re-reads the text of the previous argument
  (`FindsL`), and both hand what they find to `delta_from_arg_vals` unless it is useless
  (`IntKind.UselessFor`).

  The scanner exists twice in the model (Pretty/Scan.lean, Pretty/C11Model.lean), and every
  answer of C11's copy is the answer of C10's (PrettyScanAgree).  So the scanner's call on a range
  is stated once, for C11's copy (every integer kind; white space in front of the dots, at least one
  character, and behind them; any cells in front; behind the range a text that may follow a token,
  `SepW`), and read off for C10's scanner on the printer's text; the checker alike,
  for C11's ellipsis tail over any skipper.  At the end the list that is one arithmetic run: one or
  two arguments with nothing around them.  In names, `11` marks a statement about C11's copy, and
  `_ellG` / `_runG` the printer's text of a range / of `nxT` with any text behind it.
-/
import RtoscModel.Proofs.PrettyScanAgree
namespace Rtosc.Pretty
open Rtosc Rtosc.Libc
open Rtosc.ArgVal (Cell)

/-- `arg[-3]` is the header of a range with a delta -/
def isDeltaHdr (o : Option Cell) : Bool :=
  match o with
  | some (.rep _ hdl) => decide (hdl ≠ 0)
  | _ => false

theorem isDeltaHdr_scalar (c : Cell) (h : c.isScalar = true) : isDeltaHdr (some c) = false := by
  cases c <;> simp_all [isDeltaHdr, ArgVal.Cell.isScalar]

/-- how the scanner finds the value left of a range (`llhsarg`): `prev` are the cells written so
    far, most recent first, `ab` is `args_before` -/
inductive LookL : List Cell → Nat → Option Cell → Prop
  | zero (prev : List Cell) : LookL prev 0 none
  | head (prev : List Cell) (ab : Nat) (c : Cell) : 0 < ab → prev.head? = some c →
      (decide (ab > 2) && isDeltaHdr (prev.drop 2).head?) = false → LookL prev ab (some c)
  | range (s d num : Int) (more : List Cell) (ab : Nat) (v : Int) : 2 < ab → v = toI32 (s + toI32 ((num - 1) * d)) →
      LookL (Cell.int .i s :: Cell.int .i d :: Cell.rep num 1 :: more) ab (some (Cell.int .i v))

theorem delta_llhs_irrel (ll : Option Cell) (lhs : Cell) (rhs : Option Cell) :
    C11.deltaFromArgVals ll lhs rhs true = C11.deltaFromArgVals none lhs rhs true := by
  unfold C11.deltaFromArgVals
  rfl

theorem delta_llhs_useless (ll : Option Cell) (lhs : Cell) (rhs : Option Cell) (useless : Bool) :
    C11.deltaFromArgVals (if useless then none else ll) lhs rhs useless = C11.deltaFromArgVals ll lhs rhs useless := by
  cases useless
  · rfl
  · exact (delta_llhs_irrel ll lhs rhs).symm

/-- the `match` in C11's `finishArg` is `isDeltaHdr`.  A statement about the matcher the compiler
    generates for that definition: it has to follow any edit of `C11.finishArg`. -/
theorem c11_finishArg_match1 (o : Option Cell) :
    C11.finishArg.match_1 (fun _ => Bool) o (fun _ hdl => decide (hdl ≠ 0)) (fun _ => false) = isDeltaHdr o := by
  unfold isDeltaHdr
  cases o with
  | none => rfl
  | some c => cases c <;> rfl

/-- the text behind the left-hand side of a range: white space `w1`, the dots, white space `w2`,
    the right-hand side `Z` and what follows -/
def rangeRest (w1 w2 Z rest : Bytes) : Bytes := w1 ++ (46 :: 46 :: 46 :: (w2 ++ (Z ++ rest)))

theorem rangeRest_facts (w1 w2 Z rest : Bytes) (hw1 : ∀ c ∈ w1, isspace c = true) (hne : w1 ≠ [])
    (hw2 : ∀ c ∈ w2, isspace c = true) (hZ : TokStart Z) :
    SepW (rangeRest w1 w2 Z rest) ∧ skipSpace (rangeRest w1 w2 Z rest) = 46 :: 46 :: 46 :: (w2 ++ (Z ++ rest)) ∧
    skipSpace (w2 ++ (Z ++ rest)) = Z ++ rest := by
  have h46 : skipSpace (46 :: 46 :: 46 :: (w2 ++ (Z ++ rest))) = 46 :: 46 :: 46 :: (w2 ++ (Z ++ rest)) := by
    simp [skipSpace, show isspace 46 = false from by decide]
  have h1 : skipSpace (rangeRest w1 w2 Z rest) = 46 :: 46 :: 46 :: (w2 ++ (Z ++ rest)) := by
    unfold rangeRest; rw [skipSpace_append _ _ hw1, h46]
  have h2 : skipSpace (w2 ++ (Z ++ rest)) = Z ++ rest := by
    rw [skipSpace_append _ _ hw2]
    exact skipSpace_tokStart _ (hZ.append rest)
  refine ⟨⟨Or.inr (Or.inl ?_), by rw [h1]; simp⟩, h1, h2⟩
  cases w1 with
  | nil => exact absurd rfl hne
  | cons c r => simpa [rangeRest] using hw1 c (by simp)

theorem ellRest_eq (sep Z rest : Bytes) : ellRest sep (Z ++ rest) = rangeRest [32] sep Z rest := by
  simp [ellRest, rangeRest]

theorem IsSepTxt.ws {sep : Bytes} (h : IsSepTxt sep) : ∀ c ∈ sep, isspace c = true := by
  rcases h with rfl | rfl <;> decide

theorem ellRest_append (sep Z rest : Bytes) : ellRest sep Z ++ rest = ellRest sep (Z ++ rest) := by
  simp [ellRest]

/-- `LookL` with any range block in front: the left neighbour is what `rtosc_arg_val_range_arg`
    makes of the block's last index -/
inductive LookB : List Cell → Nat → Option Cell → Prop
  | zero (prev : List Cell) : LookB prev 0 none
  | head (prev : List Cell) (ab : Nat) (c : Cell) : 0 < ab → prev.head? = some c →
      (decide (ab > 2) && isDeltaHdr (prev.drop 2).head?) = false → LookB prev ab (some c)
  | range (s d : Cell) (num hdl : Int) (more : List Cell) (ab : Nat) (c : Cell) : 2 < ab → hdl ≠ 0 →
      C11.rangeArgF [Cell.rep num hdl, d, s] (num - 1) = .ok (some c) →
      LookB (s :: d :: Cell.rep num hdl :: more) ab (some c)

namespace IntKind

theorem _root_.Rtosc.Pretty.rangeArgF_int (hdr : Cell) (d a k : Int) (more : List Cell) :
    C11.rangeArgF (hdr :: Cell.int .i d :: Cell.int .i a :: more) k =
      .ok (some (Cell.int .i (toI32 (a + toI32 (k * d))))) :=
  IntKind.i.rangeArgF_cell hdr d a k more

theorem _root_.Rtosc.Pretty.LookL.toB {prev : List Cell} {ab : Nat} {L : Option Cell} (h : LookL prev ab L) :
    LookB prev ab L := by
  cases h with
  | zero => exact .zero _
  | head _ _ c h1 h2 h3 => exact .head _ _ c h1 h2 h3
  | range s d num more _ v hab hv =>
    exact .range _ _ num 1 more _ _ hab (by decide) (by rw [rangeArgF_int, hv])

/-- is the left neighbour useless for the delta of a range that starts with the value `x` of kind `K`?
    (`llhsarg_is_useless` of scanner and checker) -/
def UselessFor (K : IntKind) (L : Option Cell) (x : Int) (useless : Bool) : Prop :=
  match L with
  | none => useless = true
  | some l => (typesMatch l.type K.ty = false ∧ useless = true) ∨ (∃ p, l = K.cell p ∧ useless = decide (p = x))

theorem Codec.scanArgVal11_noell {K : IntKind} (C : K.Codec) (f : Nat) (v : Int) (h : C.Ok v) (rest : Bytes)
    (hs : SepW rest) (prev : List Cell) (ab : Nat) :
    C11.scanArgVal (f + 1) (C.tok v ++ rest) prev ab false = .ok ((C.tok v).length, [K.cell v]) := by
  rw [C11.scanArgVal_value _ _ (C.scanValue_tok _ v h rest hs prev)]
  unfold C11.finishArg
  simp [pure, Except.pure]

/-- **`rtosc_scan_arg_val` on `x ... z`** (C11's copy) behind any cells, with white space in front of
    the dots (`w1`, not empty) and behind them (`w2`), and in front of a text that may follow a token
    (`SepW`): the range block with the delta `delta_from_arg_vals` computes from the left neighbour
    the look-back finds -/
theorem Codec.scanArgVal11_range {K : IntKind} (C : K.Codec) (f : Nat) (x z : Int) (hx : C.Ok x) (hz : C.Ok z)
    (w1 w2 rest : Bytes) (hw1 : ∀ c ∈ w1, isspace c = true) (hne : w1 ≠ []) (hw2 : ∀ c ∈ w2, isspace c = true)
    (hrest : SepW rest) (prev : List Cell) (ab : Nat) (L : Option Cell) (hL : LookB prev ab L) (useless : Bool)
    (hu : K.UselessFor L x useless) (num : Int) (dl : Cell)
    (hdelta : C11.deltaFromArgVals (if useless then none else L) (K.cell x) (some (K.cell z)) useless = .ok (num, dl)) :
    C11.scanArgVal (f + 2) (C.tok x ++ rangeRest w1 w2 (C.tok z) rest) prev ab true =
      .ok ((C.tok x ++ rangeRest w1 w2 (C.tok z) rest).length - rest.length, [Cell.rep num 1, dl, K.cell x]) := by
  have hZs := C.tokStart_tok z hz
  obtain ⟨hW, hsk1, hsk2⟩ := rangeRest_facts w1 w2 (C.tok z) rest hw1 hne hw2 hZs
  have hrhs := C.scanArgVal11_noell f z hz rest hrest [] 0
  have h93 : hd (C.tok z ++ rest) ≠ 93 := (hZs.append rest).2.2.2.2.2.2.2
  rw [delta_llhs_useless] at hdelta
  rw [C11.scanArgVal_value _ _ (C.scanValue_tok _ x hx _ hW prev)]
  unfold C11.finishArg
  -- up to the look-back: the ellipsis and the right-hand side `z`
  simp only [hsk1, startsWith, List.isPrefixOf, BEq.rfl, Bool.and_self, and_self,
    ↓reduceIte, Bool.not_true, Bool.false_eq_true, deref, bind, Except.bind, List.drop_succ_cons, List.drop_zero,
    hsk2, h93, pure, Except.pure, hrhs, advance, List.length_append, Nat.le_add_right, List.drop_left',
    c11_finishArg_match1, K.type_cell, K.ty_ne_range, K.ty_numeric]
  -- the look-back, and whether the left neighbour is of use
  cases hL with
  | zero =>
    obtain rfl : useless = true := hu
    simp only [gt_iff_lt, Nat.not_lt_zero, decide_false, Bool.false_and, Bool.false_eq_true, ↓reduceIte, Nat.zero_lt_one,
      delta_llhs_irrel, hdelta]
    simp
  | head _ _ c hab hhead hcond =>
    have hab1 : ¬ (ab < 1) := by omega
    rcases hu with ⟨hty, rfl⟩ | ⟨p, rfl, rfl⟩
    · simp only [hcond, hhead, hab1, hty, Bool.false_eq_true, ↓reduceIte, Bool.not_false, hdelta]
      simp
    · simp only [hcond, hhead, hab1, Bool.false_eq_true, ↓reduceIte, K.type_cell, K.typesMatch_ty, Bool.not_true,
        K.cmpCell_cell, ArgVal.cmp3_eq_zero_iff, hdelta]
      simp
  | range s d num' hdl more _ c hab hh hlast =>
    have hab1 : ¬ (ab < 1) := by omega
    have hab2 : ab > 2 := hab
    have hh' : decide (hdl ≠ 0) = true := by simpa using hh
    simp only [List.drop_succ_cons, List.drop_zero, isDeltaHdr, List.head?_cons, hab2, decide_true,
      hh', Bool.and_self, hab1, ↓reduceIte, List.headD_cons, List.getD_cons_succ,
      List.getD_cons_zero, hlast]
    rcases hu with ⟨hty, rfl⟩ | ⟨p, rfl, rfl⟩
    · simp only [hty, Bool.not_false, ↓reduceIte, hdelta]
      simp
    · simp only [K.type_cell, K.typesMatch_ty, Bool.not_true, Bool.false_eq_true, ↓reduceIte, K.cmpCell_cell,
        ArgVal.cmp3_eq_zero_iff, hdelta]
      simp

/-- **`rtosc_scan_arg_val` on `x ... z`** as the printer writes it, followed by more text, behind
    any cells: C10's scanner gives the answer of C11's -/
theorem Codec.scanArgVal_ellG {K : IntKind} (C : K.Codec) (f : Nat) (x z : Int) (hx : C.Ok x) (hz : C.Ok z)
    (sep : Bytes) (hsep : IsSepTxt sep) (rest : Bytes) (hrest : SepW rest)
    (prev : List Cell) (ab : Nat) (L : Option Cell) (hL : LookL prev ab L) (useless : Bool) (hu : K.UselessFor L x useless)
    (num : Int) (dl : Cell)
    (hdelta : C11.deltaFromArgVals (if useless then none else L) (K.cell x) (some (K.cell z)) useless = .ok (num, dl)) :
    scanArgVal (f + 2) (C.tok x ++ ellRest sep (C.tok z ++ rest)) prev ab true =
      .ok ((C.tok x ++ ellRest sep (C.tok z)).length, [Cell.rep num 1, dl, K.cell x]) := by
  have h := C.scanArgVal11_range f x z hx hz [32] sep rest (by decide) (by simp) hsep.ws hrest prev ab L hL.toB useless
    hu num dl hdelta
  have hlen : (C.tok x ++ ellRest sep (C.tok z ++ rest)).length - rest.length =
      (C.tok x ++ ellRest sep (C.tok z)).length := by
    simp only [ellRest, List.length_append, List.length_cons, List.length_nil]; omega
  rw [← ellRest_eq, hlen] at h
  exact (scanArgVal_c11_le _ _ _ _ _).le _ h

theorem scan_run_unit {K : IntKind} {C : K.Codec} {a d : Int} {n : Nat} (h : C.Run a d n) (hu : d = 1 ∨ d = -1) (sep : Bytes)
    (hsep : IsSepTxt sep) :
    scanArgVals (C.runText a d n sep) 3 =
      .ok ((C.runText a d n sep).length, [Cell.rep n 1, K.cell d, K.cell a]) := by
  rw [C.runText_unit a d n sep hu]
  have hstart := (C.tokStart_tok _ h.ok0).append (ellRest sep (C.tok (a + ((n - 1 : Nat) : Int) * d)))
  have hscan := fun f => C.scanArgVal_ellG f a _ h.ok0 h.okz sep hsep [] sep_nil.toW [] 0 none (.zero _) true rfl n (K.cell d)
    (by simpa using delta_run_unit h hu none)
  simp only [List.append_nil] at hscan
  generalize C.tok a ++ ellRest sep (C.tok (a + ((n - 1 : Nat) : Int) * d)) = T at hscan hstart ⊢
  rw [scanArgVals_start (Or.inr hstart) 3]
  have hturn := scanLoopG_turn scanArgVal (T := T) GapOK.nil 3 3 0 true [] 0 (by omega) (by simpa using hscan _)
    (canPrecedeRange_delta _ _) (nextArgOffset_range _ _ _ (K.scalar_cell d))
  simp only [List.append_nil] at hturn
  rw [hturn]
  exact (scanLoopG_done scanArgVal 2 [] 3 true _ _).trans (by simp)

/-- `a b ... z`: the value `a`, and behind it the range from `a + d` -/
theorem scan_run_step {K : IntKind} {C : K.Codec} {a d : Int} {n : Nat} (h : C.Run a d n) (hu : ¬ (d = 1 ∨ d = -1))
    (sep : Bytes) (hsep : IsSepTxt sep) :
    scanArgVals (C.runText a d n sep) 4 =
      .ok ((C.runText a d n sep).length,
        [K.cell a, Cell.rep ((n : Int) - 1) 1, K.cell d, K.cell (a + d)]) := by
  rw [C.runText_step a d n sep hu]
  have hne : a ≠ a + d := by have := h.hd; omega
  have hstart2 := (C.tokStart_tok _ h.ok1).append (ellRest sep (C.tok (a + ((n - 1 : Nat) : Int) * d)))
  have hscan2 := fun f => C.scanArgVal_ellG f (a + d) _ h.ok1 h.okz sep hsep [] sep_nil.toW [K.cell a] 1 (some (K.cell a))
    (.head _ _ _ Nat.one_pos rfl rfl) false (Or.inr ⟨a, rfl, by simp [hne]⟩) ((n : Int) - 1) (K.cell d)
    (by simpa using delta_run_step h)
  simp only [List.append_nil] at hscan2
  generalize C.tok (a + d) ++ ellRest sep (C.tok (a + ((n - 1 : Nat) : Int) * d)) = T2 at hscan2 hstart2 ⊢
  have hg : GapOK [32] T2 := .sepTxt (Or.inl rfl) hstart2
  rw [scanArgVals_start (Or.inr ((C.tokStart_tok _ h.ok0).append _)) 4,
    scanLoopG_turn scanArgVal hg 4 4 0 true [] 0 (by omega) ((C.tokOK a h.ok0).scan _ _ [] 0 hg.sep)
      (canPrecedeRange_scalar (K.cell a) [] (K.scalar_cell a)) (nextArgOffset_scalar _ (K.cell a) [] (K.scalar_cell a))]
  have hturn := scanLoopG_turn scanArgVal (T := T2) GapOK.nil 3 4 1 true [K.cell a] (0 + (C.tok a).length + [32].length)
    (by omega) (by simpa using hscan2 _) (canPrecedeRange_delta _ _) (nextArgOffset_range _ _ _ (K.scalar_cell d))
  simp only [List.append_nil] at hturn
  refine hturn.trans ((scanLoopG_done scanArgVal 2 [] 4 true _ _).trans ?_)
  simp
  omega

end IntKind

/-- the text `rtosc_skip_next_printed_arg` takes for the left neighbour of a range: `ll0` is
    `llhssrc`, `a0` what follows its first value, `tail` the text behind the range's "...".  The
    comparison of lengths is the pointer comparison `after_llhs < ellipsis`. -/
def pickLl1 (ll0 a0 tail : Bytes) : Bytes :=
  if (skipSpace a0).length > (46 :: 46 :: 46 :: tail).length ∧ startsWith (skipSpace a0) [46, 46, 46] = true then
    skipSpace (List.drop 3 (skipSpace a0))
  else if isRangeMultiplier ll0 = true then afterX ll0 else ll0

/-- the skipper `sk` finds the value `c` in the text `ll0` of the previous argument
    (`tail`: the text behind the "..." of the range, `ty`: the type of the range's first value) -/
abbrev FindsL (sk : ArgSkipper) (ty : UInt8) (ib : Bool) (ll0 tail : Bytes) (c : Cell) : Prop :=
  ∃ (ra : SkipRes) (a0 : Bytes) (rl : SkipRes),
    sk ll0 0 none false ib = .ok ra ∧ ra.src = some a0 ∧
    sk (pickLl1 ll0 a0 tail) 0 none false ib = .ok rl ∧ rl.type = c.type ∧
    (typesMatch c.type ty = true → C11.scanOne (pickLl1 ll0 a0 tail) = .ok c)

theorem nomult_of_tokOK {t : Bytes} {c : Cell} (htok : TokOK t c) (rest : Bytes) (hS : Sep rest) :
    isRangeMultiplier (t ++ rest) = false := by
  obtain ⟨r, hr, hsrc, _⟩ := htok.skip rest 0 0 none false hS
  cases h : isRangeMultiplier (t ++ rest) with
  | false => rfl
  | true =>
    exfalso
    have hd0 : isdigit (hd (t ++ rest)) = true := by
      simp only [isRangeMultiplier, Bool.and_eq_true] at h
      exact h.1.1
    obtain ⟨sw, src, hv, _⟩ := skipNext_ok_value hr (by rw [hsrc]; exact Option.some_ne_none _)
    rw [skipValue_mult _ _ _ _ hd0 h] at hv
    simp [skipMultiplier, skipNextPrintedArg, bind, Except.bind] at hv

/-- a token in front of the range; `hone`: scanned on its own it is the value `c` -/
theorem TokOK.findsL {t : Bytes} {c : Cell} (htok : TokOK t c) (hsc : c.isScalar = true) (ty : UInt8) (sp cur tail : Bytes)
    (hsp : IsSepTxt sp) (hcur : TokStart cur) (f : Nat) (ib : Bool)
    (hone : typesMatch c.type ty = true → C11.scanOne (t ++ (sp ++ cur)) = .ok c) :
    FindsL (skipNextPrintedArg (f + 1)) ty ib (t ++ (sp ++ cur)) tail c := by
  have hS := sep_of_next sp cur hsp hcur
  have hpick : pickLl1 (t ++ (sp ++ cur)) (sp ++ cur) tail = t ++ (sp ++ cur) := by
    unfold pickLl1
    rw [skipSpace_sep sp cur hsp hcur, startsWith_ell_of_tokStart cur hcur, nomult_of_tokOK htok _ hS]
    simp
  have hsk := htok.skip_noell hsc (sp ++ cur) f 0 none ib hS
  exact ⟨_, sp ++ cur, _, hsk, rfl, by rw [hpick]; exact hsk, rfl, fun h => by rw [hpick]; exact hone h⟩

namespace IntKind

theorem Codec.scanOne11_tok {K : IntKind} (C : K.Codec) (v : Int) (h : C.Ok v) (rest : Bytes) (hs : SepW rest) :
    C11.scanOne (C.tok v ++ rest) = .ok (K.cell v) := by
  unfold C11.scanOne
  simp only [C.scanArgVal11_noell _ v h rest hs, bind, Except.bind]
  cases K <;> rfl

theorem Codec.findsL_tok {K : IntKind} (C : K.Codec) (p : Int) (hp : C.Ok p) (sp cur tail : Bytes) (hsp : IsSepTxt sp)
    (hcur : TokStart cur) (f : Nat) (ib : Bool) :
    FindsL (skipNextPrintedArg (f + 1)) K.ty ib (C.tok p ++ (sp ++ cur)) tail (K.cell p) :=
  (C.tokOK p hp).findsL (K.scalar_cell p) K.ty sp cur tail hsp hcur f ib
    fun _ => C.scanOne11_tok p hp _ (sep_of_next sp cur hsp hcur).toW

/-- **the ellipsis tail of `rtosc_skip_next_printed_arg` on `x ... z`** (C11's copy) for any skipper
    of the arguments around it, white space in front of the dots (`w1`, not empty) and behind them, a
    text behind the range that may follow a token (`SepW`), any previous argument: three cells,
    provided `delta_from_arg_vals` succeeds with a count other than -1 (at `num == -1` the checker fails).  `ll`, `u`: what the checker hands to it — nothing and
    "useless" if there is no previous argument or its type does not match, else the value it scans
    there and whether that is the range's first value.  The skipper's arguments 120 and 0 are the
    `*type` the C call sites start from (`rhstype[2] = "x"`, `llhstype = 0`). -/
theorem Codec.ellipsisTail11_range {K : IntKind} (C : K.Codec) (sk : ArgSkipper) (x z : Int) (hx : C.Ok x) (hz : C.Ok z)
    (w1 w2 rest : Bytes) (hw1 : ∀ c ∈ w1, isspace c = true) (hne : w1 ≠ []) (hw2 : ∀ c ∈ w2, isspace c = true)
    (hrest : SepW rest) (ib : Bool) (llhs : Option Bytes) (ll : Option Cell) (u : Bool)
    (hrsk : sk (C.tok z ++ rest) 120 none false ib = .ok ⟨some rest, 1, K.ty⟩)
    (hll : (llhs = none ∧ u = true) ∨
      ∃ ll0 ra a0 rl, llhs = some ll0 ∧ sk ll0 0 none false ib = .ok ra ∧ ra.src = some a0 ∧
        sk (pickLl1 ll0 a0 (w2 ++ (C.tok z ++ rest))) 0 none false ib = .ok rl ∧
        ((typesMatch rl.type K.ty = false ∧ u = true) ∨
         (typesMatch rl.type K.ty = true ∧ ∃ p, C11.scanOne (pickLl1 ll0 a0 (w2 ++ (C.tok z ++ rest))) = .ok (K.cell p) ∧
            ll = some (K.cell p) ∧ u = decide (p = x))))
    (num : Int) (dl : Cell)
    (hdelta : C11.deltaFromArgVals ll (K.cell x) (some (K.cell z)) u = .ok (num, dl)) (hnum : num ≠ -1) :
    C11.ellipsisTail sk (C.tok x ++ rangeRest w1 w2 (C.tok z) rest) ⟨some (rangeRest w1 w2 (C.tok z) rest), 1, K.ty, 0⟩
      (46 :: 46 :: 46 :: (w2 ++ (C.tok z ++ rest))) llhs ib = .ok ⟨some rest, 3, 45⟩ := by
  have hZs := C.tokStart_tok z hz
  obtain ⟨hW, hsk1, hsk2⟩ := rangeRest_facts w1 w2 (C.tok z) rest hw1 hne hw2 hZs
  have h93 : hd (C.tok z ++ rest) ≠ 93 := (hZs.append rest).2.2.2.2.2.2.2
  have hrsc := C.scanOne11_tok z hz rest hrest
  have hlsc := C.scanOne11_tok x hx _ hW
  have hnm := C.nomult_tok x hx _ hW
  unfold C11.ellipsisTail
  rcases hll with ⟨rfl, rfl⟩ | ⟨ll0, ra, a0, rl, rfl, h1, h2, h3, hnb⟩
  · rw [delta_llhs_irrel] at hdelta
    simp only [List.drop_succ_cons, List.drop_zero, hsk2, hnm, Bool.false_eq_true, ↓reduceIte, ne_eq,
      not_true_eq_false, K.ty_numeric, or_true, h93, C11.orUndef,
      Bool.not_true, hrsk, hrsc, hlsc, hdelta, hnum, bind, Except.bind, pure, Except.pure, true_or, and_true,
      decide_true]
    rfl
  · have hpick : (if (skipSpace a0).length > (46 :: 46 :: 46 :: (w2 ++ (C.tok z ++ rest))).length ∧
          startsWith (skipSpace a0) [46, 46, 46] = true then skipSpace (List.drop 3 (skipSpace a0))
        else if isRangeMultiplier ll0 = true then afterX ll0 else ll0) = pickLl1 ll0 a0 (w2 ++ (C.tok z ++ rest)) := rfl
    rcases hnb with ⟨hty, rfl⟩ | ⟨hty, p, hsc1, rfl, rfl⟩
    · rw [delta_llhs_irrel] at hdelta
      simp only [List.drop_succ_cons, List.drop_zero, hsk2, hnm, Bool.false_eq_true, ↓reduceIte, ne_eq,
        not_true_eq_false, K.ty_numeric, or_true, h93, C11.orUndef,
        Bool.not_true, hrsk, hrsc, hlsc, bind, Except.bind, pure, Except.pure,
        decide_true, h1, h2, Option.map_some, hpick, h3, hty, and_false, hdelta, hnum, true_or, and_true]
      rfl
    · by_cases hpx : p = x
      · subst hpx
        simp only [decide_true] at hdelta
        rw [delta_llhs_irrel] at hdelta
        simp only [List.drop_succ_cons, List.drop_zero, hsk2, hnm, Bool.false_eq_true, ↓reduceIte, ne_eq,
          not_true_eq_false, K.ty_numeric, or_true, h93, C11.orUndef,
          Bool.not_true, hrsk, hrsc, hlsc, bind, Except.bind, pure, Except.pure,
          decide_true, h1, h2, Option.map_some, hpick, h3, hty,
          and_self, hsc1, K.cmpCell_cell, ArgVal.cmp3_eq_zero_iff, delta_llhs_irrel, hdelta, hnum, true_or, and_true]
        rfl
      · have hc0 := cmp3_ne p x hpx
        simp only [hpx, decide_false] at hdelta
        simp only [List.drop_succ_cons, List.drop_zero, hsk2, hnm, Bool.false_eq_true, ↓reduceIte, ne_eq,
          not_true_eq_false, K.ty_numeric, or_true, h93, C11.orUndef,
          Bool.not_true, hrsk, hrsc, hlsc, bind, Except.bind, pure, Except.pure,
          decide_true, h1, h2, Option.map_some, hpick, h3, hty,
          and_self, hsc1, K.cmpCell_cell, hc0, hdelta, hnum, or_self]
        rfl

/-- **`rtosc_skip_next_printed_arg` on `x ... z`** as the printer writes it, followed by more text,
    with any previous argument in which the skipper finds the value `L` (`FindsL`): C10's ellipsis
    tail gives the answer of C11's -/
theorem Codec.skipNext_ellG {K : IntKind} (C : K.Codec) (f : Nat) (x z : Int) (hx : C.Ok x) (hz : C.Ok z)
    (sep : Bytes) (hsep : IsSepTxt sep) (rest : Bytes) (hrest : SepW rest)
    (ty : UInt8) (ib : Bool) (llhs : Option Bytes) (L : Option Cell)
    (hll : (llhs = none ∧ L = none) ∨
      ∃ ll0 c, llhs = some ll0 ∧ L = some c ∧
        FindsL (skipNextPrintedArg (f + 2)) K.ty ib ll0 (sep ++ (C.tok z ++ rest)) c)
    (useless : Bool) (hu : K.UselessFor L x useless) (num : Int) (dl : Cell)
    (hdelta : C11.deltaFromArgVals (if useless then none else L) (K.cell x) (some (K.cell z)) useless = .ok (num, dl))
    (hnum : num ≠ -1) :
    skipNextPrintedArg (f + 3) (C.tok x ++ ellRest sep (C.tok z ++ rest)) ty llhs true ib = .ok ⟨some rest, 3, 45⟩ := by
  obtain ⟨hW, hsk1, _⟩ := rangeRest_facts [32] sep (C.tok z) rest (by decide) (by simp) hsep.ws (C.tokStart_tok z hz)
  rw [ellRest_eq]
  rw [skipNext_value llhs true (C.skipValue_tok _ x hx _ hW ty ib) rfl]
  simp only [hsk1, startsWith, List.isPrefixOf, BEq.rfl, Bool.and_self, and_self, ↓reduceIte]
  rw [delta_llhs_useless] at hdelta
  refine (ellipsisTail_c11_le _ _ _ _ _ _ (C.nomult_tok x hx _ hW)).le _
    (C.ellipsisTail11_range _ x z hx hz [32] sep rest (by decide) (by simp) hsep.ws hrest ib llhs
      L useless (C.skipNext_noell (f + 1) z hz rest hrest 120 none ib) ?_ num dl hdelta hnum)
  -- the cell `L` in the terms of what the skipper and C11's `scanOne` return
  rcases hll with ⟨rfl, rfl⟩ | ⟨ll0, c, rfl, rfl, ra, a0, rl, h1, h2, h3, h4, h5⟩
  · exact Or.inl ⟨rfl, hu⟩
  · refine Or.inr ⟨ll0, ra, a0, rl, rfl, h1, h2, h3, ?_⟩
    rcases hu with ⟨hty, rfl⟩ | ⟨p, rfl, rfl⟩
    · exact Or.inl ⟨by rw [h4]; exact hty, rfl⟩
    · have hty : typesMatch (K.cell p).type K.ty = true := by rw [K.type_cell]; exact K.typesMatch_ty
      exact Or.inr ⟨by rw [h4]; exact hty, p, h5 hty, rfl, rfl⟩

theorem count_run_unit {K : IntKind} {C : K.Codec} {a d : Int} {n : Nat} (h : C.Run a d n) (hu : d = 1 ∨ d = -1) (sep : Bytes)
    (hsep : IsSepTxt sep) :
    countPrintedArgVals (C.runText a d n sep) = .ok 3 := by
  rw [C.runText_unit a d n sep hu]
  have hstart := (C.tokStart_tok _ h.ok0).append (ellRest sep (C.tok (a + ((n - 1 : Nat) : Int) * d)))
  have hskip := C.skipNext_ellG 0 a _ h.ok0 h.okz sep hsep [] sep_nil.toW 0 false none none (Or.inl ⟨rfl, rfl⟩) true rfl n
    (K.cell d) (delta_run_unit h hu none) (by omega)
  simp only [List.append_nil] at hskip
  generalize C.tok a ++ ellRest sep (C.tok (a + ((n - 1 : Nat) : Int) * d)) = T at hskip hstart ⊢
  have hpos : 0 < T.length := List.length_pos_iff.mpr hstart.1
  have hturn := countLoopG_turn skipNextPrintedArg (T := T) hstart GapOK.nil T.length none 0 3
    ⟨_, skipNextPrintedArg_fuel_mono 3 _ (by rw [checkFuel_none]; simp; omega) _ _ _ _ _ _ (by simpa using hskip), rfl, rfl⟩
  simp only [List.append_nil] at hturn
  rw [countPrintedArgVals_start (skipSpace_tokStart _ hstart) (Or.inr hstart), hturn]
  obtain ⟨m, hm⟩ : ∃ m, T.length = m + 1 := ⟨T.length - 1, by omega⟩
  rw [hm]
  exact countLoopG_stop _ m (Or.inl rfl) _ _

theorem count_run_step {K : IntKind} {C : K.Codec} {a d : Int} {n : Nat} (h : C.Run a d n) (hu : ¬ (d = 1 ∨ d = -1))
    (sep : Bytes) (hsep : IsSepTxt sep) :
    countPrintedArgVals (C.runText a d n sep) = .ok 4 := by
  have hn := h.hn
  rw [C.runText_step a d n sep hu]
  have hne : a ≠ a + d := by have := h.hd; omega
  have hstart2 := (C.tokStart_tok _ h.ok1).append (ellRest sep (C.tok (a + ((n - 1 : Nat) : Int) * d)))
  have hfind := C.findsL_tok a h.ok0 [32] _ (sep ++ (C.tok (a + ((n - 1 : Nat) : Int) * d) ++ [])) (Or.inl rfl) hstart2 1
    false
  have hskip2 := C.skipNext_ellG 0 (a + d) (a + ((n - 1 : Nat) : Int) * d) h.ok1 h.okz sep hsep [] sep_nil.toW 0 false
    (some (C.tok a ++ ([32] ++ (C.tok (a + d) ++ ellRest sep (C.tok (a + ((n - 1 : Nat) : Int) * d))))))
    (some (K.cell a)) (Or.inr ⟨_, _, rfl, rfl, hfind⟩)
    false (Or.inr ⟨a, rfl, by simp [hne]⟩) ((n : Int) - 1) (K.cell d) (by simpa using delta_run_step h) (by omega)
  rw [List.append_nil] at hskip2
  generalize C.tok (a + d) ++ ellRest sep (C.tok (a + ((n - 1 : Nat) : Int) * d)) = T2 at hskip2 hstart2 ⊢
  have hg : GapOK [32] T2 := .sepTxt (Or.inl rfl) hstart2
  have hstart := (C.tokStart_tok _ h.ok0).append ([32] ++ T2)
  have hpos2 : 0 < T2.length := List.length_pos_iff.mpr hstart2.1
  obtain ⟨r, hr, hsrc, hsk, _⟩ := (C.tokOK a h.ok0).skip ([32] ++ T2) ((C.tok a ++ ([32] ++ T2)).length + 1) 0
    none false hg.sep
  obtain ⟨k, hk⟩ : ∃ k, (C.tok a ++ ([32] ++ T2)).length + 1 = k + 1 + 1 + 1 :=
    ⟨(C.tok a).length + T2.length - 1, by simp; omega⟩
  have hturn2 := countLoopG_turn skipNextPrintedArg (T := T2) hstart2 GapOK.nil (k + 1)
    (some (C.tok a ++ ([32] ++ T2))) (0 + 1) 3
    ⟨_, skipNextPrintedArg_fuel_mono 3 _ (by have := le_checkFuel (T2 ++ ([] ++ [])) (some (C.tok a ++ ([32] ++ T2))); simp at this ⊢; omega)
      _ _ _ _ _ _ (by simpa using hskip2), rfl, rfl⟩
  simp only [List.append_nil] at hturn2
  rw [countPrintedArgVals_start (skipSpace_tokStart _ hstart) (Or.inr hstart), hk,
    countLoopG_turn skipNextPrintedArg (C.tokStart_tok _ h.ok0) hg _ none 0 1 ⟨r, skipNextPrintedArg_checkFuel hr, hsrc, hsk⟩,
    hturn2]
  exact countLoopG_stop _ k (Or.inl rfl) _ _

/-- One arithmetic run of `n ≥ 5` values is printed as `a ... z` (step ±1) or `a b ... z`; the
    checker counts the cells of the range block, the scanner returns the block. -/
theorem run_roundtrip {K : IntKind} {C : K.Codec} (opt : POpt) (hc : opt.compress = true) {a d : Int} {n : Nat}
    (h : C.Run a d n) :
    ∃ (st : PSt) (ret : Nat) (cells : List Cell),
      printArgVals opt (K.run a d n) ⟨[], 0⟩ = .ok (st, ret) ∧ ret = st.out.length ∧
      countPrintedArgVals st.out = .ok (cells.length : Int) ∧
      scanArgVals st.out cells.length = .ok (st.out.length, cells) ∧
      cells = (if d = 1 ∨ d = -1 then [Cell.rep n 1, K.cell d, K.cell a]
               else [K.cell a, Cell.rep ((n : Int) - 1) 1, K.cell d, K.cell (a + d)]) := by
  obtain ⟨sep, cols', hsep, hpr⟩ := printArgVals_run opt hc h
  by_cases hu : d = 1 ∨ d = -1
  · exact ⟨_, _, [Cell.rep n 1, K.cell d, K.cell a], hpr, rfl,
      count_run_unit h hu sep hsep, scan_run_unit h hu sep hsep, by simp [hu]⟩
  · exact ⟨_, _, [K.cell a, Cell.rep ((n : Int) - 1) 1, K.cell d, K.cell (a + d)], hpr, rfl,
      count_run_step h hu sep hsep, scan_run_step h hu sep hsep, by simp [hu]⟩

end IntKind

end Rtosc.Pretty
