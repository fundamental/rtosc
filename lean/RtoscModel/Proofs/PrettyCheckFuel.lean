/-
  C10 / C12: the nesting bound (first argument) of `skipNextPrintedArg` is monotone: a result
  obtained with a bound `f` is obtained with every bound `g ≥ f`.  `countLoop` hands
  `checkFuel src recent` to the skipper; lemmas that know a skip fact at a smaller bound lift it
  with `skipNextPrintedArg_fuel_mono`.

  The skipper's pieces take "the skipper itself" as a parameter `sk`; `RLe` (`y` answers whatever
  `x` answers) is kept by `>>=` and `if`, so the proofs follow the shape of the definitions and
  name the places where `sk` is called.
-/
import RtoscModel.Pretty.Check
namespace Rtosc.Pretty
open Rtosc Rtosc.Libc

/-- `y` answers whatever `x` answers (and may answer where `x` fails) -/
structure RLe {α : Type} (x y : Res α) : Prop where
  le : ∀ r, x = .ok r → y = .ok r

theorem RLe.refl {α : Type} (x : Res α) : RLe x x := ⟨fun _ h => h⟩

theorem RLe.bind {α β : Type} {x x' : Res α} {k k' : α → Res β} (hx : RLe x x')
    (hk : ∀ a, RLe (k a) (k' a)) : RLe (x >>= k) (x' >>= k') := by
  constructor
  intro r hr
  cases x with
  | error e => cases hr
  | ok a => rw [hx.le a rfl]; exact (hk a).le r hr

theorem RLe.ite {α : Type} {c : Prop} [Decidable c] {a a' b b' : Res α}
    (h1 : c → RLe a a') (h2 : ¬c → RLe b b') : RLe (if c then a else b) (if c then a' else b') := by
  by_cases hc : c
  · rw [if_pos hc, if_pos hc]; exact h1 hc
  · rw [if_neg hc, if_neg hc]; exact h2 hc

theorem RLe.error {α : Type} (e : Err) (y : Res α) : RLe (.error e) y := ⟨fun _ h => by cases h⟩

def SkLe (sk sk' : ArgSkipper) : Prop :=
  ∀ a b c d e, RLe (sk a b c d e) (sk' a b c d e)

theorem skipArrayElems_skLe {sk sk' : ArgSkipper} (h : SkLe sk sk') :
    ∀ n s rc at' k, RLe (skipArrayElems sk n s rc at' k) (skipArrayElems sk' n s rc at' k)
  | 0, _, _, _, _ => .refl _
  | _ + 1, none, _, _, _ => .refl _
  | n + 1, some src, rc, a, k => by
    unfold skipArrayElems
    refine .ite (fun _ => .bind (h ..) fun r => ?_) fun _ => .refl _
    extract_lets src1
    generalize (if a = 0 then (r.type, src1) else if (!arraytypesMatch a r.type) = true then (a, none) else (a, src1)) = p
    obtain ⟨t, _ | s2⟩ := p
    · exact skipArrayElems_skLe h n ..
    · exact .ite (fun _ => .bind (.refl _) fun _ => skipArrayElems_skLe h n ..) fun _ => skipArrayElems_skLe h n ..

theorem skipArray_skLe {sk sk' : ArgSkipper} (h : SkLe sk sk') (src : Bytes) :
    RLe (skipArray sk src) (skipArray sk' src) :=
  .bind (skipArrayElems_skLe h ..) fun _ => .refl _

theorem skipMultiplier_skLe {sk sk' : ArgSkipper} (h : SkLe sk sk') (src : Bytes) (t : UInt8) (ib : Bool) :
    RLe (skipMultiplier sk src t ib) (skipMultiplier sk' src t ib) :=
  .bind (h ..) fun _ => .refl _

/-- only the cases `[` and `nx…` of the `switch` call the skipper -/
theorem skipValue_skLe {sk sk' : ArgSkipper} (h : SkLe sk sk') (src : Bytes) (t : UInt8) (ib : Bool) :
    RLe (skipValue sk src t ib) (skipValue sk' src t ib) :=
  .ite (fun _ => .refl _) fun _ => .ite (fun _ => .refl _) fun _ => .ite (fun _ => .refl _) fun _ =>
  .ite (fun _ => .refl _) fun _ => .ite (fun _ => .refl _) fun _ =>
  .ite (fun _ => .bind (skipArray_skLe h src) fun _ => .refl _) fun _ => .ite (fun _ => .refl _) fun _ =>
  .ite (fun _ => .bind (skipMultiplier_skLe h src t ib) fun _ => .refl _) fun _ => .refl _

theorem ellipsisTail_skLe {sk sk' : ArgSkipper} (h : SkLe sk sk') (oldSrc : Bytes) (sw : SwRes) (src2 : Bytes)
    (ll : Option Bytes) (ib : Bool) :
    RLe (ellipsisTail sk oldSrc sw src2 ll ib) (ellipsisTail sk' oldSrc sw src2 ll ib) := by
  unfold ellipsisTail
  -- `J`, `J'`: what the `do` block does with the right-hand side `rhsInfo`, for `sk` and for `sk'`
  extract_lets skipped ellipsis rhssrc lhssrc lhstype numericRange fail J J'
  have hJ : ∀ x, RLe (J x) (J' x) := by
    rintro (_ | ⟨endsrc, rhstype, rhsarg, infinite⟩)
    · exact .refl _
    · refine .ite (fun _ => .refl _) fun _ => ?_
      -- `K`, `K'`: what it does with the left-hand side; the skipper is called on the argument `ll` in front
      extract_lets _ K K'
      have hK : ∀ x, RLe (K x) (K' x) := by
        intro lhsarg
        cases ll with
        | none => exact .refl _
        | some ll0 => exact .bind (h ..) fun ra => .bind (h ..) fun rl => .refl _
      exact .ite (fun _ => .bind (.refl _) hK) fun _ => .bind (.refl _) hK
  clear_value J J'
  refine .ite (fun _ => .bind (.refl _) hJ) fun _ => .ite (fun _ => .bind (.refl _) hJ) fun _ =>
    .bind (h ..) fun r => ?_
  cases r.src with
  | none => exact .bind (.refl _) hJ
  | some endsrc => exact .bind (.refl _) fun rc => .bind (.refl _) hJ

theorem skipNextPrintedArg_skLe : ∀ f g, f ≤ g → SkLe (skipNextPrintedArg f) (skipNextPrintedArg g)
  | 0, _, _ => fun _ _ _ _ _ => ⟨fun _ hr => by simp [skipNextPrintedArg] at hr⟩
  | f + 1, g, hg => by
    obtain ⟨g', rfl⟩ : ∃ g', g = g' + 1 := ⟨g - 1, by omega⟩
    have ih := skipNextPrintedArg_skLe f g' (by omega)
    intro src ty ll fe ib
    unfold skipNextPrintedArg
    refine .bind (skipValue_skLe ih ..) fun v => ?_
    rcases v with _ | ⟨_ | s, _, _, _⟩
    · exact .refl _
    · exact .refl _
    · exact .ite (fun _ => ellipsisTail_skLe ih ..) fun _ => .refl _

/-- the nesting bound of `skipNextPrintedArg` only ever turns an answer into `Err.fuel`: an answer
    obtained with the bound `f` is obtained with every larger bound -/
theorem skipNextPrintedArg_fuel_mono : ∀ (f g : Nat), f ≤ g → ∀ src ty ll fe ib r,
    skipNextPrintedArg f src ty ll fe ib = .ok r → skipNextPrintedArg g src ty ll fe ib = .ok r :=
  fun f g h src ty ll fe ib => (skipNextPrintedArg_skLe f g h src ty ll fe ib).le

theorem le_checkFuel_sub (src : Bytes) (recent : Option Bytes) : src.length ≤ checkFuel src recent - 2 := by
  unfold checkFuel; omega

theorem le_checkFuel (src : Bytes) (recent : Option Bytes) : src.length + 2 ≤ checkFuel src recent := by
  unfold checkFuel; omega

theorem checkFuel_none (src : Bytes) : checkFuel src none = src.length + 2 := by
  simp only [checkFuel]; omega

/-- a skip fact at the bound `src.length + 2` (enough when there is no previous argument to re-skip:
    `checkFuel_none`) lifted to the bound `countLoop` uses -/
theorem skipNextPrintedArg_checkFuel {src : Bytes} {recent : Option Bytes} {ty : UInt8} {fe ib : Bool}
    {r : SkipRes} (h : skipNextPrintedArg (src.length + 2) src ty recent fe ib = .ok r) :
    skipNextPrintedArg (checkFuel src recent) src ty recent fe ib = .ok r :=
  skipNextPrintedArg_fuel_mono _ _ (le_checkFuel src recent) _ _ _ _ _ _ h

end Rtosc.Pretty
