/-
  C09 helper lemmas: the dispatch model of the correspondence driver (`dispatchSim`,
  Walk/Dispatch.lean) on the address of a reported pair.  `rtosc_match` on a name of the documented
  form and the rest of a message is C05's `greedy` + `typesCode`; on a well-formed tree whose
  leaves are named, `dispList` is `simList`, the same recursion written with these (total: no read
  leaves the message); for a pair of `enumerate`, `simList` contains the reported port when the type
  string is admitted along the path, and — rows pairwise apart — nothing else.
-/
import RtoscModel.Proofs.WalkDispatch
import RtoscModel.Walk.PropsSpec
namespace Rtosc.Walk
open Rtosc Rtosc.Path Rtosc.Match

/-- `Match.full_suffix` (Proofs/MatchExtLeft.lean) with the tail of the message written as `tailOf`.  It stands
    in front of `matchW`, whose `match`es are elaborated with the matchers of this statement
    (`full_suffix.match_1`, `full_suffix.match_3`). -/
theorem full_suffix {p : Pat} (hwf : p.WF0) {a tags : Bytes} (k : Nat) (rest : Bytes)
    (ha : NulFree a) (hb : IdxBounded a) (ht : NulFree tags)
    (hne : ∀ t, greedy p.segs p.sub a = some t → p.types = none ∨ a ≠ [] ∨ 1 ≤ k) :
    full p.cstr (a ++ 0 :: tailOf k tags rest) =
      match greedy p.segs p.sub a with
      | none => some (false, none)
      | some t => some (match p.types with
                        | none => true
                        | some ts => typesCode ts tags, some (t ++ 0 :: tailOf k tags rest)) :=
  Match.full_suffix hwf k rest ha hb ht hne

/-- what `rtosc_match` computes for a port name: the rest of the address behind `*path_end`
    if the message matches -/
def matchW (w : WName) (a tags : Bytes) : Option Bytes :=
  match greedy w.toPat.segs w.slash a with
  | none => none
  | some t =>
    match w.types with
    | none => some t
    | some ts => if typesCode ts tags then some t else none

mutual
def simList (path : List Nat) : List STree → Nat → Bytes → Bytes → List (List Nat)
  | [], _, _, _ => []
  | t :: r, i, a, tags => simTree path i t a tags ++ simList path r (i + 1) a tags
def simTree (path : List Nat) (i : Nat) : STree → Bytes → Bytes → List (List Nat)
  | .leaf w _, a, tags => if (matchW w a tags).isSome then [path ++ [i]] else []
  | .sub w _ kids, a, tags =>
    match matchW w a tags with
    | none => []
    | some t => simList (path ++ [i]) kids 0 t tags
end

theorem snip_skip (n : Nat) (c : UInt8) (m : Bytes) (h0 : c ≠ 0) (h47 : c ≠ 47) :
    snip (n + 1) (c :: m) = snip (n + 1) m := by
  have : (c != 0 && c != 47) = true := by simp [h0, h47]
  simp only [snip, List.dropWhile_cons, this, ↓reduceIte]

theorem snip_slash (n : Nat) (m : Bytes) : snip (n + 1) (47 :: m) = snip n m := by
  simp [snip]

theorem snip_count : ∀ (s : Bytes) (n : Nat) (x : Bytes), NulFree s → (s.filter (· == 47)).length = n →
    snip (n + 1) (s ++ 47 :: x) = x := by
  intro s
  induction s with
  | nil =>
    intro n x _ hn
    simp at hn
    subst hn
    simp [snip]
  | cons c r ih =>
    intro n x hs hn
    by_cases hc : c = 47
    · subst hc
      simp only [List.filter_cons, beq_self_eq_true, ↓reduceIte, List.length_cons] at hn
      obtain ⟨m, rfl⟩ : ∃ m, n = m + 1 := ⟨n - 1, by omega⟩
      rw [List.cons_append, snip_slash]
      exact ih m x hs.tail (by omega)
    · have hb : (c == 47) = false := by simp [hc]
      simp only [List.filter_cons, hb, Bool.false_eq_true, ↓reduceIte] at hn
      rw [List.cons_append, snip_skip n c _ hs.head hc]
      exact ih n x hs.tail hn

def slashes (s : Bytes) : Nat := (s.filter (· == 47)).length

theorem slashes_append (a b : Bytes) : slashes (a ++ b) = slashes a + slashes b := by
  simp [slashes]

theorem slashes_digits {d : Bytes} (h : ∀ c ∈ d, isDigit c = true) : slashes d = 0 := by
  unfold slashes
  rw [List.length_eq_zero_iff, List.filter_eq_nil_iff]
  intro c hc h47
  have := h c hc
  simp only [beq_iff_eq] at h47
  subst h47
  revert this
  decide

def segSlashes : List Seg → Nat
  | [] => 0
  | .lit t :: r => slashes t + segSlashes r
  | _ :: r => segSlashes r

theorem segSlashes_append (a b : List Seg) : segSlashes (a ++ b) = segSlashes a + segSlashes b := by
  induction a with
  | nil => simp [segSlashes]
  | cons s r ih => cases s <;> simp [segSlashes, ih, Nat.add_assoc]

theorem segSlashes_litSeg (t : Bytes) : segSlashes (litSeg t) = slashes t := by
  cases t with
  | nil => rfl
  | cons c r => simp [litSeg, segSlashes]

/-- the '/' of a name are those of its literal text: `#` and the digits of `N` are none -/
theorem slashes_renderParts : ∀ (ps : List (Bytes × Bytes)), partsOk ps = true →
    slashes (renderParts ps) = segSlashes (partSegs ps) := by
  intro ps
  induction ps with
  | nil => intro _; rfl
  | cons p r ih =>
    obtain ⟨ds, t⟩ := p
    intro hok
    obtain ⟨hnum, _, _, _, hrest⟩ := partsOk_cons hok
    have hd := (numOk_spec hnum)
    have e : renderParts ((ds, t) :: r) = [35] ++ ds ++ t ++ renderParts r := by simp [renderParts]
    rw [e, slashes_append, slashes_append, slashes_append, ih hrest, slashes_digits hd.2.1]
    simp [partSegs, segSlashes, segSlashes_append, segSlashes_litSeg, slashes]

theorem slashCount_sub {w : WName} (hok : w.ok = true) (hslash : w.slash = true) :
    slashCount w.render = segSlashes w.toPat.segs + 1 := by
  obtain ⟨_, hparts, _⟩ := WName.ok_spec hok
  unfold slashCount
  rw [lit_render hok]
  show slashes w.body = _
  simp only [WName.body, WName.toPat, slashes_append, slashes_renderParts _ hparts, hslash, slashIf, ↓reduceIte,
    segSlashes_append, segSlashes_litSeg]
  rfl

theorem spells_slashes {segs : List Seg} {a r : Bytes} (h : SpellsAll segs a r)
    (hna : ∀ s ∈ segs, ∀ as, s ≠ .alts as) : ∃ s, a = s ++ r ∧ slashes s = segSlashes segs := by
  induction h with
  | nil r => exact ⟨[], rfl, rfl⟩
  | lit t _ ih =>
    obtain ⟨s, h1, h2⟩ := ih (fun s hs => hna s (List.mem_cons_of_mem _ hs))
    exact ⟨t ++ s, by simp [h1], by simp [slashes_append, h2, segSlashes]⟩
  | enum ds idx _ hd _ _ _ ih =>
    obtain ⟨s, h1, h2⟩ := ih (fun s hs => hna s (List.mem_cons_of_mem _ hs))
    exact ⟨idx ++ s, by simp [h1], by simp [slashes_append, h2, segSlashes, slashes_digits hd]⟩
  | alts as x _ _ _ => exact absurd rfl (hna _ List.mem_cons_self as)

/-- the callback of a sub-tree port whose name accepted the address hands on what `rtosc_match`
    left in `*path_end` -/
theorem snip_matched {w : WName} (hok : w.ok = true) (hslash : w.slash = true) {a t : Bytes} (x : Bytes)
    (ha : NulFree a) (hg : greedy w.toPat.segs w.slash a = some t) :
    snip (slashCount w.render) (a ++ x) = t ++ x := by
  obtain ⟨rest, hsp, hr⟩ := greedy_sound w.slash _ a t hg
  simp only [hslash, ↓reduceIte] at hr
  subst hr
  obtain ⟨s, h1, h2⟩ := spells_slashes hsp (noAlts_toPat w)
  rw [slashCount_sub hok hslash, h1]
  have hs : NulFree s := nulFree_append_left (h1 ▸ ha)
  simpa using snip_count s (segSlashes w.toPat.segs) (t ++ x) hs h2

theorem greedy_nil {w : WName} {t : Bytes} (hg : greedy w.toPat.segs w.slash [] = some t) :
    w.head = [] ∧ w.parts = [] ∧ w.slash = false := by
  cases hh : w.head with
  | cons c r => simp [WName.toPat, hh, litSeg, greedy] at hg
  | nil =>
    cases hp : w.parts with
    | cons p r =>
      obtain ⟨ds, x⟩ := p
      simp [WName.toPat, hh, hp, litSeg, partSegs, greedy] at hg
    | nil =>
      cases hs : w.slash with
      | true => simp [WName.toPat, hh, hp, hs, litSeg, partSegs, greedy] at hg
      | false => exact ⟨rfl, rfl, rfl⟩

theorem full_row {w : WName} (hok : w.ok = true) (hn : w.named = true ∨ w.head ≠ []) {a tags : Bytes} (k : Nat)
    (rest : Bytes) (ha : NulFree a) (hb : IdxBounded a) (ht : NulFree tags) :
    ∃ e, Match.full (w.render ++ [0]) (a ++ 0 :: tailOf k tags rest) = some ((matchW w a tags).isSome, e) := by
  have h := full_suffix (toPat_wf0 hok) k rest ha hb ht (by
    intro t hg
    by_cases hane : a = []
    · subst hane
      obtain ⟨h1, h2, h3⟩ := greedy_nil hg
      rcases hn with hn | hn
      · left
        simp only [WName.named, h1, h2, h3, List.isEmpty_nil, Bool.not_false, Bool.and_self, Bool.true_and,
          Bool.not_eq_eq_eq_not, Bool.not_true, Option.isSome_eq_false_iff, Option.isNone_iff_eq_none] at hn
        simpa [WName.toPat] using hn
      · exact absurd h1 hn
    · exact Or.inr (Or.inl hane))
  rw [← toPat_cstr, h]
  unfold matchW
  simp only [WName.toPat]
  cases greedy (litSeg w.head ++ partSegs w.parts) w.slash a with
  | none => exact ⟨_, rfl⟩
  | some t =>
    cases w.types with
    | none => exact ⟨_, rfl⟩
    | some ts => by_cases hc : typesCode ts tags = true <;> simp [hc]

theorem matchW_rest {w : WName} {a tags t : Bytes} (h : matchW w a tags = some t) :
    greedy w.toPat.segs w.slash a = some t := by
  unfold matchW at h
  cases hg : greedy w.toPat.segs w.slash a with
  | none => simp [hg] at h
  | some t' =>
    simp only [hg] at h
    cases hty : w.types with
    | none => simpa [hty] using h
    | some ts =>
      simp only [hty] at h
      split at h
      · simpa using h
      · cases h

/-- **the dispatch model on a well-formed tree is `simList`**: it returns (no read leaves the
    message), and the callbacks are those the recursion over `greedy` / `typesCode` names -/
theorem disp_sim :
    (∀ (t : STree) (path : List Nat) (i : Nat) (a : Bytes) (k : Nat) (tags rest : Bytes),
      t.wf = true → t.named = true → NulFree a → IdxBounded a → NulFree tags →
      dispPort path i t.toPort (a ++ 0 :: tailOf k tags rest) = some (simTree path i t a tags)) ∧
    (∀ (ts : List STree) (path : List Nat) (i : Nat) (a : Bytes) (k : Nat) (tags rest : Bytes),
      wfList ts = true → namedList ts = true → NulFree a → IdxBounded a → NulFree tags →
      dispList path (toPorts ts) i (a ++ 0 :: tailOf k tags rest) = some (simList path ts i a tags)) := by
  apply STree.induction
  · intro w md path i a k tags rest hwf hn ha hb ht
    have hok : w.ok = true := STree.wf_leaf.mp hwf
    obtain ⟨e, he⟩ := full_row hok (Or.inl (by simpa [STree.named] using hn)) k rest ha hb ht
    simp only [STree.toPort, dispPort, he, simTree]
    cases (matchW w a tags).isSome <;> rfl
  · intro w md kids ih path i a k tags rest hwf hn ha hb ht
    rw [STree.wf_sub] at hwf
    obtain ⟨hok, hhead, hslash, _⟩ := WName.subOk_spec hwf.1
    obtain ⟨e, he⟩ := full_row hok (Or.inr hhead) k rest ha hb ht
    simp only [STree.toPort, dispPort, he, simTree]
    cases hm : matchW w a tags with
    | none => rfl
    | some t =>
      have hg := matchW_rest hm
      obtain ⟨s, hs⟩ := greedy_suffix w.slash hg
      have hat : NulFree t := ha.suffix (hs ▸ List.suffix_append s t)
      have hbt : IdxBounded t := by rw [hs] at hb; exact hb.suffix
      simp only [Option.isSome_some, ↓reduceIte, snip_matched hok hslash (0 :: tailOf k tags rest) ha hg]
      exact ih (path ++ [i]) 0 t k tags rest hwf.2 (by simpa [STree.named] using hn) hat hbt ht
  · intro path i a k tags rest _ _ _ _ _
    rfl
  · intro t r iht ihr path i a k tags rest hwf hn ha hb ht
    simp only [wfList, Bool.and_eq_true] at hwf
    simp only [namedList, Bool.and_eq_true] at hn
    simp only [toPorts, dispList, simList, iht path i a k tags rest hwf.1 hn.1 ha hb ht,
      ihr path (i + 1) a k tags rest hwf.2 hn.2 ha hb ht]

theorem dispPort_sim : ∀ (t : STree) (path : List Nat) (i : Nat) (a : Bytes) (k : Nat) (tags rest : Bytes),
    t.wf = true → t.named = true → NulFree a → IdxBounded a → NulFree tags →
    dispPort path i t.toPort (a ++ 0 :: tailOf k tags rest) = some (simTree path i t a tags) :=
  disp_sim.1

theorem tagsAdmitted_some (ts : List Bytes) (tags : Bytes) :
    tagsAdmitted (some ts) tags = true ↔
      tags ∈ ts ∨ ∃ l, ts.getLast? = some l ∧ l ≠ [] ∧ l <+: tags := by
  simp only [tagsAdmitted, Bool.or_eq_true, List.contains_iff_mem]
  refine or_congr Iff.rfl ?_
  cases ts.getLast? with
  | none => simp
  | some l => simp [List.isPrefixOf_iff_prefix]

theorem tagsAdmitted_iff (ty : Option (List Bytes)) (tags : Bytes) :
    tagsAdmitted ty tags = true ↔
      ∀ ts, ty = some ts → tags ∈ ts ∨ ∃ l, ts.getLast? = some l ∧ l ≠ [] ∧ l <+: tags := by
  cases ty with
  | none => simp [tagsAdmitted]
  | some ts => simp only [Option.some.injEq, forall_eq', tagsAdmitted_some]

theorem tagsAdmitted_typesCode {ts : List Bytes} (hne : ts ≠ []) (tags : Bytes) :
    tagsAdmitted (some ts) tags = typesCode ts tags := by
  rw [Bool.eq_iff_iff, typesCode_exact hne, tagsAdmitted_some]

theorem matchW_types {w : WName} (hok : w.ok = true) {a tags t : Bytes}
    (hg : greedy w.toPat.segs w.slash a = some t) :
    matchW w a tags = if tagsAdmitted w.types tags then some t else none := by
  unfold matchW
  rw [hg]
  cases hty : w.types with
  | none => simp [tagsAdmitted]
  | some ts =>
    have := (WName.ok_spec hok).2.2
    simp only [hty, typesOk, Bool.and_eq_true, Bool.not_eq_eq_eq_not, Bool.not_true, List.isEmpty_eq_false_iff] at this
    simp only [tagsAdmitted_typesCode this.1]

/-- the row the address was built from accepts it; `*path_end` is what follows the name's part -/
theorem greedy_own {w : WName} (hok : w.ok = true) {a x : Bytes} (ha : a ∈ expandParts w.parts)
    (hx : startsWithDigit x = false) :
    greedy w.toPat.segs w.slash (w.head ++ a ++ x) = greedy [] w.slash x := by
  have hsp := spells_name w hok a x ha hx
  have hg := greedy_complete w.slash [] hsp (toPat_prefixFree w)
  rwa [List.append_nil] at hg

theorem mem_simList_of (path : List Nat) (a tags : Bytes) (x : List Nat) (ts : List STree) (i0 n : Nat)
    (t : STree) (hn : ts[n]? = some t) (h : x ∈ simTree path (i0 + n) t a tags) : x ∈ simList path ts i0 a tags :=
  (rows_iff (P := fun ts i => x ∈ simList path ts i a tags) (R := fun i t => x ∈ simTree path i t a tags)
    (fun _ h => nomatch h) (fun _ _ _ => by rw [simList, List.mem_append]) ts i0).mpr ⟨n, t, hn, h⟩

theorem simList_nil_of (path : List Nat) (a tags : Bytes) : ∀ (ts : List STree) (i0 : Nat),
    (∀ j u, ts[j]? = some u → simTree path (i0 + j) u a tags = []) → simList path ts i0 a tags = []
  | [], _, _ => rfl
  | u :: r, i0, h => by
    rw [simList, show simTree path i0 u a tags = [] from h 0 u rfl, simList_nil_of path a tags r (i0 + 1) fun j v hv => by
      rw [Nat.add_assoc, Nat.add_comm 1]; exact h (j + 1) v hv]
    rfl

theorem simList_single (path : List Nat) (a tags : Bytes) : ∀ (ts : List STree) (i0 n : Nat) (t : STree),
    ts[n]? = some t → (∀ j u, j ≠ n → ts[j]? = some u → simTree path (i0 + j) u a tags = []) →
    simList path ts i0 a tags = simTree path (i0 + n) t a tags
  | [], _, _, _, hn, _ => nomatch hn
  | u :: r, i0, 0, t, hn, ho => by
    obtain rfl : u = t := Option.some.inj hn
    rw [simList, simList_nil_of path a tags r (i0 + 1) fun j v hv => by
      rw [Nat.add_assoc, Nat.add_comm 1]; exact ho (j + 1) v (Nat.succ_ne_zero j) hv]
    exact List.append_nil _
  | u :: r, i0, n + 1, t, hn, ho => by
    rw [simList, show simTree path i0 u a tags = [] from ho 0 u (Nat.succ_ne_zero n).symm rfl, List.nil_append,
      simList_single path a tags r (i0 + 1) n t hn fun j v hj hv => by
        rw [Nat.add_assoc, Nat.add_comm 1]; exact ho (j + 1) v (fun e => hj (Nat.succ.inj e)) hv,
      Nat.add_assoc, Nat.add_comm 1]

theorem sim_other (path : List Nat) (tags : Bytes) (tab : List STree) (n : Nat) (t : STree) (rel : Bytes)
    (ht : tab[n]? = some t) (hs : SiblingsApart tab) (hspec : PathSpec t.name.toPat rel) :
    ∀ j u, j ≠ n → tab[j]? = some u → simTree path (0 + j) u rel tags = [] := by
  intro j u hj hu
  have hnone : matchW u.name rel tags = none := by
    cases hm : matchW u.name rel tags with
    | none => rfl
    | some t' =>
      exact absurd (leftmost_spells ((greedy_iff_leftmost u.name.toPat rel).mp ⟨t', matchW_rest hm⟩))
        (other_rows_apart hs ht hspec hj hu)
  cases u with
  | leaf w md => simp only [STree.name] at hnone; simp [simTree, hnone]
  | sub w md kids => simp only [STree.name] at hnone; simp [simTree, hnone]

theorem admittedAlong_leaf {tab : List STree} {n : Nat} {w : WName} {md : Option Bytes} (tags : Bytes)
    (ht : tab[n]? = some (.leaf w md)) : admittedAlong tags [n] tab = tagsAdmitted w.types tags := by
  simp [admittedAlong, typesAlong, ht]

theorem admittedAlong_sub {tab : List STree} {n : Nat} {w : WName} {md : Option Bytes} {kids : List STree}
    (tags : Bytes) (ix : List Nat) (ht : tab[n]? = some (.sub w md kids)) :
    admittedAlong tags (n :: ix) tab = (tagsAdmitted w.types tags && admittedAlong tags ix kids) := by
  simp [admittedAlong, typesAlong, ht]

/-- what the dispatch model does with the address of a reported pair: the reported port is called
    when the type string is admitted along the path, and — `only`: rows pairwise apart — nothing
    else is -/
def Reaches (only : Bool) (tags : Bytes) (path ixr : List Nat) (tab : List STree) (rel : Bytes) : Prop :=
  (admittedAlong tags ixr tab = true → path ++ ixr ∈ simList path tab 0 rel tags) ∧
  (only = true → simList path tab 0 rel tags = if admittedAlong tags ixr tab then [path ++ ixr] else [])

theorem Reported.reaches (only : Bool) (tags : Bytes) (path : List Nat) {tab : List STree} {n : Nat}
    {ixr : List Nat} {rel : Bytes} (h : Reported tab n ixr rel) (hwf : wfList tab = true)
    (hs : only = true → SiblingsApart tab) : Reaches only tags path (n :: ixr) tab rel := by
  induction h generalizing path with
  | @leaf tab n w md a ht ha =>
    obtain ⟨hok, hspec⟩ := leaf_row ht ha hwf
    have hg : greedy w.toPat.segs w.slash (w.head ++ a ++ slashIf w.slash) = some [] := by
      rw [greedy_own hok ha (startsWithDigit_slashIf _)]
      cases hsl : w.slash <;> simp [greedy, slashIf]
    have hadm := admittedAlong_leaf tags ht
    have hst : simTree path n (.leaf w md) (w.head ++ a ++ slashIf w.slash) tags =
        if tagsAdmitted w.types tags then [path ++ [n]] else [] := by
      simp only [simTree, matchW_types hok hg]
      cases tagsAdmitted w.types tags <;> rfl
    constructor
    · intro hadm'
      rw [hadm] at hadm'
      refine mem_simList_of path _ tags _ tab 0 n _ ht ?_
      rw [Nat.zero_add, hst, hadm']; exact List.mem_singleton.mpr rfl
    · intro ho
      rw [simList_single path _ tags tab 0 n _ ht (sim_other path tags tab n _ _ ht (hs ho) hspec),
        Nat.zero_add, hst, hadm]
  | @sub tab n w md kids a m ixr rel ht ha _ ih =>
    obtain ⟨hsub, hwfk, hsk, hspec⟩ := sub_row ht ha hwf hs rel
    obtain ⟨hok, _, hslash, _⟩ := WName.subOk_spec hsub
    obtain ⟨h3a, h3b⟩ := ih (path ++ [n]) hwfk hsk
    have hg : greedy w.toPat.segs w.slash (w.head ++ a ++ 47 :: rel) = some rel := by
      rw [greedy_own hok ha (startsWithDigit_slash rel)]
      simp [greedy, hslash]
    have hadm := admittedAlong_sub tags (m :: ixr) ht
    have hst : simTree path n (.sub w md kids) (w.head ++ a ++ 47 :: rel) tags =
        if tagsAdmitted w.types tags then simList (path ++ [n]) kids 0 rel tags else [] := by
      simp only [simTree, matchW_types hok hg]
      cases tagsAdmitted w.types tags <;> rfl
    have epath : path ++ n :: m :: ixr = path ++ [n] ++ m :: ixr := by simp
    constructor
    · intro hadm'
      rw [hadm, Bool.and_eq_true] at hadm'
      refine mem_simList_of path _ tags _ tab 0 n _ ht ?_
      rw [Nat.zero_add, hst, hadm'.1, epath]
      exact h3a hadm'.2
    · intro ho
      rw [simList_single path _ tags tab 0 n _ ht (sim_other path tags tab n _ _ ht (hs ho) hspec),
        Nat.zero_add, hst, hadm, h3b ho, epath]
      cases tagsAdmitted w.types tags <;> cases admittedAlong tags (m :: ixr) kids <;> rfl

theorem subsUntypedList_get {ts : List STree} (h : subsUntypedList ts = true) {n : Nat} {t : STree}
    (ht : ts[n]? = some t) : t.subsUntyped = true :=
  rows_get (fl := subsUntypedList) (fun _ _ => by rw [subsUntypedList]) h ht

theorem Reported.atLeaf {tab : List STree} {n : Nat} {ixr : List Nat} {rel : Bytes} (h : Reported tab n ixr rel) :
    ∃ w, leafAt (n :: ixr) tab = some w ∧
      (subsUntypedList tab = true → ∀ tags, admittedAlong tags (n :: ixr) tab = tagsAdmitted w.types tags) := by
  induction h with
  | @leaf tab n w md a ht _ =>
    exact ⟨w, by simp [leafAt, ht], fun _ tags => admittedAlong_leaf tags ht⟩
  | @sub tab n w md kids a m ixr rel ht _ _ ih =>
    obtain ⟨v, h2, h3⟩ := ih
    refine ⟨v, by rw [leafAt]; simp only [ht]; exact h2, ?_⟩
    intro hu tags
    have := subsUntypedList_get hu ht
    simp only [STree.subsUntyped, Bool.and_eq_true, Option.isNone_iff_eq_none] at this
    rw [admittedAlong_sub tags _ ht, this.1, h3 this.2 tags]
    rfl

theorem Reported.endsAtLeaf (tags : Bytes) {tab : List STree} {n : Nat} {ixr : List Nat} {rel : Bytes}
    (h : Reported tab n ixr rel) : EndsAtLeaf tags (n :: ixr) tab :=
  let ⟨w, h1, h2⟩ := h.atLeaf
  ⟨w, h1, fun hu => h2 hu tags⟩

theorem leaf_tree (tags : Bytes) : ∀ (t : STree) (tab : List STree) (n : Nat) (pre : Bytes) (path ix : List Nat)
    (addr : Bytes), tab[n]? = some t → (ix, addr) ∈ enumTree pre (path ++ [n]) t →
    ∃ ixr, ix = path ++ n :: ixr ∧ EndsAtLeaf tags (n :: ixr) tab := by
  intro t tab n pre path ix addr ht h
  obtain ⟨ixr, rel, h1, _, hr⟩ := reported_tree t tab n pre _ ix addr ht h
  exact ⟨ixr, by rw [h1, List.append_assoc]; rfl, hr.endsAtLeaf tags⟩

theorem headsApart_comm (w v : WName) : headsApart w v = headsApart v w := by
  simp only [headsApart, Bool.and_comm]

theorem pairwiseHeads_lt : ∀ {ts : List STree}, pairwiseHeads ts = true → ∀ (i j : Nat) (t u : STree), i < j →
    ts[i]? = some t → ts[j]? = some u → headsApart t.name u.name = true := by
  intro ts
  induction ts with
  | nil => intro _ i j t u _ h; simp at h
  | cons x r ih =>
    intro h i j t u hij hi hj
    simp only [pairwiseHeads, Bool.and_eq_true, List.all_eq_true] at h
    cases j with
    | zero => omega
    | succ j =>
      simp only [List.getElem?_cons_succ] at hj
      cases i with
      | zero =>
        simp at hi; subst hi
        exact h.1 u (List.mem_of_getElem? hj)
      | succ i =>
        simp only [List.getElem?_cons_succ] at hi
        exact ih h.2 i j t u (by omega) hi hj

theorem pairwiseHeads_apart {ts : List STree} (h : pairwiseHeads ts = true) (i j : Nat) (t u : STree) (hij : i ≠ j)
    (hi : ts[i]? = some t) (hj : ts[j]? = some u) : Apart t.name u.name := by
  rcases Nat.lt_or_gt_of_ne hij with hlt | hlt
  · exact apart_of_heads (pairwiseHeads_lt h i j t u hlt hi hj)
  · have := pairwiseHeads_lt h j i u t hlt hj hi
    rw [headsApart_comm] at this
    exact apart_of_heads this

theorem kidsApart_of_heads : ∀ (ts : List STree), headsOkList ts = true → kidsApart ts := by
  refine (STree.induction (P := fun t => t.headsOk = true → ∀ r, kidsApart r → kidsApart (t :: r))
    ?_ ?_ ?_ ?_).2
  · intro w md _ r hr
    rw [kidsApart]; exact hr
  · intro w md kids ih h r hr
    simp only [STree.headsOk, Bool.and_eq_true] at h
    rw [kidsApart, SiblingsApart]
    exact ⟨⟨fun i j t u => pairwiseHeads_apart h.1 i j t u, ih h.2⟩, hr⟩
  · intro _
    rw [kidsApart]; trivial
  · intro t r iht ihr h
    simp only [headsOkList, Bool.and_eq_true] at h
    exact iht h.1 r (ihr h.2)

/-- the message the harness builds, behind its leading '/' -/
theorem zeroMsg_shape (rel tags : Bytes) :
    ∃ k rest, zeroMsg (47 :: rel) tags = 47 :: (rel ++ 0 :: tailOf k tags rest) := by
  obtain ⟨k, j, _, h⟩ := mkMsg_layout (47 :: rel) tags (List.replicate ((tags.map Match.zeroArgSize).sum) 0)
  exact ⟨k, _, by rw [zeroMsg, h]; rfl⟩

theorem dispatchSim_eq (ts : List STree) (hwf : TreeWF ts) (hn : LeavesNamed ts) (rel tags : Bytes)
    (hrel : NulFree rel) (hb : IdxBounded rel) (ht : NulFree tags) :
    dispatchSim (toPorts ts) (47 :: rel) tags = some (simList [] ts 0 rel tags) := by
  obtain ⟨k, rest, h⟩ := zeroMsg_shape rel tags
  simp only [dispatchSim, h]
  exact disp_sim.2 ts [] 0 rel k tags rest hwf hn hrel hb ht

theorem Reported.dispatched (only : Bool) {ts : List STree} {n : Nat} {ixr : List Nat} {rel : Bytes}
    (hr : Reported ts n ixr rel) (hwf : TreeWF ts) (hn : LeavesNamed ts) (hs : only = true → SiblingsApart ts)
    (tags : Bytes) (ht : NulFree tags) (hb : IdxBounded rel) :
    ∃ l, dispatchSim (toPorts ts) (47 :: rel) tags = some l ∧
      (admittedAlong tags (n :: ixr) ts = true → n :: ixr ∈ l) ∧
      (only = true → l = if admittedAlong tags (n :: ixr) ts then [n :: ixr] else []) :=
  have h4 := hr.reaches only tags [] hwf hs
  ⟨_, dispatchSim_eq ts hwf hn rel tags (hr.nulFree hwf) hb ht, h4.1, h4.2⟩

end Rtosc.Walk
