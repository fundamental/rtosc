/-
  C20 — the system invariant `Inv` (both halves and both channels) and its preservation
  by every hazard-free step: no crash, consistent snapshots in flight, `pending` = the
  requests under way, no controller learned twice, enough watches for the learn queue.
-/
import RtoscModel.Proofs.MidiNrt
namespace Rtosc.Midi

theorem cloneInner_ok (d : MapEnt) (src : Storage) (hs : StOk src) :
    ∀ (l : List MapEnt) (vals : List Nat), (∀ e ∈ l, e ∈ src.mapping) → d.slot < vals.length →
      ∃ v, cloneInner d src l vals = some v ∧ v.length = vals.length := by
  intro l
  induction l with
  | nil => intro vals _ _; exact ⟨vals, rfl, rfl⟩
  | cons s rest ih =>
    intro vals hl hd
    have hsm : s ∈ src.mapping := hl s List.mem_cons_self
    have hsl : s.slot < src.values.length := by rw [hs.vals]; exact hs.slots s hsm
    have hrest : ∀ e ∈ rest, e ∈ src.mapping := fun e he => hl e (List.mem_cons_of_mem _ he)
    unfold cloneInner
    by_cases hid : d.id = s.id
    · simp only [hid, ↓reduceIte]
      rw [List.getElem?_eq_getElem hsl, List.getElem?_eq_getElem hd]
      simp only
      obtain ⟨v, hv, hlen⟩ := ih (vals.set d.slot (blit d.coarse (if s.coarse then src.values[s.slot] >>> 7 else src.values[s.slot] &&& 0x7f) vals[d.slot])) hrest (by simpa using hd)
      exact ⟨v, hv, by simpa using hlen⟩
    · simp only [hid, ↓reduceIte]
      exact ih vals hrest hd

theorem cloneOuter_ok (src : Storage) (hs : StOk src) :
    ∀ (l : List MapEnt) (vals : List Nat), (∀ e ∈ l, e.slot < vals.length) →
      ∃ v, cloneOuter src l vals = some v ∧ v.length = vals.length := by
  intro l
  induction l with
  | nil => intro vals _; exact ⟨vals, rfl, rfl⟩
  | cons d rest ih =>
    intro vals hl
    obtain ⟨v1, h1, hlen1⟩ := cloneInner_ok d src hs src.mapping vals (fun _ h => h) (hl d List.mem_cons_self)
    obtain ⟨v2, h2, hlen2⟩ := ih v1 (fun e he => by rw [hlen1]; exact hl e (List.mem_cons_of_mem _ he))
    exact ⟨v2, by simp [cloneOuter, h1, h2], by rw [hlen2, hlen1]⟩

theorem cloneValues_ok {n old : Storage} (hn : StOk n) (ho : StOk old) :
    ∃ v, n.cloneValues old = some { n with values := v } ∧ v.length = n.values.length := by
  obtain ⟨v, hv, hlen⟩ := cloneOuter_ok old ho n.mapping (List.replicate n.values.length 0)
    (fun e he => by simp only [List.length_replicate]; rw [hn.vals]; exact hn.slots e he)
  exact ⟨v, Storage.cloneValues_of hv, by simpa using hlen⟩

theorem stOk_values {st : Storage} (h : StOk st) (v : List Nat) (hv : v.length = st.values.length) :
    StOk { st with values := v } :=
  ⟨h.slots, by simp [hv, h.vals], h.nodup⟩

theorem StOk.entry {st : Storage} (h : StOk st) {e : MapEnt} (he : e ∈ st.mapping) :
    ∃ old cb, st.values[e.slot]? = some old ∧ st.callbacks[e.slot]? = some cb := by
  have h1 := h.slots e he
  exact ⟨_, _, List.getElem?_eq_getElem (h.vals ▸ h1), List.getElem?_eq_getElem h1⟩

/-- the `midi-bind` messages of the nRT → RT channel, in order -/
def flightOf : List RtMsg → List (Storage × Option Nat)
  | [] => []
  | .addWatch :: r => flightOf r
  | .bind st a :: r => (st, a) :: flightOf r

theorem flightOf_append (a b : List RtMsg) : flightOf (a ++ b) = flightOf a ++ flightOf b := by
  induction a with
  | nil => rfl
  | cons m r ih => cases m <;> simp [flightOf, ih]

@[simp] theorem answers_nil : answers [] = [] := rfl
theorem answers_cons (st : Storage) (a : Option Nat) (r) :
    answers ((st, a) :: r) = a.toList ++ answers r := by cases a <;> simp [answers]
theorem answers_append (a b) : answers (a ++ b) = answers a ++ answers b := by simp [answers]

/-- what the non-realtime half knows of a snapshot it has sent: everything but the values -/
def Storage.shape (st : Storage) : List MapEnt × List Cb × Nat := (st.mapping, st.callbacks, st.values.length)

/-- every ID that a snapshot in flight adds to its predecessor is the controller whose
    request it answers -/
def ChainOk : List MapEnt → List (Storage × Option Nat) → Prop
  | _, [] => True
  | prev, (st, ans) :: rest =>
    (∀ id ∈ ids st.mapping, id ∈ ids prev ∨ ans = some id) ∧ ChainOk st.mapping rest

/-- mapping of the newest snapshot: the last one in flight, else the one the RT half holds -/
def chainEnd : List MapEnt → List (Storage × Option Nat) → List MapEnt
  | prev, [] => prev
  | _, (st, _) :: rest => chainEnd st.mapping rest

/-- shape of the newest snapshot: the last `midi-bind` in flight, else the one the RT half holds -/
def lastShape : Option Storage → List (Storage × Option Nat) → Option (List MapEnt × List Cb × Nat)
  | o, [] => o.map Storage.shape
  | _, (st, _) :: rest => lastShape (some st) rest

theorem chainEnd_of_lastShape (o n : Option Storage) (fl) (h : lastShape o fl = n.map Storage.shape) :
    chainEnd (omap o) fl = omap n := by
  induction fl generalizing o with
  | nil =>
    simp only [lastShape] at h
    cases o <;> cases n <;> simp_all [omap, chainEnd, Storage.shape]
  | cons x rest ih =>
    obtain ⟨st, a⟩ := x
    simp only [lastShape] at h
    simpa [chainEnd, omap] using ih (some st) h

theorem lastShape_append (o : Option Storage) (fl) (st : Storage) (a : Option Nat) :
    lastShape o (fl ++ [(st, a)]) = some st.shape := by
  induction fl generalizing o with
  | nil => simp [lastShape]
  | cons x rest ih => obtain ⟨st', a'⟩ := x; simpa [lastShape] using ih (some st')

theorem chainOk_append (prev fl) (st : Storage) (a : Option Nat) (h : ChainOk prev fl)
    (hn : ∀ id ∈ ids st.mapping, id ∈ ids (chainEnd prev fl) ∨ a = some id) :
    ChainOk prev (fl ++ [(st, a)]) := by
  induction fl generalizing prev with
  | nil => exact ⟨hn, trivial⟩
  | cons x rest ih =>
    obtain ⟨st', a'⟩ := x
    exact ⟨h.1, ih st'.mapping h.2 hn⟩

theorem chainEnd_ids (prev fl) (h : ChainOk prev fl) :
    ∀ id ∈ ids (chainEnd prev fl), id ∈ ids prev ∨ id ∈ answers fl := by
  induction fl generalizing prev with
  | nil => intro id hid; exact Or.inl hid
  | cons x rest ih =>
    obtain ⟨st, a⟩ := x
    intro id hid
    rcases ih st.mapping h.2 id hid with h1 | h1
    · rcases h.1 id h1 with h2 | h2
      · exact Or.inl h2
      · right; rw [answers_cons, h2]; simp
    · right; rw [answers_cons]; exact List.mem_append_right _ h1

/-- The system invariant of hazard-free histories. -/
structure Inv (P : List PortSpec) (s : Sys) : Prop where
  nrt : NrtOk P s.nrt
  /-- the snapshots in flight and the one the RT half holds are well-formed -/
  fl : ∀ x ∈ flightOf s.toRT, StOk x.1
  rts : ∀ st, s.rt.storage = some st → StOk st
  chain : ChainOk (omap s.rt.storage) (flightOf s.toRT)
  /-- the newest snapshot is the non-realtime half's current one -/
  last : lastShape s.rt.storage (flightOf s.toRT) = s.nrt.storage.map Storage.shape
  /-- `pending` = the requests answered by a `midi-bind` in flight, then those not yet served -/
  pend : s.rt.pending = answers (flightOf s.toRT) ++ s.toNRT
  pnd : s.rt.pending.Nodup
  /-- no controller is learned twice: one that asks is not bound yet -/
  c1 : ∀ id ∈ s.toNRT, id ∉ ids s.nrt.mapping
  /-- enough watches (held, in flight, or spent on a request under way) for the learn queue -/
  watch : s.nrt.learnQ.length ≤ s.rt.watch + watchesOf s.toRT + s.toNRT.length

theorem inv_init (P) : Inv P Sys.init := by
  constructor
  · exact nrtOk_init P
  all_goals simp [Sys.init, flightOf, RT.init, NRT.init, ChainOk, lastShape, watchesOf, omap, NRT.mapping]

theorem Inv.nrt_mapping {P s} (h : Inv P s) :
    chainEnd (omap s.rt.storage) (flightOf s.toRT) = s.nrt.mapping :=
  chainEnd_of_lastShape _ s.nrt.storage _ h.last

/-- appending a `midi-bind` that answers `ans` and whose IDs are those of the current
    snapshot plus possibly `ans` -/
theorem inv_send_bind {P s} (h : Inv P s) (n' : NRT) (ns : Storage) (ans : Option Nat)
    (extra : List RtMsg) (hextra : flightOf extra = [])
    (hn : NrtOk P n') (hst : n'.storage = some ns)
    (hids : ∀ id ∈ ids ns.mapping, id ∈ ids s.nrt.mapping ∨ ans = some id)
    (toNRT' : List Nat) (hpend : s.rt.pending = answers (flightOf s.toRT) ++ ans.toList ++ toNRT')
    (hc1 : ∀ id ∈ toNRT', id ∉ ids ns.mapping)
    (hw : n'.learnQ.length ≤ s.rt.watch + (watchesOf s.toRT + watchesOf extra) + toNRT'.length) :
    Inv P { s with nrt := n', toRT := s.toRT ++ [.bind ns ans] ++ extra, toNRT := toNRT' } := by
  have hfl : flightOf (s.toRT ++ [.bind ns ans] ++ extra) = flightOf s.toRT ++ [(ns, ans)] := by
    simp [flightOf_append, hextra, flightOf]
  constructor
  · exact hn
  · intro x hx
    simp only [hfl, List.mem_append, List.mem_singleton] at hx
    rcases hx with hx | rfl
    · exact h.fl x hx
    · exact hn.stok ns hst
  · exact h.rts
  · simp only [hfl]
    apply chainOk_append _ _ _ _ h.chain
    rw [h.nrt_mapping]; exact hids
  · simp only [hfl, lastShape_append, hst, Option.map_some]
  · simp only [hfl, answers_append]
    rw [hpend]; cases ans <;> simp [answers]
  · exact h.pnd
  · simpa [NRT.mapping_eq hst] using hc1
  · simp only [watchesOf_append, watchesOf]; omega

/-- the nRT half changes only `inv_map`/the learn queue and sends no `midi-bind` -/
theorem inv_nrt_quiet {P s} (h : Inv P s) (n' : NRT) (extra : List RtMsg) (hextra : flightOf extra = [])
    (hn : NrtOk P n') (hst : n'.storage = s.nrt.storage)
    (hw : n'.learnQ.length ≤ s.rt.watch + (watchesOf s.toRT + watchesOf extra) + s.toNRT.length) :
    Inv P { s with nrt := n', toRT := s.toRT ++ extra } := by
  have hfl : flightOf (s.toRT ++ extra) = flightOf s.toRT := by simp [flightOf_append, hextra]
  have hmp : n'.mapping = s.nrt.mapping := NRT.mapping_congr hst
  exact { h with
    nrt := hn
    fl := by simpa [hfl] using h.fl
    chain := by simpa [hfl] using h.chain
    last := by simpa [hfl, hst] using h.last
    pend := by simpa [hfl] using h.pend
    c1 := by simpa [hmp] using h.c1
    watch := by simp only [watchesOf_append]; omega }

theorem Op.wf.map {P : List PortSpec} {op : Op} (h : op.wf P) : ∀ a k, op = .map a k → a < P.length := by
  rintro a k rfl; exact h

/-- no K1 hazard: a request is served only while an address is queued -/
theorem NrtStep.queued {P : List PortSpec} {s : Sys} {op : Op} {n' ms q'}
    (hn : NrtStep P s.nrt s.toNRT op n' ms q') (hz : hazardK1 s op = false) :
    op = .deliverNRT → s.nrt.learnQ ≠ [] := by
  rintro rfl hl
  cases hn with
  | learn hq _ => exact hazardK1_queued hz hq hl

/-- `nrtStep_ok` at the level of the system: `Inv` and the absence of a K1 hazard supply its side conditions -/
theorem Inv.nrt_ok {P : List PortSpec} {s : Sys} {op : Op} {n' ms q'} (h : Inv P s)
    (hn : NrtStep P s.nrt s.toNRT op n' ms q') (hwf : ∀ a k, op = .map a k → a < P.length)
    (hz : hazardK1 s op = false) : NrtRefines P s.nrt s.toNRT op n' ms q' :=
  nrtStep_ok h.nrt hn hwf (hn.queued hz) (fun id hid => h.c1 id (List.mem_of_mem_head? hid))

theorem flightOf_watches (w : Nat) : flightOf (List.replicate w .addWatch) = [] := by
  induction w with
  | zero => rfl
  | succ w ih => simpa [List.replicate_succ, flightOf] using ih

/-- the four operations of the non-realtime half at once: `nrtStep_ok` for its own state, `NrtSends` for the
    channel; the only distinction left is whether a `midi-bind` was sent -/
theorem inv_nrt {P : List PortSpec} {s : Sys} {op : Op} {n' ms q'} (h : Inv P s)
    (hn : NrtStep P s.nrt s.toNRT op n' ms q') (hwf : ∀ a k, op = .map a k → a < P.length)
    (hz : hazardK1 s op = false) :
    Inv P { s with nrt := n', toRT := s.toRT ++ ms, toNRT := q' } := by
  obtain ⟨hok, -, hquiet, hbind⟩ := h.nrt_ok hn hwf hz
  have e := hn.sends
  have hw := h.watch
  -- a request is served only when an address is queued, and `clear` empties the queue
  have hqueue : n'.learnQ.length + s.toNRT.length ≤ s.nrt.learnQ.length + watchesOf ms + q'.length := by
    by_cases hc : op = .clear
    · subst hc; cases hn; simp
    · have hk1 := hn.queued hz
      have := e.queue hc (fun hl => by
        cases hn with
        | learn => exact absurd hl (hk1 rfl)
        | _ => rfl)
      omega
  obtain ⟨w, -, ⟨hms, hst⟩ | ⟨m, c, len, ans, hst, hms⟩⟩ := e.shape
  · have hq : q' = s.toNRT := hquiet (by simp [hms])
    subst hq hms
    exact inv_nrt_quiet h n' _ (flightOf_watches w) hok hst (by omega)
  · subst hms
    obtain ⟨hq, hids⟩ := hbind _ ans List.mem_cons_self
    have hpnd := h.pnd
    rw [h.pend, ← hq] at hpnd
    have := inv_send_bind h n' _ ans _ (flightOf_watches w) hok hst hids q'
      (by rw [h.pend, ← hq, List.append_assoc])
      (fun x hx hin => by
        rcases hids x hin with h1 | rfl
        · exact h.c1 x (hq ▸ List.mem_append_right _ hx) h1
        · -- the controller answered is not asked for a second time
          exact (List.nodup_append.mp (List.nodup_append.mp hpnd).2.1).2.2 x (by simp) x hx rfl)
      (by simp only [watchesOf] at hqueue; omega)
    simpa using this

theorem lastShape_congr (o o' : Option Storage) (fl) (h : o.map Storage.shape = o'.map Storage.shape) :
    lastShape o fl = lastShape o' fl := by
  cases fl with
  | nil => simpa [lastShape] using h
  | cons x rest => obtain ⟨st, a⟩ := x; simp [lastShape]

/-- the RT half replaces its snapshot by one of the same shape (values written) -/
theorem inv_rt_values {P s} (h : Inv P s) (st : Storage) (hst : s.rt.storage = some st) (v : List Nat)
    (hv : v.length = st.values.length) :
    Inv P { s with rt := { s.rt with storage := some { st with values := v } } } :=
  { h with
    rts := fun st' hst' => by cases hst'; exact stOk_values (h.rts st hst) v hv
    chain := by simpa [omap, hst] using h.chain
    last := by rw [← h.last]; apply lastShape_congr; simp [hst, Storage.shape, hv] }

/-- the RT half asks for an unknown controller to be learned -/
theorem inv_request {P s} (h : Inv P s) (id : Nat) (hid : id ∉ ids (omap s.rt.storage))
    (hp : id ∉ s.rt.pending) :
    Inv P { s with rt := { s.rt with pending := s.rt.pending ++ [id], watch := s.rt.watch - 1 },
                   toNRT := s.toNRT ++ [id] } :=
  { h with
    pend := by simp only [h.pend, List.append_assoc]
    pnd := by
      simp only; rw [List.nodup_append]
      refine ⟨h.pnd, by simp, ?_⟩
      intro x hx y hy; simp at hy; subst hy; intro hxy; subst hxy; exact hp hx
    c1 := by
      intro x hx
      simp only [List.mem_append, List.mem_singleton] at hx
      rcases hx with hx | rfl
      · exact h.c1 x hx
      · intro hin
        rw [← h.nrt_mapping] at hin
        rcases chainEnd_ids _ _ h.chain _ hin with h1 | h1
        · exact hid h1
        · apply hp; rw [h.pend]; exact List.mem_append_left _ h1
    watch := by have := h.watch; simp only [List.length_append, List.length_singleton]; omega }

theorem rt_not_mem_of_binding_none {P s} (hi : Inv P s) {id : Nat} (hb : s.rt.binding id = none) :
    id ∉ ids (omap s.rt.storage) := by
  cases h : s.rt.storage with
  | none => simp [omap]
  | some st => rw [RT.binding_eq h] at hb; exact not_mem_of_binding_none (hi.rts st h) hb

/-- a step that is no hazard, does not crash, sends nothing to the backend and keeps the invariant -/
structure SafeStep (P : List PortSpec) (s : Sys) (op : Op) (s' : Sys) : Prop where
  step : step P s op = some (s', [])
  safe : hazard s op = false
  inv : Inv P s'

/-- an unknown controller arrives while the RT half holds a watch: the request leaves -/
theorem cc_request_ok {P s id val} (hi : Inv P s) (hb : s.rt.binding id = none)
    (hp : id ∉ s.rt.pending) (hw : s.rt.watch ≠ 0) (hlen : s.rt.pending.length ≤ 31) :
    SafeStep P s (.cc id val)
      { s with rt := { s.rt with pending := s.rt.pending ++ [id], watch := s.rt.watch - 1 },
               toNRT := s.toNRT ++ [id] } := by
  have hlt : ¬ s.rt.pending.length > 31 := by omega
  have hz : hazard s (.cc id val) = false := hazard_iff.mpr ⟨rfl, hazardK2_cc.mpr (.inr (.inr (.inr hlen)))⟩
  have hnm := rt_not_mem_of_binding_none hi hb
  have hf : ∀ st, s.rt.storage = some st → st.mapping.find? (fun e => e.id == id) = none := by
    intro st hs
    exact find?_none_of_not_mem_ids (by simpa [omap, hs] using hnm)
  have hins : pendInsert s.rt.pending id = s.rt.pending ++ [id] := by simp [pendInsert, hp, hlt]
  exact ⟨hins ▸ step_iff.mpr (.ccAsk hf (by simpa using hp) hw), hz, inv_request hi id hnm hp⟩

theorem step_cc_ok {P s} (h : Inv P s) (id val : Nat) (hz : hazardK2 s (.cc id val) = false) :
    ∃ s' out, step P s (.cc id val) = some (s', out) ∧ Inv P s' := by
  rcases s.rt.entry_cases id with hf | ⟨st, e, hs, hf⟩
  · by_cases hc : s.rt.pending.contains id = false ∧ s.rt.watch ≠ 0
    · have hany : s.rt.knows id = false := by
        cases hs : s.rt.storage with
        | none => simp [RT.knows, hs]
        | some st => simp only [RT.knows, hs]; exact List.any_eq_false.mpr (List.find?_eq_none.mp (hf st hs))
      have hlen : s.rt.pending.length ≤ 31 := by
        rcases hazardK2_cc.mp hz with h1 | h1 | h1 | h1
        · rw [hany] at h1; cases h1
        · rw [hc.1] at h1; cases h1
        · exact absurd h1 hc.2
        · exact h1
      have c := cc_request_ok (val := val) h (RT.binding_of_miss hf) (by simpa using hc.1) hc.2 hlen
      exact ⟨_, _, c.step, c.inv⟩
    · exact ⟨s, _, step_iff.mpr (.ccDrop hf hc), h⟩
  · obtain ⟨old, cb, hv, hcb⟩ := (h.rts st hs).entry (List.mem_of_find?_eq_some hf)
    exact ⟨_, _, step_iff.mpr (.ccHit hs hf hv hcb), inv_rt_values h st hs _ (List.length_set ..)⟩
theorem step_deliverRT_ok {P s} (h : Inv P s) (hz : hazardK2 s .deliverRT = false) :
    ∃ s', step P s .deliverRT = some (s', []) ∧ Inv P s' := by
  cases hq : s.toRT with
  | nil => exact ⟨s, step_iff.mpr (.idle (.inl ⟨rfl, hq⟩)), h⟩
  | cons m rest =>
    cases m with
    | addWatch =>
      refine ⟨_, step_iff.mpr (.watch hq), ?_⟩
      have hfl : flightOf s.toRT = flightOf rest := by simp [hq, flightOf]
      have hw : watchesOf s.toRT = watchesOf rest + 1 := by simp [hq, watchesOf]
      exact { h with
        fl := by simpa [hfl] using h.fl
        chain := by simpa [hfl] using h.chain
        last := by simpa [hfl] using h.last
        pend := by simpa [hfl] using h.pend
        watch := by have := h.watch; simp only; omega }
    | bind ns ans =>
      have hfl : flightOf s.toRT = (ns, ans) :: flightOf rest := by simp [hq, flightOf]
      have hw : watchesOf s.toRT = watchesOf rest := by simp [hq, watchesOf]
      have hns : StOk ns := h.fl (ns, ans) (by simp [hfl])
      have hchain := h.chain; rw [hfl] at hchain
      have hlast := h.last; rw [hfl] at hlast; simp only [lastShape] at hlast
      have hpend := h.pend; rw [hfl, answers_cons] at hpend
      -- what `pending.pop()` leaves
      have hdrop : s.rt.pending.drop 1 = answers (flightOf rest) ++ s.toNRT := by
        cases ans with
        | some id => simp [hpend]
        | none =>
          have he : s.rt.pending = [] := ((hazardK2_deliverRT_bind hq).mp hz).resolve_left fun h => h rfl
          rw [he] at hpend ⊢
          simpa using hpend
      have hnd : (s.rt.pending.drop 1).Nodup := List.Nodup.sublist (List.drop_sublist _ _) h.pnd
      -- the snapshot the RT half ends up with
      have key : ∀ ns' : Storage, ns'.mapping = ns.mapping → ns'.shape = ns.shape → StOk ns' →
          Inv P { s with rt := { s.rt with pending := s.rt.pending.drop 1, storage := some ns' }, toRT := rest } := by
        intro ns' hm hsh hok
        exact { h with
          fl := fun x hx => h.fl x (by rw [hfl]; exact List.mem_cons_of_mem _ hx)
          rts := fun st hst => by cases hst; exact hok
          chain := by simpa [omap, hm] using hchain.2
          last := by rw [← hlast]; apply lastShape_congr; simp [hsh]
          pend := hdrop
          pnd := hnd
          watch := by have := h.watch; simp only; omega }
      cases hs : s.rt.storage with
      | none =>
        exact ⟨_, step_iff.mpr (.bind hq (Or.inl ⟨hs, rfl⟩)), key ns rfl rfl hns⟩
      | some old =>
        obtain ⟨v, hv, hlen⟩ := cloneValues_ok hns (h.rts old hs)
        exact ⟨_, step_iff.mpr (.bind hq (Or.inr ⟨old, hs, hv⟩)), key { ns with values := v } rfl
          (by simp [Storage.shape, hlen]) (stOk_values hns v hlen)⟩

/-- **Preservation**: a hazard-free step on well-formed input never crashes and keeps the
    invariant. -/
theorem inv_step {P s op} (h : Inv P s) (hwf : op.wf P) (hz : hazard s op = false) :
    ∃ s' out, step P s op = some (s', out) ∧ Inv P s' := by
  obtain ⟨h1, h2⟩ := hazard_iff.mp hz
  have nrt : ((∃ a k, op = .map a k) ∨ (∃ a k, op = .unmap a k) ∨ op = .clear ∨ (op = .deliverNRT ∧ s.toNRT ≠ [])) →
      ∃ s' out, step P s op = some (s', out) ∧ Inv P s' := fun hop => by
    have hk1 : op = .deliverNRT → s.nrt.learnQ ≠ [] := by
      rintro rfl
      rcases hop with ⟨_, _, e⟩ | ⟨_, _, e⟩ | e | ⟨-, hne⟩
      · cases e
      · cases e
      · cases e
      · exact (hazardK1_deliverNRT.mp h1).resolve_left hne
    obtain ⟨n', ms, q', hn⟩ := nrtStep_total (q := s.toNRT) h.nrt hwf.map hop hk1
      (fun id hid => h.c1 id (List.mem_of_mem_head? hid))
    exact ⟨_, _, step_iff.mpr (.nrt hn), inv_nrt h hn hwf.map h1⟩
  cases op with
  | map a k => exact nrt (.inl ⟨a, k, rfl⟩)
  | unmap a k => exact nrt (.inr (.inl ⟨a, k, rfl⟩))
  | clear => exact nrt (.inr (.inr (.inl rfl)))
  | cc id val => exact step_cc_ok h id val h2
  | deliverRT => obtain ⟨s', he, hi⟩ := step_deliverRT_ok h h2; exact ⟨s', [], he, hi⟩
  | deliverNRT =>
    by_cases hq : s.toNRT = []
    · exact ⟨s, [], step_iff.mpr (.idle (.inr ⟨rfl, hq⟩)), h⟩
    · exact nrt (.inr (.inr (.inr ⟨rfl, hq⟩)))

theorem inv_of_trace {P h s} (t : Trace P h s) (hf : HazardFree h) : Inv P s := by
  induction t with
  | init => exact inv_init P
  | step t hwf hs ih =>
    rename_i h0 s0 s1 op out
    have hi := ih (fun x hx => hf x (List.mem_cons_of_mem _ hx))
    have hz : hazard s0 op = false := hf (s0, op) List.mem_cons_self
    obtain ⟨s', out', he, hinv⟩ := inv_step hi hwf hz
    rw [hs] at he; cases he; exact hinv

theorem anyStep_hazard (P : List PortSpec) : ∀ (ops : List Op) (s : Sys),
    anyStep hazard P s ops = (anyStep hazardK1 P s ops || anyStep hazardK2 P s ops) := by
  intro ops
  induction ops with
  | nil => intro s; rfl
  | cons op ops ih =>
    intro s
    simp only [anyStep, hazard]
    cases hs : step P s op with
    | none => simp
    | some r => simp only [ih r.1]; cases hazardK1 s op <;> cases hazardK2 s op <;> simp

end Rtosc.Midi
