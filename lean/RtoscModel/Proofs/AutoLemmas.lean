/-
  C19 — helper lemmas for Props/C19.lean about the automations: what `bindInfo` stores in terms
  of the port, the invariant `Good` (kept by `autosStep`, Proofs/AutoStep.lean) and the invariant
  `Inv` of reachable states (with the queue part from Proofs/AutoQueue.lean), the order lemmas
  about `clamp`, `mapping` and `emit`, and the order laws of exact rational arithmetic.
-/
import RtoscModel.AutoSpecLog
import RtoscModel.Proofs.AutoQueue
namespace Rtosc.Auto
open Rtosc
variable {F : Type}

theorem allAutos_iff (m : Mgr F) (P : Automation F → Prop) :
    AllAutos m P ↔ ∀ l ∈ autosOf m, ∀ au ∈ l, P au := by
  simp only [AllAutos, autosOf, List.mem_map]
  constructor
  · rintro h l ⟨sl, hsl, rfl⟩ au hau; exact h sl hsl au hau
  · intro h sl hsl au hau; exact h sl.autos ⟨sl, hsl, rfl⟩ au hau

theorem fromPort_congr (A : Arith F) (au au' : Automation F) (h : FromPort A au)
    (h0 : au'.bound = au.bound)
    (h1 : au'.path = au.path) (h2 : au'.ty = au.ty) (h3 : au'.pmin = au.pmin) (h4 : au'.pmax = au.pmax)
    (h5 : au'.logScale = au.logScale) : FromPort A au' := by
  obtain ⟨au0, b, path, p, hw, hp, hl, hb, e0, e1, e2, e3, e4, e5⟩ := h
  exact ⟨au0, b, path, p, hw, hp, hl, hb, h0.trans e0, h1.trans e1, h2.trans e2, h3.trans e3, h4.trans e4,
    h5.trans e5⟩

theorem good_remap (A : Arith F) (au : Automation F) (h : au.used = true → FromPort A au)
    (h' : au.used = false → au.bound = none) :
    Good A (Automation.remap A au) := by
  refine ⟨?_, h'⟩
  intro hu
  exact ⟨fromPort_congr A au _ (h hu) rfl rfl rfl rfl rfl rfl, rfl⟩

theorem good_gain (A : Arith F) (au : Automation F) (x : F) (h : Good A au) :
    Good A (Automation.remap A { au with gain := x }) :=
  good_remap A _ (fun hu => fromPort_congr A au _ (h.1 hu).1 rfl rfl rfl rfl rfl rfl) h.2

theorem good_offset (A : Arith F) (au : Automation F) (x : F) (h : Good A au) :
    Good A (Automation.remap A { au with offset := x }) :=
  good_remap A _ (fun hu => fromPort_congr A au _ (h.1 hu).1 rfl rfl rfl rfl rfl rfl) h.2

theorem good_clear (A : Arith F) (au : Automation F) : Good A (Automation.clear A au) := by
  refine ⟨?_, fun _ => rfl⟩
  intro hu; simp [Automation.clear] at hu

theorem portType_cases (p : PortInfo F) : portType p = 'i' ∨ portType p = 'f' ∨ portType p = 'T' := by
  unfold portType; split
  · exact Or.inr (Or.inl rfl)
  · split
    · exact Or.inr (Or.inr rfl)
    · exact Or.inl rfl

theorem portType_log {A : Arith F} {p : PortInfo F} (hw : PortWF A p) (hs : p.scaleLog = true) :
    portType p = 'i' ∨ portType p = 'f' := by
  unfold portType
  cases hF : p.hasF
  · cases hT : p.hasT
    · exact Or.inl rfl
    · exact absurd ((hw.2.1 hF hT).symm.trans hs) (by decide)
  · exact Or.inr rfl

theorem portWF_of_bounds (A : Arith F) (p : PortInfo F) (mn mx : F) (hT : portType p ≠ 'T')
    (hmn : p.min = some mn) (hmx : p.max = some mx) (hle : A.le mn mx = true)
    (hlm : ∀ l, p.logmin = some l → A.le l mx = true)
    (hpos : p.scaleLog = true → A.le ((p.logmin.map A.to32).getD (A.to32 mn)) A.zero = false) :
    PortWF A p := by
  refine ⟨fun mn' mx' h1 h2 => ?_, fun hF hT' => ?_, fun hs lo hi hr => ?_⟩
  · cases hmn.symm.trans h1; cases hmx.symm.trans h2; exact ⟨hle, hlm⟩
  · exact absurd (by simp [portType, hF, hT']) hT
  · rw [portRange, if_neg hT, hmn, hmx] at hr
    cases hr
    simpa [hs] using hpos hs

/-- the hypothesis excludes a log-scale toggle (as `PortWF` does): for such a port `bindInfo`
    takes `logf` of `logmin` (of 0 if none is declared) and of 1 while `portRange` stays 0..1 -/
theorem bindInfo_eq (A : Arith F) (au : Automation F) (path : Bytes) (p : PortInfo F)
    (hT : p.hasF = false → p.hasT = true → p.scaleLog = false) :
    bindInfo A au path p = (portRange A p).map fun r =>
      { au with used := true, ty := portType p, path := path.take 127, bound := some (path, p),
                logScale := p.scaleLog,
                pmin := if p.scaleLog then A.logf r.1 else r.1,
                pmax := if p.scaleLog then A.logf r.2 else r.2 } := by
  unfold bindInfo portRange portType
  cases hF : p.hasF <;> cases hT' : p.hasT
  -- a toggle: the range is 0..1 and, by `hT`, the scale is linear
  case false.true => simp [hT hF hT']
  -- an integer or a float: both sides fail unless `min` and `max` are declared, and then agree
  -- for a linear scale and for a logarithmic one with and without `logmin`
  all_goals
    simp only [Bool.false_eq_true, ↓reduceIte, Char.reduceEq]
    cases p.min with
    | none => rfl
    | some mn =>
      cases p.max with
      | none => rfl
      | some mx => cases p.scaleLog <;> cases p.logmin <;> rfl

theorem portRange_ordered (A : Arith F) (h01 : A.le A.zero A.one = true)
    (hto : ∀ x y, A.le x y = true → A.le (A.to32 x) (A.to32 y) = true) (p : PortInfo F) (hw : PortWF A p)
    {lo hi : F} (hr : portRange A p = some (lo, hi)) : A.le lo hi = true := by
  unfold portRange at hr
  split at hr
  · cases hr; exact h01
  · split at hr
    · rename_i mn mx hmn hmx
      obtain ⟨h1, h2⟩ := hw.1 mn mx hmn hmx
      cases hr
      split
      · cases hl : p.logmin with
        | none => exact hto _ _ h1
        | some l => exact hto _ _ (h2 l hl)
      · exact hto _ _ h1
    · cases hr

theorem portUsable_some (port : Option (PortInfo F)) (p : PortInfo F) (h : portUsable port = some p) :
    port = some p ∧ portUsable (some p) = some p := by
  unfold portUsable at h
  split at h
  · cases h
  · rename_i p0
    split at h
    · cases h
    · split at h
      · cases h
      · cases h
        refine ⟨rfl, ?_⟩
        simp only [portUsable]
        simp_all

theorem good_bound (A : Arith F) (au au1 : Automation F) (path : Bytes) (p : PortInfo F)
    (hw : PortWF A p) (hp : portUsable (some p) = some p) (hl : path.length ≤ 127)
    (hb : bindInfo A au path p = some au1) : FromPort A au1 :=
  ⟨au, au1, path, p, hw, hp, hl, hb, (bindInfo_bound A au au1 path p hb).1, rfl, rfl, rfl, rfl, rfl⟩

theorem good_fill (A : Arith F) (path : Bytes) (p : PortInfo F) (reset : Bool) (au : Automation F)
    (hw : PortWF A p) (hp : portUsable (some p) = some p) (hl : path.length ≤ 127) (hg : Good A au) :
    Good A (fillAuto A path p reset au) := by
  unfold fillAuto
  split
  · exact hg
  · rename_i au1 hbi
    have hb := bindInfo_bound A au au1 path p hbi
    refine good_remap A _ (fun _ => fromPort_congr A au1 _ (good_bound A au au1 path p hw hp hl hbi) ?_ ?_ ?_ ?_ ?_ ?_)
      (fun hu => ?_)
    all_goals cases reset <;> first | rfl | (simp only [Bool.false_eq_true, ↓reduceIte] at hu; rw [hb.2] at hu; cases hu)

theorem good_autosStep (A : Arith F) (per : Nat) (T : List (List (Automation F))) (op : Op F) (hwf : OpWF A op)
    (h : ∀ row ∈ T, ∀ au ∈ row, Good A au) : ∀ row ∈ autosStep A per T op, ∀ au ∈ row, Good A au := by
  cases op with
  | bind s path port learn =>
    simp only [autosStep]
    split
    · exact h
    · rename_i p hp
      obtain ⟨hport, hp'⟩ := portUsable_some port p hp
      refine all_modify (P := fun row => ∀ au ∈ row, Good A au) h _ fun row hr => ?_
      split
      · exact all_modify hr _ fun au => good_fill A path p true au (hwf.2 p hport) hp' hwf.1
      · exact hr
  | setPath s j path port =>
    simp only [autosStep]
    split
    · exact h
    · split
      · exact h
      · rename_i p hp
        obtain ⟨hport, hp'⟩ := portUsable_some port p hp
        exact all_modify₂ h _ _ fun au => good_fill A path p false au (hwf.2 p hport) hp' hwf.1
  | clearSlot s =>
    simp only [autosStep]
    split
    · exact h
    · refine all_modify (P := fun row => ∀ au ∈ row, Good A au) h _ fun row _ au hau => ?_
      obtain ⟨a0, _, rfl⟩ := List.mem_map.1 hau
      exact good_clear A a0
  | clearSub s j => simp only [autosStep, subFn]; split; exact h; exact all_modify₂ h _ _ fun au _ => good_clear A au
  | gain s j x => simp only [autosStep, subFn]; split; exact h; exact all_modify₂ h _ _ fun au => good_gain A au x
  | offset s j x => simp only [autosStep, subFn]; split; exact h; exact all_modify₂ h _ _ fun au => good_offset A au x
  | setSlot s x => exact h
  | setSub s j x => exact h
  | midi c t v => exact h

theorem good_step (A : Arith F) (m m' : Mgr F) (op : Op F) (ms : List (Msg F)) (hwf : OpWF A op)
    (ha : AllAutos m (Good A)) (hs : step A m op = some (m', ms)) : AllAutos m' (Good A) := by
  rw [allAutos_iff] at ha ⊢
  rw [(step_views hs).2.2.1]
  exact good_autosStep A _ _ op hwf ha

theorem good_init (A : Arith F) (n p : Nat) : AllAutos (Mgr.init A n p) (Good A) := by
  intro sl hsl au hau
  simp only [Mgr.init, List.mem_replicate] at hsl
  rw [hsl.2] at hau
  simp only [Slot.init, List.mem_replicate] at hau
  rw [hau.2]
  refine ⟨?_, fun _ => rfl⟩
  intro hu
  simp [Automation.init] at hu

structure Inv (A : Arith F) (m : Mgr F) : Prop where
  queue : ∃ Q, Refines m Q
  uniq : ∀ n, Uniq (selOf n) (keys m)
  good : AllAutos m (Good A)

theorem inv_reachable (A : Arith F) (n p : Nat) (m : Mgr F) (h : Reachable A n p m) : Inv A m := by
  induction h with
  | init => exact ⟨⟨[], refines_init A n p⟩, uniq_init A n p, good_init A n p⟩
  | step hr hwf hs ih =>
    obtain ⟨Q, hq⟩ := ih.queue
    exact ⟨⟨_, refines_step A _ _ Q _ _ hq hs⟩, fun b => uniq_step A _ _ _ _ b (ih.uniq b) hs,
      good_step A _ _ _ _ hwf ih.good hs⟩

theorem Laws.le_refl {A : Arith F} (L : Laws A) (x : F) : A.le x x = true := by
  rcases L.le_total x x with h | h <;> exact h

theorem le_of_not_le {A : Arith F} (L : Laws A) {x y : F} (h : ¬ A.le x y = true) : A.le y x = true := by
  rcases L.le_total x y with h' | h'
  · exact absurd h' h
  · exact h'

theorem clamp_of_mem (A : Arith F) {mn mx v : F} (h1 : A.le mn v = true) (h2 : A.le v mx = true) :
    clamp A mn mx v = v := by
  simp [clamp, Arith.gt, h1, h2]

theorem clamp_range {A : Arith F} (L : Laws A) (mn mx v : F) (h : A.le mn mx = true) :
    A.le mn (clamp A mn mx v) = true ∧ A.le (clamp A mn mx v) mx = true := by
  unfold clamp Arith.gt
  by_cases h1 : A.le v mx = true
  · by_cases h2 : A.le mn v = true
    · simp [h1, h2]
    · simp [h1, h2, h, L.le_refl]
  · simp [h1, h, L.le_refl]

theorem clamp_mono {A : Arith F} (L : Laws A) (mn mx x y : F) (h : A.le mn mx = true) (hxy : A.le x y = true) :
    A.le (clamp A mn mx x) (clamp A mn mx y) = true := by
  have hy := clamp_range L mn mx y h
  by_cases h1 : A.le x mx = true
  · by_cases h2 : A.le mn x = true
    · rw [clamp_of_mem A h2 h1]
      by_cases h3 : A.le y mx = true
      · rw [clamp_of_mem A (L.le_trans _ _ _ h2 hxy) h3]; exact hxy
      · have : clamp A mn mx y = mx := by simp [clamp, Arith.gt, h3]
        rw [this]; exact h1
    · have hx : clamp A mn mx x = mn := by simp [clamp, Arith.gt, h1, h2]
      rw [hx]; exact hy.1
  · have hx : clamp A mn mx x = mx := by simp [clamp, Arith.gt, h1]
    have h3 : ¬ A.le y mx = true := fun h3 => h1 (L.le_trans _ _ _ hxy h3)
    have : clamp A mn mx y = mx := by simp [clamp, Arith.gt, h3]
    rw [hx, this]; exact L.le_refl mx

theorem mapping_ordered {A : Arith F} (L : Laws A) (mn mx gain offset : F) (hm : A.le mn mx = true)
    (hg : A.le A.zero gain = true) :
    A.le (mapping A mn mx gain offset).1 (mapping A mn mx gain offset).2 = true := by
  simp only [mapping]
  have h1 : A.le A.zero (A.mul32 (A.sub32 mx mn) gain) = true := L.mul32_nonneg _ _ (L.sub32_nonneg _ _ hm) hg
  have h2 : A.le A.zero (A.div64 (A.mul32 (A.sub32 mx mn) gain) A.hundred) = true :=
    L.div64_nonneg _ _ h1 L.zero_le_hundred
  have h3 : A.le A.zero (A.to32 (A.div64 (A.mul32 (A.sub32 mx mn) gain) A.hundred)) = true := by
    have := L.to32_mono _ _ h2
    rwa [L.to32_zero] at this
  have h4 := L.div64_nonneg _ _ h3 L.zero_le_two
  exact L.to32_mono _ _ (L.sub64_le_add64 _ _ h4)

theorem fromPort_spec (A : Arith F) (au : Automation F) (h : FromPort A au) :
    ∃ path p lo hi, au.bound = some (path, p) ∧ PortWF A p ∧ portUsable (some p) = some p ∧
      portRange A p = some (lo, hi) ∧ au.path = path ∧ au.ty = portType p ∧ au.logScale = p.scaleLog ∧
      au.pmin = (if p.scaleLog then A.logf lo else lo) ∧ au.pmax = (if p.scaleLog then A.logf hi else hi) := by
  obtain ⟨au0, b, path, p, hw, hp, hl, hb, e0, e1, e2, e3, e4, e5⟩ := h
  rw [bindInfo_eq A au0 path p hw.2.1, Option.map_eq_some_iff] at hb
  obtain ⟨⟨lo, hi⟩, hr, rfl⟩ := hb
  exact ⟨path, p, lo, hi, e0, hw, hp, hr, e1.trans (List.take_of_length_le hl), e2, e5, e3, e4⟩

theorem fromPort_facts {A : Arith F} (L : Laws A) (au : Automation F) (h : FromPort A au) :
    (au.ty = 'i' ∨ au.ty = 'f' ∨ au.ty = 'T') ∧ A.le au.pmin au.pmax = true := by
  obtain ⟨path, p, lo, hi, _, hw, _, hr, _, e2, _, e3, e4⟩ := fromPort_spec A au h
  rw [e2, e3, e4]
  have hle := portRange_ordered A L.zero_le_one L.to32_mono p hw hr
  refine ⟨portType_cases p, ?_⟩
  cases hs : p.scaleLog
  · exact hle
  · exact L.logf_mono _ _ (hw.2.2 hs lo hi hr) hle

theorem emit_unused (A : Arith F) (au : Automation F) (x : F) (hu : au.used = false) : emit A au x = [] := by
  simp [emit, hu]

theorem emit_int (A : Arith F) (au : Automation F) (x : F) (hu : au.used = true) (ht : au.ty = 'i') :
    emit A au x =
      let c := clamp A au.pmin au.pmax (A.add32 (A.mul32 x (A.sub32 au.cp3 au.cp1)) au.cp1)
      if au.logScale then
        [{ addr := au.path, ty := 'i', val := .int (A.toInt (A.roundf (A.expf c))), expArg := some c }]
      else [{ addr := au.path, ty := 'i', val := .int (A.toInt (A.roundf c)) }] := by
  simp only [emit, hu, ht, Bool.not_true, Bool.false_eq_true, ↓reduceIte]

theorem emit_flt (A : Arith F) (au : Automation F) (x : F) (hu : au.used = true) (ht : au.ty = 'f') :
    emit A au x =
      let c := clamp A au.pmin au.pmax (A.add32 (A.mul32 x (A.sub32 au.cp3 au.cp1)) au.cp1)
      if au.logScale then [{ addr := au.path, ty := 'f', val := .flt (A.expf c), expArg := some c }]
      else [{ addr := au.path, ty := 'f', val := .flt c }] := by
  simp only [emit, hu, ht, Bool.not_true, Bool.false_eq_true, ↓reduceIte, show ¬ ('f' = 'i') by decide]

theorem emit_toggle (A : Arith F) (au : Automation F) (x : F) (hu : au.used = true) (ht : au.ty = 'T') :
    emit A au x =
      [{ addr := au.path,
         ty := if A.gt (A.add32 (A.mul32 x (A.sub32 au.cp3 au.cp1)) au.cp1) A.half then 'T' else 'F',
         val := .none }] := by
  simp only [emit, hu, ht, Bool.not_true, Bool.false_eq_true, ↓reduceIte, show ¬ ('T' = 'i') by decide,
    show ¬ ('T' = 'f') by decide, decide_true, Bool.true_or]

theorem emit_ok {A : Arith F} (L : Laws A) (au : Automation F) (x : F) (msg : Msg F) (hg : Good A au)
    (hmsg : msg ∈ emit A au x) : au.used = true ∧ MsgOK A au msg := by
  by_cases hu : au.used = true
  · refine ⟨hu, ?_⟩
    obtain ⟨hty, hle⟩ := fromPort_facts L au (hg.1 hu).1
    have hr := clamp_range L au.pmin au.pmax (A.add32 (A.mul32 x (A.sub32 au.cp3 au.cp1)) au.cp1) hle
    rcases hty with hi | hf | hT
    · rw [emit_int A au x hu hi] at hmsg
      by_cases hl : au.logScale = true
      · simp only [hl, ↓reduceIte, List.mem_singleton] at hmsg
        subst hmsg
        exact ⟨rfl, Or.inr (Or.inl ⟨hi, hl, rfl, _, rfl,
          L.toInt_mono _ _ (L.roundf_mono _ _ (L.expf_mono _ _ hr.1)),
          L.toInt_mono _ _ (L.roundf_mono _ _ (L.expf_mono _ _ hr.2))⟩)⟩
      · have hl' : au.logScale = false := by simpa using hl
        simp only [hl', Bool.false_eq_true, ↓reduceIte, List.mem_singleton] at hmsg
        subst hmsg
        exact ⟨rfl, Or.inl ⟨hi, hl', rfl, _, rfl, L.toInt_mono _ _ (L.roundf_mono _ _ hr.1),
          L.toInt_mono _ _ (L.roundf_mono _ _ hr.2)⟩⟩
    · rw [emit_flt A au x hu hf] at hmsg
      by_cases hl : au.logScale = true
      · simp only [hl, ↓reduceIte, List.mem_singleton] at hmsg
        subst hmsg
        exact ⟨rfl, Or.inr (Or.inr (Or.inr (Or.inl ⟨hf, hl, rfl, _, rfl, L.expf_mono _ _ hr.1, L.expf_mono _ _ hr.2⟩)))⟩
      · have hl' : au.logScale = false := by simpa using hl
        simp only [hl', Bool.false_eq_true, ↓reduceIte, List.mem_singleton] at hmsg
        subst hmsg
        exact ⟨rfl, Or.inr (Or.inr (Or.inl ⟨hf, hl', rfl, _, rfl, hr.1, hr.2⟩))⟩
    · rw [emit_toggle A au x hu hT, List.mem_singleton] at hmsg
      subst hmsg
      refine ⟨rfl, Or.inr (Or.inr (Or.inr (Or.inr ⟨hT, ?_, rfl⟩)))⟩
      simp only
      split
      · left; rfl
      · right; rfl
  · rw [emit_unused A au x (by simpa using hu)] at hmsg
    cases hmsg

theorem emit_log (A : Arith F) (au : Automation F) (x : F) (hu : au.used = true)
    (hty : au.ty = 'i' ∨ au.ty = 'f') (hl : au.logScale = true) :
    emit A au x =
      let c := clamp A au.pmin au.pmax (A.add32 (A.mul32 x (A.sub32 au.cp3 au.cp1)) au.cp1)
      [ if au.ty = 'i' then
          { addr := au.path, ty := 'i', val := .int (A.toInt (A.roundf (A.expf c))), expArg := some c }
        else { addr := au.path, ty := 'f', val := .flt (A.expf c), expArg := some c } ] := by
  rcases hty with hi | hf
  · rw [emit_int A au x hu hi]; simp only [hl, hi, ↓reduceIte]
  · rw [emit_flt A au x hu hf]; simp only [hl, hf, ↓reduceIte, show ¬ ('f' = 'i') by decide]

/-- `MsgOK` for an automation that still holds what was bound is the specification `MsgOKPort`
    for the port its ghost field remembers -/
theorem msgOK_port (A : Arith F) (au : Automation F) (msg : Msg F) (h : FromPort A au)
    (hm : MsgOK A au msg) :
    ∃ path p, au.bound = some (path, p) ∧ PortWF A p ∧ portUsable (some p) = some p ∧
      MsgOKPort A path p msg := by
  obtain ⟨path, p, lo, hi, e0, hw, hp, hr, e1, e2, e5, e3, e4⟩ := fromPort_spec A au h
  obtain ⟨ha, hm⟩ := hm
  refine ⟨path, p, e0, hw, hp, ha.trans e1, lo, hi, hr, ?_⟩
  rw [e2, e5, e3, e4] at hm
  rcases hm with ⟨h1, h2, r⟩ | ⟨h1, h2, r⟩ | ⟨h1, h2, r⟩ | ⟨h1, h2, r⟩ | r
  · simp only [h2, Bool.false_eq_true, ↓reduceIte] at r; exact Or.inl ⟨h1, h2, r⟩
  · simp only [h2, ↓reduceIte] at r; exact Or.inr (Or.inl ⟨h1, h2, r⟩)
  · simp only [h2, Bool.false_eq_true, ↓reduceIte] at r; exact Or.inr (Or.inr (Or.inl ⟨h1, h2, r⟩))
  · simp only [h2, ↓reduceIte] at r; exact Or.inr (Or.inr (Or.inr (Or.inl ⟨h1, h2, r⟩)))
  · exact Or.inr (Or.inr (Or.inr (Or.inr r)))

theorem emit_mono {A : Arith F} (L : Laws A) (au : Automation F) (x y : F) (hg : Good A au)
    (hu : au.used = true) (hgain : A.le A.zero au.gain = true) (hxy : A.le x y = true) :
    MsgsLe A (emit A au x) (emit A au y) := by
  obtain ⟨hfp, hcp⟩ := hg.1 hu
  obtain ⟨hty, hm⟩ := fromPort_facts L au hfp
  have hv : A.le (A.add32 (A.mul32 x (A.sub32 au.cp3 au.cp1)) au.cp1)
           (A.add32 (A.mul32 y (A.sub32 au.cp3 au.cp1)) au.cp1) = true := by
    have hab := mapping_ordered L au.pmin au.pmax au.gain au.offset hm hgain
    rw [← hcp] at hab
    exact L.add32_mono _ _ _ (L.mul32_mono _ _ _ hxy (L.sub32_nonneg _ _ hab))
  have hc := clamp_mono L _ _ _ _ hm hv
  rcases hty with hi | hf | hT
  · rw [emit_int A au x hu hi, emit_int A au y hu hi]
    split
    · exact ⟨⟨rfl, rfl, L.toInt_mono _ _ (L.roundf_mono _ _ (L.expf_mono _ _ hc))⟩, trivial⟩
    · exact ⟨⟨rfl, rfl, L.toInt_mono _ _ (L.roundf_mono _ _ hc)⟩, trivial⟩
  · rw [emit_flt A au x hu hf, emit_flt A au y hu hf]
    split
    · exact ⟨⟨rfl, rfl, L.expf_mono _ _ hc⟩, trivial⟩
    · exact ⟨⟨rfl, rfl, hc⟩, trivial⟩
  · rw [emit_toggle A au x hu hT, emit_toggle A au y hu hT]
    refine ⟨⟨rfl, ?_⟩, trivial⟩
    simp only [Arith.gt]
    by_cases h1 : A.le (A.add32 (A.mul32 x (A.sub32 au.cp3 au.cp1)) au.cp1) A.half = true
    · by_cases h2 : A.le (A.add32 (A.mul32 y (A.sub32 au.cp3 au.cp1)) au.cp1) A.half = true
      · simp [h1, h2]
      · simp [h1, h2]
    · have h2 : ¬ A.le (A.add32 (A.mul32 y (A.sub32 au.cp3 au.cp1)) au.cp1) A.half = true :=
        fun h2 => h1 (L.le_trans _ _ _ hv h2)
      simp [h1, h2]
theorem floor_nonneg {x : Rat} (h : 0 ≤ x) : 0 ≤ x.floor := by
  have := Rat.le_floor_iff (x := 0) (a := x)
  simp at this
  exact this.mpr h

/-- the odd extension `x ↦ −f(−x)` (for `x < 0`) of a monotone `f` that is non-negative on
    non-negative arguments is monotone: the shape of `truncInt` and `roundAway` -/
theorem oddExt_mono {f : Rat → Int} (hm : ∀ a b, a ≤ b → f a ≤ f b) (h0 : ∀ a, 0 ≤ a → 0 ≤ f a)
    {x y : Rat} (h : x ≤ y) : (if x < 0 then -f (-x) else f x) ≤ (if y < 0 then -f (-y) else f y) := by
  by_cases hx : x < 0 <;> by_cases hy : y < 0 <;> simp only [hx, hy, ↓reduceIte]
  · have := hm (-y) (-x) (Rat.neg_le_neg h); omega
  · have := h0 (-x) (by grind); have := h0 y (by grind); omega
  · exfalso; grind
  · exact hm x y h

theorem truncInt_mono {x y : Rat} (h : x ≤ y) : truncInt x ≤ truncInt y :=
  oddExt_mono (fun _ _ => Rat.floor_monotone) (fun _ => floor_nonneg) h

theorem roundAway_mono {x y : Rat} (h : x ≤ y) : roundAway x ≤ roundAway y := by
  have e : ∀ z : Rat, roundAway z =
      ((if z < 0 then -(fun a : Rat => (a + 1/2).floor) (-z) else (fun a : Rat => (a + 1/2).floor) z : Int) : Rat) := by
    intro z; unfold roundAway; split <;> simp
  rw [e, e]
  exact Rat.intCast_le_intCast.2 (oddExt_mono (f := fun a : Rat => (a + 1/2).floor) (fun a b hab => Rat.floor_monotone (Rat.add_le_add_right.2 hab))
    (fun a ha => floor_nonneg (by grind)) h)

theorem exactLog_laws (lg ex : Rat → Rat) (hlg : ∀ a b : Rat, 0 < a → a ≤ b → lg a ≤ lg b)
    (hex : ∀ a b : Rat, a ≤ b → ex a ≤ ex b) : Laws (exactLog lg ex) := by
  constructor <;> simp only [exactLog, decide_eq_true_eq, decide_eq_false_iff_not, Rat.not_le, id]
  case le_total => intro x y; exact Rat.le_total
  case le_trans => intro x y z; exact Rat.le_trans
  case zero_le_one => decide
  case zero_le_two => decide
  case zero_le_hundred => decide
  case sub32_nonneg => intro x y h; grind
  case mul32_nonneg => intro x y hx hy; exact Rat.mul_nonneg hx hy
  case mul32_mono => intro x y c h hc; exact Rat.mul_le_mul_of_nonneg_right h hc
  case add32_mono => intro x y c h; exact Rat.add_le_add_right.2 h
  case div64_nonneg =>
    intro x y hx hy
    rw [Rat.div_def]
    by_cases hy0 : y = 0
    · subst hy0; simp
    · have : 0 < y := by grind
      exact Rat.mul_nonneg hx (Rat.le_of_lt (Rat.inv_pos.mpr this))
  case sub64_le_add64 => intro c h hh; grind
  case to32_mono => intro x y h; exact h
  case roundf_mono => intro x y h; exact roundAway_mono h
  case toInt_mono => intro x y h; exact truncInt_mono h
  case logf_mono => exact hlg
  case expf_mono => exact hex

theorem exact_laws : Laws exact := exactLog_laws id id (fun _ _ _ h => h) (fun _ _ h => h)

theorem reachable_of_run (A : Arith F) (n p : Nat) (ops : List (Op F)) (m0 m : Mgr F)
    (mss : List (List (Msg F))) (hr : Reachable A n p m0) (hwf : ∀ op ∈ ops, OpWF A op)
    (h : run A m0 ops = some (m, mss)) : Reachable A n p m := by
  induction ops generalizing m0 mss with
  | nil => cases h; exact hr
  | cons op ops ih =>
    rw [run_cons] at h
    obtain ⟨⟨m1, ms⟩, hs, h⟩ := Option.bind_eq_some_iff.mp h
    obtain ⟨⟨m2, mss2⟩, hr2, h⟩ := Option.map_eq_some_iff.mp h
    cases h
    exact ih m1 mss2 (Reachable.step hr (hwf op List.mem_cons_self) hs)
      (fun o ho => hwf o (List.mem_cons_of_mem _ ho)) hr2

end Rtosc.Auto
