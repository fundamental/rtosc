/-
  C09 helper lemmas: `DigitsShort ts` (Walk/DigitsSpec.lean) implies C05's `IdxBounded`
  for the address of every reported pair.
-/
import RtoscModel.Proofs.WalkDispatch
import RtoscModel.Walk.DigitsSpec
namespace Rtosc.Walk
open Rtosc Rtosc.Path Rtosc.Match

theorem runsLe_skip (k : Nat) : ∀ (pre x : Bytes) (acc : Nat), runsLe k acc (pre ++ x) = true →
    ∃ acc', runsLe k acc' x = true := by
  intro pre
  induction pre with
  | nil => intro x acc h; exact ⟨acc, h⟩
  | cons c r ih =>
    intro x acc h
    simp only [List.cons_append, runsLe] at h
    split at h
    · simp only [Bool.and_eq_true] at h; exact ih x _ h.2
    · exact ih x _ h

theorem runsLe_run (k : Nat) : ∀ (run post : Bytes) (acc : Nat), (∀ c ∈ run, Match.isDigit c = true) → run ≠ [] →
    runsLe k acc (run ++ post) = true → acc + run.length ≤ k := by
  intro run
  induction run with
  | nil => intro _ _ _ h; exact absurd rfl h
  | cons c r ih =>
    intro post acc hd _ h
    have hc := hd c List.mem_cons_self
    simp only [List.cons_append, runsLe, hc, ↓reduceIte, Bool.and_eq_true, decide_eq_true_eq] at h
    cases r with
    | nil => simpa using h.1
    | cons c' r' =>
      have := ih post (acc + 1) (fun x hx => hd x (List.mem_cons_of_mem _ hx)) (by simp) h.2
      simp only [List.length_cons] at this ⊢
      omega

/-- no digit run longer than nine characters: every digit run is below 2^31 -/
theorem idxBounded_of_runsLe {a : Bytes} (h : runsLe 9 0 a = true) : IdxBounded a := by
  intro pre run post he hr
  cases run with
  | nil => simp [decVal]
  | cons c r =>
    rw [he, List.append_assoc] at h
    obtain ⟨acc', h'⟩ := runsLe_skip 9 pre _ 0 h
    have hl := runsLe_run 9 (c :: r) post acc' hr (by simp) h'
    have h1 := decVal_lt_pow hr
    have h2 : 10 ^ (c :: r).length ≤ 10 ^ 9 := Nat.pow_le_pow_right (by decide) (by omega)
    omega

theorem runsLe_append (k : Nat) : ∀ (x y : Bytes) (acc : Nat),
    runsLe k acc (x ++ y) = (runsLe k acc x && runsLe k (trail acc x) y) := by
  intro x
  induction x with
  | nil => intro y acc; simp [runsLe, trail]
  | cons c r ih =>
    intro y acc
    simp only [List.cons_append, runsLe, trail]
    split
    · rw [ih, Bool.and_assoc]
    · rw [ih]

theorem runsLe_digits (k : Nat) : ∀ (d y : Bytes) (acc : Nat), (∀ c ∈ d, Match.isDigit c = true) →
    acc + d.length ≤ k → runsLe k acc (d ++ y) = runsLe k (acc + d.length) y := by
  intro d
  induction d with
  | nil => intro y acc _ _; simp
  | cons c r ih =>
    intro y acc hd hl
    have hc := hd c List.mem_cons_self
    simp only [List.length_cons] at hl
    have h1 : acc + 1 ≤ k := by omega
    simp only [List.cons_append, runsLe, hc, ↓reduceIte, h1, decide_true, Bool.true_and, List.length_cons]
    rw [ih y (acc + 1) (fun x hx => hd x (List.mem_cons_of_mem _ hx)) (by omega)]
    congr 1
    omega

theorem runsLe_nodigit (k : Nat) (y : Bytes) (acc : Nat) (h : startsWithDigit y = false) :
    runsLe k acc y = runsLe k 0 y := by
  cases y with
  | nil => rfl
  | cons c r =>
    simp only [startsWithDigit] at h
    simp [runsLe, h]

theorem trail_nodigit (y : Bytes) (acc : Nat) (h : startsWithDigit y = false) (hne : y ≠ []) :
    trail acc y = trail 0 y := by
  cases y with
  | nil => exact absurd rfl hne
  | cons c r =>
    simp only [startsWithDigit] at h
    simp [trail, h]

theorem natDigits_le (ds : Bytes) (hnum : numOk ds = true) (i : Nat) (hi : i < decVal ds) :
    (natDigits i).length ≤ ds.length := by
  obtain ⟨hne, hd, _⟩ := numOk_spec hnum
  have h1 : 1 ≤ ds.length := by
    cases ds with
    | nil => exact absurd rfl hne
    | cons _ _ => simp
  exact natDigitsF_length i i ds.length h1 (Nat.lt_trans hi (decVal_lt_pow hd))

theorem runsLe_expand (k : Nat) : ∀ (ps : List (Bytes × Bytes)) (a y : Bytes) (acc : Nat), partsOk ps = true →
    partsRuns k acc ps = true → a ∈ expandParts ps → startsWithDigit y = false → runsLe k 0 y = true →
    runsLe k acc (a ++ y) = true := by
  intro ps
  induction ps with
  | nil =>
    intro a y acc _ _ ha hy hr
    simp [expandParts] at ha
    subst ha
    rw [List.nil_append, runsLe_nodigit k y acc hy]
    exact hr
  | cons p r ih =>
    obtain ⟨ds, t⟩ := p
    intro a y acc hok hpr ha hy hr
    obtain ⟨hnum, _, htd, htr, hrest⟩ := partsOk_cons hok
    simp only [partsRuns, Bool.and_eq_true, decide_eq_true_eq] at hpr
    obtain ⟨i, hi, a', ha', rfl⟩ := mem_expandParts_cons.mp ha
    have hlen := natDigits_le ds hnum i hi
    have e : natDigits i ++ t ++ a' ++ y = natDigits i ++ (t ++ (a' ++ y)) := by simp
    rw [e, runsLe_digits k _ _ acc (natDigits_digits i) (by omega)]
    cases t with
    | nil =>
      have hr' : r = [] := by
        rcases htr with h | h
        · exact absurd rfl h
        · exact h
      subst hr'
      simp [expandParts] at ha'
      subst ha'
      rw [List.nil_append, List.nil_append, runsLe_nodigit k y _ hy]
      exact hr
    | cons c tr =>
      have hsd : startsWithDigit ((c :: tr) ++ (a' ++ y)) = false := by simpa [startsWithDigit] using htd
      rw [runsLe_nodigit k _ _ hsd, runsLe_append, hpr.1.2, Bool.true_and]
      exact ih a' y _ hrest hpr.2 ha' hy hr

theorem runsLe_name {w : WName} (hok : w.ok = true) (hd : w.digitsShort = true) {a y : Bytes}
    (ha : a ∈ expandParts w.parts) (hy : startsWithDigit y = false) (hr : runsLe 9 0 y = true) :
    runsLe 9 0 (w.head ++ a ++ y) = true := by
  obtain ⟨_, hparts, _⟩ := WName.ok_spec hok
  simp only [WName.digitsShort, Bool.and_eq_true] at hd
  rw [List.append_assoc, runsLe_append, hd.1, Bool.true_and]
  exact runsLe_expand 9 w.parts a y _ hparts hd.2 ha hy hr

theorem digitsShortList_get {ts : List STree} (h : digitsShortList ts = true) {n : Nat} {t : STree}
    (ht : ts[n]? = some t) : t.digitsShort = true :=
  rows_get (fl := digitsShortList) (fun _ _ => by rw [digitsShortList]) h ht

theorem Reported.shortRuns {tab : List STree} {n : Nat} {ixr : List Nat} {rel : Bytes} (h : Reported tab n ixr rel)
    (hwf : wfList tab = true) (hd : digitsShortList tab = true) : runsLe 9 0 rel = true := by
  induction h with
  | @leaf tab n w md a ht ha =>
    have hok : w.ok = true := wf_name_ok (wfList_get hwf ht)
    exact runsLe_name hok (by simpa [STree.digitsShort] using digitsShortList_get hd ht) ha
      (startsWithDigit_slashIf _) (by cases w.slash <;> decide)
  | @sub tab n w md kids a m ixr rel ht ha _ ih =>
    have hwft := wfList_get hwf ht
    have hok : w.ok = true := wf_name_ok hwft
    have hdt := digitsShortList_get hd ht
    rw [STree.wf_sub] at hwft
    simp only [STree.digitsShort, Bool.and_eq_true] at hdt
    have h47 : Match.isDigit 47 = false := by decide
    have hrel : runsLe 9 0 (47 :: rel) = true := by simp [runsLe, h47, ih hwft.2 hdt.2]
    exact runsLe_name hok hdt.1 ha (startsWithDigit_slash rel) hrel

theorem digits_tree : ∀ (t : STree) (pre : Bytes) (ixp ix : List Nat) (addr : Bytes),
    t.wf = true → t.digitsShort = true → (ix, addr) ∈ enumTree pre ixp t →
    ∃ rel, addr = pre ++ rel ∧ runsLe 9 0 rel = true := by
  intro t pre ixp ix addr hwf hd h
  obtain ⟨ixr, rel, _, h2, hr⟩ := reported_tree t [t] 0 pre ixp ix addr rfl h
  exact ⟨rel, h2, hr.shortRuns (by rw [wfList, hwf]; rfl) (by rw [digitsShortList, hd]; rfl)⟩

end Rtosc.Walk
