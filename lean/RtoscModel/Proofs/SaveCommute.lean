/-
  C13 — independent writes and lines commute.  Two writes to ports of which neither depends on the other leave the
  written values, keep what neither writes and give every dependant its `expected` value in both orders
  (`setParam_setParam`), and such equations determine the state (`eq_of_expected`): `setParam_commute`.  What a
  dispatch does is decided by what the port reads (`outcome_frame`), so dispatches and whole lines
  commute, including whether they match at all (`dispatch_commute`, `independent_lines_commute`).
-/
import RtoscModel.Proofs.SaveInv
import RtoscModel.Proofs.SaveTopo

namespace Rtosc.Save

namespace App
variable {app : App}

/-- two ports of which neither is the other nor depends on it -/
def Indep (app : App) (pa pb : Nat) : Prop := pa ≠ pb ∧ pa ∉ (app.param pb).anc ∧ pb ∉ (app.param pa).anc

theorem Indep.symm {pa pb : Nat} (h : app.Indep pa pb) : app.Indep pb pa := ⟨h.1.symm, h.2.2, h.2.1⟩

theorem indep_not_wr (hwf : app.WF) {pa pb : Nat} (ha : pa < app.size) (hi : app.Indep pa pb) :
    ∀ x, app.le x pa → ¬ app.wr pb x := by
  intro x hx hw
  have hpbx : app.le pb x := by
    rcases hw with rfl | hw
    · exact Or.inl rfl
    · exact Or.inr ((mem_desc app).mp hw).2
  rcases le_trans hwf ha hpbx hx with h | h
  · exact hi.1 h.symm
  · exact hi.2.2 h

/-- a state is determined by its values outside `D` once every parameter in `D` holds its `expected` value:
    `expected` reads ancestors only, and these have smaller indices -/
theorem eq_of_expected (hwf : app.WF) (D : Nat → Prop) {u u' : State}
    (hD : ∀ k, D k → k < app.size ∧ u k = expected (app.param k) u ∧ u' k = expected (app.param k) u')
    (hout : ∀ k, ¬ D k → u k = u' k) : u = u' := by
  apply State.ext
  intro k
  induction k using Nat.strongRecOn with
  | ind k ih =>
    by_cases hk : D k
    · obtain ⟨hlt, h1, h2⟩ := hD k hk
      rw [h1, h2]
      exact expected_frame hwf hlt _ _ fun a ha => ih a (hwf.anc_lt k hlt a ha)
    · exact hout k hk

theorem setParam_setParam (hwf : app.WF) {x y : Nat} (hxy : ¬ app.wr x y) (hyx : ¬ app.wr y x) (v w : Val) (s : State)
    (hnx : ¬ ((app.param x).kind = .tog ∧ s x = v)) (hny : ¬ ((app.param y).kind = .tog ∧ s y = w)) :
    app.setParam y w (app.setParam x v s) x = v ∧ app.setParam y w (app.setParam x v s) y = w ∧
    (∀ k, k ∈ app.desc x ∨ k ∈ app.desc y → k < app.size ∧ app.setParam y w (app.setParam x v s) k =
      expected (app.param k) (app.setParam y w (app.setParam x v s))) ∧
    ∀ k, ¬ app.wr x k → ¬ app.wr y k → app.setParam y w (app.setParam x v s) k = s k := by
  have hny' : ¬ ((app.param y).kind = .tog ∧ app.setParam x v s y = w) := by
    rw [setParam_not_wr app x v s hxy]; exact hny
  refine ⟨by rw [setParam_not_wr app y w _ hyx, setParam_self hwf], setParam_self hwf _ _ _, fun k hk => ?_,
    fun k h1 h2 => by rw [setParam_not_wr app y w _ h2, setParam_not_wr app x v s h1]⟩
  by_cases hky : k ∈ app.desc y
  · exact ⟨((mem_desc app).mp hky).1, setParam_desc hwf y w _ hny' hky⟩
  · have hkx := hk.resolve_right hky
    have hlt := ((mem_desc app).mp hkx).1
    have hnw : ¬ app.wr y k := fun h => h.elim (fun e => hxy (Or.inr (e ▸ hkx))) hky
    refine ⟨hlt, ?_⟩
    rw [setParam_not_wr app y w _ hnw, setParam_expected_not_wr hwf y w _ hlt hnw]
    exact setParam_desc hwf x v s hnx hkx

/-- confluence of the change hooks: two writes to ports of which neither depends on the other commute, also
    when they share dependants — both orders leave the written values, keep what neither writes, and give every
    dependant its `expected` value, and these equations have one solution -/
theorem setParam_commute (hwf : app.WF) {pa pb : Nat} (ha : pa < app.size) (hb : pb < app.size)
    (hi : app.Indep pa pb) (v w : Val) (s : State) :
    app.setParam pb w (app.setParam pa v s) = app.setParam pa v (app.setParam pb w s) := by
  have hpa_nw : ¬ app.wr pb pa := indep_not_wr hwf ha hi pa (Or.inl rfl)
  have hpb_nw : ¬ app.wr pa pb := indep_not_wr hwf hb hi.symm pb (Or.inl rfl)
  -- a toggle write that changes nothing changes nothing behind the other write either
  have skip : ∀ {x y : Nat} (v w : Val), ¬ app.wr y x → ((app.param x).kind = .tog ∧ s x = v) →
      app.setParam x v s = s ∧ app.setParam x v (app.setParam y w s) = app.setParam y w s := fun {x y} v w hyx h =>
    ⟨by unfold setParam; rw [if_pos h],
     by unfold setParam; rw [if_pos ⟨h.1, (setParam_not_wr app y w s hyx).trans h.2⟩]⟩
  by_cases hna : (app.param pa).kind = .tog ∧ s pa = v
  · rw [(skip v w hpa_nw hna).1, (skip v w hpa_nw hna).2]
  by_cases hnb : (app.param pb).kind = .tog ∧ s pb = w
  · rw [(skip w v hpb_nw hnb).1, (skip w v hpb_nw hnb).2]
  obtain ⟨a1, a2, a3, a4⟩ := setParam_setParam hwf hpb_nw hpa_nw v w s hna hnb
  obtain ⟨b1, b2, b3, b4⟩ := setParam_setParam hwf hpa_nw hpb_nw w v s hnb hna
  refine eq_of_expected hwf (fun k => k ∈ app.desc pa ∨ k ∈ app.desc pb)
    (fun k hk => ⟨(a3 k hk).1, (a3 k hk).2, (b3 k hk.symm).2⟩) fun k hk => ?_
  rw [not_or] at hk
  by_cases hka : k = pa
  · rw [hka, a1, b2]
  by_cases hkb : k = pb
  · rw [hkb, a2, b1]
  · rw [a4 k (fun h => h.elim hka hk.1) (fun h => h.elim hkb hk.2), b4 k (fun h => h.elim hkb hk.2) (fun h => h.elim hka hk.1)]

theorem dispatchAt_wr (app : App) (i : Nat) (args : List Val) (s s' : State)
    (h : app.dispatchAt i args s = some s') : ∀ k, ¬ app.wr i k → s' k = s k := by
  intro k hk
  unfold dispatchAt at h
  cases ho : app.outcome i args s with
  | miss => rw [ho] at h; cases h
  | same => rw [ho] at h; cases h; rfl
  | set v => rw [ho] at h; cases h; exact setParam_not_wr app i v s hk

theorem outcome_frame (hwf : app.WF) {i : Nat} (hi : i < app.size) (args : List Val) (s t : State)
    (h : ∀ a ∈ (app.param i).anc, s a = t a) : app.outcome i args s = app.outcome i args t := by
  unfold outcome
  simp only
  rw [ptrOff_frame hwf hi s t h, guardsOn_frame hwf hi s t h]

theorem outcome_indep (hwf : app.WF) {pa pb : Nat} (ha : pa < app.size)
    (hi : app.Indep pa pb) (va vb : List Val) (s s' : State)
    (h : app.dispatchAt pb vb s = some s') : app.outcome pa va s' = app.outcome pa va s :=
  outcome_frame hwf ha va s' s (fun a haa =>
    dispatchAt_wr app pb vb s s' h a (indep_not_wr hwf ha hi a (Or.inr haa)))

/-- a dispatch followed by one whose outcome it does not change: both as their outcomes in the first state -/
theorem dispatchAt_bind_outcome (app : App) (pa pb : Nat) (va vb : List Val) (s : State)
    (h : ∀ s', app.dispatchAt pa va s = some s' → app.outcome pb vb s' = app.outcome pb vb s) :
    (app.dispatchAt pa va s).bind (app.dispatchAt pb vb) =
      ((app.outcome pa va s).run app pa s).bind fun s' => (app.outcome pb vb s).run app pb s' := by
  unfold dispatchAt at h ⊢
  cases hr : (app.outcome pa va s).run app pa s with
  | none => rfl
  | some s' => rw [Option.bind_some, Option.bind_some, h s' hr]

theorem dispatchAt_commute (hwf : app.WF) {pa pb : Nat} (ha : pa < app.size) (hb : pb < app.size)
    (hi : app.Indep pa pb) (va vb : List Val) (s : State) :
    (app.dispatchAt pa va s).bind (app.dispatchAt pb vb)
      = (app.dispatchAt pb vb s).bind (app.dispatchAt pa va) := by
  rw [dispatchAt_bind_outcome app pa pb va vb s fun s' h => outcome_indep hwf hb hi.symm vb va s s' h,
    dispatchAt_bind_outcome app pb pa vb va s fun s' h => outcome_indep hwf ha hi va vb s s' h]
  -- only two writes that both take place have anything to commute
  cases app.outcome pa va s with
  | miss => cases app.outcome pb vb s <;> rfl
  | same => cases app.outcome pb vb s <;> rfl
  | set v =>
    cases app.outcome pb vb s with
    | miss => rfl
    | same => rfl
    | set w => exact congrArg some (setParam_commute hwf ha hb hi v w s)

theorem dispatch_commute (hwf : app.WF) (a1 a2 : Path) (v1 v2 : List Val)
    (h : ∀ pa pb, app.findAddr a1 = some pa → app.findAddr a2 = some pb → app.Indep pa pb) (s : State) :
    (app.dispatch a1 v1 s).bind (app.dispatch a2 v2)
      = (app.dispatch a2 v2 s).bind (app.dispatch a1 v1) := by
  cases hf1 : app.findAddr a1 with
  | none =>
    have e : ∀ t, app.dispatch a1 v1 t = none := fun t => by rw [dispatch_eq, hf1]; rfl
    rw [e]
    cases app.dispatch a2 v2 s with
    | none => rfl
    | some x => simp [e]
  | some pa =>
    cases hf2 : app.findAddr a2 with
    | none =>
      have e : ∀ t, app.dispatch a2 v2 t = none := fun t => by rw [dispatch_eq, hf2]; rfl
      rw [e]
      cases app.dispatch a1 v1 s with
      | none => rfl
      | some x => simp [e]
    | some pb =>
      have e1 : app.dispatch a1 v1 = app.dispatchAt pa v1 :=
        funext fun t => by rw [dispatch_eq, hf1]; rfl
      have e2 : app.dispatch a2 v2 = app.dispatchAt pb v2 :=
        funext fun t => by rw [dispatch_eq, hf2]; rfl
      rw [e1, e2]
      exact dispatchAt_commute hwf (findAddr_some app hf1).1 (findAddr_some app hf2).1 (h pa pb hf1 hf2) v1 v2 s

end App

theorem runSteps_comm_lists {σ ι : Type} (step : ι → σ → Option σ) (l₁ l₂ : List ι)
    (hc : ∀ x ∈ l₁, ∀ y ∈ l₂, ∀ s, (step x s).bind (step y) = (step y s).bind (step x)) (s : σ) :
    (runSteps step l₁ s).bind (runSteps step l₂) = (runSteps step l₂ s).bind (runSteps step l₁) := by
  rw [← runSteps_append, ← runSteps_append]
  induction l₂ generalizing s with
  | nil => simp
  | cons y r ih =>
    rw [runSteps_move_front step y l₁ r
      (fun x hx s => (hc x hx y List.mem_cons_self s).symm) s]
    show (step y s).bind (runSteps step (l₁ ++ r)) = (step y s).bind (runSteps step (r ++ l₁))
    cases step y s with
    | none => rfl
    | some s' =>
      exact ih (fun x hx y' hy' => hc x hx y' (List.mem_cons_of_mem _ hy')) s'

/-- the messages an array line is split into -/
def arrMsgs (addr : Path) : List Val → Nat → List (Path × List Val)
  | [], _ => []
  | v :: vs, i => (addr ++ natDigits i, [v]) :: arrMsgs addr vs (i + 1)

/-- the messages `applyLine` dispatches for a line -/
def lineMsgs (l : Line) : List (Path × List Val) :=
  match l.args with
  | .plain vs => [(l.addr, vs)]
  | .arr [] => [(l.addr ++ natDigits 0, [])]
  | .arr vs => arrMsgs l.addr vs 0

theorem mem_arrMsgs {addr : Path} {vs : List Val} {i : Nat} {m : Path × List Val}
    (h : m ∈ arrMsgs addr vs i) : ∃ k, k < i + vs.length ∧ m.1 = addr ++ natDigits k := by
  induction vs generalizing i with
  | nil => cases h
  | cons v r ih =>
    rcases List.mem_cons.mp h with rfl | h
    · exact ⟨i, by simp, rfl⟩
    · obtain ⟨k, h2, h3⟩ := ih h
      exact ⟨k, by simp only [List.length_cons]; omega, h3⟩

namespace App
variable {app : App}

def msgStep (app : App) (m : Path × List Val) (s : State) : Option State := app.dispatch m.1 m.2 s

theorem dispatchArr_eq (app : App) (addr : Path) (vs : List Val) (i : Nat) (s : State) :
    app.dispatchArr addr vs i s = runSteps app.msgStep (arrMsgs addr vs i) s := by
  induction vs generalizing i s with
  | nil => rfl
  | cons v r ih =>
    show (match app.dispatch (addr ++ natDigits i) [v] s with
      | none => none
      | some s' => app.dispatchArr addr r (i + 1) s')
      = (app.dispatch (addr ++ natDigits i) [v] s).bind (runSteps app.msgStep (arrMsgs addr r (i + 1)))
    cases app.dispatch (addr ++ natDigits i) [v] s with
    | none => rfl
    | some s' => exact ih (i + 1) s'

theorem applyLine_eq (app : App) (l : Line) (s : State) :
    app.applyLine l s = runSteps app.msgStep (lineMsgs l) s := by
  obtain ⟨addr, args⟩ := l
  cases args with
  | plain vs =>
    show app.dispatch addr vs s = (app.dispatch addr vs s).bind some
    simp
  | arr vs =>
    cases vs with
    | nil =>
      show app.dispatch (addr ++ natDigits 0) [] s = (app.dispatch (addr ++ natDigits 0) [] s).bind some
      simp
    | cons v r => exact dispatchArr_eq app addr (v :: r) 0 s

theorem lineMsgs_params (app : App) (l : Line) (m : Path × List Val) (hm : m ∈ lineMsgs l)
    (p : Nat) (hp : app.findAddr m.1 = some p) : p ∈ app.lineParams l := by
  obtain ⟨addr, args⟩ := l
  cases args with
  | plain vs =>
    simp only [lineMsgs, List.mem_singleton] at hm
    subst hm
    simp [lineParams, hp]
  | arr vs =>
    cases vs with
    | nil =>
      simp only [lineMsgs, List.mem_singleton] at hm
      subst hm
      simp only [lineParams, List.mem_filterMap, List.mem_range]
      exact ⟨0, by simp, hp⟩
    | cons v r =>
      obtain ⟨k, hk, he⟩ := mem_arrMsgs (show m ∈ arrMsgs addr (v :: r) 0 from hm)
      simp only [lineParams, List.mem_filterMap, List.mem_range]
      rw [he] at hp
      exact ⟨k, by omega, hp⟩

end App

/-- lines whose parameters are pairwise different and unrelated by ancestry (`app.Indep pa pb`, spelt out as
    Props/C13.lean states it) commute, on every state -/
theorem independent_lines_commute (app : App) (hwf : app.WF) (a b : Line)
    (hab : ∀ pa ∈ app.lineParams a, ∀ pb ∈ app.lineParams b,
        pa ≠ pb ∧ pa ∉ (app.param pb).anc ∧ pb ∉ (app.param pa).anc) (s : State) :
    (app.applyLine a s).bind (app.applyLine b) = (app.applyLine b s).bind (app.applyLine a) := by
  have ea : app.applyLine a = runSteps app.msgStep (lineMsgs a) := funext (App.applyLine_eq app a)
  have eb : app.applyLine b = runSteps app.msgStep (lineMsgs b) := funext (App.applyLine_eq app b)
  rw [ea, eb]
  apply runSteps_comm_lists
  intro x hx y hy t
  exact App.dispatch_commute hwf x.1 y.1 x.2 y.2
    (fun pa pb h1 h2 => hab pa (App.lineMsgs_params app a x hx pa h1) pb (App.lineMsgs_params app b y hy pb h2)) t

end Rtosc.Save
