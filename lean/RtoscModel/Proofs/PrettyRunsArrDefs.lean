/-
  C10 — tier 3, compressed runs AND arrays: what the readers see of a list of pieces.

  The pieces `ASeg`, their texts `ASegText pL` / `ASegsText pL` (indexed by the PRINTER's left
  neighbour) and the printer's side conditions `ASegmented` are defined in Pretty/RunsSpec.lean,
  which also says how the three parties look at "the value to the left".  Here: how many
  arguments the readers' loops see in a piece (`ASeg.nargs`); what follows an argument text
  inside a longer text (`TailR`, and `TailB` for the checker); first lemmas on the texts.
  Bytes written as numbers in these modules: 91 `[`, 93 `]`, 120 `x`, 32 blank, 47 `/`, 0 NUL; types:
  45 `-` (a range block), 97 `a` (an array), 105 `i`.
-/
import RtoscModel.Proofs.PrettyTokArray
import RtoscModel.Proofs.PrettyRunsExtCheck
namespace Rtosc.Pretty
open Rtosc Rtosc.Libc
open Rtosc.ArgVal (Cell)

/-- the number of arguments the scanner's and the checker's top-level loops see in the piece -/
def ASeg.nargs (pL : Option Cell) : ASeg → Nat
  | .seg s => s.nargs pL
  | .arr _ => 1
  | .arun _ _ => 1

def nargsAllA : Option Cell → List ASeg → Nat
  | _, [] => 0
  | L, x :: r => x.nargs L + nargsAllA (some x.plast) r

theorem arr_text_append (B rest : Bytes) : (91 :: (B ++ [93])) ++ rest = 91 :: (B ++ 93 :: rest) := by simp

theorem runText_arr_length (m : Nat) (hm : 1 ≤ m) (B : Bytes) : 4 ≤ (runText m (91 :: (B ++ [93]))).length := by
  have : 1 ≤ (fmtDec (m : Int)).length := by
    obtain ⟨c, r, _, _, _, hc, _⟩ := fmtDec_pos_shape m hm
    rw [hc]; simp
  simp only [runText, List.length_append, List.length_cons, List.length_nil]; omega

/-- what follows an argument text inside a longer text: `X = sep ++ next` is a separator in the
    sense of `Sep`, and skipping white space leads to `next` -/
def TailR (sep next : Bytes) : Prop := Sep (sep ++ next) ∧ skipSpace (sep ++ next) = next

theorem tailR_close (rest : Bytes) : TailR [] (93 :: rest) :=
  ⟨sep_close rest, skipSpace_close rest⟩

theorem tailR_sep (sep next : Bytes) (hs : IsSepTxt sep) (hn : TokStart next) : TailR sep next :=
  ⟨sep_of_next sep next hs hn, skipSpace_sep sep next hs hn⟩

theorem ASegText.start {pL : Option Cell} {x : ASeg} {T : Bytes} (h : ASegText pL x T) : TokStart T := by
  cases h with
  | seg s T hT => exact hT.start
  | arr body B _ _ =>
    refine ⟨by simp, ?_⟩
    simp only [hd_cons]
    decide
  | arun n body B _ _ hn _ => exact tokStart_run n hn _

theorem ASegsText.start {L : Option Cell} {xs : List ASeg} {text : Bytes} (h : ASegsText L xs text) (hne : xs ≠ []) :
    TokStart text := by
  cases h with
  | nil => exact absurd rfl hne
  | cons L x xs T sep text hT _ _ _ => exact hT.start.append _

theorem ASegsText.skipSpace {L : Option Cell} {xs : List ASeg} {text : Bytes} (h : ASegsText L xs text) :
    skipSpace text = text := by
  by_cases hne : xs = []
  · subst hne; cases h; rfl
  · exact skipSpace_tokStart _ (h.start hne)

theorem ASegsText.nargs_le {L : Option Cell} {xs : List ASeg} {text : Bytes} (h : ASegsText L xs text) :
    nargsAllA L xs ≤ text.length := by
  induction h with
  | nil => simp [nargsAllA]
  | cons L x xs T sep text hT _ _ _ ih =>
    have : x.nargs L ≤ T.length := by
      cases hT with
      | seg s T hT =>
        have := (SegsText.cons L s [] T [] [] hT (SegsText.nil _) (fun _ => rfl) (fun h => absurd rfl h)).nargs_le
        simpa [nargsAll, ASeg.nargs] using this
      | arr body B _ _ => simp [ASeg.nargs]
      | arun n body B _ _ hn _ =>
        have := List.length_pos_iff.mpr (tokStart_run n hn (91 :: (B ++ [93]))).1
        simp only [ASeg.nargs]; omega
    simp only [nargsAllA, List.length_append]
    omega

theorem scannedAllA_nargs_le (L : Option Cell) (xs : List ASeg) : nargsAllA L xs ≤ (scannedAllA L xs).length := by
  induction xs generalizing L with
  | nil => simp [nargsAllA, scannedAllA]
  | cons x r ih =>
    have := ih (some x.plast)
    have h1 : x.nargs L ≤ (x.scanned L).length := by
      cases x with
      | seg s => exact RSeg.nargs_le_scanned L s
      | arr body => simp [ASeg.nargs, ASeg.scanned]
      | arun n body => simp [ASeg.nargs, ASeg.scanned]
    simp only [nargsAllA, scannedAllA, List.length_append]
    omega

/-- what follows an element text inside an array: the closing bracket, or a separator and the
    next element -/
def TailB (sep next : Bytes) : Prop := (sep = [] ∧ ∃ rest, next = 93 :: rest) ∨ (IsSepTxt sep ∧ TokStart next)

theorem TailB.toR {sep next : Bytes} (h : TailB sep next) : TailR sep next := by
  rcases h with ⟨rfl, rest, rfl⟩ | ⟨h1, h2⟩
  · exact tailR_close rest
  · exact tailR_sep sep next h1 h2

theorem TailB.cur {sep next : Bytes} (h : TailB sep next) (hcur : TokStart next) : IsSepTxt sep := by
  rcases h with ⟨_, rest, rfl⟩ | ⟨h, _⟩
  · exact absurd rfl hcur.notClose
  · exact h

theorem SegsText.tailB_end {L : Option Cell} {segs : List RSeg} {text sep : Bytes} (h : SegsText L segs text)
    (h1 : segs = [] → sep = []) (h2 : segs ≠ [] → IsSepTxt sep) (rest : Bytes) :
    TailB sep (text ++ 93 :: rest) := by
  by_cases hne : segs = []
  · subst hne
    cases h
    exact Or.inl ⟨h1 rfl, rest, rfl⟩
  · exact Or.inr ⟨h2 hne, (h.start hne).append _⟩

end Rtosc.Pretty
