/-
  C10 — tier 3, compressed runs in context: the structured view.  The cells the scanner
  returns for a list of segments are the flat form of the items `itemsAll`, and these items expand
  to the original values.  In front of that: a range block of integer cells of any kind expands to
  its run while nothing wraps (`IntKind.rangeVal_cell`, `rangeVals_gen`, `expand_range_gen`), which
  Props/C10.lean uses for the runs of 'h' and 'c' values too.
-/
import RtoscModel.Proofs.PrettyRunsExtPrint
import RtoscModel.Proofs.ArgValBridge
namespace Rtosc.Pretty
open Rtosc Rtosc.Libc
open Rtosc.ArgVal (Cell Item flatList expandList Val)

/-- the scanned segment as items: a value, a repetition `nxA`, a range (preceded by its first
    value when printed as `a b ... z`) -/
def RSeg.items (L : Option Cell) : RSeg → List Item
  | .tok c => [.val c]
  | .crun n c => [.rep n (.val c)]
  | .irun a d n =>
    if shortForm L a d then [.range n (Cell.int .i d) (Cell.int .i a)]
    else [.val (Cell.int .i a), .range (n - 1) (Cell.int .i d) (Cell.int .i (a + d))]

def itemsAll : Option Cell → List RSeg → List Item
  | _, [] => []
  | L, s :: r => s.items L ++ itemsAll (some s.last) r

theorem expandList_append_some (xs ys : List Item) (a b : List Val) (h1 : expandList xs = some a)
    (h2 : expandList ys = some b) : expandList (xs ++ ys) = some (a ++ b) := by
  rw [ArgVal.expandList_append, h1, h2]

/-- `rtosc_arg_val_range_arg` on integer cells of one kind, while nothing wraps around -/
theorem IntKind.rangeVal_cell (K : IntKind) (d a : Int) (i : Nat)
    (hm : K.lo ≤ (i : Int) * d ∧ (i : Int) * d ≤ K.hi) (hs : K.lo ≤ a + (i : Int) * d ∧ a + (i : Int) * d ≤ K.hi) :
    ArgVal.rangeVal (K.cell d) (K.cell a) i = .ok (K.cell (a + (i : Int) * d)) := by
  have h32 (v : Int) (h1 : -2147483647 - 1 ≤ v) (h2 : v ≤ 2147483647) := ArgVal.wrapI32_id (v := v) (by omega) (by omega)
  have h64 (v : Int) (h1 : -9223372036854775807 - 1 ≤ v) (h2 : v ≤ 9223372036854775807) :=
    ArgVal.wrapI64_id (v := v) (by omega) (by omega)
  cases K
  · simp [IntKind.cell, ArgVal.rangeVal, ArgVal.fromInt, ArgVal.mult, ArgVal.add, ArgVal.Cell.type, h32 _ hm.1 hm.2,
      h32 _ hs.1 hs.2]
  · simp [IntKind.cell, ArgVal.rangeVal, ArgVal.fromInt, ArgVal.mult, ArgVal.add, ArgVal.Cell.type, h64 _ hm.1 hm.2,
      h64 _ hs.1 hs.2]
  · simp [IntKind.cell, ArgVal.rangeVal, ArgVal.fromInt, ArgVal.mult, ArgVal.add, ArgVal.Cell.type, ArgVal.IntTy.char,
      h32 _ hm.1 hm.2, h32 _ hs.1 hs.2]

theorem rangeVals_gen (mk : Int → Cell) (d a : Int) : ∀ (m i : Nat),
    (∀ k : Nat, i ≤ k → k < i + m → ArgVal.rangeVal (mk d) (mk a) k = .ok (mk (a + (k : Int) * d))) →
    ArgVal.rangeVals (mk d) (mk a) i m =
      some ((List.range m).map (fun (j : Nat) => Val.sc (mk (a + ((i + j : Nat) : Int) * d)))) := by
  intro m
  induction m with
  | zero => intro i _; simp [ArgVal.rangeVals]
  | succ k ih =>
    intro i h
    have h0 := h i (Nat.le_refl _) (by omega)
    have hrest := ih (i + 1) (fun k' hk1 hk2 => h k' (by omega) (by omega))
    simp only [ArgVal.rangeVals, h0, hrest]
    rw [List.range_succ_eq_map]
    simp only [List.map_cons, List.map_map, Nat.add_zero]
    congr 2
    apply List.map_congr_left
    intro j _
    simp only [Function.comp]
    have : i + 1 + j = i + Nat.succ j := by omega
    rw [this]

/-- a run from `a` is its first value and the run from `a + d` -/
theorem range_map_succ {β : Type} (f : Int → β) (a d : Int) (m : Nat) :
    (List.range (m + 1)).map (fun (k : Nat) => f (a + (k : Int) * d)) =
      f a :: (List.range m).map (fun (k : Nat) => f (a + d + (k : Int) * d)) := by
  simp only [List.range_succ_eq_map, List.map_cons, List.map_map, Int.natCast_zero, Int.zero_mul,
    Int.add_zero, List.cons.injEq, true_and]
  apply List.map_congr_left
  intro j _
  simp only [Function.comp, succ_mul', Int.add_assoc, Int.add_comm d]

/-- a range block expands to the run, while `rtosc_arg_val_range_arg` does not wrap -/
theorem expand_range_gen (mk : Int → Cell) (hsc : ∀ v, (mk v).isScalar = true) (a d : Int) (m : Nat) (hm : 1 ≤ m)
    (hval : ∀ k : Nat, k < m → ArgVal.rangeVal (mk d) (mk a) k = .ok (mk (a + (k : Int) * d))) :
    (Item.range m (mk d) (mk a)).expand = some ((List.range m).map (fun (k : Nat) => Val.sc (mk (a + (k : Int) * d)))) := by
  simp only [Item.expand, hsc, and_self, hm, ↓reduceIte]
  rw [rangeVals_gen mk d a m 0 (fun k _ hk => hval k (by omega))]
  simp

theorem expand_range_arith (a d : Int) (m : Nat) (hm : 1 ≤ m)
    (hb : ∀ k : Nat, k < m → (-2147483648 ≤ (k : Int) * d ∧ (k : Int) * d ≤ 2147483647) ∧
      (-2147483648 ≤ a + (k : Int) * d ∧ a + (k : Int) * d ≤ 2147483647)) :
    (Item.range m (Cell.int .i d) (Cell.int .i a)).expand = some ((arithRun a d m).map Val.sc) := by
  rw [expand_range_gen (Cell.int .i) (fun _ => rfl) a d m hm
    (fun k hk => IntKind.i.rangeVal_cell d a k (hb k hk).1 (hb k hk).2)]
  simp [arithRun, List.map_map, Function.comp]

theorem expand_range_run {a d : Int} {n : Nat} (h : RunHyp a d n) :
    (Item.range n (Cell.int .i d) (Cell.int .i a)).expand = some ((arithRun a d n).map Val.sc) :=
  expand_range_arith a d n (by have := h.hn; omega) (fun k hk => ⟨by have := h.mul k (by omega); omega, h.hrange k (by omega)⟩)

theorem arithRun_succ (a d : Int) (m : Nat) : arithRun a d (m + 1) = Cell.int .i a :: arithRun (a + d) d m :=
  range_map_succ (Cell.int .i) a d m

/-- the first value and the range block behind it (`a b ... z`) expand to the run: the run behind
    the first value is the run from `a + d` -/
theorem expand_range_run_long {a d : Int} {n : Nat} (h : RunHyp a d n) :
    expandList [Item.val (Cell.int .i a), Item.range (n - 1) (Cell.int .i d) (Cell.int .i (a + d))] =
      some ((arithRun a d n).map Val.sc) := by
  obtain ⟨m, rfl⟩ : ∃ m, n = m + 1 := ⟨n - 1, by have := h.hn; omega⟩
  have hr := expand_range_arith (a + d) d m (by have := h.hn; omega) (fun k hk => by
    have := h.mul k (by omega)
    have := h.hrange (k + 1) (by omega)
    rw [succ_mul'] at this
    omega)
  have h1 : (Item.val (Cell.int .i a)).expand = some [Val.sc (Cell.int .i a)] := by
    simp [Item.expand, ArgVal.Cell.isScalar]
  simp only [Nat.add_sub_cancel, expandList, h1, hr, arithRun_succ, List.map_cons, List.append_nil,
    List.singleton_append]

theorem expandList_vals (cs : List Cell) (h : ∀ c ∈ cs, c.isScalar = true) :
    expandList (cs.map Item.val) = some (cs.map Val.sc) := by
  induction cs with
  | nil => simp [expandList]
  | cons c r ih =>
    simp only [List.map_cons, expandList, Item.expand, h c (by simp), ↓reduceIte,
      ih (fun x hx => h x (by simp [hx]))]
    rfl

theorem flatList_eq_flatten (items : List Item) : flatList items = (items.map Item.flat).flatten := by
  induction items with
  | nil => simp [flatList]
  | cons x xs ih => simp [flatList, ih]

theorem flatList_vals (cs : List Cell) : flatList (cs.map Item.val) = cs := by
  induction cs with
  | nil => simp [flatList]
  | cons c r ih => simp [flatList, Item.flat, ih]

theorem RSeg.flat_items {opt : POpt} {s : RSeg} (hp : s.Printable opt) (L : Option Cell) :
    flatList (s.items L) = s.scanned L := by
  cases s with
  | tok c => simp [RSeg.items, RSeg.scanned, flatList, Item.flat]
  | crun n c => simp [RSeg.items, RSeg.scanned, flatList, Item.flat]
  | irun a d n =>
    have hn := RunHyp.hn hp
    have e : ((n - 1 : Nat) : Int) = (n : Int) - 1 := by omega
    cases hs : shortForm L a d <;> simp [RSeg.items, RSeg.scanned, hs, flatList, Item.flat, e]

theorem RSeg.expand_items {opt : POpt} {s : RSeg} (hp : s.Printable opt) (L : Option Cell) :
    expandList (s.items L) = some (s.cells.map Val.sc) := by
  cases s with
  | tok c => simp [RSeg.items, RSeg.cells, expandList, Item.expand, hp.1]
  | crun n c =>
    have hn : 1 ≤ n := by have := hp.2.2.1; omega
    simp [RSeg.items, RSeg.cells, expandList, Item.expand, hp.1, hn]
  | irun a d n =>
    have hr : RunHyp a d n := hp
    simp only [RSeg.items, RSeg.cells]
    cases shortForm L a d
    · exact expand_range_run_long hr
    · simp [expandList, expand_range_run hr]

theorem flatList_itemsAll {opt : POpt} {segs : List RSeg} (h : Segmented opt segs) :
    ∀ L, flatList (itemsAll L segs) = scannedAll L segs := by
  induction segs with
  | nil => intro L; rfl
  | cons s r ih =>
    intro L
    obtain ⟨hp, _, hr⟩ := h.head
    simp only [itemsAll, scannedAll, ArgVal.flatList_append, RSeg.flat_items hp, ih hr]

theorem expandList_itemsAll {opt : POpt} {segs : List RSeg} (h : Segmented opt segs) :
    ∀ L, expandList (itemsAll L segs) = some ((cellsAll segs).map Val.sc) := by
  induction segs with
  | nil => intro L; rfl
  | cons s r ih =>
    intro L
    obtain ⟨hp, _, hr⟩ := h.head
    simp only [itemsAll, cellsAll, List.map_append]
    exact expandList_append_some _ _ _ _ (RSeg.expand_items hp L) (ih hr _)

end Rtosc.Pretty
