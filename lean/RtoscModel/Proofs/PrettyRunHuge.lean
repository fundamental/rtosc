/-
  C10 — tier 3: int64 ('h') arithmetic runs.  With range compression on, a list that is one
  arithmetic run of `n ≥ 5` int64 values is printed as `ah ... zh` (step ±1) or `ah bh ... zh`
  (other steps); checker and scanner read the text back as the range block.
  The chain of `PrettyRunArith` for `Cell.huge`, type letter 104 and `hTok`.
  `hugeRun` is defined in Pretty/RunSpec.lean.
-/
import RtoscModel.Proofs.PrettyTokNum
import RtoscModel.Proofs.PrettyRunArithRead
namespace Rtosc.Pretty
open Rtosc Rtosc.Libc
open Rtosc.ArgVal (Cell)

/-- the printed token of an int64: `"%"PRId64"h"` (the model's `%ld` and the suffix `h`) -/
def hTok (v : Int) : Bytes := fmtDec v ++ [104]

theorem hTok_length (v : Int) : (hTok v).length = (fmtDec v).length + 1 := by
  simp [hTok]

/-! the arithmetic of `delta_from_arg_vals` (`Pretty/C11Float.lean`) on int64 cells is the integer one -/
theorem fromIntF_huge (x k : Int) : C11.fromIntF (Cell.huge x) k = fromInt (Cell.huge x) k := rfl
theorem negateF_huge (x : Int) : C11.negateF (Cell.huge x) = negate (Cell.huge x) := rfl
theorem roundF_huge (x : Int) : C11.roundF (Cell.huge x) = roundAV (Cell.huge x) := rfl
theorem subF_huge (x y : Int) : C11.subF (Cell.huge x) (Cell.huge y) = subAV (Cell.huge x) (Cell.huge y) := rfl
theorem multF_huge (x y : Int) : C11.multF (Cell.huge x) (Cell.huge y) = multAV (Cell.huge x) (Cell.huge y) := rfl
theorem divF_huge (x y : Int) : C11.divF (Cell.huge x) (Cell.huge y) = divAV (Cell.huge x) (Cell.huge y) := rfl
theorem toIntF_huge (x : Int) : C11.toIntF (Cell.huge x) = toIntAV (Cell.huge x) := rfl
theorem eqTolCell_huge (x y : Int) : C11.eqTolCell (Cell.huge x) (Cell.huge y) = eqCell (Cell.huge x) (Cell.huge y) := rfl

def hugeCodec : IntKind.h.Codec where
  tok := hTok
  Ok v := -9223372036854775808 ≤ v ∧ v ≤ 9223372036854775807
  print_cell := printArgVal_huge
  val v h := C11.valOKW_huge v h.1 h.2

theorem hugeRun_mk (a d : Int) (n : Nat) (hn : 5 ≤ n) (hd : d ≠ 0)
    (hrange : ∀ k : Nat, k ≤ n → -9223372036854775808 ≤ a + (k : Int) * d ∧ a + (k : Int) * d ≤ 9223372036854775807)
    (hwidth : ((n : Int) - 1) * d.natAbs ≤ 9223372036854775807)
    (hn32 : (n : Int) ≤ 2147483647) : hugeCodec.Run a d n where
  hn := hn
  hd := hd
  hrange := hrange
  hwidth := hwidth
  hn32 := hn32
  ok0 := (by simpa using hrange 0 (Nat.zero_le _) : -9223372036854775808 ≤ a ∧ a ≤ 9223372036854775807)
  ok1 := (by simpa using hrange 1 (by omega) :
    -9223372036854775808 ≤ a + d ∧ a + d ≤ 9223372036854775807)
  okz := hrange (n - 1) (Nat.sub_le _ _)

/-- **Tier 3, int64 arithmetic runs.**  With range compression on, one arithmetic run of
    `n ≥ 5` int64 values is printed as `ah ... zh` (step ±1) or `ah bh ... zh`; the checker counts
    the cells of the range block, the scanner returns the block.
    `hrange` includes `k = n`: the step behind the last element must not overflow, else the
    printer cuts the run one element short.  `hwidth`: fix C10-15 (64-bit).  `hn32`: the count that
    `delta_from_arg_vals` computes goes through `rtosc_arg_val_to_int` (an `int`), so the length of
    the run must be an `int32_t` for every step (for 'i' runs and steps other than ±1 this follows
    from `hwidth`). -/
theorem huge_run_roundtrip (opt : POpt) (hc : opt.compress = true) (a d : Int) (n : Nat) (hn : 5 ≤ n) (hd : d ≠ 0)
    (hrange : ∀ k : Nat, k ≤ n → -9223372036854775808 ≤ a + (k : Int) * d ∧ a + (k : Int) * d ≤ 9223372036854775807)
    (hwidth : ((n : Int) - 1) * d.natAbs ≤ 9223372036854775807)
    (hn32 : (n : Int) ≤ 2147483647) :
    ∃ (st : PSt) (ret : Nat) (cells : List Cell),
      printArgVals opt (hugeRun a d n) ⟨[], 0⟩ = .ok (st, ret) ∧ ret = st.out.length ∧
      countPrintedArgVals st.out = .ok (cells.length : Int) ∧
      scanArgVals st.out cells.length = .ok (st.out.length, cells) ∧
      cells = (if d = 1 ∨ d = -1 then [Cell.rep n 1, Cell.huge d, Cell.huge a]
               else [Cell.huge a, Cell.rep ((n : Int) - 1) 1, Cell.huge d, Cell.huge (a + d)]) :=
  IntKind.run_roundtrip opt hc (hugeRun_mk a d n hn hd hrange hwidth hn32)

/-- the printed text, for reference: `ah ... zh` / `ah bh ... zh` -/
theorem huge_run_text (opt : POpt) (hc : opt.compress = true) (a d : Int) (n : Nat) (hn : 5 ≤ n) (hd : d ≠ 0)
    (hrange : ∀ k : Nat, k ≤ n → -9223372036854775808 ≤ a + (k : Int) * d ∧ a + (k : Int) * d ≤ 9223372036854775807)
    (hwidth : ((n : Int) - 1) * d.natAbs ≤ 9223372036854775807)
    (hn32 : (n : Int) ≤ 2147483647) :
    ∃ (st : PSt) (ret : Nat) (sep : Bytes), IsSepTxt sep ∧
      printArgVals opt (hugeRun a d n) ⟨[], 0⟩ = .ok (st, ret) ∧
      st.out = (if d = 1 ∨ d = -1 then fmtDec a ++ lit "h" else fmtDec a ++ lit "h " ++ fmtDec (a + d) ++ lit "h") ++
        lit " ..." ++ sep ++ fmtDec (a + ((n : Int) - 1) * d) ++ lit "h" := by
  obtain ⟨sep, cols', hsep, hpr⟩ :=
    IntKind.printArgVals_run opt hc (hugeRun_mk a d n hn hd hrange hwidth hn32)
  refine ⟨_, _, sep, hsep, hpr, (hugeCodec.runText_eq a d n sep (by omega)).trans ?_⟩
  have hh : ∀ v, hugeCodec.tok v = fmtDec v ++ lit "h" := fun _ => rfl
  have hsp : lit "h " = lit "h" ++ lit " " := by decide
  by_cases hu : d = 1 ∨ d = -1 <;> simp only [hu, ↓reduceIte, hh, hsp, List.append_assoc]

example := huge_run_roundtrip defaultOpt rfl 1 1 7 (by decide) (by decide) (by intro k hk; omega) (by decide)
  (by decide)
example := huge_run_roundtrip defaultOpt rfl 10 (-2) 5 (by decide) (by decide) (by intro k hk; omega) (by decide)
  (by decide)
example := huge_run_roundtrip defaultOpt rfl (-5000000000000000000) 2000000000000000000 5 (by decide) (by decide)
  (by intro k hk; omega) (by decide) (by decide)

/-! The hypotheses are needed.  `hrange` at `k = n` and `hwidth`: without them the printer does not
compress the run (the text is the plain list of `n` tokens), so the conclusion of
`huge_run_roundtrip` fails.  `hn32`: the count wraps to a negative `int32_t` (shown on
`delta_from_arg_vals`, the scanner and the checker; a run of 2^31 cells itself is out of reach of
kernel evaluation). -/

/-- `hrange` fails only at `k = n` (`a + 5d = 2^63`): the run is printed uncompressed, 5 values are counted -/
theorem huge_run_needs_hrange :
    ¬ ∃ (st : PSt) (ret : Nat) (cells : List Cell),
      printArgVals defaultOpt (hugeRun 9223372036854775803 1 5) ⟨[], 0⟩ = .ok (st, ret) ∧ ret = st.out.length ∧
      countPrintedArgVals st.out = .ok (cells.length : Int) ∧
      scanArgVals st.out cells.length = .ok (st.out.length, cells) ∧
      cells = [Cell.rep 5 1, Cell.huge 1, Cell.huge 9223372036854775803] := by
  rintro ⟨st, ret, cells, hp, _, hcnt, _, hcells⟩
  have h1 : (printArgVals defaultOpt (hugeRun 9223372036854775803 1 5) ⟨[], 0⟩).toOption.map
      (fun r => (countPrintedArgVals r.1.out).toOption) = some (some 5) := by decide +kernel
  rw [hp] at h1
  subst hcells
  simp [Except.toOption, hcnt] at h1

/-- `hwidth` fails (`4 * 3·10^18 > 2^63 - 1`), everything else holds: printed uncompressed -/
theorem huge_run_needs_hwidth :
    ¬ ∃ (st : PSt) (ret : Nat) (cells : List Cell),
      printArgVals defaultOpt (hugeRun (-9000000000000000000) 3000000000000000000 5) ⟨[], 0⟩ = .ok (st, ret) ∧
      ret = st.out.length ∧
      countPrintedArgVals st.out = .ok (cells.length : Int) ∧
      scanArgVals st.out cells.length = .ok (st.out.length, cells) ∧
      cells = [Cell.huge (-9000000000000000000), Cell.rep 4 1, Cell.huge 3000000000000000000,
        Cell.huge (-6000000000000000000)] := by
  rintro ⟨st, ret, cells, hp, _, hcnt, _, hcells⟩
  have h1 : (printArgVals defaultOpt (hugeRun (-9000000000000000000) 3000000000000000000 5) ⟨[], 0⟩).toOption.map
      (fun r => (countPrintedArgVals r.1.out).toOption) = some (some 5) := by decide +kernel
  rw [hp] at h1
  subst hcells
  simp [Except.toOption, hcnt] at h1

/-- `hn32`, step 1: a run `1h … 2147483648h` has 2^31 elements; the count wraps to `INT_MIN` -/
theorem huge_delta_count_wraps :
    (deltaFromArgVals none (Cell.huge 1) (some (Cell.huge 2147483648)) true).toOption =
      some (-2147483648, Cell.huge 1) := by decide +kernel

/-- `hn32`, step 2: `0h 2h … 8589934590h` has 2^32 elements; the count wraps to -1 = "no range" -/
theorem huge_delta_count_wraps_step :
    (deltaFromArgVals (some (Cell.huge 0)) (Cell.huge 2) (some (Cell.huge 8589934590)) false).toOption =
      some (-1, Cell.huge 2) := by decide +kernel

/-- the scanner returns a range of `INT_MIN` elements -/
theorem huge_scan_count_wraps :
    (scanArgVals (lit "1h ... 2147483648h") 3).toOption =
      some (18, [Cell.rep (-2147483648) 1, Cell.huge 1, Cell.huge 1]) := by
  -- the literal as a list of characters first: the kernel decodes "…" position by position
  rw [lit_ofList]; decide +kernel

/-- the checker rejects the text (while the scanner of the same text still writes 4 cells) -/
theorem huge_check_count_wraps :
    (countPrintedArgVals (lit "0h 2h ... 8589934590h")).toOption = some (-2) ∧
    (scanArgVals (lit "0h 2h ... 8589934590h") 4).toOption =
      some (21, [Cell.huge 0, Cell.rep (-1) 1, Cell.huge 2, Cell.huge 2]) := by
  rw [lit_ofList]; decide +kernel

end Rtosc.Pretty
