/-
  C11 — the checker and the scanner of src/cpp/pretty-format.c as C11 needs them.  C10's model
  (`Pretty/{Lex,Val,Print,Scan,Check}.lean`, imported and reused function by function) has the
  repairs fixes/C11-01 … C11-06 and C11-08 itself; C11-07 and the overflow of `res + 1` in
  `delta_from_arg_vals` are modelled here only.  The repairs and the functions they touch:

  * C11-01 (`rtosc_scan_arg_vals`): white space and comments in front of the first value are
    skipped, as `rtosc_count_printed_arg_vals` does                         → `scanArgVals`
  * C11-02 (`rtosc_scan_arg_val`): an open-ended range `a b ...]` only counts (has a delta)
    for the numeric types "cihfdTF", as in the checker                      → `finishArg`
  * C11-03 (`rtosc_skip_next_printed_arg`): the value left of a range is only scanned
    (without a string buffer) when the range is numeric                     → `ellipsisTail`
  * C11-04 (`rtosc_scan_arg_val(s)`): the last element of an array, or of a repeated array, is
    not the left neighbour `a` of a range `b ... c` behind the array        → `scanArrayElems`,
                                                                              `scanArgValsLoop`
  * C11-06 (`rtosc_scan_arg_val`, array case): `args_before` of an element is the number of argument
    values scanned so far in the array (`num_read`), not the element index: behind a range
    `a ... b` (three values, one element) the next range finds `b`      → `scanArrayElems`
  * C11-05 (`delta_from_arg_vals`): for 'f' / 'd' the number of steps is the nearest integer
    (the manual: "an n must exist such that |b + n d - c| <= 0.001")        → `deltaFromArgVals`
  * C11-07 (`rtosc_skip_next_printed_arg`): "..." behind a repetition `nxa` is a syntax error
    (the manual: "Ranges may not overlap, i.e. no 2x1 ... 3")               → `ellipsisTail`
  * C11-08 (`scanf_fmtstr`): the numeric word also ends at the comment sign '%' (`42%c`), like
    every other kind of value                                → C10's `numWordLen` (Pretty/Lex.lean)
  * float / double range arithmetic (`C11Float.lean`) in the range printer instead of `Err.unmodelled`.

  The recursive cores `rtosc_scan_arg_val`, `rtosc_skip_next_printed_arg`, their list loops and the range
  printer are written again; every per-construct function (`scanKeyword`, `scanString`, `skipNumericArg`, …)
  is C10's.  Of the functions written again two differ from C10's copy: `deltaFromArgVals` (`res + 1` that
  leaves `int` is `Err.undef` here, wrapped there) and `ellipsisTail` (fix C11-07); `canPrecedeRange`,
  `scanArrayElems`, `scanArray`, `scanValue`, `lookBackFuel` (C10's `checkFuel`) are equal to C10's and the
  loops are C10's loops over the other one-argument function (`c11_*_eq`, `Proofs/PrettyLoops.lean`).  Every
  answer of this copy of the scanner is the answer of C10's (`scanArgVal_c11_le`, `Proofs/PrettyScanAgree.lean`),
  not conversely ("0 ... 2147483647"); the two checkers agree on the tail behind "..." when the left-hand
  side is no repetition (`ellipsisTail_c11_le`).
  No Mathlib import: linked into the driver.
-/
import RtoscModel.Pretty.Check
import RtoscModel.Pretty.C11Float
namespace Rtosc.Pretty.C11
open Rtosc Rtosc.Libc Rtosc.Pretty
open Rtosc.ArgVal (Cell IntTy StrTy FlagTy)

/-! ### `delta_from_arg_vals` (fix C11-05, floats) -/

def orUndef {α} (o : Option α) : Res α :=
  match o with
  | some a => .ok a
  | none => .error .undef

/-- `delta_from_arg_vals(llhsarg, lhsarg, rhsarg, delta, must_be_unity)`:
    (return value, `*delta`) -/
def deltaFromArgVals (llhs : Option Cell) (lhs : Cell) (rhs : Option Cell) (mustBeUnity : Bool) :
    Res (Int × Cell) := do
  let (cmp, delta) ←
    if mustBeUnity then do
      let r ← orUndef rhs
      let cmp ← cmpCell lhs r
      let d ← must (fromIntF r 1)
      let d' ← if cmp > 0 then must (negateF d) else pure d
      pure (cmp, d')
    else do
      let ll ← orUndef llhs
      let d ← must (subF lhs ll)
      let nullv ← orUndef (nullVal d)
      let cmp ← cmpCell d nullv
      pure (cmp, d)
  if cmp = 0 then return (-1, delta)
  match rhs with
  | some r =>
    let width ← must (subF r lhs)
    let div ← must (divF width delta)
    -- fix C11-05: the nearest "n" for 'f' / 'd'
    let div1 ←
      match div with
      | .flt _ => must (addF div (.flt (cHalf AF32).toUInt32))
      | .dbl _ => must (addF div (.dbl (cHalf AF64).toUInt64))
      | _ => pure div
    let div' ← must (roundF div1)
    let width2 ← must (multF div' delta)
    -- rtosc_arg_vals_eq(&width, &width2, 1, 1, {0.001})
    if !(← eqTolCell width width2) then return (-1, delta)
    let res ← must (toIntF div')
    -- `return res + 1` in `int`: 2147483647 + 1 is a signed overflow ("0 ... 2147483647")
    if res + 1 > 2147483647 ∨ res + 1 < -2147483648 then throw .undef
    return (res + 1, delta)
  | none => return (0, delta)

/-! ### the scanner -/

/-- `can_precede_range(av)` (fix C11-04) on the cells of the value scanned last -/
def canPrecedeRange (cells : List Cell) : Res Bool := do
  match ← deref cells with
  | .arr .. => pure false
  | .rep _ hdl =>
    if hdl = 0 then (do let c ← deref (cells.drop 1); pure (c.type ≠ ArgVal.tyA)) else pure true
  | _ => pure true

/-- the element loop of the array scanner (fixes C11-04, C11-06: `prev_ok ? num_read : 0`) -/
def scanArrayElems (se : ElemScanner) : Nat → Bytes → List Cell → Nat → Bool → List Cell → UInt8 →
    Res (Bytes × List Cell × UInt8)
  | 0, _, _, _, _, _, _ => .error .fuel
  | loopFuel + 1, s, prev, i, prevOk, acc, arrtype =>
    if hd s ≠ 0 ∧ hd s ≠ 93 then do
      let (rd, cells) ← se s prev (if prevOk then acc.length else 0) true    -- fix C11-06: `num_read`, not `i`
      if rd = 0 then throw .hang
      let s1 ← advance s rd
      let ok' ← canPrecedeRange cells
      let c0 ← deref cells
      let ty : UInt8 ← match c0 with
        | .rep _ hdl => (do let c ← deref (cells.drop (if hdl ≠ 0 then 2 else 1)); pure c.type)
        | c => pure c.type
      let argsScanned ← nextArgOffset (cells.length + 1) cells
      if argsScanned ≠ cells.length then throw .undef
      scanArrayElems se loopFuel (skipSpace s1) (cells.reverse ++ prev) (i + 1) ok' (acc ++ cells) ty
    else pure (s, acc, arrtype)

/-- `case '[':` -/
def scanArray (se : ElemScanner) (src : Bytes) (prev : List Cell) : Res ValRes := do
  let s1 := skipSpace (src.drop 1)
  let hole : Cell := .arr 32 0
  let (s2, elems, arrtype) ← scanArrayElems se (src.length + 1) s1 (hole :: prev) 0 true [] 32
  let r ← advance s2 1
  pure ⟨r, Cell.arr arrtype elems.length :: elems, true⟩

/-- the `switch(*src)` of `rtosc_scan_arg_val`: C10's, with this file's copy of the array case (which equals
    C10's: `c11_scanValue_eq`) -/
def scanValue (se : ElemScanner) (src : Bytes) (prev : List Cell) : Res ValRes :=
  if hd src = 91 then scanArray se src prev else Pretty.scanValue se src prev

/-- the tail of `rtosc_scan_arg_val`: "is the argument being followed by an ellipsis?"
    (fix C11-02: `numeric_range`) -/
def finishArg (se : ElemScanner) (src : Bytes) (v : ValRes) (prev : List Cell) (argsBefore : Nat)
    (followEllipsis : Bool) : Res (Nat × List Cell) := do
  let rest := v.rest
  let cells := v.cells
  let src2 := skipSpace rest
  if followEllipsis ∧ startsWith src2 [46, 46, 46] then do
    if !v.argValid then throw .undef           -- `arg` was advanced behind "nx…": *arg is not written yet
    let lhsarg ← deref cells
    let s1 := skipSpace (src2.drop 3)         -- src += 2; while(isspace(*++src));
    let infinite := hd s1 = 93
    let (s2, rhs) : Bytes × Option Cell ←
      if infinite then pure (s1, none)
      else do
        let (rd, rcells) ← se s1 [] 0 false
        let r ← advance s1 rd
        let rc ← deref rcells
        pure (r, some rc)
    -- find llhs position
    let p3 := prev.drop 2
    let llhs : Option Cell ←
      if decide (argsBefore > 2) && (match p3.head? with | some (.rep _ hdl) => decide (hdl ≠ 0) | _ => false) then do
        match p3 with
        | .rep num _ :: _ =>
          -- arg-3 is the range header, arg-2 its delta, arg-1 its start
          let block := [p3.headD (.rep 0 0), prev.getD 1 (.rep 0 0), prev.getD 0 (.rep 0 0)]
          match ← rangeArgF block (num - 1) with
          | some c => pure (some c)
          | none => throw .undef                    -- NULL is dereferenced
        | _ => throw .undef
      else pure prev.head?
    let useless : Bool ←
      if argsBefore < 1 then pure true
      else if lhsarg.type = ArgVal.tyRange then pure true
      else
        match llhs with
        | none => throw .oob
        | some ll =>
          if !typesMatch ll.type lhsarg.type then pure true
          else do pure ((← cmpCell ll lhsarg) = 0)
    -- like the syntax checker: only numeric types can count
    let numericRange := numericRangeTypes.contains lhsarg.type
    let (hasDelta, num, delta) : Bool × Int × Option Cell ←
      if infinite ∧ (useless ∨ !numericRange) then pure (false, 0, none)
      else do
        let (n, d) ← deltaFromArgVals llhs lhsarg rhs useless
        if infinite ∧ n = -1 then pure (false, n, some d) else pure (true, n, some d)
    -- insert_arg_range(arg, num, &lhsarg, has_delta, &delta, true, true)
    let hdr : Cell := .rep (if !hasDelta then 0 else num) (if hasDelta then 1 else 0)
    let dcell : List Cell ← if hasDelta then (match delta with | some d => pure [d] | none => throw .undef) else pure []
    if hasDelta ∧ cells.length ≠ 1 then throw .undef      -- an array would be shifted by one only
    pure (src.length - s2.length, hdr :: dcell ++ cells)
  else pure (src.length - rest.length, cells)

/-- `rtosc_scan_arg_val(src, arg, nargs, buffer_for_strings, bufsize, args_before, follow_ellipsis)` -/
def scanArgVal : Nat → Bytes → List Cell → Nat → Bool → Res (Nat × List Cell)
  | 0, _, _, _, _ => .error .fuel
  | fuel + 1, src, prev, argsBefore, followEllipsis => do
    let v ← scanValue (scanArgVal fuel) src prev
    finishArg (scanArgVal fuel) src v prev argsBefore followEllipsis

/-- the loop of `rtosc_scan_arg_vals` (fix C11-04: `prev_ok ? i : 0`) -/
def scanArgValsLoop : Nat → Bytes → Nat → Nat → Bool → List Cell → Nat → Res (Nat × List Cell)
  | 0, _, _, _, _, _, _ => .error .fuel
  | fuel + 1, src, n, i, prevOk, done, rd =>
    if i < n then do
      let (tmp, cells) ← scanArgVal (src.length + 2) src done.reverse (if prevOk then i else 0) true
      let ok' ← canPrecedeRange cells
      let s1 ← advance src tmp
      let length ← nextArgOffset (cells.length + 1) cells
      if length ≠ cells.length then throw .undef
      let sk ← skipSpaceComments (s1.length + 1) s1
      scanArgValsLoop fuel (s1.drop sk) n (i + length) ok' (done ++ cells) (rd + tmp + sk)
    else pure (rd, done)

/-- `rtosc_scan_arg_vals(src, args, n, buffer_for_strings, bufsize)` (fix C11-01) -/
def scanArgVals (src : Bytes) (n : Nat) : Res (Nat × List Cell) := do
  let sk ← skipSpaceComments (src.length + 1) src
  scanArgValsLoop (n + 1) (src.drop sk) n 0 true [] sk

/-! ### the checker -/

/-- `rtosc_scan_arg_val(s, &av, 1, NULL, &zero, 0, 0)`: one value scanned into a local variable,
    without a buffer for strings.  A string, symbol or non-empty blob is stored through the NULL
    buffer, an array or "nx…" writes behind the variable: undefined behaviour (`Err.undef`). -/
def scanOne (s : Bytes) : Res Cell := do
  let (_, cells) ← scanArgVal (s.length + 2) s [] 0 false
  match cells with
  | [.str _ _] => .error .undef
  | [.blob d] => if d.isEmpty then .ok (.blob d) else .error .undef
  | [c] => .ok c
  | _ => .error .undef

/-- the tail of `rtosc_skip_next_printed_arg`: the argument is followed by "..." at `src2`
    (fix C11-03: `numeric_range && types_match(...)`) -/
def ellipsisTail (sk : ArgSkipper) (oldSrc : Bytes) (sw : SwRes) (src2 : Bytes) (llhssrc : Option Bytes)
    (insideBundle : Bool) : Res SkipRes := do
  let skipped := sw.skipped
  let ellipsis := src2
  let rhssrc := skipSpace (src2.drop 3)
  let lhssrc := oldSrc
  let lhstype : UInt8 := if sw.dlType ≠ 0 then sw.dlType else sw.type
  let numericRange := lhstype = 0 ∨ numericRangeTypes.contains lhstype
  let fail : SkipRes := { src := none, skipped := skipped, type := 45 }
  -- fix C11-07: no range of a repetition ("2x1 ... 3", "[2x1 ...]"): `break` before anything is looked at
  if isRangeMultiplier oldSrc then return fail
  -- in all cases, check rhs
  let rhsInfo : Option (Bytes × UInt8 × Option Cell × Bool) ←
    if hd rhssrc = 93 then pure (some (rhssrc, lhstype, none, true))
    else if !numericRange then pure none
    else do
      let r ← sk rhssrc 120 none false insideBundle
      match r.src with
      | none => pure none
      | some endsrc => do
        let rc ← scanOne rhssrc
        pure (some (endsrc, r.type, some rc, false))
  match rhsInfo with
  | none => pure fail
  | some (endsrc, rhstype, rhsarg, infinite) =>
    if lhstype ≠ rhstype then pure fail
    else do
      let lhsarg : Option Cell ← if numericRange then (do let cl ← scanOne lhssrc; pure (some cl)) else pure none
      -- is llhs given and useful?
      let (useless, llhsarg) : Bool × Option Cell ←
        match llhssrc with
        | none => pure (true, none)
        | some ll0 => do
          let ra ← sk ll0 0 none false insideBundle
          let after : Option Bytes := ra.src.map skipSpace
          let ll1 : Bytes :=
            match after with
            | some a =>
              if a.length > ellipsis.length ∧ startsWith a [46, 46, 46] then skipSpace (a.drop 3)
              else if isRangeMultiplier ll0 then afterX ll0 else ll0
            | none => if isRangeMultiplier ll0 then afterX ll0 else ll0
          let rl ← sk ll1 0 none false insideBundle
          if numericRange ∧ typesMatch rl.type lhstype then do
            let llc ← scanOne ll1
            let l ← orUndef lhsarg
            if (← cmpCell llc l) = 0 then pure (true, some llc) else pure (false, some llc)
          else pure (true, none)
      let hasDelta : Option Bool ←
        if infinite ∧ (useless ∨ !numericRange) then pure (some false)
        else do
          let l ← orUndef lhsarg
          let (num, _) ← deltaFromArgVals llhsarg l rhsarg useless
          if num = -1 then (if infinite then pure (some false) else pure none)
          else pure (some true)
      match hasDelta with
      | none => pure fail
      | some hdl =>
        pure { src := some endsrc, skipped := skipped + (if hdl then 2 else 1), type := 45 }

/-- `rtosc_skip_next_printed_arg`; the first argument bounds the nesting depth -/
def skipNextPrintedArg : Nat → Bytes → UInt8 → Option Bytes → Bool → Bool → Res SkipRes
  | 0, _, _, _, _, _ => .error .fuel
  | fuel + 1, oldSrc, typeIn, llhssrc, followEllipsis, insideBundle => do
    match ← skipValue (skipNextPrintedArg fuel) oldSrc typeIn insideBundle with
    | none => pure { src := none, skipped := 1, type := typeIn }
    | some sw =>
      match sw.src with
      | none => pure { src := none, skipped := sw.skipped, type := sw.type }
      | some src =>
        let src2 := skipSpace src
        if followEllipsis ∧ startsWith src2 [46, 46, 46] then
          ellipsisTail (skipNextPrintedArg fuel) oldSrc sw src2 llhssrc insideBundle
        else pure { src := some src, skipped := sw.skipped, type := sw.type }

/-- the recursion bound handed to `rtosc_skip_next_printed_arg` by the loop of the checker.  The C code has no
    bound; its call depth is limited by the text: a call works inside the argument it skips (elements of an
    array) or, behind "...", on the previous argument `recent` (`llhssrc`), which lies BEFORE `src`.  So the
    bound must cover the text from `recent` on, not only the text from `src` on: a left neighbour may be nested
    deeper than the rest of the text is long (`[[[[[[[[1]]]]]]]] 2...5`: `deep_neighbour_reads`, Props/C11.lean). -/
def lookBackFuel (src : Bytes) (recent : Option Bytes) : Nat :=
  max src.length (match recent with | some r => r.length | none => 0) + 2

/-- the loop of `rtosc_count_printed_arg_vals` -/
def countLoop : Nat → Option Bytes → Option Bytes → Int → Res Int
  | 0, _, _, _ => .error .fuel
  | fuel + 1, src?, recent, num =>
    match src? with
    | none => .ok (-num)
    | some src =>
      if hd src ≠ 0 ∧ hd src ≠ 47 then do
        let r ← skipNextPrintedArg (lookBackFuel src recent) src 0 recent true false
        let src1 : Option Bytes ← match r.src with
          | none => pure none
          | some s => do
            let s1 := skipSpace s
            let s2 ← if hd s1 ≠ 0 then skipCommentLines (s1.length + 1) s1 else pure s1
            pure (some s2)
        match src1 with
        | some s2 => if s2.length ≥ src.length then throw .hang else pure ()
        | none => pure ()
        countLoop fuel src1 (some src) (num + r.skipped)
      else .ok num

/-- `rtosc_count_printed_arg_vals(src)` -/
def countPrintedArgVals (src : Bytes) : Res Int := do
  let s0 := skipSpace src
  let s1 ← skipCommentLines (s0.length + 1) s0
  countLoop (s1.length + 1) (some s1) none 0

/-! ### the printer for ranges of 'f' / 'd' with a delta

  `rtosc_print_arg_vals` is C10's `printArgVals`; it stops with `Err.unmodelled` exactly when
  `rtosc_arg_val_range_arg` / `rtosc_arg_val_from_int` meet a float.  Only then the copy below
  (the same code over `rangeArgF` / `fromIntF`) is used: `printArgVals` at the end. -/

def printRangeElems (pe : ElemPrinter) (opt : POpt) (arg : List Cell) (hd : Int) :
    Int → PSt → Nat → Int → Nat → Nat → Res (PSt × Nat)
  | _, st, wrt, _, _, 0 => .ok (st, wrt)
  | i, st, wrt, lastSep, awl, cnt + 1 => do
    let cur : List Cell ←
      if hd ≠ 0 then (do let c ← must (rangeArgF arg i); pure [c]) else pure (arg.drop 1)
    let (st1, tmp) ← pe cur none st
    let (st2, wrt2, awl2) ← linebreakCheck st1 (wrt + tmp) lastSep tmp awl opt.linelength
    let lastSep' : Int := st2.out.length
    let st3 : PSt := { out := st2.out ++ [32], cols := st2.cols + 1 }
    printRangeElems pe opt arg hd (i + 1) st3 (wrt2 + 1) lastSep' awl2 cnt

/-- `rtosc_print_range(arg, buffer, bs, opt, cols_used, prev_arg)` -/
def printRange (pe : ElemPrinter) (opt : POpt) (arg : List Cell) (prev : Option Cell) (st : PSt) :
    Res (PSt × Nat) := do
  match ← deref arg with
  | .rep num hd =>
    let (st1, wrt1, start) ←
      if opt.compress ∨ num = 0 then
        if hd ≠ 0 ∨ num = 0 then do
          let firstArg := arg.drop (if hd ≠ 0 then 2 else 1)
          let first ← deref firstArg
          let (sa, tmp) ← pe firstArg none st
          let (sb, wb) ←
            if hd ≠ 0 then do
              let one ← must (fromIntF first 1)
              let mOne ← must (fromIntF first (-1))
              let confusing ← match prev with
                | some p => if p.type = first.type then (do pure (!(← eqSingle firstArg [p]))) else pure false
                | none => pure false
              let unit ← (do if ← eqSingle (arg.drop 1) [one] then pure true else eqSingle (arg.drop 1) [mOne])
              if (unit && !confusing) || num = 0 then pure (sa, tmp)
              else do
                let sa1 : PSt := { out := sa.out ++ [32], cols := sa.cols + 1 }
                let second ← must (rangeArgF arg 1)
                let (sa2, tmp2) ← pe [second] none sa1
                pure (sa2, tmp + 1 + tmp2)
            else pure (sa, tmp)
          let sc : PSt := { out := sb.out ++ lit " ... ", cols := sb.cols + 5 }
          pure (sc, wb + 5, num - (if num ≠ 0 then 1 else 0))
        else do
          let mult := fmtDec num ++ [120]
          let sa : PSt := { out := st.out ++ mult, cols := st.cols + mult.length }
          let (sb, tmp) ← pe (arg.drop 1) none sa
          pure (sb, mult.length + tmp, num)
      else pure (st, 0, 0)
    let lastSep : Int := (st1.out.length : Int) - 1
    let awl ← initArgsWritten st1
    let (st2, wrt2) ← printRangeElems pe opt arg hd start st1 wrt1 lastSep awl (num - start).toNat
    if start < num then
      pure ({ st2 with out := st2.out.dropLast }, wrt2 - 1)
    else pure (st2, wrt2)
  | _ => throw .undef

/-- `rtosc_print_arg_val`: scalars are C10's; arrays and ranges recurse into this copy -/
def printArgVal : Nat → POpt → List Cell → Option Cell → PSt → Res (PSt × Nat)
  | 0, _, _, _, _ => .error .fuel
  | fuel + 1, opt, arg, prev, st => do
    match ← deref arg with
    | .arr _ len =>
      if len < 0 then throw .undef
      let n := len.toNat
      let lastSep : Int := (st.out.length : Int) - 1
      let awl ← initArgsWritten st
      let st0 : PSt := { out := st.out ++ [91], cols := st.cols + 1 }
      if n ≠ 0 then
        let (st1, wrt) ← printArrayElems (printArgVal fuel opt) opt arg n 1 st0 1 lastSep awl (n + 1)
        pure ({ out := st1.out.dropLast ++ [93], cols := st1.cols + 1 }, wrt)
      else
        pure ({ out := st0.out ++ [93], cols := st0.cols + 1 + 1 }, 2)
    | .rep .. => printRange (printArgVal fuel opt) opt arg prev st
    | _ => Pretty.printArgVal 1 opt arg prev st

/-- the loop of `rtosc_print_arg_vals` -/
def printArgValsLoop : Nat → POpt → List Cell → Nat → Nat → PSt → Nat → Int → Nat → Res (PSt × Nat)
  | 0, _, _, _, _, _, _, _, _ => .error .fuel
  | fuel + 1, opt, args, n, i, st, wrt, lastSep, awl =>
    if i < n then do
      let cur := args.drop i
      let c ← deref cur
      let conv ← convertToRange opt cur (n - i)
      let input : List Cell := match conv with | some (_, block) => block | none => cur
      let prev : Option Cell := if i = 0 then none else (args.drop (i - 1)).head?
      let (st1, tmp) ← printArgVal (cur.length + 3) opt input prev st
      let wrt1 := wrt + tmp
      let (st2, wrt2, awl2) ←
        if !breaksItself c then linebreakCheck st1 wrt1 lastSep tmp awl opt.linelength
        else pure (st1, wrt1, awl)
      let inc ← match conv with
        | some (skipped, _) => pure skipped
        | none => nextArgOffset (cur.length + 1) cur
      let i' := i + inc
      if i' < n then
        let lastSep' : Int := st2.out.length
        let st3 : PSt := { out := st2.out ++ [32], cols := st2.cols + 1 }
        printArgValsLoop fuel opt args n i' st3 (wrt2 + 1) lastSep' awl2
      else printArgValsLoop fuel opt args n i' st2 wrt2 lastSep awl2
    else pure (st, wrt)

/-- `rtosc_print_arg_vals`: C10's model; its float-range gaps are filled by the copy above -/
def printArgVals (opt : POpt) (args : List Cell) (st : PSt) : Res (PSt × Nat) :=
  match Pretty.printArgVals opt args st with
  | .error .unmodelled =>
    printArgValsLoop (args.length + 1) opt args args.length 0 st 0 ((st.out.length : Int) - 1)
      (if st.cols ≠ 0 then 1 else 0)
  | r => r

end Rtosc.Pretty.C11
