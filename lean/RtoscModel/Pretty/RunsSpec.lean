/-
  C10 — what the round-trip theorems about argument LISTS are stated in (Props/C10.lean and the
  properties stated in Proofs/PrettyTokArray, PrettyRunsExtItems, PrettyRunsExtConv,
  PrettyRunsArr*; Props/C11.lean for `NoLongRun`; Props/C12Text.lean for saved files):

  * one argument: its text and what the three functions do with it (`ArgOK`, `PrintsArg`, on top
    of `TokOK`, `PrintsTok` of Pretty/TokSpec.lean), the separators between arguments
    (`IsSepTxt`), the lists the printer does not compress (`NoLongRun`, `GoodArg`), the address
    of a message (`AddrOK`);
  * lists with compressed runs: an argument list cut into segments `RSeg` (a value, `nxT`, an
    int32 run; the runs themselves are in Pretty/RunSpec.lean), the cells the scanner returns for
    them, their text (`SegText`, `SegsText`) and the printer's side conditions (`Segmented`);
  * the same with arrays among the pieces (`ASeg`, `ASegText`, `ASegsText`, `ASegmented`).

  Definitions only; the lemmas about them are in Proofs/PrettyArg, PrettyLoops, PrettyList (texts of
  arguments, `ArgsText`), PrettyMsg, PrettyRunConst (`NoLongRun`: `convertToRange_shortRun`,
  `noConversion`), PrettyTokArray, PrettyRunsExtScan, PrettyRunsExtPrint, PrettyRunsArrDefs.
  No Mathlib import.
-/
import RtoscModel.Pretty.TokSpec
import RtoscModel.Pretty.RunSpec
namespace Rtosc.Pretty
open Rtosc Rtosc.Libc
open Rtosc.ArgVal (Cell)

/-- the two separators the printer puts between arguments -/
def IsSepTxt (s : Bytes) : Prop := s = [32] ∨ s = [10, 32, 32, 32, 32]

def nl4 : Bytes := [10, 32, 32, 32, 32]

/-- the cells of one argument: a scalar, or an array header followed by its scalar elements -/
inductive ArgCells : List Cell → Prop
  | scalar (c : Cell) : c.isScalar = true → ArgCells [c]
  | array (ety : UInt8) (es : List Cell) : (∀ e ∈ es, e.isScalar = true) →
      ArgCells (Cell.arr ety es.length :: es)

/-- scanner and checker read the text `t` back as the cells `cs` of one argument (nesting needs
    one more unit of fuel than a scalar: `fuel + 2`) -/
structure ArgOK (t : Bytes) (cs : List Cell) : Prop where
  start : TokStart t
  cells : ArgCells cs
  scan : ∀ (rest : Bytes) (fuel : Nat) (prev : List Cell) (ab : Nat), Sep rest →
    scanArgVal (fuel + 2) (t ++ rest) prev ab true = .ok (t.length, cs)
  skip : ∀ (rest : Bytes) (fuel : Nat) (ty : UInt8) (llhs : Option Bytes) (ib : Bool), Sep rest →
    ∃ r, skipNextPrintedArg (fuel + 2) (t ++ rest) ty llhs true ib = .ok r ∧
      r.src = some rest ∧ r.skipped = cs.length ∧ r.type = (cs.headD (Cell.flag .N)).type

/-- the printer appends a good text `t` for the argument `cs` and returns the number of characters
    added.  The state: nothing written on this line yet, or a separator blank was written last.
    An argument that "computes its newlines itself" (`breaksItself`: arrays) may have turned that
    blank into a line break: then `pre` is the output in front of the argument text. -/
def PrintsArg (opt : POpt) (cs : List Cell) : Prop :=
  ∀ (fuel : Nat) (more : List Cell) (prev : Option Cell) (st : PSt),
    (st.cols = 0 ∨ ∃ base, st.out = base ++ [32]) →
    ∃ (pre t : Bytes) (cols' : Int),
      printArgVal (fuel + 2) opt (cs ++ more) prev st =
        .ok (⟨pre ++ t, cols'⟩, t.length + (pre.length - st.out.length)) ∧
      (pre = st.out ∨
        (breaksItself (cs.headD (Cell.flag .N)) = true ∧ ∃ base, st.out = base ++ [32] ∧ pre = base ++ nl4)) ∧
      ArgOK t cs

/-- among the first five cells one has a type different from the first (or there are fewer than five) -/
def shortRun (cs : List Cell) : Bool :=
  match cs with
  | [] => true
  | c :: _ => decide (cs.length < 5) || (cs.take 5).any (fun x => x.type ≠ c.type)

/-- no position of the list starts five cells of one type: the printer never makes a range -/
def NoLongRun (args : List Cell) : Prop := ∀ i, i < args.length → shortRun (args.drop i) = true

/-- an OSC address as the printer and scanner handle it: starts with '/', no white space -/
def AddrOK (a : Bytes) : Prop := hd a = 47 ∧ ∀ c ∈ a, isspace c = false

/-- the element type the scanner writes into the array header: the type of the last element -/
def lastTy (cs : List Cell) (d : UInt8) : UInt8 :=
  match cs.getLast? with
  | some e => e.type
  | none => d

/-- an argument the round-trip theorems cover: a scalar with a good token, or an array of such
    scalars, of one type (true/false count as one), tagged with the type of its last element,
    without compressible runs -/
inductive GoodArg (opt : POpt) : List Cell → Prop
  | scalar (c : Cell) : c.isScalar = true → PrintsTok opt c → GoodArg opt [c]
  | array (es : List Cell) :
      (∀ e ∈ es, e.isScalar = true ∧ PrintsTok opt e) →
      (∀ e ∈ es, typesMatch ((es.headD (Cell.flag .N)).type) e.type = true) →
      (opt.compress = false ∨ NoLongRun es) →
      GoodArg opt (Cell.arr (lastTy es 32) es.length :: es)

/-- a piece of an argument list as `rtosc_print_arg_vals` treats it -/
inductive RSeg
  | tok (c : Cell)                 -- a scalar value printed as it is
  | crun (n : Nat) (c : Cell)      -- `n` copies of a scalar value: `nxT`
  | irun (a d : Int) (n : Nat)     -- the int32 run `a, a+d, …, a+(n-1)d`: `a ... z` / `a b ... z`

/-- the last value of the run `a, a+d, …` of length `n` -/
def zOf (a d : Int) (n : Nat) : Int := a + ((n - 1 : Nat) : Int) * d

/-- the cells of the segment in the original argument list -/
def RSeg.cells : RSeg → List Cell
  | .tok c => [c]
  | .crun n c => List.replicate n c
  | .irun a d n => arithRun a d n

/-- the last original cell of the segment: the left neighbour of what follows -/
def RSeg.last : RSeg → Cell
  | .tok c => c
  | .crun _ c => c
  | .irun a d n => Cell.int .i (zOf a d n)

/-- the cells the scanner returns for the segment -/
def RSeg.scanned (L : Option Cell) : RSeg → List Cell
  | .tok c => [c]
  | .crun n c => [Cell.rep n 0, c]
  | .irun a d n =>
    if shortForm L a d then [Cell.rep n 1, Cell.int .i d, Cell.int .i a]
    else [Cell.int .i a, Cell.rep ((n : Int) - 1) 1, Cell.int .i d, Cell.int .i (a + d)]

/-- the cells the scanner returns for a list of segments, each behind the last value of the one before -/
def scannedAll : Option Cell → List RSeg → List Cell
  | _, [] => []
  | L, s :: r => s.scanned L ++ scannedAll (some s.last) r

/-- the text of one segment behind the left neighbour `L` -/
inductive SegText (L : Option Cell) : RSeg → Bytes → Prop
  | tok (t : Bytes) (c : Cell) : TokOK t c → c.isScalar = true → SegText L (.tok c) t
  | crun (n : Nat) (t : Bytes) (c : Cell) : TokOK t c → c.isScalar = true → 1 ≤ n → n ≤ 2147483647 →
      SegText L (.crun n c) (runText n t)
  | short (a d : Int) (n : Nat) (sep : Bytes) : RunHyp a d n → shortForm L a d = true → IsSepTxt sep →
      SegText L (.irun a d n) (fmtDec a ++ ellRest sep (fmtDec (zOf a d n)))
  | long (a d : Int) (n : Nat) (sep : Bytes) : RunHyp a d n → shortForm L a d = false → IsSepTxt sep →
      SegText L (.irun a d n) (fmtDec a ++ ([32] ++ (fmtDec (a + d) ++ ellRest sep (fmtDec (zOf a d n)))))

/-- the text of a list of segments: segment texts separated by a blank or a line break -/
inductive SegsText : Option Cell → List RSeg → Bytes → Prop
  | nil (L : Option Cell) : SegsText L [] []
  | cons (L : Option Cell) (s : RSeg) (segs : List RSeg) (T sep text : Bytes) :
      SegText L s T → SegsText (some s.last) segs text → (segs = [] → sep = []) → (segs ≠ [] → IsSepTxt sep) →
      SegsText L (s :: segs) (T ++ (sep ++ text))

/-- the cells of a list of segments: the argument list -/
def cellsAll : List RSeg → List Cell
  | [] => []
  | s :: r => s.cells ++ cellsAll r

/-- **the side conditions of the printer**: `rtosc_convert_to_range`, called at the start of each
    segment on the rest of the argument list, finds exactly this segment — nothing for a `tok`, the
    whole constant run for a `crun`, the whole arithmetic run for an `irun` — and the values are
    in the domain of the token theorems / satisfy the overflow guards (`RunHyp`). -/
inductive Segmented (opt : POpt) : List RSeg → Prop
  | nil : Segmented opt []
  | tok (c : Cell) (segs : List RSeg) : c.isScalar = true → PrintsTok opt c →
      convertToRange opt (c :: cellsAll segs) ((cellsAll segs).length + 1) = .ok none →
      Segmented opt segs → Segmented opt (.tok c :: segs)
  | crun (n : Nat) (c : Cell) (segs : List RSeg) : c.isScalar = true → PrintsTok opt c → 5 ≤ n → n ≤ 2147483647 →
      convertToRange opt (List.replicate n c ++ cellsAll segs) (n + (cellsAll segs).length) =
        .ok (some (n, [Cell.rep n 0, c])) →
      Segmented opt segs → Segmented opt (.crun n c :: segs)
  | irun (a d : Int) (n : Nat) (segs : List RSeg) : RunHyp a d n →
      convertToRange opt (arithRun a d n ++ cellsAll segs) (n + (cellsAll segs).length) =
        .ok (some (n, [Cell.rep n 1, Cell.int .i d, Cell.int .i a])) →
      Segmented opt segs → Segmented opt (.irun a d n :: segs)

/-! ### pieces with arrays

  A top-level argument list is cut into `ASeg`s: a segment `RSeg` (a value, a constant run `nxT`,
  an int32 arithmetic run), or an ARRAY whose body is again cut into `RSeg`s (values and compressed
  runs inside the array).  Three parties look at "the value to the left":

  * the printer (`prev_arg_if_range`): the last cell in memory — behind an array that is the
    array's last element (`ASeg.plast`);
  * the scanner: `args_before = 0` behind an array (`prev_ok`, fix C11-04): no left neighbour;
  * the checker: `llhssrc` is the array's text, whose type 'a' matches nothing.

  `ASegText pL` / `ASegsText pL` are indexed by the PRINTER's left neighbour `pL` (it decides
  between `a ... z` and `a b ... z`); the readers' context is derived from it (`RdCtx`,
  Proofs/PrettyRunsExtScan.lean).

  `ASegmented` is to `ASeg`s what `Segmented` is to `RSeg`s: what the printer's `convertToRange`
  answers at the start of each piece; `PrinterSegments` and `PrinterPieces` (Props/C10.lean) are the
  same two with the values in the property's domain and the overflow guards added, and imply them
  (`PrinterSegments.segmented`, `PrinterPieces.asegmented`). -/

/-- the element-type tag the scanner writes into an array header: the type of the last original
    value of the body (`d` for an empty body) -/
def lastTyS : List RSeg → UInt8 → UInt8
  | [], d => d
  | s :: r, _ => lastTyS r s.last.type

/-- a piece of a top-level argument list: a segment, an array whose body is cut into segments, or
    a run of `n` equal such arrays -/
inductive ASeg
  | seg (s : RSeg)
  | arr (body : List RSeg)
  | arun (n : Nat) (body : List RSeg)     -- `n` copies of the array: `nx[…]`

/-- the header cell of the array in the ORIGINAL argument list -/
def arrHdr (body : List RSeg) : Cell := Cell.arr (lastTyS body 32) (cellsAll body).length

/-- the header cell of the array as the scanner writes it -/
def arrHdrS (body : List RSeg) : Cell := Cell.arr (lastTyS body 32) (scannedAll none body).length

/-- the cells of the piece in the original argument list -/
def ASeg.cells : ASeg → List Cell
  | .seg s => s.cells
  | .arr body => arrHdr body :: cellsAll body
  | .arun n body => (List.replicate n (arrHdr body :: cellsAll body)).flatten

/-- the last original cell of the piece: what the PRINTER takes for the left neighbour of the
    next value (for an array: its last element; the header if it is empty) -/
def ASeg.plast : ASeg → Cell
  | .seg s => s.last
  | .arr body => (cellsAll body).getLast?.getD (arrHdr body)
  | .arun _ body => (cellsAll body).getLast?.getD (arrHdr body)

/-- the cells the scanner returns for the piece (`pL`: the printer's left neighbour) -/
def ASeg.scanned (pL : Option Cell) : ASeg → List Cell
  | .seg s => s.scanned pL
  | .arr body => arrHdrS body :: scannedAll none body
  | .arun n body => Cell.rep n 0 :: arrHdrS body :: scannedAll none body

def cellsAllA : List ASeg → List Cell
  | [] => []
  | x :: r => x.cells ++ cellsAllA r

def scannedAllA : Option Cell → List ASeg → List Cell
  | _, [] => []
  | L, x :: r => x.scanned L ++ scannedAllA (some x.plast) r

/-- the checker's `arraytypes_match` condition on the original values of an array body: every
    value has the type of the first one ('T' and 'F' count as one type) -/
def ArrTypesOK (body : List RSeg) : Prop :=
  ∀ e ∈ cellsAll body, typesMatch ((cellsAll body).headD (Cell.flag .N)).type e.type = true

/-- the text of one piece behind the printer's left neighbour `pL`: a segment text, or
    `[` body `]` where the body is a text of segments (first element: no left neighbour) -/
inductive ASegText (pL : Option Cell) : ASeg → Bytes → Prop
  | seg (s : RSeg) (T : Bytes) : SegText pL s T → ASegText pL (.seg s) T
  | arr (body : List RSeg) (B : Bytes) : SegsText none body B → ArrTypesOK body →
      ASegText pL (.arr body) (91 :: (B ++ [93]))
  | arun (n : Nat) (body : List RSeg) (B : Bytes) : SegsText none body B → ArrTypesOK body → 1 ≤ n → n ≤ 2147483647 →
      ASegText pL (.arun n body) (runText n (91 :: (B ++ [93])))

/-- the text of a list of pieces: piece texts separated by a blank or a line break -/
inductive ASegsText : Option Cell → List ASeg → Bytes → Prop
  | nil (L : Option Cell) : ASegsText L [] []
  | cons (L : Option Cell) (x : ASeg) (xs : List ASeg) (T sep text : Bytes) :
      ASegText L x T → ASegsText (some x.plast) xs text → (xs = [] → sep = []) → (xs ≠ [] → IsSepTxt sep) →
      ASegsText L (x :: xs) (T ++ (sep ++ text))

/-- **the side conditions of the printer** for a list of pieces (cf. `Segmented`): called at the
    start of each piece on the rest of the argument list, `rtosc_convert_to_range` returns nothing
    for a value and for an array header, the whole constant run, resp. the whole arithmetic run;
    the body of an array is `Segmented` on its own (the array loop of the printer calls
    `rtosc_convert_to_range` with the number of cells left IN the array), its values have one
    type (`ArrTypesOK`); the number of copies of a repeated array fits an `int32_t`. -/
inductive ASegmented (opt : POpt) : List ASeg → Prop
  | nil : ASegmented opt []
  | tok (c : Cell) (xs : List ASeg) : c.isScalar = true → PrintsTok opt c →
      convertToRange opt (c :: cellsAllA xs) ((cellsAllA xs).length + 1) = .ok none →
      ASegmented opt xs → ASegmented opt (.seg (.tok c) :: xs)
  | crun (n : Nat) (c : Cell) (xs : List ASeg) : c.isScalar = true → PrintsTok opt c → 5 ≤ n → n ≤ 2147483647 →
      convertToRange opt (List.replicate n c ++ cellsAllA xs) (n + (cellsAllA xs).length) =
        .ok (some (n, [Cell.rep n 0, c])) →
      ASegmented opt xs → ASegmented opt (.seg (.crun n c) :: xs)
  | irun (a d : Int) (n : Nat) (xs : List ASeg) : RunHyp a d n →
      convertToRange opt (arithRun a d n ++ cellsAllA xs) (n + (cellsAllA xs).length) =
        .ok (some (n, [Cell.rep n 1, Cell.int .i d, Cell.int .i a])) →
      ASegmented opt xs → ASegmented opt (.seg (.irun a d n) :: xs)
  | arr (body : List RSeg) (xs : List ASeg) : Segmented opt body → ArrTypesOK body →
      convertToRange opt (arrHdr body :: (cellsAll body ++ cellsAllA xs))
        ((cellsAll body).length + 1 + (cellsAllA xs).length) = .ok none →
      ASegmented opt xs → ASegmented opt (.arr body :: xs)
  | arun (n : Nat) (body : List RSeg) (xs : List ASeg) : Segmented opt body → ArrTypesOK body → 5 ≤ n → n ≤ 2147483647 →
      convertToRange opt ((List.replicate n (arrHdr body :: cellsAll body)).flatten ++ cellsAllA xs)
        (n * ((cellsAll body).length + 1) + (cellsAllA xs).length) =
        .ok (some (n * ((cellsAll body).length + 1), Cell.rep n 0 :: arrHdr body :: cellsAll body)) →
      ASegmented opt xs → ASegmented opt (.arun n body :: xs)

end Rtosc.Pretty
