/-
  C10/C11 — model of the pretty scanner of src/cpp/pretty-format.c, with the fix patches
  fixes/C10-02 … C10-06, C10-16 and fixes/C11-01, -02, -04, -05, -06 applied (leading white space and
  comments in `rtosc_scan_arg_vals`; open-ended ranges count for numeric types only;
  `can_precede_range` / `prev_ok`; nearest step count for 'f' / 'd' ranges; `num_read` as
  `args_before` inside arrays):
  `parse_identifier`, `delta_from_arg_vals`, `insert_arg_range` (as used by the scanner),
  `rtosc_scan_arg_val`, `rtosc_scan_arg_vals`, `rtosc_scan_message`,
  and `rtosc_float2secfracs`, `rtosc_arg_val_from_params` (src/rtosc-time.c).

  `rtosc_scan_arg_val(src, arg, …)` is modelled as a function from the text at `src`
  to (characters read, cells written at `arg[0…]`).  The cells already written before `arg`
  (which the code inspects through `arg[-1]`, `arg[-2]`, `arg[-3]`) are passed as `prev`,
  most recent first.  The buffer for strings is abstracted: a string/blob cell carries its
  bytes; the code hands out consecutive, non-overlapping pieces of the caller's buffer
  (validated by correspondence: the harness reads all strings after scanning has finished)
  and the `bufsize` bookkeeping only feeds `assert`s.
  A cell whose value the code leaves indeterminate is never invented: `Err.undef`.
  No Mathlib import: linked into the driver.
-/
import RtoscModel.Pretty.Print
import RtoscModel.Pretty.C11Float
namespace Rtosc.Pretty
open Rtosc Rtosc.Libc
open Rtosc.ArgVal (Cell IntTy StrTy FlagTy)
open Rtosc.Pretty.C11 (fromIntF negateF subF divF addF roundF multF toIntF eqTolCell rangeArgF cHalf AF32 AF64)

/-- C `char` read as `int` (`char` is signed on the target) -/
def scharVal (c : UInt8) : Int := if c.toNat < 128 then c.toNat else (c.toNat : Int) - 256

/-- `types_match(type1, type2)` -/
def typesMatch (a b : UInt8) : Bool := a = b || (a = 84 && b = 70) || (a = 70 && b = 84)

/-- `parse_identifier(src, arg, …)` at an identifier start: (rest, cell) -/
def parseIdentifier (s : Bytes) : Bytes × Cell :=
  let name := takeIdentChars s
  (s.drop name.length, .str .S (some name))

/-- `rtosc_float2secfracs(secfracsf)` -/
def float2secfracs (bits32 : Nat) : Res Nat := do
  let (str, _) ← removeTrailingZeroes (fmtA (promote bits32))
  -- if(secfracs_as_hex[3]=='.') { [3] = [2]; scanpos = 3 } else scanpos = 2
  let dotted := str.getD 3 0 = 46
  let str1 := if dotted then str.set 3 (str.getD 2 0) else str
  let scanpos := if dotted then 3 else 2
  -- strstr(str, "+0") && !plus[2]
  let plusZeroAtEnd := str1.length ≥ 2 ∧ str1.drop (str1.length - 2) = [43, 48]
  let (secfracs, exp) ←
    if plusZeroAtEnd then pure ((0 : Int), (0 : Int))
    else
      match sscanf [.int .x none false, .lit 112, .lit 45, .int .i none false] (str1.drop scanpos) with
      | [.int a, .int e] => pure (a, toI32 e)
      | _ => throw .undef
  -- p = strchr(str, 'p')
  let pIdx := (str1.takeWhile (· ≠ 112)).length
  if pIdx ≥ str1.length then throw .undef
  let hexdigitsAfterComma : Int := (pIdx : Int) - ((scanpos : Int) + 1)
  let lshift : Int := 32 - exp - hexdigitsAfterComma * 4
  -- fix C10-16: mantissa bits below 2^-32 are cut off (no shift by a negative count)
  if lshift ≥ 64 then throw .undef
  else if lshift ≥ 0 then pure ((secfracs.toNat * 2 ^ lshift.toNat) % 18446744073709551616)
  else if lshift > -64 then pure (secfracs.toNat / 2 ^ (-lshift).toNat)
  else pure 0

/-- `rtosc_arg_val_from_params(dest, &m_tm, secfracs)`: `val.t` -/
def timeFromParams (tm : Tm) (secfracs : Nat) : Nat :=
  let t := (mktime tm % 18446744073709551616).toNat          -- (uint64_t)mktime(m_tm)
  Nat.lor (secfracs % 18446744073709551616) ((t * 4294967296) % 18446744073709551616)

/-- `(uint64_t)(d * 4294967296.0)` for a double bit pattern (exact product; truncation) -/
def doubleToSecfracs (b : Nat) : Res Nat :=
  if f64.sign b then (match f64.classify b with | .zero => .ok 0 | _ => .error .undef)
  else
    match f64.classify b with
    | .zero => .ok 0
    | .fin m e =>
      let e' := e + 32
      let v := if e' ≥ 0 then m * 2 ^ e'.toNat else m / 2 ^ (-e').toNat
      if v ≥ 18446744073709551616 then .error .undef else .ok v
    | _ => .error .undef

/-- `numeric_range_types()` -/
def numericRangeTypes : Bytes := lit "cihfdTF"

/-- `delta_from_arg_vals(llhsarg, lhsarg, rhsarg, delta, must_be_unity)`:
    (return value, `*delta`).  The arithmetic of src/cpp/arg-val-math.c: integers and booleans
    from `Pretty/Val.lean`, 'f' / 'd' from `Pretty/C11Float.lean`. -/
def deltaFromArgVals (llhs : Option Cell) (lhs : Cell) (rhs : Option Cell) (mustBeUnity : Bool) :
    Res (Int × Cell) := do
  let (cmp, delta) ←
    if mustBeUnity then do
      let r ← match rhs with | some r => pure r | none => throw .undef
      let cmp ← cmpCell lhs r
      let d ← must (fromIntF r 1)
      let d' ← if cmp > 0 then must (negateF d) else pure d
      pure (cmp, d')
    else do
      let ll ← match llhs with | some c => pure c | none => throw .undef
      let d ← must (subF lhs ll)
      let nullv ← match nullVal d with | some z => pure z | none => throw .undef
      let cmp ← cmpCell d nullv
      pure (cmp, d)
  if cmp = 0 then return (-1, delta)
  match rhs with
  | some r =>
    let width ← must (subF r lhs)
    let div ← must (divF width delta)
    -- fix C11-05: for 'f' / 'd' take the nearest "n" (`rtosc_arg_val_round` rounds down)
    let div1 ←
      match div with
      | .flt _ => must (addF div (.flt (cHalf AF32).toUInt32))
      | .dbl _ => must (addF div (.dbl (cHalf AF64).toUInt64))
      | _ => pure div
    let div' ← must (roundF div1)
    let width2 ← must (multF div' delta)
    -- rtosc_arg_vals_eq(&width, &width2, 1, 1, {0.001}): exact for the integer types
    if !(← eqTolCell width width2) then return (-1, delta)
    let res ← must (toIntF div')
    return (toI32 (res + 1), delta)      -- `res + 1` wraps here; `C11.deltaFromArgVals` answers `Err.undef` on the overflow
  | none => return (0, delta)

/-- bytes of a string part up to the closing quote, unescaped: (content, rest at the quote) -/
def scanStrPart : Nat → Bytes → Res (Bytes × Bytes)
  | 0, _ => .error .fuel
  | fuel + 1, s =>
    match s with
    | [] => .error .oob                       -- while(*src != '"') runs past the NUL
    | c :: r =>
      if c = 34 then .ok ([], s)
      else if c = 92 then
        match r with
        | [] => .error .oob
        | e :: r' => do
          let (rest, stop) ← scanStrPart fuel r'
          pure (getEscapedChar e false :: rest, stop)
      else do
        let (rest, stop) ← scanStrPart fuel r
        pure (c :: rest, stop)

/-- the `do … while(cont)` loop of the string scanner; `s` points behind an opening quote;
    returns the content and the position of the final closing quote -/
def scanStrParts : Nat → Bytes → Res (Bytes × Bytes)
  | 0, _ => .error .fuel
  | fuel + 1, s => do
    let (part, q) ← scanStrPart (s.length + 1) s
    match at? q 1 with
    | none => throw .oob
    | some c1 =>
      if c1 = 92 then
        let rd := skipFmt fmtStrCont q
        if rd = 0 then throw .hang            -- src is not advanced, the loop repeats forever
        else do
          let (more, q') ← scanStrParts fuel (q.drop rd)
          pure (part ++ more, q')
      else pure (part, q)

/-- what `rtosc_scan_arg_val` needs from itself for nested values -/
abbrev ElemScanner := Bytes → List Cell → Nat → Bool → Res (Nat × List Cell)

/-- `can_precede_range(av)` (fix C11-04) on the cells of the value scanned last: the last element
    of an array (or of a repeated array) is not the left neighbour of the value behind it -/
def canPrecedeRange (cells : List Cell) : Res Bool := do
  match ← deref cells with
  | .arr .. => pure false
  | .rep _ hdl =>
    if hdl = 0 then (do let c ← deref (cells.drop 1); pure (c.type ≠ ArgVal.tyA)) else pure true
  | _ => pure true

/-- the element loop of the array scanner: (rest of the text at ']' or NUL, cells, arrtype).
    `acc` are the cells written so far (`num_read` of them), `prevOk` is `prev_ok`
    (fixes C11-04, C11-06: `args_before` is `prev_ok ? num_read : 0`, not the element index `i`) -/
def scanArrayElems (se : ElemScanner) : Nat → Bytes → List Cell → Nat → Bool → List Cell → UInt8 →
    Res (Bytes × List Cell × UInt8)
  | 0, _, _, _, _, _, _ => .error .fuel
  | loopFuel + 1, s, prev, i, prevOk, acc, arrtype =>
    if hd s ≠ 0 ∧ hd s ≠ 93 then do
      let (rd, cells) ← se s prev (if prevOk then acc.length else 0) true
      if rd = 0 then throw .hang
      let s1 ← advance s rd
      let ok' ← canPrecedeRange cells
      let c0 ← deref cells
      let ty : UInt8 ← match c0 with
        | .rep _ hdl => (do let c ← deref (cells.drop (if hdl ≠ 0 then 2 else 1)); pure c.type)
        | c => pure c.type
      let argsScanned ← nextArgOffset (cells.length + 1) cells
      if argsScanned ≠ cells.length then throw .undef
      scanArrayElems se loopFuel (skipSpace s1) (cells.reverse ++ prev) (i + 1) ok' (acc ++ cells) ty
    else pure (s, acc, arrtype)

/-- the numeric case of `rtosc_scan_arg_val`: one pass of the `do … while(repeat_once)` loop
    writes the scanned number into the union (`raw`, 64 bits, little endian) -/
def scanNumberPass (s : Bytes) (argType : UInt8) (raw : Option Nat) : Res (Nat × UInt8 × Nat) := do
  let nf ← match scanfFmtstr s with | some nf => pure nf | none => throw .undef     -- NULL format
  let argType' := if argType = 0 then nf.type else argType
  -- fix C10-03: the lossless part of a double has no 'd' suffix
  let asDouble := argType ≠ 0 ∧ argType = 100 ∧ nf.type = 102
  let dirs : List Dir := if asDouble then [.flt true false, .n] else nf.dirs false
  let ty : UInt8 := if asDouble then 100 else nf.type
  let vals := sscanf dirs s
  let rd := match vals.getLast? with | some (.pos n) => n | _ => 0
  let old := raw.getD 0
  let raw' : Option Nat :=
    match vals.head? with
    | some (.int v) =>
      if ty = 104 then some ((toI64 v % 18446744073709551616).toNat)
      else some (old / 4294967296 * 4294967296 + (toI32 v % 4294967296).toNat)
    | some (.flt b) =>
      if ty = 100 then some b else some (old / 4294967296 * 4294967296 + b % 4294967296)
    | _ => raw
  match raw' with
  | none => throw .undef
  | some r => pure (rd, argType', r)

/-- the cell an `arg->type` / union content pair stands for -/
def cellOfRaw (ty : UInt8) (raw : Nat) : Res Cell :=
  if ty = 104 then .ok (.huge (toI64 raw))
  else if ty = 105 then .ok (.int .i (toI32 (raw % 4294967296)))
  else if ty = 102 then .ok (.flt (raw % 4294967296).toUInt32)
  else if ty = 100 then .ok (.dbl raw.toUInt64)
  else .error .undef

/-- the value one `case` of the `switch` in `rtosc_scan_arg_val` has scanned -/
structure ValRes where
  rest : Bytes            -- `src` behind the value
  cells : List Cell       -- the cells written at `arg[0…]`
  argValid : Bool         -- `arg` still points to the first of them (not so after "nx…")
deriving Repr

/-- the byte loop of the blob scanner -/
def scanBlobBytes : Nat → Bytes → Bytes → Res (Bytes × Bytes)
  | 0, s, acc => .ok (s, acc)
  | k + 1, s, acc =>
    match sscanf (fmtBlobByte false) s with
    | [.int v, .pos rd] => scanBlobBytes k (s.drop rd) (acc ++ [(v % 256).toNat.toUInt8])
    | _ => .error .undef                      -- `rd` (and `tmp`) indeterminate

/-- `case 't': case 'f': case 'n': case 'i':` -/
def scanKeyword (src : Bytes) : ValRes :=
  let c := hd src
  -- arg->type = toupper(*src_backup)
  let flag : Cell := .flag (if c = 116 then .T else if c = 102 then .F else if c = 110 then .N else .I)
  match skipWord (lit "immediately") src with
  | some r => ⟨r, [Cell.time 1], true⟩
  | none =>
  match skipWord (lit "now") src with
  | some r => ⟨r, [Cell.time 1], true⟩
  | none =>
  match skipWord (lit "true") src with
  | some r => ⟨r, [flag], true⟩
  | none =>
  match skipWord (lit "false") src with
  | some r => ⟨r, [flag], true⟩
  | none =>
  match skipWord (lit "nil") src with
  | some r => ⟨r, [flag], true⟩
  | none =>
  match skipWord (lit "inf") src with
  | some r => ⟨r, [flag], true⟩
  | none =>
    let (r, cell) := parseIdentifier src
    ⟨r, [cell], true⟩

/-- `case '#':` -/
def scanColor (src : Bytes) : Res ValRes := do
  let s1 := src.drop 1
  let v ← match sscanf [.int .x none false] s1 with
    | [.int v] => pure v
    | _ => throw .undef
  let r ← advance s1 8
  pure ⟨r, [Cell.int .r (toI32 v)], true⟩

/-- `case '\'':` -/
def scanChar (src : Bytes) : Res ValRes := do
  let s1 := src.drop 1
  if s1.isEmpty then throw .oob                     -- `src += 2` below passes the NUL
  if hd s1 = 92 then
    match at? s1 2 with
    | none => throw .oob
    | some c2 =>
      if c2 ≠ 0 ∧ !isspace c2 then do
        let r ← advance s1 3
        pure ⟨r, [Cell.int .c (scharVal (getEscapedChar (s1.getD 1 0) true))], true⟩
      else do
        let r ← advance s1 2
        pure ⟨r, [Cell.int .c 92], true⟩
  else do
    let r ← advance s1 2
    pure ⟨r, [Cell.int .c (scharVal (hd s1))], true⟩

/-- `case '"':` -/
def scanString (src : Bytes) : Res ValRes := do
  let (content, q) ← scanStrParts (src.length + 1) (src.drop 1)
  let r := q.drop 1
  if hd r = 83 then pure ⟨r.drop 1, [Cell.str .S (some content)], true⟩
  else pure ⟨r, [Cell.str .s (some content)], true⟩

def u8 (v : Int) : UInt8 := (v % 256).toNat.toUInt8

/-- `case 'M':` -/
def scanMidi (src : Bytes) : Res ValRes :=
  if startsWith src (lit "MIDI") ∧ (isspace (hd (src.drop 4)) ∨ hd (src.drop 4) = 91) then
    match sscanf (fmtMidi false) src with
    | [.int a, .int b, .int c', .int d, .pos rd] => pure ⟨src.drop rd, [Cell.midi (u8 a) (u8 b) (u8 c') (u8 d)], true⟩
    | [.int a, .int b, .int c', .int d] => pure ⟨src, [Cell.midi (u8 a) (u8 b) (u8 c') (u8 d)], true⟩
    | _ => throw .undef
  else
    let (r, cell) := parseIdentifier src
    pure ⟨r, [cell], true⟩

/-- `case '[':` -/
def scanArray (se : ElemScanner) (src : Bytes) (prev : List Cell) : Res ValRes := do
  let s1 := skipSpace (src.drop 1)
  -- start_arg is written after the loop; while the loop runs it is indeterminate, but the
  -- look-backs of the elements never reach it
  let hole : Cell := .arr 32 0
  let (s2, elems, arrtype) ← scanArrayElems se (src.length + 1) s1 (hole :: prev) 0 true [] 32
  let r ← advance s2 1
  pure ⟨r, Cell.arr arrtype elems.length :: elems, true⟩

/-- `case 'B':` -/
def scanBlob (src : Bytes) : Res ValRes :=
  match sscanf fmtBlobOpenLen src with
  | [.int len, .pos rd] =>
    if rd = 0 then
      let (r, cell) := parseIdentifier src
      pure ⟨r, [cell], true⟩
    else do
      let n := toI32 len
      if n < 0 then throw .undef
      let s1 := src.drop rd
      let (s2, data) ← scanBlobBytes n.toNat s1 []
      let r ← advance s2 1
      pure ⟨r, [Cell.blob data], true⟩
  | _ =>
    -- arg->val.b.len may have been assigned, rd = 0: an identifier
    let (r, cell) := parseIdentifier src
    pure ⟨r, [cell], true⟩

/-- `default:` a range multiplier "nx…" -/
def scanMultiplier (se : ElemScanner) (src : Bytes) : Res ValRes := do
  let (mult, rd) ← match sscanf fmtMult src with
    | [.int m, .pos rd] => pure (toI32 m, rd)
    | _ => throw .undef
  let s1 := src.drop rd
  let (tmp, vcells) ← se s1 [] 0 false
  let r ← advance s1 tmp
  pure ⟨r, Cell.rep mult 0 :: vcells, false⟩

/-- `default:` a date (fixes C10-04, C10-05, C10-06) -/
def scanDate (src : Bytes) : Res ValRes := do
  let (year, mon, mday, rd0) ← match sscanf fmtScDate src with
    | [.int y, .int m, .int d, .pos rd] => pure (toI32 y, toI32 m, toI32 d, rd)
    | _ => throw .undef
  let s1 := src.drop rd0
  let (hour, min, s2) := match sscanf fmtScHM s1 with
    | [.int h, .int m, .pos rd] => if rd ≠ 0 then (toI32 h, toI32 m, s1.drop rd) else (0, 0, s1)
    | _ => (0, 0, s1)
  let (sec, s3) := match sscanf fmtScS s2 with
    | [.int sc, .pos rd] => (toI32 sc, s2.drop rd)
    | _ => ((0 : Int), s2)
  let openRd := if hd s3 = 46 then skipFmt fmtScFracOpen s3 else 0
  let (secfracs, s4) ←
    if openRd ≠ 0 then do
      let s3' := s3.drop openRd
      match sscanf fmtScLoss s3' with
      | [.flt b, .pos rd] => do let sf ← doubleToSecfracs b; pure (sf, s3'.drop rd)
      | [.flt b] => do let sf ← doubleToSecfracs b; pure (sf, s3')
      | _ => pure (0, s3')
    else if hd s3 = 46 then
      match sscanf fmtScFloat s3 with
      | [.flt b, .pos rd] => do let sf ← float2secfracs b; pure (sf, s3.drop rd)
      | _ =>
        -- secfracsf is indeterminate, `rd` still holds the result of the seconds scan
        throw .undef
    else pure (0, s3)
  let tm : Tm := { year := year, mon := mon, mday := mday, hour := hour, min := min, sec := sec }
  pure ⟨s4, [Cell.time (timeFromParams tm secfracs)], true⟩

/-- `default:` a numeric literal, optionally followed by its exact value in parentheses -/
def scanNumeric (src : Bytes) : Res ValRes := do
  let (rd1, ty1, raw1) ← scanNumberPass src 0 none
  let s1 := src.drop rd1
  let after := skipSpace s1
  if hd after = 40 then do
    let s2 := skipSpace (after.drop 1)
    let (rd2, ty2, raw2) ← scanNumberPass s2 ty1 (some raw1)
    let s3 := s2.drop rd2
    let s4 := s3.drop (skipFmt fmtCloseParen s3)
    let cell ← cellOfRaw ty2 raw2
    pure ⟨s4, [cell], true⟩
  else do
    let cell ← cellOfRaw ty1 raw1
    pure ⟨s1, [cell], true⟩

/-- the `switch(*src)` of `rtosc_scan_arg_val` -/
def scanValue (se : ElemScanner) (src : Bytes) (prev : List Cell) : Res ValRes :=
  let c := hd src
  if c = 116 ∨ c = 102 ∨ c = 110 ∨ c = 105 then pure (scanKeyword src)
  else if c = 35 then scanColor src
  else if c = 39 then scanChar src
  else if c = 34 then scanString src
  else if c = 77 then scanMidi src
  else if c = 91 then scanArray se src prev
  else if c = 66 then scanBlob src
  else if isRangeMultiplier src then scanMultiplier se src
  else if isIdentStart c then
    let (r, cell) := parseIdentifier src
    pure ⟨r, [cell], true⟩
  else if skipFmt fmtIsDate src ≠ 0 then scanDate src           -- fix C10-02
  else scanNumeric src

/-- the tail of `rtosc_scan_arg_val`: "is the argument being followed by an ellipsis?" -/
def finishArg (se : ElemScanner) (src : Bytes) (v : ValRes) (prev : List Cell) (argsBefore : Nat)
    (followEllipsis : Bool) : Res (Nat × List Cell) := do
  let rest := v.rest
  let cells := v.cells
  let src2 := skipSpace rest
  if followEllipsis ∧ startsWith src2 [46, 46, 46] then do
    if !v.argValid then throw .undef           -- `arg` was advanced behind "nx…": *arg is not written yet
    let lhsarg ← deref cells
    let s1 := skipSpace (src2.drop 3)         -- src += 2; while(isspace(*++src));
    let infinite := hd s1 = 93
    let (s2, rhs) : Bytes × Option Cell ←
      if infinite then pure (s1, none)
      else do
        let (rd, rcells) ← se s1 [] 0 false
        let r ← advance s1 rd
        let rc ← deref rcells
        pure (r, some rc)
    -- find llhs position
    let p3 := prev.drop 2
    let llhs : Option Cell ←
      if decide (argsBefore > 2) && (match p3.head? with | some (.rep _ hdl) => decide (hdl ≠ 0) | _ => false) then do
        match p3 with
        | .rep num _ :: _ =>
          -- arg-3 is the range header, arg-2 its delta, arg-1 its start
          let block := [p3.headD (.rep 0 0), prev.getD 1 (.rep 0 0), prev.getD 0 (.rep 0 0)]
          match ← rangeArgF block (num - 1) with
          | some c => pure (some c)
          | none => throw .undef                    -- NULL is dereferenced
        | _ => throw .undef
      else pure prev.head?
    let useless : Bool ←
      if argsBefore < 1 then pure true
      else if lhsarg.type = ArgVal.tyRange then pure true
      else
        match llhs with
        | none => throw .oob
        | some ll =>
          if !typesMatch ll.type lhsarg.type then pure true
          else do pure ((← cmpCell ll lhsarg) = 0)
    -- like the syntax checker: only numeric types can count (fix C11-02)
    let numericRange := numericRangeTypes.contains lhsarg.type
    let (hasDelta, num, delta) : Bool × Int × Option Cell ←
      if infinite ∧ (useless ∨ !numericRange) then pure (false, 0, none)
      else do
        let (n, d) ← deltaFromArgVals llhs lhsarg rhs useless
        if infinite ∧ n = -1 then pure (false, n, some d) else pure (true, n, some d)
    -- insert_arg_range(arg, num, &lhsarg, has_delta, &delta, true, true)
    let hdr : Cell := .rep (if !hasDelta then 0 else num) (if hasDelta then 1 else 0)
    let dcell : List Cell ← if hasDelta then (match delta with | some d => pure [d] | none => throw .undef) else pure []
    if hasDelta ∧ cells.length ≠ 1 then throw .undef      -- an array would be shifted by one only
    pure (src.length - s2.length, hdr :: dcell ++ cells)
  else pure (src.length - rest.length, cells)

/-- `rtosc_scan_arg_val(src, arg, nargs, buffer_for_strings, bufsize, args_before, follow_ellipsis)`:
    characters read and the cells written at `arg[0…]`.  `prev`: the cells before `arg`, most
    recent first.  The first argument bounds the nesting depth. -/
def scanArgVal : Nat → Bytes → List Cell → Nat → Bool → Res (Nat × List Cell)
  | 0, _, _, _, _ => .error .fuel
  | fuel + 1, src, prev, argsBefore, followEllipsis => do
    let v ← scanValue (scanArgVal fuel) src prev
    finishArg (scanArgVal fuel) src v prev argsBefore followEllipsis

/-- the white space / comment skipping between two arguments: characters skipped -/
def skipSpaceComments : Nat → Bytes → Res Nat
  | 0, _ => .error .fuel
  | fuel + 1, s =>
    let a := skipFmt fmtSpace s
    let s1 := s.drop a
    if hd s1 = 37 then do
      let b ← skipComments (s1.length + 1) s1
      let s2 := s1.drop b
      if isspace (hd s2) then do
        let more ← skipSpaceComments fuel s2
        pure (a + b + more)
      else pure (a + b)
    else pure a
where
  /-- `while(*src == '%') rd += skip_fmt(&src, "%*[^\n]%n")` -/
  skipComments : Nat → Bytes → Res Nat
    | 0, _ => .error .fuel
    | fuel + 1, s =>
      if hd s = 37 then
        let b := skipFmt fmtComment s
        if b = 0 then .error .hang
        else do
          let more ← skipComments fuel (s.drop b)
          pure (b + more)
      else .ok 0

/-- the loop of `rtosc_scan_arg_vals`: (characters read, cells written); `i` cells are done;
    `prevOk` is `prev_ok` (fix C11-04: `args_before` is `prev_ok ? i : 0`) -/
def scanArgValsLoop : Nat → Bytes → Nat → Nat → Bool → List Cell → Nat → Res (Nat × List Cell)
  | 0, _, _, _, _, _, _ => .error .fuel
  | fuel + 1, src, n, i, prevOk, done, rd =>
    if i < n then do
      let (tmp, cells) ← scanArgVal (src.length + 2) src done.reverse (if prevOk then i else 0) true
      let ok' ← canPrecedeRange cells
      let s1 ← advance src tmp
      let length ← nextArgOffset (cells.length + 1) cells
      if length ≠ cells.length then throw .undef
      let sk ← skipSpaceComments (s1.length + 1) s1
      scanArgValsLoop fuel (s1.drop sk) n (i + length) ok' (done ++ cells) (rd + tmp + sk)
    else pure (rd, done)

/-- `rtosc_scan_arg_vals(src, args, n, buffer_for_strings, bufsize)`; white space and comments in
    front of the first value are skipped (fix C11-01) -/
def scanArgVals (src : Bytes) (n : Nat) : Res (Nat × List Cell) := do
  let sk ← skipSpaceComments (src.length + 1) src
  scanArgValsLoop (n + 1) (src.drop sk) n 0 true [] sk

/-- `rtosc_scan_message(src, address, adrsize, args, n, …)`: (characters read, address, cells) -/
def scanMessage (src : Bytes) (adrsize : Nat) (n : Nat) : Res (Nat × Bytes × List Cell) := do
  let s0 := skipSpace src
  let rd0 := src.length - s0.length
  let c0 ← if hd s0 = 37 then skipCommentsSp (s0.length + 1) s0 else pure 0
  let s1 := s0.drop c0
  let rd1 := rd0 + c0
  -- assert(*src == '/') is compiled out
  let addr := (s1.takeWhile (fun c => !isspace c)).take (adrsize - rd1)
  let s2 := s1.drop addr.length
  let rd2 := rd1 + addr.length
  let s3 := skipSpace s2
  let rd3 := rd2 + (s2.length - s3.length)
  let (rd, cells) ← scanArgVals s3 n
  pure (rd3 + rd, addr, cells)
where
  /-- `while (*src == '%') rd += skip_fmt(&src, "%*[^\n] %n")` -/
  skipCommentsSp : Nat → Bytes → Res Nat
    | 0, _ => .error .fuel
    | fuel + 1, s =>
      if hd s = 37 then
        let b := skipFmt fmtCommentSp s
        if b = 0 then .error .hang
        else do
          let more ← skipCommentsSp fuel (s.drop b)
          pure (b + more)
      else .ok 0

end Rtosc.Pretty
