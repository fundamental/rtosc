/-
  C10/C11 — the float/double part of src/cpp/arg-val-math.c, which the scanner and the checker of
  src/cpp/pretty-format.c need for ranges `a b ... c` of 'f' / 'd' values
  (`delta_from_arg_vals`), and the printer for printing such a range
  (`rtosc_arg_val_range_arg`).  C10's `Pretty/Val.lean` leaves these cases `Err.unmodelled`
  (printed text never contains float ranges with a delta); this file fills them in.

  IEEE-754 binary32 / binary64 on bit patterns, exact rational arithmetic rounded once to
  nearest-even (x86-64 SSE: `float` expressions are evaluated in `float`).  `+`, `*`, `(T)int`
  are C16's (`ArgVal/Float.lean`); here: `-`, `/`, unary minus, `(int)x`, `<=`, `>=`,
  `rtosc_arg_val_round`, the tolerance comparison of `rtosc_arg_vals_eq`.
  `-` and `/` (like C16's `+`, `*`) with a NaN operand are not modelled (`Err.unmodelled`); `<=`, `>=` with a NaN are false,
  unary minus flips the sign bit; a conversion `(int)x` with `x` a NaN, an infinity or outside `int` is undefined
  behaviour in C (`Err.undef`).
  No Mathlib import: linked into the driver.
-/
import RtoscModel.Pretty.Val
namespace Rtosc.Pretty.C11
open Rtosc Rtosc.Libc Rtosc.Pretty
open Rtosc.ArgVal (Cell IntTy StrTy FlagTy)

abbrev AF := Rtosc.ArgVal.FFmt

/-- the same format for `Libc.roundPos` -/
def libcFmt (F : AF) : Libc.FFmt := ⟨F.mbits, F.ebits⟩

def liftF (r : Option Nat) : Res Nat :=
  match r with
  | some b => .ok b
  | none => .error .unmodelled

/-- `-x` -/
def fneg (F : AF) (a : Nat) : Nat := if F.sign a then a - F.signBit else a + F.signBit

/-- `a - b` -/
def fsub (F : AF) (a b : Nat) : Res Nat :=
  if F.isNaN b then .error .unmodelled else liftF (F.add a (fneg F b))

/-- `a / b` -/
def fdiv (F : AF) (a b : Nat) : Res Nat :=
  if F.isNaN a ∨ F.isNaN b then .error .unmodelled
  else
    let neg := F.sign a != F.sign b
    if F.isInf a then
      if F.isInf b then .ok F.defaultNaN else .ok (F.withSign neg F.infBits)
    else if F.isInf b then .ok (F.withSign neg 0)
    else if F.isZero b then
      if F.isZero a then .ok F.defaultNaN else .ok (F.withSign neg F.infBits)
    else if F.isZero a then .ok (F.withSign neg 0)
    else
      let (ma, ea) := F.decode a
      let (mb, eb) := F.decode b
      let e : Int := ea - eb
      let num := if e ≥ 0 then ma * 2 ^ e.toNat else ma
      let den := if e ≥ 0 then mb else mb * 2 ^ (-e).toNat
      .ok (F.withSign neg (Libc.roundPos (libcFmt F) num den))

/-- `(int)x`: truncation towards zero; outside `int` the conversion is undefined -/
def ftoInt (F : AF) (a : Nat) : Res Int :=
  if F.isNaN a ∨ F.isInf a then .error .undef
  else if F.isZero a then .ok 0
  else
    let (m, e) := F.decode a
    let mag : Nat := if e ≥ 0 then m * 2 ^ e.toNat else m / 2 ^ (-e).toNat
    let v : Int := if F.sign a then -(mag : Int) else mag
    if v < -2147483648 ∨ v > 2147483647 then .error .undef else .ok v

/-- `a >= b` -/
def fge (F : AF) (a b : Nat) : Bool := !F.isNaN a && !F.isNaN b && decide (F.key a ≥ F.key b)
/-- `a <= b` -/
def fle (F : AF) (a b : Nat) : Bool := !F.isNaN a && !F.isNaN b && decide (F.key a ≤ F.key b)

/-- `mfabs(x)`: `(x >= 0) ? x : -x` -/
def fabs (F : AF) (a : Nat) : Nat := if fge F a 0 then a else fneg F a

/-- the constants `0.999f` / `0.999`, `(float)0.001` / `0.001`, `0.5` -/
def c999 (F : AF) : Nat := if F.mbits = 23 then 0x3f7fbe77 else 0x3feff7ced916872b
def c001 (F : AF) : Nat := if F.mbits = 23 then 0x3a83126f else 0x3f50624dd2f1a9fc
def cHalf (F : AF) : Nat := if F.mbits = 23 then 0x3f000000 else 0x3fe0000000000000

/-- `rtosc_arg_val_round` for 'f' / 'd':
    `tmp = (int)x; x = tmp + (int)(x - tmp >= 0.999);` -/
def fround (F : AF) (a : Nat) : Res Nat := do
  let tmp ← ftoInt F a
  let diff ← fsub F a (F.ofInt tmp)
  let up : Int := if fge F diff (c999 F) then 1 else 0
  -- `tmp + 1` in `int`: INT_MAX + 1 overflows
  if tmp + up > 2147483647 then .error .undef else pure (F.ofInt (tmp + up))

/-- `mfabs(a - b) <= tolerance` -/
def feqTol (F : AF) (a b : Nat) : Res Bool := do
  let d ← fsub F a b
  pure (fle F (fabs F d) (c001 F))

/-! ### cells -/

def AF32 : AF := Rtosc.ArgVal.f32
def AF64 : AF := Rtosc.ArgVal.f64

/-- `rtosc_arg_val_from_int(av, type, number)`, all numeric types -/
def fromIntF (like : Cell) (number : Int) : Res (Option Cell) :=
  match like with
  | .flt _ => .ok (some (.flt (AF32.ofInt number).toUInt32))
  | .dbl _ => .ok (some (.dbl (AF64.ofInt number).toUInt64))
  | c => fromInt c number

/-- `rtosc_arg_val_negate(av)` -/
def negateF (c : Cell) : Res (Option Cell) :=
  match c with
  | .flt a => .ok (some (.flt (fneg AF32 a.toNat).toUInt32))
  | .dbl a => .ok (some (.dbl (fneg AF64 a.toNat).toUInt64))
  | c => negate c

/-- `rtosc_arg_val_round(av)` -/
def roundF (c : Cell) : Res (Option Cell) :=
  match c with
  | .flt a => do let r ← fround AF32 a.toNat; pure (some (.flt r.toUInt32))
  | .dbl a => do let r ← fround AF64 a.toNat; pure (some (.dbl r.toUInt64))
  | c => roundAV c

/-- `rtosc_arg_val_add(lhs, rhs, res)` -/
def addF (l r : Cell) : Res (Option Cell) :=
  match l, r with
  | .flt a, .flt b => do let x ← liftF (AF32.add a.toNat b.toNat); pure (some (.flt x.toUInt32))
  | .dbl a, .dbl b => do let x ← liftF (AF64.add a.toNat b.toNat); pure (some (.dbl x.toUInt64))
  | l, r => addAV l r

/-- `rtosc_arg_val_sub(lhs, rhs, res)` -/
def subF (l r : Cell) : Res (Option Cell) :=
  match l, r with
  | .flt a, .flt b => do let x ← fsub AF32 a.toNat b.toNat; pure (some (.flt x.toUInt32))
  | .dbl a, .dbl b => do let x ← fsub AF64 a.toNat b.toNat; pure (some (.dbl x.toUInt64))
  | l, r => subAV l r

/-- `rtosc_arg_val_mult(lhs, rhs, res)` -/
def multF (l r : Cell) : Res (Option Cell) :=
  match l, r with
  | .flt a, .flt b => do let x ← liftF (AF32.mul a.toNat b.toNat); pure (some (.flt x.toUInt32))
  | .dbl a, .dbl b => do let x ← liftF (AF64.mul a.toNat b.toNat); pure (some (.dbl x.toUInt64))
  | l, r => multAV l r

/-- `rtosc_arg_val_div(lhs, rhs, res)` -/
def divF (l r : Cell) : Res (Option Cell) :=
  match l, r with
  | .flt a, .flt b => do let x ← fdiv AF32 a.toNat b.toNat; pure (some (.flt x.toUInt32))
  | .dbl a, .dbl b => do let x ← fdiv AF64 a.toNat b.toNat; pure (some (.dbl x.toUInt64))
  | l, r => divAV l r

/-- `rtosc_arg_val_to_int(av, &res)` -/
def toIntF (c : Cell) : Res (Option Int) :=
  match c with
  | .flt a => do let v ← ftoInt AF32 a.toNat; pure (some v)
  | .dbl a => do let v ← ftoInt AF64 a.toNat; pure (some v)
  | c => toIntAV c

/-- `rtosc_arg_vals_eq(&a, &b, 1, 1, {0.001})` on two single scalar cells -/
def eqTolCell (l r : Cell) : Res Bool :=
  match l, r with
  | .flt a, .flt b => feqTol AF32 a.toNat b.toNat
  | .dbl a, .dbl b => feqTol AF64 a.toNat b.toNat
  | l, r => eqCell l r

/-- `rtosc_arg_val_range_arg(range_arg, ith, result)`: `start + ith * delta`; `none` = NULL -/
def rangeArgF (p : List Cell) (ith : Int) : Res (Option Cell) :=
  match p with
  | _ :: delta :: start :: _ => do
    match ← fromIntF delta ith with
    | none => pure none
    | some n =>
      match ← multF n delta with
      | none => pure none
      | some m => addF start m
  | _ => .error .oob

end Rtosc.Pretty.C11
