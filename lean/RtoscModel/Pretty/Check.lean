/-
  C10/C11 — model of the syntax checker of src/cpp/pretty-format.c, with fixes C10-13, C10-14 (`skipChar`) and
  C11-03 (the value left of a range is only scanned when the range is numeric) applied, and WITHOUT fix C11-07,
  which the source has: `ellipsisTail` takes the value behind `nx` as the left-hand side of a range
  (`3x1 ... 5` counts 4 values), where the source rejects.  The version with that fix is `C11.ellipsisTail`
  (Pretty/C11Model.lean); the two agree when the left-hand side is no repetition (`ellipsisTail_c11_le`,
  Proofs/PrettyScanAgree.lean).  Modelled:
  `rtosc_skip_next_printed_arg`, `rtosc_count_printed_arg_vals`,
  `rtosc_count_printed_arg_vals_of_msg`.

  `rtosc_skip_next_printed_arg(src, &skipped, &type, llhssrc, follow_ellipsis, inside_bundle)`
  becomes a function returning (position after the argument or NULL, `*skipped`, `*type`);
  `*type` is an in/out parameter in C (several paths leave it untouched), so its previous
  content is an argument (`typeIn`).  For ranges the checker calls the scanner
  (`scanArgVal` of Pretty/Scan.lean) on the texts left and right of the ellipsis, like the code does.
  No Mathlib import: linked into the driver.
-/
import RtoscModel.Pretty.Scan
namespace Rtosc.Pretty
open Rtosc Rtosc.Libc
open Rtosc.ArgVal (Cell IntTy StrTy FlagTy)

/-- `arraytypes_match(type1, type2)`: ranges match everything -/
def arraytypesMatch (a b : UInt8) : Bool := a = 45 || b = 45 || typesMatch a b

structure SkipRes where
  src : Option Bytes      -- returned pointer (NULL = `none`)
  skipped : Int
  type : UInt8
deriving Repr

/-- what `rtosc_skip_next_printed_arg` needs from itself -/
abbrev ArgSkipper := Bytes → UInt8 → Option Bytes → Bool → Bool → Res SkipRes

/-- the element loop of the array case: (src, skipped) -/
def skipArrayElems (sk : ArgSkipper) : Nat → Option Bytes → Option Bytes → UInt8 → Int → Res (Option Bytes × Int)
  | 0, _, _, _, _ => .error .fuel
  | loopFuel + 1, src?, recent, arraytype, skipped =>
    match src? with
    | none => .ok (none, skipped)
    | some src =>
      if hd src ≠ 0 ∧ hd src ≠ 93 then do
        let r ← sk src 20 recent true true              -- `char arraytype_cur = 20;`
        let src1 : Option Bytes := r.src.map skipSpace
        let (arraytype', src2) : UInt8 × Option Bytes :=
          if arraytype = 0 then (r.type, src1)
          else if !arraytypesMatch arraytype r.type then (arraytype, none)
          else (arraytype, src1)
        -- no progress would repeat forever
        match src2 with
        | some s2 => if s2.length ≥ src.length then throw .hang else pure ()
        | none => pure ()
        skipArrayElems sk loopFuel src2 (some src) arraytype' (skipped + r.skipped)
      else .ok (some src, skipped)

/-- `rtosc_scan_arg_val(s, &av, 1, NULL, &zero, 0, 0)`: one value scanned into a local variable,
    without a buffer for strings.  A string, symbol or non-empty blob is stored through the NULL
    buffer, an array or "nx…" writes behind the variable: undefined behaviour (`Err.undef`). -/
def scanOne (s : Bytes) : Res Cell := do
  let (_, cells) ← scanArgVal (s.length + 2) s [] 0 false
  match cells with
  | [.str _ _] => .error .undef
  | [.blob d] => if d.isEmpty then .ok (.blob d) else .error .undef
  | [c] => .ok c
  | _ => .error .undef

/-- what the `switch` of `rtosc_skip_next_printed_arg` leaves behind:
    `src` (NULL = none), `*skipped`, `*type`, `deltaless_range_type` -/
structure SwRes where
  src : Option Bytes
  skipped : Int
  type : UInt8
  dlType : UInt8
deriving Repr

/-- `for(;src && *src == '0';) { skip_fmt_null(&src, "0x%*x %n"); blobsize--; }` -/
def skipBlobBytes : Nat → Option Bytes → Int → Option Bytes × Int
  | 0, s, k => (s, k)
  | fuel + 1, s?, k =>
    match s? with
    | none => (none, k)
    | some s =>
      if hd s = 48 then
        let rd := skipFmt (fmtBlobByte true) s
        if rd = 0 then (none, k - 1) else skipBlobBytes fuel (some (s.drop rd)) (k - 1)
      else (some s, k)

/-- a keyword, or else an identifier: `case 't': 'f': 'n': 'i':` -/
def skipKeyword (src : Bytes) : SwRes :=
  let c := hd src
  let ident : SwRes := ⟨skipIdentifier src, 1, 83, 0⟩
  if c = 116 then
    match skipWord (lit "true") src with
    | some r => ⟨some r, 1, 84, 0⟩
    | none => ident
  else if c = 102 then
    match skipWord (lit "false") src with
    | some r => ⟨some r, 1, 70, 0⟩
    | none => ident
  else if c = 110 then
    match skipWord (lit "nil") src with
    | some r => ⟨some r, 1, 78, 0⟩
    | none =>
      match skipWord (lit "now") src with
      | some r => ⟨some r, 1, 116, 0⟩
      | none => ident
  else
    match skipWord (lit "inf") src with
    | some r => ⟨some r, 1, 73, 0⟩
    | none =>
      match skipWord (lit "immediately") src with
      | some r => ⟨some r, 1, 116, 0⟩
      | none => ident

/-- `case '#':` -/
def skipColor (src : Bytes) : SwRes :=
  let digs := (src.drop 1).take 8
  if digs.length = 8 ∧ digs.all isxdigit then ⟨some (src.drop 9), 1, 114, 0⟩ else ⟨none, 1, 114, 0⟩

/-- `case '\'':` (`none` = `return NULL` right away) -/
def skipChar (src : Bytes) : Option SwRes :=
  if src.length < 3 then none
  else
    let c1 := src.getD 1 0
    let c2 := src.getD 2 0
    let c3 := src.getD 3 0
    if c1 = 92 then
      if c2 = 39 ∧ (c3 = 0 ∨ isspace c3) then
        -- '\' : accepted as a backslash
        some ⟨some (src.drop 3), 1, 99, 0⟩
      else
        let esc := getEscapedChar c2 true
        -- '\0' is the only escape sequence with the value 0 (fix C10-14)
        if (esc = 0 ∧ c2 ≠ 48) ∨ c3 ≠ 39 then some ⟨none, 1, 99, 0⟩
        else some ⟨some (src.drop 4), 1, 99, 0⟩
    else if c2 ≠ 39 then some ⟨none, 1, 99, 0⟩
    else some ⟨some (src.drop 3), 1, 99, 0⟩

/-- `case '"':` -/
def skipString (src : Bytes) : Res SwRes := do
  match ← endOfPrintedString src with
  | some r => if hd r = 83 then pure ⟨some (r.drop 1), 1, 83, 0⟩ else pure ⟨some r, 1, 115, 0⟩
  | none => pure ⟨none, 1, 115, 0⟩

/-- `case 'M':` -/
def skipMidi (src : Bytes) : SwRes :=
  if startsWith src (lit "MIDI") ∧ (isspace (hd (src.drop 4)) ∨ hd (src.drop 4) = 91) then
    let rd := skipFmt (fmtMidi true) src
    ⟨(if rd = 0 then none else some (src.drop rd)), 1, 109, 0⟩
  else ⟨skipIdentifier src, 1, 83, 0⟩

/-- `case '[':` -/
def skipArray (sk : ArgSkipper) (src : Bytes) : Res SwRes := do
  let s1 := skipSpace (src.drop 1)
  let (r, skipped) ← skipArrayElems sk (src.length + 1) (some s1) none 0 1
  let r' : Option Bytes := match r with
    | some s => if hd s ≠ 0 then some (s.drop 1) else none
    | none => none
  pure ⟨r', skipped, 97, 0⟩

/-- `case 'B':` -/
def skipBlob (src : Bytes) : SwRes :=
  let rd := skipFmt fmtBlobOpen src
  if rd ≠ 0 then
    let s1 := src.drop rd
    let (blobsize, src1) : Int × Option Bytes := match sscanf fmtBlobLen s1 with
      | [.int v, .pos r] => (toI32 v, if r ≠ 0 then some (s1.drop r) else none)
      | [.int v] => (toI32 v, none)
      | _ => (0, none)
    let (src2, blobsize') := skipBlobBytes (s1.length + 1) src1 blobsize
    let src3 : Option Bytes := if blobsize' ≠ 0 then none else src2
    let src4 : Option Bytes := match src3 with
      | some s => if hd s = 93 then some (s.drop 1) else none
      | none => none
    ⟨src4, 1, 98, 0⟩
  else ⟨skipIdentifier src, 1, 83, 0⟩

/-- `default:` "nx…" -/
def skipMultiplier (sk : ArgSkipper) (src : Bytes) (typeIn : UInt8) (insideBundle : Bool) : Res SwRes := do
  let s1 := afterX src
  let r ← sk s1 0 none false insideBundle
  match r.src with
  | some s => pure ⟨some s, 1 + r.skipped, 45, r.type⟩
  | none => pure ⟨none, 1, typeIn, r.type⟩

/-- `default:` a date; `rdDate` = what "%*4d-%*1d%*1d-%*1d%*1d%n" consumed (the caller's `skipFmt fmtIsDate`) -/
def skipDate (src : Bytes) (rdDate : Nat) : SwRes :=
  let s1 := src.drop rdDate
  let rdHM := skipFmt fmtCkHM s1
  if rdHM = 0 then ⟨some s1, 1, 116, 0⟩ else
  let s2 := s1.drop rdHM
  let rdS := skipFmt fmtCkS s2
  if rdS = 0 then ⟨some s2, 1, 116, 0⟩ else
  let s3 := s2.drop rdS
  let rdF := skipFmt fmtCkFrac s3
  if rdF = 0 then ⟨some s3, 1, 116, 0⟩ else
  let s4 := s3.drop rdF
  let rdL := skipFmt fmtCkLossOpen s4
  if rdL = 0 then ⟨some s4, 1, 116, 0⟩ else
  let s5 := s4.drop rdL
  let s6 := s5.drop (skipFmt fmtCkHexDot s5)
  let rdP := skipFmt fmtCkHexP s6
  if rdP = 0 then ⟨none, 1, 116, 0⟩ else
  let s7 := s6.drop rdP
  match sscanf fmtCkExp s7 with
  | [.int e, .pos rd] =>
    if rd ≠ 0 ∧ toI32 e > 0 ∧ toI32 e ≤ 32 then ⟨some (s7.drop rd), 1, 116, 0⟩ else ⟨none, 1, 116, 0⟩
  | _ => ⟨none, 1, 116, 0⟩

/-- `default:` a numeric literal with an optional exact value in parentheses -/
def skipNumericArg (src : Bytes) (typeIn : UInt8) : SwRes :=
  match skipNumeric src with
  | none => ⟨none, 1, typeIn, 0⟩
  | some (rd, ty) =>
    if rd = 0 then ⟨none, 1, ty, 0⟩
    else
      let s1 := src.drop rd
      let after := skipSpace s1
      if hd after = 40 then
        if ty = 102 ∨ ty = 100 then
          let s2 := skipSpace (after.drop 1)
          match skipNumeric s2 with
          | none => ⟨none, 1, ty, 0⟩
          | some (rd2, _) =>
            if rd2 = 0 then ⟨none, 1, ty, 0⟩
            else
              let s3 := s2.drop rd2
              let rd3 := skipFmt fmtCloseParen s3
              ⟨(if rd3 = 0 then none else some (s3.drop rd3)), 1, ty, 0⟩
        else ⟨none, 1, ty, 0⟩
      else ⟨some s1, 1, ty, 0⟩

/-- the `switch(*src)`; `none` = `return NULL` -/
def skipValue (sk : ArgSkipper) (src : Bytes) (typeIn : UInt8) (insideBundle : Bool) : Res (Option SwRes) :=
  let c := hd src
  if c = 116 ∨ c = 102 ∨ c = 110 ∨ c = 105 then pure (some (skipKeyword src))
  else if c = 35 then pure (some (skipColor src))
  else if c = 39 then pure (skipChar src)
  else if c = 34 then do let r ← skipString src; pure (some r)
  else if c = 77 then pure (some (skipMidi src))
  else if c = 91 then do let r ← skipArray sk src; pure (some r)
  else if c = 66 then pure (some (skipBlob src))
  else if isRangeMultiplier src then do let r ← skipMultiplier sk src typeIn insideBundle; pure (some r)
  else if isIdentStart c then pure (some ⟨some (skipIdentChars src), 1, 83, 0⟩)
  else if skipFmt fmtIsDate src ≠ 0 then pure (some (skipDate src (skipFmt fmtIsDate src)))
  else pure (some (skipNumericArg src typeIn))

/-- the tail of `rtosc_skip_next_printed_arg`: the argument is followed by "..." at `src2` -/
def ellipsisTail (sk : ArgSkipper) (oldSrc : Bytes) (sw : SwRes) (src2 : Bytes) (llhssrc : Option Bytes)
    (insideBundle : Bool) : Res SkipRes := do
  let skipped := sw.skipped
  let ellipsis := src2
  let rhssrc := skipSpace (src2.drop 3)
  -- the text fix C11-07 replaced; the source has `if(is_range_multiplier(lhssrc)) break;` here (see the head of the file)
  let lhssrc := if isRangeMultiplier oldSrc then afterX oldSrc else oldSrc
  let lhstype : UInt8 := if sw.dlType ≠ 0 then sw.dlType else sw.type
  let numericRange := lhstype = 0 ∨ numericRangeTypes.contains lhstype    -- `strchr` also finds the terminating NUL
  let fail : SkipRes := { src := none, skipped := skipped, type := 45 }
  -- in all cases, check rhs
  let rhsInfo : Option (Bytes × UInt8 × Option Cell × Bool) ←
    if hd rhssrc = 93 then pure (some (rhssrc, lhstype, none, true))
    else if !numericRange then pure none
    else do
      let r ← sk rhssrc 120 none false insideBundle      -- `rhstype[2] = "x"`
      match r.src with
      | none => pure none
      | some endsrc => do
        let rc ← scanOne rhssrc
        pure (some (endsrc, r.type, some rc, false))
  match rhsInfo with
  | none => pure fail
  | some (endsrc, rhstype, rhsarg, infinite) =>
    if lhstype ≠ rhstype then pure fail
    else do
      let lhsarg : Option Cell ← if numericRange then (do let cl ← scanOne lhssrc; pure (some cl)) else pure none
      -- is llhs given and useful?
      let (useless, llhsarg) : Bool × Option Cell ←
        match llhssrc with
        | none => pure (true, none)
        | some ll0 => do
          -- fix C10-13: is llhs itself a range "a ... b"? then take "b"
          let ra ← sk ll0 0 none false insideBundle      -- `llhstype = 0`
          let after : Option Bytes := ra.src.map skipSpace
          let ll1 : Bytes :=
            match after with
            | some a =>
              -- `after_llhs < ellipsis`: both are suffixes of one text, the longer one starts earlier
              if a.length > ellipsis.length ∧ startsWith a [46, 46, 46] then skipSpace (a.drop 3)
              else if isRangeMultiplier ll0 then afterX ll0 else ll0
            | none => if isRangeMultiplier ll0 then afterX ll0 else ll0
          let rl ← sk ll1 0 none false insideBundle
          -- fix C11-03: `numeric_range && types_match(llhstype, lhstype)`
          if numericRange ∧ typesMatch rl.type lhstype then do
            let llc ← scanOne ll1
            let l ← match lhsarg with | some l => pure l | none => throw .undef
            if (← cmpCell llc l) = 0 then pure (true, some llc) else pure (false, some llc)
          else pure (true, none)
      let hasDelta : Option Bool ←
        if infinite ∧ (useless ∨ !numericRange) then pure (some false)
        else do
          let l ← match lhsarg with | some l => pure l | none => throw .undef
          let (num, _) ← deltaFromArgVals llhsarg l rhsarg useless
          if num = -1 then (if infinite then pure (some false) else pure none)
          else pure (some true)
      match hasDelta with
      | none => pure fail
      | some hdl =>
        -- ellipsis skips 3 arg vals: range, delta, start
        pure { src := some endsrc, skipped := skipped + (if hdl then 2 else 1), type := 45 }

/-- `rtosc_skip_next_printed_arg`; the first argument bounds the nesting depth -/
def skipNextPrintedArg : Nat → Bytes → UInt8 → Option Bytes → Bool → Bool → Res SkipRes
  | 0, _, _, _, _, _ => .error .fuel
  | fuel + 1, oldSrc, typeIn, llhssrc, followEllipsis, insideBundle => do
    match ← skipValue (skipNextPrintedArg fuel) oldSrc typeIn insideBundle with
    | none => pure { src := none, skipped := 1, type := typeIn }
    | some sw =>
      match sw.src with
      | none => pure { src := none, skipped := sw.skipped, type := sw.type }
      | some src =>
        let src2 := skipSpace src
        if followEllipsis ∧ startsWith src2 [46, 46, 46] then
          ellipsisTail (skipNextPrintedArg fuel) oldSrc sw src2 llhssrc insideBundle
        else pure { src := some src, skipped := sw.skipped, type := sw.type }

/-- skip the comments `while (*src == '%') skip_fmt(&src, "%*[^\n] %n")` -/
def skipCommentLines : Nat → Bytes → Res Bytes
  | 0, _ => .error .fuel
  | fuel + 1, s =>
    if hd s = 37 then
      let b := skipFmt fmtCommentSp s
      if b = 0 then .error .hang else skipCommentLines fuel (s.drop b)
    else .ok s

/-- the nesting bound handed to `skipNextPrintedArg` by `countLoop`: the range tail re-skips the
    PREVIOUS argument `recent`, which may be nested deeper than the current text is long, so the
    bound covers both texts (the C function recurses without a bound) -/
def checkFuel (src : Bytes) (recent : Option Bytes) : Nat :=
  max src.length (match recent with | some r => r.length | none => 0) + 2

/-- the loop of `rtosc_count_printed_arg_vals` -/
def countLoop : Nat → Option Bytes → Option Bytes → Int → Res Int
  | 0, _, _, _ => .error .fuel
  | fuel + 1, src?, recent, num =>
    match src? with
    | none => .ok (-num)
    | some src =>
      if hd src ≠ 0 ∧ hd src ≠ 47 then do
        let r ← skipNextPrintedArg (checkFuel src recent) src 0 recent true false   -- the code passes `type == NULL` (`*type` is then a local `dummy`); 0 stands for its content
        let src1 : Option Bytes ← match r.src with
          | none => pure none
          | some s => do
            let s1 := skipSpace s
            -- `if(*src && !isspace(*src))` is true whenever `*src` is not NUL
            let s2 ← if hd s1 ≠ 0 then skipCommentLines (s1.length + 1) s1 else pure s1
            pure (some s2)
        match src1 with
        | some s2 => if s2.length ≥ src.length then throw .hang else pure ()
        | none => pure ()
        countLoop fuel src1 (some src) (num + r.skipped)
      else .ok num

/-- `rtosc_count_printed_arg_vals(src)` -/
def countPrintedArgVals (src : Bytes) : Res Int := do
  let s0 := skipSpace src
  let s1 ← skipCommentLines (s0.length + 1) s0
  countLoop (s1.length + 1) (some s1) none 0

/-- `INT_MIN` -/
def intMin : Int := -2147483648

/-- `rtosc_count_printed_arg_vals_of_msg(msg)` -/
def countPrintedArgValsOfMsg (msg : Bytes) : Res Int := do
  let s0 := skipSpace msg
  let s1 ← skipCommentLines (s0.length + 1) s0
  if hd s1 = 47 then countPrintedArgVals (s1.dropWhile (fun c => !isspace c))
  else if s1.isEmpty then pure intMin
  else pure (-1)

end Rtosc.Pretty
