/-
  C10 — the vocabulary of the statements about compressed runs (tier 3 of Props/C10.lean, the
  obligations of Proofs/PrettyRun*.lean and PrettyRunsExtConv.lean, Props/C12Text.lean): the lists
  that are arithmetic runs, the hypotheses on an int32 run, what `rtosc_convert_to_range` needs of
  a value and of the cells behind a run, and the pieces of text the printer writes for a run.
  Definitions only; the lemmas about them are in Proofs/PrettyRunConst.lean, PrettyRunArith.lean,
  PrettyRunInt.lean.  No Mathlib import.
-/
import RtoscModel.Pretty.Check
namespace Rtosc.Pretty
open Rtosc Rtosc.Libc
open Rtosc.ArgVal (Cell)

/-- the arithmetic run `a, a+d, …, a+(n-1)d` as 'i' cells -/
def arithRun (a d : Int) (n : Nat) : List Cell :=
  (List.range n).map (fun (k : Nat) => Cell.int .i (a + (k : Int) * d))

/-- the arithmetic run `a, a+d, …, a+(n-1)d` as 'h' cells -/
def hugeRun (a d : Int) (n : Nat) : List Cell :=
  (List.range n).map (fun (k : Nat) => Cell.huge (a + (k : Int) * d))

/-- the arithmetic run `a, a+d, …, a+(n-1)d` as 'c' cells -/
def charRun (a d : Int) (n : Nat) : List Cell :=
  (List.range n).map (fun (k : Nat) => Cell.int .c (a + (k : Int) * d))

/-- The hypotheses of the int32 round trips.  `hrange` includes `k = n`: the step behind the last
    element must not overflow, else the printer cuts the run one element short.  `hwidth`: fix
    C10-15.  `hn32`: the count that `delta_from_arg_vals` returns is an `int`.
    (`IntKind.Codec.Run` of Proofs/PrettyRunArith.lean at 'i', by `RunHyp.toKind`.) -/
structure RunHyp (a d : Int) (n : Nat) : Prop where
  hn : 5 ≤ n
  hd : d ≠ 0
  hrange : ∀ k : Nat, k ≤ n → -2147483648 ≤ a + (k : Int) * d ∧ a + (k : Int) * d ≤ 2147483647
  hwidth : ((n : Int) - 1) * d.natAbs ≤ 2147483647
  hn32 : (n : Int) ≤ 2147483647

/-- the round trip of a run of chars: the conclusion that `char_run_roundtrip` (Proofs/PrettyRunChar.lean)
    writes out, as a predicate; `char_run_signed_counterexample` refutes it for a value above 127 -/
def CharRunRoundTrips (opt : POpt) (a d : Int) (n : Nat) : Prop :=
  ∃ (st : PSt) (ret : Nat) (cells : List Cell),
    printArgVals opt (charRun a d n) ⟨[], 0⟩ = .ok (st, ret) ∧ ret = st.out.length ∧
    countPrintedArgVals st.out = .ok (cells.length : Int) ∧
    scanArgVals st.out cells.length = .ok (st.out.length, cells) ∧
    cells = (if d = 1 ∨ d = -1 then [Cell.rep n 1, Cell.int .c d, Cell.int .c a]
             else [Cell.int .c a, Cell.rep ((n : Int) - 1) 1, Cell.int .c d, Cell.int .c (a + d)])

/-- what the printer's run detection needs from the value: it is identical to itself -/
def SelfIdentical (c : Cell) : Prop :=
  ∀ more more', rangeArgsIdentical (c :: more) (c :: more') = .ok true

/-- a cell list in which every array header is followed by its cells -/
inductive WFCells : List Cell → Prop
  | nil : WFCells []
  | scalar (c : Cell) (r : List Cell) : c.isScalar = true → WFCells r → WFCells (c :: r)
  | arr (ety : UInt8) (es r : List Cell) : WFCells r → WFCells (Cell.arr ety es.length :: (es ++ r))

/-- `rtosc_print_range`: the previous value has the type of the range's first value and differs
    from it (then `a ... z` would be read with the delta `a - previous`) -/
def confusing (L : Option Cell) (a : Int) : Bool :=
  match L with
  | some (Cell.int .i p) => decide (p ≠ a)
  | _ => false

/-- the run is printed as `a ... z` (otherwise `a b ... z`) -/
def shortForm (L : Option Cell) (a d : Int) : Bool := (decide (d = 1) || decide (d = -1)) && !confusing L a

/-- the text of a constant run: `nxT` -/
def runText (n : Nat) (t : Bytes) : Bytes := fmtDec n ++ [120] ++ t

/-- what follows the left-hand side of a printed range -/
def ellRest (sep Z : Bytes) : Bytes := [32, 46, 46, 46] ++ (sep ++ Z)

end Rtosc.Pretty
