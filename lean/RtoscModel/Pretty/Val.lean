/-
  C10 — argument-value cells as the pretty printer / scanner use them.

  The cell type is C16's `Rtosc.ArgVal.Cell` (one `rtosc_arg_val_t`); a pointer into a cell
  array is the suffix it points to.  This file adds what src/cpp/pretty-format.c needs on top:
  `next_arg_offset`, `incsize`, and the integer/boolean part of src/cpp/arg-val-math.c
  (`null`, `from_int`, `negate`, `round`, `add`, `sub`, `mult`, `div`, `to_int`, `range_arg`)
  with the arithmetic of fix C10-10: `int32_t`/`int64_t` add, sub and mult wrap around.

  The float/double cases of these functions are not modelled here (`Err.unmodelled`); `delta_from_arg_vals`
  of Pretty/Scan.lean does its float arithmetic through Pretty/C11Float.lean.  The printer never turns
  floats into ranges with a delta (`numeric_range_convertible_types` = "cihTF"), so printed
  text never makes checker or scanner do float arithmetic.
  No Mathlib import: linked into the driver.
-/
import RtoscModel.ArgVal.Cmp
import RtoscModel.Pretty.Lex
namespace Rtosc.Pretty
open Rtosc Rtosc.Libc
open Rtosc.ArgVal (Cell IntTy StrTy FlagTy)

/-- lift a result of the arg-val comparison model -/
def liftAV {α} (r : ArgVal.Res α) : Res α :=
  match r with
  | .ok a => .ok a
  | .error .oob => .error .oob
  | .error .undef => .error .undef
  | .error .fuel => .error .fuel
  | .error _ => .error .argval

/-- `*p` -/
def deref (p : List Cell) : Res Cell :=
  match p with
  | [] => .error .oob
  | c :: _ => .ok c

/-- `incsize(av)`: an array counts with its elements -/
def incsize (p : List Cell) : Res Nat := do
  match ← deref p with
  | .arr _ len => if len < 0 then .error .undef else pure (len.toNat + 1)
  | _ => pure 1

/-- `next_arg_offset(cur)`: arrays seen as one arg, ranges with their delta and start args -/
def nextArgOffset : Nat → List Cell → Res Nat
  | 0, _ => .error .fuel
  | fuel + 1, p => do
    match ← deref p with
    | .arr _ len => if len < 0 then .error .undef else pure (len.toNat + 1)
    | .rep _ hd => do
      let n ← nextArgOffset fuel (p.drop 1)
      pure (1 + n + hd.toNat)
    | _ => pure 1

/-- `rtosc_arg_vals_eq_single(lhs, rhs, NULL)` on cell pointers -/
def eqSingle (l r : List Cell) : Res Bool := liftAV (ArgVal.eqSingle (l.length + r.length + 2) l r)

/-- `rtosc_arg_vals_eq_single` on two single non-array cells -/
def eqCell (l r : Cell) : Res Bool := liftAV (ArgVal.eqScalar l r)

/-- `rtosc_arg_vals_cmp(lhs, rhs, 1, 1, NULL)` and `rtosc_arg_vals_cmp_single` on two single
    scalar cells (both iterate exactly once); a range or array cell here would make the C code
    read the cells behind the local variable (`Err.undef`) -/
def cmpCell (l r : Cell) : Res Int :=
  if l.isScalar && r.isScalar then .ok (ArgVal.cmpScalar l r) else .error .undef

/-! ### arg-val-math.c (integers wrap: fix C10-10) -/

def isFloatCell : Cell → Bool
  | .flt _ => true
  | .dbl _ => true
  | _ => false

/-- `rtosc_arg_val_null(av, type)` for the type of `like`; `none` = returns false -/
def nullVal (like : Cell) : Option Cell :=
  match like with
  | .huge _ => some (.huge 0)
  | .time _ => some (.time 0)
  | .str ty _ => some (.str ty none)
  | .dbl _ => some (.dbl 0)
  | .flt _ => some (.flt 0)
  | .int ty _ => some (.int ty 0)
  | .flag .T => some (.flag .F)
  | .flag .F => some (.flag .F)
  | _ => none

/-- `rtosc_arg_val_from_int(av, type, number)` for integer and boolean types -/
def fromInt (like : Cell) (number : Int) : Res (Option Cell) :=
  match like with
  | .huge _ => .ok (some (.huge number))
  | .int .c _ => .ok (some (.int .c number))
  | .int .i _ => .ok (some (.int .i number))
  | .flag .T => .ok (some (.flag (if number ≠ 0 then .T else .F)))
  | .flag .F => .ok (some (.flag (if number ≠ 0 then .T else .F)))
  | .flt _ => .error .unmodelled
  | .dbl _ => .error .unmodelled
  | _ => .ok none

/-- `rtosc_arg_val_negate(av)` (`-INT_MIN` is undefined in C: `Err.undef`) -/
def negate (c : Cell) : Res (Option Cell) :=
  match c with
  | .huge v => if v = -9223372036854775808 then .error .undef else .ok (some (.huge (-v)))
  | .int .c v => if v = -2147483648 then .error .undef else .ok (some (.int .c (-v)))
  | .int .i v => if v = -2147483648 then .error .undef else .ok (some (.int .i (-v)))
  | .flag .T => .ok (some (.flag .F))
  | .flag .F => .ok (some (.flag .T))
  | .flt _ => .error .unmodelled
  | .dbl _ => .error .unmodelled
  | _ => .ok none

/-- `rtosc_arg_val_round(av)`: integers and booleans are left alone -/
def roundAV (c : Cell) : Res (Option Cell) :=
  match c with
  | .huge _ => .ok (some c)
  | .int .c _ => .ok (some c)
  | .int .i _ => .ok (some c)
  | .flag .T => .ok (some c)
  | .flag .F => .ok (some c)
  | .flt _ => .error .unmodelled
  | .dbl _ => .error .unmodelled
  | _ => .ok none

/-- `rtosc_arg_val_add(lhs, rhs, res)`; inner `none` = returns false (result indeterminate) -/
def addAV (l r : Cell) : Res (Option Cell) :=
  if l.type ≠ r.type then
    match l, r with
    | .flag .F, .flag .T => .ok (some (.flag .T))
    | .flag .T, .flag .F => .ok (some (.flag .T))
    | _, _ => .ok none
  else
    match l, r with
    | .huge a, .huge b => .ok (some (.huge (toI64 (a + b))))
    | .int .c a, .int .c b => .ok (some (.int .c (toI32 (a + b))))
    | .int .i a, .int .i b => .ok (some (.int .i (toI32 (a + b))))
    | .flag .T, .flag .T => .ok (some (.flag .F))
    | .flag .F, .flag .F => .ok (some (.flag .F))
    | .flt _, .flt _ => .error .unmodelled
    | .dbl _, .dbl _ => .error .unmodelled
    | _, _ => .ok none

/-- `rtosc_arg_val_sub(lhs, rhs, res)` -/
def subAV (l r : Cell) : Res (Option Cell) :=
  if l.type ≠ r.type then addAV l r
  else
    match l, r with
    | .huge a, .huge b => .ok (some (.huge (toI64 (a - b))))
    | .int .c a, .int .c b => .ok (some (.int .c (toI32 (a - b))))
    | .int .i a, .int .i b => .ok (some (.int .i (toI32 (a - b))))
    | .flag .T, .flag .T => .ok (some (.flag .F))
    | .flag .F, .flag .F => .ok (some (.flag .F))
    | .flt _, .flt _ => .error .unmodelled
    | .dbl _, .dbl _ => .error .unmodelled
    | _, _ => .ok none

/-- `rtosc_arg_val_mult(lhs, rhs, res)` -/
def multAV (l r : Cell) : Res (Option Cell) :=
  if l.type ≠ r.type then
    match l, r with
    | .flag .F, .flag .T => .ok (some (.flag .F))
    | .flag .T, .flag .F => .ok (some (.flag .F))
    | _, _ => .ok none
  else
    match l, r with
    | .huge a, .huge b => .ok (some (.huge (toI64 (a * b))))
    | .int .c a, .int .c b => .ok (some (.int .c (toI32 (a * b))))
    | .int .i a, .int .i b => .ok (some (.int .i (toI32 (a * b))))
    | .flag .T, .flag .T => .ok (some (.flag .T))
    | .flag .F, .flag .F => .ok (some (.flag .F))
    | .flt _, .flt _ => .error .unmodelled
    | .dbl _, .dbl _ => .error .unmodelled
    | _, _ => .ok none

/-- C integer division (truncating); division by zero and `MIN / -1` trap -/
def cdiv (a b min : Int) : Res Int :=
  if b = 0 then .error .trap
  else if a = min ∧ b = -1 then .error .trap
  else .ok (Int.tdiv a b)

/-- `rtosc_arg_val_div(lhs, rhs, res)` -/
def divAV (l r : Cell) : Res (Option Cell) :=
  if l.type ≠ r.type then .ok none
  else
    match l, r with
    | .huge a, .huge b => do let q ← cdiv a b (-9223372036854775808); pure (some (.huge q))
    | .int .c a, .int .c b => do let q ← cdiv a b (-2147483648); pure (some (.int .c q))
    | .int .i a, .int .i b => do let q ← cdiv a b (-2147483648); pure (some (.int .i q))
    | .flag .T, .flag .T => .ok (some (.flag .T))
    | .flag .F, .flag .F => .ok none           -- assert(false); return false
    | .flt _, .flt _ => .error .unmodelled
    | .dbl _, .dbl _ => .error .unmodelled
    | _, _ => .ok none

/-- `rtosc_arg_val_to_int(av, &res)` -/
def toIntAV (c : Cell) : Res (Option Int) :=
  match c with
  | .huge v => .ok (some (toI32 v))
  | .int .c v => .ok (some v)
  | .int .i v => .ok (some v)
  | .flag .T => .ok (some 1)
  | .flag .F => .ok (some 0)
  | .flt _ => .error .unmodelled
  | .dbl _ => .error .unmodelled
  | _ => .ok none

/-- a step of arg-val-math whose `false` result the caller ignores: the result cell is then
    indeterminate -/
def must {α} (r : Res (Option α)) : Res α := do
  match ← r with
  | some a => pure a
  | none => .error .undef

/-- `rtosc_arg_val_range_arg(range_arg, ith, result)`: `start + ith * delta`; `none` = NULL -/
def rangeArg (p : List Cell) (ith : Int) : Res (Option Cell) :=
  match p with
  | _ :: delta :: start :: _ => do
    match ← fromInt delta ith with
    | none => pure none
    | some n =>
      match ← multAV n delta with
      | none => pure none
      | some m => addAV start m
  | _ => .error .oob

end Rtosc.Pretty
