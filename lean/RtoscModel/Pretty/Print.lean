/-
  C10 — model of the pretty printer of src/cpp/pretty-format.c, with the fix patches
  fixes/C10-01 … C10-15 and C10-17 applied:
  `remove_trailing_zeroes`, `break_string`, `linebreak_check_after_write`,
  `rtosc_print_range`, `range_args_identical`, `range_step_overflows`,
  `rtosc_convert_to_range` (+ `insert_arg_range`), `rtosc_print_arg_val` (every type),
  `rtosc_print_arg_vals`, `rtosc_print_message`, and `rtosc_secfracs2float` (rtosc-time.c).

  The caller's buffer is `PSt.out`: every character written since the buffer's start, so that
  the code's look-backs (`buffer[-1]`, `last_sep`) are indices into it; `PSt.cols` is
  `*cols_used`.  Every function returns, next to the new state, the count `wrt` exactly as the
  code accumulates it — that it equals the number of characters added is a theorem, not a
  definition.  The separator is `" "` (`opt->sep`); the buffer is assumed large enough, so that no size
  argument derived from `bs` (`asnprintf`, `strftime`, `fast_strcpy`) truncates.
  The `' '` filler cell `rtosc_convert_to_range` writes behind a converted range is omitted:
  no code reads it (`conv` is used instead of `next_arg_offset` whenever a range was made).
  No Mathlib import: linked into the driver.
-/
import RtoscModel.Pretty.Val
namespace Rtosc.Pretty
open Rtosc Rtosc.Libc
open Rtosc.ArgVal (Cell IntTy StrTy FlagTy)

structure POpt where
  lossless : Bool
  prec : Nat
  linelength : Int
  compress : Bool
deriving DecidableEq, Repr

/-- `default_print_options` = { true, 2, " ", 80, true } -/
def defaultOpt : POpt := ⟨true, 2, 80, true⟩

structure PSt where
  out : Bytes
  cols : Int
deriving DecidableEq, Repr

/-- `range_min`.  This constant, `reservedWords`, `defaultOpt`, the escape tables and the try order of `scanfFmtstr` are
    each tied to the source by a theorem of Props/C10Tables.lean. -/
def rangeMin : Nat := 5

/-- append text that does not count as columns here (callers add to `cols` themselves) -/
def PSt.emit (st : PSt) (bs : Bytes) : PSt := { st with out := st.out ++ bs }

/-- `remove_trailing_zeroes(str)`: the new string and the number of removed characters -/
def removeTrailingZeroes (s : Bytes) : Res (Bytes × Nat) :=
  let s1 := if hd s = 45 then s.drop 1 else s
  if s1.length < 3 then .error .oob
  else
    let s2 := s1.drop 3
    let pre := s.take (s.length - s2.length)
    match s2 with
    | 46 :: s3 =>
      let digs := s3.takeWhile isxdigit
      let rest := s3.drop digs.length
      let kept := stripZeros digs
      if kept.isEmpty then .ok (pre ++ rest, digs.length + 1)
      else .ok (pre ++ 46 :: kept ++ rest, digs.length - kept.length)
    | _ => .ok (s, 0)

/-- `rtosc_secfracs2float(secfracs)`: print as "0x%xp-32", scan with "%f" -/
def secfracs2float (secfracs : Nat) : Res Nat :=
  match sscanf fmtScFloat (lit "0x" ++ fmtHex (secfracs % 4294967296) ++ lit "p-32") with
  | .flt b :: _ => .ok b
  | _ => .error .undef

/-- the text `break_string` writes: `"\`, newline, four spaces, `"` -/
def breakText : Bytes := [34, 92, 10, 32, 32, 32, 32, 34]

/-- the reserved words `is_reserved_word` knows (fix C10-09) -/
def reservedWords : List Bytes :=
  [lit "true", lit "false", lit "nil", lit "inf", lit "immediately", lit "now", lit "MIDI", lit "BLOB"]

/-- "Symbol": are quotes required? -/
def symbolPlain (s : Bytes) : Bool :=
  isIdentStart (hd s) && (s.drop 1).all isIdentChar && !reservedWords.contains s

/-- the character loop of the string printer -/
def printStrChars (plain : Bool) (ll : Int) : Bytes → PSt → PSt
  | [], st => st
  | c :: r, st =>
    let st1 : PSt := if !plain && st.cols > ll - 3 then { out := st.out ++ breakText, cols := 5 } else st
    match asEscapedChar c false with
    | some e =>
      let st2 : PSt := { out := st1.out ++ [92, e], cols := st1.cols + 2 }
      let st3 : PSt := if !plain && e = 110 then { out := st2.out ++ breakText, cols := 5 } else st2
      printStrChars plain ll r st3
    | none => printStrChars plain ll r { out := st1.out ++ [c], cols := st1.cols + 1 }

/-- the byte loop of the blob printer: (state, wrt) -/
def printBlobBytes (ll : Int) : Bytes → PSt → Nat → PSt × Nat
  | [], st, wrt => (st, wrt)
  | b :: r, st, wrt =>
    let brk := st.cols ≥ ll - 6
    -- asnprintf(buffer-1, …, "\n    "): the trailing space becomes a newline
    let st1 : PSt := if brk then { out := st.out.dropLast ++ [10, 32, 32, 32, 32], cols := 4 } else st
    let wrt1 := if brk then wrt + 4 else wrt
    printBlobBytes ll r { out := st1.out ++ [48, 120] ++ fmtHex2 b.toNat ++ [32], cols := st1.cols + 5 } (wrt1 + 5)

/-- `linebreak_check_after_write`: `lastSep` is an index into `out` (−1: before the buffer);
    returns the state, `wrt` and `args_written_this_line` -/
def linebreakCheck (st : PSt) (wrt : Nat) (lastSep : Int) (inc : Nat) (awl : Nat) (ll : Int) :
    Res (PSt × Nat × Nat) :=
  let awl1 := awl + 1
  if st.cols > ll ∧ awl1 > 1 then
    if lastSep < 0 ∨ lastSep ≥ st.out.length then .error .oob
    else
      let i := lastSep.toNat
      let tail := st.out.drop (i + 1)
      -- memmove(last_sep+5, last_sep+1, 1+inc) moves everything behind the separator
      if tail.length > inc + 1 then .error .undef
      else .ok ({ out := st.out.take i ++ [10, 32, 32, 32, 32] ++ tail, cols := 4 + inc }, wrt + 4, 1)
  else .ok (st, wrt, awl1)

/-- `(*cols_used && isspace(*last_sep)) ? 1 : 0` with `last_sep = buffer - 1` (fix C10-07) -/
def initArgsWritten (st : PSt) : Res Nat :=
  if st.cols ≠ 0 then
    match st.out.getLast? with
    | none => .error .oob
    | some c => .ok (if isspace c then 1 else 0)
  else .ok 0

/-- `range_args_identical(lhs, rhs)` (fix C10-12) -/
def rangeArgsIdentical (l r : List Cell) : Res Bool := do
  if !(← eqSingle l r) then return false
  let size ← incsize l
  if size ≠ (← incsize r) then return false
  let ls := l.take size
  let rs := r.take size
  if ls.length ≠ size ∨ rs.length ≠ size then throw .oob
  return (ls.zip rs).all fun (a, b) =>
    a.type = b.type &&
    (match a, b with
     | .flt x, .flt y => x = y
     | .dbl x, .dbl y => x = y
     | _, _ => true)

/-- `range_step_overflows(lhs, delta)` (fix C10-11) -/
def rangeStepOverflows (lhs delta : Cell) : Bool :=
  match lhs, delta with
  | .int .c a, .int _ d => a + d < -2147483648 || a + d > 2147483647
  | .int .i a, .int _ d => a + d < -2147483648 || a + d > 2147483647
  | .huge a, .huge d => a + d < -9223372036854775808 || a + d > 9223372036854775807
  | _, _ => false

/-- `range_width_overflows(first, last)` (fix C10-15) -/
def rangeWidthOverflows (first last : Cell) : Bool :=
  match first, last with
  | .int .c a, .int _ b => b - a < -2147483648 || b - a > 2147483647
  | .int .i a, .int _ b => b - a < -2147483648 || b - a > 2147483647
  | .huge a, .huge b => b - a < -9223372036854775808 || b - a > 9223372036854775807
  | _, _ => false

/-- first loop of `rtosc_convert_to_range`: number of leading args of the type of the first -/
def countCommon : Nat → UInt8 → List Cell → Nat → Nat → Nat → Res Nat
  | 0, _, _, _, _, _ => .error .fuel
  | fuel + 1, ty, arg, size, i, n =>
    if i < size then do
      let c ← deref (arg.drop i)
      if c.type ≠ ty then pure n
      else countCommon fuel ty arg size (i + (← incsize (arg.drop i))) (n + 1)
    else pure n

/-- second loop of `rtosc_convert_to_range`: returns (skipped, num_common) -/
def extendRun : Nat → List Cell → Nat → Option Cell → Nat → Nat → Res (Nat × Nat)
  | 0, _, _, _, _, _ => .error .fuel
  | fuel + 1, arg, size, delta, skipped, numCommon => do
    let next := skipped + (← incsize (arg.drop skipped))
    match delta with
    | some d =>
      let cur ← deref (arg.drop skipped)
      if rangeStepOverflows cur d then pure (skipped, numCommon)          -- break
      else
        let added ← must (addAV cur d)
        if next ≥ size then pure (next, numCommon + 1)
        else if !(← eqSingle [added] (arg.drop next)) then pure (next, numCommon + 1)
        else if rangeWidthOverflows (← deref arg) (← deref (arg.drop next)) then pure (next, numCommon + 1)
        else extendRun fuel arg size delta next (numCommon + 1)
    | none =>
      if next ≥ size then pure (next, numCommon + 1)
      else if !(← rangeArgsIdentical arg (arg.drop next)) then pure (next, numCommon + 1)
      else extendRun fuel arg size delta next (numCommon + 1)

/-- `rtosc_convert_to_range(arg, size, arg_out, opt)`: `none` = 0 (nothing converted),
    `some (skipped, converted range block)` -/
def convertToRange (opt : POpt) (arg : List Cell) (size : Nat) : Res (Option (Nat × List Cell)) := do
  if size < rangeMin then return none
  let c0 ← deref arg
  if c0.type = ArgVal.tyRange ∨ !opt.compress then return none
  let numCommon ← countCommon (size + 1) c0.type arg size 0 0
  if numCommon < rangeMin then return none
  let inc0 ← incsize arg
  let delta : Option Cell ←
    if ← rangeArgsIdentical arg (arg.drop inc0) then pure none
    else if (lit "cihTF").contains c0.type then do
      let d ← must (subAV (← deref (arg.drop 1)) c0)
      pure (some d)
    else return none
  match delta with
  | some d => if rangeStepOverflows c0 d then return none
  | none => pure ()
  let (skipped, n) ← extendRun (size + 1) arg size delta inc0 1
  if n ≥ rangeMin then
    let hdr : Cell := .rep n (if delta.isSome then 1 else 0)
    let block := hdr :: (match delta with | some d => [d] | none => []) ++ arg.take inc0
    return some (skipped, block)
  else return none

/-- the type letter is one of "-asb" (`strchr("-asb", type)`; also true for NUL, which no cell has) -/
def breaksItself (c : Cell) : Bool := (lit "-asb").contains c.type

/-- the printer for one argument, as the loops below call it: cells, previous arg, state -/
abbrev ElemPrinter := List Cell → Option Cell → PSt → Res (PSt × Nat)

/-- the element loop of the array printer; `i` is the index into `arg` (1-based as in the code);
    returns the state after the last separator has been written, and `wrt`.
    The last argument bounds the number of iterations (`len + 1` always suffices). -/
def printArrayElems (pe : ElemPrinter) (opt : POpt) (arg : List Cell) (n : Nat) :
    Nat → PSt → Nat → Int → Nat → Nat → Res (PSt × Nat)
  | i, st, wrt, lastSep, awl, loopFuel =>
    if i ≤ n then
      match loopFuel with
      | 0 => .error .fuel
      | loopFuel' + 1 => do
        let cur := arg.drop i
        let conv ← convertToRange opt cur (n + 1 - i)
        let input : List Cell := match conv with | some (_, block) => block | none => cur
        let prev : Option Cell ← if i = 1 then pure none else (do let c ← deref (arg.drop (i - 1)); pure (some c))
        let (st1, tmp) ← pe input prev st
        let step ← match conv with
          | some (skipped, _) => pure skipped
          | none => nextArgOffset (cur.length + 1) cur
        let (st2, wrt2, awl2) ← linebreakCheck st1 (wrt + tmp) lastSep tmp awl opt.linelength
        let lastSep' : Int := st2.out.length
        let st3 : PSt := { out := st2.out ++ [32], cols := st2.cols + 1 }      -- COUNT_UP_WRITE(' ')
        printArrayElems pe opt arg n (i + step) st3 (wrt2 + 1) lastSep' awl2 loopFuel'
    else pure (st, wrt)

/-- the loop over all args of the range (`cnt` = `num - start` iterations) -/
def printRangeElems (pe : ElemPrinter) (opt : POpt) (arg : List Cell) (hd : Int) :
    Int → PSt → Nat → Int → Nat → Nat → Res (PSt × Nat)
  | _, st, wrt, _, _, 0 => .ok (st, wrt)
  | i, st, wrt, lastSep, awl, cnt + 1 => do
    let cur : List Cell ←
      if hd ≠ 0 then (do let c ← must (rangeArg arg i); pure [c]) else pure (arg.drop 1)
    let (st1, tmp) ← pe cur none st
    let (st2, wrt2, awl2) ← linebreakCheck st1 (wrt + tmp) lastSep tmp awl opt.linelength
    let lastSep' : Int := st2.out.length
    let st3 : PSt := { out := st2.out ++ [32], cols := st2.cols + 1 }
    printRangeElems pe opt arg hd (i + 1) st3 (wrt2 + 1) lastSep' awl2 cnt

/-- `rtosc_print_range(arg, buffer, bs, opt, cols_used, prev_arg)` -/
def printRange (pe : ElemPrinter) (opt : POpt) (arg : List Cell) (prev : Option Cell) (st : PSt) :
    Res (PSt × Nat) := do
  match ← deref arg with
  | .rep num hd =>
    -- prepare for the loop: (state, wrt, start)
    let (st1, wrt1, start) ←
      if opt.compress ∨ num = 0 then
        if hd ≠ 0 ∨ num = 0 then do
          let firstArg := arg.drop (if hd ≠ 0 then 2 else 1)
          let first ← deref firstArg
          let (sa, tmp) ← pe firstArg none st
          let (sb, wb) ←
            if hd ≠ 0 then do
              let one ← must (fromInt first 1)
              let mOne ← must (fromInt first (-1))
              let confusing ← match prev with
                | some p => if p.type = first.type then (do pure (!(← eqSingle firstArg [p]))) else pure false
                | none => pure false
              let unit ← (do if ← eqSingle (arg.drop 1) [one] then pure true else eqSingle (arg.drop 1) [mOne])
              if (unit && !confusing) || num = 0 then pure (sa, tmp)
              else do
                let sa1 : PSt := { out := sa.out ++ [32], cols := sa.cols + 1 }
                let second ← must (rangeArg arg 1)
                let (sa2, tmp2) ← pe [second] none sa1
                pure (sa2, tmp + 1 + tmp2)
            else pure (sa, tmp)
          let sc : PSt := { out := sb.out ++ lit " ... ", cols := sb.cols + 5 }
          pure (sc, wb + 5, num - (if num ≠ 0 then 1 else 0))
        else do
          let mult := fmtDec num ++ [120]
          let sa : PSt := { out := st.out ++ mult, cols := st.cols + mult.length }
          let (sb, tmp) ← pe (arg.drop 1) none sa
          pure (sb, mult.length + tmp, num)
      else pure (st, 0, 0)
    let lastSep : Int := (st1.out.length : Int) - 1
    let awl ← initArgsWritten st1
    let (st2, wrt2) ← printRangeElems pe opt arg hd start st1 wrt1 lastSep awl (num - start).toNat
    if start < num then
      -- remove the last separator
      pure ({ st2 with out := st2.out.dropLast }, wrt2 - 1)
    else pure (st2, wrt2)
  | _ => throw .undef

/-- `rtosc_print_arg_val(arg, buffer, bs, opt, cols_used, prev_arg_if_range)`: state and `wrt`.
    The first argument bounds the nesting depth (arrays in arrays, ranges of arrays). -/
def printArgVal : Nat → POpt → List Cell → Option Cell → PSt → Res (PSt × Nat)
  | 0, _, _, _, _ => .error .fuel
  | fuel + 1, opt, arg, prev, st => do
    let simple (txt : Bytes) : Res (PSt × Nat) :=
      pure ({ out := st.out ++ txt, cols := st.cols + txt.length }, txt.length)
    match ← deref arg with
    | .flag .T => simple (lit "true")
    | .flag .F => simple (lit "false")
    | .flag .N => simple (lit "nil")
    | .flag .I => simple (lit "inf")
    | .huge v => simple (fmtDec v ++ [104])
    | .time v =>
      if v = 1 then simple (lit "immediately")
      else do
        let tm := localtime (v / 4294967296 : Nat)
        let secfracs := v % 4294967296
        let date : Bytes :=
          if secfracs ≠ 0 ∨ tm.sec ≠ 0 then fmtDate tm ++ 32 :: fmtHM tm ++ 58 :: fmtS tm
          else if tm.hour ≠ 0 ∨ tm.min ≠ 0 then fmtDate tm ++ 32 :: fmtHM tm
          else fmtDate tm
        if secfracs ≠ 0 then
          if opt.prec > 9 then throw .undef       -- the size 5 passed to `asnprintf(fmtstr, 5, "%%.%df", prec)` is too small
          let prec := if opt.prec < 1 then 1 else opt.prec          -- fix C10-08
          let flt ← secfracs2float secfracs
          let num := fmtF false prec (promote flt)
          -- snip part before separator
          let fracTxt0 := num.dropWhile (· ≠ 46)
          if fracTxt0.isEmpty then throw .undef    -- strchr returned NULL
          -- fix C10-17: a fraction that rounds up to "1.00" is printed as the largest fraction ".99"
          let fracTxt := if hd num ≠ 48 then 46 :: List.replicate (fracTxt0.length - 1) 57 else fracTxt0
          let wrt := date.length + num.length - (num.length - fracTxt.length)
          if opt.lossless then
            let hex := fmtA (promote flt) ++ lit "s)"
            let (hex', removed) ← removeTrailingZeroes hex
            let txt := date ++ fracTxt ++ lit " (...+" ++ hex'
            let wrt' := wrt + (6 + hex.length) - removed
            pure ({ out := st.out ++ txt, cols := st.cols + wrt' }, wrt')
          else
            pure ({ out := st.out ++ date ++ fracTxt, cols := st.cols + wrt }, wrt)
        else simple date
    | .int .r v =>
      let u := (v % 4294967296).toNat
      simple (35 :: fmtHex2 (u / 16777216 % 256) ++ fmtHex2 (u / 65536 % 256) ++ fmtHex2 (u / 256 % 256) ++ fmtHex2 (u % 256))
    | .flt b =>
      if opt.prec > 9 then throw .undef           -- `asnprintf(fmtstr, 6, "%%#.%df", prec)`: the size 6 is too small
      let num := fmtF true opt.prec (promote b.toNat)
      if opt.lossless then
        let hex := fmtA (promote b.toNat) ++ [41]
        let (hex', removed) ← removeTrailingZeroes hex
        let wrt := num.length + (2 + hex.length) - removed
        pure ({ out := st.out ++ num ++ lit " (" ++ hex', cols := st.cols + wrt }, wrt)
      else simple num
    | .dbl b =>
      if opt.prec > 9 then throw .undef           -- `asnprintf(fmtstr, 8, "%%#.%dlfd", prec)`: the size 8 is too small
      let num := fmtF true opt.prec b.toNat ++ [100]
      if opt.lossless then simple (num ++ lit " (" ++ fmtA b.toNat ++ [41])
      else simple num
    | .int .c v =>
      -- as_escaped_char(int c, true): only values that are one of the listed characters match
      let esc : Option UInt8 := if 0 ≤ v ∧ v < 256 then asEscapedChar v.toNat.toUInt8 true else none
      match esc with
      | some e => simple [39, 92, e, 39]
      | none => simple [39, (v % 256).toNat.toUInt8, 39]
    | .int .i v => simple (fmtDec v)
    | .midi a b c d =>
      simple (lit "MIDI [0x" ++ fmtHex2 a.toNat ++ lit " 0x" ++ fmtHex2 b.toNat ++ lit " 0x" ++ fmtHex2 c.toNat ++
              lit " 0x" ++ fmtHex2 d.toNat ++ [93])
    | .str ty s? =>
      match s? with
      | none => throw .undef
      | some raw =>
        let s := raw.takeWhile (· ≠ 0)
        let plain := ty == .S && symbolPlain s
        let st0 : PSt := if plain then st else { out := st.out ++ [34], cols := st.cols + 1 }
        let st1 := printStrChars plain opt.linelength s st0
        let st2 : PSt :=
          if plain then st1
          else { out := st1.out ++ 34 :: (if ty == .S then [83] else []), cols := st1.cols + 1 }
        pure (st2, st2.out.length - st.out.length)
    | .blob data =>
      let head := lit "BLOB [" ++ fmtDec data.length ++ [32]
      let st0 : PSt := { out := st.out ++ head, cols := st.cols + head.length }
      let (st1, wrt) := printBlobBytes opt.linelength data st0 head.length
      -- buffer[-1] = ']'
      pure ({ st1 with out := st1.out.dropLast ++ [93] }, wrt)
    | .arr _ len =>
      if len < 0 then throw .undef
      let n := len.toNat
      let lastSep : Int := (st.out.length : Int) - 1
      let awl ← initArgsWritten st
      let st0 : PSt := { out := st.out ++ [91], cols := st.cols + 1 }        -- COUNT_UP_WRITE('[')
      if n ≠ 0 then
        let (st1, wrt) ← printArrayElems (printArgVal fuel opt) opt arg n 1 st0 1 lastSep awl (n + 1)
        pure ({ out := st1.out.dropLast ++ [93], cols := st1.cols + 1 }, wrt)
      else
        pure ({ out := st0.out ++ [93], cols := st0.cols + 1 + 1 }, 2)
    | .rep .. => printRange (printArgVal fuel opt) opt arg prev st

/-- the loop of `rtosc_print_arg_vals`; `i` cells of `args` (length n) are done -/
def printArgValsLoop : Nat → POpt → List Cell → Nat → Nat → PSt → Nat → Int → Nat → Res (PSt × Nat)
  | 0, _, _, _, _, _, _, _, _ => .error .fuel
  | fuel + 1, opt, args, n, i, st, wrt, lastSep, awl =>
    if i < n then do
      let cur := args.drop i
      let c ← deref cur
      let conv ← convertToRange opt cur (n - i)
      let input : List Cell := match conv with | some (_, block) => block | none => cur
      -- (i == 0) ? NULL : (args-1); the cell before `args` exists whenever i > 0
      let prev : Option Cell := if i = 0 then none else (args.drop (i - 1)).head?
      let (st1, tmp) ← printArgVal (cur.length + 3) opt input prev st
      let wrt1 := wrt + tmp
      -- these compute the newlines themselves
      let (st2, wrt2, awl2) ←
        if !breaksItself c then linebreakCheck st1 wrt1 lastSep tmp awl opt.linelength
        else pure (st1, wrt1, awl)
      let inc ← match conv with
        | some (skipped, _) => pure skipped
        | none => nextArgOffset (cur.length + 1) cur
      let i' := i + inc
      if i' < n then
        let lastSep' : Int := st2.out.length
        let st3 : PSt := { out := st2.out ++ [32], cols := st2.cols + 1 }
        printArgValsLoop fuel opt args n i' st3 (wrt2 + 1) lastSep' awl2
      else printArgValsLoop fuel opt args n i' st2 wrt2 lastSep awl2
    else pure (st, wrt)

/-- `rtosc_print_arg_vals(args, n, buffer, bs, opt, cols_used)` writing behind `st.out` -/
def printArgVals (opt : POpt) (args : List Cell) (st : PSt) : Res (PSt × Nat) :=
  printArgValsLoop (args.length + 1) opt args args.length 0 st 0 ((st.out.length : Int) - 1)
    (if st.cols ≠ 0 then 1 else 0)

/-- `rtosc_print_message(address, args, n, buffer, bs, opt, cols_used)` -/
def printMessage (opt : POpt) (address : Bytes) (args : List Cell) (cols0 : Int) : Res (PSt × Nat) := do
  let head := address ++ [32]
  let (st, wrt) ← printArgVals opt args { out := head, cols := cols0 + head.length }
  pure (st, head.length + wrt)

end Rtosc.Pretty
