/-
  C10/C11 — what the statements about single values are written in: which values the properties
  quantify over (`CharOK`, `StrByteOK`), what may follow a printed value (`Sep`), and what it means that
  scanner and syntax checker read a text back as a cell (`TokOK` for C10's `rtosc_scan_arg_val` /
  `rtosc_skip_next_printed_arg`, `C11.ValOK` for the `switch(*src)` of the two, which C10's and C11's
  model share) and that the printer writes such a text (`PrintsTok`, `C11.PrintsVal`).  Props/C10.lean,
  Props/C11.lean and the obligations stated in Proofs/Pretty*.lean, Proofs/Scan*.lean use them.
  Definitions only; no Mathlib import.
-/
import RtoscModel.Pretty.Check
namespace Rtosc.Pretty
open Rtosc Rtosc.Libc
open Rtosc.ArgVal (Cell)

/-- values of a char argument the property quantifies over: NUL, the C escapes \a..\r, printable ASCII -/
def CharOK (v : Int) : Prop := v = 0 ∨ (7 ≤ v ∧ v ≤ 13) ∨ (32 ≤ v ∧ v ≤ 126)

/-- the text the printer writes for a char -/
def charText (v : Int) : Bytes :=
  match (if 0 ≤ v ∧ v < 256 then asEscapedChar v.toNat.toUInt8 true else none) with
  | some e => [39, 92, e, 39]
  | none => [39, (v % 256).toNat.toUInt8, 39]

/-- bytes of a string the property quantifies over: the C escapes \a..\r and printable ASCII -/
def StrByteOK (b : UInt8) : Prop := (7 ≤ b ∧ b ≤ 13) ∨ (32 ≤ b ∧ b ≤ 126)

/-- what may follow a token in printed text: the end, white space, or a closing bracket; and
    behind the white space neither "(" (exact value of a float) nor "..." (a range) -/
def Sep (rest : Bytes) : Prop :=
  (rest = [] ∨ isspace (hd rest) = true ∨ hd rest = 93) ∧
  hd (skipSpace rest) ≠ 40 ∧ startsWith (skipSpace rest) [46, 46, 46] = false

/-- like `Sep`, without the condition on "..." -/
def SepW (rest : Bytes) : Prop :=
  (rest = [] ∨ isspace (hd rest) = true ∨ hd rest = 93) ∧ hd (skipSpace rest) ≠ 40

/-- the first character of a token: not white space, NUL, "(", ".", "%", "/" or "]" -/
def TokStart (t : Bytes) : Prop :=
  t ≠ [] ∧ isspace (hd t) = false ∧ hd t ≠ 0 ∧ hd t ≠ 40 ∧ hd t ≠ 46 ∧ hd t ≠ 37 ∧ hd t ≠ 47 ∧ hd t ≠ 93

/-- scanner and checker read the text `t` as the single cell `c`, whatever separator follows (`Sep rest`) -/
structure TokOK (t : Bytes) (c : Cell) : Prop where
  start : TokStart t
  scan : ∀ (rest : Bytes) (fuel : Nat) (prev : List Cell) (ab : Nat), Sep rest →
    scanArgVal (fuel + 1) (t ++ rest) prev ab true = .ok (t.length, [c])
  skip : ∀ (rest : Bytes) (fuel : Nat) (ty : UInt8) (llhs : Option Bytes) (ib : Bool), Sep rest →
    ∃ r, skipNextPrintedArg (fuel + 1) (t ++ rest) ty llhs true ib = .ok r ∧
      r.src = some rest ∧ r.skipped = 1 ∧ r.type = c.type

/-- the printer appends a good token for the scalar cell `c` and returns its length -/
def PrintsTok (opt : POpt) (c : Cell) : Prop :=
  ∀ (fuel : Nat) (more : List Cell) (prev : Option Cell) (st : PSt),
    ∃ (t : Bytes) (cols' : Int),
      printArgVal (fuel + 1) opt (c :: more) prev st = .ok (⟨st.out ++ t, cols'⟩, t.length) ∧ TokOK t c

end Rtosc.Pretty

namespace Rtosc.Pretty.C11
open Rtosc Rtosc.Libc Rtosc.Pretty
open Rtosc.ArgVal (Cell)

/-- both `switch`es read the text `t` as the scalar cell `c` -/
structure ValOK (t : Bytes) (c : Cell) : Prop where
  start : TokStart t
  scalar : c.isScalar = true
  noBracket : hd t ≠ 91
  scan : ∀ (se : ElemScanner) (rest : Bytes) (prev : List Cell), Sep rest →
    Pretty.scanValue se (t ++ rest) prev = .ok ⟨rest, [c], true⟩
  skip : ∀ (sk : ArgSkipper) (rest : Bytes) (ty : UInt8) (ib : Bool), Sep rest →
    ∃ dl, Pretty.skipValue sk (t ++ rest) ty ib = .ok (some ⟨some rest, 1, c.type, dl⟩)

/-- the printer appends for the scalar cell `c` a text that both `switch`es read back as `c` -/
def PrintsVal (opt : POpt) (c : Cell) : Prop :=
  ∀ (fuel : Nat) (more : List Cell) (prev : Option Cell) (st : PSt),
    ∃ (t : Bytes) (cols' : Int),
      Pretty.printArgVal (fuel + 1) opt (c :: more) prev st = .ok (⟨st.out ++ t, cols'⟩, t.length) ∧ ValOK t c

end Rtosc.Pretty.C11
