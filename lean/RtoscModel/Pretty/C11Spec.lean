/-
  C11 — specification: the sentences of the pretty format as doc/Guide.adoc, section
  "Pretty-printing Messages", describes them, as (value, spelling) choices.

  * `Tok`      one scalar value together with the way it is spelled (decimal / hex / octal,
               suffixes, exponent forms, exact value in parentheses, escapes, concatenated
               string parts, identifier or quoted symbol, keyword, colour, MIDI, blob);
  * `SVal`     a value of a sentence: a scalar, `nxA`, `b ... c`, an array (with an optional
               open end `...` behind its last element);
  * `Layout`   where the manual allows white space: white space / line breaks / `%` comments
               in front of, between and behind the values (`Gap`s; a comment may follow a value
               directly), and blanks at the places inside a value (`Blank`s, addressed by a path);
  * `render : Sentence → Layout → Bytes`   the text;
  * `denote : Sentence → Option (List Item)`   what it denotes, as C16's structured argument list
               (`ArgVal.Item`: values, arrays, `n x value`, `start / delta / count` ranges);
               `cells` is its memory layout (`ArgVal.flatList`), what the scanner has to write.
  `Sentence.wf` collects the side conditions on the spellings (values in the range of their type, `n` of
  `nxA` positive, elements of an array of one type); the side conditions the manual states for ranges (one
  numeric type, "a" and "b" different, an n with b + n d = c) are in `denoteElems`: where they fail the
  sentence denotes nothing.

  Nothing here refers to the code of src/cpp/pretty-format.c.  Number denotations use exact
  integer arithmetic and one rounding to nearest-even (`Libc.roundPos`); the step of a float
  range is one IEEE subtraction and its count the tolerance rule of the manual, evaluated with
  the operations of `C11Float.lean`.
  No Mathlib import.
-/
import RtoscModel.ArgVal.Expand
import RtoscModel.Pretty.C11Float
namespace Rtosc.Pretty.C11
open Rtosc Rtosc.Libc
open Rtosc.ArgVal (Cell IntTy StrTy FlagTy Item flatList)

/-! ### layout -/

inductive Ws where | sp | tab | nl | vt | ff | cr
deriving DecidableEq, Repr

def Ws.byte : Ws → UInt8
  | .sp => 32 | .tab => 9 | .nl => 10 | .vt => 11 | .ff => 12 | .cr => 13

/-- white space at a place inside a value -/
abbrev Blank := List Ws
def blankBytes (b : Blank) : Bytes := b.map Ws.byte
/-- white space at a place where at least one character is required -/
def blank1Bytes (b : Blank) : Bytes := if b.isEmpty then [32] else blankBytes b

/-- one insertion between two values -/
inductive Gap where
  | ws (w : Ws)
  | comment (body : Bytes)        -- '%', the body (without line breaks), the line break
deriving DecidableEq, Repr

/-- the characters of a comment body: everything but the line break and NUL -/
def commentBody (b : Bytes) : Bytes := b.filter (fun c => c ≠ 10 && c ≠ 0)

def Gap.bytes : Gap → Bytes
  | .ws w => [w.byte]
  | .comment b => 37 :: commentBody b ++ [10]

def gapsBytes (g : List Gap) : Bytes := (g.map Gap.bytes).flatten

/-- between two values: the insertions; one blank when there is none.  A comment may follow a
    value directly (upstream's own test "comment right after true": `true%false`); the line
    break that ends it separates the values. -/
def sepBytes (g : List Gap) : Bytes :=
  match g with
  | [] => [32]
  | g => gapsBytes g

/-- behind the last value: insertions; the text may end inside a comment -/
def trailBytes (g : List Gap) (last : Option Bytes) : Bytes :=
  match last with
  | none => gapsBytes g
  | some b => gapsBytes g ++ 37 :: commentBody b

/-- the insertions start with a white-space character -/
def startsWs : List Gap → Bool
  | .ws _ :: _ => true
  | _ => false

/-- the insertions start with a comment (which then follows the value directly) -/
def startsComment : List Gap → Bool
  | .comment _ :: _ => true
  | _ => false

structure Layout where
  lead : List Gap                  -- in front of the first value
  sep : Nat → List Gap             -- behind value i (i + 1 exists)
  trail : List Gap                 -- behind the last value
  last : Option Bytes              -- a comment without line break at the very end
  blank : List Nat → Blank         -- inside values, by path

/-- no comment follows a value directly: every comment behind a value is preceded by white space
    (the layouts for which the theorems of `Props/C11.lean` are proved) -/
def Layout.spaced (L : Layout) : Prop :=
  (∀ i, L.sep i = [] ∨ startsWs (L.sep i) = true) ∧
  ((L.trail = [] ∧ L.last = none) ∨ startsWs L.trail = true)

/-! ### scalar values and their spellings -/

inductive IntBase where
  | dec      -- 42
  | hex      -- 0x2a, sign in front
  | hexUp    -- 0x2A
  | oct      -- 052
  | hex2c    -- two's complement in 32 bit: 0xffffffd6 for -42
deriving DecidableEq, Repr

def octDigitsFuel : Nat → Nat → Bytes → Bytes
  | 0, _, acc => acc
  | fuel + 1, n, acc => if n = 0 then acc else octDigitsFuel fuel (n / 8) (digitChar (n % 8) :: acc)
def fmtOct (n : Nat) : Bytes := if n = 0 then [48] else octDigitsFuel n n []

def magText : IntBase → Nat → Bytes
  | .dec, m => fmtNat m
  | .hex, m => 48 :: 120 :: fmtHex m
  | .hexUp, m => 48 :: 120 :: (fmtHex m).map toupper
  | .oct, m => 48 :: fmtOct m
  | .hex2c, m => 48 :: 120 :: fmtHex m

def intText (base : IntBase) (v : Int) : Bytes :=
  match base with
  | .hex2c => magText .hex2c (v % 4294967296).toNat
  | b => (if v < 0 then [45] else []) ++ magText b v.natAbs

/-- digits, most significant first; every entry is taken modulo the base -/
abbrev Digs := List Nat
def digsVal (base : Nat) (ds : Digs) : Nat := ds.foldl (fun v d => v * base + d % base) 0
def decDigs (ds : Digs) : Bytes := ds.map (fun d => digitChar (d % 10))
def hexDigs (ds : Digs) : Bytes := ds.map (fun d => hexDigitChar (d % 16))

/-- a decimal floating literal: `ip [. fp] [e ex]` -/
structure DecLit where
  neg : Bool
  ip : Digs
  fp : Option Digs
  ex : Option Int
  exPlus : Bool          -- write `e+5` for a non-negative exponent
  exUpper : Bool         -- `E`
deriving DecidableEq, Repr

/-- a hexadecimal floating literal: `0x ip [. fp] p ex` -/
structure HexLit where
  neg : Bool
  ip : Digs
  fp : Option Digs
  ex : Int
deriving DecidableEq, Repr

def expText (marker : UInt8) (x : Int) (plus : Bool) : Bytes :=
  marker :: (if x < 0 then 45 :: fmtNat x.natAbs else (if plus then [43] else []) ++ fmtNat x.natAbs)

def DecLit.text (l : DecLit) : Bytes :=
  (if l.neg then [45] else []) ++ decDigs l.ip ++
  (match l.fp with | some f => 46 :: decDigs f | none => []) ++
  (match l.ex with | some x => expText (if l.exUpper then 69 else 101) x l.exPlus | none => [])

def HexLit.text (l : HexLit) : Bytes :=
  (if l.neg then [45] else []) ++ [48, 120] ++ hexDigs l.ip ++
  (match l.fp with | some f => 46 :: hexDigs f | none => []) ++ expText 112 l.ex true

/-- the magnitude bits of `m · base^x` in format `F` (one rounding, ties to even) -/
def scaledBits (F : Libc.FFmt) (base m : Nat) (x : Int) : Nat :=
  if x ≥ 0 then roundPos F (m * base ^ x.toNat) 1 else roundPos F m (base ^ (-x).toNat)

def DecLit.bits (F : Libc.FFmt) (l : DecLit) : Nat :=
  let fp := l.fp.getD []
  (if l.neg then F.signBit else 0) + scaledBits F 10 (digsVal 10 (l.ip ++ fp)) (l.ex.getD 0 - fp.length)

def HexLit.bits (F : Libc.FFmt) (l : HexLit) : Nat :=
  let fp := l.fp.getD []
  (if l.neg then F.signBit else 0) + scaledBits F 2 (digsVal 16 (l.ip ++ fp)) (l.ex - 4 * fp.length)

inductive FLit where
  | dec (l : DecLit)
  | hex (l : HexLit)
deriving DecidableEq, Repr

def FLit.text : FLit → Bytes | .dec l => l.text | .hex l => l.text
def FLit.bits (F : Libc.FFmt) : FLit → Nat | .dec l => l.bits F | .hex l => l.bits F
/-- without a type suffix the literal must not look like an integer -/
def FLit.floatish : FLit → Bool
  | .dec l => l.fp.isSome || l.ex.isSome
  | .hex _ => true

/-- one character of a string part -/
inductive StrCh where
  | raw (c : UInt8)      -- printable, neither `"` nor `\`
  | esc (c : UInt8)      -- written as an escape sequence
deriving DecidableEq, Repr

def StrCh.value : StrCh → UInt8 | .raw c => c | .esc c => c
def StrCh.text : StrCh → Bytes
  | .raw c => [c]
  | .esc c => [92, (asEscapedChar c false).getD 63]
def StrCh.ok : StrCh → Bool
  | .raw c => 32 ≤ c && c ≤ 126 && c ≠ 34 && c ≠ 92
  | .esc c => (asEscapedChar c false).isSome

inductive Kw where | true_ | false_ | nil | inf | now | immediately
deriving DecidableEq, Repr

def Kw.text : Kw → Bytes
  | .true_ => lit "true" | .false_ => lit "false" | .nil => lit "nil" | .inf => lit "inf"
  | .now => lit "now" | .immediately => lit "immediately"
def Kw.cell : Kw → Cell
  | .true_ => .flag .T | .false_ => .flag .F | .nil => .flag .N | .inf => .flag .I
  | .now => .time 1 | .immediately => .time 1

/-- a scalar value with its spelling -/
inductive Tok where
  | int (v : Int) (base : IntBase) (sfx : Bool)                       -- 42  0x2a  052  42i
  | huge (v : Int) (base : IntBase)                                   -- 42h
  | flt (dbl : Bool) (sfx : Bool) (l : FLit) (exact : Option HexLit)  -- 1.  1e10  10f  10d  0.5 (0x1p-1)
  | chr (c : UInt8) (esc : Bool)                                      -- 'x'  '\n'
  | str (sym : Bool) (parts : List (List StrCh))                      -- "a" \ "b"   "a"S
  | ident (name : Bytes)                                              -- An_Identifier
  | kw (k : Kw)
  | color (v : Nat) (upper : Bool)                                    -- #8badf00d
  | midi (a b c d : UInt8) (pad : Bool)                               -- MIDI [0xff 0x0 0x00 0xff]
  | blob (data : Bytes)                                               -- BLOB [2 0x01 0x02]
deriving DecidableEq, Repr

/-- the eight hexadecimal digits of a 32-bit value -/
def hexDigits8 (v : Nat) : Bytes :=
  [hexDigitChar (v / 268435456 % 16), hexDigitChar (v / 16777216 % 16), hexDigitChar (v / 1048576 % 16),
   hexDigitChar (v / 65536 % 16), hexDigitChar (v / 4096 % 16), hexDigitChar (v / 256 % 16),
   hexDigitChar (v / 16 % 16), hexDigitChar (v % 16)]

def reserved : List Bytes :=
  [lit "true", lit "false", lit "nil", lit "inf", lit "immediately", lit "now", lit "MIDI", lit "BLOB"]

def partText (p : List StrCh) : Bytes := 34 :: (p.map StrCh.text).flatten ++ [34]

/-- string parts joined by `\`, white space; `k` numbers the joints -/
def partsText (bl : List Nat → Blank) : Nat → List (List StrCh) → Bytes
  | _, [] => []
  | _, [p] => partText p
  | k, p :: q :: r => partText p ++ 92 :: blankBytes (bl [k]) ++ partsText bl (k + 1) (q :: r)

def hexByteText (pad : Bool) (b : UInt8) : Bytes :=
  48 :: 120 :: (if pad then fmtHex2 b.toNat else fmtHex b.toNat)

def blobBytesText (bl : List Nat → Blank) : Nat → Bytes → Bytes
  | _, [] => []
  | k, b :: r => blank1Bytes (bl [k]) ++ hexByteText true b ++ blobBytesText bl (k + 1) r

def Tok.text (bl : List Nat → Blank) : Tok → Bytes
  | .int v base sfx => intText base v ++ (if sfx then [105] else [])
  | .huge v base => intText base v ++ [104]
  | .flt dbl sfx l exact =>
    l.text ++ (if sfx then [if dbl then 100 else 102] else []) ++
    (match exact with
     | some e => blank1Bytes (bl [0]) ++ 40 :: blankBytes (bl [1]) ++ e.text ++ blankBytes (bl [2]) ++ [41]
     | none => [])
  | .chr c esc => if esc then [39, 92, (asEscapedChar c true).getD 63, 39] else [39, c, 39]
  | .str sym parts => partsText bl 0 parts ++ (if sym then [83] else [])
  | .ident name => name
  | .kw k => k.text
  | .color v upper =>
    35 :: (let h := hexDigits8 v; if upper then h.map toupper else h)
  | .midi a b c d pad =>
    lit "MIDI" ++ blankBytes (bl [0]) ++ 91 :: blankBytes (bl [1]) ++ hexByteText pad a ++ blank1Bytes (bl [2]) ++
      hexByteText pad b ++ blank1Bytes (bl [3]) ++ hexByteText pad c ++ blank1Bytes (bl [4]) ++ hexByteText pad d ++
      blankBytes (bl [5]) ++ [93]
  | .blob data =>
    lit "BLOB" ++ blankBytes (bl [0]) ++ 91 :: blankBytes (bl [1]) ++ fmtNat data.length ++
      blobBytesText bl 3 data ++ blankBytes (bl [2]) ++ [93]

/-- the value a scalar spelling denotes -/
def Tok.cell : Tok → Cell
  | .int v _ _ => .int .i v
  | .huge v _ => .huge v
  | .flt dbl _ l exact =>
    if dbl then .dbl ((match exact with | some e => e.bits f64 | none => l.bits f64)).toUInt64
    else .flt ((match exact with | some e => e.bits f32 | none => l.bits f32)).toUInt32
  | .chr c _ => .int .c (c.toNat : Int)
  | .str sym parts => .str (if sym then .S else .s) (some ((parts.flatten).map StrCh.value))
  | .ident name => .str .S (some name)
  | .kw k => k.cell
  | .color v _ => .int .r (toI32 v)
  | .midi a b c d _ => .midi a b c d
  | .blob data => .blob data

def digsOK (ds : Digs) : Bool := !ds.isEmpty

/-- the side conditions on a scalar spelling -/
def Tok.wf : Tok → Bool
  | .int v _ _ => decide (-2147483648 ≤ v) && decide (v ≤ 2147483647)
  | .huge v base => decide (-9223372036854775808 ≤ v) && decide (v ≤ 9223372036854775807) && base ≠ .hex2c
  | .flt dbl sfx l exact =>
    (!dbl || sfx) && (sfx || l.floatish) &&
    (match l with
     | .dec d => digsOK d.ip
     | .hex h => digsOK h.ip) &&
    (match exact with | some e => digsOK e.ip | none => true) &&
    -- a value (finite)
    (if dbl then decide ((match exact with | some e => e.bits f64 | none => l.bits f64) % f64.signBit < f64.infBits)
     else decide ((match exact with | some e => e.bits f32 | none => l.bits f32) % f32.signBit < f32.infBits))
  | .chr c esc => if esc then (asEscapedChar c true).isSome else (32 ≤ c && c ≤ 126 && c ≠ 39 && c ≠ 92)
  | .str _ parts => !parts.isEmpty && parts.all (fun p => p.all StrCh.ok)
  | .ident name => isIdentStart (hd name) && name.all isIdentChar && !reserved.contains name
  | .kw _ => true
  | .color v _ => decide (v < 4294967296)
  | .midi .. => true
  | .blob data => decide (data.length ≤ 2147483647)

/-! ### values of a sentence -/

inductive SVal where
  | val (t : Tok)
  | rep (n : Nat) (x : SVal)          -- nxA: A is a scalar or an array
  | range (b c : Tok)                 -- b ... c; "a" is the value to its left
  | arr (es : List SVal) (opn : Bool) -- [ … ], `opn`: "..." behind the last element

abbrev Sentence := List SVal

def sub (bl : List Nat → Blank) (k : Nat) : List Nat → Blank := fun p => bl (k :: p)

mutual
/-- the text of one value; `bl` supplies the blanks inside it -/
def SVal.text (bl : List Nat → Blank) : SVal → Bytes
  | .val t => t.text bl
  | .rep n x => fmtNat n ++ 120 :: x.text (sub bl 0)
  | .range b c => b.text (sub bl 0) ++ blankBytes (bl [1]) ++ [46, 46, 46] ++ blankBytes (bl [2]) ++ c.text (sub bl 3)
  | .arr es opn =>
    91 :: blankBytes (bl [0]) ++ elemsText bl 1 es ++
      (if opn then blankBytes (bl [2]) ++ [46, 46, 46] else []) ++ blankBytes (bl [4]) ++ [93]
/-- the elements of an array, separated by white space; element `k` uses the paths `2k+5 :: _`
    and is followed by the blank `[2k+6]` (first element: `k = 1`) -/
def elemsText (bl : List Nat → Blank) : Nat → List SVal → Bytes
  | _, [] => []
  | k, [x] => x.text (sub bl (2 * k + 5))
  | k, x :: y :: r => x.text (sub bl (2 * k + 5)) ++ blank1Bytes (bl [2 * k + 6]) ++ elemsText bl (k + 1) (y :: r)
end

/-- the type letter of a value: of a scalar its type, of `nxA` the type of `A`, of a range the
    type of its values, of an array 'a' -/
def SVal.ty : SVal → UInt8
  | .val t => t.cell.type
  | .rep _ x => x.ty
  | .range b _ => b.cell.type
  | .arr _ _ => Rtosc.ArgVal.tyA

/-- "elements of the same type" ('T' and 'F' count as one type) -/
def sameTy (a b : UInt8) : Bool := a == b || (a == 84 && b == 70) || (a == 70 && b == 84)

/-- all elements have the type of the first one -/
def sameTys : List SVal → Bool
  | [] => true
  | x :: r => r.all (fun e => sameTy x.ty e.ty)

mutual
/-- the side conditions on the spellings inside a value (`n` of `nxA` is positive, the elements
    of an array are of one type) -/
def SVal.wf : SVal → Bool
  | .val t => t.wf
  | .rep n x => decide (1 ≤ n) && x.wf
  | .range b c => b.wf && c.wf
  | .arr es _ => wfList es && sameTys es
def wfList : List SVal → Bool
  | [] => true
  | x :: r => x.wf && wfList r
end

/-- an unsuffixed octal spelling whose decimal reading is a different number: the trigger of
    known finding C11-K1 (`scanf_fmtstr` tries "%*d%n" first: "077" is read as 77) -/
def Tok.octalPlain : Tok → Bool
  | .int v .oct false => decide (8 ≤ v.natAbs)
  | _ => false

mutual
def SVal.hasOctalPlain : SVal → Bool
  | .val t => t.octalPlain
  | .rep _ x => x.hasOctalPlain
  | .range b c => b.octalPlain || c.octalPlain
  | .arr es _ => hasOctalPlainList es
def hasOctalPlainList : List SVal → Bool
  | [] => false
  | x :: r => x.hasOctalPlain || hasOctalPlainList r
end

/-- **trigger predicate of C11-K1** -/
def hasOctalPlain (s : List SVal) : Bool := hasOctalPlainList s

/-- the spelling ends in a numeric word (`scanf_fmtstr` computes its end) -/
def Tok.numWord : Tok → Bool
  | .int .. => true
  | .huge .. => true
  | .flt _ _ _ none => true
  | _ => false

/-- the text of the value ends in a numeric word -/
def SVal.endsNum : SVal → Bool
  | .val t => t.numWord
  | .rep _ x => x.endsNum
  | .range _ c => c.numWord
  | .arr _ _ => false

/-- a value (numbered from `i`) that ends in a numeric word is directly followed by a comment -/
def numPercentFrom (L : Layout) : Nat → List SVal → Bool
  | _, [] => false
  | _, [x] => x.endsNum && (startsComment L.trail || (L.trail.isEmpty && L.last.isSome))
  | i, x :: y :: r => (x.endsNum && startsComment (L.sep i)) || numPercentFrom L (i + 1) (y :: r)

/-- a numeric literal directly followed by '%' (`42%c`): the trigger of the finding C11-K2, which fix
    C11-08 repairs.  Without the fix `scanf_fmtstr` ends the numeric word at white space, ')' , ']' and
    "..." but not at the comment sign, so that no format matches the word and the text is rejected,
    although `true%c`, `"s"%c`, `'a'%c`, `[1]%c`, `abc%c`, `#12345678%c` are accepted; with it the word
    ends at '%' too (`numWordLen`).  The predicate serves to show that such layouts are covered
    (`num_comment_reads`, `exTightNum` in Props/C11.lean). -/
def hasNumPercent (s : List SVal) (L : Layout) : Bool := numPercentFrom L 0 s

/-- the values with the separators between them -/
def valuesText (L : Layout) : Nat → List SVal → Bytes
  | _, [] => []
  | i, [x] => x.text (sub L.blank i)
  | i, x :: y :: r => x.text (sub L.blank i) ++ sepBytes (L.sep i) ++ valuesText L (i + 1) (y :: r)

/-- **the text of a sentence under a layout** -/
def render (s : Sentence) (L : Layout) : Bytes :=
  gapsBytes L.lead ++ valuesText L 0 s ++ trailBytes L.trail L.last

/-! ### denotation -/

def isNumTy (c : Cell) : Bool :=
  match c with
  | .int .c _ => true | .int .i _ => true | .huge _ => true | .flt _ => true | .dbl _ => true
  | _ => false

/-- numeric equality of two cells of one numeric type -/
def numEq (a b : Cell) : Bool := Rtosc.ArgVal.cmpScalar a b == 0

/-- `b - a` in the arithmetic of the type, for integer types only when it stays inside the type -/
def stepOf (b a : Cell) : Option Cell :=
  match b, a with
  | .int .i x, .int .i y => if -2147483648 ≤ x - y ∧ x - y ≤ 2147483647 then some (.int .i (x - y)) else none
  | .int .c x, .int .c y => if -2147483648 ≤ x - y ∧ x - y ≤ 2147483647 then some (.int .c (x - y)) else none
  | .huge x, .huge y =>
    if -9223372036854775808 ≤ x - y ∧ x - y ≤ 9223372036854775807 then some (.huge (x - y)) else none
  | .flt x, .flt y => match fsub AF32 x.toNat y.toNat with | .ok r => some (.flt r.toUInt32) | _ => none
  | .dbl x, .dbl y => match fsub AF64 x.toNat y.toNat with | .ok r => some (.dbl r.toUInt64) | _ => none
  | _, _ => none

/-- `sgn(c - b)` as a value of the type -/
def unitStep (b c : Cell) : Option Cell :=
  let up : Bool := decide (Rtosc.ArgVal.cmpScalar c b > 0)
  match b with
  | .int .i _ => some (.int .i (if up then 1 else -1))
  | .int .c _ => some (.int .c (if up then 1 else -1))
  | .huge _ => some (.huge (if up then 1 else -1))
  | .flt _ => some (.flt (AF32.ofInt (if up then 1 else -1)).toUInt32)
  | .dbl _ => some (.dbl (AF64.ofInt (if up then 1 else -1)).toUInt64)
  | _ => none

/-- the natural n ≥ 1 with `b + n d = c` (floats: the nearest n, if `|b + n d - c| <= 0.001`) -/
def stepsOf (b c d : Cell) : Option Nat :=
  match b, c, d with
  | .int .i x, .int .i y, .int .i s =>
    if s ≠ 0 ∧ (y - x) % s = 0 ∧ 1 ≤ (y - x) / s ∧ (y - x) / s < 2147483647 then some ((y - x) / s).toNat else none
  | .int .c x, .int .c y, .int .c s =>
    if s ≠ 0 ∧ (y - x) % s = 0 ∧ 1 ≤ (y - x) / s ∧ (y - x) / s < 2147483647 then some ((y - x) / s).toNat else none
  | .huge x, .huge y, .huge s =>
    if s ≠ 0 ∧ (y - x) % s = 0 ∧ 1 ≤ (y - x) / s ∧ (y - x) / s < 2147483647 then some ((y - x) / s).toNat else none
  | .flt x, .flt y, .flt s =>
    match (do let w ← fsub AF32 y.toNat x.toNat
              let q ← fdiv AF32 w s.toNat
              let q1 ← liftF (AF32.add q (cHalf AF32))
              let n ← ftoInt AF32 q1
              let w2 ← liftF (AF32.mul (AF32.ofInt n) s.toNat)
              let ok ← feqTol AF32 w w2
              pure (n, ok) : Res (Int × Bool)) with
    | .ok (n, true) => if 1 ≤ n then some n.toNat else none
    | _ => none
  | .dbl x, .dbl y, .dbl s =>
    match (do let w ← fsub AF64 y.toNat x.toNat
              let q ← fdiv AF64 w s.toNat
              let q1 ← liftF (AF64.add q (cHalf AF64))
              let n ← ftoInt AF64 q1
              let w2 ← liftF (AF64.mul (AF64.ofInt n) s.toNat)
              let ok ← feqTol AF64 w w2
              pure (n, ok) : Res (Int × Bool)) with
    | .ok (n, true) => if 1 ≤ n then some n.toNat else none
    | _ => none
  | _, _, _ => none

/-- the step of a range whose left-hand side is `b`, given the value `a` to its left (if any) and
    its end `c` (if it has one): `b - a` when `a` has the type of `b` and differs from it,
    else `sgn(c - b)`; `none` in the second component: the range repeats `b` (open end only) -/
def rangeStep (prev : Option Cell) (b : Cell) (c : Option Cell) : Option (Option Cell) :=
  let usable : Bool := match prev with
    | some a => decide (a.type = b.type) && isNumTy b && !numEq a b
    | none => false
  if usable then
    match prev with
    | some a => (stepOf b a).map some
    | none => none
  else
    match c with
    | some c => (unitStep b c).map some
    | none => some none

/-- the last value of a finite integer range (the left neighbour of what follows it) -/
def rangeLast (n : Nat) (d s : Cell) : Option Cell :=
  match d, s with
  | .int .i x, .int .i y => some (.int .i (y + ((n - 1 : Nat) : Int) * x))
  | .int .c x, .int .c y => some (.int .c (y + ((n - 1 : Nat) : Int) * x))
  | .huge x, .huge y => some (.huge (y + ((n - 1 : Nat) : Int) * x))
  | _, _ => none

/-- the element type an array cell records: the type of its last element -/
def itemType : Item → UInt8
  | .val c => c.type
  | .arr .. => Rtosc.ArgVal.tyA
  | .rep _ (.val c) => c.type
  | .rep _ _ => Rtosc.ArgVal.tyA
  | .range _ _ s => s.type

/-- The manual calls the last value of `a b ... c` "c"; the code keeps (start, step, count) and
    computes it.  For 'f' / 'd' the two differ within the tolerance, so the manual does not say
    which one is the left neighbour "a" of a range of the same type that follows directly: such a
    text denotes nothing here.  (`b`: left-hand side of the float range, `r`: what follows it) -/
def floatRangeBlocks (opn : Bool) (b : Cell) (r : List SVal) : Bool :=
  (match b with | .flt _ => true | .dbl _ => true | _ => false) &&
  (match r with
   | .range b' _ :: _ => b'.cell.type == b.type
   | [.val t] => opn && t.cell.type == b.type
   | _ => false)

/-- the element type of an array with these elements: the type of the last one, `' '` for none -/
def lastItemTy (its : List Item) : UInt8 :=
  match its.getLast? with
  | some x => itemType x
  | none => 32

mutual
/-- one value that is not a range: the item and the left neighbour it provides -/
def SVal.denote1 : SVal → Option (Item × Option Cell)
  | .val t => some (.val t.cell, some t.cell)
  | .rep n (.val t) => if 1 ≤ n ∧ n ≤ 2147483647 then some (.rep n (.val t.cell), some t.cell) else none
  | .rep n (.arr es opn) =>
    if 1 ≤ n ∧ n ≤ 2147483647 then
      match denoteElems opn none es with
      | some its => some (.rep n (.arr (lastItemTy its) its), none)
      | none => none
    else none
  | .rep _ _ => none                                  -- no ranges of ranges
  | .range _ _ => none                                -- handled by `denoteElems`
  | .arr es opn =>
    match denoteElems opn none es with
    | some its => some (.arr (lastItemTy its) its, none)
    | none => none
/-- the values of a sentence / the elements of an array, left to right; `prev`: the value to
    the left; `opn`: "..." follows the last one -/
def denoteElems (opn : Bool) (prev : Option Cell) : List SVal → Option (List Item)
  | [] => if opn then none else some []
  | x :: r =>
    match x with
    | .range b c =>
      if r.isEmpty ∧ opn then none
      else if floatRangeBlocks opn b.cell r then none
      else if isNumTy b.cell ∧ b.cell.type = c.cell.type ∧ !numEq b.cell c.cell then
        match rangeStep prev b.cell (some c.cell) with
        | some (some d) =>
          match stepsOf b.cell c.cell d with
          | some n =>
            match denoteElems opn (rangeLast (n + 1) d b.cell) r with
            | some its => some (.range (n + 1) d b.cell :: its)
            | none => none
          | none => none
        | _ => none
      else none
    | _ =>
      match SVal.denote1 x with
      | none => none
      | some (it, p) =>
        if r.isEmpty ∧ opn then
          -- x ... ] : counts from x with the step x - a, or repeats x
          match x with
          | .val t =>
            match rangeStep prev t.cell none with
            | some (some d) => some [.range 0 d t.cell]
            | some none => some [.rep 0 it]
            | none => none
          | .arr .. => some [.rep 0 it]
          | _ => none
        else
          match denoteElems opn p r with
          | some its => some (it :: its)
          | none => none
end

/-- the side conditions on all spellings of a sentence -/
def Sentence.wf (s : Sentence) : Bool := wfList s

/-- **what a sentence denotes** (structured) -/
def denote (s : Sentence) : Option (List Item) := denoteElems false none s

/-- **the cells the scanner has to write for a sentence** -/
def cells (s : Sentence) : Option (List Cell) := (denote s).map flatList

end Rtosc.Pretty.C11
