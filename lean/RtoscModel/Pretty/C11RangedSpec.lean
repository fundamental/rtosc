/-
  C11 — the widest class of sentences for which the clauses of the property are proved: ranges `b ... c` of
  decimal 'i' integers at top level and inside arrays of any depth.  The vocabulary of `Ranged` and of the
  statements about it in `Props/C11.lean` (`reads_ranged`, `scan_denotes_ranges_partial`, …) and of the
  obligations in `Proofs/ScanRangeArrSpec.lean`; it continues `Pretty/C11ProvedSpec.lean`, whose classes are the
  parts of this one without ranges (in arrays).  Definitions only; nothing here mentions the code.

  * what a value hands to the value to its right (`SVal.next`);
  * the class: `SVal.rproved` for a value, `rangedElemsG` for the elements of an array or the values of a sentence
    (`rangedFromA`);
  * the cells (`rcellsV`, `rcellsE`; one value in its context: `argCells`) and items (`ritem`, `ritemsE`);
  * elements and sentences as lists of (text, cells) pairs (`elemArgsR`, `rArgsA`): what `ArrR` and `LayR` of
    `Proofs/Scan*.lean` are stated over.
  In the names, `V`: of one value, `E`: of a list of values (elements of an array or values of a sentence), `G`: for
  any numbering `ix` of the blanks, `R`: elements with ranges, `A`: sentences whose arrays may hold ranges.
  No Mathlib import.
-/
import RtoscModel.Pretty.C11ProvedSpec
namespace Rtosc.Pretty.C11
open Rtosc Rtosc.Libc Rtosc.Pretty
open Rtosc.ArgVal (Cell Item flatList)

/-! ### the class -/

/-- what a value hands to the value to its right: a range its right end, everything else `SVal.offer` -/
def SVal.next (v : SVal) : Option (Option Int) :=
  match v.iRange with
  | some (_, z) => some (some z)
  | none => v.offer

mutual
/-- values with proved agreement, arrays with ranges included.  `bl`: the blanks inside the value -/
def SVal.rproved (bl : List Nat → Blank) : SVal → Prop
  | .val t => t.wf = true ∧ t.proved bl = true
  | .rep n x => 1 ≤ n ∧ n ≤ 2147483647 ∧ x.repeatable ∧ x.rproved (sub bl 0)
  | .range _ _ => False
  | .arr es opn => opn = false ∧ sameTys es = true ∧ rangedElemsG (fun k => 2 * k + 5) bl 1 (some none) es
/-- the values of a sentence (`ix = id`, numbered from `k`) or the elements of an array
    (`ix k = 2k+5`, like `elemsText`): each is a value with proved agreement, or a range `b ... c` of
    two decimal 'i' integers with `RangeOK`, at least one white-space character in front of the dots,
    and a provider or nothing to its left (`o`: what the value to the left offers) -/
def rangedElemsG (ix : Nat → Nat) (bl : List Nat → Blank) : Nat → Option (Option Int) → List SVal → Prop
  | _, _, [] => True
  | k, o, v :: r =>
    (match v.iRange with
     | some (x, z) => (∃ nb, o = some nb ∧ RangeOK nb x z) ∧ bl [ix k, 1] ≠ []
     | none => v.rproved (sub bl (ix k))) ∧
    rangedElemsG ix bl (k + 1) v.next r
end

/-- all values of the sentence (numbered from `i`) have proved agreement in the wider sense or are
    decimal 'i' ranges with `RangeOK`, white space in front of the dots and a provider (or nothing) to
    their left -/
def rangedFromA (L : Layout) (i : Nat) (o : Option (Option Int)) (s : Sentence) : Prop :=
  rangedElemsG (fun i => i) L.blank i o s

/-! ### cells and items -/

mutual
/-- the cells such a value denotes (a range is no such value — `SVal.rproved` excludes it, `rcellsE` gives
    the cells of a range from its left context —, its line here is a filler) -/
def SVal.rcellsV : SVal → List Cell
  | .val t => [t.cell]
  | .rep n x => Cell.rep n 0 :: x.rcellsV
  | .range _ _ => [Cell.flag .N]
  | .arr es _ => Cell.arr (lastElemTy es) (rcellsE (some none) es).length :: rcellsE (some none) es
/-- the cells of the values of a sentence / the elements of an array -/
def rcellsE : Option (Option Int) → List SVal → List Cell
  | _, [] => []
  | o, v :: r =>
    (match v.iRange with
     | some (x, z) => rangeCellsNb (o.getD none) x z
     | none => v.rcellsV) ++ rcellsE v.next r
end

/-- the cells of one value of the list in its context -/
def argCells (o : Option (Option Int)) (v : SVal) : List Cell :=
  match v.iRange with
  | some (x, z) => rangeCellsNb (o.getD none) x z
  | none => v.rcellsV

mutual
/-- the structured value such a value denotes (the line of a range is a filler: `ritemsE` gives the item
    of a range) -/
def SVal.ritem : SVal → Item
  | .val t => .val t.cell
  | .rep n x => .rep n x.ritem
  | .range _ _ => .val (Cell.flag .N)
  | .arr es _ => .arr (lastElemTy es) (ritemsE (some none) es)
def ritemsE : Option (Option Int) → List SVal → List Item
  | _, [] => []
  | o, v :: r =>
    (match v.iRange with
     | some (x, z) => Item.range (((z - x) / rangeStepI (o.getD none) x z).toNat + 1)
         (Cell.int .i (rangeStepI (o.getD none) x z)) (Cell.int .i x)
     | none => v.ritem) :: ritemsE v.next r
end

/-! ### lists of (text, cells) pairs -/

/-- the elements of an array with ranges as a list of (text, cells) pairs, like `elemArgs` -/
def elemArgsR (bl : List Nat → Blank) : Nat → Option (Option Int) → List SVal → List (Bytes × List Cell)
  | _, _, [] => []
  | k, o, v :: r => (v.text (sub bl (2 * k + 5)), argCells o v) :: elemArgsR bl (k + 1) v.next r

/-- a sentence with ranges, also inside its arrays, as a list of (text, cells) pairs, like `rArgs` -/
def rArgsA (L : Layout) : Nat → Option (Option Int) → Sentence → List (Bytes × List Cell)
  | _, _, [] => []
  | i, o, v :: r => (v.text (sub L.blank i), argCells o v) :: rArgsA L (i + 1) v.next r

end Rtosc.Pretty.C11
