/-
  C11 — the classes of sentences for which the clauses of the property are proved, and what the specification
  assigns to them: the vocabulary of the statements of `Props/C11.lean` about `Plain` and `Proved` sentences and
  about a leading range (`reads_plain`, `reads_proved`, `range_first_partial`, …) and of the obligations in
  `Proofs/Scan*.lean` that lead to them (`cells_proved`, `valOK_tok`, …).  The widest class (`Ranged`) continues in
  `Pretty/C11RangedSpec.lean`.  Definitions only, over the specification `Pretty/C11Spec.lean`; nothing here
  mentions the code.

  * the spellings with proved agreement (`Tok.proved`) and the sentences built from them: scalars only
    (`plainFrom`), with `nxA` and arrays (`SVal.proved`, `provedElems`, `provedFrom`);
  * the cells and items these denote (`valCells`; `pcells`, `pcellsList` = `pCells`; `pitem`, `pitemsList`);
  * ranges `b ... c` of decimal 'i' integers: the step a left neighbour determines (`rangeStepI`), the side
    conditions (`RangeOK`), the cells (`rangeCellsNb`; without left neighbour `rangeCells`), what a value offers
    to a range behind it (`SVal.offer`), and the sentences with such ranges at top level (`rangedFrom`, `rcells`);
  * a sentence as the list of its values, each with its text and its cells (`valArgs`, `rArgs`; elements of
    an array: `elemArgs`): what the layouts of `Proofs/Scan*.lean` (`ArgsLay`, `LayR`, `ArrBody`) are stated over.
  No Mathlib import.
-/
import RtoscModel.Pretty.C11Spec
namespace Rtosc.Pretty.C11
open Rtosc Rtosc.Libc Rtosc.Pretty
open Rtosc.ArgVal (Cell Item flatList)

/-! ### the spellings with proved agreement, and the sentences built from them -/

/-- the spellings for which scanner / checker agreement is proved (all values of the type;
    `bl`: the blanks the layout puts inside the value) -/
def Tok.proved (bl : List Nat → Blank) : Tok → Bool
  | .int _ .dec _ => true                           -- 42  -42  42i
  | .int _ .hex false => true                       -- 0x2a  -0x2a
  | .int _ .hexUp false => true                     -- 0x2A
  | .int _ .hex2c false => true                     -- 0xffffffd6 (two's complement of -42)
  | .huge _ .dec => true                            -- 42h
  | .chr _ _ => true                                -- 'x'  '\n'  '\''  '\\'  '\0'
  | .str _ _ => true                                -- "…" with every escape sequence, "…"S, and any
                                                    --   concatenation "…"\ "…" with any white space
  | .ident _ => true                                -- identifiers
  | .kw _ => true                                   -- true false nil inf now immediately
  | .color _ false => true                          -- #8badf00d
  | .midi _ _ _ _ true =>                           -- MIDI [0x01 0x02 0x03 0x04]
    bl [0] == [Ws.sp] && bl [1] == [] && bl [2] == [] && bl [3] == [] && bl [4] == [] && bl [5] == []
  | .blob _ => bl [0] == [Ws.sp] && bl [1] == [] && bl [2] == []   -- BLOB [n 0x.. …], any white space between the bytes
  | _ => false

/-- all values of the sentence (numbered from `i`) are scalars with proved spellings -/
def plainFrom (L : Layout) : Nat → Sentence → Prop
  | _, [] => True
  | i, x :: r => (∃ t, x = SVal.val t ∧ t.wf = true ∧ t.proved (sub L.blank i) = true) ∧ plainFrom L (i + 1) r

/-- `A` of `nxA`: a scalar or an array -/
def SVal.repeatable : SVal → Prop
  | .val _ => True
  | .arr _ _ => True
  | _ => False

mutual
/-- values with proved agreement: a scalar in a proved spelling; `nxA` (1 ≤ n ≤ 2³¹-1) of a
    scalar or array with proved agreement; an array (without open end) of elements of one type
    with proved agreement.  `bl`: the blanks the layout puts inside the value. -/
def SVal.proved (bl : List Nat → Blank) : SVal → Prop
  | .val t => t.wf = true ∧ t.proved bl = true
  | .rep n x => 1 ≤ n ∧ n ≤ 2147483647 ∧ x.repeatable ∧ x.proved (sub bl 0)
  | .range _ _ => False
  | .arr es opn => opn = false ∧ sameTys es = true ∧ provedElems bl 1 es
/-- the elements of an array, numbered like `elemsText` -/
def provedElems (bl : List Nat → Blank) : Nat → List SVal → Prop
  | _, [] => True
  | k, x :: r => x.proved (sub bl (2 * k + 5)) ∧ provedElems bl (k + 1) r
end

/-- all values of the sentence (numbered from `i`) have proved agreement -/
def provedFrom (L : Layout) : Nat → Sentence → Prop
  | _, [] => True
  | i, x :: r => x.proved (sub L.blank i) ∧ provedFrom L (i + 1) r

/-! ### the cells and items they denote -/

/-- the cells of a sentence of scalars: one cell per value -/
def valCells : Sentence → List Cell
  | [] => []
  | .val t :: r => t.cell :: valCells r
  | _ :: r => valCells r

/-- the element type an array header records: the type of the last element, `' '` for none -/
def lastElemTy : List SVal → UInt8
  | [] => 32
  | [x] => x.ty
  | _ :: y :: r => lastElemTy (y :: r)

mutual
/-- the cells such a value denotes (a range is no such value — `SVal.proved` excludes it —, its line is
    a filler) -/
def SVal.pcells : SVal → List Cell
  | .val t => [t.cell]
  | .rep n x => Cell.rep n 0 :: x.pcells
  | .range _ _ => [Cell.flag .N]
  | .arr es _ => Cell.arr (lastElemTy es) (pcellsList es).length :: pcellsList es
def pcellsList : List SVal → List Cell
  | [] => []
  | x :: r => x.pcells ++ pcellsList r
end

mutual
/-- the structured value it denotes (the line of a range is a filler, as in `SVal.pcells`) -/
def SVal.pitem : SVal → Item
  | .val t => .val t.cell
  | .rep n x => .rep n x.pitem
  | .range _ _ => .val (Cell.flag .N)
  | .arr es _ => .arr (lastElemTy es) (pitemsList es)
def pitemsList : List SVal → List Item
  | [] => []
  | x :: r => x.pitem :: pitemsList r
end

/-- the cells of a sentence of values with proved agreement -/
def pCells (s : Sentence) : List Cell := pcellsList s

/-! ### ranges `b ... c` of decimal 'i' integers at top level -/

/-- the 'i' integer a scalar cell offers to a range to its right -/
def nbInt (c : Cell) : Option Int :=
  match c with
  | .int .i p => some p
  | _ => none

/-- the step of `b ... c` (b = `x`, c = `z`) whose left neighbour offers `nb` -/
def rangeStepI (nb : Option Int) (x z : Int) : Int :=
  match nb with
  | some p => if p = x then (if x < z then 1 else -1) else x - p
  | none => if x < z then 1 else -1

/-- the side conditions on a range of 'i' integers: both ends and the step are `int32_t`, the end
    is reached in 1 … 2³¹-2 steps, and the width `c - b` lies in -(2³¹-1) … 2³¹-1: `delta_from_arg_vals` computes
    it in `int` and divides it by the step, which may be -1, so `INT_MIN` is excluded too -/
structure RangeOK (nb : Option Int) (x z : Int) : Prop where
  hx1 : -2147483648 ≤ x
  hx2 : x ≤ 2147483647
  hz1 : -2147483648 ≤ z
  hz2 : z ≤ 2147483647
  hd1 : -2147483648 ≤ rangeStepI nb x z
  hd2 : rangeStepI nb x z ≤ 2147483647
  hmod : (z - x) % rangeStepI nb x z = 0
  hq1 : 1 ≤ (z - x) / rangeStepI nb x z
  hq2 : (z - x) / rangeStepI nb x z < 2147483647
  hw1 : -2147483647 ≤ z - x
  hw2 : z - x ≤ 2147483647

/-- the cells of the range: count, step, start -/
def rangeCellsNb (nb : Option Int) (x z : Int) : List Cell :=
  [Cell.rep ((((z - x) / rangeStepI nb x z).toNat + 1 : Nat) : Int) 1, Cell.int .i (rangeStepI nb x z), Cell.int .i x]

/-- the cells of `b ... c` without a left neighbour: `|c - b| + 1` values from `b` in steps of ±1 -/
def rangeCells (x z : Int) : List Cell :=
  [Cell.rep (((z - x).natAbs : Int) + 1) 1, Cell.int .i (if x < z then 1 else -1), Cell.int .i x]

/-- a sentence that starts with the range `b ... c` of two different decimal 'i' integers -/
def rangeFirst (x z : Int) (s' : Sentence) : Sentence :=
  .range (.int x .dec false) (.int z .dec false) :: s'

/-- the range `b ... c` of two 'i' integers in plain decimal spelling -/
def SVal.iRange : SVal → Option (Int × Int)
  | .range (.int x .dec false) (.int z .dec false) => some (x, z)
  | _ => none

/-- what a value (not a range) offers to a range to its right: a scalar or a repeated scalar offers
    its 'i' integer, if it is one; an array or a repeated array offers nothing (the range behind it
    counts in steps of ±1); `none`: no range may follow in the proved class -/
def SVal.offer : SVal → Option (Option Int)
  | .val t => some (nbInt t.cell)
  | .rep _ (.val t) => some (nbInt t.cell)
  | .arr _ _ => some none
  | .rep _ (.arr _ _) => some none
  | _ => none

/-- the value to the left in the sense of the specification (`SVal.denote1`) -/
def SVal.leftCell : SVal → Option Cell
  | .val t => some t.cell
  | .rep _ (.val t) => some t.cell
  | _ => none

/-- all values of the sentence (numbered from `i`) have proved agreement or are decimal 'i' ranges
    with `RangeOK`, at least one white-space character in front of the dots, and a provider (or
    nothing) to their left; `o`: what the value to the left offers (`none`: not a provider) -/
def rangedFrom (L : Layout) : Nat → Option (Option Int) → Sentence → Prop
  | _, _, [] => True
  | i, o, v :: r =>
    match v.iRange with
    | some (x, z) => (∃ nb, o = some nb ∧ RangeOK nb x z) ∧ L.blank [i, 1] ≠ [] ∧ rangedFrom L (i + 1) (some (some z)) r
    | none => v.proved (sub L.blank i) ∧ rangedFrom L (i + 1) v.offer r

/-- the cells of such a sentence: a range gives count, step and start (`rangeCellsNb`), the step taken from
    what the value to its left offers -/
def rcells : Option (Option Int) → Sentence → List Cell
  | _, [] => []
  | o, v :: r =>
    match v.iRange with
    | some (x, z) => rangeCellsNb (o.getD none) x z ++ rcells (some (some z)) r
    | none => v.pcells ++ rcells v.offer r

/-! ### a sentence as the list of its values, each with its text under the layout and its cells -/

/-- a sentence of scalars as the list of its values, each with its text under the layout and its cells -/
def valArgs (L : Layout) : Nat → Sentence → List (Bytes × List Cell)
  | _, [] => []
  | i, .val t :: r => (t.text (sub L.blank i), [t.cell]) :: valArgs L (i + 1) r
  | i, _ :: r => valArgs L (i + 1) r

/-- the elements of an array of values with proved agreement as such a list (numbered like `elemsText`) -/
def elemArgs (bl : List Nat → Blank) : Nat → List SVal → List (Bytes × List Cell)
  | _, [] => []
  | k, x :: r => (x.text (sub bl (2 * k + 5)), x.pcells) :: elemArgs bl (k + 1) r

/-- a sentence with ranges at top level as such a list -/
def rArgs (L : Layout) : Nat → Option (Option Int) → Sentence → List (Bytes × List Cell)
  | _, _, [] => []
  | i, o, v :: r =>
    match v.iRange with
    | some (x, z) => (v.text (sub L.blank i), rangeCellsNb (o.getD none) x z) :: rArgs L (i + 1) (some (some z)) r
    | none => (v.text (sub L.blank i), v.pcells) :: rArgs L (i + 1) v.offer r

end Rtosc.Pretty.C11
