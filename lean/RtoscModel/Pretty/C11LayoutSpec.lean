/-
  C11 — the interface between the proofs about single values and the proofs about the loops: what it means that
  the model of the code (`Pretty/C11Model.lean`) reads a text as one argument (`Arg11`), what a value offers to a
  range behind it (`Prov`), and the shapes of text over which the obligations in `Proofs/Scan*.lean` are stated —
  a list of arguments with gaps (`ArgsLay`; with ranges: `LayR` in a left context `Ctx`), the body of an array
  (`ArrBody`; with ranges: `ArrR`), what follows a leading range (`Follow`) — with the texts of `nxA`, `[…]` and
  `b ... c` (`repText`, `arrText`, `rangeTok`), the element types of an array (`elemTy`, `lastTy`, `skipTy`,
  `TypesOK`, `ElemTypesOK`) and the states of the two list loops (`SInv`, `CInv`, `CInvF`).  The property theorems of
  `Props/C11.lean` do not mention these; the list theorems (`countPrintedArgVals_lay`, `scanArgVals_layR`, …), the
  per-construct theorems (`Arg11.rep`, `arg11_array`, `Prov.scanRange`, …) and the theorems from the specification
  to these shapes (`layR_rangedA`, …) do.  Definitions only, over the model, `Pretty/TokSpec.lean` (`TokStart`,
  `Sep`, `ValOK`) and `Pretty/C11ProvedSpec.lean` (`RangeOK`, `rangeCellsNb`).
  No Mathlib import.
-/
import RtoscModel.Pretty.C11Model
import RtoscModel.Pretty.TokSpec
import RtoscModel.Pretty.C11ProvedSpec
namespace Rtosc.Pretty.C11
open Rtosc Rtosc.Libc Rtosc.Pretty
open Rtosc.ArgVal (Cell Item flatList)

/-! ### one argument -/

/-- the element type the array scanner records for an element with the cells `cells`
    (`arrtype = arg->type; if(arrtype == '-') arrtype = has_delta ? arg[2].type : arg[1].type`) -/
def elemTy (cells : List Cell) : Res UInt8 := do
  let c0 ← deref cells
  match c0 with
  | .rep _ hdl => (do let c ← deref (cells.drop (if hdl ≠ 0 then 2 else 1)); pure c.type)
  | c => pure c.type

/-- the C11 model reads the text `t` as the cells `cs` of one argument.  The recursion bound only
    has to cover the nesting depth, which never exceeds the length of the text. -/
structure Arg11 (t : Bytes) (cs : List Cell) : Prop where
  start : TokStart t
  ne : cs ≠ []
  /-- `next_arg_offset` at the first cell: all cells -/
  off : nextArgOffset (cs.length + 1) cs = .ok cs.length
  /-- `can_precede_range` is defined on the cells -/
  cpr : ∃ b, canPrecedeRange cs = .ok b
  /-- so is the element type an enclosing array records -/
  ety : ∃ ty, elemTy cs = .ok ty
  scan : ∀ (rest : Bytes) (fuel : Nat) (prev : List Cell) (ab : Nat) (fe : Bool), Sep rest → t.length ≤ fuel →
    C11.scanArgVal (fuel + 1) (t ++ rest) prev ab fe = .ok (t.length, cs)
  skip : ∀ (rest : Bytes) (fuel : Nat) (ty : UInt8) (llhs : Option Bytes) (fe ib : Bool), Sep rest → t.length ≤ fuel →
    ∃ r, C11.skipNextPrintedArg (fuel + 1) (t ++ rest) ty llhs fe ib = .ok r ∧
      r.src = some rest ∧ r.skipped = cs.length ∧ r.type = (cs.headD (Cell.flag .N)).type

/-! ### a list of arguments with gaps -/

/-- a run of gaps that separates two values: it starts with white space -/
def SepGaps (g : List Gap) : Prop := ∃ w r, g = Gap.ws w :: r

/-- what may stand behind the last value -/
inductive Tail : Bytes → Prop
  | none : Tail []
  | gaps (g : List Gap) : SepGaps g → Tail (gapsBytes g)
  | last (g : List Gap) (b : Bytes) : SepGaps g → Tail (gapsBytes g ++ 37 :: commentBody b)

/-- `text` consists of good arguments, separated by separating runs of gaps, with a tail -/
inductive ArgsLay : List (Bytes × List Cell) → Bytes → Prop
  | one (t : Bytes) (cs : List Cell) (tail : Bytes) : Arg11 t cs → Tail tail → ArgsLay [(t, cs)] (t ++ tail)
  | cons (t : Bytes) (cs : List Cell) (g : List Gap) (more : List (Bytes × List Cell)) (text : Bytes) :
      Arg11 t cs → SepGaps g → ArgsLay more text → ArgsLay ((t, cs) :: more) (t ++ (gapsBytes g ++ text))

/-- the cells of a list of (text, cells) pairs -/
def allCells (tcs : List (Bytes × List Cell)) : List Cell := (tcs.map (·.2)).flatten

/-! ### the body of an array -/

/-- white space only -/
def AllWs (w : Bytes) : Prop := ∀ c ∈ w, isspace c = true

/-- the elements of an array with the white space behind each of them.  (C10's `Pretty.ArrBody`,
    Proofs/PrettyTokArray.lean, is narrower: scalar tokens, separated as the printer separates them.) -/
inductive ArrBody : List (Bytes × List Cell) → Bytes → Prop
  | nil : ArrBody [] []
  | last (t : Bytes) (cs : List Cell) (w : Bytes) : Arg11 t cs → AllWs w → ArrBody [(t, cs)] (t ++ w)
  | cons (t : Bytes) (cs : List Cell) (w : Bytes) (more : List (Bytes × List Cell)) (body : Bytes) :
      Arg11 t cs → AllWs w → w ≠ [] → more ≠ [] → ArrBody more body → ArrBody ((t, cs) :: more) (t ++ (w ++ body))

/-- the element type recorded for the array: that of the last element (`' '` if it has none); `ty`, the
    type the loop starts with, is the answer for the empty list only (`lastTy_ne`).  (C10's `Pretty.lastTy cs d`,
    Pretty/RunsSpec.lean, takes a list of scalar cells first and the start type second.) -/
def lastTy : UInt8 → List (Bytes × List Cell) → UInt8
  | ty, [] => ty
  | _, [(_, cs)] => match elemTy cs with | .ok t => t | .error _ => 32
  | ty, _ :: r => lastTy ty r

/-- the type the checker reports for an argument -/
def skipTy (cs : List Cell) : UInt8 := (cs.headD (Cell.flag .N)).type

/-- the checker accepts every element behind one of the type `aty` -/
def TypesOK (aty : UInt8) (tcs : List (Bytes × List Cell)) : Prop := ∀ p ∈ tcs, arraytypesMatch aty (skipTy p.2) = true

/-- the types of all elements match the type of the first one -/
def ElemTypesOK : List (Bytes × List Cell) → Prop
  | [] => True
  | p :: more => TypesOK (skipTy p.2) more

/-- the text of an array: `[`, white space `b0`, the elements with the white space behind them, `]` -/
def arrText (b0 body : Bytes) : Bytes := 91 :: (b0 ++ (body ++ [93]))

/-! ### the texts of `nxA` and `b ... c`, and what follows a leading range -/

/-- the text of `nxA` -/
def repText (n : Nat) (t : Bytes) : Bytes := fmtDec (n : Int) ++ 120 :: t

/-- the text behind the left-hand side of a range: white space `w1`, the dots, white space `w2`,
    the right-hand side `Z` and what follows -/
def rangeRest (w1 w2 Z rest : Bytes) : Bytes := w1 ++ (46 :: 46 :: 46 :: (w2 ++ (Z ++ rest)))

/-- the text of `b ... c` -/
def rangeTok (x z : Int) (w1 w2 : Bytes) : Bytes := fmtDec x ++ rangeRest w1 w2 (fmtDec z) []

/-- what follows the first argument: a tail, or separating gaps and a text of good arguments -/
inductive Follow : List (Bytes × List Cell) → Bytes → Prop
  | tail (tail : Bytes) : Tail tail → Follow [] tail
  | more (g : List Gap) (tcs : List (Bytes × List Cell)) (text : Bytes) : SepGaps g → ArgsLay tcs text →
      Follow tcs (gapsBytes g ++ text)

/-! ### the left neighbour of a range -/

/-- "is llhs useless?" for the left neighbour `c` of the 'i' value `x` -/
def uselessI (c : Cell) (x : Int) : Bool :=
  match c with
  | .int .i p => decide (p = x)
  | _ => true

/-- a scalar cell as left neighbour of a range of 'i' integers: an 'i' integer, or of a type that does not match 'i' -/
def NbCell (c : Cell) : Prop := c.isScalar = true ∧ ((∃ p, c = Cell.int .i p) ∨ typesMatch c.type 105 = false)

/-- none of the last two cells is the header of a range with a delta (so the scanner's test
    `arg[-3]` looks at the header of the value written last, or at no header) -/
def TailOK (done : List Cell) : Prop :=
  ∀ k, k < 2 → ∀ n h, done.reverse[k]? = some (Cell.rep n h) → h = 0

/-- no header of a range with a delta among the cells -/
def NoDelta (cs : List Cell) : Prop := ∀ n h, Cell.rep n h ∈ cs → h = 0

/-- appending the cells keeps `TailOK` -/
def TailKeep (cs : List Cell) : Prop := ∀ done, TailOK done → TailOK (done ++ cs)

/-- the argument `t` with the cells `cs` offers `nb` to a range that follows it: a scalar value or a
    repetition of a scalar value offers the value if it is an 'i' integer; a range of 'i' integers
    offers its right end; an array or a repeated array offers nothing (fix C11-04: the last element
    inside the array is not the left neighbour) -/
inductive Prov : Bytes → List Cell → Option Int → Prop
  | scalar (t : Bytes) (c0 : Cell) : ValOK t c0 → Prov t [c0] (nbInt c0)
  | rep (n : Nat) (t : Bytes) (c0 : Cell) : 1 ≤ n → n ≤ 2147483647 → ValOK t c0 →
      Prov (repText n t) [Cell.rep n 0, c0] (nbInt c0)
  | range (nb : Option Int) (p q : Int) (w1 w2 : Bytes) : RangeOK nb p q → AllWs w1 → w1 ≠ [] → AllWs w2 →
      Prov (rangeTok p q w1 w2) (rangeCellsNb nb p q) (some q)
  | arr (t : Bytes) (ty : UInt8) (len : Int) (more : List Cell) : Arg11 t (Cell.arr ty len :: more) → hd t = 91 →
      Prov t (Cell.arr ty len :: more) none
  | repArr (n : Nat) (t : Bytes) (ty : UInt8) (len : Int) (more : List Cell) : 1 ≤ n → n ≤ 2147483647 →
      Arg11 t (Cell.arr ty len :: more) → hd t = 91 → Prov (repText n t) (Cell.rep n 0 :: Cell.arr ty len :: more) none

/-! ### lists and array bodies with ranges, in their left context -/

/-- what stands to the left of the first argument of a text -/
inductive Ctx where
  | first                                                         -- nothing
  | any                                                           -- something unknown (no range may follow)
  | after (tp : Bytes) (g : List Gap) (csp : List Cell) (nb : Option Int)   -- a provider and the gaps behind it

/-- the 'i' integer the left context offers -/
def Ctx.nb : Ctx → Option Int
  | .after _ _ _ nb => nb
  | _ => none

/-- `text` consists of good arguments and ranges of 'i' integers, separated by separating runs of
    gaps, with a tail; a range stands first or behind a provider (`Prov`) -/
inductive LayR : Ctx → List (Bytes × List Cell) → Bytes → Prop
  | oneA (ctx : Ctx) (t : Bytes) (cs : List Cell) (tail : Bytes) : Arg11 t cs → Tail tail → LayR ctx [(t, cs)] (t ++ tail)
  | oneR (ctx : Ctx) (x z : Int) (w1 w2 tail : Bytes) : ctx ≠ .any → RangeOK ctx.nb x z → AllWs w1 → w1 ≠ [] → AllWs w2 →
      Tail tail → LayR ctx [(rangeTok x z w1 w2, rangeCellsNb ctx.nb x z)] (rangeTok x z w1 w2 ++ tail)
  | consA (ctx : Ctx) (t : Bytes) (cs : List Cell) (g : List Gap) (more : List (Bytes × List Cell)) (text : Bytes) :
      Arg11 t cs → TailKeep cs → SepGaps g → LayR .any more text → LayR ctx ((t, cs) :: more) (t ++ (gapsBytes g ++ text))
  | consP (ctx : Ctx) (t : Bytes) (cs : List Cell) (nb : Option Int) (g : List Gap) (more : List (Bytes × List Cell))
      (text : Bytes) : Arg11 t cs → TailKeep cs → Prov t cs nb → SepGaps g → LayR (.after t g cs nb) more text →
      LayR ctx ((t, cs) :: more) (t ++ (gapsBytes g ++ text))
  | consR (ctx : Ctx) (x z : Int) (w1 w2 : Bytes) (g : List Gap) (more : List (Bytes × List Cell)) (text : Bytes) :
      ctx ≠ .any → RangeOK ctx.nb x z → AllWs w1 → w1 ≠ [] → AllWs w2 → SepGaps g →
      LayR (.after (rangeTok x z w1 w2) g (rangeCellsNb ctx.nb x z) (some z)) more text →
      LayR ctx ((rangeTok x z w1 w2, rangeCellsNb ctx.nb x z) :: more) (rangeTok x z w1 w2 ++ (gapsBytes g ++ text))

/-- the state of the scanner's loop in front of a text with the left context `ctx` -/
def SInv (ctx : Ctx) (done : List Cell) (pok : Bool) : Prop :=
  TailOK done ∧
  match ctx with
  | .first => done = []
  | .any => True
  | .after tp _ csp nb => Prov tp csp nb ∧ ∃ done0, done = done0 ++ csp ∧ TailOK done0 ∧ canPrecedeRange csp = .ok pok

/-- the state of the checker's loop -/
def CInv (ctx : Ctx) (recent : Option Bytes) (text : Bytes) : Prop :=
  match ctx with
  | .first => recent = none
  | .any => True
  | .after tp g csp nb => Prov tp csp nb ∧ SepGaps g ∧ recent = some (tp ++ (gapsBytes g ++ text))

/-- a non-empty run of white space without comments, as it stands between the elements of an array -/
def WsGaps (g : List Gap) : Prop := g ≠ [] ∧ ∀ x ∈ g, ∃ w, x = Gap.ws w

/-- the elements of a non-empty array with the white space behind each of them; a range stands first
    or behind a provider -/
inductive ArrR : Ctx → List (Bytes × List Cell) → Bytes → Prop
  | lastA (ctx : Ctx) (t : Bytes) (cs : List Cell) (w : Bytes) : Arg11 t cs → AllWs w → ArrR ctx [(t, cs)] (t ++ w)
  | lastR (ctx : Ctx) (x z : Int) (w1 w2 w : Bytes) : ctx ≠ .any → RangeOK ctx.nb x z → AllWs w1 → w1 ≠ [] → AllWs w2 →
      AllWs w → ArrR ctx [(rangeTok x z w1 w2, rangeCellsNb ctx.nb x z)] (rangeTok x z w1 w2 ++ w)
  | consA (ctx : Ctx) (t : Bytes) (cs : List Cell) (g : List Gap) (more : List (Bytes × List Cell)) (body : Bytes) :
      Arg11 t cs → TailKeep cs → WsGaps g → ArrR .any more body → ArrR ctx ((t, cs) :: more) (t ++ (gapsBytes g ++ body))
  | consP (ctx : Ctx) (t : Bytes) (cs : List Cell) (nb : Option Int) (g : List Gap) (more : List (Bytes × List Cell))
      (body : Bytes) : Arg11 t cs → TailKeep cs → Prov t cs nb → WsGaps g → ArrR (.after t g cs nb) more body →
      ArrR ctx ((t, cs) :: more) (t ++ (gapsBytes g ++ body))
  | consR (ctx : Ctx) (x z : Int) (w1 w2 : Bytes) (g : List Gap) (more : List (Bytes × List Cell)) (body : Bytes) :
      ctx ≠ .any → RangeOK ctx.nb x z → AllWs w1 → w1 ≠ [] → AllWs w2 → WsGaps g →
      ArrR (.after (rangeTok x z w1 w2) g (rangeCellsNb ctx.nb x z) (some z)) more body →
      ArrR ctx ((rangeTok x z w1 w2, rangeCellsNb ctx.nb x z) :: more) (rangeTok x z w1 w2 ++ (gapsBytes g ++ body))

/-- the relation between the context of `LayR` and what the value to the left offers -/
def CtxRel (c : Ctx) (o : Option (Option Int)) : Prop :=
  match o with
  | none => True
  | some nb => c ≠ .any ∧ c.nb = nb

/-- the state of the checker's loops: `CInv`, and the recursion bound covers the provider to the left -/
def CInvF (ctx : Ctx) (recent : Option Bytes) (text : Bytes) (F : Nat) : Prop :=
  CInv ctx recent text ∧
  match ctx with
  | .after tp _ _ _ => tp.length + 2 ≤ F
  | _ => True

/-! ### the printed form -/

/-- the printed form of the cells `rem`: nothing, or a text of good arguments -/
def LayText (rem : List Cell) (body : Bytes) : Prop :=
  (rem = [] ∧ body = []) ∨ ∃ tcs, ArgsLay tcs body ∧ allCells tcs = rem

end Rtosc.Pretty.C11
