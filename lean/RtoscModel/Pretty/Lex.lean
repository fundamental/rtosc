/-
  C10/C11 — character-level helpers of src/cpp/pretty-format.c shared by printer, checker and
  scanner: the two escape tables, `skip_word`, `skip_identifier`, `is_range_multiplier`,
  `end_of_printed_string`, `skip_fmt`, the numeric format selection `scanf_fmtstr`, and the
  sscanf format strings of the file written as directive lists.

  A `const char*` into the text is the suffix of the text it points to (the bytes before the
  terminating NUL); NULL is `none`.  `*p` at the end is the NUL (`Libc.hd`).  Moving a pointer
  past the NUL (`advance`) is an explicit out-of-bounds result, never a default.
  No Mathlib import: linked into the driver.
-/
import RtoscModel.Libc.Scanf
import RtoscModel.Libc.Time
namespace Rtosc.Pretty
open Rtosc Rtosc.Libc

/-- how a model function can fail to have a defined result -/
inductive Err where
  | oob            -- read/move past the terminating NUL of the text, or before the buffer
  | undef          -- the C code reads an indeterminate value / passes NULL on
  | trap           -- integer division by zero, or overflow of `INT_MIN / -1`
  | unmodelled     -- a case the model leaves out: the float branches of Val.lean, a NaN operand in C11Float.lean
  | argval         -- the arg-val comparison model exits or meets a NaN (its `oob` / `undef` / `fuel` stay themselves: `liftAV`)
  | hang           -- the C code does not terminate (or overruns its output while looping)
  | fuel
deriving DecidableEq, Repr

abbrev Res := Except Err

/-- `p + k` -/
def advance (s : Bytes) (k : Nat) : Res Bytes :=
  if k ≤ s.length then .ok (s.drop k) else .error .oob

/-! ### escape tables -/

/-- `as_escaped_char(c, chr)`: the letter of the escape sequence for `c`, if any -/
def asEscapedChar (c : UInt8) (chr : Bool) : Option UInt8 :=
  if c = 7 then some 97          -- \a
  else if c = 8 then some 98     -- \b
  else if c = 9 then some 116    -- \t
  else if c = 10 then some 110   -- \n
  else if c = 11 then some 118   -- \v
  else if c = 12 then some 102   -- \f
  else if c = 13 then some 114   -- \r
  else if c = 92 then some 92    -- backslash
  else if chr && c = 39 then some 39
  else if chr && c = 0 then some 48   -- NUL as \0 (fix C10-14)
  else if !chr && c = 34 then some 34
  else none

/-- `get_escaped_char(c, chr)`: 0 when there is no such escape sequence -/
def getEscapedChar (c : UInt8) (chr : Bool) : UInt8 :=
  if c = 97 then 7
  else if c = 98 then 8
  else if c = 116 then 9
  else if c = 110 then 10
  else if c = 118 then 11
  else if c = 102 then 12
  else if c = 114 then 13
  else if c = 92 then 92
  else if chr && c = 39 then 39
  else if !chr && c = 34 then 34
  else 0

/-! ### words, identifiers -/

def isIdentStart (c : UInt8) : Bool := c = 95 || isalpha c
def isIdentChar (c : UInt8) : Bool := c = 95 || isalnum c

/-- `skip_word(exp, &str)`: the position after the word, if it is present as a separate word
    ('%' ends a word: fix C10-09) -/
def skipWord (exp : Bytes) (s : Bytes) : Option Bytes :=
  if startsWith s exp then
    let r := s.drop exp.length
    let c := hd r
    if c = 0 || c = 47 || c = 93 || c = 46 || c = 37 || isspace c then some r else none
  else none

def skipIdentChars : Bytes → Bytes
  | [] => []
  | c :: r => if isIdentChar c then skipIdentChars r else c :: r

def takeIdentChars : Bytes → Bytes
  | [] => []
  | c :: r => if isIdentChar c then c :: takeIdentChars r else []

/-- `skip_identifier(str)` -/
def skipIdentifier (s : Bytes) : Option Bytes :=
  if isIdentStart (hd s) then some (skipIdentChars (s.drop 1)) else none

def skipDigits : Bytes → Bytes
  | [] => []
  | c :: r => if isdigit c then skipDigits r else c :: r

/-- `is_range_multiplier(s)`: `[1-9][0-9]*x` -/
def isRangeMultiplier (s : Bytes) : Bool :=
  isdigit (hd s) && hd s ≠ 48 && hd (skipDigits (s.drop 1)) = 120

/-- `strchr(s, 'x') + 1` for a string that starts with a range multiplier -/
def afterX : Bytes → Bytes
  | [] => []
  | c :: r => if c = 120 then r else afterX r

/-! ### formats -/

/-- `skip_fmt(&src, fmt)`: characters skipped (0 if the format did not match up to its `%n`) -/
def skipFmt (fmt : List Dir) (s : Bytes) : Nat := scanRd fmt s

def fmtStrCont : List Dir := [.lit 34, .lit 92, .ws, .lit 34, .n]                 -- "\"\\ \"%n"
def fmtCloseParen : List Dir := [.ws, .lit 41, .n]                                 -- " )%n"
def fmtSpace : List Dir := [.ws, .n]                                               -- " %n"
def fmtCommentSp : List Dir := [.notNl, .ws, .n]                                   -- "%*[^\n] %n"
def fmtComment : List Dir := [.notNl, .n]                                          -- "%*[^\n]%n"
def hx (sup : Bool) : List Dir := [.lit 48, .lit 120, .int .x none sup]           -- "0x%x" / "0x%*x"
def fmtMidi (sup : Bool) : List Dir :=                                             -- "MIDI [ 0x%x 0x%x 0x%x 0x%x ]%n"
  lits "MIDI" ++ [.ws, .lit 91, .ws] ++ hx sup ++ [.ws] ++ hx sup ++ [.ws] ++ hx sup ++ [.ws] ++ hx sup ++
    [.ws, .lit 93, .n]
def fmtBlobOpen : List Dir := lits "BLOB" ++ [.ws, .lit 91, .ws, .n]               -- "BLOB [ %n"
def fmtBlobLen : List Dir := [.int .i none false, .ws, .n]                         -- "%i %n"
def fmtBlobOpenLen : List Dir := lits "BLOB" ++ [.ws, .lit 91, .ws, .int .i none false, .ws, .n] -- "BLOB [ %i %n"
def fmtBlobByte (sup : Bool) : List Dir := hx sup ++ [.ws, .n]                     -- "0x%x %n"
def fmtMult : List Dir := [.int .d none false, .lit 120, .n]                       -- "%dx%n"
def d1 : Dir := .int .d (some 1) true
def fmtIsDate : List Dir := [.int .d (some 4) true, .lit 45, d1, d1, .lit 45, d1, d1, .n] -- "%*4d-%*1d%*1d-%*1d%*1d%n"
def fmtCkHM : List Dir := [.ws, .int .d (some 2) true, .lit 58, d1, d1, .n]        -- " %*2d:%*1d%*1d%n"
def fmtCkS : List Dir := [.lit 58, d1, d1, .n]                                     -- ":%*1d%*1d%n"
def fmtCkFrac : List Dir := [.lit 46, .int .d none true, .n]                       -- ".%*d%n"
def fmtCkLossOpen : List Dir :=                                                    -- " ( ... + 0x%n"
  [.ws, .lit 40, .ws, .lit 46, .lit 46, .lit 46, .ws, .lit 43, .ws, .lit 48, .lit 120, .n]
def fmtCkHexDot : List Dir := [.int .x none true, .lit 46, .n]                     -- "%*x.%n"
def fmtCkHexP : List Dir := [.int .x none true, .lit 112, .n]                      -- "%*xp%n"
def fmtCkExp : List Dir := [.lit 45, .int .d none false, .ws, .lit 115, .ws, .lit 41, .n] -- "-%d s )%n"
def d2 : Dir := .int .d (some 2) false
def fmtScDate : List Dir := [.int .d (some 4) false, .lit 45, d2, .lit 45, d2, .n] -- "%4d-%2d-%2d%n"
def fmtScHM : List Dir := [.ws, d2, .lit 58, d2, .n]                               -- " %2d:%2d%n"
def fmtScS : List Dir := [.lit 58, d2, .n]                                         -- ":%2d%n"
def fmtScFracOpen : List Dir := [.flt false true, .ws, .lit 40, .n]                -- "%*f (%n"
def fmtScLoss : List Dir :=                                                        -- " ... + %lf s )%n"  (fix C10-05)
  [.ws, .lit 46, .lit 46, .lit 46, .ws, .lit 43, .ws, .flt true false, .ws, .lit 115, .ws, .lit 41, .n]
def fmtScFloat : List Dir := [.flt false false, .n]                                -- "%f%n"

/-! ### numeric literals: `scanf_fmtstr` -/

/-- the format `scanf_fmtstr` selects (named after its type letter / spelling) -/
inductive NumFmt where
  | h      -- "%*lih%n"
  | d      -- "%*d%n"
  | ii     -- "%*ii%n"
  | x      -- "%*i%n" matched, replaced by "%*x%n"
  | lfd    -- "%*lfd%n"
  | ff     -- "%*ff%n"
  | f      -- "%*f%n"
deriving DecidableEq, Repr

/-- the format used for *trying* (`x` is tried as "%*i%n") -/
def NumFmt.tryDirs : NumFmt → List Dir
  | .h => [.int .i none true, .lit 104, .n]
  | .d => [.int .d none true, .n]
  | .ii => [.int .i none true, .lit 105, .n]
  | .x => [.int .i none true, .n]
  | .lfd => [.flt true true, .lit 100, .n]
  | .ff => [.flt false true, .lit 102, .n]
  | .f => [.flt false true, .n]

/-- the format used for skipping / scanning (`sup = false`: "%*" turned into "%") -/
def NumFmt.dirs (sup : Bool) : NumFmt → List Dir
  | .h => [.int .i none sup, .lit 104, .n]
  | .d => [.int .d none sup, .n]
  | .ii => [.int .i none sup, .lit 105, .n]
  | .x => [.int .x none sup, .n]
  | .lfd => [.flt true sup, .lit 100, .n]
  | .ff => [.flt false sup, .lit 102, .n]
  | .f => [.flt false sup, .n]

/-- the rtosc type letter the format stands for -/
def NumFmt.type : NumFmt → UInt8
  | .h => 104
  | .d => 105 | .ii => 105 | .x => 105
  | .lfd => 100
  | .ff => 102 | .f => 102

/-- length of the numeric word: up to the string end, white space, ')' , ']', '%' (a comment;
    fix C11-08) or "..." -/
def numWordLen : Bytes → Nat
  | [] => 0
  | c :: r =>
    if isspace c || c = 41 || c = 93 || c = 37 || startsWith (c :: r) [46, 46, 46] then 0
    else numWordLen r + 1

/-- `scanf_fmtstr(src, &type)`: first format that matches exactly the numeric word -/
def scanfFmtstr (s : Bytes) : Option NumFmt :=
  let exp := numWordLen s
  [NumFmt.h, .d, .ii, .x, .lfd, .ff, .f].find? (fun nf => scanRd nf.tryDirs s = exp)

/-- `skip_numeric(&src, type)`: (characters skipped, type); `none`: no format matches -/
def skipNumeric (s : Bytes) : Option (Nat × UInt8) :=
  match scanfFmtstr s with
  | none => none
  | some nf => some (skipFmt (nf.dirs true) s, nf.type)

/-! ### strings -/

/-- the inner `for` loop of `end_of_printed_string`: up to the closing quote;
    `none` = bad escape sequence -/
def strBody : Bytes → Bool → Option Bytes
  | [], _ => some []
  | c :: r, escaped =>
    if escaped || c ≠ 34 then
      if escaped && getEscapedChar c false = 0 then none
      else strBody r (if c = 92 then !escaped else false)
    else some (c :: r)

/-- the `do … while(cont)` loop of `end_of_printed_string`; `s` points behind an opening quote.
    A continuation `"\` that is not followed by white space and `"` makes `skip_fmt_null`
    set `src = NULL`, which the next loop iteration dereferences (`Err.undef`).
    `fuel` bounds the number of continuation parts. -/
def eosLoop : Nat → Bytes → Res (Option Bytes)
  | 0, _ => .error .fuel
  | fuel + 1, s =>
    match strBody s false with
    | none => .ok none
    | some s1 =>
      if hd s1 = 34 && hd (s1.drop 1) = 92 then
        let rd := skipFmt fmtStrCont s1
        if rd = 0 then .error .undef else eosLoop fuel (s1.drop rd)
      else if s1.isEmpty then .ok none
      else .ok (some (s1.drop 1))

/-- `end_of_printed_string(src)`: called at the opening quote; the position after the closing
    quote of the last part -/
def endOfPrintedString (s : Bytes) : Res (Option Bytes) := eosLoop s.length (s.drop 1)

end Rtosc.Pretty
