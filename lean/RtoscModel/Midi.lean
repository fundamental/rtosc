/-
  C20 — model of `src/cpp/midimapper.cpp` / `include/rtosc/miditable.h`:
  the non-realtime half `MidiMappernRT` (inv_map, learnQueue, storage generations; map,
  unMap, clear, useFreeID, generateNewBijection, killMap), the realtime half
  `MidiMapperRT` (pending, watchSize, storage; handleCC, the `midi-add-watch` and
  `midi-bind` ports), `MidiMapperStorage` (handleCC, cloneValues, clone), `MidiBijection`,
  and the two FIFO channels through which the halves talk:

    nRT → RT   "/midi-learn/midi-add-watch"       (sent by `map`)
               "/midi-learn/midi-bind" b<storage>  (sent by `useFreeID`, `unMap`, `clear`)
    RT → nRT   "/midi-use-CC" i<ID>                (sent by `MidiMapperRT::handleCC`;
                                                    the application hands it to `useFreeID`)

  A step is an API call on one half or the delivery of the oldest message of one channel.

  Modelling decisions (each one is a place where the tie to the code is by correspondence):
  * an address is the index `k` of its port (the harness spells it `"/p<k>"`, or longer and
    nested in sub-tables: at most 3 x `"d<k>/"` + `"p<k>"` + up to 60 characters; distinct ports
    have distinct addresses, `apropos` finds each, and every message fits the callbacks' 1024
    byte buffers — the address text itself is not modelled); `inv_map` (a `std::map`) is an
    association list — no operation in scope iterates over it;
  * controller IDs are `Nat` (`handleCC` builds them from non-negative parts); the `-1`
    "no controller" sentinel of `inv_map` is `none`;
  * a `std::function` callback is the data its closure captured (`Cb`);
  * `MidiMapperStorage` objects are immutable once sent, except `values`, which only the
    realtime half writes; the non-realtime half only ever reads `values.size()`.  A `bind`
    message therefore carries a copy of the snapshot;
  * `PendingQueue` (ring of 32 `int`s, `-1` = free) is the FIFO list of its occupied cells,
    capacity 32 (`insert` refuses when `size > 31`);
  * `TinyVector::operator[]` is unchecked under `NDEBUG` (the default build): an index
    outside the vector is a crash (`none`), never a defaulted read;
  * `watchSize` (`unsigned`) and vector sizes (`int`) are unbounded `Nat`s;
  * floats: port ranges are multiples of 1/8 of moderate size, for which every intermediate
    of `MidiBijection::operator()(int)` is exact in `double`; the only rounding is the final
    conversion to `float`, implemented exactly (`f32OfDyadic`).
  No Mathlib import: this file is linked into `drv_midi`.
-/
import RtoscModel.Basic
namespace Rtosc.Midi

/-! ## Ports, callbacks, bijection -/

/-- A parameter port `p<k>:i` / `p<k>:f` with metadata `min = min8/8`, `max = max8/8`. -/
structure PortSpec where
  isInt : Bool
  min8 : Int
  max8 : Int
  deriving DecidableEq, Repr, Inhabited

/-! ### Port declarations: what `generateNewBijection` reads off a `rtosc::Port`

  The harness builds port `k` with the name `"p<k>" ++ pad ++ signature`, where the signature
  is one of the spellings applications use, and with further metadata keys around `min`/`max`.
  `generateNewBijection` reads `meta["min"]`, `meta["max"]` (the other keys are not looked at)
  and decides the message type by `strstr(port.name, ":i")`. -/

/-- the argument signature behind the port's name -/
inductive Sig where
  | i      -- `":i"`
  | f      -- `":f"`
  | oi     -- `"::i"`   (optional argument: the usual `rParamI` spelling)
  | of     -- `"::f"`
  | fi     -- `":f:i"`  (accepts both)
  | ifl    -- `":i:f"`  (accepts both)
  deriving DecidableEq, Repr, Inhabited

def Sig.text : Sig → List Char
  | .i => [':', 'i']
  | .f => [':', 'f']
  | .oi => [':', ':', 'i']
  | .of => [':', ':', 'f']
  | .fi => [':', 'f', ':', 'i']
  | .ifl => [':', 'i', ':', 'f']

/-- does a message of type `'i'` fit the signature? -/
def Sig.acceptsInt : Sig → Bool
  | .f | .of => false
  | _ => true

/-- the characters long names are padded with (64; the protocol uses at most 60) -/
def padText : List Char := "_long_parameter_name_for_midi_learn_with_many_characters_in_it_x".toList

/-- `strstr`-style tests on character lists -/
def isPrefixL : List Char → List Char → Bool
  | [], _ => true
  | _ :: _, [] => false
  | p :: ps, c :: cs => p == c && isPrefixL ps cs

def hasInfix (pat : List Char) : List Char → Bool
  | [] => isPrefixL pat []
  | c :: cs => isPrefixL pat (c :: cs) || hasInfix pat cs

/-- A port as the op line declares it: index `k ≤ 9`, signature, padding of the name, nesting
    depth of its address, the extra metadata keys (`flags`; the code never looks at them) and
    the range. -/
structure PortDecl where
  idx : Nat
  sig : Sig
  flags : List Char
  min8 : Int
  max8 : Int
  depth : Nat
  pad : Nat
  deriving DecidableEq, Repr, Inhabited

/-- `port.name` -/
def PortDecl.name (d : PortDecl) : List Char :=
  'p' :: Char.ofNat (48 + d.idx) :: (padText.take d.pad ++ d.sig.text)

/-- the part of `generateNewBijection` in front of the lambdas: `bi.min`, `bi.max` from the
    metadata, `type = strstr(port.name, ":i") ? 'i' : 'f'` -/
def PortDecl.toSpec (d : PortDecl) : PortSpec :=
  ⟨hasInfix [':', 'i'] d.name, d.min8, d.max8⟩

/-- What the closure built in `generateNewBijection` captured: `addr`, `type`, `bi`. -/
structure Cb where
  addr : Nat
  isInt : Bool
  min8 : Int
  max8 : Int
  deriving DecidableEq, Repr, Inhabited

/-- A message handed to the backend callback. -/
inductive Val where
  | int (v : Int)
  | flt (bits : Nat)
  deriving DecidableEq, Repr

structure Msg where
  addr : Nat
  val : Val
  deriving DecidableEq, Repr

/-- numerator of `MidiBijection::operator()(int x)` over the denominator `2^17`:
    `x/16384.0*(max-min)+min  =  (x*(max8-min8) + 16384*min8) / (8*16384)`. -/
def bijNum (min8 max8 : Int) (x : Nat) : Int :=
  (x : Int) * (max8 - min8) + 16384 * min8

/-- number of binary digits -/
def bitLen (n : Nat) : Nat := if n = 0 then 0 else Nat.log2 n + 1

/-- Round `n / 2^e` (n > 0) to the nearest `float` (ties to even): 24-bit significand `m`
    (`2^23 ≤ m < 2^24`) and exponent `q` with value `m * 2^q` (`q` may be negative). -/
def f32Round (n e : Nat) : Nat × Int :=
  let l := bitLen n
  if l ≤ 24 then
    (n <<< (24 - l), (l : Int) - 24 - e)
  else
    let sh := l - 24
    let q := n >>> sh
    let rem := n % 2 ^ sh
    let half := 2 ^ (sh - 1)
    let q' := if rem > half ∨ (rem = half ∧ q % 2 = 1) then q + 1 else q
    if q' = 2 ^ 24 then (2 ^ 23, (sh : Int) + 1 - e) else (q', (sh : Int) - e)

/-- IEEE-754 single bit pattern of the `float` nearest to `num / 2^e`
    (normal range only; the ranges the protocol allows stay far inside it). -/
def f32OfDyadic (num : Int) (e : Nat) : Nat :=
  if num = 0 then 0 else
  let (m, q) := f32Round num.natAbs e
  let sign := if num < 0 then 2 ^ 31 else 0
  sign + ((q + 23 + 127).toNat <<< 23) + (m - 2 ^ 23)

/-- `(int)` of the `float` nearest to `num / 2^e` (truncation toward zero). -/
def truncF32OfDyadic (num : Int) (e : Nat) : Int :=
  if num = 0 then 0 else
  let (m, q) := f32Round num.natAbs e
  let mag : Nat := if q ≥ 0 then m <<< q.toNat else m >>> (-q).toNat
  if num < 0 then -(mag : Int) else mag

/-- The callback stored by `generateNewBijection`, applied to the 14-bit value `x`
    (`int16_t`; the protocol keeps `x < 2^14`). -/
def Cb.fire (c : Cb) (x : Nat) : Msg :=
  if c.min8 = 0 ∧ c.max8 = 127 * 8 ∧ c.isInt then
    { addr := c.addr, val := .int ((x >>> 7) &&& 0x7f : Nat) }      -- the "special case" lambda
  else if c.isInt then
    { addr := c.addr, val := .int (truncF32OfDyadic (bijNum c.min8 c.max8 x) 17) }
  else
    { addr := c.addr, val := .flt (f32OfDyadic (bijNum c.min8 c.max8 x) 17) }

/-! ## MidiMapperStorage -/

/-- `std::tuple<int,bool,int>`: controller ID, coarse?, value/callback slot.
    The default value is what `new T[n]` leaves in a cell that is never assigned. -/
structure MapEnt where
  id : Nat
  coarse : Bool
  slot : Nat
  deriving DecidableEq, Repr

instance : Inhabited MapEnt := ⟨⟨0, false, 0⟩⟩

structure Storage where
  mapping : List MapEnt
  callbacks : List Cb
  values : List Nat
  deriving DecidableEq, Repr

def Storage.empty : Storage := ⟨[], [], []⟩

/-- `(val<<7)|(old&0x7f)` resp. `val|(old&0x3f80)` -/
def blit (coarse : Bool) (val old : Nat) : Nat :=
  if coarse then (val <<< 7) ||| (old &&& 0x7f) else val ||| (old &&& 0x3f80)

/-- `MidiMapperStorage::handleCC`: `none` = an index outside `values`/`callbacks`
    (crash); otherwise the new storage and the message written, if any. -/
def Storage.handleCC (s : Storage) (id val : Nat) : Option (Storage × Option Msg) :=
  match s.mapping.find? (fun m => m.id == id) with
  | none => some (s, none)
  | some m =>
    match s.values[m.slot]?, s.callbacks[m.slot]? with
    | some old, some cb =>
      let x := blit m.coarse val old
      some ({ s with values := s.values.set m.slot x }, some (cb.fire x))
    | _, _ => none

/-- inner loop of `cloneValues` for one destination entry `d`: every source entry with
    the same controller ID blits its 7-bit part. -/
def cloneInner (d : MapEnt) (src : Storage) : List MapEnt → List Nat → Option (List Nat)
  | [], vals => some vals
  | s :: rest, vals =>
    if d.id = s.id then
      match src.values[s.slot]?, vals[d.slot]? with
      | some sv, some dv =>
        let v := if s.coarse then sv >>> 7 else sv &&& 0x7f
        cloneInner d src rest (vals.set d.slot (blit d.coarse v dv))
      | _, _ => none
    else cloneInner d src rest vals

def cloneOuter (src : Storage) : List MapEnt → List Nat → Option (List Nat)
  | [], vals => some vals
  | d :: rest, vals =>
    match cloneInner d src src.mapping vals with
    | none => none
    | some vals' => cloneOuter src rest vals'

/-- `nstorage->cloneValues(old)` -/
def Storage.cloneValues (n old : Storage) : Option Storage :=
  match cloneOuter old n.mapping (List.replicate n.values.length 0) with
  | none => none
  | some v => some { n with values := v }

/-- `MidiMapperStorage::clone` (values: `sized_clone`, i.e. zeroes) -/
def Storage.clone (s : Storage) : Storage :=
  { s with values := List.replicate s.values.length 0 }

/-- `killMap(ID, m)`: the new mapping vector has `size-1` cells whatever the number of
    entries carrying `ID`: none → the copy loop writes one cell past the end (crash);
    more than one → trailing cells stay default-constructed `(0,false,0)`. -/
def killMap (id : Nat) (m : List MapEnt) : Option (List MapEnt) :=
  let kept := m.filter (fun e => e.id != id)
  if m.length = 0 then none                       -- `new T[-1]`
  else if kept.length > m.length - 1 then none    -- heap overflow at `nmapping[j++]`
  else some (kept ++ List.replicate (m.length - 1 - kept.length) default)

/-! ## The non-realtime half -/

/-- `inv_map` entry: (slot, coarse ID, fine ID); the bijection of the tuple is the one
    captured by `callbacks[slot]`. -/
structure Imap where
  slot : Nat
  coarse : Option Nat
  fine : Option Nat
  deriving DecidableEq, Repr

/-- nRT → RT messages.  `answers` is a ghost annotation (never read by a transition):
    the controller whose `/midi-use-CC` request this `midi-bind` answers. -/
inductive RtMsg where
  | addWatch
  | bind (s : Storage) (answers : Option Nat)
  deriving DecidableEq, Repr

structure NRT where
  invMap : List (Nat × Imap)
  learnQ : List (Nat × Bool)
  storage : Option Storage
  deriving DecidableEq, Repr

def NRT.init : NRT := ⟨[], [], none⟩

def imLookup (m : List (Nat × Imap)) (a : Nat) : Option Imap :=
  (m.find? (fun p => p.1 == a)).map (·.2)

def imErase (m : List (Nat × Imap)) (a : Nat) : List (Nat × Imap) :=
  m.filter (fun p => p.1 != a)

def imSet (m : List (Nat × Imap)) (a : Nat) (v : Imap) : List (Nat × Imap) :=
  (a, v) :: imErase m a

/-- `MidiMappernRT::unMap`; `none` = crash, else new state and messages sent. -/
def NRT.unMap (n : NRT) (a : Nat) (coarse : Bool) : Option (NRT × List RtMsg) :=
  match imLookup n.invMap a with
  | none => some (n, [])
  | some im =>
    let killId := if coarse then im.coarse else im.fine
    let im' : Imap := if coarse then { im with coarse := none } else { im with fine := none }
    let inv' := if im'.coarse = none ∧ im'.fine = none then imErase n.invMap a
                else imSet n.invMap a im'
    match killId with
    | none => some ({ n with invMap := inv' }, [])
    | some kid =>
      match n.storage with
      | none => none                               -- `storage->clone()` on NULL
      | some st =>
        match killMap kid st.mapping with
        | none => none
        | some mp =>
          let ns : Storage := { st.clone with mapping := mp }
          some ({ n with invMap := inv', storage := some ns }, [.bind ns none])

/-- `MidiMappernRT::map` -/
def NRT.map (n : NRT) (a : Nat) (coarse : Bool) : Option (NRT × List RtMsg) :=
  if n.learnQ.any (fun x => x.1 == a && x.2 == coarse) then some (n, [])
  else
    match n.unMap a coarse with
    | none => none
    | some (n', ms) => some ({ n' with learnQ := n'.learnQ ++ [(a, coarse)] }, ms ++ [.addWatch])

/-- `MidiMappernRT::clear` -/
def NRT.clear (_ : NRT) : NRT × List RtMsg :=
  ({ invMap := [], learnQ := [], storage := some Storage.empty }, [.bind Storage.empty none])

/-- `MidiMappernRT::generateNewBijection` (ports always carry min/max here) -/
def NRT.generateNewBijection (n : NRT) (p : PortSpec) (a : Nat) : NRT × Storage :=
  let cb : Cb := ⟨a, p.isInt, p.min8, p.max8⟩
  let ns : Storage :=
    match n.storage with
    | some st => ⟨st.mapping, st.callbacks ++ [cb], List.replicate (st.values.length + 1) 0⟩
    | none => ⟨[], [cb], [0]⟩
  ({ n with invMap := imSet n.invMap a ⟨ns.callbacks.length - 1, none, none⟩ }, ns)

/-- second half of `useFreeID` (from `auto imap = inv_map[addr]` on): insert the mapping
    entry, `killMap` the entry it replaces, update `inv_map`, send the `midi-bind`. -/
def NRT.finishLearn (n : NRT) (ns : Storage) (a : Nat) (coarse : Bool) (id : Nat) :
    Option (NRT × List RtMsg) :=
  match imLookup n.invMap a with
  | none => none                                      -- unreachable: just inserted / found
  | some im =>
    let ns : Storage := { ns with mapping := ns.mapping ++ [⟨id, coarse, im.slot⟩] }
    let killed : Option Storage :=
      if coarse then
        match im.coarse with
        | some old => (killMap old ns.mapping).map (fun mp => { ns with mapping := mp })
        | none => some ns
      else
        match im.fine, im.coarse with
        | some _, some oldc => (killMap oldc ns.mapping).map (fun mp => { ns with mapping := mp })
        | some _, none => none      -- `killMap(-1, …)`: no entry carries -1 → overflow
        | none, _ => some ns
    match killed with
    | none => none
    | some ns =>
      let im' : Imap := if coarse then { im with coarse := some id } else { im with fine := some id }
      some ({ n with invMap := imSet n.invMap a im', storage := some ns }, [.bind ns (some id)])

/-- `MidiMappernRT::useFreeID`; `ports[a] = none` models `apropos` returning NULL (crash). -/
def NRT.useFreeID (ports : List PortSpec) (n : NRT) (id : Nat) : Option (NRT × List RtMsg) :=
  match n.learnQ with
  | [] => some (n, [])
  | (a, coarse) :: q =>
    let n := { n with learnQ := q }
    match ports[a]? with
    | none => none
    | some p =>
      let r : Option (NRT × Storage) :=
        match imLookup n.invMap a with
        | none => some (n.generateNewBijection p a)
        | some _ => n.storage.map (fun st => (n, st.clone))   -- `storage->clone()`
      match r with
      | none => none
      | some (n, ns) => n.finishLearn ns a coarse id

/-! ## The realtime half -/

structure RT where
  storage : Option Storage
  pending : List Nat
  watch : Nat
  deriving DecidableEq, Repr

def RT.init : RT := ⟨none, [], 0⟩

/-- `PendingQueue::insert` -/
def pendInsert (p : List Nat) (x : Nat) : List Nat :=
  if p.contains x ∨ p.length > 31 then p else p ++ [x]

/-- `ID = (isNrpn<<18) + (((chan-1)&0x0f)<<14) + par` with `if(chan<1) chan=1` -/
def ccId (par chan : Nat) (nrpn : Bool) : Nat :=
  let ch := if chan < 1 then 1 else chan
  (if nrpn then 2 ^ 18 else 0) + (((ch - 1) &&& 0x0f) <<< 14) + par

/-- `MidiMapperRT::handleCC`: new state, backend message (if any), frontend request (if any). -/
def RT.handleCC (r : RT) (id val : Nat) : Option (RT × Option Msg × Option Nat) :=
  let handled : Option (Option Storage × Option Msg) :=
    match r.storage with
    | none => some (none, none)
    | some st => (st.handleCC id val).map (fun (st', m) => (some st', m))
  match handled with
  | none => none
  | some (st', some m) => some ({ r with storage := st' }, some m, none)
  | some (st', none) =>
    if !r.pending.contains id ∧ r.watch ≠ 0 then
      some ({ storage := st', pending := pendInsert r.pending id, watch := r.watch - 1 }, none, some id)
    else some ({ r with storage := st' }, none, none)

/-- does the snapshot held by the realtime half carry an entry for this controller? -/
def RT.knows (r : RT) (id : Nat) : Bool :=
  match r.storage with
  | none => false
  | some st => st.mapping.any (fun m => m.id == id)

/-- the `midi-add-watch` and `midi-bind:b` ports -/
def RT.recv (r : RT) : RtMsg → Option RT
  | .addWatch => some { r with watch := r.watch + 1 }
  | .bind ns _ =>
    let pend := r.pending.drop 1                       -- `pending.pop()`
    match r.storage with
    | none => some { r with pending := pend, storage := some ns }
    | some old =>
      match ns.cloneValues old with
      | none => none
      | some ns' => some { r with pending := pend, storage := some ns' }

/-! ## The whole system -/

structure Sys where
  nrt : NRT
  rt : RT
  toRT : List RtMsg
  toNRT : List Nat
  deriving DecidableEq, Repr

def Sys.init : Sys := ⟨NRT.init, RT.init, [], []⟩

inductive Op where
  | map (a : Nat) (coarse : Bool)
  | unmap (a : Nat) (coarse : Bool)
  | clear
  | cc (id val : Nat)
  | deliverRT
  | deliverNRT
  deriving DecidableEq, Repr

/-- One step.  `none` = the implementation crashes (unchecked index / allocation).
    The second component is the list of backend messages (non-empty only for `cc`). -/
def step (ports : List PortSpec) (s : Sys) : Op → Option (Sys × List Msg)
  | .map a c => (s.nrt.map a c).map fun (n, ms) => ({ s with nrt := n, toRT := s.toRT ++ ms }, [])
  | .unmap a c => (s.nrt.unMap a c).map fun (n, ms) => ({ s with nrt := n, toRT := s.toRT ++ ms }, [])
  | .clear => let (n, ms) := s.nrt.clear; some ({ s with nrt := n, toRT := s.toRT ++ ms }, [])
  | .cc id val =>
    (s.rt.handleCC id val).map fun (r, m, req) =>
      ({ s with rt := r, toNRT := s.toNRT ++ req.toList }, m.toList)
  | .deliverRT =>
    match s.toRT with
    | [] => some (s, [])
    | m :: rest => (s.rt.recv m).map fun r => ({ s with rt := r, toRT := rest }, [])
  | .deliverNRT =>
    match s.toNRT with
    | [] => some (s, [])
    | id :: rest =>
      (NRT.useFreeID ports s.nrt id).map fun (n, ms) =>
        ({ s with nrt := n, toNRT := rest, toRT := s.toRT ++ ms }, [])

/-- Run a whole history; the trace holds, per op, the backend messages it produced. -/
def run (ports : List PortSpec) : Sys → List Op → Option (Sys × List (List Msg))
  | s, [] => some (s, [])
  | s, op :: ops =>
    match step ports s op with
    | none => none
    | some (s', out) =>
      match run ports s' ops with
      | none => none
      | some (s'', outs) => some (s'', out :: outs)

/-! ## Specification vocabulary

  What the property talks about, independent of how the code stores it: which parameter a
  controller drives according to a snapshot, and how a 14-bit value is composed. -/

/-- the parameter (address, coarse?) that controller `id` drives according to snapshot `st` -/
def Storage.binding (st : Storage) (id : Nat) : Option (Nat × Bool) :=
  match st.mapping.find? (fun e => e.id == id) with
  | none => none
  | some e => (st.callbacks[e.slot]?).map (fun cb => (cb.addr, e.coarse))

/-- what the non-realtime half has decided -/
def NRT.binding (n : NRT) (id : Nat) : Option (Nat × Bool) :=
  match n.storage with
  | none => none
  | some st => st.binding id

/-- what the realtime half currently acts on -/
def RT.binding (r : RT) (id : Nat) : Option (Nat × Bool) :=
  match r.storage with
  | none => none
  | some st => st.binding id

/-- 14-bit value: the incoming 7-bit value `v` in the coarse (upper) or fine (lower) half,
    `o` in the other half -/
def compose14 (coarse : Bool) (v o : Nat) : Nat := if coarse then v * 128 + o else o * 128 + v

/-- **Specification of the learn table** (what the statement says about the non-realtime
    half, with no reference to snapshots, slots or `inv_map`): the addresses queued for
    learning, oldest first, and which parameter each controller drives. -/
structure Table where
  queue : List (Nat × Bool)
  bound : Nat → Option (Nat × Bool)

/-- `unMap(a,k)`: whoever drives `(a,k)` stops; nobody else moves -/
def Table.unmap (t : Table) (a : Nat) (k : Bool) : Table :=
  { t with bound := fun id => if t.bound id = some (a, k) then none else t.bound id }

/-- `map(a,k)`: nothing if already queued; else its controller is forgotten and it is queued last -/
def Table.map (t : Table) (a : Nat) (k : Bool) : Table :=
  if (a, k) ∈ t.queue then t else { (t.unmap a k) with queue := t.queue ++ [(a, k)] }

/-- a not yet assigned controller asks: it gets the OLDEST queued address -/
def Table.learn (t : Table) (id : Nat) : Table :=
  match t.queue with
  | [] => t
  | (a, k) :: q => { queue := q, bound := fun x => if x = id then some (a, k) else t.bound x }

def Table.clear : Table := ⟨[], fun _ => none⟩

/-- what a step of the system does to the table; `req` is the oldest pending request
    (only a delivery to the non-realtime half consumes it) -/
def Table.step (t : Table) (op : Op) (req : Option Nat) : Table :=
  match op with
  | .map a k => t.map a k
  | .unmap a k => t.unmap a k
  | .clear => Table.clear
  | .deliverNRT => match req with
    | some id => t.learn id
    | none => t
  | _ => t

/-- the table the non-realtime half implements -/
def tableOf (n : NRT) : Table := ⟨n.learnQ, n.binding⟩

/-- both channels are empty: nothing is under way between the halves -/
def Sys.quiescent (s : Sys) : Prop := s.toRT = [] ∧ s.toNRT = []

/-! ## Hazards: the two known defect classes, as decidable predicates of a step -/

/-- K1 (DESIGN.md: C20-K1): a `/midi-use-CC` request reaches `useFreeID` while the learn queue is
    empty (possible only after `clear`, which empties the queue without releasing the
    watches): no `midi-bind` answers it, so the controller stays in `pending`. -/
def hazardK1 (s : Sys) : Op → Bool
  | .deliverNRT => !s.toNRT.isEmpty && s.nrt.learnQ.isEmpty
  | _ => false

/-- K2: the realtime half loses track of a request that is still in flight: a `midi-bind`
    that answers no request (sent by `unMap`/`map`/`clear`) pops `pending` while it is not
    empty, or `pending` is full (32) when a request is sent. -/
def hazardK2 (s : Sys) : Op → Bool
  | .deliverRT =>
    match s.toRT with
    | .bind _ none :: _ => !s.rt.pending.isEmpty
    | _ => false
  | .cc id _ =>
    !s.rt.knows id && !s.rt.pending.contains id && s.rt.watch != 0 && s.rt.pending.length > 31
  | _ => false

def hazard (s : Sys) (op : Op) : Bool := hazardK1 s op || hazardK2 s op

/-- Does some step of the history (run from `s`) satisfy `h`?  (A crash ends the scan.) -/
def anyStep (h : Sys → Op → Bool) (ports : List PortSpec) : Sys → List Op → Bool
  | _, [] => false
  | s, op :: ops =>
    h s op ||
    match step ports s op with
    | none => false
    | some (s', _) => anyStep h ports s' ops

def triggerK1 (ports : List PortSpec) (ops : List Op) : Bool := anyStep hazardK1 ports Sys.init ops
def triggerK2 (ports : List PortSpec) (ops : List Op) : Bool := anyStep hazardK2 ports Sys.init ops
def hazardFree (ports : List PortSpec) (ops : List Op) : Bool := !anyStep hazard ports Sys.init ops

end Rtosc.Midi
