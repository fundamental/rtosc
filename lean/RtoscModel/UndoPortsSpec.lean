/-
  C15 — the words of the statements of Props/C15Ports.lean (the application built from C14's ports refines the
  hand-written application of Undo.lean), beside the model RtoscModel/UndoPorts.lean: the abstraction of a port
  table with its fields to a parameter store (`encFld`, `absStore`, `PApp.abs`), the interface of the refinement
  (`PortSem`, `TblOK`, `PInv`, over two predicates `Stable`, `ArgsOK` per table entry), and these two predicates
  with the domain `PortOK` for the scalar parameter macros of C14.  Definitions only.
-/
import RtoscModel.UndoPorts
import RtoscModel.UndoSpec
import RtoscModel.Param.PortSpec
namespace Rtosc.Undo
open Rtosc

/-- the ports whose callback contains `rCAPPLY` (reports changes to the undo history) -/
def PStat.undoable (c : PStat) : Bool :=
  match c.port.kind with
  | .param | .paramI | .paramF | .option => true
  | _ => false

/-- the OSC type of the two values in the port's `/undo_change` event -/
def PStat.tag (c : PStat) : UInt8 :=
  match c.port.kind with
  | .param => 99
  | .paramF => 102
  | _ => 105

/-- the 4 payload bytes that carry a scalar field value -/
def encFld : Param.Field → UInt32
  | .ints [x] => w32 x
  | .flts [b] => b
  | _ => 0

/-- the parameter store of `App` that a port table with its fields stands for: the address
    of every undoable port holds the encoding of its field; `σ0` everywhere else. -/
def absStore (σ0 : Store) : List PStat → List Param.Field → Store
  | c :: cs, f :: fs =>
    if c.undoable then (absStore σ0 cs fs).set c.loc (encFld f) else absStore σ0 cs fs
  | _, _ => σ0

/-- the abstraction function of the refinement -/
def PApp.abs (σ0 : Store) (tbl : List PStat) (P : PApp) : App :=
  ⟨P.u, absStore σ0 tbl P.flds, P.clock⟩

section generic
variable (Stable : PStat → Param.Field → Prop) (ArgsOK : PStat → List Param.Arg → Prop)

/-- a payload that encodes a stable field value of the port -/
def ValOK (c : PStat) (w : UInt32) : Prop := ∃ f, Stable c f ∧ encFld f = w

/-- what the refinement needs to know about one table entry -/
structure PortSem (c : PStat) : Prop where
  /-- a message in the domain either does not match the port's type pattern, or runs the
      callback: the new field is stable again and the `/undo_change` replies are exactly the
      event `App.step` records — none when the (encoded) value did not change or the port has
      no `rCAPPLY` -/
  set_ok : ∀ f args, Stable c f → ArgsOK c args →
    Param.dispatch c.port c.pfx c.path f args = .ok none ∨
    ∃ f' ev, Param.dispatch c.port c.pfx c.path f args = .ok (some (f', ev)) ∧ Stable c f' ∧
      decodeAll (undoReplies ev) =
        some (if c.undoable = true ∧ encFld f' ≠ encFld f
              then [⟨c.loc, c.tag, encFld f, encFld f'⟩] else [])
  /-- the set-message of an undo/redo step that carries a stable value is accepted by the
      port and stores exactly that value -/
  undo_ok : c.undoable = true → ∀ f v, Stable c f → Stable c v →
    ∃ a ev, msgArg ⟨c.loc, c.tag, encFld v⟩ = some a ∧
      Param.dispatch c.port c.pfx c.path f [a] = .ok (some (v, ev))
  /-- the port's address is in the domain of the history theorems (shorter than 248 bytes) -/
  fit : c.undoable = true → fits c.loc = true

structure TblOK (tbl : List PStat) : Prop where
  nodup : (tbl.map PStat.loc).Nodup
  sem : ∀ c ∈ tbl, PortSem Stable ArgsOK c

/-- the operations the theorems quantify over -/
def POpOK (tbl : List PStat) : POp → Prop
  | .msg i args => ∃ c, tbl[i]? = some c ∧ ArgsOK c args
  | _ => True

def POpsOK (tbl : List PStat) (ops : List POp) : Prop := ∀ o ∈ ops, POpOK ArgsOK tbl o

/-- an event of the history belongs to an undoable port of the table and carries two stable values -/
def EvOK (tbl : List PStat) (e : Event) : Prop :=
  ∃ c ∈ tbl, c.undoable = true ∧ e.addr = c.loc ∧ e.tag = c.tag ∧
    ValOK Stable c e.old ∧ ValOK Stable c e.new

structure PInv (tbl : List PStat) (P : PApp) : Prop where
  len : P.flds.length = tbl.length
  stable : ∀ (i : Nat) c f, tbl[i]? = some c → P.flds[i]? = some f → Stable c f
  hist : ∀ x ∈ P.u.hist, EvOK Stable tbl x.2

end generic

end Rtosc.Undo

namespace Rtosc.Undo
open Rtosc Rtosc.Param

def FltOK (b : UInt32) : Prop := isNaN b = false ∧ b ≠ 0x80000000
instance (b : UInt32) : Decidable (FltOK b) := by unfold FltOK; infer_instance

/-- `data.port->meta()` of the entry's port -/
def pmOf (c : PStat) : Meta.Ptr := (Meta.container c.port.block).getD none

/-- the declared bounds as the integer callbacks read them (`atoi`) -/
def iLo (c : PStat) : Option Int :=
  match bound atoi (pmOf c) kMin with | .ok v => v | .error _ => none
def iHi (c : PStat) : Option Int :=
  match bound atoi (pmOf c) kMax with | .ok v => v | .error _ => none
/-- the declared bounds as the float callback reads them (`(float) atof`) -/
def fLo (c : PStat) : Option UInt32 :=
  match bound atofF32 (pmOf c) kMin with | .ok v => v | .error _ => none
def fHi (c : PStat) : Option UInt32 :=
  match bound atofF32 (pmOf c) kMax with | .ok v => v | .error _ => none

/-- the type specification the macro writes behind the port's name
    (`::c`, `::i`, `::f`, `::i:c:S`, `::T:F`; the first `:` is written by `PortOK.pat`) -/
def specOf : Kind → Bytes
  | .param => [58, 99]
  | .paramI => [58, 105]
  | .paramF => [58, 102]
  | .option => [58, 105, 58, 99, 58, 83]
  | .toggle => [58, 84, 58, 70]
  | _ => []

/-- per kind: the metadata can be read by the callback and the declared range is one C14's
    clamping theorems cover (integer kinds: it meets the type of the callback's variable;
    options: it lies inside the storage type; floats: no NaN and no negative zero bound) -/
def KindOK (c : PStat) : Prop :=
  match c.port.kind with
  | .param | .paramI =>
    bound atoi (pmOf c) kMin = .ok (iLo c) ∧ bound atoi (pmOf c) kMax = .ok (iHi c) ∧
    (∀ l, iLo c = some l → l ≤ c.port.ty.max) ∧ (∀ h, iHi c = some h → c.port.ty.min ≤ h) ∧
    (∀ l h, iLo c = some l → iHi c = some h → l ≤ h)
  | .option =>
    bound atoi (pmOf c) kMin = .ok (iLo c) ∧ bound atoi (pmOf c) kMax = .ok (iHi c) ∧
    (∀ l, iLo c = some l → c.port.ty.InRange l) ∧ (∀ h, iHi c = some h → c.port.ty.InRange h)
  | .paramF =>
    bound atofF32 (pmOf c) kMin = .ok (fLo c) ∧ bound atofF32 (pmOf c) kMax = .ok (fHi c) ∧
    (∀ l, fLo c = some l → FltOK l) ∧ (∀ h, fHi c = some h → FltOK h)
  | .toggle => True
  | _ => False

/-- a macro-generated scalar port (`rParam`, `rParamI`, `rParamF`, `rOption`, `rToggle`) at an
    address that is not "/undo_change" and fits the history's message buffer -/
structure PortOK (c : PStat) : Prop where
  pat : c.port.pattern = c.path ++ 58 :: specOf c.port.kind
  name : PlainName c.path
  blk : Meta.container c.port.block = some (pmOf c)
  notUndo : c.loc ≠ undoAddr
  fit : fits c.loc = true
  kind : KindOK c

def StableI (ty : IntTy) (lo hi : Option Int) : Field → Prop
  | .ints [x] => ty.InRange x ∧ limit intOps lo hi x = x
  | _ => False

def StableF (lo hi : Option UInt32) : Field → Prop
  | .flts [b] => FltOK b ∧ limit fltOps lo hi b = b
  | _ => False

def StableT : Field → Prop
  | .bools [_] => True
  | _ => False

/-- **stable field value**: a value of the storage type that the declared range does not
    move (what every set message leaves behind; for a float also: neither NaN nor -0) -/
def Stable (c : PStat) (f : Field) : Prop :=
  match c.port.kind with
  | .param | .paramI | .option => StableI c.port.ty (iLo c) (iHi c) f
  | .paramF => StableF (fLo c) (fHi c) f
  | .toggle => StableT f
  | _ => False

/-- **messages in the domain**: a query, or a first argument of the port's type (further
    arguments are arbitrary); options: an integer of the storage type; floats: neither NaN nor -0 -/
def ArgsOK (c : PStat) (args : List Arg) : Prop :=
  match c.port.kind with
  | .param | .paramI => args = [] ∨ ∃ a rest raw, args = a :: rest ∧ argI a = .ok raw
  | .option => args = [] ∨ ∃ a rest raw, args = a :: rest ∧ (a = .i raw ∨ a = .c raw) ∧ c.port.ty.InRange raw
  | .paramF => args = [] ∨ ∃ rest b, args = .f b :: rest ∧ FltOK b
  | .toggle => args = [] ∨ ∃ a rest v, args = a :: rest ∧ argT a = .ok v
  | _ => False

end Rtosc.Undo
