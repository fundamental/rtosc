/-
  Common definitions for all models: bytes, hex codec for the line protocol,
  C strings as NUL-terminated prefixes of byte lists.
  No Mathlib import: this file is linked into the driver executables (one `drv_<engine>` per engine).
-/
namespace Rtosc

abbrev Bytes := List UInt8

def hexDigit (n : Nat) : Char :=
  if n < 10 then Char.ofNat (48 + n) else Char.ofNat (87 + n)

def hexByte (b : UInt8) : String :=
  String.ofList [hexDigit (b.toNat / 16), hexDigit (b.toNat % 16)]

/-- bytes → lower-case hex; the empty list is written `-` so that every protocol
    field is a non-empty token. -/
def toHex (bs : Bytes) : String :=
  if bs.isEmpty then "-" else String.join (bs.map hexByte)

def hexVal (c : Char) : Option Nat :=
  if '0' ≤ c ∧ c ≤ '9' then some (c.toNat - 48)
  else if 'a' ≤ c ∧ c ≤ 'f' then some (c.toNat - 87)
  else if 'A' ≤ c ∧ c ≤ 'F' then some (c.toNat - 55)
  else none

def ofHexChars : List Char → Option Bytes
  | [] => some []
  | [_] => none
  | a :: b :: r => do
      let x ← hexVal a
      let y ← hexVal b
      let t ← ofHexChars r
      pure (UInt8.ofNat (x * 16 + y) :: t)

def ofHex (s : String) : Option Bytes :=
  if s = "-" then some [] else ofHexChars s.toList

/-- The C string starting at the head of `bs`: bytes up to (excluding) the first NUL.
    `none` when no NUL is found (the real code would read past the buffer). -/
def cstr : Bytes → Option Bytes
  | [] => none
  | b :: r => if b = 0 then some [] else (cstr r).map (b :: ·)

/-- Suffix of `bs` that starts *at* the first NUL (`none`: ran off the end). -/
def toNul : Bytes → Option Bytes
  | [] => none
  | b :: r => if b = 0 then some (b :: r) else toNul r

def words (line : String) : List String :=
  (line.trimAscii.toString.splitOn " ").filter (· ≠ "")

end Rtosc
