/-
  C19 — the concrete arithmetic used by the driver: IEEE-754 binary32 / binary64
  round-to-nearest-even over exact rationals (every finite float is a `Rat`).
  Domain: finite values, no overflow (a result beyond the largest finite value is kept as
  the rounded rational and printed as infinity); the sign of zero is not represented
  (both sides of the correspondence print zero as +0).  `logf` is supplied per op line as
  a finite table (the values libm returns for the log-scale bounds, see `logOfTable`);
  `expf` is not computed: the model reports the argument of `expf` instead.
  Proofs/AutoFloatLemmas.lean shows that this arithmetic satisfies the order laws
  (`Rtosc.Auto.Laws`) the range/monotonicity theorems assume.
-/
import RtoscModel.Auto
namespace Rtosc.Auto.IEEE
open Rtosc

def pow2 (k : Int) : Rat :=
  if k ≥ 0 then ((2 ^ k.toNat : Nat) : Rat) else 1 / ((2 ^ (-k).toNat : Nat) : Rat)

/-- ⌊log2 |x|⌋ for x ≠ 0 -/
def ilog2 (x : Rat) : Int :=
  let n := x.num.natAbs
  let d := x.den
  let e0 : Int := (Nat.log2 n : Int) - (Nat.log2 d : Int)
  let ax : Rat := if x < 0 then -x else x
  if pow2 e0 ≤ ax then e0 else e0 - 1

/-- round a non-negative rational to the nearest integer, ties to even -/
def roundHalfEven (q : Rat) : Nat :=
  let f := q.floor.toNat
  let r := q - (f : Rat)
  if r < 1/2 then f else if r > 1/2 then f + 1 else if f % 2 = 0 then f else f + 1

/-- round to nearest even in a binary format with `p` significand bits whose smallest
    subnormal is 2^eminUlp -/
def rnd (p : Nat) (eminUlp : Int) (x : Rat) : Rat :=
  if x = 0 then 0 else
  let ax : Rat := if x < 0 then -x else x
  let e := ilog2 x
  let ue : Int := max (e - ((p : Int) - 1)) eminUlp
  let u := pow2 ue
  let r : Rat := ((roundHalfEven (ax / u) : Nat) : Rat) * u
  if x < 0 then -r else r

def rnd32 (x : Rat) : Rat := rnd 24 (-149) x
def rnd64 (x : Rat) : Rat := rnd 53 (-1074) x

/-- `roundf`: to the nearest integer, halves away from zero (exact in binary32) -/
def roundAway (x : Rat) : Rat :=
  if x < 0 then -(((-x + 1/2).floor : Int) : Rat) else (((x + 1/2).floor : Int) : Rat)

/-- `(int)x`: truncation -/
def trunc (x : Rat) : Int := if x < 0 then -((-x).floor) else x.floor

/-- bit pattern of a binary32 value (zero is +0; beyond the finite range: infinity) -/
def toBits32 (x : Rat) : Nat :=
  if x = 0 then 0 else
  let s : Nat := if x < 0 then 2 ^ 31 else 0
  let ax : Rat := if x < 0 then -x else x
  let e := ilog2 x
  if e > 127 then s + 255 * 2 ^ 23
  else if e < -126 then s + (ax / pow2 (-149)).floor.toNat
  else s + (e + 127).toNat * 2 ^ 23 + ((ax / pow2 (e - 23)).floor.toNat - 2 ^ 23)

/-- value of a binary32 bit pattern; `none` for infinities and NaNs -/
def ofBits32 (b : Nat) : Option Rat :=
  let s : Nat := b / 2 ^ 31 % 2
  let e : Nat := b / 2 ^ 23 % 256
  let f : Nat := b % 2 ^ 23
  if e = 255 then none
  else
    let v : Rat :=
      if e = 0 then (f : Rat) * pow2 (-149)
      else ((2 ^ 23 + f : Nat) : Rat) * pow2 ((e : Int) - 150)
    some (if s = 1 then -v else v)

/-- `logf` from a finite table of (argument, result) pairs: the largest tabulated result
    whose argument is `<= x` (below all arguments: the smallest tabulated result, or 0 if that is
    smaller).  For an
    argument in a table that is monotone — as libm's `logf` is — this is the tabulated
    result itself; and it is monotone in `x` by construction. -/
def logOfTable (tab : List (Rat × Rat)) (x : Rat) : Rat :=
  let base := tab.foldl (fun a kv => if kv.2 ≤ a then kv.2 else a) 0
  tab.foldl (fun a kv => if kv.1 ≤ x then (if a ≤ kv.2 then kv.2 else a) else a) base

def ieee (logTab : List (Rat × Rat)) : Arith Rat :=
  { le := fun x y => decide (x ≤ y)
    zero := 0, one := 1, half := 1/2, two := 2, hundred := 100
    ofInt := fun n => (n : Rat)
    add32 := fun x y => rnd32 (x + y)
    sub32 := fun x y => rnd32 (x - y)
    mul32 := fun x y => rnd32 (x * y)
    add64 := fun x y => rnd64 (x + y)
    sub64 := fun x y => rnd64 (x - y)
    mul64 := fun x y => rnd64 (x * y)
    div64 := fun x y => rnd64 (x / y)
    to32 := rnd32
    roundf := roundAway
    toInt := trunc
    logf := logOfTable logTab
    expf := fun x => x }

end Rtosc.Auto.IEEE
